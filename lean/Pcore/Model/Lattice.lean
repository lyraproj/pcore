/-!
  Shared formal model of pcore's type lattice (properties C01 C02 C03 C04 C19): type terms `Ty`, values `Val`,
  ranges, the termination weights.  Core Lean only (linked into the compiled driver).

  The model mirrors the Go code AS IT IS at /repo HEAD (after the `fix:` commits), not the Puppet specification.
  File map (Go → Lean) is in the headers of LatticeAsg / LatticeInst / LatticeInfer; this file holds the data types:

    types/*type.go  (one Go struct per type)            → `Ty`  (one constructor per Go type / per shared default)
    values (integerValue, stringValue, *Array, *Hash …) → `Val`
    *IntegerType used as a size / numeric range          → `Rng` (closed, Int64 bounds; `I64.max` plays "unbounded")

  Timestamp[min,max] (timestamptype.go) is `Ty.tstamp r` / `Val.tstamp n`, instants counted in
  nanoseconds since 0001-01-01T00:00:00Z (time.Time's own epoch; `tstampAll` = [MinTime, MaxTime] is the default type, which — like the code —
  does NOT reach instants before year 1).
  Iterator[T] (iteratortype.go) is `Ty.iterator t`, a covariant wrapper on the type level (assignability, Equals,
  Generic, the `commonType` arm); its values (px.IteratorValue) are not part of the value language, so `inst (.iterator _) v = false`.
  Runtime[runtime, name, pattern] (runtimetype.go, types WITHOUT a Go type) is `Ty.runtime rt nm pat`, a leaf; its values
  (*RuntimeValue) are outside the value language.
  Callable[params, return, block] (callabletype.go) is `Ty.callable ps rt bl`, each part an `Option Ty` (absent parts matter to the
  rule); lambdas are outside the value language.  Its rule is NOT transitive through the default Callable (known finding
  C03-trans-callable-top); transitivity is proved for every Callable that is the default one or has a parameter list (`Ty.TV`, Proofs/LatTransU).
  Not modelled (second tier; harness-side predicates only, labelled as tests): Like, Init, Runtime types that carry a Go type,
  TypeReference, SemVer, SemVerRange, URI, TypeSet, the Pcore::* meta types as type terms, user-defined
  recursive aliases.  Non-recursive user aliases are expanded by the harness encoder.  The two built-in recursive aliases
  `Data` and `RichData` are constructors with direct recursive definitions.
-/
namespace Pcore.Lat

/-- closed integer range (an `*IntegerType` used as numeric range or as size constraint) -/
structure Rng where
  lo : Int
  hi : Int
  deriving DecidableEq, Repr, Inhabited

def I64.min : Int := -9223372036854775808
def I64.max : Int := 9223372036854775807

/-- `IntegerType.IsInstance2` -/
def Rng.contains (r : Rng) (i : Int) : Bool := decide (r.lo ≤ i) && decide (i ≤ r.hi)
/-- `IntegerType.IsAssignable`: `outer` accepts `inner` -/
def Rng.sub (outer inner : Rng) : Bool := decide (outer.lo ≤ inner.lo) && decide (inner.hi ≤ outer.hi)
/-- `IntegerTypePositive` -/
def Rng.pos : Rng := ⟨0, I64.max⟩
def Rng.all : Rng := ⟨I64.min, I64.max⟩
def Rng.exact (n : Int) : Rng := ⟨n, n⟩
/-- commonType on two Integer types -/
def Rng.hull (a b : Rng) : Rng := ⟨min a.lo b.lo, max a.hi b.hi⟩

/-- Floats are exact: a finite IEEE double is an integer multiple of 2^-1074, so it is represented by that
    integer; ±Inf are the two sentinels `±Fl.inf` beyond every finite double; NaN is outside the model
    (stated assumption).  Only the order is ever used. -/
abbrev Fl := Int
def Fl.inf : Int := 2 ^ 2200
/-- `math.MaxFloat64` = (2^53 - 1)·2^971, scaled by 2^1074 -/
def Fl.maxFinite : Int := (2 ^ 53 - 1) * 2 ^ 2045
/-- `FloatType.bounds`: a bound left at its default (±MaxFloat64) is no bound at all, the type includes the infinity beyond it.
    (On doubles `x ≤ -MaxFloat64` means `x` is `-MaxFloat64` or `-Inf` and the answer is `-Inf`; the `min` keeps the function
    below the identity on the integers beyond ±Fl.inf, which denote no double.) -/
def Fl.effLo (x : Int) : Int := if x ≤ -Fl.maxFinite then min x (-Fl.inf) else x
def Fl.effHi (x : Int) : Int := if Fl.maxFinite ≤ x then max x Fl.inf else x

theorem Fl.maxFinite_le_inf : Fl.maxFinite ≤ Fl.inf := by decide +kernel
theorem Fl.effLo_mono {a b : Int} (h : a ≤ b) : Fl.effLo a ≤ Fl.effLo b := by
  have := Fl.maxFinite_le_inf
  unfold Fl.effLo
  by_cases h1 : a ≤ -Fl.maxFinite <;> by_cases h2 : b ≤ -Fl.maxFinite <;> simp only [h1, h2, if_true, if_false] <;> omega
theorem Fl.effHi_mono {a b : Int} (h : a ≤ b) : Fl.effHi a ≤ Fl.effHi b := by
  have := Fl.maxFinite_le_inf
  unfold Fl.effHi
  by_cases h1 : Fl.maxFinite ≤ a <;> by_cases h2 : Fl.maxFinite ≤ b <;> simp only [h1, h2, if_true, if_false] <;> omega
theorem Fl.effLo_le (a : Int) : Fl.effLo a ≤ a := by
  unfold Fl.effLo
  by_cases h1 : a ≤ -Fl.maxFinite <;> simp only [h1, if_true, if_false] <;> omega
theorem Fl.le_effHi (a : Int) : a ≤ Fl.effHi a := by
  unfold Fl.effHi
  by_cases h1 : Fl.maxFinite ≤ a <;> simp only [h1, if_true, if_false] <;> omega
/-- the default bounds reach every double -/
theorem Fl.effLo_default_le {a : Int} (h : -Fl.inf ≤ a) : Fl.effLo (-Fl.maxFinite) ≤ Fl.effLo a := by
  have := Fl.maxFinite_le_inf
  unfold Fl.effLo
  by_cases h1 : a ≤ -Fl.maxFinite <;> simp only [h1, if_true, if_false, Int.le_refl] <;> omega
theorem Fl.effHi_le_default {a : Int} (h : a ≤ Fl.inf) : Fl.effHi a ≤ Fl.effHi Fl.maxFinite := by
  have := Fl.maxFinite_le_inf
  unfold Fl.effHi
  by_cases h1 : Fl.maxFinite ≤ a <;> simp only [h1, if_true, if_false, Int.le_refl] <;> omega
theorem Fl.effLo_default : Fl.effLo (-Fl.maxFinite) = -Fl.inf := by
  have := Fl.maxFinite_le_inf
  unfold Fl.effLo; simp only [Int.le_refl, if_true]; omega
theorem Fl.effHi_default : Fl.effHi Fl.maxFinite = Fl.inf := by
  have := Fl.maxFinite_le_inf
  unfold Fl.effHi; simp only [Int.le_refl, if_true]; omega
-- the elaborator must not evaluate the bounds when it builds equation lemmas for `asgRecv` / `inst` (2^2045)
attribute [irreducible] Fl.effLo Fl.effHi

inductive Ty where
  | any | unit | undef | dflt | scalar | scalarData | numeric | data | richData | str | bin
  | int (r : Rng)
  | float (lo hi : Fl)
  | bool (v : Option Bool)
  | tspan (r : Rng)
  | tstamp (r : Rng)                      -- Timestamp[min,max]; instants as nanoseconds since 0001-01-01T00:00:00Z (time.Time's own epoch)
  | strSz (r : Rng)                       -- scStringType
  | strVal (s : String)                   -- vcStringType
  | enum (vs : List String) (ci : Bool)
  | pattern (rs : List String)            -- regexp sources
  | regexp (src : String)                 -- "" = the default Regexp type
  | coll (r : Rng)
  | array (e : Ty) (r : Rng)
  | hash (k v : Ty) (r : Rng)
  | tuple (ts : List Ty) (given : Option Rng)     -- `size` (may be nil); givenOrActualSize is derived
  | struct (ms : List (String × Bool × Ty))       -- name, key is Optional[..], value type
  | variant (ts : List Ty)
  | optional (t : Ty) | notUndef (t : Ty) | typ (t : Ty) | sensitive (t : Ty) | iterable (t : Ty)
  | runtime (rt nm : String) (pat : Option String)   -- Runtime[runtime, name, pattern] (runtimetype.go) without a Go type; values outside the value language
  | callable (ps rt bl : Option Ty)        -- Callable[params, return, block] (callabletype.go): each part may be absent; no value of the value language is a lambda
  | iterator (t : Ty)                     -- Iterator[T] (iteratortype.go); its values (px.IteratorValue) are outside the value language
  | object (p : Option (List Nat))        -- none = default Object; some path = user object type by ancestor path
  deriving Repr, Inhabited

inductive Val where
  | undef | dflt
  | bool (b : Bool) | int (i : Int) | float (f : Fl) | str (s : String)
  | regexp (src : String) | binary (bs : List UInt8) | tspan (n : Int) | tstamp (n : Int)
  | array (vs : List Val)
  | hash (es : List (Val × Val))
  | sensitive (v : Val)
  | typ (t : Ty)
  | obj (p : List Nat)
  deriving Repr, Inhabited

abbrev Member := String × Bool × Ty

def Ty.isUnit : Ty → Bool
  | .unit => true
  | _ => false

/-- `t == anyTypeDefault` -/
def Ty.isAny : Ty → Bool
  | .any => true
  | _ => false

/-! ### termination weights (DESIGN Appendix B): a constructor with a type inside, and every cons, adds ≥ 2 to the weight of its parts -/
mutual
def Ty.w : Ty → Nat
  | .scalar => 3 | .scalarData => 3 | .data => 5 | .richData => 12
  | .array e _ => 2 + e.w
  | .hash k v _ => 8 + k.w + v.w
  | .tuple ts _ => 2 + Ty.wl ts
  | .struct ms => 2 + Ty.wm ms
  | .variant ts => 2 + Ty.wl ts
  | .optional t => 2 + t.w | .notUndef t => 2 + t.w
  | .typ t => 2 + t.w | .sensitive t => 2 + t.w | .iterable t => 2 + t.w | .iterator t => 2 + t.w
  | .callable ps rt bl => 4 + Ty.wo ps + Ty.wo rt + Ty.wo bl
  | _ => 1
def Ty.wo : Option Ty → Nat
  | none => 0
  | some t => 2 + t.w
def Ty.wl : List Ty → Nat
  | [] => 0
  | t :: ts => 2 + t.w + Ty.wl ts
def Ty.wm : List Member → Nat
  | [] => 0
  | (_, _, t) :: ms => 8 + t.w + Ty.wm ms      -- 8: room for the entry type `Tuple[String[name], t]` (Iterable accepts Struct)
end

theorem Ty.w_pos (t : Ty) : 0 < t.w := by cases t <;> simp [Ty.w] <;> omega

theorem Ty.w_lt_wl {t : Ty} {ts : List Ty} (h : t ∈ ts) : t.w < Ty.wl ts := by
  induction ts with
  | nil => cases h
  | cons a as ih =>
    simp only [Ty.wl]
    cases h with
    | head => omega
    | tail _ h' => have := ih h'; omega

theorem Ty.w_lt_wm {m : Member} {ms : List Member} (h : m ∈ ms) : m.2.2.w < Ty.wm ms := by
  induction ms with
  | nil => cases h
  | cons a as ih =>
    obtain ⟨n, o, t⟩ := a
    simp only [Ty.wm]
    cases h with
    | head => simp; omega
    | tail _ h' => have := ih h'; omega

mutual
def Val.w : Val → Nat
  | .array vs => 2 + Val.wl vs
  | .hash es => 2 + Val.we es
  | .sensitive v => 2 + v.w
  | _ => 1
def Val.wl : List Val → Nat
  | [] => 0
  | v :: vs => 2 + v.w + Val.wl vs
def Val.we : List (Val × Val) → Nat
  | [] => 0
  | (a, b) :: es => 2 + a.w + b.w + Val.we es
end

theorem Val.w_pos (v : Val) : 0 < v.w := by cases v <;> simp [Val.w] <;> omega

theorem Val.w_lt_wl {v : Val} {vs : List Val} (h : v ∈ vs) : v.w < Val.wl vs := by
  induction vs with
  | nil => cases h
  | cons a as ih =>
    simp only [Val.wl]
    cases h with
    | head => omega
    | tail _ h' => have := ih h'; omega

theorem Val.w_lt_we {e : Val × Val} {es : List (Val × Val)} (h : e ∈ es) : e.1.w + e.2.w < Val.we es := by
  induction es with
  | nil => cases h
  | cons a as ih =>
    obtain ⟨x, y⟩ := a
    simp only [Val.we]
    cases h with
    | head => simp; omega
    | tail _ h' => have := ih h'; omega

/-! ### structural equality on type terms (`deriving DecidableEq` does not work on nested inductives) -/
def optRngBeq : Option Rng → Option Rng → Bool
  | none, none => true
  | some a, some b => a == b
  | _, _ => false

mutual
def Ty.beq : Ty → Ty → Bool
  | .any, .any | .unit, .unit | .undef, .undef | .dflt, .dflt | .scalar, .scalar | .scalarData, .scalarData
  | .numeric, .numeric | .data, .data | .richData, .richData | .str, .str | .bin, .bin => true
  | .int r, .int r' => r == r'
  | .float l h, .float l' h' => l == l' && h == h'
  | .bool v, .bool v' => v == v'
  | .tspan r, .tspan r' => r == r'
  | .tstamp r, .tstamp r' => r == r'
  | .strSz r, .strSz r' => r == r'
  | .strVal s, .strVal s' => s == s'
  | .enum vs ci, .enum vs' ci' => vs == vs' && ci == ci'
  | .pattern rs, .pattern rs' => rs == rs'
  | .regexp s, .regexp s' => s == s'
  | .runtime r n p, .runtime r' n' p' => r == r' && n == n' && p == p'
  | .coll r, .coll r' => r == r'
  | .array e r, .array e' r' => Ty.beq e e' && r == r'
  | .hash k v r, .hash k' v' r' => Ty.beq k k' && Ty.beq v v' && r == r'
  | .tuple ts g, .tuple ts' g' => Ty.beqL ts ts' && optRngBeq g g'
  | .struct ms, .struct ms' => Ty.beqM ms ms'
  | .variant ts, .variant ts' => Ty.beqL ts ts'
  | .optional t, .optional t' => Ty.beq t t'
  | .notUndef t, .notUndef t' => Ty.beq t t'
  | .typ t, .typ t' => Ty.beq t t'
  | .sensitive t, .sensitive t' => Ty.beq t t'
  | .iterator t, .iterator t' => Ty.beq t t'
  | .callable p r b, .callable p' r' b' => Ty.beqO p p' && Ty.beqO r r' && Ty.beqO b b'
  | .iterable t, .iterable t' => Ty.beq t t'
  | .object p, .object p' => p == p'
  | _, _ => false
def Ty.beqO : Option Ty → Option Ty → Bool
  | none, none => true
  | some a, some b => Ty.beq a b
  | _, _ => false
def Ty.beqL : List Ty → List Ty → Bool
  | [], [] => true
  | a :: as, b :: bs => Ty.beq a b && Ty.beqL as bs
  | _, _ => false
def Ty.beqM : List Member → List Member → Bool
  | [], [] => true
  | (n, o, t) :: as, (n', o', t') :: bs => n == n' && o == o' && Ty.beq t t' && Ty.beqM as bs
  | _, _ => false
end

/-! ### derived sizes -/
/-- `TupleType.givenOrActualSize` -/
def tupleSize (ts : List Ty) : Option Rng → Rng
  | none => Rng.exact ts.length
  | some r => r

/-- `StructType.Size()`: [#members whose key is not Optional, #members] -/
def structSize (ms : List Member) : Rng :=
  ⟨((ms.filter (fun m => !m.2.1)).length : Nat), (ms.length : Nat)⟩

/-- prefix test on ancestor paths: the type with path `p` is `q` or an ancestor of `q` -/
def isPrefix : List Nat → List Nat → Bool
  | [], _ => true
  | _ :: _, [] => false
  | a :: as, b :: bs => a == b && isPrefix as bs

/-- Parameters of the model that stand for Go library functions (trusted base, §5):
    `rxMatch src s` = `regexp.MustCompile(src).MatchString(s)`; `lower` = `strings.ToLower`. -/
structure Cfg where
  rxMatch : String → String → Bool
  lower : String → String

end Pcore.Lat

import Pcore.Model.LatticeInst
set_option linter.unusedSimpArgs false
/-!
  `Den t v`: the SET DENOTATION of a type, written from the text of property C02 and the Puppet specification,
  deliberately in a different style from the code-shaped `inst` (membership, `∀ x ∈ xs`, `∃ t ∈ ts`; Struct as
  "every present key is declared and its value conforms, every non-optional member is present"; String size as the
  number of characters; Enum compares content, ignoring case only when asked, and never admits a string that was not
  listed; Pattern is `∃ r, r matches s`, also for the empty string).  It is never edited to make a proof pass.
  `Type[T]` contains exactly `{u | T accepts u}`; `Collection[r]` constrains size only.  Iterable is outside the
  reference fragment of C02 (its denotation is left `False`).  Not used by the driver.
-/
namespace Pcore.Lat

/-- Data = ScalarData ∪ {undef} ∪ arrays of Data ∪ hashes from strings to Data -/
inductive IsData : Val → Prop
  | str (s) : IsData (.str s)
  | int (i) : IsData (.int i)
  | float (f) : IsData (.float f)
  | bool (b) : IsData (.bool b)
  | undef : IsData .undef
  | arr (vs) : (∀ x ∈ vs, IsData x) → IsData (.array vs)
  | hash (es : List (Val × Val)) : (∀ e ∈ es, ∃ s, e.1 = .str s) → (∀ e ∈ es, IsData e.2) → IsData (.hash es)

def IsScalarVal : Val → Prop
  | .str _ | .int _ | .float _ | .bool _ | .regexp _ | .tspan _ | .tstamp _ => True
  | _ => False

/-- RichData = Scalar ∪ Binary ∪ {default, undef} ∪ object instances ∪ types ∪ arrays of RichData ∪ hashes from strings or numbers to RichData -/
inductive IsRich : Val → Prop
  | scalar (v) : IsScalarVal v → IsRich v
  | bin (bs) : IsRich (.binary bs)
  | dflt : IsRich .dflt
  | undef : IsRich .undef
  | obj (p) : IsRich (.obj p)
  | typ (t) : IsRich (.typ t)
  | arr (vs) : (∀ x ∈ vs, IsRich x) → IsRich (.array vs)
  | hash (es : List (Val × Val)) :
      (∀ e ∈ es, (∃ s, e.1 = .str s) ∨ (∃ i, e.1 = .int i) ∨ (∃ f, e.1 = .float f)) → (∀ e ∈ es, IsRich e.2) →
      IsRich (.hash es)

def InRng (r : Rng) (i : Int) : Prop := r.lo ≤ i ∧ i ≤ r.hi

section
variable (cfg : Cfg) (sfh : Bool)

def Den (t : Ty) (v : Val) : Prop :=
  match t with
  | .any | .unit => True
  | .undef => v = .undef
  | .dflt => v = .dflt
  | .scalar => IsScalarVal v
  | .scalarData => (∃ s, v = .str s) ∨ (∃ i, v = .int i) ∨ (∃ f, v = .float f) ∨ (∃ b, v = .bool b)
  | .numeric => (∃ i, v = .int i) ∨ (∃ f, v = .float f)
  | .data => IsData v
  | .richData => IsRich v
  | .str => ∃ s, v = .str s
  | .bin => ∃ bs, v = .binary bs
  | .int r => ∃ i, v = .int i ∧ InRng r i
  | .float lo hi => ∃ f, v = .float f ∧ Fl.effLo lo ≤ f ∧ f ≤ Fl.effHi hi
  | .bool none => ∃ b, v = .bool b
  | .bool (some b) => v = .bool b
  | .tspan r => ∃ n, v = .tspan n ∧ InRng r n
  | .tstamp r => ∃ n, v = .tstamp n ∧ InRng r n
  | .strSz r => ∃ s, v = .str s ∧ InRng r s.length
  | .strVal s => v = .str s
  | .enum vs ci =>
      ∃ s, v = .str s ∧ (vs = [] ∨ (if ci then ∃ x ∈ vs, cfg.lower x = cfg.lower s else s ∈ vs))
  | .pattern rs => ∃ s, v = .str s ∧ (rs = [] ∨ ∃ r ∈ rs, cfg.rxMatch r s = true)
  | .regexp src => ∃ s, v = .regexp s ∧ (src = "" ∨ src = s)
  | .coll r => (∃ vs, v = .array vs ∧ InRng r vs.length) ∨ (∃ es, v = .hash es ∧ InRng r es.length)
  | .array e r => ∃ vs, v = .array vs ∧ InRng r vs.length ∧ ∀ x ∈ vs, Den e x
  | .hash k x r => ∃ es, v = .hash es ∧ InRng r es.length ∧ ∀ e ∈ es, Den k e.1 ∧ Den x e.2
  | .tuple ts g =>
      ∃ vs, v = .array vs ∧ InRng (tupleSize ts g) vs.length ∧
        -- position i is described by the i-th type, positions beyond the declared types by the last one
        ∀ (i : Nat) (t' : Ty) (x : Val), ts[min i (ts.length - 1)]? = some t' → vs[i]? = some x → Den t' x
  | .struct ms =>
      ∃ es, v = .hash es ∧
        -- every present key is declared and its value conforms
        (∀ e ∈ es, ∃ m, ∃ (_ : m ∈ ms), e.1 = .str m.1 ∧ Den m.2.2 e.2) ∧
        -- every non-optional member is present
        (∀ m ∈ ms, m.2.1 = false → ∃ e ∈ es, e.1 = .str m.1)
  | .variant ts => ∃ t', ∃ (_ : t' ∈ ts), Den t' v
  | .optional t' => v = .undef ∨ Den t' v
  | .notUndef t' => v ≠ .undef ∧ Den t' v
  | .typ t' => ∃ u, v = .typ u ∧ asg cfg sfh t' u = true
  | .sensitive t' => ∃ x, v = .sensitive x ∧ Den t' x
  | .iterable _ => False
  | .runtime _ _ _ => False       -- no value of the value language is a runtime value
  | .callable _ _ _ => False      -- no value of the value language is a lambda
  | .iterator _ => False          -- no value of the value language is an iterator
  | .object none => (∃ q, v = .obj q) ∨ (∃ u, v = .typ u)   -- pcore: every type is an instance of Object through its meta type
  | .object (some p) => ∃ q, v = .obj q ∧ isPrefix p q = true
termination_by t.w
decreasing_by
  all_goals simp_wf
  all_goals (try simp only [Ty.w, Ty.wl, Ty.wm] at *)
  all_goals first
    | omega
    | (have := Ty.w_lt_wl (List.mem_of_getElem? ‹_›); omega)
    | (have := Ty.w_lt_wl ‹_ ∈ _›; omega)
    | (have := Ty.w_lt_wm ‹_ ∈ _›; omega)

end
end Pcore.Lat

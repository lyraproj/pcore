/-
  C20 model — string formatting (types/format.go, px/format.go and the ToString methods of the value kinds).

  Mirrors (file func → definition), the code AS IT IS NOW (after the `fix:` commits 4967a97 … 25b91c3 and the simpleFormat delimiter fix):
    px/format.go      FormatPattern                  → `matchPattern` (flags are ` [+#0{<(|-`, width `[1-9][0-9]*`, `.prec`, one letter)
    types/format.go   parseFormat, hasDelimOnce      → `parseFormat` (repeated-flag and two-delimiter errors in the code's order)
    types/format.go   simpleFormat/basicFormat, DefaultFormat, DefaultContainerFormats → `simpleFmt`, `basicFmt`, `defaultTree`, `defaultCF`
    types/format.go   unParse, ReplaceFormatChar, WithoutWidth → `unParse`, `replaceFormatChar`, `withoutWidth`
    types/format.go   goFormat                       → `goFormat` (the original format without the container delimiter flags)
    types/format.go   HasStringFlags, ApplyStringFlags → `hasStringFlags`, `applyStringFlags` (Go `%-W.Ps`: truncate to P runes, pad to W)
    types/format.go   indentation                    → `Ind` (`breaks`, `increase`, `subsequent`, `indenting`, `padding`)
    px/format.go      GetFormat                      → `getFormat` over keys that are parameterless types (`Key.accepts`)
    Go fmt            Fprintf parsing of one directive → `goParse`;  (*fmt).fmtInteger / pad → `goFmtInt`;  fmtS → `goFmtS`
    utils/strings.go  PuppetQuote, RegexpQuote, CapitalizeSegment(s) → `puppetQuote`, `regexpQuote`, `capitalizeSegment(s)`
    types/integertype.go integerValue.ToString       → `fmtInt` (`dxXo` → fmt; hand-written `p b B` → `intPbB`; `eEfgG` → float path; `c`, `s`)
    types/floattype.go   floatValue.ToString, floatGFormat, padNumber → `fmtFloat`, `floatGFormat`, `padNumber`
    types/stringtype.go  stringValue.ToString        → `fmtStr`
    types/booleantype.go, binarytype.go, defaulttype.go, undeftype.go, regexptype.go ToString → `fmtBool`, `fmtBinary`, `fmtDefault`, `fmtUndef`, `fmtRegexp`
    types/arraytype.go   Array.ToString2, childToString, isContainer → `fmtVal (.array …)`, `arrayAssemble`, `fmtElems`
    types/hashtype.go    Hash.ToString2, HashEntry.ToString → `fmtVal (.hash …)`, `hashAssemble`, `fmtPairs`, `fmtEntryArrs`

  Parameters (not modelled, DESIGN.md §3.4/§5): `FloatIO` — `sprintf` is Go's fmt.Sprintf of one float directive (the digits),
  `ofInt` is float64(int64), `toInt` is int64(float64).  Everything around them (which letters, the go format string handed
  over, floatGFormat's restoration of the fraction and its padding) is modelled.  strings.ToUpper/ToLower are Go's simple
  case mapping over the table regenerated from $GOROOT/src/unicode/tables.go (`Pcore.Generated.caseRanges`).
  Strings are sequences of Unicode scalar values (`List Char`); invalid UTF-8 is outside the model.
  Core-only file (linked into the driver).
-/
import Pcore.Generated.UnicodeCase
namespace Pcore.Format

abbrev Str := List Char

/-! ### results -/

inductive Code where
  | unsupported | invalidSpec | invalidDelimiter | repeatedFlag | failure
  | notInteger | illegalArguments          -- the Integer constructor
  deriving DecidableEq, Repr, Inhabited

/-- Go runtime / fmt faults that the code could exhibit on data-dependent input -/
inductive FaultKind where
  | goFmtNoVerb      -- fmt rendered %!(NOVERB) / %!(BADWIDTH): the format handed to fmt is not a fmt directive
  | goFmtBadVerb     -- fmt rendered %!c(type=value): a verb fmt does not know for the operand
  | sliceBounds      -- a slice expression out of range
  deriving DecidableEq, Repr, Inhabited

inductive Res where
  | text (s : Str)
  | reported (c : Code)
  | fault (k : FaultKind)
  deriving DecidableEq, Repr, Inhabited

def Res.bind (r : Res) (k : Str → Res) : Res :=
  match r with
  | .text s => k s
  | .reported c => .reported c
  | .fault f => .fault f

/-! ### numbers ↔ digits -/

def digitsAux (b : Nat) : Nat → Nat → List Nat → List Nat
  | 0, _, acc => acc
  | fuel + 1, n, acc => if n < b then n :: acc else digitsAux b fuel (n / b) (n % b :: acc)

/-- big-endian digits of `n` in base `b` (at least one digit) -/
def toDigits (b n : Nat) : List Nat := digitsAux b (n + 1) n []

def digitChar (upper : Bool) (d : Nat) : Char :=
  if d < 10 then Char.ofNat ('0'.toNat + d)
  else if upper then Char.ofNat ('A'.toNat + (d - 10)) else Char.ofNat ('a'.toNat + (d - 10))

def natStr (b : Nat) (upper : Bool) (n : Nat) : Str := (toDigits b n).map (digitChar upper)

def decimal (i : Int) : Str := if i < 0 then '-' :: natStr 10 false i.natAbs else natStr 10 false i.natAbs

def isDigit (c : Char) : Bool := '0' ≤ c && c ≤ '9'
def isLetter (c : Char) : Bool := ('a' ≤ c && c ≤ 'z') || ('A' ≤ c && c ≤ 'Z')

/-- strconv.Atoi on a digit string -/
def readNat (s : Str) : Nat := s.foldl (fun n c => n * 10 + (c.toNat - '0'.toNat)) 0

def spaces (n : Nat) : Str := List.replicate n ' '
def zeros (n : Nat) : Str := List.replicate n '0'

/-! ### the Format record -/

structure Fmt where
  alt : Bool
  left : Bool
  zeroPad : Bool
  letter : Char
  plus : Option Char        -- Go byte 0 ↦ none
  prec : Option Nat         -- Go -1 ↦ none
  width : Option Nat
  ldelim : Option Char      -- Go byte 0 ↦ none; `[ { ( < |` or ' '
  sep : Option Str          -- NoString ↦ none
  sep2 : Option Str
  orig : Str
  deriving DecidableEq, Repr, Inhabited

def isFlag (c : Char) : Bool :=
  c = ' ' || c = '[' || c = '+' || c = '#' || c = '0' || c = '{' || c = '<' || c = '(' || c = '|' || c = '-'

def isDelim (c : Char) : Bool := c = '[' || c = '{' || c = '<' || c = '(' || c = '|'

structure Pattern where
  flags : Str
  width : Option Nat
  prec : Option Nat
  letter : Char
  deriving DecidableEq, Repr

/-- `px.FormatPattern.FindStringSubmatch`: `\A%([ \[+#0{<(|-]*)([1-9][0-9]*)?(?:\.([0-9]+))?([a-zA-Z])\z` -/
def matchPattern (s : Str) : Option Pattern :=
  match s with
  | '%' :: rest =>
    let fl := rest.takeWhile isFlag
    let r1 := rest.dropWhile isFlag
    -- the flags group is greedy and takes every '0': a width starts with 1-9
    let wd := r1.takeWhile isDigit
    let r2 := r1.dropWhile isDigit
    let width := if wd.isEmpty then none else some (readNat wd)
    match r2 with
    | '.' :: r3 =>
      let pd := r3.takeWhile isDigit
      let r4 := r3.dropWhile isDigit
      if pd.isEmpty then none
      else match r4 with
        | [c] => if isLetter c then some ⟨fl, width, some (readNat pd), c⟩ else none
        | _ => none
    | [c] => if isLetter c then some ⟨fl, width, none, c⟩ else none
    | _ => none
  | _ => none

/-- `hasDelimOnce`: error = the flag occurs more than once -/
def hasOnce (flags : Str) (c : Char) : Except Code Bool :=
  match flags.count c with
  | 0 => .ok false
  | 1 => .ok true
  | _ => .error .repeatedFlag

def delimiters : List Char := ['[', '{', '(', '<', '|']

/-- the loop over `delimiters` of parseFormat -/
def findDelim (flags : Str) : List Char → Option Char → Except Code (Option Char)
  | [], found => .ok found
  | d :: ds, found => do
    if (← hasOnce flags d) then
      match found with
      | some _ => .error .invalidDelimiter
      | none => findDelim flags ds (some d)
    else findDelim flags ds found

/-- the largest width or precision fmt accepts (`maxFormatNumber`) -/
def maxFormatNumber : Nat := 1000000

def parseFormat (orig : Str) (sep sep2 : Option Str) : Except Code Fmt :=
  match matchPattern orig with
  | none => .error .invalidSpec
  | some p => do
    let hasSpace ← hasOnce p.flags ' '
    let hasPlus ← hasOnce p.flags '+'
    -- "A plus sign overrides a space"
    let plus : Option Char := if hasPlus then some '+' else if hasSpace then some ' ' else none
    let found ← findDelim p.flags delimiters none
    let ldelim := match found with
      | some d => some d
      | none => if hasSpace then some ' ' else none
    if p.width.getD 0 > maxFormatNumber || p.prec.getD 0 > maxFormatNumber then .error .invalidSpec
    else do
      let left ← hasOnce p.flags '-'
      let alt ← hasOnce p.flags '#'
      let zeroPad ← hasOnce p.flags '0'
      pure { alt := alt, left := left, zeroPad := zeroPad, letter := p.letter, plus := plus, prec := p.prec, width := p.width,
             ldelim := ldelim, sep := sep, sep2 := sep2, orig := orig }

/-- `newFormat` -/
def newFormat (orig : Str) : Except Code Fmt := parseFormat orig none none

def basicFmt (c : Char) (sep2 : Option Str) (ld : Option Char) : Fmt :=
  { alt := false, left := false, zeroPad := false, letter := c, plus := none, prec := none, width := none,
    ldelim := ld, sep := some [','], sep2 := sep2, orig := ['%', c] }

/-- `simpleFormat`: no left delimiter — a container formatted by a simple format uses its own default delimiters -/
def simpleFmt (c : Char) : Fmt := basicFmt c none none

def plusStr (f : Fmt) : Str := match f.plus with | some c => [c] | none => []
def delimStr (f : Fmt) : Str := match f.ldelim with | some d => if f.plus = some d then [] else [d] | none => []
def widthStr (f : Fmt) : Str := match f.width with | some w => natStr 10 false w | none => []
def precStr (f : Fmt) : Str := match f.prec with | some p => '.' :: natStr 10 false p | none => []

/-- `unParse`: `%`, `0`, the sign flag, `-`, the delimiter (unless it is the blank that doubles as the sign flag), `#`,
    width, `.precision`, letter -/
def unParse (f : Fmt) : Str :=
  ['%'] ++ (if f.zeroPad then ['0'] else []) ++ plusStr f ++ (if f.left then ['-'] else []) ++ delimStr f ++
  (if f.alt then ['#'] else []) ++ widthStr f ++ precStr f ++ [f.letter]

def replaceFormatChar (f : Fmt) (c : Char) : Fmt :=
  let nf := { f with letter := c }
  { nf with orig := unParse nf }

def withoutWidth (f : Fmt) : Fmt :=
  let nf := { f with width := none, left := false, zeroPad := false, alt := false }
  { nf with orig := unParse nf }

/-- the original format without the container delimiter flags: what is handed to Go's fmt -/
def goFormat (f : Fmt) : Str := f.orig.filter (fun c => !isDelim c)

def hasStringFlags (f : Fmt) : Bool := f.left || f.width.isSome || f.prec.isSome

/-! ### Go's fmt: one directive -/

structure GoSpec where
  sharp : Bool
  zero : Bool
  plus : Bool
  minus : Bool
  space : Bool
  wid : Option Nat
  prec : Option Nat
  verb : Char
  deriving DecidableEq, Repr, Inhabited

def isGoFlag (c : Char) : Bool := c = '#' || c = '0' || c = '+' || c = '-' || c = ' '

/-- fmt's `parsenum` refuses a number as soon as the part read so far exceeds 10^6 -/
def goNum (ds : Str) : Option Nat :=
  if readNat ds.dropLast > 1000000 then none else some (readNat ds)

/-- the optional `.precision` of a directive: `.` without digits is precision 0 -/
def goPrecPart : Str → Option (Option Nat) × Str
  | '.' :: r3 =>
    let pd := r3.takeWhile isDigit
    (if pd.isEmpty then some (some 0) else (goNum pd).map some, r3.dropWhile isDigit)
  | r2 => (some none, r2)

/-- `(*pp).doPrintf` on a format that consists of one directive and nothing else.  `none` = fmt reports
    %!(NOVERB) / %!(BADWIDTH) / %!(BADPREC) or finds extra text -/
def goParse (s : Str) : Option GoSpec :=
  match s with
  | '%' :: rest =>
    let fl := rest.takeWhile isGoFlag
    let r1 := rest.dropWhile isGoFlag
    let wd := r1.takeWhile isDigit
    let r2 := r1.dropWhile isDigit
    let wid : Option (Option Nat) := if wd.isEmpty then some none else (goNum wd).map some
    let pr := goPrecPart r2
    match wid, pr.1, pr.2 with
    | some w, some p, [verb] =>
      some { sharp := fl.contains '#', zero := fl.contains '0', plus := fl.contains '+', minus := fl.contains '-',
             space := fl.contains ' ', wid := w, prec := p, verb := verb }
    | _, _, _ => none
  | _ => none

/-- `(*fmt).pad`: pad to the width, left unless `minus`; zeros only when `zero` is (still) set and not `minus` -/
def goPad (minus zero : Bool) (wid : Option Nat) (s : Str) : Str :=
  match wid with
  | none => s
  | some w =>
    let n := w - s.length
    if minus then s ++ spaces n
    else if zero then zeros n ++ s else spaces n ++ s

/-- the sign fmtInteger writes: '-' for a negative operand, else '+' with the plus flag, else ' ' with the space flag -/
def signStr (neg plus space : Bool) : Str :=
  if neg then ['-'] else if plus then ['+'] else if space then [' '] else []

/-- fmtInteger's `prec`: "two ways to ask for extra leading zero digits: %.3d or %03d"; with `0` the width is the
    precision, minus one when a sign will be written -/
def goPrec (g : GoSpec) (neg : Bool) : Nat :=
  match g.prec with
  | some p => p
  | none =>
    match g.wid with
    | some w => if g.zero && !g.minus then (if neg || g.plus || g.space then w - 1 else w) else 0
    | none => 0

/-- fmtInteger after the digits `ds0` of the magnitude have been produced: zero fill to `prec`, the `#` prefixes
    (`0` for octal unless the first digit is a zero, `0x`/`0X`), the sign, then `pad` with the zero flag cleared -/
def goAbs (g : GoSpec) (base : Nat) (upper : Bool) (neg : Bool) (ds0 : Str) : Str :=
  let ds := zeros (goPrec g neg - ds0.length) ++ ds0
  let ds :=
    if g.sharp then
      if base = 8 then (if ds.head? = some '0' then ds else '0' :: ds)
      else if base = 16 then '0' :: (if upper then 'X' else 'x') :: ds
      else ds
    else ds
  goPad g.minus false g.wid (signStr neg g.plus g.space ++ ds)

/-- `(*fmt).fmtInteger` for a signed 64-bit operand; `base`, `upper` and the `0x` letter come from the verb -/
def goInteger (g : GoSpec) (base : Nat) (upper : Bool) (i : Int) : Str :=
  if g.prec = some 0 ∧ i.natAbs = 0 then
    -- "Precision of 0 and value of 0 means print nothing but padding"
    goPad g.minus false g.wid []
  else goAbs g base upper (decide (i < 0)) (natStr base upper i.natAbs)

/-- `fmt.Fprintf(b, goFormat(f), int64(iv))` for the verbs pcore uses -/
def goFmtInt (spec : Option GoSpec) (i : Int) : Res :=
  match spec with
  | none => .fault .goFmtNoVerb
  | some g =>
    if g.verb = 'd' then .text (goInteger g 10 false i)
    else if g.verb = 'x' then .text (goInteger g 16 false i)
    else if g.verb = 'X' then .text (goInteger g 16 true i)
    else if g.verb = 'o' then .text (goInteger g 8 false i)
    else .fault .goFmtBadVerb

/-- `(*fmt).fmtS`: truncate to `prec` runes, pad to `wid` -/
def goFmtS (minus zero : Bool) (wid prec : Option Nat) (s : Str) : Str :=
  let s := match prec with | some p => s.take p | none => s
  goPad minus zero wid s

/-! ### quoting -/

def hexUpper (n : Nat) : Str := natStr 16 true n

def puppetDoubleQuote (s : Str) : Str :=
  ['"'] ++ s.flatMap (fun c =>
    if c = '\t' then ['\\', 't'] else if c = '\n' then ['\\', 'n'] else if c = '\r' then ['\\', 'r']
    else if c = '"' then ['\\', '"'] else if c = '\\' then ['\\', '\\'] else if c = '$' then ['\\', '$']
    else if c.toNat < 0x20 || c.toNat = 0xFFFD then ['\\', 'u', '{'] ++ hexUpper c.toNat ++ ['}'] else [c]) ++ ['"']

/-- `PuppetQuote`: single-quoted unless a control character or U+FFFD occurs -/
def puppetQuote (s : Str) : Str :=
  if s.any (fun c => c.toNat < 0x20 || c.toNat = 0xFFFD) then puppetDoubleQuote s
  else ['\''] ++ s.flatMap (fun c =>
    if c = '\'' then ['\\', '\''] else if c = '\\' then ['\\', '\\'] else [c]) ++ ['\'']

/-- the loop of `RegexpQuote`: a backslash and the character after it are copied verbatim -/
def regexpQuoteLoop : Str → Bool → Str
  | [], _ => []
  | c :: cs, true => c :: regexpQuoteLoop cs false
  | c :: cs, false =>
    if c = '\\' then '\\' :: regexpQuoteLoop cs true
    else if c = '/' then '\\' :: '/' :: regexpQuoteLoop cs false
    else if c = '\n' then '\\' :: 'n' :: regexpQuoteLoop cs false
    else if c.toNat = 0 then "\\x00".toList ++ regexpQuoteLoop cs false
    else if c.toNat = 0xFFFD then "\\x{FFFD}".toList ++ regexpQuoteLoop cs false
    else c :: regexpQuoteLoop cs false

def regexpQuote (s : Str) : Str := ['/'] ++ regexpQuoteLoop s false ++ ['/']

/-- `ApplyStringFlags` -/
def applyStringFlags (f : Fmt) (s : Str) (quoted : Bool) : Str :=
  let s := if quoted then puppetQuote s else s
  if hasStringFlags f then goFmtS f.left false f.width f.prec s else s

/-! ### case mapping and white space (strings.ToUpper / ToLower / TrimSpace) -/

/-- unicode.ToUpper (strings.ToUpper maps rune by rune): Go's simple case mapping over the regenerated table -/
def goUpper (c : Char) : Char := Pcore.UnicodeCase.toUpper Pcore.Generated.caseRanges c

/-- unicode.ToLower -/
def goLower (c : Char) : Char := Pcore.UnicodeCase.toLower Pcore.Generated.caseRanges c

/-- unicode.IsSpace -/
def isSpace (c : Char) : Bool :=
  let n := c.toNat
  (9 ≤ n && n ≤ 13) || n = 0x20 || n = 0x85 || n = 0xA0 || n = 0x1680 || (0x2000 ≤ n && n ≤ 0x200A) ||
  n = 0x2028 || n = 0x2029 || n = 0x202F || n = 0x205F || n = 0x3000

def trimSpace (s : Str) : Str := ((s.dropWhile isSpace).reverse.dropWhile isSpace).reverse

def capitalizeSegment : Str → Str
  | [] => []
  | c :: cs => goUpper c :: cs.map goLower

/-- `ColonSplit.Split(s, -1)`: leftmost non-overlapping `::`; the accumulator holds the current segment reversed -/
def splitColons : Str → Str → List Str
  | [], acc => [acc.reverse]
  | ':' :: ':' :: rest, acc => acc.reverse :: splitColons rest []
  | c :: rest, acc => splitColons rest (c :: acc)

def capitalizeSegments (s : Str) : Str :=
  [':', ':'].intercalate ((splitColons s []).map capitalizeSegment)

/-! ### floats: parameters -/

structure FloatIO where
  /-- fmt.Sprintf(format, float64) for one float directive: the digits -/
  sprintf : Str → Nat → Str
  /-- float64(int64): IEEE bits of the nearest double -/
  ofInt : Int → Nat
  /-- int64(float64) (truncation; the platform's answer out of range) -/
  toInt : Nat → Int

/-- `padNumber` -/
def padNumber (f : Fmt) (s : Str) : Str :=
  match f.width with
  | none => s
  | some w =>
    let pad := w - s.length
    if pad = 0 then s
    else if f.left then s ++ spaces pad
    else if f.zeroPad then
      match s with
      | c :: cs => if c = '+' || c = '-' || c = ' ' then c :: (zeros pad ++ cs) else zeros pad ++ s
      | [] => zeros pad
    else spaces pad ++ s

/-- the float verbs of fmt that pcore uses -/
def isGoFloatVerb (c : Char) : Bool := c = 'e' || c = 'E' || c = 'f' || c = 'g' || c = 'G'

/-- `fmt.Sprintf(format, float64)`: the format must be one float directive, otherwise fmt answers with a `%!` marker
    (modelled as a fault) -/
def sprintfF (io : FloatIO) (fm : Str) (bits : Nat) : Except FaultKind Str :=
  match goParse fm with
  | none => .error .goFmtNoVerb
  | some g => if isGoFloatVerb g.verb then .ok (io.sprintf fm bits) else .error .goFmtBadVerb

/-- floatGFormat's precision: the given one, else 6 unless `#` -/
def gPrc (f : Fmt) : Int :=
  match f.prec with
  | some p => p
  | none => if f.alt then -1 else 6

/-- `totLen`: the characters `%g` printed, not counting a sign -/
def gDigits (str : Str) : Int :=
  match str with
  | c :: cs => if c = '+' || c = '-' || c = ' ' then cs.length else str.length
  | [] => 0

/-- how many zeros are `missing` after the digits `%g` printed -/
def gMissing (f : Fmt) (str : Str) : Int :=
  if gPrc f ≥ 0 then (if str.contains '.' then gPrc f - (gDigits str - 1) else gPrc f - gDigits str) else 0

/-- "Impossible to add a fraction part. Force scientific notation" -/
def gForced (f : Fmt) (str : Str) : Bool := decide (gPrc f ≥ 0) && !str.contains '.' && decide (gMissing f str = 0)

/-- the digits with the decimal point and the trailing zeros restored -/
def gRestored (f : Fmt) (str : Str) : Str :=
  str ++ (if str.contains '.' then [] else '.' :: (if gMissing f str = 0 then ['0'] else [])) ++ zeros (gMissing f str).toNat

/-- the part of `floatGFormat` after the first Sprintf: scientific notation is only padded; otherwise the fraction is
    restored, or scientific notation is forced with a second Sprintf -/
def floatGRest (io : FloatIO) (f : Fmt) (bits : Nat) (str : Str) : Except FaultKind Str :=
  let sc : Char := if f.letter = 'G' then 'E' else 'e'
  if str.contains sc then .ok (padNumber f str)
  else if gForced f str then sprintfF io (goFormat (replaceFormatChar f sc)) bits
  else .ok (padNumber f (gRestored f str))

/-- `floatGFormat` given the digit strings -/
def floatGFormat (io : FloatIO) (f : Fmt) (bits : Nat) : Except FaultKind Str :=
  match sprintfF io (goFormat (withoutWidth f)) bits with
  | .ok str => floatGRest io f bits str
  | .error k => .error k

def exceptRes (r : Except FaultKind Str) (k : Str → Str) : Res :=
  match r with
  | .ok s => .text (k s)
  | .error e => .fault e

def defaultFormatP : Fmt :=
  { alt := false, left := false, zeroPad := false, letter := 'g', plus := none, prec := none, width := none,
    ldelim := none, sep := none, sep2 := none, orig := ['%', 'g'] }
def defaultFormatS : Fmt := { defaultFormatP with alt := true, orig := ['%', '#', 'g'] }

/-! ### the scalar kinds -/

/-- hand-written `p b B` branch: the sign that is written in front of the radix prefix (binary only; the decimal
    program form keeps its sign with the digits): `-`, else the `+` / blank of the sign flag -/
def pbbSign (f : Fmt) (i : Int) : Str :=
  if f.letter = 'p' then []
  else if i < 0 then ['-']
  else match f.plus with
    | some c => [c]
    | none => []

/-- … `intString`: strconv.FormatInt without the separated sign; `%.Np` cuts the text to N characters -/
def pbbDigits (f : Fmt) (i : Int) : Str :=
  let radix := if f.letter = 'b' || f.letter = 'B' then 2 else 10
  let intString : Str := (if decide (i < 0) && f.letter = 'p' then ['-'] else []) ++ natStr radix false i.natAbs
  let numWidth := f.prec.getD 0
  if numWidth > 0 && numWidth < intString.length && f.letter = 'p' then intString.take numWidth else intString

/-- … `pfx`: `integerPrefixRadix` with `#` for a value other than 0 -/
def pbbPrefix (f : Fmt) (i : Int) : Str :=
  if f.alt && i ≠ 0 then (if f.letter = 'b' then ['0', 'b'] else if f.letter = 'B' then ['0', 'B'] else []) else []

/-- … `zeroPad`: to the precision; with the `0` flag (no `-`, no precision, not `p`) to the width -/
def pbbZeroPad (f : Fmt) (i : Int) : Nat :=
  if f.zeroPad && !f.left && f.prec.isNone && f.letter ≠ 'p' then
    f.width.getD 0 - (pbbSign f i).length - (pbbPrefix f i).length - (pbbDigits f i).length
  else f.prec.getD 0 - (pbbDigits f i).length

/-- the hand-written `p b B` branch of `integerValue.ToString`: blanks to the width (on the right with `-`), sign,
    prefix, zeros (blanks for `p`), digits -/
def intPbB (f : Fmt) (i : Int) : Str :=
  let sign := pbbSign f i
  let ds := pbbDigits f i
  let pfx := pbbPrefix f i
  let zeroPad := pbbZeroPad f i
  let spacePad := f.width.getD 0 - (sign.length + pfx.length + ds.length + zeroPad)
  (if f.left then [] else spaces spacePad) ++ sign ++ pfx ++
  (if f.letter = 'p' then spaces zeroPad else zeros zeroPad) ++ ds ++ (if f.left then spaces spacePad else [])

/-- `rune(int64(iv))` written with WriteRune: the low 32 bits as a signed value; anything that is not a Unicode
    scalar value is written as U+FFFD -/
def runeStr (i : Int) : Str :=
  let r := (i % 4294967296).toNat
  if r < 0xD800 ∨ (0xE000 ≤ r ∧ r ≤ 0x10FFFF) then [Char.ofNat r] else [Char.ofNat 0xFFFD]

def isIntLetter (c : Char) : Bool := c = 'd' || c = 'x' || c = 'X' || c = 'o'
def isPbB (c : Char) : Bool := c = 'p' || c = 'b' || c = 'B'
def isRadixLetter (c : Char) : Bool := c = 'd' || c = 'x' || c = 'X' || c = 'o' || c = 'b' || c = 'B'
def isFloatLetter (c : Char) : Bool := c = 'e' || c = 'E' || c = 'f' || c = 'g' || c = 'G'

/-- `integerValue.ToString` for the letters that do not go to the float path -/
def fmtIntCore (f : Fmt) (i : Int) : Res :=
  if isIntLetter f.letter then goFmtInt (goParse (goFormat f)) i
  else if isPbB f.letter then .text (intPbB f i)
  else if f.letter = 'c' then .text (applyStringFlags f (runeStr i) f.alt)
  else if f.letter = 's' then .text (applyStringFlags f (decimal i) f.alt)
  else .reported .unsupported

/-- `floatValue.ToString` -/
def fmtFloat (io : FloatIO) (f : Fmt) (bits : Nat) : Res :=
  if isRadixLetter f.letter then fmtIntCore f (io.toInt bits)
  else if f.letter = 'p' then exceptRes (floatGFormat io defaultFormatP bits) (fun s => applyStringFlags f s false)
  else if f.letter = 'e' || f.letter = 'E' || f.letter = 'f' then exceptRes (sprintfF io (goFormat f) bits) id
  else if f.letter = 'g' || f.letter = 'G' then exceptRes (floatGFormat io f bits) id
  else if f.letter = 's' then exceptRes (floatGFormat io defaultFormatS bits) (fun s => applyStringFlags f s f.alt)
  else .reported .unsupported

/-- `integerValue.ToString` -/
def fmtInt (io : FloatIO) (f : Fmt) (i : Int) : Res :=
  if isFloatLetter f.letter then fmtFloat io f (io.ofInt i) else fmtIntCore f i

def boolStr (b alt : Bool) (yes no : Str) : Str :=
  let s := if b then yes else no
  if alt then s.take 1 else s

/-- `booleanValue.ToString` -/
def fmtBool (io : FloatIO) (f : Fmt) (b : Bool) : Res :=
  if f.letter = 't' then .text (applyStringFlags f (boolStr b f.alt "true".toList "false".toList) false)
  else if f.letter = 'T' then .text (applyStringFlags f (boolStr b f.alt "True".toList "False".toList) false)
  else if f.letter = 'y' then .text (applyStringFlags f (boolStr b f.alt "yes".toList "no".toList) false)
  else if f.letter = 'Y' then .text (applyStringFlags f (boolStr b f.alt "Yes".toList "No".toList) false)
  else if isRadixLetter f.letter then fmtIntCore f (if b then 1 else 0)
  else if isFloatLetter f.letter then fmtFloat io f (io.ofInt (if b then 1 else 0))
  else if f.letter = 's' || f.letter = 'p' then .text (applyStringFlags f (boolStr b false "true".toList "false".toList) false)
  else .reported .unsupported

/-- `stringValue.ToString` -/
def fmtStr (f : Fmt) (s : Str) : Res :=
  if f.letter = 's' then .text (applyStringFlags f s false)
  else if f.letter = 'p' then .text (applyStringFlags f s true)
  else if f.letter = 'c' then .text (applyStringFlags f (capitalizeSegment s) f.alt)
  else if f.letter = 'C' then .text (applyStringFlags f (capitalizeSegments s) f.alt)
  else if f.letter = 'u' then .text (applyStringFlags f (s.map goUpper) f.alt)
  else if f.letter = 'd' then .text (applyStringFlags f (s.map goLower) f.alt)
  else if f.letter = 't' then .text (applyStringFlags f (trimSpace s) f.alt)
  else .reported .unsupported

def fmtDefault (f : Fmt) : Res :=
  if f.letter = 'd' || f.letter = 's' || f.letter = 'p' then .text (applyStringFlags f "default".toList false)
  else if f.letter = 'D' then .text (applyStringFlags f "Default".toList false)
  else .reported .unsupported

def fmtUndef (f : Fmt) : Res := .text (applyStringFlags f "undef".toList false)

def fmtRegexp (f : Fmt) (src : Str) : Res := .text (applyStringFlags f (regexpQuote src) false)

/-! base64 (encoding/base64 StdEncoding / URLEncoding, with padding) -/

def b64Char (url : Bool) (n : Nat) : Char :=
  if n < 26 then Char.ofNat ('A'.toNat + n)
  else if n < 52 then Char.ofNat ('a'.toNat + (n - 26))
  else if n < 62 then Char.ofNat ('0'.toNat + (n - 52))
  else if n = 62 then (if url then '-' else '+') else (if url then '_' else '/')

def base64 (url : Bool) : List Nat → Str
  | [] => []
  | [a] => [b64Char url (a / 4), b64Char url (a % 4 * 16), '=', '=']
  | [a, b] => [b64Char url (a / 4), b64Char url (a % 4 * 16 + b / 16), b64Char url (b % 16 * 4), '=']
  | a :: b :: c :: rest =>
    b64Char url (a / 4) :: b64Char url (a % 4 * 16 + b / 16) :: b64Char url (b % 16 * 4 + c / 64) :: b64Char url (c % 64) ::
      base64 url rest

/-- `Binary.ToString`; `utf8` is the decoding of the bytes when they are valid UTF-8 -/
def fmtBinary (f : Fmt) (bs : List Nat) (utf8 : Option Str) : Res :=
  let k (s : Str) : Res := .text (applyStringFlags f s f.alt)
  if f.letter = 's' then (match utf8 with | some s => k s | none => .reported .failure)
  else if f.letter = 'p' then k ("Binary('".toList ++ base64 false bs ++ "')".toList)
  else if f.letter = 'b' then k (base64 false bs ++ ['\n'])
  else if f.letter = 'B' then k (base64 false bs)
  else if f.letter = 'u' then k (base64 true bs)
  else if f.letter = 't' then k "Binary".toList
  else if f.letter = 'T' then k "BINARY".toList
  else .reported .unsupported

/-! ### values, format maps -/

mutual
inductive Val where
  | undef | dflt | bool (b : Bool) | int (i : Int) | float (bits : Nat)
  | str (s : Str) | regexp (src : Str) | binary (bs : List Nat) (utf8 : Option Str)
  | array (vs : List Val) | hash (es : List Entry)
inductive Entry where
  | mk (k v : Val)
end

inductive Kind where
  | int | float | str | bool | undef | dflt | bin | regexp | arr | hash
  deriving DecidableEq, Repr

/-- one row of the regenerated format-letter table (extract/formatletters.go): the `switch f.FormatChar()` of a kind -/
structure LetterRow where
  kind : Kind
  noSwitch : Bool            -- the ToString method has no switch on the letter (Undef, Regexp)
  handled : List Char        -- letters of the arms that format
  toFloat : List Char        -- … of which: handed over to floatValue.ToString
  toInt : List Char          -- … of which: handed over to integerValue.ToString
  documented : List Char     -- the literal passed to UnsupportedFormat
  unknown : List String      -- anything the extractor did not recognise
  deriving Repr

def Val.kind : Val → Kind
  | .undef => .undef | .dflt => .dflt | .bool _ => .bool | .int _ => .int | .float _ => .float
  | .str _ => .str | .regexp _ => .regexp | .binary _ _ => .bin | .array _ => .arr | .hash _ => .hash

def Val.isContainer : Val → Bool
  | .array _ | .hash _ => true
  | _ => false

/-- the parameterless types used as keys of a format map -/
inductive Key where
  | any | scalar | numeric | int | float | str | bool | bin | arr | hash | coll | undef | dflt | regexp
  | obj | typ                    -- the default Object and Type types: keys of DefaultFormats; no modelled value has these kinds
  deriving DecidableEq, Repr

/-- `px.IsAssignable(key, v.PType())` for parameterless key types -/
def Key.accepts : Key → Kind → Bool
  | .any, _ => true
  | .scalar, k => k = .int || k = .float || k = .str || k = .bool || k = .regexp
  | .numeric, k => k = .int || k = .float
  | .int, k => k = .int | .float, k => k = .float | .str, k => k = .str | .bool, k => k = .bool
  | .bin, k => k = .bin | .arr, k => k = .arr | .hash, k => k = .hash
  | .coll, k => k = .arr || k = .hash
  | .undef, k => k = .undef | .dflt, k => k = .dflt | .regexp, k => k = .regexp
  | .obj, _ => false | .typ, _ => false

/-- a Format with its container formats (`none` = nil: DefaultContainerFormats are used) -/
inductive FTree where
  | mk (f : Fmt) (cf : Option (List (Key × FTree)))

abbrev FMap := List (Key × FTree)

def FTree.f : FTree → Fmt | .mk f _ => f
def FTree.cf : FTree → Option FMap | .mk _ cf => cf

def defaultTree : FTree := .mk (simpleFmt 's') none

def defaultCF : FMap := [
  (.float, .mk (simpleFmt 'p') none), (.numeric, .mk (simpleFmt 'p') none),
  (.arr, .mk (basicFmt 'p' (some [',']) (some '[')) none), (.hash, .mk (basicFmt 'p' (some " => ".toList) (some '{')) none),
  (.bin, .mk (simpleFmt 'p') none), (.any, .mk (simpleFmt 'p') none)]

/-- `px.GetFormat` -/
def getFormat (m : FMap) (k : Kind) : FTree :=
  match m.find? (fun e => e.1.accepts k) with
  | some e => e.2
  | none => defaultTree

def cfOf (t : FTree) : FMap := t.cf.getD defaultCF

/-! ### per-type format maps given by the user: `newFormatContext3` → `mergeFormats(DefaultFormats, NewFormatMap(h))`
    (types/format.go).  The key types are the parameterless types of `Key`. -/

/-- `px.IsAssignable(a, b)` on the key types (tied to the lattice model by `Key.sub_eq_asg`, Proofs/FormatKeyLat.lean, and
    to the implementation by the driver op `keysub` on all pairs) -/
def Key.sub : Key → Key → Bool
  | .any, _ => true
  | .scalar, b => b = .scalar || b = .numeric || b = .int || b = .float || b = .str || b = .bool || b = .regexp
  | .numeric, b => b = .numeric || b = .int || b = .float
  | .coll, b => b = .coll || b = .arr || b = .hash
  | a, b => a = b

/-- `typeRank` -/
def Key.rank : Key → Nat
  | .numeric | .int | .float => 13
  | .str => 12
  | .arr => 4
  | .hash => 2
  | _ => 0

/-- `Type.String()` of the key types -/
def Key.name : Key → String
  | .any => "Any" | .scalar => "Scalar" | .numeric => "Numeric" | .int => "Integer" | .float => "Float" | .str => "String"
  | .bool => "Boolean" | .bin => "Binary" | .arr => "Array" | .hash => "Hash" | .coll => "Collection" | .undef => "Undef"
  | .dflt => "Default" | .regexp => "Regexp" | .obj => "Object" | .typ => "Type"

/-- how many of the keys accept `k` (`mergeFormats`, after fix 77ca16d: the primary sort key) -/
def acceptors (keys : List Key) (k : Key) : Nat := (keys.filter (fun o => Key.sub o k)).length

/-- the order of the merged map: more acceptors first (a key comes before every key that accepts it), then the lower
    rank, then the name — a lexicographic comparison of three totally ordered components, total on distinct keys, so
    EVERY sorting algorithm answers the same list (`sort.SliceStable` in Go, insertion sort here) -/
def entryLess (keys : List Key) (a b : Key) : Bool :=
  let na := acceptors keys a
  let nb := acceptors keys b
  if na != nb then decide (na > nb)
  else if a.rank != b.rank then decide (a.rank < b.rank)
  else decide (a.name < b.name)

/-- insert into a list sorted by `less` (stable: after the elements that are not greater) -/
def insSorted {α} (less : α → α → Bool) (x : α) : List α → List α
  | [] => [x]
  | y :: ys => if less x y then x :: y :: ys else y :: insSorted less x ys

def insertionSort {α} (less : α → α → Bool) (xs : List α) : List α :=
  xs.foldr (fun x acc => insSorted less x acc) []

def lookupKey (m : List (Key × FTree)) (k : Key) : Option FTree := (m.find? (fun e => e.1 = k)).map (·.2)

/-- `List.Unique()` on keys: the first occurrence stays, the order is kept -/
def dedupKeys : List Key → List Key
  | [] => []
  | k :: ks => k :: (dedupKeys ks).filter (fun o => o != k)

/-- the exact key type of a kind -/
def Kind.key : Kind → Key
  | .int => .int | .float => .float | .str => .str | .bool => .bool | .undef => .undef | .dflt => .dflt
  | .bin => .bin | .regexp => .regexp | .arr => .arr | .hash => .hash

/-- the default (lower) entries that stay: an entry is dropped when a DIFFERENT user key accepts its key -/
def normLowerOf (lo hi : List (Key × FTree)) : List (Key × FTree) :=
  lo.filter (fun e => !((hi.map (·.1)).any (fun h => h != e.1 && Key.sub h e.1)))

/-- the keys of the merged map in the order `mergeFormats` meets them: the remaining defaults, then the user's new keys -/
def mergedKeys (lo hi : List (Key × FTree)) : List Key :=
  dedupKeys ((normLowerOf lo hi).map (·.1) ++ hi.map (·.1))

/-- one entry per key: both sides → merged by `mt`, one side → that side's entry -/
def mergedEntries (mt : FTree → FTree → FTree) (lo hi : List (Key × FTree)) : List (Key × FTree) :=
  (mergedKeys lo hi).filterMap (fun k =>
    match lookupKey (normLowerOf lo hi) k, lookupKey hi k with
    | some l, some h => some (k, mt l h)
    | some l, none => some (k, l)
    | none, some h => some (k, h)
    | none, none => none)

/-- the final order of the merged map -/
def sortEntries (m : List (Key × FTree)) : List (Key × FTree) :=
  insertionSort (fun a b => entryLess (m.map (·.1)) a.1 b.1) m

mutual
/-- `merge(low, high)`: everything from `high`, the separators from `low` where `high` has none, the container formats merged -/
def mergeTree : Nat → FTree → FTree → FTree
  | 0, _, high => high
  | fuel + 1, low, high =>
    let sep := match high.f.sep with | some s => some s | none => low.f.sep
    let sep2 := match high.f.sep2 with | some s => some s | none => low.f.sep2
    .mk { high.f with sep := sep, sep2 := sep2 } (mergeMaps fuel low.cf high.cf)
/-- `mergeFormats(lower, higher)`; `none` = nil -/
def mergeMaps : Nat → Option (List (Key × FTree)) → Option (List (Key × FTree)) → Option (List (Key × FTree))
  | 0, _, higher => higher
  | fuel + 1, lower, higher =>
    match lower, higher with
    | none, h => h
    | some [], h => h
    | l, none => l
    | l, some [] => l
    | some lo, some hi => some (sortEntries (mergedEntries (mergeTree fuel) lo hi))
end

/-- `DefaultContainerFormats`, whose container entries hold `DefaultContainerFormats` again (a cycle in Go): unrolled
    `n` levels; at level 0 the entries hold nil, which RENDERS the same (`cfOf`) but merges differently — the driver
    refuses user maps nested deeper than the unrolling -/
def dcf : Nat → List (Key × FTree)
  | 0 =>
    [(.obj, .mk (basicFmt 'p' (some " => ".toList) (some '(')) none), (.typ, .mk (basicFmt 'p' (some " => ".toList) (some '(')) none),
     (.float, .mk (simpleFmt 'p') none), (.numeric, .mk (simpleFmt 'p') none),
     (.arr, .mk (basicFmt 'p' (some [',']) (some '[')) none), (.hash, .mk (basicFmt 'p' (some " => ".toList) (some '{')) none),
     (.bin, .mk (simpleFmt 'p') none), (.any, .mk (simpleFmt 'p') none)]
  | n + 1 =>
    [(.obj, .mk (basicFmt 'p' (some " => ".toList) (some '(')) (some (dcf n))), (.typ, .mk (basicFmt 'p' (some " => ".toList) (some '(')) (some (dcf n))),
     (.float, .mk (simpleFmt 'p') none), (.numeric, .mk (simpleFmt 'p') none),
     (.arr, .mk (basicFmt 'p' (some [',']) (some '[')) (some (dcf n))), (.hash, .mk (basicFmt 'p' (some " => ".toList) (some '{')) (some (dcf n))),
     (.bin, .mk (simpleFmt 'p') none), (.any, .mk (simpleFmt 'p') none)]

/-- `DefaultFormats` -/
def defaultFormats (n : Nat) : List (Key × FTree) :=
  [(.obj, .mk (basicFmt 'p' (some " => ".toList) (some '(')) (some (dcf n))), (.typ, .mk (basicFmt 'p' (some " => ".toList) (some '(')) (some (dcf n))),
   (.float, .mk (simpleFmt 'f') none), (.numeric, .mk (simpleFmt 'd') none),
   (.arr, .mk (basicFmt 'a' (some [',']) (some '[')) (some (dcf n))), (.hash, .mk (basicFmt 'h' (some " => ".toList) (some '{')) (some (dcf n))),
   (.bin, .mk (simpleFmt 'B') none), (.any, .mk (simpleFmt 's') none)]

/-- how deep the user's `string_formats` nest (a map without nested maps: 1) -/
def mapDepth : Nat → List (Key × FTree) → Nat
  | 0, _ => 0
  | fuel + 1, m => 1 + (m.map (fun e => match e.2.cf with | some m' => mapDepth fuel m' | none => 0)).foldl max 0

/-- the widest map anywhere in the user's tree -/
def mapWidth : Nat → List (Key × FTree) → Nat
  | 0, _ => 0
  | fuel + 1, m => (m.map (fun e => match e.2.cf with | some m' => mapWidth fuel m' | none => 0)).foldl max m.length

/-- the keys of every map of the user's tree are pairwise different (a Hash never holds a key twice) -/
def mapKeysDistinct : Nat → List (Key × FTree) → Bool
  | 0, _ => true
  | fuel + 1, m =>
    ((m.map (·.1)).eraseDups.length == m.length) &&
    m.all (fun e => match e.2.cf with | some m' => mapKeysDistinct fuel m' | none => true)

/-- the unrolling depth of the default tables and the fuel of the merge -/
def mergeDepth : Nat := 4

/-- `newFormatContext3(value, hash)`: the format map of the context -/
def contextMap (user : List (Key × FTree)) : List (Key × FTree) :=
  (mergeMaps (2 * mergeDepth + 2) (some (defaultFormats mergeDepth)) (some user)).getD []

/-! ### indentation -/

structure Ind where
  first : Bool
  indenting : Bool
  level : Nat
  deriving DecidableEq, Repr

def Ind.default : Ind := ⟨true, false, 0⟩
def Ind.breaks (i : Ind) : Bool := i.indenting && decide (i.level > 0) && !i.first
def Ind.increase (i : Ind) (indenting : Bool) : Ind := ⟨true, indenting, i.level + 1⟩
def Ind.withIndenting (i : Ind) (b : Bool) : Ind := { i with indenting := b }
def Ind.subsequent (i : Ind) : Ind := { i with first := false }
def Ind.padding (i : Ind) : Str := spaces (2 * i.level)

/-! ### containers -/

def delimPair (ld : Option Char) (dflt : Char) : Str × Str :=
  let d := ld.getD dflt
  if d = '[' then (['['], [']']) else if d = '{' then (['{'], ['}']) else if d = '(' then (['('], [')'])
  else if d = '<' then (['<'], ['>']) else if d = '|' then (['|'], ['|']) else ([], [])

def utf8Len (s : Str) : Nat := (s.map Char.utf8Size).sum

/-- the `szBreak` loop of Array.ToString2 -/
def szBreakLoop (w : Nat) : List (Str × Bool) → Nat → Bool
  | [], _ => false
  | (s, ah) :: rest, widest =>
    if ah then szBreakLoop w rest 0
    else let widest := widest + utf8Len s; if widest > w then true else szBreakLoop w rest widest

/-- the element loop of Array.ToString2 after the first element: `prev` = the previous element is a container -/
def arrayRest (f : Fmt) (sep pad : Str) (szBreak : Bool) : List (Str × Bool) → Bool → Str
  | [], _ => []
  | (s, ah) :: rest, prev =>
    sep ++ (if !ah && (szBreak || (f.alt && prev)) then '\n' :: pad else if !(f.alt && ah) then [' '] else []) ++ s ++
      arrayRest f sep pad szBreak rest ah

/-- `szBreak`: in alt mode with a width, the elements are broken one per line when a run of non-container elements
    is wider (in bytes) than the width -/
def szBreakOf (f : Fmt) (parts : List (Str × Bool)) : Bool :=
  f.alt && (match f.width with | some w => szBreakLoop w parts 0 | none => false)

/-- everything Array.ToString2 writes, given the rendered elements (text, isContainer) -/
def arrayAssemble (f : Fmt) (ind0 : Ind) (parts : List (Str × Bool)) : Str :=
  let ind := ind0.withIndenting (f.alt || ind0.indenting)
  let (l, r) := delimPair f.ldelim '['
  let childrenIndent := ind.increase f.alt
  let szBreak := szBreakOf f parts
  let sep := f.sep.getD [',']
  (if ind.breaks then '\n' :: ind.padding else []) ++ l ++
  (match parts with
   | [] => []
   | (s, ah) :: rest => (if szBreak && !ah then [' '] else []) ++ s ++ arrayRest f sep childrenIndent.padding szBreak rest ah) ++ r

def arrayChildInd (f : Fmt) (ind0 : Ind) : Ind :=
  ((ind0.withIndenting (f.alt || ind0.indenting)).increase f.alt).subsequent

def hashChildInd (f : Fmt) (ind0 : Ind) : Ind :=
  (ind0.withIndenting (f.alt || ind0.indenting)).increase f.alt

def hashEntries (assoc sep pad : Str) : List (Str × Str) → Str
  | [] => []
  | [(k, v)] => pad ++ k ++ assoc ++ v
  | (k, v) :: rest => pad ++ k ++ assoc ++ v ++ sep ++ hashEntries assoc sep pad rest

/-- everything Hash.ToString2 writes for the letters h s p, given the rendered keys and values -/
def hashAssemble (f : Fmt) (ind0 : Ind) (parts : List (Str × Str)) : Str :=
  let ind := ind0.withIndenting (f.alt || ind0.indenting)
  let (l, r) := delimPair f.ldelim '{'
  let sep := f.sep.getD [','] ++ (if f.alt then ['\n'] else [' '])
  let assoc := f.sep2.getD " => ".toList
  let pad := if f.alt then (ind.increase f.alt).padding else []
  (if ind.breaks then '\n' :: ind.padding else []) ++ l ++ (if f.alt then ['\n'] else []) ++
  hashEntries assoc sep pad parts ++ (if f.alt then '\n' :: ind.padding else []) ++ r

def isArrayLetter (c : Char) : Bool := c = 'a' || c = 's' || c = 'p'
def isHashLetter (c : Char) : Bool := c = 'h' || c = 's' || c = 'p'

/-- results of a list of children: the first error wins -/
inductive ResL (α : Type) where
  | ok (xs : List α)
  | err (r : Res)

def ResL.cons {α} (r : Res) (mk : Str → α) (rest : Unit → ResL α) : ResL α :=
  match r with
  | .text s => (match rest () with | .ok xs => .ok (mk s :: xs) | .err e => .err e)
  | e => .err e

mutual
/-- `v.ToString(b, ctx, g)` with ctx = (format map `m`, indentation `ind`) -/
def fmtVal (io : FloatIO) (m : FMap) (ind : Ind) : Val → Res
  | .undef => fmtUndef (getFormat m .undef).f
  | .dflt => fmtDefault (getFormat m .dflt).f
  | .bool b => fmtBool io (getFormat m .bool).f b
  | .int i => fmtInt io (getFormat m .int).f i
  | .float bits => fmtFloat io (getFormat m .float).f bits
  | .str s => fmtStr (getFormat m .str).f s
  | .regexp src => fmtRegexp (getFormat m .regexp).f src
  | .binary bs u => fmtBinary (getFormat m .bin).f bs u
  | .array vs =>
    let t := getFormat m .arr
    if !isArrayLetter t.f.letter then .reported .unsupported
    else match fmtElems io m (cfOf t) (arrayChildInd t.f ind) vs with
      | .ok parts => .text (arrayAssemble t.f ind parts)
      | .err e => e
  | .hash es =>
    let t := getFormat m .hash
    if t.f.letter = 'a' then
      -- WrapArray3(hv).ToString(b, s, g): an array of entries under the same map
      let ta := getFormat m .arr
      if !isArrayLetter ta.f.letter then .reported .unsupported
      else match fmtEntryArrs io (cfOf ta) (arrayChildInd ta.f ind) es with
        | .ok parts => .text (arrayAssemble ta.f ind parts)
        | .err e => e
    else if !isHashLetter t.f.letter then .reported .unsupported
    else match fmtPairs io m (cfOf t) (hashChildInd t.f ind) es with
      | .ok parts => .text (hashAssemble t.f ind parts)
      | .err e => e

/-- `childToString` for each element: a container child keeps the parent's map, any other child gets `cf` -/
def fmtElems (io : FloatIO) (m cf : FMap) (ci : Ind) : List Val → ResL (Str × Bool)
  | [] => .ok []
  | v :: vs =>
    ResL.cons (fmtVal io (if v.isContainer then m else cf) ci v) (fun s => (s, v.isContainer)) (fun _ => fmtElems io m cf ci vs)

def fmtPairs (io : FloatIO) (m cf : FMap) (ci : Ind) : List Entry → ResL (Str × Str)
  | [] => .ok []
  | .mk k v :: es =>
    match fmtVal io (if k.isContainer then m else cf) ci k with
    | .text sk =>
      ResL.cons (fmtVal io (if v.isContainer then m else cf) ci v) (fun sv => (sk, sv)) (fun _ => fmtPairs io m cf ci es)
    | e => .err e

/-- the entries of a hash formatted with `a`: each HashEntry is the array [k, v] under the map `m` -/
def fmtEntryArrs (io : FloatIO) (m : FMap) (ind : Ind) : List Entry → ResL (Str × Bool)
  | [] => .ok []
  | .mk k v :: es =>
    let t := getFormat m .arr
    let r : Res :=
      if !isArrayLetter t.f.letter then .reported .unsupported
      else
        let ci := arrayChildInd t.f ind
        match fmtVal io (if k.isContainer then m else cfOf t) ci k with
        | .text sk =>
          (match fmtVal io (if v.isContainer then m else cfOf t) ci v with
           | .text sv => .text (arrayAssemble t.f ind [(sk, k.isContainer), (sv, v.isContainer)])
           | e => e)
        | e => e
    ResL.cons r (fun s => (s, false)) (fun _ => fmtEntryArrs io m ind es)
end

/-- `px.ToString2(v, px.NewFormatContext2(DefaultIndentation, m, nil))` -/
def format (io : FloatIO) (m : FMap) (v : Val) : Res := fmtVal io m Ind.default v

/-- `px.ToString2(v, px.NewFormatContext(<type accepting v>, NewFormat(directive), DefaultIndentation))` -/
def formatDirective (io : FloatIO) (directive : Str) (v : Val) : Res :=
  match newFormat directive with
  | .error c => .reported c
  | .ok f => format io [(.any, .mk f none)] v

/-! ### `new(Integer, text, radix)` — types/integertype.go: the `Convertible` pattern of the constructor's signature and
    `intFromConvertible` (strconv.ParseInt with the given radix) -/

def isReSpace (c : Char) : Bool := c = ' ' || c = '\t' || c = '\n' || c = '\x0c' || c = '\r'
def isHexDigit (c : Char) : Bool := isDigit c || ('a' ≤ c && c ≤ 'f') || ('A' ≤ c && c ≤ 'F')
def isOctDigit (c : Char) : Bool := '0' ≤ c && c ≤ '7'
def isBinDigit (c : Char) : Bool := c = '0' || c = '1'

/-- a text without its leading `+` or `-` -/
def dropSign : Str → Str
  | '+' :: r => r
  | '-' :: r => r
  | s => s

/-- the leading `+` or `-` of a text -/
def signOf : Str → Str
  | '+' :: _ => ['+']
  | '-' :: _ => ['-']
  | _ => []

/-- the radix prefix `integerFromString` takes off: `0x`/`0X` for radix 16, `0b`/`0B` for radix 2, digits must follow -/
def dropRadixPrefix (radix : Nat) : Str → Str
  | '0' :: c :: r =>
    if !r.isEmpty && ((radix = 16 && (c = 'x' || c = 'X')) || (radix = 2 && (c = 'b' || c = 'B'))) then r else '0' :: c :: r
  | s => s

/-- the alternatives of `IntegerPattern` after sign and white space: `\\d+ | 0[xX][0-9A-Fa-f]+ | 0[bB][01]+` -/
def matchIntegerBody : Str → Bool
  | [] => false
  | '0' :: c :: r =>
    if c = 'x' || c = 'X' then !r.isEmpty && r.all isHexDigit
    else if c = 'b' || c = 'B' then !r.isEmpty && r.all isBinDigit
    else isDigit c && r.all isDigit
  | ds => ds.all isDigit

/-- `IntegerPattern`: `\\A[+-]?\\s*(?:\\d+|0[xX][0-9A-Fa-f]+|0[bB][01]+)\\z` -/
def matchIntegerPattern (s : Str) : Bool := matchIntegerBody ((dropSign s).dropWhile isReSpace)

/-- value of a digit for strconv.ParseUint: 0-9, a-z, A-Z -/
def parseDigit (c : Char) : Option Nat :=
  if '0' ≤ c ∧ c ≤ '9' then some (c.toNat - '0'.toNat)
  else if 'a' ≤ c ∧ c ≤ 'z' then some (c.toNat - 'a'.toNat + 10)
  else if 'A' ≤ c ∧ c ≤ 'Z' then some (c.toNat - 'A'.toNat + 10)
  else none

def parseDigits (base : Nat) : Str → Nat → Option Nat
  | [], acc => some acc
  | c :: cs, acc =>
    match parseDigit c with
    | some d => if d < base then parseDigits base cs (acc * base + d) else none
    | none => none

/-- `strconv.ParseInt(s, base, 64)` for an explicit base: sign, digits below the base, no prefix, the int64 range -/
def goParseInt (s : Str) (base : Nat) : Option Int :=
  let neg := s.head? = some '-'
  let ds := dropSign s
  if ds.isEmpty then none
  else match parseDigits base ds 0 with
    | some n => if neg then (if n ≤ 2^63 then some (-(n : Int)) else none) else (if n < 2^63 then some (n : Int) else none)
    | none => none

inductive IntRes where
  | int (i : Int)
  | reported (c : Code)
  deriving DecidableEq, Repr

/-- `integerFromString`: the sign, the white space after it and the prefix that denotes the given radix are taken off
    before strconv.ParseInt sees the text -/
def integerFromString (s : Str) (radix : Nat) : Option Int :=
  goParseInt (signOf s ++ dropRadixPrefix radix ((dropSign s).dropWhile isReSpace)) radix

/-- `px.New(c, Integer, text, radix)`: the signature check (Convertible = Pattern[IntegerPattern]) then intFromConvertible -/
def newInteger (s : Str) (radix : Nat) : IntRes :=
  if !matchIntegerPattern s then .reported .illegalArguments
  else match integerFromString s radix with
    | some i => .int i
    | none => .reported .notInteger

def letterRadix (c : Char) : Nat :=
  if c = 'x' || c = 'X' then 16 else if c = 'o' then 8 else if c = 'b' || c = 'B' then 2 else 10

end Pcore.Format

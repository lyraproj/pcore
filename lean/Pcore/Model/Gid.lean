/-!
# Model of `threadlocal.getg` — the goroutine-id parser (property C14) — core Lean only

`/repo/threadlocal/gid.go`:

```go
func getg() int64 {
	const prefixLen = 10 // Length of prefix "goroutine "
	var buf [64]byte
	l := runtime.Stack(buf[:64], false)
	n := int64(0)
	for i := prefixLen; i < l; i++ {
		d := buf[i]
		if d < 0x30 || d > 0x39 {
			break
		}
		n = n*10 + int64(d-0x30)
	}
	if n == 0 {
		panic(fmt.Errorf(`unable to retrieve id of current go routine`))
	}
	return n
}
```

| Go                                                        | Lean                                                    |
|-----------------------------------------------------------|---------------------------------------------------------|
| `const prefixLen = 10`                                    | `prefixLen`                                             |
| `var buf [64]byte`, `buf[:64]`                            | `bufLen`                                                |
| `l := runtime.Stack(buf[:64], false)`; the bytes `buf[:l]` | the argument `buf : List UInt8` of `getg` (`l = buf.length`; `getg` looks at `buf.take bufLen` only, so it is total on any list) |
| what `runtime.Stack` writes for goroutine `N`             | `stackBuf N rest` = `(stackHeader N rest).take bufLen`, `stackHeader N rest` = `"goroutine " ++ digits N ++ rest` (`rest` = `" [running]:\n…frames…"`, a parameter) |
| the runtime's decimal printing of the id (`print(gp.goid)`) | `digits`                                              |
| `d < 0x30 \|\| d > 0x39`                                  | `notDigit`                                              |
| `for i := prefixLen; i < l; i++ { … break … n = n*10 + int64(d-0x30) }` | `scan` (ℕ accumulator), `scan64` (int64 accumulator: two's-complement bit pattern, `% 2^64` after every step) — called on `(buf.take bufLen).drop prefixLen` = `buf[10:l]` |
| `int64` bit pattern read as a signed number               | `toInt64`                                               |
| `if n == 0 { panic(…) }; return n`                        | `getg … = none` / `some n` (ℕ arithmetic), `getg64` (int64 arithmetic, result in `Int`) |

The Go code computes in `int64`; `getg64` is the faithful model (`n*10 + d` wraps modulo 2^64 and is read as a signed
number; Go's signed multiplication/addition wrap exactly like the unsigned ones on the bit pattern).  `getg` is the same
loop with an unbounded accumulator; `Proofs/Gid.lean` proves they agree exactly for ids below 2^63
(`getg64_stackBuf_iff`).

`digits` recurses on `n / 10` with an explicit fuel (`n + 1` is always enough: `digits_eq_map`), so that it is
structurally recursive and the kernel can evaluate it in `decide` examples.

Trusted (not modelled, DESIGN §5): that `runtime.Stack(buf, false)` really writes `"goroutine "`, the decimal id of the
calling goroutine without leading zeros, then `" ["`; and returns the number of bytes written (`≤ len(buf)`).
-/

namespace Pcore.Gid

/-- `const prefixLen = 10 // Length of prefix "goroutine "` -/
def prefixLen : Nat := 10

/-- `var buf [64]byte` / `buf[:64]` -/
def bufLen : Nat := 64

/-- the UTF-8 bytes of a string, as a list -/
def bytes (s : String) : List UInt8 := s.toUTF8.data.toList

/-- `"goroutine "` — what `runtime.Stack` writes before the id -/
def goPrefix : List UInt8 := bytes "goroutine "

/-- the loop's exit test `d < 0x30 || d > 0x39` -/
def notDigit (d : UInt8) : Bool := d < 0x30 || d > 0x39

/-- the loop `for …; i < l; i++ { d := buf[i]; if notDigit d { break }; n = n*10 + int64(d-0x30) }` over the remaining bytes
`buf[i:l]`, accumulator in ℕ (no overflow) -/
def scan (n : Nat) : List UInt8 → Nat
  | [] => n                                            -- `i < l` is false
  | d :: ds =>
    if notDigit d then n                               -- `break`
    else scan (n * 10 + (d - 0x30).toNat) ds           -- `n = n*10 + int64(d-0x30)`

/-- the same loop with the `int64` accumulator represented by its 64-bit two's-complement pattern `n < 2^64` -/
def scan64 (n : Nat) : List UInt8 → Nat
  | [] => n
  | d :: ds =>
    if notDigit d then n
    else scan64 ((n * 10 + (d - 0x30).toNat) % 2 ^ 64) ds

/-- a 64-bit pattern read as a signed `int64` -/
def toInt64 (u : Nat) : Int := if u < 2 ^ 63 then (u : Int) else (u : Int) - 2 ^ 64

/-- the bytes the loop runs over: `buf[prefixLen:l]` with `l ≤ 64` -/
def window (buf : List UInt8) : List UInt8 := (buf.take bufLen).drop prefixLen

/-- `getg` with an unbounded accumulator; `none` = the `panic` of `if n == 0` -/
def getg (buf : List UInt8) : Option Nat :=
  let n := scan 0 (window buf)
  if n = 0 then none else some n

/-- `getg` with Go's `int64` arithmetic; `none` = the `panic` of `if n == 0` -/
def getg64 (buf : List UInt8) : Option Int :=
  let n := scan64 0 (window buf)
  if n = 0 then none else some (toInt64 n)

/-! ## what `runtime.Stack` writes -/

/-- the ASCII digit for `k < 10` -/
def digitByte (k : Nat) : UInt8 := (0x30 + k).toUInt8

/-- decimal rendering, most significant digit first; `fuel` bounds the recursion on `n / 10` -/
def digitsFuel : Nat → Nat → List UInt8
  | 0, _ => []
  | fuel + 1, n => if n < 10 then [digitByte n] else digitsFuel fuel (n / 10) ++ [digitByte (n % 10)]

/-- the decimal rendering the runtime prints: no leading zeros, `digits 0 = [0x30]`
(`digits_eq`: `digits n = if n < 10 then [digitByte n] else digits (n / 10) ++ [digitByte (n % 10)]`) -/
def digits (n : Nat) : List UInt8 := digitsFuel (n + 1) n

/-- the full (untruncated) first line and frames of goroutine `n`'s stack dump; `rest` is everything after the id -/
def stackHeader (n : Nat) (rest : List UInt8) : List UInt8 := goPrefix ++ digits n ++ rest

/-- what `runtime.Stack(buf[:64], false)` leaves in `buf[:l]`: the dump truncated to the buffer -/
def stackBuf (n : Nat) (rest : List UInt8) : List UInt8 := (stackHeader n rest).take bufLen

end Pcore.Gid

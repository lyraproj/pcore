import Pcore.Model.LatticeInst
set_option linter.unusedSimpArgs false
/-!
  The STRUCTURE of the type-mismatch describer (property C19): which mismatches `describe(expected, actual, path)` of
  /repo/internal/typemismatchdescriber.go reports — kind, path and the types / names / sizes each one carries — over the
  lattice term language `Ty`.  The English of `text()` is not modelled; what the canonical observation keeps of it is in
  `DescribeText.lean`.  Core Lean only (linked into the compiled driver).

  Go (internal/typemismatchdescriber.go) → Lean map
    pathType / pathElement                         → `PK` / `PE`;  `[]*pathElement` → `Path`;  pathWith(path, e) → `p ++ [e]`
    mismatch structs (one Go struct per kind)      → `Mismatch` (one constructor per struct; `basicEAMismatch` payloads:
                                                     typeMismatch `Exp × Ty`, patternMismatch `Ty × Ty`, size/count `Rng × Rng` —
                                                     the size constructors take `*types.IntegerType` and the only `setExpected`
                                                     that reaches them passes `NewIntegerType`, so the type assertions of
                                                     `from()/to()/text()` are discharged by the typing of the payload)
    mismatchClass / class()                        → `Cls` / `Mismatch.cls`
    canonicalPath                                  → `canonPath`;  chopPath → `chopPath`;  pathEquals → `==` on `Path`
    mergeMismatch                                  → `mergeMismatch` (`mergeExp`: the four Variant/non-Variant cases, `UniqueTypes` =
                                                     `uniqueA`, `NewVariantType` = `mkVarA`; sizes: the hull)
    mergeDescriptions                              → `mergeDescriptions` (`tryClasses` = the loop over the four classes, `foldMerge` =
                                                     the inner loop; `mismatches[0]` is the fault site `Fault.mergeHead`)
    unique                                         → the identity: it compares POINTERS and every mismatch is freshly allocated
                                                     (`copyMismatch` in `withPath`), so no two list elements are ever identical
    describe                                       → `describe` (TypeReference scan: the term language has none; assignability guard;
                                                     `internalDescribe(Normalize(e), e, a, path)` with `Normalize` = the identity as in
                                                     types.go normalize; fallback `newTypeMismatch` when nothing was established)
    internalDescribe (type switch)                 → `internalDescribe` (one arm per case; Init is outside `Ty`)
    describeVariantType                            → the `.variant` arm + `variantTail`; the member loop with its early return → `descVar`
                                                     (`addUndef` = "original is an Optional": `CopyAppend(ts, Undef)`)
    USER-DEFINED ALIASES.  `Ty` has no alias constructor (the lattice model sees aliases expanded).  In THIS model a ONE-MEMBER Variant
      term `.variant [t]` stands for a user alias whose resolved type is `t`: the Go constructors cannot build a one-member Variant
      (`NewVariantType(t)` answers `t`), so the term is free, and it is neutral for `asg` on either side (`asgAnyL [t] b = asg t b`,
      `asgAllR a [t] = asg a t`) exactly as `GuardedIsAssignable` resolves an alias.  The driver reads `(alias T)` as `.variant [T]` for the
      structure ops and prints payloads with the aliases expanded (as the harness encoder does).  An aliased ACTUAL type is "another
      kind" for every container arm (`actual.(*types.StructType)` fails on a `*TypeAliasType`) — which the term gives for free.
    describeTypeAliasType                          → the `.variant [t]` arm (user alias: `internalDescribe(resolved, alias, actual, path)`) and
                                                     the `.data` / `.richData` arms: `internalDescribe(resolved Variant, alias, …)` with the
                                                     resolved Variant's members inlined (`dataMembers` / `richMembers`; RichData's TypeSet and
                                                     Deferred members are the opaque atoms); `px.IsAssignable(resolved, a)` is `asg alias a`
    describeOptionalType                           → the `.optional` arm (original stays when it is an alias)
    describeEnumType / describePatternType         → the `.enum` / `.pattern` arms
    describeStructType                             → the `.struct` arm; the member loop + the extraneous-key loop → `structItems`
                                                     (`HashedMembersCloned`: last member of a name wins; `delete(h2,key)`; `ActualKeyType()`
                                                     strips the Optional so both key types are `String[name]`; the order of the
                                                     extraneous keys is Go map order — canonicalised by sorting in the observation)
    describeHashType                               → the `.hash` arm; loop → `hashItems`
    describeArrayType                              → the `.array` arm; loop (guarded by `!IsAssignable(et, at)`) → `arrTupItems`
    describeTupleType / describeTuple              → the `.tuple` arm (size mismatches are COUNT mismatches: `newCountMismatch`); loops →
                                                     `tupArrItems`, `tupTupItems` (only positions ≥ len(expected.types) are looked at, against
                                                     the LAST expected type: `expected.Types()[exl-1]` is the fault site `Fault.tupleLast`)
    describeCallableType                           → the `.callable` arm, `callTail`, `callBlock` (`ep.(*types.TupleType)`: a parameters type is always a
                                                     Tuple; for any other term the model describes it generically — total, and equal on every built type)
    describeAnyType                                → the default arm
  A loop body that recurses is an `Item.sub`; `descAll` runs the items in order (`append(descriptions, internalDescribe(...)...)`).

  Go runtime faults are explicit: `Res.fault` / `VRes.fault`; Props/C19.lean proves them unreachable.
  Termination: lexicographic in (weight of the actual type, head weight `Ty.hw` of the expected type): every descent into a
  container strictly shrinks the ACTUAL type; Variant / Optional / alias unfolding keeps it and shrinks the head weight.
-/
namespace Pcore.Desc
open Pcore.Lat

/-- `pathType` -/
inductive PK where
  | subject | entry | entryKey | parameter | ret | block | index | variant | signature
  deriving DecidableEq, Repr, Inhabited

/-- `pathElement` -/
structure PE where
  kind : PK
  key : String
  deriving DecidableEq, Repr, Inhabited

abbrev Path := List PE

/-- `&pathElement{strconv.Itoa(n), kind}` -/
def PE.nat (k : PK) (n : Nat) : PE := ⟨k, toString n⟩

/-- a `px.Type` the describer can hold that is not a Variant built by a merge: a lattice term, or one of the two members of
    RichData that the term language does not have -/
inductive Atom where
  | ty (t : Ty)
  | typeSet
  | deferred
  deriving Repr, Inhabited

/-- the `expectedType` of a type mismatch: a type as given (`atom`), or the Variant `mergeMismatch` built (`merged`) -/
inductive Exp where
  | atom (x : Atom)
  | merged (ms : List Atom)
  deriving Repr, Inhabited

def Exp.ofTy (t : Ty) : Exp := .atom (.ty t)

/-- `e.(*types.VariantType)` and its `Types()`: `inr` members, else `inl` the type itself -/
def Exp.split : Exp → Sum Atom (List Atom)
  | .atom (.ty (.variant [t])) => .inl (.ty (.variant [t]))      -- a user alias is no *VariantType
  | .atom (.ty (.variant ts)) => .inr (ts.map .ty)
  | .atom x => .inl x
  | .merged ms => .inr ms

inductive Mismatch where
  | unexpectedBlock (p : Path)
  | missingRequiredBlock (p : Path)
  | missingKey (p : Path) (key : String)
  | extraneousKey (p : Path) (key : String)
  | unresolvedTypeReference (p : Path) (key : String)
  | typeMismatch (p : Path) (expected : Exp) (actual : Ty)
  | patternMismatch (p : Path) (expected : Ty) (actual : Ty)
  | sizeMismatch (p : Path) (expected actual : Rng)
  | countMismatch (p : Path) (expected actual : Rng)
  deriving Repr, Inhabited

/-- `mismatchClass` -/
inductive Cls where
  | count | missingKey | missingRequiredBlock | extraneousKey | pattern | size | type | unexpectedBlock | unresolvedTypeReference
  deriving DecidableEq, Repr

def Mismatch.cls : Mismatch → Cls
  | .unexpectedBlock _ => .unexpectedBlock
  | .missingRequiredBlock _ => .missingRequiredBlock
  | .missingKey _ _ => .missingKey
  | .extraneousKey _ _ => .extraneousKey
  | .unresolvedTypeReference _ _ => .unresolvedTypeReference
  | .typeMismatch _ _ _ => .type
  | .patternMismatch _ _ _ => .pattern
  | .sizeMismatch _ _ _ => .size
  | .countMismatch _ _ _ => .count

def Mismatch.path : Mismatch → Path
  | .unexpectedBlock p | .missingRequiredBlock p | .missingKey p _ | .extraneousKey p _ | .unresolvedTypeReference p _
  | .typeMismatch p _ _ | .patternMismatch p _ _ | .sizeMismatch p _ _ | .countMismatch p _ _ => p

/-- `withPath` -/
def Mismatch.setPath (m : Mismatch) (q : Path) : Mismatch :=
  match m with
  | .unexpectedBlock _ => .unexpectedBlock q
  | .missingRequiredBlock _ => .missingRequiredBlock q
  | .missingKey _ k => .missingKey q k
  | .extraneousKey _ k => .extraneousKey q k
  | .unresolvedTypeReference _ k => .unresolvedTypeReference q k
  | .typeMismatch _ e a => .typeMismatch q e a
  | .patternMismatch _ e a => .patternMismatch q e a
  | .sizeMismatch _ e a => .sizeMismatch q e a
  | .countMismatch _ e a => .countMismatch q e a

/-- the Go runtime faults the describer could raise on data-dependent input -/
inductive Fault where
  | mergeHead      -- mergeDescriptions: `mismatches[0]` of an empty slice
  | tupleLast      -- describeTuple: `expected.Types()[exl-1]` with no types
  deriving DecidableEq, Repr

inductive Res where
  | ok (ms : List Mismatch)
  | fault (k : Fault)
  deriving Repr, Inhabited

/-! ### paths -/
/-- `canonicalPath`: without the variant and signature elements -/
def canonPath (p : Path) : Path := p.filter fun e => e.kind != .variant && e.kind != .signature

/-- `chopPath(m, index)`: drop the path element at `index` (none when the path is shorter) -/
def chopPath (m : Mismatch) (index : Nat) : Mismatch :=
  if index ≥ m.path.length then m else m.setPath (m.path.eraseIdx index)

/-! ### types held by mismatches -/
/-- `GuardedIsAssignable(TypeSet | Deferred, a)`: the receiver accepts none of the modelled types itself; what remains is the
    right-hand decomposition of types.go (Unit, NotUndef, Optional, alias, Variant) -/
def asgOpaque (cfg : Cfg) (sfh : Bool) : Ty → Bool
  | .unit => true
  | .notUndef nt => !asg cfg sfh nt .undef && asgOpaque cfg sfh nt
  | .variant bs => allO bs
  | _ => false
where allO : List Ty → Bool
  | [] => true
  | b :: bs => asgOpaque cfg sfh b && allO bs

/-- `px.IsAssignable(x, a)` -/
def Atom.accepts (cfg : Cfg) (sfh : Bool) (x : Atom) (a : Ty) : Bool :=
  match x with
  | .ty t => asg cfg sfh t a
  | .typeSet | .deferred => asgOpaque cfg sfh a

/-- `r.Equals(t, nil)` -/
def atomEq : Atom → Atom → Bool
  | .ty a, .ty b => tyEq a b
  | .typeSet, .typeSet => true
  | .deferred, .deferred => true
  | _, _ => false

/-- `types.UniqueTypes`: first occurrence wins, compared with `Equals` (the earlier member is the receiver) -/
def uniqueAAux (seen : List Atom) : List Atom → List Atom
  | [] => []
  | t :: ts => if seen.any (fun s => atomEq s t) then uniqueAAux seen ts else t :: uniqueAAux (t :: seen) ts

def uniqueA (ts : List Atom) : List Atom :=
  if ts.length < 2 then ts else uniqueAAux [] ts

/-- `types.NewVariantType(ts...)`: no member → the default Variant, one member → that member -/
def mkVarA : List Atom → Exp
  | [] => .merged []
  | [x] => .atom x
  | xs => .merged xs

/-- the four cases of `mergeMismatch` on two type mismatches -/
def mergeExp (et ot : Exp) : Exp :=
  match et.split, ot.split with
  | .inr ev, .inr ov => mkVarA (uniqueA (ev ++ ov))
  | .inr ev, .inl o => mkVarA (uniqueA (ev ++ [o]))
  | .inl e, .inr ov => mkVarA (uniqueA (e :: ov))
  | .inl e, .inl o => if !atomEq e o then .merged [e, o] else et

/-- `mergeMismatch(m, o, m.path())` -/
def mergeMismatch (m o : Mismatch) : Mismatch :=
  match m with
  | .typeMismatch p et a =>
      (match o with
       | .typeMismatch _ ot _ => .typeMismatch p (mergeExp et ot) a
       | _ => m)
  | .sizeMismatch p e a =>
      (match o with
       | .sizeMismatch _ e' _ | .countMismatch _ e' _ => .sizeMismatch p (e.hull e') a
       | _ => m)
  | .countMismatch p e a =>
      (match o with
       | .sizeMismatch _ e' _ | .countMismatch _ e' _ => .countMismatch p (e.hull e') a
       | _ => m)
  | .patternMismatch p _ a =>
      -- case expectedActualMismatch: `eam.setExpected(oam.expected())`; never reached (the pattern class is not merged)
      (match o with
       | .patternMismatch _ e' _ => .patternMismatch p e' a
       | _ => m)
  | m => m

/-- the inner loop of `mergeDescriptions`: fold `mergeMismatch` while the canonical paths agree -/
def foldMerge (prev : Mismatch) : List Mismatch → Option Mismatch
  | [] => some prev
  | curr :: rest =>
    if canonPath prev.path == canonPath curr.path then foldMerge (mergeMismatch prev curr) rest else none

/-- the loop over `[sm, missingRequiredBlock, unexpectedBlock, typeMismatch]` -/
def tryClasses (ds : List Mismatch) : List Cls → Res
  | [] => .ok ds
  | c :: cs =>
    let mm := ds.filter fun d => d.cls == c
    if mm.length == ds.length then
      match mm with
      | [] => .fault .mergeHead
      | m0 :: rest =>
        match foldMerge m0 rest with
        | some prev => .ok [prev]
        | none => tryClasses ds cs
    else tryClasses ds cs

/-- `mergeDescriptions(varyingPathPosition, sm, descriptions)` -/
def mergeDescriptions (pos : Nat) (sm : Cls) (ds : List Mismatch) : Res :=
  if ds.isEmpty then .ok [] else
  match tryClasses ds [sm, .missingRequiredBlock, .unexpectedBlock, .type] with
  | .fault k => .fault k
  | .ok [d] => .ok [chopPath d pos]
  | .ok ds' => .ok ds'

/-! ### the loops: what each container arm asks of `internalDescribe` -/
/-- one step of a loop body: a recursive description (`guarded`: only when `!IsAssignable(e, a)`) or a mismatch appended as is -/
inductive Item where
  | sub (e a : Ty) (pe : PE) (guarded : Bool)
  | leaf (m : Mismatch)
  deriving Repr, Inhabited

/-- `hm[name]` of `HashedMembersCloned`: the last member of that name -/
def lookupLast (n : String) : List Member → Option Member
  | [] => none
  | m :: ms =>
    match lookupLast n ms with
    | some r => some r
    | none => if m.1 == n then some m else none

/-- the keys left in the map, each once -/
def distinctNames : List Member → List String
  | [] => []
  | m :: ms => if (distinctNames ms).contains m.1 then distinctNames ms else m.1 :: distinctNames ms

/-- describeStructType, actual is a Struct: the loop over the expected members, then the keys left in `h2` -/
def structItems (p : Path) : List Member → List Member → List Item
  | [], h2 => (distinctNames h2).map fun k => .leaf (.extraneousKey p k)
  | (n, o, t) :: rest, h2 =>
    match lookupLast n h2 with
    | some (_, _, t') =>
        .sub (.strVal n) (.strVal n) ⟨.entryKey, n⟩ false :: .sub t t' ⟨.entry, n⟩ false ::
          structItems p rest (h2.filter fun m => m.1 != n)
    | none => (if o then [] else [.leaf (.missingKey p n)]) ++ structItems p rest h2

/-- `StructElement.Key()` -/
def memberKey (m : Member) : Ty := if m.2.1 then .optional (.strVal m.1) else .strVal m.1

/-- describeHashType, actual is a Struct -/
def hashItems (kt vt : Ty) : List Member → List Item
  | [] => []
  | m :: ms => .sub kt (memberKey m) ⟨.entryKey, m.1⟩ false :: .sub vt m.2.2 ⟨.entry, m.1⟩ false :: hashItems kt vt ms

/-- describeArrayType, actual is a Tuple -/
def arrTupItems (et : Ty) : List Ty → Nat → List Item
  | [], _ => []
  | a :: as, i => .sub et a (.nat .index i) true :: arrTupItems et as (i + 1)

/-- describeTuple, actual is an Array: every expected type against the element type -/
def tupArrItems (ae : Ty) : List Ty → Nat → List Item
  | [], _ => []
  | e :: es, i => .sub e ae (.nat .index i) false :: tupArrItems ae es (i + 1)

/-- describeTuple, actual is a Tuple: the positions at or beyond `exl`, against the last expected type -/
def tupTupItems (ext : Ty) (exl : Nat) : List Ty → Nat → List Item
  | [], _ => []
  | a :: as, i => (if i ≥ exl then [.sub ext a (.nat .index i) false] else []) ++ tupTupItems ext exl as (i + 1)

/-! ### termination weights -/
mutual
/-- head weight of an expected type: what `internalDescribe` may still unfold WITHOUT descending into the actual type -/
def hw : Ty → Nat
  | .variant ts => 2 + hwl ts
  | .optional t => 2 + hw t
  | .data => 20
  | .richData => 40
  | _ => 1
def hwl : List Ty → Nat
  | [] => 0
  | t :: ts => 2 + hw t + hwl ts
end

def Atom.hw : Atom → Nat
  | .ty t => Desc.hw t
  | _ => 1
def hwlA : List Atom → Nat
  | [] => 0
  | x :: xs => 2 + x.hw + hwlA xs

theorem hwlA_map (ts : List Ty) : hwlA (ts.map .ty) = hwl ts := by
  induction ts with
  | nil => simp [hwlA, hwl]
  | cons t ts ih => simp [hwlA, hwl, Atom.hw, ih]

def Item.aw : Item → Nat
  | .sub _ a _ _ => a.w
  | .leaf _ => 0
def Item.ew : Item → Nat
  | .sub e _ _ _ => hw e
  | .leaf _ => 0
def maxAW : List Item → Nat
  | [] => 0
  | i :: is => max i.aw (maxAW is)
def sumEW : List Item → Nat
  | [] => 0
  | i :: is => 1 + i.ew + sumEW is

/-! ### what the loops hold: used for termination here, for what is reported in `Proofs/DescribePos.lean` -/
theorem lookupLast_mem {n : String} {ms : List Member} {m : Member} (h : lookupLast n ms = some m) : m ∈ ms ∧ m.1 = n := by
  induction ms with
  | nil => simp [lookupLast] at h
  | cons x xs ih =>
    simp only [lookupLast] at h
    cases hx : lookupLast n xs with
    | some r =>
      rw [hx] at h; simp only [Option.some.injEq] at h; subst h
      exact ⟨List.mem_cons_of_mem _ (ih hx).1, (ih hx).2⟩
    | none =>
      rw [hx] at h
      by_cases hn : x.1 = n
      · simp [hn] at h; subst h; exact ⟨List.mem_cons_self, hn⟩
      · simp [hn] at h

theorem lookupLast_none {n : String} {ms : List Member} : lookupLast n ms = none ↔ ∀ m ∈ ms, m.1 ≠ n := by
  induction ms with
  | nil => simp [lookupLast]
  | cons x xs ih =>
    simp only [lookupLast]
    cases hx : lookupLast n xs with
    | some r =>
      simp only [reduceCtorEq, false_iff]
      intro hall
      exact (hall r (List.mem_cons_of_mem _ (lookupLast_mem hx).1)) (lookupLast_mem hx).2
    | none =>
      have := ih.mp hx
      by_cases hn : x.1 = n
      · simp [hn]
      · simp only [beq_iff_eq, hn, if_false, true_iff, List.mem_cons, forall_eq_or_imp, ne_eq, not_false_eq_true, true_and]
        exact this

theorem distinctNames_mem {k : String} {ms : List Member} (h : k ∈ distinctNames ms) : ∃ m ∈ ms, m.1 = k := by
  induction ms with
  | nil => simp [distinctNames] at h
  | cons x xs ih =>
    simp only [distinctNames] at h
    split at h
    · obtain ⟨m, hm, hk⟩ := ih h; exact ⟨m, List.mem_cons_of_mem _ hm, hk⟩
    · rcases List.mem_cons.mp h with rfl | h'
      · exact ⟨x, List.mem_cons_self, rfl⟩
      · obtain ⟨m, hm, hk⟩ := ih h'; exact ⟨m, List.mem_cons_of_mem _ hm, hk⟩

/-- the three kinds of items of the Struct/Struct loop -/
def StructItemOK (p : Path) (ms h2 : List Member) (it : Item) : Prop :=
  (∃ k, it = .leaf (.extraneousKey p k) ∧ (∃ m ∈ h2, m.1 = k) ∧ ∀ m ∈ ms, m.1 ≠ k) ∨
  (∃ k, it = .leaf (.missingKey p k) ∧ (∃ t, (k, false, t) ∈ ms) ∧ (lookupLast k h2 = none ∨ ¬ (ms.map (·.1)).Nodup)) ∨
  (∃ n o t m', (n, o, t) ∈ ms ∧ m' ∈ h2 ∧ m'.1 = n ∧
    (it = .sub (.strVal n) (.strVal n) ⟨.entryKey, n⟩ false ∨ it = .sub t m'.2.2 ⟨.entry, n⟩ false))

/-- one more expected member `n` in front, the map `h2'` being what is left of `h2` once the loop has passed it: no member named
    `n`, and a name other than `n` that `h2'` lacks, `h2` lacks -/
theorem StructItemOK.cons {p : Path} {n : String} {o : Bool} {t : Ty} {rest h2 h2' : List Member} {it : Item}
    (hsub : ∀ m ∈ h2', m ∈ h2 ∧ m.1 ≠ n) (hlook : ∀ k, k ≠ n → lookupLast k h2' = none → lookupLast k h2 = none)
    (h : StructItemOK p rest h2' it) : StructItemOK p ((n, o, t) :: rest) h2 it := by
  rcases h with ⟨k, rfl, ⟨m, hm, hmk⟩, hno⟩ | ⟨k, rfl, ⟨t2, ht2⟩, hor⟩ | ⟨n2, o2, t2, m', hin, hm', hn2, hor⟩
  · refine .inl ⟨k, rfl, ⟨m, (hsub m hm).1, hmk⟩, fun x hx => ?_⟩
    rcases List.mem_cons.mp hx with rfl | hx
    · exact fun h => (hsub m hm).2 (hmk.trans h.symm)
    · exact hno x hx
  · refine .inr (.inl ⟨k, rfl, ⟨t2, List.mem_cons_of_mem _ ht2⟩, ?_⟩)
    -- a second member of that name makes the names of the expected Struct not pairwise different
    by_cases hkn : k = n
    · exact .inr fun hnd => (List.nodup_cons.mp hnd).1 (hkn ▸ List.mem_map.mpr ⟨_, ht2, rfl⟩)
    · exact hor.imp (hlook k hkn) fun hdup hnd => hdup (List.nodup_cons.mp hnd).2
  · exact .inr (.inr ⟨n2, o2, t2, m', List.mem_cons_of_mem _ hin, (hsub m' hm').1, hn2, hor⟩)

theorem structItems_spec (p : Path) (ms h2 : List Member) : ∀ it ∈ structItems p ms h2, StructItemOK p ms h2 it := by
  induction ms generalizing h2 with
  | nil =>
    intro it hit
    simp only [structItems, List.mem_map] at hit
    obtain ⟨k, hk, rfl⟩ := hit
    exact .inl ⟨k, rfl, distinctNames_mem hk, by intro m hm; cases hm⟩
  | cons hd rest ih =>
    obtain ⟨n, o, t⟩ := hd
    intro it hit
    simp only [structItems] at hit
    cases hl : lookupLast n h2 with
    | some r =>
      rw [hl] at hit
      simp only [List.mem_cons] at hit
      have hr := lookupLast_mem hl
      rcases hit with rfl | rfl | hit
      · exact .inr (.inr ⟨n, o, t, r, List.mem_cons_self, hr.1, hr.2, .inl rfl⟩)
      · exact .inr (.inr ⟨n, o, t, r, List.mem_cons_self, hr.1, hr.2, .inr rfl⟩)
      · refine (ih _ it hit).cons (fun m hm => ?_) fun k hkn hnone => ?_
        · have hm2 := List.mem_filter.mp hm
          exact ⟨hm2.1, by simpa using hm2.2⟩
        · rw [lookupLast_none] at hnone ⊢
          exact fun m hm hmk => hnone m (List.mem_filter.mpr ⟨hm, by simpa [hmk] using hkn⟩) hmk
    | none =>
      rw [hl] at hit
      rcases List.mem_append.mp hit with hit | hit
      · cases o with
        | true => simp at hit
        | false =>
          simp only [Bool.false_eq_true, if_false, List.mem_singleton] at hit
          subst hit
          exact .inr (.inl ⟨n, rfl, ⟨t, List.mem_cons_self⟩, .inl hl⟩)
      · exact (ih _ it hit).cons (fun m hm => ⟨hm, lookupLast_none.mp hl m hm⟩) fun _ _ h => h

theorem hashItems_spec (kt vt : Ty) (ms' : List Member) : ∀ it ∈ hashItems kt vt ms', ∃ m' ∈ ms',
    it = .sub kt (memberKey m') ⟨.entryKey, m'.1⟩ false ∨ it = .sub vt m'.2.2 ⟨.entry, m'.1⟩ false := by
  induction ms' with
  | nil => intro it hit; simp [hashItems] at hit
  | cons m ms ih =>
    intro it hit
    simp only [hashItems, List.mem_cons] at hit
    rcases hit with rfl | rfl | hit
    · exact ⟨m, List.mem_cons_self, .inl rfl⟩
    · exact ⟨m, List.mem_cons_self, .inr rfl⟩
    · obtain ⟨m', hm', h⟩ := ih it hit; exact ⟨m', List.mem_cons_of_mem _ hm', h⟩

/-- a loop over a list of types by position: what it holds, it holds for the type at some position `j`, under the number `j + i` -/
theorem mem_indexed {loop : List Ty → Nat → List Item} {f : Ty → Nat → List Item} (hnil : ∀ i, loop [] i = [])
    (hcons : ∀ a as i, loop (a :: as) i = f a i ++ loop as (i + 1)) (as : List Ty) (i : Nat) :
    ∀ it ∈ loop as i, ∃ j t, as[j]? = some t ∧ it ∈ f t (j + i) := by
  induction as generalizing i with
  | nil => intro it hit; rw [hnil] at hit; cases hit
  | cons a as ih =>
    intro it hit
    rw [hcons] at hit
    rcases List.mem_append.mp hit with hit | hit
    · exact ⟨0, a, rfl, by rwa [Nat.zero_add]⟩
    · obtain ⟨j, t, hj, h⟩ := ih (i + 1) it hit
      exact ⟨j + 1, t, hj, by rwa [Nat.add_right_comm]⟩

theorem arrTupItems_spec (et : Ty) (as : List Ty) (i : Nat) : ∀ it ∈ arrTupItems et as i, ∃ j t',
    as[j]? = some t' ∧ it = .sub et t' (PE.nat .index (j + i)) true := by
  intro it hit
  obtain ⟨j, t', hj, h⟩ := mem_indexed (f := fun a i => [.sub et a (PE.nat .index i) true]) (fun _ => rfl) (fun _ _ _ => rfl) as i it hit
  exact ⟨j, t', hj, List.mem_singleton.mp h⟩

theorem tupArrItems_spec (ae : Ty) (es : List Ty) (i : Nat) : ∀ it ∈ tupArrItems ae es i, ∃ j t,
    es[j]? = some t ∧ it = .sub t ae (PE.nat .index (j + i)) false := by
  intro it hit
  obtain ⟨j, t, hj, h⟩ := mem_indexed (f := fun e i => [.sub e ae (PE.nat .index i) false]) (fun _ => rfl) (fun _ _ _ => rfl) es i it hit
  exact ⟨j, t, hj, List.mem_singleton.mp h⟩

theorem tupTupItems_spec (ext : Ty) (exl : Nat) (as : List Ty) (i : Nat) : ∀ it ∈ tupTupItems ext exl as i, ∃ j t',
    as[j]? = some t' ∧ exl ≤ j + i ∧ it = .sub ext t' (PE.nat .index (j + i)) false := by
  intro it hit
  obtain ⟨j, t', hj, h⟩ := mem_indexed (f := fun a i => if i ≥ exl then [.sub ext a (PE.nat .index i) false] else [])
    (fun _ => rfl) (fun _ _ _ => rfl) as i it hit
  split at h
  · exact ⟨j, t', hj, ‹_›, List.mem_singleton.mp h⟩
  · cases h

/-! ### every item of a loop holds a part of the actual type -/
theorem maxAW_lt {items : List Item} {n : Nat} (hn : 0 < n) (h : ∀ it ∈ items, it.aw < n) : maxAW items < n := by
  induction items with
  | nil => exact hn
  | cons x xs ih => exact Nat.max_lt.mpr ⟨h x List.mem_cons_self, ih fun it hit => h it (List.mem_cons_of_mem _ hit)⟩

theorem maxAW_structItems (p : Path) (ms h2 : List Member) : maxAW (structItems p ms h2) < 2 + Ty.wm h2 := by
  refine maxAW_lt (by omega) fun it hit => ?_
  rcases structItems_spec p ms h2 it hit with ⟨k, rfl, _⟩ | ⟨k, rfl, _⟩ | ⟨n, o, t, m', _, hm', _, rfl | rfl⟩
  · exact Nat.lt_add_right _ Nat.zero_lt_two
  · exact Nat.lt_add_right _ Nat.zero_lt_two
  · simp only [Item.aw, Ty.w]; omega
  · exact Nat.lt_add_left _ (Ty.w_lt_wm hm')

theorem maxAW_hashItems (kt vt : Ty) (ms : List Member) : maxAW (hashItems kt vt ms) < 2 + Ty.wm ms := by
  refine maxAW_lt (by omega) fun it hit => ?_
  obtain ⟨m', hm', rfl | rfl⟩ := hashItems_spec kt vt ms it hit
  · -- the key of a member weighs at most 3, a list with a member more than 1
    have := Ty.w_lt_wm hm'
    have := Ty.w_pos m'.2.2
    have : (memberKey m').w ≤ 3 := by unfold memberKey; split <;> simp [Ty.w]
    simp only [Item.aw]; omega
  · exact Nat.lt_add_left _ (Ty.w_lt_wm hm')

theorem maxAW_arrTupItems (et : Ty) (as : List Ty) (i : Nat) : maxAW (arrTupItems et as i) < 2 + Ty.wl as := by
  refine maxAW_lt (by omega) fun it hit => ?_
  obtain ⟨j, t', hj, rfl⟩ := arrTupItems_spec et as i it hit
  exact Nat.lt_add_left _ (Ty.w_lt_wl (List.mem_of_getElem? hj))

theorem maxAW_tupArrItems (ae : Ty) (es : List Ty) (i : Nat) : maxAW (tupArrItems ae es i) < 2 + ae.w := by
  refine maxAW_lt (by omega) fun it hit => ?_
  obtain ⟨j, t, _, rfl⟩ := tupArrItems_spec ae es i it hit
  simp only [Item.aw]; omega

theorem maxAW_tupTupItems (ext : Ty) (exl : Nat) (as : List Ty) (i : Nat) : maxAW (tupTupItems ext exl as i) < 2 + Ty.wl as := by
  refine maxAW_lt (by omega) fun it hit => ?_
  obtain ⟨j, t', hj, _, rfl⟩ := tupTupItems_spec ext exl as i it hit
  exact Nat.lt_add_left _ (Ty.w_lt_wl (List.mem_of_getElem? hj))

/-! ### the describer -/
/-- the resolved type of the alias Data: `Variant[ScalarData, Undef, Array[Data], Hash[String, Data]]` -/
def dataMembers : List Atom :=
  [.ty .scalarData, .ty .undef, .ty (.array .data Rng.pos), .ty (.hash .str .data Rng.pos)]

/-- the resolved type of the alias RichData -/
def richMembers : List Atom :=
  [.ty .scalar, .ty .bin, .ty .dflt, .ty (.object none), .ty (.typ .any), .typeSet, .deferred, .ty .undef,
   .ty (.array .richData Rng.pos), .ty (.hash (.variant [.str, .numeric]) .richData Rng.pos)]

/-- `_, ok := original.(*types.TypeAliasType)` -/
def isAlias : Ty → Bool
  | .data | .richData => true
  | .variant [_] => true          -- a user alias (see the header)
  | _ => false

/-- `_, ok := actual.(*types.UndefType)` -/
def isUndef : Ty → Bool
  | .undef => true
  | _ => false

/-- `_, ok := original.(*types.OptionalType)` -/
def isOptional : Ty → Bool
  | .optional _ => true
  | _ => false

/-- result of the member loop of describeVariantType: `hit` = some member accepts the actual type (`return NoMismatch`) -/
inductive VRes where
  | acc (ds : List Mismatch)
  | hit
  | fault (k : Fault)
  deriving Repr, Inhabited

/-- `append(descriptions, more...)` where either side may have faulted (the left one first) -/
def Res.append : Res → Res → Res
  | .fault k, _ => .fault k
  | .ok _, .fault k => .fault k
  | .ok a, .ok b => .ok (a ++ b)

/-- one turn of the member loop: the description of this member, then the rest of the loop -/
def VRes.cons : Res → VRes → VRes
  | .fault k, _ => .fault k
  | .ok _, .fault k => .fault k
  | .ok _, .hit => .hit
  | .ok d, .acc ds => .acc (d ++ ds)

section
variable (cfg : Cfg) (sfh : Bool)

/-- the end of describeVariantType: merge, and for an alias one single mismatch on the alias -/
def variantTail (o a : Ty) (p : Path) : VRes → Res
  | .fault k => .fault k
  | .hit => .ok []
  | .acc vs =>
    match mergeDescriptions p.length .size vs with
    | .fault k => .fault k
    | .ok ds => if isAlias o && ds.length == 1 then .ok [.typeMismatch p (.ofTy o) a] else .ok ds

/-- `append`-free sequencing of describeCallableType: the parameter errors, and only when there are none what follows -/
def Res.orElse : Res → Res → Res
  | .fault k, _ => .fault k
  | .ok [], r => r
  | .ok ds, _ => .ok ds

/-- describeCallableType, the block: absent actual = Undef; a block type that does not accept it is a missing required block, any
    other one a type mismatch below a `block` path element -/
def callBlock (bl bl' : Option Ty) (p : Path) : Res :=
  match bl with
  | none => .ok []
  | some eb =>
    if asg cfg sfh eb (bl'.getD .undef) then .ok [] else
    match bl' with
    | none => .ok [.missingRequiredBlock p]
    | some ab => .ok [.typeMismatch (p ++ [⟨.block, ""⟩]) (.ofTy eb) ab]

/-- describeCallableType after the parameters: the return type (absent actual = Any; mismatch below a `return` path element), then the
    block -/
def callTail (rt bl rt' bl' : Option Ty) (p : Path) : Res :=
  match rt with
  | some er =>
      if asg cfg sfh er (rt'.getD .any) then callBlock cfg sfh bl bl' p
      else .ok [.typeMismatch (p ++ [⟨.ret, ""⟩]) (.ofTy er) (rt'.getD .any)]
  | none => callBlock cfg sfh bl bl' p

mutual
/-- `internalDescribe(expected, original, actual, path)` -/
def internalDescribe (e o a : Ty) (p : Path) : Res :=
  match e with
  | .variant [t] => internalDescribe t e a p          -- describeTypeAliasType: the alias becomes the original
  | .variant ts =>
      if asg cfg sfh e a then .ok [] else
      variantTail o a p (descVar (ts.map .ty) (isOptional o) 0 a p)
  | .data =>
      if asg cfg sfh .data a then .ok [] else
      variantTail .data a p (descVar dataMembers false 0 a p)
  | .richData =>
      if asg cfg sfh .richData a then .ok [] else
      variantTail .richData a p (descVar richMembers false 0 a p)
  | .struct ms =>
      (match a with
       | .struct ms' => descAll (structItems p ms ms') p
       | .hash k' v' r' =>
           if asg cfg sfh e a then .ok []
           else if (structSize ms).sub r' then .ok [.typeMismatch p (.ofTy o) (.hash k' v' Rng.pos)]
           else .ok [.sizeMismatch p (structSize ms) r']
       | _ => .ok [.typeMismatch p (.ofTy o) a])
  | .hash k v r =>
      (match a with
       | .struct ms' =>
           if r.sub (structSize ms') then descAll (hashItems k v ms') p
           else .ok [.sizeMismatch p r (structSize ms')]
       | .hash k' v' r' =>
           if asg cfg sfh e a then .ok []
           else if r.sub r' then .ok [.typeMismatch p (.ofTy o) (.hash k' v' Rng.pos)]
           else .ok [.sizeMismatch p r r']
       | _ => .ok [.typeMismatch p (.ofTy o) a])
  | .tuple ts g =>
      (match a with
       | .array e' r' =>
           if ts.isEmpty || asg cfg sfh e a then .ok []
           else if e'.isAny then .ok [.typeMismatch p (.ofTy o) a]
           else if !(tupleSize ts g).sub r' then .ok [.countMismatch p (tupleSize ts g) r']
           else descAll (tupArrItems e' ts 0) p
       | .tuple ts' g' =>
           if tyEq e a || asg cfg sfh e a then .ok []
           else if !(tupleSize ts g).sub (tupleSize ts' g') then .ok [.countMismatch p (tupleSize ts g) (tupleSize ts' g')]
           else if ts.length == 0 then .ok []
           else
             match ts.getLast? with
             | none => .fault .tupleLast
             | some ext => descAll (tupTupItems ext ts.length ts' 0) p
       | _ => .ok [.typeMismatch p (.ofTy o) a])
  | .array et r =>
      (match a with
       | .tuple ts' g' =>
           if r.sub (tupleSize ts' g') then descAll (arrTupItems et ts' 0) p
           else .ok [.sizeMismatch p r (tupleSize ts' g')]
       | .array e' r' =>
           if asg cfg sfh e a then .ok []
           else if r.sub r' then .ok [.typeMismatch p (.ofTy o) (.array e' Rng.pos)]
           else .ok [.sizeMismatch p r r']
       | _ => .ok [.typeMismatch p (.ofTy o) a])
  | .callable ps rt bl =>
      -- describeCallableType: the parameters through describeArgumentTuple (= describeTuple(ep, ep, actual parameters or the default
      -- Tuple, path): the SAME path, expected against actual — not in reverse as IsAssignable compares them), then `callTail`
      (match a with
       | .callable (some ap) rt' bl' =>
           (match ps with
            | some ep => Res.orElse (internalDescribe ep ep ap p) (callTail cfg sfh rt bl rt' bl' p)
            | none => callTail cfg sfh rt bl rt' bl' p)
       | .callable none rt' bl' =>
           (match ps with
            | some ep => Res.orElse (internalDescribe ep ep (.tuple [] (some Rng.pos)) p) (callTail cfg sfh rt bl rt' bl' p)
            | none => callTail cfg sfh rt bl rt' bl' p)
       | _ => .ok [.typeMismatch p (.ofTy o) a])
  | .optional t =>
      if isUndef a then .ok [] else internalDescribe t (if isAlias o then o else e) a p
  | .pattern _ => if asg cfg sfh e a then .ok [] else .ok [.patternMismatch p o a]
  | .enum _ _ => if asg cfg sfh e a then .ok [] else .ok [.patternMismatch p o a]
  | _ => if asg cfg sfh e a then .ok [] else .ok [.typeMismatch p (.ofTy o) a]
termination_by (a.w, hw e)
decreasing_by
  all_goals simp_wf
  all_goals first
    | (apply Prod.Lex.right; simp only [hw, hwl, hwlA_map, dataMembers, richMembers, hwlA, Atom.hw]; omega)
    | (apply Prod.Lex.left; simp only [Ty.w, Ty.wo, Ty.wl]; omega)
    | (apply Prod.Lex.left; simp only [Ty.w]
       first
        | exact maxAW_structItems _ _ _
        | exact maxAW_hashItems _ _ _
        | exact maxAW_arrTupItems _ _ _
        | exact maxAW_tupArrItems _ _ _
        | exact maxAW_tupTupItems _ _ _ _)

/-- run the items of a loop in order, appending what each yields -/
def descAll (items : List Item) (p : Path) : Res :=
  match items with
  | [] => .ok []
  | .leaf m :: rest => Res.append (.ok [m]) (descAll rest p)
  | .sub e a pe true :: rest =>
      if asg cfg sfh e a then descAll rest p
      else Res.append (internalDescribe e e a (p ++ [pe])) (descAll rest p)
  | .sub e a pe false :: rest => Res.append (internalDescribe e e a (p ++ [pe])) (descAll rest p)
termination_by (maxAW items, sumEW items)
decreasing_by
  all_goals simp_wf
  all_goals (try simp only [maxAW, sumEW, Item.aw, Item.ew])
  all_goals (rw [Prod.lex_def]; simp only []; omega)

/-- the member loop of describeVariantType from member number `i` on -/
def descVar (xs : List Atom) (addUndef : Bool) (i : Nat) (a : Ty) (p : Path) : VRes :=
  match xs with
  | [] =>
      if addUndef then
        (if asg cfg sfh .undef a then .hit else .acc [.typeMismatch (p ++ [PE.nat .variant i]) (.ofTy .undef) a])
      else .acc []
  | .ty t :: xs =>
      if asg cfg sfh t a then .hit
      else VRes.cons (internalDescribe t t a (p ++ [PE.nat .variant i])) (descVar xs addUndef (i + 1) a p)
  | x :: xs =>
      if asgOpaque cfg sfh a then .hit
      else VRes.cons (.ok [.typeMismatch (p ++ [PE.nat .variant i]) (.atom x) a]) (descVar xs addUndef (i + 1) a p)
termination_by (a.w, hwlA xs)
decreasing_by
  all_goals simp_wf
  all_goals (apply Prod.Lex.right; simp only [hwlA, Atom.hw]; omega)
end

/-- `describe(expected, actual, path)` -/
def describe (e a : Ty) (p : Path) : Res :=
  if asg cfg sfh e a then .ok [] else
  match internalDescribe cfg sfh e e a p with
  | .fault k => .fault k
  | .ok [] => .ok [.typeMismatch p (.ofTy e) a]
  | .ok ds => .ok ds

/-- the path `px.DescribeMismatch(name, …)` starts from: `{"function <name>:", subject}` -/
def subjectPath (name : String) : Path := [⟨.subject, "function " ++ name ++ ":"⟩]

end
end Pcore.Desc

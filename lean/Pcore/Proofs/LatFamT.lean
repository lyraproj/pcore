import Pcore.Proofs.LatFam
import Pcore.Proofs.LatCommonAll
set_option linter.unusedSimpArgs false
/-! C04, first law for values that HOLD TYPE VALUES: the family of inferred types with `Type[T]` for every well-formed `T` of the
    fragment of transitivity (`Ty.TA sfh`: every type of the model but Unit and Callable; Struct only with the rule off), and `commonType` on it.
    `PType()` of a type value `T` is `Type[T]`; `commonType(Type[x], Type[y]) = Type[commonType(x, y)]` recurses into ARBITRARY types, where
    it is an upper bound by `common_all` (LatCommonAll: the Tuple / Variant merges need transitivity, `C03_trans_alias_partial`); the fold invariant of
    `privateReducedType` then needs C01 for `Type[..]` receivers with such contents: the `Type[T]` clause of `Ty.Frag` (LatFrag) asks `T ∈ Ty.TA`. -/
namespace Pcore.Lat
variable (cfg : Cfg) (sfh : Bool)

/-- `Ty.Fam` (the types `PType()` produces for values without type values, closed under `commonType`) plus `Type[T]` for every well-formed
    `T` without Unit and Callable (`CG` = `Ty.WF ∧ Ty.TA sfh`) -/
def Ty.FamT (t : Ty) : Prop :=
  match t with
  | .any | .undef | .dflt | .scalar | .scalarData | .numeric | .data | .richData | .bin | .str => True
  | .int _ | .float _ _ | .bool _ | .tspan _ | .tstamp _ | .strVal _ | .regexp _ | .object _ => True
  | .enum _ ci => ci = false
  | .array e r => ((match e with | .unit => True | _ => False) ∧ r.hi ≤ 0) ∨ Ty.FamT e
  | .hash k v r => ((match k with | .unit => True | _ => False) ∧ (match v with | .unit => True | _ => False) ∧ r.hi ≤ 0) ∨
      (Ty.FamT k ∧ Ty.FamT v)
  | .sensitive t' => Ty.FamT t'
  | .typ t' => CG cfg sfh t'
  | _ => False
termination_by t.w
decreasing_by
  all_goals simp_wf
  all_goals (try simp only [Ty.w, Ty.wl, Ty.wm] at *)
  all_goals omega

theorem Ty.FamT.step (t : Ty) : t.FamT cfg sfh ↔ FamStep (Ty.FamT cfg sfh) (CG cfg sfh) t := by
  cases t <;> (conv => lhs; unfold Ty.FamT) <;> exact Iff.rfl

theorem famT_good : ∀ (n : Nat) (t : Ty), t.w ≤ n → t.FamT cfg sfh → Ty.Good cfg sfh t :=
  fun _ t _ => famStep_good cfg sfh (Ty.FamT.step cfg sfh) (fun _ h => h) t

set_option linter.unusedVariables false in
theorem famT_refl (n : Nat) (t : Ty) (hw : t.w ≤ n) (h : t.FamT cfg sfh) : asg cfg sfh t t = true :=
  famStep_refl cfg sfh (Ty.FamT.step cfg sfh) (fun _ h => h) h

def CFT (a b c : Ty) : Prop := c.FamT cfg sfh ∧ asg cfg sfh c a = true ∧ asg cfg sfh c b = true

/-- inside `Type[..]`, `commonType` is an upper bound on all of `Ty.TA` (`common_all`, from `C03_trans_alias_partial`) -/
theorem common_famT (hl : ∀ s, (cfg.lower s).length = s.length) (hidem : ∀ s, cfg.lower (cfg.lower s) = cfg.lower s) :
    ∀ (n : Nat) (a b : Ty), a.FamT cfg sfh → b.FamT cfg sfh → CFT cfg sfh a b (commonF cfg sfh n a b) :=
  common_famStep cfg sfh (Ty.FamT.step cfg sfh) (fun _ h => h) (common_all cfg sfh hl hidem)

theorem famT_inferFam (hl : ∀ s, (cfg.lower s).length = s.length) (hidem : ∀ s, cfg.lower (cfg.lower s) = cfg.lower s) :
    InferFam cfg sfh (Ty.FamT cfg sfh) (CG cfg sfh) :=
  famStep_inferFam cfg sfh (Ty.FamT.step cfg sfh) (fun _ h => h) (common_all cfg sfh hl hidem)

theorem Val.allTyp_of_tyOKS (v : Val) : Val.TyOKS cfg sfh v → Val.AllTyp (CG cfg sfh) v := by
  induction v using Val.ind with
  | typ t => intro tv; cases tv with | typ _ h1 h2 => exact Val.AllTyp.typ t ⟨h2, h1⟩
  | sensitive x ih => intro tv; exact Val.AllTyp.sensitive x (ih tv.inner)
  | array vs ih => intro tv; exact Val.AllTyp.array vs (fun x hx => ih x hx (tv.elems x hx))
  | hash es ih1 ih2 =>
    intro tv; exact Val.AllTyp.hash es (fun e he => ih1 e he (tv.keys e he)) (fun e he => ih2 e he (tv.vals e he))
  | tstamp n => intro tv; cases tv
  | _ => intro _; constructor

theorem Val.TyOKS.allTyp : ∀ (n : Nat) (v : Val), v.w ≤ n → Val.TyOKS cfg sfh v → Val.AllTyp (CG cfg sfh) v :=
  fun _ v _ => Val.allTyp_of_tyOKS cfg sfh v

/-- FIRST LAW of C04 for every value, type values included (any well-formed type without Unit and Callable; Struct only with the rule off) -/
theorem ptype_famT (hl : ∀ s, (cfg.lower s).length = s.length) (hidem : ∀ s, cfg.lower (cfg.lower s) = cfg.lower s)
    (v : Val) (ok : v.OK) (tv : Val.TyOKS cfg sfh v) :
    inst cfg sfh (ptype cfg sfh v) v = true ∧ (ptype cfg sfh v).FamT cfg sfh :=
  ptype_inst cfg sfh hl (Ty.FamT cfg sfh) (CG cfg sfh) (famT_inferFam cfg sfh hl hidem) v ok tv
    (Val.allTyp_of_tyOKS cfg sfh v tv)

/-- SECOND LAW of C04 for every value (type values included) without a hash of the empty-string-key shape -/
theorem dtype_famT (hl : ∀ s, (cfg.lower s).length = s.length) (hidem : ∀ s, cfg.lower (cfg.lower s) = cfg.lower s) : ∀ (n : Nat) (v : Val), v.w ≤ n → v.OK → Val.TyOKS cfg sfh v →
    Val.NoEmptyKey v → Val.Structy cfg sfh v :=
  fun _ v _ ok tv ne => (dtype_fam_both cfg sfh hl _ _ (famT_inferFam cfg sfh hl hidem) v ok tv
    (Val.allTyp_of_tyOKS cfg sfh v tv) ne).1

omit sfh in
/-- the detailed type of such a value meets the side conditions of C01 (rule off: it may hold Structs) -/
theorem dtype_goodT (hl : ∀ s, (cfg.lower s).length = s.length) (hidem : ∀ s, cfg.lower (cfg.lower s) = cfg.lower s) : ∀ (n : Nat) (v : Val), v.w ≤ n → v.OK → Val.TyOKS cfg false v →
    Val.NoEmptyKey v → Ty.Good cfg false (dtype cfg false v) :=
  fun _ v _ ok tv ne => (dtype_fam_both cfg false hl _ _ (famT_inferFam cfg false hl hidem) v ok tv
    (Val.allTyp_of_tyOKS cfg false v tv) ne).2 rfl

end Pcore.Lat

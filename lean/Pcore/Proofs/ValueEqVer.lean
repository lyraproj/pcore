import Pcore.Model.ValueEqVer
/-! Helper lemmas for C07: `Version.Equals` / `VersionRange.Equals` are structural equality of the parsed data. -/
namespace Pcore.ValueEq

theorem segEq_iff (a b : Seg) : segEq a b = true ↔ a = b := by
  cases a <;> cases b <;> simp [segEq]

theorem segsEq_iff : ∀ a b : List Seg, segsEq a b = true ↔ a = b
  | [], [] => by simp [segsEq]
  | [], _ :: _ => by simp [segsEq]
  | _ :: _, [] => by simp [segsEq]
  | a :: as, b :: bs => by simp [segsEq, segEq_iff, segsEq_iff as bs]

theorem partsEq_iff : ∀ a b : List Bytes, partsEq a b = true ↔ a = b
  | [], [] => by simp [partsEq]
  | [], _ :: _ => by simp [partsEq]
  | _ :: _, [] => by simp [partsEq]
  | a :: as, b :: bs => by simp [partsEq, partsEq_iff as bs]

theorem equalSegs_iff (a b : Option (List Seg)) : equalSegs a b = true ↔ a = b := by
  cases a <;> cases b <;> simp [equalSegs, segsEq_iff]

theorem equalBuild_iff (a b : Option (List Bytes)) : equalBuild a b = true ↔ a = b := by
  cases a <;> cases b <;> simp [equalBuild, partsEq_iff]

theorem verEq_iff (a b : Ver) : verEq a b = true ↔ a = b := by
  cases a; cases b
  simp [verEq, equalSegs_iff, equalBuild_iff, and_assoc]

theorem boundEq_iff (a b : Bound) : boundEq a b = true ↔ a = b := by
  cases a; cases b
  simp [boundEq, verEq_iff]

theorem arEq_iff (a b : ARange) : arEq a b = true ↔ a = b := by
  cases a <;> cases b <;> simp [arEq, boundEq_iff]

theorem rangesEq_iff : ∀ a b : List ARange, rangesEq a b = true ↔ a = b
  | [], [] => by simp [rangesEq]
  | [], _ :: _ => by simp [rangesEq]
  | _ :: _, [] => by simp [rangesEq]
  | a :: as, b :: bs => by simp [rangesEq, arEq_iff, rangesEq_iff as bs]

theorem verEq_comm (a b : Ver) : verEq a b = verEq b a :=
  Bool.eq_iff_iff.mpr (by rw [verEq_iff, verEq_iff]; exact eq_comm)

theorem rangesEq_comm (a b : List ARange) : rangesEq a b = rangesEq b a :=
  Bool.eq_iff_iff.mpr (by rw [rangesEq_iff, rangesEq_iff]; exact eq_comm)

end Pcore.ValueEq

import Pcore.Proofs.TypedValRT
/-!
Sample environments and terms for the non-vacuity examples of `Props/C05.lean`, with the lemmas that establish their
hypotheses, and the comparison of a printed text with a string literal.
-/
namespace Pcore.Syntax

/-- To compare a computed text with a string literal, let the elaborator spell the literal out as a list of characters
    (`rfl : String.ofList ?l' = "…"` assigns `?l'`) and leave only the comparison of two lists to evaluation:
    `String.toList` on a literal goes through the UTF-8 bytes and is slow to evaluate, quadratically in the length. -/
theorem eq_toList {l l' : List Char} {s : String} (hs : String.ofList l' = s) (h : l = l') : l = s.toList := by
  rw [h, ← hs, String.toList_ofList]

/-- the same for a list of texts; `ls'` is given as a list of holes of the right length -/
theorem eq_map_toList {ls ls' : List (List Char)} {ss : List String} (hs : ls'.map String.ofList = ss) (h : ls = ls') :
    ls = ss.map String.toList := by
  subst hs h; simp [Function.comp_def]

/-- for a literal too long for the elaborator to spell out: compare as strings -/
theorem eq_toList_of_ofList {l : List Char} {s : String} (h : String.ofList l = s) : l = s.toList := by
  rw [← h, String.toList_ofList]

/-- an oracle for examples: ASCII letters, every regexp compiles, no float reader -/
def envEx : Env := { isLetter := fun c => isUpper c || isLower c, rxOK := fun _ => true, pf := fun _ => none }

/-- non-vacuity for object literals: `My::Lim('name' => 'it\'s', 'type' => Optional[String[1]], 'value' => [1, Pt()])`
    (a qualified type name, a type expression and a nested object literal as attribute values) parses to the constructor
    call `new My::Lim {…}` with a nested call `new Pt` -/
def sampleObj : Val :=
  .obj "My::Lim".toList [(.str "name".toList, .str ['i', 't', '\'', 's']),
    (.str "type".toList, .tyx "Optional".toList (some [.tyx "String".toList (some [.int 1])])),
    (.str "value".toList, .arr [.int 1, .obj "Pt".toList []])]
theorem objName_MyLim : ObjName "My::Lim".toList :=
  ⟨'M', ['y'], [('L', ['i', 'm'])], by decide, by decide, by decide, by
    intro p hp; simp only [List.mem_singleton] at hp; subst hp; exact ⟨by decide, by decide⟩⟩
theorem sampleObj_lit : Lit envEx sampleObj := by
  simp only [sampleObj, Lit, LitE, LitL]
  exact ⟨objName_MyLim, by decide, trivial, trivial, trivial,
    ⟨tyName_kind (.wrap .optional), by simp, ⟨tyName_kind .string, by simp, by decide, trivial⟩, trivial⟩, trivial,
    ⟨by decide, ⟨objName_of_tyName (tyName_of_B (by decide)), by decide, trivial⟩, trivial⟩, trivial⟩

/-- non-vacuity of the float parameter on types: with the exact reader `parseFloat` and a formatter that answers what the
    implementation prints for 1.5 and 2500.0, `Float[1.50000, 2500.00]`, `Float[1.50000]` and `Float[default, 2500.00]`
    are well-formed (the lexing half by `nextToken_simple_float`, the reading half by evaluation) and round-trip -/
def envF : Env :=
  { envEx with
    pf := parseFloat,
    ff := fun b => if b = 4609434218613702656 then "1.50000".toList else if b = 4657715973212602368 then "2500.00".toList else [] }
theorem lit_f15 : Lit envF (.float 4609434218613702656 "1.50000".toList) :=
  ⟨fun k hk => nextToken_simple_float envF.isLetter '1' [] '5' ['0', '0', '0', '0'] k (by decide) (by simp) (by decide)
      (by decide) hk, by decide +kernel⟩
theorem lit_f2500 : Lit envF (.float 4657715973212602368 "2500.00".toList) :=
  ⟨fun k hk => nextToken_simple_float envF.isLetter '2' ['5', '0', '0'] '0' ['0'] k (by decide) (by decide) (by decide)
      (by decide) hk, by decide +kernel⟩
def sampleFloats : List Ty :=
  [.float 4609434218613702656 "1.50000".toList 4657715973212602368 "2500.00".toList,
   .float 4609434218613702656 "1.50000".toList fPosMax [],
   .float fNegMax [] 4657715973212602368 "2500.00".toList,
   .struct [(['f'], false, .array (.float fNegMax [] 4657715973212602368 "2500.00".toList) 0 3)]]
theorem sampleFloats_wf : ∀ t ∈ sampleFloats, WFTy envF t := by
  have e1 : envF.ff 4609434218613702656 = "1.50000".toList := by decide
  have e2 : envF.ff 4657715973212602368 = "2500.00".toList := by decide
  have f1 : FloatIO envF 4609434218613702656 fNegMax "1.50000".toList :=
    (floatIO_ne envF (by decide) _).2 ⟨e1.symm, lit_f15⟩
  have f2 : FloatIO envF 4657715973212602368 fPosMax "2500.00".toList :=
    (floatIO_ne envF (by decide) _).2 ⟨e2.symm, lit_f2500⟩
  have d1 : FloatIO envF fNegMax fNegMax [] := (floatIO_dflt envF _ _).2 rfl
  have d2 : FloatIO envF fPosMax fPosMax [] := (floatIO_dflt envF _ _).2 rfl
  intro t ht
  simp only [sampleFloats, List.mem_cons, List.mem_nil_iff, or_false] at ht
  rcases ht with rfl | rfl | rfl | rfl
  · exact ⟨f1, f2, by decide⟩
  · exact ⟨f1, d2, by decide⟩
  · exact ⟨d1, f2, by decide⟩
  · exact ⟨by decide, ⟨⟨d1, f2, by decide⟩, by simp only [inI64, i64min, i64max]; decide⟩, trivial⟩

/-- non-vacuity: Callables in every invertible shape — sizes only, `Unit` + size, parameter types with and without size,
    block, optional block, return type (the parameters then in an array, where a leading Tuple and the default Tuple are
    fine), nested in each other and in Struct and Array -/
def sampleCallables : List Ty :=
  [.callable (some ([], some (0, 0))) none none,
   .callable (some ([tyUnit], some (1, 2))) none none,
   .callable (some ([tyUnit], some (0, 9223372036854775807))) none (some (.callable none none none)),
   .callable (some ([tyString, .int 0 5], none)) none none,
   .callable (some ([tyString], some (1, 9223372036854775807))) none (some (.wrap .optional (.callable none none none))),
   .callable (some ([], some (0, 9223372036854775807))) (some (.named "Undef".toList)) none,
   .callable (some ([], some (0, 9223372036854775807))) none (some (.callable (some ([tyString], none)) none none)),
   .callable (some ([.tuple [tyString] none, .callable none none none], none)) (some (.int 0 1))
     (some (.callable (some ([], some (0, 0))) none none)),
   .struct [(['f'], false, .callable (some ([.struct [(['a'], true, tyAny)]], some (0, 1))) (some tyAny) none)],
   .array (.callable (some ([.callable none none none, tyString], none)) none none) 0 3]
theorem sampleCallables_wf : ∀ t ∈ sampleCallables, WFTy envEx t := by
  intro t ht
  simp only [sampleCallables, List.mem_cons, List.mem_nil_iff, or_false] at ht
  rcases ht with rfl | rfl | rfl | rfl | rfl | rfl | rfl | rfl | rfl | rfl <;>
    (simp only [WFTy, WFTys, WFMs, WFOpt, CallableShape, sizeOK, inI64, i64min, i64max, tyUnit, tyString, tyAny, envEx]
     decide)

end Pcore.Syntax

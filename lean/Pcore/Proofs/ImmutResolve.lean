import Pcore.Model.ImmutResolve
/-!
# Resolving leaves every value as it was (helper lemmas for property C08)

`resolveW_frame`: when `(*deferred).Resolve` does not assign `e.arguments` (`W.dfrArgs = false`), one resolution over the
objects of a value whose memos are sound leaves the observable content of the value unchanged, keeps the memos sound and
answers exactly what the pure function `resolve` answers — whatever the DeferredType memo policy is.
-/
namespace Pcore.Immut

/-! ### resolution does not look at memos: values with the same observable content resolve alike -/

def eraseR : Except RErr RV → Except RErr RV
  | .ok v => .ok v.erase
  | .error e => .error e

def eraseRL : Except RErr (List RV) → Except RErr (List RV)
  | .ok vs => .ok (eraseL vs)
  | .error e => .error e

mutual
theorem erase_idem : ∀ v : RV, v.erase.erase = v.erase
  | .int _ => rfl
  | .str _ => rfl
  | .undef => rfl
  | .ty _ => rfl
  | .dty _ ps _ => by simp only [RV.erase]; rw [eraseL_idem ps]
  | .ent k v => by simp only [RV.erase]; rw [erase_idem k, erase_idem v]
  | .arr xs => by simp only [RV.erase]; rw [eraseL_idem xs]
  | .hsh xs => by simp only [RV.erase]; rw [eraseL_idem xs]
  | .dfr n xs => by simp only [RV.erase]; rw [eraseL_idem xs]
theorem eraseL_idem : ∀ xs : List RV, eraseL (eraseL xs) = eraseL xs
  | [] => rfl
  | x :: xs => by simp only [eraseL]; rw [erase_idem x, eraseL_idem xs]
end

mutual
theorem hashable_erase : ∀ v : RV, v.erase.hashable = v.hashable
  | .int _ => rfl
  | .str _ => rfl
  | .undef => rfl
  | .ty _ => rfl
  | .dty _ _ _ => rfl
  | .ent k v => by simp only [RV.erase, RV.hashable]; rw [hashable_erase k, hashable_erase v]
  | .arr xs => by simp only [RV.erase, RV.hashable]; rw [hashableL_erase xs]
  | .hsh xs => by simp only [RV.erase, RV.hashable]; rw [hashableL_erase xs]
  | .dfr n xs => rfl
theorem hashableL_erase : ∀ xs : List RV, hashableL (eraseL xs) = hashableL xs
  | [] => rfl
  | x :: xs => by simp only [eraseL, hashableL]; rw [hashable_erase x, hashableL_erase xs]
end

mutual
theorem render_erase : ∀ v : RV, v.erase.render = v.render
  | .int _ => rfl
  | .str _ => rfl
  | .undef => rfl
  | .ty _ => rfl
  | .dty _ ps _ => by simp only [RV.erase, RV.render]; rw [renderL_erase ps]
  | .ent k v => by simp only [RV.erase, RV.render]; rw [render_erase k, render_erase v]
  | .arr xs => by simp only [RV.erase, RV.render]; rw [renderL_erase xs]
  | .hsh xs => by simp only [RV.erase, RV.render]; rw [renderH_erase xs]
  | .dfr n xs => by simp only [RV.erase, RV.render]; rw [renderL_erase xs]
theorem renderL_erase : ∀ xs : List RV, renderL (eraseL xs) = renderL xs
  | [] => rfl
  | x :: xs => by simp only [eraseL, renderL]; rw [render_erase x, renderL_erase xs]
theorem renderH_erase : ∀ xs : List RV, renderH (eraseL xs) = renderH xs
  | [] => rfl
  | x :: xs => by
      cases x with
      | ent k v => simp only [eraseL, RV.erase, renderH]; rw [render_erase k, render_erase v, renderH_erase xs]
      | _ =>
        rw [eraseL, renderH.eq_3 _ _ (by intro k v h; cases h), renderH.eq_3 _ _ (by intro k v h; cases h),
          render_erase _, renderH_erase xs]
end

theorem answerText_eraseR (r : Except RErr RV) : answerText (eraseR r) = answerText r := by
  cases r with
  | error e => rfl
  | ok v => simp only [eraseR, answerText]; rw [render_erase]

theorem sameKey_erase (a b : RV) : sameKey a.erase b.erase = sameKey a b := by
  cases a <;> cases b <;> rfl

theorem hashGet_erase (k : RV) : ∀ es : List RV, hashGet k.erase (eraseL es) = (hashGet k es).erase
  | [] => rfl
  | e :: es => by
      cases e with
      | ent k' v =>
        simp only [eraseL, RV.erase, hashGet, sameKey_erase]
        split
        · rfl
        · exact hashGet_erase k es
      | _ => simp only [eraseL, RV.erase, hashGet]; exact hashGet_erase k es

theorem eraseL_eq_map : ∀ xs : List RV, eraseL xs = xs.map RV.erase
  | [] => rfl
  | x :: xs => by rw [eraseL, eraseL_eq_map xs]; rfl

theorem getD_erase (xs : List RV) (n : Nat) : (eraseL xs)[n]?.getD .undef = (xs[n]?.getD .undef).erase := by
  rw [eraseL_eq_map, List.getElem?_map]
  cases xs[n]? <;> rfl

/-- `Hash.Get2` with a key that may not be hashable -/
theorem hget_erase (k : RV) (es : List RV) :
    (if k.erase.hashable = true then Except.ok (hashGet k.erase (eraseL es)) else Except.error RErr.invalidKey) =
      eraseR (if k.hashable = true then Except.ok (hashGet k es) else Except.error RErr.invalidKey) := by
  rw [hashable_erase]
  split
  · rw [hashGet_erase]; rfl
  · rfl

theorem digStep_erase (d k : RV) : digStep d.erase k.erase = eraseR (digStep d k) := by
  cases k with
  | undef => rfl
  | int i =>
    cases d <;> simp only [digStep, RV.erase, eraseR]
    · split <;> simp only [RV.erase, Int.toNat, getD_erase, List.getD_eq_getElem?_getD]
    · exact hget_erase (.int i) _
  | dty n ps m => cases d <;> rfl
  | dfr n xs => cases d <;> rfl
  | str s => cases d <;> simp only [digStep, RV.erase, eraseR]; exact hget_erase (.str s) _
  | ty s => cases d <;> simp only [digStep, RV.erase, eraseR]; exact hget_erase (.ty s) _
  | arr xs => cases d <;> simp only [digStep, RV.erase, eraseR]; exact hget_erase (.arr xs) _
  | hsh xs => cases d <;> simp only [digStep, RV.erase, eraseR]; exact hget_erase (.hsh xs) _
  | ent a b => cases d <;> simp only [digStep, RV.erase, eraseR]; exact hget_erase (.ent a b) _

theorem dig_erase : ∀ (ks : List RV) (d : RV), dig d.erase (eraseL ks) = eraseR (dig d ks)
  | [], d => rfl
  | k :: ks, d => by
      simp only [eraseL, dig, digStep_erase]
      cases digStep d k with
      | error e => rfl
      | ok d' => exact dig_erase ks d'

theorem isEmpty_eraseL (xs : List RV) : (eraseL xs).isEmpty = xs.isEmpty := by
  rw [eraseL_eq_map, List.isEmpty_map]

theorem headD_eraseL (xs : List RV) : (eraseL xs).headD .undef = (xs.headD .undef).erase := by
  rw [eraseL_eq_map]
  cases xs <;> rfl

theorem finish_sim (sc : List RV) (n : String) {da da' : List RV} (h : eraseL da = eraseL da') :
    eraseR (finish sc n da) = eraseR (finish sc n da') := by
  unfold finish
  cases varName? n with
  | some vn =>
    simp only
    cases scopeGet sc vn with
    | none => rfl
    | some vv =>
      simp only
      rw [← isEmpty_eraseL da, ← isEmpty_eraseL da', h]
      split
      · rfl
      · rw [← dig_erase, ← dig_erase, h]
  | none =>
    simp only
    split
    · simp only [eraseR, RV.erase]; rw [h]
    · split
      · simp only [eraseR]; rw [← headD_eraseL da, ← headD_eraseL da', h]
      · rfl

/-! ### `ResolveWithParams` looks at the texts of its parameters only -/

theorem tyTexts_erase : ∀ xs : List RV, tyTexts (eraseL xs) = tyTexts xs
  | [] => rfl
  | x :: xs => by
      cases x <;> simp only [eraseL, RV.erase, tyTexts]
      rw [tyTexts_erase xs]

theorem paramTypeText_erase (n : String) (as : List RV) : paramTypeText n (eraseL as) = paramTypeText n as := by
  unfold paramTypeText
  rw [tyTexts_erase]

/-! ### resolution: results that agree up to memos, continued by steps that respect that, agree up to memos

`E` is `eraseR` or `eraseRL`, whichever fits what the continuations answer; the matches are those of the arms of `resolve`,
`resolveL`, `resolveH`.  (`generalizing := false`: the match is not to take `h` along.) -/

theorem bind_sim {β : Type} (E : Except RErr β → Except RErr β) {a b : Except RErr RV} (h : eraseR a = eraseR b)
    {f g : RV → Except RErr β} (hfg : ∀ y y', y.erase = y'.erase → E (f y) = E (g y')) :
    E (match (generalizing := false) a with | .error e => .error e | .ok y => f y) =
      E (match (generalizing := false) b with | .error e => .error e | .ok y => g y) := by
  cases a <;> cases b <;> simp only [eraseR, Except.ok.injEq, Except.error.injEq, reduceCtorEq] at h
  · rw [h]
  · exact hfg _ _ h

theorem bind_simL {β : Type} (E : Except RErr β → Except RErr β) {a b : Except RErr (List RV)} (h : eraseRL a = eraseRL b)
    {f g : List RV → Except RErr β} (hfg : ∀ ys ys', eraseL ys = eraseL ys' → E (f ys) = E (g ys')) :
    E (match (generalizing := false) a with | .error e => .error e | .ok ys => f ys) =
      E (match (generalizing := false) b with | .error e => .error e | .ok ys => g ys) := by
  cases a <;> cases b <;> simp only [eraseRL, Except.ok.injEq, Except.error.injEq, reduceCtorEq] at h
  · rw [h]
  · exact hfg _ _ h

mutual
theorem resolve_erase (d : Bool) (sc : List RV) : ∀ v : RV, eraseR (resolve d sc v) = eraseR (resolve d sc v.erase)
  | .int _ => rfl
  | .str _ => rfl
  | .undef => rfl
  | .ty _ => rfl
  | .dty n ps m => by
      simp only [resolve, RV.erase, isEmpty_eraseL]
      split
      · rfl
      · exact bind_simL eraseR (resolveL_erase true [] ps) fun as as' h => by
          rw [← paramTypeText_erase n as, ← paramTypeText_erase n as', h]
  | .ent k v => by
      cases d with
      | false => simp only [resolve, RV.erase, eraseR, Bool.false_eq_true, if_false]; rw [erase_idem k, erase_idem v]
      | true =>
        simp only [resolve, RV.erase, if_true]
        exact bind_sim eraseR (resolve_erase true sc k) fun k1 k2 hk =>
          bind_sim eraseR (resolve_erase true sc v) fun v1 v2 hv => by simp only [eraseR, RV.erase, hk, hv]
  | .arr xs => by
      simp only [resolve, RV.erase]
      exact bind_simL eraseR (resolveL_erase d sc xs) fun ys ys' h => by simp only [eraseR, RV.erase, h]
  | .hsh xs => by
      simp only [resolve, RV.erase]
      exact bind_simL eraseR (resolveH_erase d sc xs) fun ys ys' h => by simp only [eraseR, RV.erase, h]
  | .dfr n xs => by
      simp only [resolve, RV.erase]
      exact bind_simL eraseR (resolveL_erase false sc xs) fun ys ys' h => finish_sim sc n h
theorem resolveL_erase (d : Bool) (sc : List RV) :
    ∀ xs : List RV, eraseRL (resolveL d sc xs) = eraseRL (resolveL d sc (eraseL xs))
  | [] => rfl
  | x :: xs => by
      simp only [resolveL, eraseL]
      exact bind_sim eraseRL (resolve_erase d sc x) fun y y' hy =>
        bind_simL eraseRL (resolveL_erase d sc xs) fun ys ys' hys => by simp only [eraseRL, eraseL, hy, hys]
theorem resolveH_erase (d : Bool) (sc : List RV) :
    ∀ es : List RV, eraseRL (resolveH d sc es) = eraseRL (resolveH d sc (eraseL es))
  | [] => rfl
  | x :: es => by
      cases x with
      | ent k v =>
        simp only [resolveH, eraseL, RV.erase]
        exact bind_sim eraseRL (resolve_erase d sc k) fun k1 k2 hk =>
          bind_sim eraseRL (resolve_erase d sc v) fun v1 v2 hv =>
            bind_simL eraseRL (resolveH_erase d sc es) fun fs fs' hfs => by simp only [eraseRL, eraseL, RV.erase, hk, hv, hfs]
      | _ =>
        -- not an entry: kept as it is, with its memos
        rw [eraseL, resolveH.eq_3 _ _ _ _ (by intro k v h; cases h), resolveH.eq_3 _ _ _ _ (by intro k v h; cases h)]
        exact bind_simL eraseRL (resolveH_erase d sc es) fun fs fs' hfs => by
          simp only [eraseRL, eraseL, erase_idem, hfs]
end

/-! ### what a DeferredType resolves to does not depend on mode, scope, memo, or the memos inside its parameters -/

theorem resolve_dty_shape (d : Bool) (sc : List RV) (n : String) (ps : List RV) (m : Option String) :
    (∃ t, resolve d sc (.dty n ps m) = .ok (.ty t)) ∨ ∃ e, resolve d sc (.dty n ps m) = .error e := by
  simp only [resolve]
  split
  · exact Or.inl ⟨_, rfl⟩
  · cases resolveL true [] ps with
    | error e => exact Or.inr ⟨e, rfl⟩
    | ok as =>
      simp only
      cases paramTypeText n as with
      | error e => exact Or.inr ⟨e, rfl⟩
      | ok t => exact Or.inl ⟨t, rfl⟩

theorem resolve_dty_eq (d : Bool) (sc : List RV) (n : String) (ps : List RV) (m : Option String) :
    resolve d sc (.dty n ps m) = resolve false [] (.dty n (eraseL ps) none) := by
  -- an error or a type: `eraseR` leaves either as it is
  have fix : ∀ d sc ps m, eraseR (resolve d sc (.dty n ps m)) = resolve d sc (.dty n ps m) := by
    intro d sc ps m
    rcases resolve_dty_shape d sc n ps m with ⟨t, h⟩ | ⟨e, h⟩ <;> rw [h] <;> rfl
  rw [← fix d sc ps m, resolve_erase, RV.erase, fix]
  simp only [resolve]

theorem resolve_dty_ok_iff (d : Bool) (sc : List RV) (n : String) (ps : List RV) (m : Option String) (t : String) :
    resolve d sc (.dty n ps m) = .ok (.ty t) ↔ dtyPure n ps = some t := by
  rw [resolve_dty_eq]
  unfold dtyPure
  rcases resolve_dty_shape false [] n (eraseL ps) none with ⟨t', ht'⟩ | ⟨e', he'⟩
  · rw [ht']; simp only [Except.ok.injEq, RV.ty.injEq, Option.some.injEq]
  · rw [he']; simp only [reduceCtorEq]

theorem memoOK_dty {n : String} {ps : List RV} {m : Option String} :
    (RV.dty n ps m).memoOK = true ↔ memoOKL ps = true ∧ (m = none ∨ m = dtyPure n ps) := by
  simp only [RV.memoOK, Bool.and_eq_true, Bool.or_eq_true, beq_iff_eq]

/-- a DeferredType after a call that visited its parameters (`ps'`) and left or filled its memo (`m'`) -/
theorem frame_dty {n : String} {ps ps' : List RV} {m m' : Option String} (h1 : eraseL ps' = eraseL ps)
    (h2 : memoOKL ps' = true) (hm : m' = none ∨ m' = dtyPure n ps) :
    (RV.dty n ps' m').erase = (RV.dty n ps m).erase ∧ (RV.dty n ps' m').memoOK = true := by
  refine ⟨by simp only [RV.erase, h1], memoOK_dty.mpr ⟨h2, ?_⟩⟩
  unfold dtyPure at hm ⊢
  rw [h1]
  exact hm

theorem dtyStore_ok {W : Writes} {m p : Option String} {t : String} (hm : m = none ∨ m = p) (hp : p = some t) :
    dtyStore W m t = none ∨ dtyStore W m t = p := by
  unfold dtyStore
  split
  · exact hm
  · exact .inr hp.symm

/-- a call whose answer is known, taken apart into the value afterwards and that answer -/
theorem pair_snd {α β : Type} {p : α × β} {r : β} (h : p.2 = r) : p = (p.1, r) := by rw [← h]

mutual
theorem resolveW_frame (W : Writes) (hW : W.dfrArgs = false) (d : Bool) (sc : List RV) :
    ∀ v : RV, v.memoOK = true →
      (resolveW W d sc v).1.erase = v.erase ∧ (resolveW W d sc v).1.memoOK = true ∧ (resolveW W d sc v).2 = resolve d sc v
  | .int _, _ => ⟨rfl, rfl, rfl⟩
  | .str _, _ => ⟨rfl, rfl, rfl⟩
  | .undef, _ => ⟨rfl, rfl, rfl⟩
  | .ty _, _ => ⟨rfl, rfl, rfl⟩
  | .ent k v, hm => by
      cases d with
      | false => exact ⟨rfl, hm, rfl⟩
      | true =>
        simp only [RV.memoOK, Bool.and_eq_true] at hm
        obtain ⟨a1, a2, a3⟩ := resolveW_frame W hW true sc k hm.1
        obtain ⟨c1, c2, c3⟩ := resolveW_frame W hW true sc v hm.2
        simp only [resolveW, resolve, if_true]
        rw [pair_snd a3, pair_snd c3]
        cases resolve true sc k with
        | error e => exact ⟨by simp only [RV.erase, a1], by simp only [RV.memoOK, a2, hm.2, Bool.and_self], rfl⟩
        | ok k2 =>
          cases resolve true sc v <;>
            exact ⟨by simp only [RV.erase, a1, c1], by simp only [RV.memoOK, a2, c2, Bool.and_self], rfl⟩
  | .dty n ps m, hm => by
      obtain ⟨hps, hmemo⟩ := memoOK_dty.mp hm
      simp only [resolveW]
      cases hhit : dtyHit W m with
      | some t =>
        -- the memo answers: nothing is visited, and the memo is what resolution computes
        have hm' : m = some t := by
          unfold dtyHit at hhit
          split at hhit
          · exact hhit
          · cases hhit
        subst hm'
        have hp : some t = dtyPure n ps := hmemo.resolve_left (by intro h; cases h)
        exact ⟨rfl, hm, ((resolve_dty_ok_iff d sc n ps (some t) t).mpr hp.symm).symm⟩
      | none =>
        simp only [resolve]
        split
        · rename_i he
          obtain ⟨f1, f2⟩ := frame_dty (m := m) rfl hps
            (dtyStore_ok (W := W) hmemo ((resolve_dty_ok_iff false [] n ps m (typeText n)).mp (by simp only [resolve, he, if_true])))
          exact ⟨f1, f2, rfl⟩
        · rename_i he
          obtain ⟨h1, h2, h3⟩ := resolveWL_frame W hW true [] ps hps
          rw [pair_snd h3]
          cases hr : resolveL true [] ps with
          | error e =>
            obtain ⟨f1, f2⟩ := frame_dty h1 h2 hmemo
            exact ⟨f1, f2, rfl⟩
          | ok as =>
            simp only
            cases hpt : paramTypeText n as with
            | error e =>
              obtain ⟨f1, f2⟩ := frame_dty h1 h2 hmemo
              exact ⟨f1, f2, rfl⟩
            | ok t =>
              obtain ⟨f1, f2⟩ := frame_dty h1 h2
                (dtyStore_ok (W := W) hmemo ((resolve_dty_ok_iff false [] n ps m t).mp (by simp only [resolve, he, hr, hpt, Bool.false_eq_true, if_false])))
              exact ⟨f1, f2, rfl⟩
  | .arr xs, hm => by
      obtain ⟨h1, h2, h3⟩ := resolveWL_frame W hW d sc xs hm
      simp only [resolveW, resolve]
      rw [pair_snd h3]
      cases resolveL d sc xs <;> exact ⟨by simp only [RV.erase, h1], by simp only [RV.memoOK, h2], rfl⟩
  | .hsh es, hm => by
      obtain ⟨h1, h2, h3⟩ := resolveWH_frame W hW d sc es hm
      simp only [resolveW, resolve]
      rw [pair_snd h3]
      cases resolveH d sc es <;> exact ⟨by simp only [RV.erase, h1], by simp only [RV.memoOK, h2], rfl⟩
  | .dfr n as, hm => by
      obtain ⟨h1, h2, h3⟩ := resolveWL_frame W hW false sc as hm
      simp only [resolveW, resolve, hW, Bool.false_and, Bool.false_eq_true, if_false]
      rw [pair_snd h3]
      cases resolveL false sc as <;> exact ⟨by simp only [RV.erase, h1], by simp only [RV.memoOK, h2], rfl⟩
theorem resolveWL_frame (W : Writes) (hW : W.dfrArgs = false) (d : Bool) (sc : List RV) :
    ∀ xs : List RV, memoOKL xs = true →
      eraseL (resolveWL W d sc xs).1 = eraseL xs ∧ memoOKL (resolveWL W d sc xs).1 = true ∧
        (resolveWL W d sc xs).2 = resolveL d sc xs
  | [], _ => ⟨rfl, rfl, rfl⟩
  | x :: xs, hm => by
      simp only [memoOKL, Bool.and_eq_true] at hm
      obtain ⟨a1, a2, a3⟩ := resolveW_frame W hW d sc x hm.1
      obtain ⟨b1, b2, b3⟩ := resolveWL_frame W hW d sc xs hm.2
      simp only [resolveWL, resolveL]
      rw [pair_snd a3, pair_snd b3]
      cases resolve d sc x with
      | error e => exact ⟨by simp only [eraseL, a1], by simp only [memoOKL, a2, hm.2, Bool.and_self], rfl⟩
      | ok y =>
        cases resolveL d sc xs <;>
          exact ⟨by simp only [eraseL, a1, b1], by simp only [memoOKL, a2, b2, Bool.and_self], rfl⟩
theorem resolveWH_frame (W : Writes) (hW : W.dfrArgs = false) (d : Bool) (sc : List RV) :
    ∀ es : List RV, memoOKL es = true →
      eraseL (resolveWH W d sc es).1 = eraseL es ∧ memoOKL (resolveWH W d sc es).1 = true ∧
        (resolveWH W d sc es).2 = resolveH d sc es
  | [], _ => ⟨rfl, rfl, rfl⟩
  | x :: es, hm => by
      simp only [memoOKL, Bool.and_eq_true] at hm
      obtain ⟨b1, b2, b3⟩ := resolveWH_frame W hW d sc es hm.2
      cases x with
      | ent k v =>
        simp only [RV.memoOK, Bool.and_eq_true] at hm
        obtain ⟨a1, a2, a3⟩ := resolveW_frame W hW d sc k hm.1.1
        obtain ⟨c1, c2, c3⟩ := resolveW_frame W hW d sc v hm.1.2
        simp only [resolveWH, resolveH]
        rw [pair_snd a3, pair_snd c3, pair_snd b3]
        cases resolve d sc k with
        | error e =>
          exact ⟨by simp only [eraseL, RV.erase, a1], by simp only [memoOKL, RV.memoOK, a2, hm.1.2, hm.2, Bool.and_self], rfl⟩
        | ok k2 =>
          cases resolve d sc v with
          | error e =>
            exact ⟨by simp only [eraseL, RV.erase, a1, c1], by simp only [memoOKL, RV.memoOK, a2, c2, hm.2, Bool.and_self], rfl⟩
          | ok v2 =>
            cases resolveH d sc es <;>
              exact ⟨by simp only [eraseL, RV.erase, a1, c1, b1], by simp only [memoOKL, RV.memoOK, a2, c2, b2, Bool.and_self], rfl⟩
      | _ =>
        -- not an entry: nothing of it is visited
        rw [resolveWH.eq_3 _ _ _ _ _ (by intro k v h; cases h), resolveH.eq_3 _ _ _ _ (by intro k v h; cases h), pair_snd b3]
        cases resolveH d sc es <;> exact ⟨by simp only [eraseL, b1], by simp only [memoOKL, hm.1, b2, Bool.and_self], rfl⟩
end

theorem resolveSeq_frame (W : Writes) (hW : W.dfrArgs = false) :
    ∀ (scs : List (List RV)) (v : RV), v.memoOK = true →
      (resolveSeq W v scs).1.erase = v.erase ∧ (resolveSeq W v scs).1.memoOK = true ∧
      (resolveSeq W v scs).2.map eraseR = scs.map (fun sc => eraseR (resolve false sc v))
  | [], v, hm => ⟨rfl, hm, rfl⟩
  | sc :: scs, v, hm => by
      obtain ⟨a1, a2, a3⟩ := resolveW_frame W hW false sc v hm
      obtain ⟨b1, b2, b3⟩ := resolveSeq_frame W hW scs (resolveW W false sc v).1 a2
      simp only [resolveSeq, List.map_cons]
      refine ⟨b1.trans a1, b2, ?_⟩
      rw [b3, a3]
      congr 1
      apply List.map_congr_left
      intro sc' _
      rw [resolve_erase false sc' v, resolve_erase false sc' (resolveW W false sc v).1, a1]

end Pcore.Immut

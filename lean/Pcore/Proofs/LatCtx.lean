import Pcore.Proofs.LatReflAll
/-! C03: monotonicity along an ARBITRARY one-hole context of covariant positions (the property's quantifier "all one-hole contexts"),
    by induction on the context from the per-constructor laws; the siblings only have to be well-formed (reflexivity `asg_self`).  The laws
    with one hole among siblings (Tuple slot, Struct member, Variant member; `get_replace`: the two lists differ at the hole only) stand here. -/
namespace Pcore.Lat
variable (cfg : Cfg) (sfh : Bool)

/-- one-hole contexts over the covariant positions the property lists: Array element, Hash key and value, Tuple slot, Struct member,
    Variant member, Optional, NotUndef, Type, Sensitive, Iterable, Iterator — nested to any depth -/
inductive Ctx where
  | hole
  | array (c : Ctx) (r : Rng)
  | hashKey (c : Ctx) (v : Ty) (r : Rng)
  | hashVal (k : Ty) (c : Ctx) (r : Rng)
  | tuple (pre : List Ty) (c : Ctx) (post : List Ty) (g : Option Rng)
  | struct (pre : List Member) (n : String) (o : Bool) (c : Ctx) (post : List Member)
  | variant (pre : List Ty) (c : Ctx) (post : List Ty)
  | optional (c : Ctx) | notUndef (c : Ctx) | typ (c : Ctx) | sensitive (c : Ctx) | iterable (c : Ctx) | iterator (c : Ctx)

def Ctx.fill : Ctx → Ty → Ty
  | .hole, t => t
  | .array c r, t => .array (c.fill t) r
  | .hashKey c v r, t => .hash (c.fill t) v r
  | .hashVal k c r, t => .hash k (c.fill t) r
  | .tuple pre c post g, t => .tuple (pre ++ c.fill t :: post) g
  | .struct pre n o c post, t => .struct (pre ++ (n, o, c.fill t) :: post)
  | .variant pre c post, t => .variant (pre ++ c.fill t :: post)
  | .optional c, t => .optional (c.fill t)
  | .notUndef c, t => .notUndef (c.fill t)
  | .typ c, t => .typ (c.fill t)
  | .sensitive c, t => .sensitive (c.fill t)
  | .iterator c, t => .iterator (c.fill t)
  | .iterable c, t => .iterable (c.fill t)

def Ctx.WF (cfg : Cfg) : Ctx → Prop
  | .hole => True
  | .array c _ => c.WF cfg
  | .hashKey c v _ => c.WF cfg ∧ Ty.WF cfg v
  | .hashVal k c _ => Ty.WF cfg k ∧ c.WF cfg
  | .tuple pre c post _ => c.WF cfg ∧ ∀ t ∈ pre ++ post, Ty.WF cfg t
  | .struct pre n _ c post => c.WF cfg ∧ (pre.map (·.1) ++ n :: post.map (·.1)).Nodup ∧ ∀ m ∈ pre ++ post, Ty.WF cfg m.2.2
  | .variant pre c post => c.WF cfg ∧ ∀ t ∈ pre ++ post, Ty.WF cfg t
  | .optional c | .notUndef c | .typ c | .sensitive c | .iterable c | .iterator c => c.WF cfg

theorem get_replace {α : Type} (pre post : List α) (x y : α) (j : Nat) (t u : α)
    (ht : (pre ++ x :: post)[j]? = some t) (hu : (pre ++ y :: post)[j]? = some u) :
    (t = x ∧ u = y) ∨ (t = u ∧ t ∈ pre ++ post) := by
  rcases Nat.lt_trichotomy j pre.length with hj | rfl | hj
  · rw [List.getElem?_append_left hj] at ht hu; rw [ht] at hu; cases hu
    exact .inr ⟨rfl, List.mem_append_left _ (List.mem_of_getElem? ht)⟩
  · simp at ht hu; exact .inl ⟨ht.symm, hu.symm⟩
  · rw [List.getElem?_append_right (Nat.le_of_lt hj)] at ht hu
    obtain ⟨k, hk⟩ : ∃ k, j - pre.length = k + 1 := ⟨j - pre.length - 1, by omega⟩
    rw [hk, List.getElem?_cons_succ] at ht hu; rw [ht] at hu; cases hu
    exact .inr ⟨rfl, List.mem_append_right _ (List.mem_of_getElem? ht)⟩

theorem mono_tuple (pre post : List Ty) (a b : Ty) (g : Option Rng)
    (hsib : ∀ t ∈ pre ++ post, Ty.WF cfg t) (h : asg cfg sfh a b = true) :
    asg cfg sfh (.tuple (pre ++ a :: post) g) (.tuple (pre ++ b :: post) g) = true := by
  apply tuple_pointwise cfg sfh _ _ g g (by simp) (by cases g <;> simp [tupleSize])
  intro i t u ht hu
  rcases get_replace pre post a b i t u ht hu with ⟨rfl, rfl⟩ | ⟨rfl, hm⟩
  · exact h
  · exact asg_self cfg sfh t (hsib t hm)

theorem mono_struct (pre post : List Member) (n : String) (o : Bool) (t t' : Ty)
    (hnd : NamesNodup (pre ++ (n, o, t) :: post))
    (hsib : ∀ m ∈ pre ++ post, Ty.WF cfg m.2.2) (h : asg cfg sfh t t' = true) :
    asg cfg sfh (.struct (pre ++ (n, o, t) :: post)) (.struct (pre ++ (n, o, t') :: post)) = true := by
  have hnames : (pre ++ (n, o, t) :: post).map (·.1) = (pre ++ (n, o, t') :: post).map (·.1) := by simp
  apply struct_eq_asg cfg sfh _ _ hnd (by unfold NamesNodup; rw [← hnames]; exact hnd) hnames
  intro m hm
  simp only [List.mem_append, List.mem_cons] at hm
  rcases hm with hm | rfl | hm
  · exact ⟨m, by simp [hm], rfl, rfl, asg_self cfg sfh _ (hsib m (by simp [hm]))⟩
  · exact ⟨(n, o, t'), by simp, rfl, rfl, h⟩
  · exact ⟨m, by simp [hm], rfl, rfl, asg_self cfg sfh _ (hsib m (by simp [hm]))⟩

theorem mono_variant (pre post : List Ty) (a b : Ty) (hsib : ∀ t ∈ pre ++ post, Ty.WF cfg t)
    (h : asg cfg sfh a b = true) : asg cfg sfh (.variant (pre ++ a :: post)) (.variant (pre ++ b :: post)) = true := by
  refine asg_variant_of cfg sfh fun t ht => ?_
  simp only [List.mem_append, List.mem_cons] at ht
  rcases ht with ht | rfl | ht
  · exact wv_all cfg sfh (by simp [ht]) (asg_self cfg sfh t (hsib t (by simp [ht])))
  · exact wv_all cfg sfh (by simp) h
  · exact wv_all cfg sfh (by simp [ht]) (asg_self cfg sfh t (hsib t (by simp [ht])))

theorem mono_ctx (a b : Ty) (h : asg cfg sfh a b = true) :
    ∀ (C : Ctx), C.WF cfg → asg cfg sfh (C.fill a) (C.fill b) = true := by
  intro C
  induction C with
  | hole => intro _; exact h
  | array c r ih => intro w; exact mono_array cfg sfh _ _ r (ih w)
  | hashKey c v r ih => intro w; exact mono_hash cfg sfh _ _ v v r (ih w.1) (asg_self cfg sfh v w.2)
  | hashVal k c r ih => intro w; exact mono_hash cfg sfh k k _ _ r (asg_self cfg sfh k w.1) (ih w.2)
  | tuple pre c post g ih => intro w; exact mono_tuple cfg sfh pre post _ _ g w.2 (ih w.1)
  | struct pre n o c post ih =>
    intro w; exact mono_struct cfg sfh pre post n o _ _ (by unfold NamesNodup; simpa using w.2.1) w.2.2 (ih w.1)
  | variant pre c post ih => intro w; exact mono_variant cfg sfh pre post _ _ w.2 (ih w.1)
  | optional c ih => intro w; exact mono_optional cfg sfh _ _ (ih w)
  | notUndef c ih => intro w; exact mono_notUndef cfg sfh _ _ (ih w)
  | typ c ih => intro w; exact mono_typ cfg sfh _ _ (ih w)
  | sensitive c ih => intro w; exact mono_sensitive cfg sfh _ _ (ih w)
  | iterator c ih => intro w; exact mono_iterator cfg sfh _ _ (ih w)
  | iterable c ih => intro w; exact mono_iterable cfg sfh _ _ (ih w)

end Pcore.Lat

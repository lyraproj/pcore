import Pcore.Proofs.Dispatch
/-!
The dispatch builder's bookkeeping (`types`, `min`, `max`, block type and flag) against the *declaration* — the list of
builder calls read positionally — for arbitrary parameter and block types `T`, `BT`.  Defined here, the vocabulary of the C16
statements: `PKind`, `paramsOf`, `blocksOf`, the grammar `shapeKinds`, the invariants `ParamInv` / `BlockInv`.  Then the grammar's
facts; every accepted call keeps the invariants (`steps_inv`); what they say of `min` and `max` (`ParamInv.max_eq`, `.leMax_iff`,
`.min_le_iff`: later files use these instead of opening `ParamInv`); a state built from `Builder.init` and its dispatch.  Core Lean only.
-/
namespace Pcore.Dispatch

inductive PKind where
  | req | opt | rep | reqrep
  deriving Repr, DecidableEq

def PKind.required : PKind → Bool
  | .req | .reqrep => true
  | _ => false

def PKind.repeated : PKind → Bool
  | .rep | .reqrep => true
  | _ => false

section
variable {T BT : Type}

def BOp.param? : BOp T BT → Option (PKind × T)
  | .param t => some (.req, t)
  | .optional t => some (.opt, t)
  | .repeated t => some (.rep, t)
  | .requiredRepeated t => some (.reqrep, t)
  | _ => none

def BOp.block? : BOp T BT → Option (BlockReq BT)
  | .block b => some (.required b)
  | .optionalBlock b => some (.optional b)
  | _ => none

def paramsOf (ops : List (BOp T BT)) : List (PKind × T) := ops.filterMap BOp.param?

def blocksOf (ops : List (BOp T BT)) : List (BlockReq BT) := ops.filterMap BOp.block?

/-- what may follow the required and optional parameters -/
inductive Tail where
  | none | rep | reqrep
  deriving Repr, DecidableEq

def Tail.kinds : Tail → List PKind
  | .none => []
  | .rep => [.rep]
  | .reqrep => [.reqrep]

/-- the grammar of a declaration: `a` required, `o` optional parameters, then at most one repeated one -/
def shapeKinds (a o : Nat) (tl : Tail) : List PKind :=
  List.replicate a .req ++ (List.replicate o .opt ++ tl.kinds)

def tailMin : Tail → Nat
  | .reqrep => 1
  | _ => 0

def tailMax (n : Nat) : Tail → Option Nat
  | .none => some n
  | _ => none

def ParamInv (b : Builder T BT) (ps : List (PKind × T)) : Prop :=
  b.types = ps.map (·.2) ∧
  ∃ a o tl, ps.map (·.1) = shapeKinds a o tl ∧ (tl = .reqrep → o = 0) ∧
    b.min = a + tailMin tl ∧ b.max = tailMax (a + o) tl

def BlockInv (b : Builder T BT) : List (BlockReq BT) → Prop
  | [] => b.blockType = none ∧ b.optionalBlock = false
  | [.required bt] => b.blockType = some bt ∧ b.optionalBlock = false
  | [.optional bt] => b.blockType = some bt ∧ b.optionalBlock = true
  | _ => False

/-! ### The grammar `shapeKinds a o tl`: its length, where its required and repeated kinds stand, and that it takes one more
    parameter while there is no tail -/

theorem shape_length (a o : Nat) (tl : Tail) : (shapeKinds a o tl).length = a + o + tl.kinds.length := by
  simp [shapeKinds]; omega

theorem length_of_shape {ps : List (PKind × T)} {a o : Nat} {tl : Tail} (hk : ps.map (·.1) = shapeKinds a o tl) :
    ps.length = a + o + tl.kinds.length := by
  rw [← shape_length, ← hk, List.length_map]

theorem shape_get_req {a o : Nat} {tl : Tail} {j : Nat} (h : j < a) : (shapeKinds a o tl)[j]? = some .req := by
  simp [shapeKinds, List.getElem?_append_left, h]

theorem shape_required_lt {a o : Nat} {tl : Tail} (hro : tl = .reqrep → o = 0) {j : Nat} {k : PKind}
    (hj : (shapeKinds a o tl)[j]? = some k) (hk : k.required = true) : j < a + tailMin tl := by
  by_cases h1 : j < a
  · omega
  · have h1' : a ≤ j := by omega
    simp only [shapeKinds] at hj
    rw [List.getElem?_append_right (by simpa using h1')] at hj
    simp only [List.length_replicate] at hj
    by_cases h2 : j - a < o
    · rw [List.getElem?_append_left (by simpa using h2)] at hj
      simp [h2] at hj
      subst hj; simp [PKind.required] at hk
    · rw [List.getElem?_append_right (by simpa using Nat.le_of_not_lt h2)] at hj
      simp only [List.length_replicate] at hj
      cases tl with
      | none => simp [Tail.kinds] at hj
      | rep =>
        simp only [Tail.kinds] at hj
        cases hji : j - a - o with
        | zero => rw [hji] at hj; simp at hj; subst hj; simp [PKind.required] at hk
        | succ n => rw [hji] at hj; simp at hj
      | reqrep =>
        have ho := hro rfl
        subst ho
        simp only [Tail.kinds] at hj
        cases hji : j - a - 0 with
        | zero => simp [tailMin]; omega
        | succ n => rw [hji] at hj; simp at hj

theorem shape_no_repeated {a o : Nat} {tl : Tail} :
    (∀ k ∈ shapeKinds a o tl, k.repeated = false) ↔ tl = .none := by
  constructor
  · intro h
    cases tl with
    | none => rfl
    | rep => have := h .rep (by simp [shapeKinds, Tail.kinds]); simp [PKind.repeated] at this
    | reqrep => have := h .reqrep (by simp [shapeKinds, Tail.kinds]); simp [PKind.repeated] at this
  · intro h k hk
    subst h
    simp [shapeKinds, Tail.kinds] at hk
    rcases hk with ⟨_, rfl⟩ | ⟨_, rfl⟩ <;> rfl

theorem no_repeated_iff {ps : List (PKind × T)} {a o : Nat} {tl : Tail} (hk : ps.map (·.1) = shapeKinds a o tl) :
    (∀ p ∈ ps, p.1.repeated = false) ↔ tl = .none := by
  rw [← shape_no_repeated (a := a) (o := o), ← hk]
  simp

/-- one more parameter of kind `k` behind `a` required and `o` optional ones (`o = 0` if `k` is required) stays in the grammar -/
theorem shape_snoc (a o : Nat) (k : PKind) (ho : k.required = true → o = 0) :
    ∃ a' o' tl', shapeKinds a o .none ++ [k] = shapeKinds a' o' tl' ∧ (tl' = .reqrep → o' = 0) ∧
      a' + tailMin tl' = a + (if k.required then 1 else 0) ∧
      tailMax (a' + o') tl' = if k.repeated then none else some (a + o + 1) := by
  cases k with
  | req => obtain rfl := ho rfl; exact ⟨a + 1, 0, .none, by simp [shapeKinds, Tail.kinds, ← List.replicate_succ'], nofun, rfl, rfl⟩
  | opt => exact ⟨a, o + 1, .none, by simp [shapeKinds, Tail.kinds, ← List.replicate_succ'], nofun, rfl, rfl⟩
  | rep => exact ⟨a, o, .rep, by simp [shapeKinds, Tail.kinds], nofun, rfl, rfl⟩
  | reqrep => obtain rfl := ho rfl; exact ⟨a, 0, .reqrep, by simp [shapeKinds, Tail.kinds], fun _ => rfl, rfl, rfl⟩

/-! ### Every accepted builder call keeps `ParamInv` and `BlockInv` -/

theorem BlockInv.shape {b : Builder T BT} {rs : List (BlockReq BT)} (h : BlockInv b rs) :
    (rs = [] ∧ b.blockType = none ∧ b.optionalBlock = false) ∨
    (∃ bt, rs = [.required bt] ∧ b.blockType = some bt ∧ b.optionalBlock = false) ∨
    (∃ bt, rs = [.optional bt] ∧ b.blockType = some bt ∧ b.optionalBlock = true) := by
  match rs, h with
  | [], h => exact Or.inl ⟨rfl, h.1, h.2⟩
  | [.required bt], h => exact Or.inr (Or.inl ⟨bt, rfl, h.1, h.2⟩)
  | [.optional bt], h => exact Or.inr (Or.inr ⟨bt, rfl, h.1, h.2⟩)
  | .none :: _, h => exact h.elim
  | _ :: _ :: _, h => simp [BlockInv] at h

theorem BlockInv.of_fields {b b'' : Builder T BT} {rs : List (BlockReq BT)} (h : BlockInv b rs)
    (h1 : b''.blockType = b.blockType) (h2 : b''.optionalBlock = b.optionalBlock) : BlockInv b'' rs := by
  rcases BlockInv.shape h with ⟨rfl, ha, hb⟩ | ⟨bt, rfl, ha, hb⟩ | ⟨bt, rfl, ha, hb⟩ <;> exact ⟨h1.trans ha, h2.trans hb⟩

theorem ParamInv.of_fields {b b'' : Builder T BT} {ps : List (PKind × T)} (h : ParamInv b ps)
    (h1 : b''.types = b.types) (h2 : b''.min = b.min) (h3 : b''.max = b.max) : ParamInv b'' ps := by
  unfold ParamInv; rw [h1, h2, h3]; exact h

theorem BlockInv.isSome_iff {b : Builder T BT} {rs : List (BlockReq BT)} (h : BlockInv b rs) :
    b.blockType.isSome = true ↔ rs ≠ [] := by
  rcases BlockInv.shape h with ⟨rfl, h1, _⟩ | ⟨_, rfl, h1, _⟩ | ⟨_, rfl, h1, _⟩ <;> simp [h1]

theorem BlockInv.of_isNone {b : Builder T BT} {rs : List (BlockReq BT)} (h : BlockInv b rs) (hn : ¬ b.blockType.isSome = true) :
    rs = [] ∧ b.optionalBlock = false := by
  obtain rfl : rs = [] := Classical.not_not.mp (mt h.isSome_iff.mpr hn)
  exact ⟨rfl, h.2⟩

theorem step_of_param {b : Builder T BT} {op : BOp T BT} {k : PKind} {t : T} (h : BOp.param? op = some (k, t)) :
    step b op =
      if b.max.isNone then .error .afterRepeated
      else if k.required && ltMax b.min b.max then .error .requiredAfterOptional
      else .ok { b with types := b.types ++ [t], min := b.min + (if k.required then 1 else 0),
                        max := if k.repeated then none else succMax b.max } := by
  cases op <;> simp only [BOp.param?, Option.some.injEq, Prod.mk.injEq, reduceCtorEq] at h <;> obtain ⟨rfl, rfl⟩ := h <;>
    simp [step, PKind.required, PKind.repeated]

theorem step_inv {b b' : Builder T BT} {ps : List (PKind × T)} {rs : List (BlockReq BT)} {op : BOp T BT}
    (hp : ParamInv b ps) (hb : BlockInv b rs) (hs : step b op = .ok b') :
    ParamInv b' (ps ++ (BOp.param? op).toList) ∧ BlockInv b' (rs ++ (BOp.block? op).toList) := by
  cases hop : BOp.param? op with
  | some kt =>
    obtain ⟨k, t⟩ := kt
    have hbl : BOp.block? op = none := by cases op <;> first | rfl | cases hop
    rw [step_of_param hop] at hs
    obtain ⟨hty, a, o, tl, hk, hro, hmin, hmax⟩ := hp
    split at hs
    · cases hs
    · rename_i hn
      -- a parameter call is accepted only while `max` is bounded: no repeated parameter so far
      obtain rfl : tl = .none := by cases tl <;> simp [hmax, tailMax] at hn ⊢
      split at hs
      · cases hs
      · rename_i hlt
        cases hs
        -- a required parameter is accepted only while `min = max`: no optional parameter so far
        obtain ⟨a', o', tl', hsh, hro', hmin', hmax'⟩ := shape_snoc a o k fun hr => by
          simp [hr, ltMax, hmin, hmax, tailMin, tailMax] at hlt; omega
        refine ⟨⟨by simp [hty], a', o', tl', by simp [hk, hsh], hro', ?_, ?_⟩, ?_⟩
        · rw [hmin', hmin]; simp [tailMin]
        · rw [hmax', hmax]; simp [tailMax, succMax]
        · rw [hbl]; simp only [Option.toList, List.append_nil]; exact hb.of_fields rfl rfl
  | none =>
    simp only [Option.toList, List.append_nil]
    cases op with
    | param t | optional t | repeated t | requiredRepeated t => cases hop
    | block bt =>
      simp only [step, block2] at hs
      split at hs
      · cases hs
      · rename_i hn
        cases hs
        obtain ⟨rfl, ho⟩ := BlockInv.of_isNone hb hn
        exact ⟨hp.of_fields rfl rfl rfl, by simp [BOp.block?, BlockInv, ho]⟩
    | optionalBlock bt =>
      simp only [step, block2] at hs
      split at hs
      · cases hs
      · rename_i hn
        simp [Except.map] at hs
        cases hs
        obtain ⟨rfl, -⟩ := BlockInv.of_isNone hb hn
        exact ⟨hp.of_fields rfl rfl rfl, by simp [BOp.block?, BlockInv]⟩
    | returns t =>
      simp only [step] at hs
      split at hs
      · cases hs
      · cases hs
        exact ⟨hp.of_fields rfl rfl rfl, by simp only [BOp.block?, List.append_nil]; exact hb.of_fields rfl rfl⟩

theorem steps_inv (ops : List (BOp T BT)) : ∀ (b b' : Builder T BT) (ps : List (PKind × T)) (rs : List (BlockReq BT)),
    ParamInv b ps → BlockInv b rs → steps b ops = .ok b' →
      ParamInv b' (ps ++ paramsOf ops) ∧ BlockInv b' (rs ++ blocksOf ops) := by
  induction ops with
  | nil =>
    intro b b' ps rs hp hb hs
    simp [steps] at hs; cases hs
    simpa [paramsOf, blocksOf] using And.intro hp hb
  | cons op ops ih =>
    intro b b' ps rs hp hb hs
    simp only [steps] at hs
    cases h1 : step b op with
    | error p => simp [h1] at hs
    | ok b1 =>
      simp [h1] at hs
      obtain ⟨hp1, hb1⟩ := step_inv hp hb h1
      have := ih b1 b' _ _ hp1 hb1 hs
      cases hop : BOp.param? op <;> cases hob : BOp.block? op <;>
        simpa [paramsOf, blocksOf, List.filterMap_cons, hop, hob] using this

/-! ### What `ParamInv` says of `max` and `min`, in terms of the declaration alone -/

theorem ParamInv.max_eq {b : Builder T BT} {ps : List (PKind × T)} (h : ParamInv b ps) :
    ((∀ p ∈ ps, p.1.repeated = false) → b.max = some ps.length) ∧ ((∃ p ∈ ps, p.1.repeated = true) → b.max = none) := by
  obtain ⟨-, a, o, tl, hk, -, -, hmax⟩ := h
  have hlen := length_of_shape hk
  rw [no_repeated_iff hk, hmax]
  refine ⟨fun htl => by subst htl; simp [tailMax, hlen, Tail.kinds], fun ⟨p, hp, hr⟩ => ?_⟩
  cases tl with
  | none => rw [(no_repeated_iff hk).mpr rfl p hp] at hr; cases hr
  | rep | reqrep => rfl

theorem ParamInv.leMax_iff {b : Builder T BT} {ps : List (PKind × T)} (h : ParamInv b ps) (n : Nat) :
    leMax n b.max = true ↔ ((∀ p ∈ ps, p.1.repeated = false) → n ≤ ps.length) := by
  by_cases hnr : ∀ p ∈ ps, p.1.repeated = false
  · rw [h.max_eq.1 hnr]; exact ⟨fun h _ => by simpa [leMax] using h, fun h => by simpa [leMax] using h hnr⟩
  · have : ∃ p ∈ ps, p.1.repeated = true := by simpa using hnr
    rw [h.max_eq.2 this]; exact ⟨fun _ h => absurd h hnr, fun _ => rfl⟩

theorem ParamInv.min_le_iff {b : Builder T BT} {ps : List (PKind × T)} (h : ParamInv b ps) (n : Nat) :
    b.min ≤ n ↔ ∀ j p, ps[j]? = some p → p.1.required = true → j < n := by
  obtain ⟨-, a, o, tl, hk, hro, hmin, -⟩ := h
  rw [hmin]
  constructor
  · intro hlo j p hj hreq
    have hj' : (ps.map (·.1))[j]? = some p.1 := by simp [List.getElem?_map, hj]
    rw [hk] at hj'
    have := shape_required_lt hro hj' hreq
    omega
  · intro hreq
    cases tl with
    | reqrep =>
      have ho := hro rfl
      subst ho
      have h1 : ps[a]?.map (·.1) = some .reqrep := by rw [← List.getElem?_map, hk]; simp [shapeKinds, Tail.kinds]
      obtain ⟨p, hp, hp1⟩ := Option.map_eq_some_iff.mp h1
      have := hreq a p hp (by rw [hp1]; rfl)
      simp [tailMin]; omega
    | none | rep =>
      simp only [tailMin, Nat.add_zero]
      cases a with
      | zero => omega
      | succ a' =>
        have h1 : ps[a']?.map (·.1) = some .req := by rw [← List.getElem?_map, hk]; exact shape_get_req (by omega)
        obtain ⟨p, hp, hp1⟩ := Option.map_eq_some_iff.mp h1
        have := hreq a' p hp (by rw [hp1]; rfl)
        omega

/-! ### A state built from `Builder.init`: the invariants hold of its declaration, `min ≤ max`, and `createDispatch` keeps the
    declared block -/

theorem builder_inv (ops : List (BOp T BT)) (b : Builder T BT) (h : steps Builder.init ops = .ok b) :
    ParamInv b (paramsOf ops) ∧ BlockInv b (blocksOf ops) := by
  simpa using steps_inv ops Builder.init b [] [] ⟨rfl, 0, 0, .none, rfl, nofun, rfl, rfl⟩ ⟨rfl, rfl⟩ h

theorem builder_le (ops : List (BOp T BT)) (b : Builder T BT) (h : steps Builder.init ops = .ok b) :
    leMax b.min b.max = true :=
  have hp := (builder_inv ops b h).1
  (hp.leMax_iff _).2 fun _ => (hp.min_le_iff _).2 fun _ _ hj _ => (List.getElem?_eq_some_iff.mp hj).1

/-- `Function` wants no declared block, `Function2` one; the state is not changed -/
theorem finish_ok_iff {b b' : Builder T BT} {k : FnKind} :
    finish b k = .ok b' ↔ b' = b ∧ (b.blockType.isSome = true ↔ k = .fn2) := by
  cases k <;> cases hbt : b.blockType <;> simp [finish, hbt, eq_comm]

theorem buildOne_ok {c : Creator T BT} {b : Builder T BT} (hb : buildOne c = .ok b) :
    steps Builder.init c.ops = .ok b ∧ (b.blockType.isSome = true ↔ c.kind = .fn2) := by
  unfold buildOne at hb
  cases hs : steps Builder.init c.ops with
  | error p => simp [hs] at hb
  | ok b0 =>
    rw [hs] at hb
    obtain ⟨rfl, hk⟩ := finish_ok_iff.mp hb
    exact ⟨rfl, hk⟩

/-- the dispatch made of a state that `Function`/`Function2` accepted: the declared block is the one kept -/
theorem createDispatch_built {b : Builder T BT} {rs : List (BlockReq BT)} {k : FnKind} (hbi : BlockInv b rs)
    (hk : b.blockType.isSome = true ↔ k = .fn2) (hle : leMax b.min b.max = true) :
    createDispatch b k = .ok ⟨b.types, b.min, b.max, rs.headD .none⟩ := by
  rcases BlockInv.shape hbi with ⟨rfl, h1, h2⟩ | ⟨bt, rfl, h1, h2⟩ | ⟨bt, rfl, h1, h2⟩ <;>
    cases k <;> simp [h1] at hk <;> simp [createDispatch, hle, h1, h2]

end

end Pcore.Dispatch

import Pcore.Proofs.FormatXLaws
import Pcore.Proofs.FormatMerge
/-! Refinement: on the ten value kinds of `Format.lean`, under format maps keyed by the 16 default types, the extended model
    `fmtX` (any kind, any key system) IS the model `fmtVal` of `Format.lean` — so every theorem about `fmtVal` is a theorem
    about the extended model on that fragment, and the byte-for-byte comparison of the op `fmt` covers both. -/
namespace Pcore.Format

mutual
def Val.x : Val → XVal
  | .undef => .undef | .dflt => .dflt | .bool b => .bool b | .int i => .int i | .float bits => .float bits
  | .str s => .str s | .regexp src => .regexp src | .binary bs u => .binary bs u
  | .array vs => .array (Val.xs vs)
  | .hash es => .hash (Entry.xs es)
def Val.xs : List Val → List XVal
  | [] => []
  | v :: vs => v.x :: Val.xs vs
def Entry.x : Entry → XEntry
  | .mk k v => .mk k.x v.x
def Entry.xs : List Entry → List XEntry
  | [] => []
  | e :: es => e.x :: Entry.xs es
end

theorem Val.x_kind (v : Val) : v.x.kind = v.kind.x := by cases v <;> simp [Val.x, XVal.kind, Val.kind, Kind.x]

theorem Val.x_isContainer (v : Val) : v.x.isContainer = v.isContainer := by
  cases v <;> simp [Val.x, XVal.isContainer, Val.isContainer]

mutual
/-- the same Format tree, keyed by `Key` and by `XKey` -/
inductive TreeRel : FTree → GTree XKey → Prop
  | leaf (f : Fmt) : TreeRel (.mk f none) (.mk f none)
  | node (f : Fmt) (m : FMap) (m' : GMap XKey) : MapRel m m' → TreeRel (.mk f (some m)) (.mk f (some m'))
inductive MapRel : FMap → GMap XKey → Prop
  | nil : MapRel [] []
  | cons (k : Key) (t : FTree) (t' : GTree XKey) (m : FMap) (m' : GMap XKey) :
      TreeRel t t' → MapRel m m' → MapRel ((k, t) :: m) ((.base k, t') :: m')
  /-- the default container formats: `Format.lean` leaves out the Object and Type entries (no value of its kinds is accepted by them) -/
  | dflt : MapRel defaultCF (defaultCFG .base)
end

theorem TreeRel.f_eq {t : FTree} {t' : GTree XKey} (h : TreeRel t t') : t'.f = t.f := by
  cases h <;> rfl

theorem TreeRel.cf {t : FTree} {t' : GTree XKey} (h : TreeRel t t') : MapRel (cfOf t) (cfOfG kindKeys t') := by
  cases h with
  | leaf f => exact MapRel.dflt
  | node f m m' hm => exact hm

theorem MapRel.ite (c : Prop) [Decidable c] {m cf : FMap} {m' cf' : GMap XKey} (hm : MapRel m m') (hcf : MapRel cf cf') :
    MapRel (if c then m else cf) (if c then m' else cf') := by
  split <;> assumption

theorem getRel_dflt (k : Kind) (xv : XVal) (hk : xv.kind = k.x) :
    TreeRel (getFormat defaultCF k) (getG kindKeys (defaultCFG .base) xv) := by
  unfold getG getFormat
  simp only [kindKeys, hk, defaultCFG, defaultCF]
  cases k <;> exact TreeRel.leaf _

theorem getRel : ∀ (m : FMap) (m' : GMap XKey), MapRel m m' → ∀ (k : Kind) (xv : XVal), xv.kind = k.x →
    TreeRel (getFormat m k) (getG kindKeys m' xv)
  | _, _, .nil, k, xv, _ => TreeRel.leaf _
  | _, _, .dflt, k, xv, hk => getRel_dflt k xv hk
  | _, _, .cons k0 t t' m m' ht hm, k, xv, hk => by
    rw [getG_cons, getFormat_cons, show kindKeys.acc (.base k0) xv = k0.accepts k by simp only [kindKeys, hk, XKey.accepts_base]]
    split
    · exact ht
    · exact getRel m m' hm k xv hk

theorem arrayOf_eq (f : Fmt) (ind : Ind) (r : ResL (Str × Bool)) :
    arrayOf f ind r = (match r with | .ok parts => .text (arrayAssemble f ind parts) | .err e => e) := rfl

mutual
theorem fmtX_embed (io : FloatIO) : ∀ (v : Val) (m : FMap) (m' : GMap XKey) (ind : Ind), MapRel m m' →
    fmtX kindKeys io m' ind v.x = fmtVal io m ind v
  | .undef, m, m', ind, h => by simp only [Val.x, fmtX, fmtVal, (getRel m m' h .undef .undef rfl).f_eq]
  | .dflt, m, m', ind, h => by simp only [Val.x, fmtX, fmtVal, (getRel m m' h .dflt .dflt rfl).f_eq]
  | .bool b, m, m', ind, h => by simp only [Val.x, fmtX, fmtVal, (getRel m m' h .bool (.bool b) rfl).f_eq]
  | .int i, m, m', ind, h => by simp only [Val.x, fmtX, fmtVal, (getRel m m' h .int (.int i) rfl).f_eq]
  | .float bits, m, m', ind, h => by simp only [Val.x, fmtX, fmtVal, (getRel m m' h .float (.float bits) rfl).f_eq]
  | .str s, m, m', ind, h => by simp only [Val.x, fmtX, fmtVal, (getRel m m' h .str (.str s) rfl).f_eq]
  | .regexp src, m, m', ind, h => by simp only [Val.x, fmtX, fmtVal, (getRel m m' h .regexp (.regexp src) rfl).f_eq]
  | .binary bs u, m, m', ind, h => by simp only [Val.x, fmtX, fmtVal, (getRel m m' h .bin (.binary bs u) rfl).f_eq]
  | .array vs, m, m', ind, h => by
    have hr := getRel m m' h .arr (.array (Val.xs vs)) rfl
    simp only [Val.x, fmtX, fmtVal, hr.f_eq, arrayOf_eq, fmtX_embed_elems io vs m m' _ _ _ h hr.cf]
    rfl
  | .hash es, m, m', ind, h => by
    have hr := getRel m m' h .hash (.hash (Entry.xs es)) rfl
    have hra := getRel m m' h .arr (.array ((Entry.xs es).map XEntry.arr)) rfl
    simp only [Val.x, fmtX, fmtVal, hr.f_eq, hra.f_eq, arrayOf_eq, hashOf, hashAssembleD_false,
      fmtX_embed_pairs io es m m' _ _ _ h hr.cf, fmtX_embed_entryArrs io es _ _ _ hra.cf]
    rfl

theorem fmtX_embed_elems (io : FloatIO) : ∀ (vs : List Val) (m : FMap) (m' : GMap XKey) (cf : FMap) (cf' : GMap XKey) (ci : Ind),
    MapRel m m' → MapRel cf cf' → fmtElemsX kindKeys io m' cf' ci (Val.xs vs) = fmtElems io m cf ci vs
  | [], m, m', cf, cf', ci, _, _ => by simp [Val.xs, fmtElemsX, fmtElems]
  | v :: vs, m, m', cf, cf', ci, hm, hcf => by
    simp only [Val.xs, fmtElemsX, fmtElems, Val.x_isContainer, fmtX_embed_elems io vs m m' cf cf' ci hm hcf,
      fmtX_embed io v _ _ ci (MapRel.ite _ hm hcf)]

theorem fmtX_embed_pairs (io : FloatIO) : ∀ (es : List Entry) (m : FMap) (m' : GMap XKey) (cf : FMap) (cf' : GMap XKey) (ci : Ind),
    MapRel m m' → MapRel cf cf' → fmtPairsX kindKeys io m' cf' ci (Entry.xs es) = fmtPairs io m cf ci es
  | [], m, m', cf, cf', ci, _, _ => by simp [Entry.xs, fmtPairsX, fmtPairs]
  | .mk k v :: es, m, m', cf, cf', ci, hm, hcf => by
    simp only [Entry.xs, Entry.x, fmtPairsX, fmtPairs, Val.x_isContainer, fmtX_embed io k _ _ ci (MapRel.ite _ hm hcf),
      fmtX_embed io v _ _ ci (MapRel.ite _ hm hcf), fmtX_embed_pairs io es m m' cf cf' ci hm hcf]
    rfl

theorem fmtX_embed_entryArrs (io : FloatIO) : ∀ (es : List Entry) (m : FMap) (m' : GMap XKey) (ind : Ind),
    MapRel m m' → fmtEntryArrsX kindKeys io m' ind (Entry.xs es) = fmtEntryArrs io m ind es
  | [], m, m', ind, _ => by simp [Entry.xs, fmtEntryArrsX, fmtEntryArrs]
  | .mk k v :: es, m, m', ind, hm => by
    have hr := getRel m m' hm .arr (.array [k.x, v.x]) rfl
    simp only [Entry.xs, Entry.x, fmtEntryArrsX, fmtEntryArrs, Val.x_isContainer, hr.f_eq,
      fmtX_embed io k _ _ _ (MapRel.ite _ hm hr.cf), fmtX_embed io v _ _ _ (MapRel.ite _ hm hr.cf),
      fmtX_embed_entryArrs io es m m' ind hm]
    rfl
end

end Pcore.Format

import Pcore.Model.LatticeAsg
/-! The rule of `CallableType.IsAssignable` (callabletype.go, as repaired in /repo ccb4ec0) as a function `callAcc` of the six parts: it is
    reflexive, the default Callable accepts every Callable, and Callables that `CallableType.Equals` (3d635fb) identifies accept each
    other (`callAcc_of_parts`).  The rule is NOT transitive (`C03_trans_fails_callable`, Props/C03): a Callable that constrains only its
    return type accepts the default Callable, which accepts every Callable — see notes/defects/defect-C03-callable-return-only.md; the
    fragment of the transitivity theorem (`Ty.TV`, Proofs/LatTransU) therefore admits a Callable only if it is the default one or has a
    parameter list (`callAcc_some_iff`: the rule of such a receiver, part by part). -/
namespace Pcore.Lat
variable (cfg : Cfg) (sfh : Bool)

def callAcc (ps rt bl ps' rt' bl' : Option Ty) : Bool :=
  if ps.isNone && rt.isNone && bl.isNone then true else
  (match rt with
   | none => true
   | some r => (match rt' with | none => asg cfg sfh r .any | some r' => asg cfg sfh r r')) &&
  (match ps' with
   | some p' => (match ps with | none => false | some p => asg cfg sfh p' p)
   | none => ps.isNone) &&
  (match bl with
   | none => bl'.isNone
   | some bk => (match bl' with | none => false | some bk' => asg cfg sfh bk' bk))

theorem recv_callable_eq (ps rt bl ps' rt' bl' : Option Ty) :
    asgRecv cfg sfh (.callable ps rt bl) (.callable ps' rt' bl') = callAcc cfg sfh ps rt bl ps' rt' bl' := by
  conv => lhs; unfold asgRecv
  unfold callAcc; rfl

theorem callAcc_refl (ps rt bl : Option Ty) (hp : ∀ t, ps = some t → asg cfg sfh t t = true)
    (hr : ∀ t, rt = some t → asg cfg sfh t t = true) (hb : ∀ t, bl = some t → asg cfg sfh t t = true) :
    callAcc cfg sfh ps rt bl ps rt bl = true := by
  unfold callAcc
  cases ps <;> cases rt <;> cases bl <;> simp_all

theorem callAcc_default (ps rt bl : Option Ty) : callAcc cfg sfh none none none ps rt bl = true := by
  unfold callAcc; rfl

theorem callAcc_of_parts (ps rt bl ps' rt' bl' : Option Ty)
    (hp : (ps = none ∧ ps' = none) ∨ ∃ x y, ps = some x ∧ ps' = some y ∧ asg cfg sfh x y = true ∧ asg cfg sfh y x = true)
    (hr : (rt = none ∧ rt' = none) ∨ ∃ x y, rt = some x ∧ rt' = some y ∧ asg cfg sfh x y = true ∧ asg cfg sfh y x = true)
    (hb : (bl = none ∧ bl' = none) ∨ ∃ x y, bl = some x ∧ bl' = some y ∧ asg cfg sfh x y = true ∧ asg cfg sfh y x = true) :
    callAcc cfg sfh ps rt bl ps' rt' bl' = true ∧ callAcc cfg sfh ps' rt' bl' ps rt bl = true := by
  unfold callAcc
  rcases hp with ⟨rfl, rfl⟩ | ⟨x, y, rfl, rfl, h1, h2⟩ <;> rcases hr with ⟨rfl, rfl⟩ | ⟨x', y', rfl, rfl, h3, h4⟩ <;>
    rcases hb with ⟨rfl, rfl⟩ | ⟨x'', y'', rfl, rfl, h5, h6⟩ <;> simp_all

/-- the rule of a Callable receiver that has a parameter list, part by part -/
theorem callAcc_some_iff (x : Ty) (rt bl ps' rt' bl' : Option Ty) :
    callAcc cfg sfh (some x) rt bl ps' rt' bl' = true ↔
      (∀ r, rt = some r → asg cfg sfh r (rt'.getD .any) = true) ∧ (∃ y, ps' = some y ∧ asg cfg sfh y x = true) ∧
      ((bl = none ∧ bl' = none) ∨ ∃ k k', bl = some k ∧ bl' = some k' ∧ asg cfg sfh k' k = true) := by
  unfold callAcc
  cases rt <;> cases ps' <;> cases bl <;> cases bl' <;> cases rt' <;> simp [and_assoc]

end Pcore.Lat

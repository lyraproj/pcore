import Pcore.Proofs.Files
/-!
C15, the fuel is immaterial: a function of the model that does not run out of fuel answers the same — result and state —
with any larger fuel.  (Panics are never caught inside the 13 functions, so a result other than `diverges` means no call
below it diverged.)  One induction on the fuel over all 13 functions, with a small calculus for "`y` agrees with `x`
wherever `x` does not diverge".
-/
namespace Pcore.Files

def NotDiv {α : Type} : R α → Prop
  | .fail .diverges _ => False
  | _ => True

/-- `y` agrees with `x` wherever `x` does not diverge -/
def Le {α : Type} (x y : M α) : Prop := ∀ s, NotDiv (x s) → y s = x s

theorem Le.refl {α : Type} (x : M α) : Le x x := fun _ _ => rfl

theorem Le.trans {α : Type} {x y z : M α} (h1 : Le x y) (h2 : Le y z) : Le x z := by
  intro s hs
  have e1 := h1 s hs
  rw [← e1] at hs
  rw [h2 s hs, e1]

theorem le_bind {α β : Type} {x x' : M α} {f f' : α → M β} (hx : Le x x') (hf : ∀ a, Le (f a) (f' a)) :
    Le (x >>= f) (x' >>= f') := by
  intro s hs
  simp only [bind] at hs ⊢
  cases hxs : x s with
  | fail e s' =>
    rw [hxs] at hs
    change NotDiv (R.fail e s') at hs
    have : NotDiv (x s) := by
      rw [hxs]
      cases e with
      | diverges => exact hs
      | reported c f l => trivial
    rw [hx s this, hxs]
  | ok a s' =>
    rw [hxs] at hs
    have : NotDiv (x s) := by rw [hxs]; trivial
    rw [hx s this, hxs]
    change NotDiv (f a s') at hs
    exact hf a s' hs

theorem le_div {α : Type} (y : M α) : Le (raise .diverges) y := fun _ h => absurd h (by simp [raise, NotDiv])

theorem le_ite {α : Type} {c : Prop} [Decidable c] {a a' b b' : M α} (ha : Le a a') (hb : Le b b') :
    Le (if c then a else b) (if c then a' else b') := by
  by_cases h : c
  · simp only [h, if_true]; exact ha
  · simp only [h, if_false]; exact hb

theorem le_firstDef {x x' y y' : M (Option Entry)} (hx : Le x x') (hy : Le y y') : Le (firstDef x y) (firstDef x' y') := by
  refine le_bind hx (fun e => ?_)
  match e with
  | some (some d) => exact Le.refl _
  | some none => exact hy
  | none => exact hy

variable (cfg : Cfg)

structure AllLe (n : Nat) : Prop where
  loadEntry : ∀ l name, Le (loadEntry n cfg l name) (loadEntry (n+1) cfg l name)
  fbLoadEntry : ∀ l name, Le (fbLoadEntry n cfg l name) (fbLoadEntry (n+1) cfg l name)
  find : ∀ l name, Le (find n cfg l name) (find (n+1) cfg l name)
  findTail : ∀ l name, Le (findTail n cfg l name) (findTail (n+1) cfg l name)
  parentSearch : ∀ l name ts, Le (parentSearch n cfg l name ts) (parentSearch (n+1) cfg l name ts)
  instantiate : ∀ l name os, Le (instantiate n cfg l name os) (instantiate (n+1) cfg l name os)
  instantiator : ∀ name os, Le (instantiator n cfg name os) (instantiator (n+1) cfg name os)
  addTypes : ∀ d ts, Le (addTypes n cfg d ts) (addTypes (n+1) cfg d ts)
  resolveTS : ∀ nm ts i, Le (resolveTS n cfg nm ts i) (resolveTS (n+1) cfg nm ts i)
  dLoadEntry : ∀ name, Le (dLoadEntry n cfg name) (dLoadEntry (n+1) cfg name)
  dFind : ∀ name, Le (dFind n cfg name) (dFind (n+1) cfg name)
  dMembers : ∀ name, Le (dMembers n cfg name) (dMembers (n+1) cfg name)
  dLoop : ∀ mods name, Le (dLoop n cfg mods name) (dLoop (n+1) cfg mods name)

variable {cfg}

theorem lstep_loadEntry {n : Nat} (ih : AllLe cfg n) (l : Lid) (name : Name) :
    Le (loadEntry (n+1) cfg l name) (loadEntry (n+2) cfg l name) := by
  cases l with
  | d => simp only [loadEntry]; exact ih.dLoadEntry name
  | g => simp only [loadEntry]; exact ih.fbLoadEntry .g name
  | m mod => simp only [loadEntry]; exact ih.fbLoadEntry (.m mod) name

theorem lstep_fbLoadEntry {n : Nat} (ih : AllLe cfg n) (l : Lid) (name : Name) :
    Le (fbLoadEntry (n+1) cfg l name) (fbLoadEntry (n+2) cfg l name) := by
  rw [fbLoadEntry_succ, fbLoadEntry_succ]
  refine le_bind ?_ (fun pe => le_bind (Le.refl _) (fun st => ?_))
  · cases l with
    | m mod => exact le_ite (Le.refl _) (ih.fbLoadEntry .g name)
    | g => exact Le.refl _
    | d => exact Le.refl _
  · cases ownEntry pe (st.get l (keyOf name)) with
    | some e => exact Le.refl _
    | none => exact le_bind (ih.find l name) (fun _ => Le.refl _)

theorem lstep_find {n : Nat} (ih : AllLe cfg n) (l : Lid) (name : Name) :
    Le (find (n+1) cfg l name) (find (n+2) cfg l name) := by
  have htail := ih.findTail l name
  simp only [find]
  refine le_ite (le_ite ?_ htail) (le_ite ?_ htail)
  · refine le_bind (Le.refl _) ?_
    intro ps
    exact le_ite (Le.refl _) htail
  · refine le_bind (Le.refl _) ?_
    intro ps
    refine le_ite (Le.refl _) ?_
    cases idx cfg l ["init_typeset"] with
    | nil => exact Le.refl _
    | cons o os =>
      refine le_ite ?_ ?_
      · exact le_bind (ih.instantiate l name (o :: os)) (fun _ => Le.refl _)
      · exact le_bind (ih.instantiator name (o :: os)) (fun _ => Le.refl _)

theorem lstep_findTail {n : Nat} (ih : AllLe cfg n) (l : Lid) (name : Name) :
    Le (findTail (n+1) cfg l name) (findTail (n+2) cfg l name) := by
  simp only [findTail]
  cases idx cfg l (keyOf name) with
  | cons o os => exact ih.instantiate l name (o :: os)
  | nil => exact le_ite (ih.parentSearch l name name.dropLast) (Le.refl _)

theorem lstep_parentSearch {n : Nat} (ih : AllLe cfg n) (l : Lid) (name ts : Name) :
    Le (parentSearch (n+1) cfg l name ts) (parentSearch (n+2) cfg l name ts) := by
  cases ts with
  | nil => simp only [parentSearch]; exact Le.refl _
  | cons t rest =>
    simp only [parentSearch]
    refine le_bind (Le.refl _) ?_
    intro st
    cases st.get l (keyOf (t :: rest)) with
    | some v => exact ih.parentSearch l name _
    | none =>
      refine le_bind (ih.find l (t :: rest)) ?_
      intro _
      refine le_bind (Le.refl _) ?_
      intro st1
      cases st1.get l (keyOf name) with
      | some te => exact Le.refl _
      | none => exact ih.parentSearch l name _

theorem lstep_instantiate {n : Nat} (ih : AllLe cfg n) (l : Lid) (name : Name) (os : List Path) :
    Le (instantiate (n+1) cfg l name os) (instantiate (n+2) cfg l name os) := by
  simp only [instantiate]
  refine le_bind (Le.refl _) ?_
  intro st
  cases st.get l (keyOf name) with
  | some v => exact Le.refl _
  | none => exact le_bind (Le.refl _) (fun _ => le_bind (ih.instantiator name os) (fun _ => Le.refl _))

theorem lstep_instantiator {n : Nat} (ih : AllLe cfg n) (name : Name) (os : List Path) :
    Le (instantiator (n+1) cfg name os) (instantiator (n+2) cfg name os) := by
  cases os with
  | nil => simp only [instantiator]; exact Le.refl _
  | cons p rest =>
    simp only [instantiator]
    refine le_bind (Le.refl _) ?_
    intro _
    cases bodyAt cfg.tree p with
    | none => exact Le.refl _
    | some b =>
      cases b with
      | unreadable => exact Le.refl _
      | malformed ln => exact Le.refl _
      | nodef => exact Le.refl _
      | bare => exact ih.addTypes _ _
      | typ k nm ts => exact le_ite (Le.refl _) (ih.addTypes _ _)

theorem lstep_addTypes {n : Nat} (ih : AllLe cfg n) (d : Def) (ts : List String) :
    Le (addTypes (n+1) cfg d ts) (addTypes (n+2) cfg d ts) := by
  simp only [addTypes]
  exact le_ite (le_bind (ih.resolveTS d.name ts 0) (fun _ => Le.refl _)) (Le.refl _)

theorem lstep_resolveTS {n : Nat} (ih : AllLe cfg n) (nm : Name) (ts : List String) (i : Nat) :
    Le (resolveTS (n+1) cfg nm ts i) (resolveTS (n+2) cfg nm ts i) := by
  cases ts with
  | nil => simp only [resolveTS]; exact Le.refl _
  | cons t rest =>
    simp only [resolveTS]
    refine le_bind (ih.loadEntry cfg.via (nm ++ [t])) ?_
    intro le
    match le with
    | some (some d) => exact ih.resolveTS nm rest (i+1)
    | some none => exact le_bind (Le.refl _) (fun _ => ih.resolveTS nm rest (i+1))
    | none => exact le_bind (Le.refl _) (fun _ => ih.resolveTS nm rest (i+1))

theorem lstep_dLoadEntry {n : Nat} (ih : AllLe cfg n) (name : Name) :
    Le (dLoadEntry (n+1) cfg name) (dLoadEntry (n+2) cfg name) := by
  simp only [dLoadEntry]
  refine le_bind (Le.refl _) ?_
  intro st
  match st.get .d (keyOf name) with
  | some (some d) => exact Le.refl _
  | some none => exact le_bind (ih.dFind name) (fun _ => Le.refl _)
  | none => exact le_bind (ih.dFind name) (fun _ => Le.refl _)

theorem lstep_dFind {n : Nat} (ih : AllLe cfg n) (name : Name) :
    Le (dFind (n+1) cfg name) (dFind (n+2) cfg name) := by
  simp only [dFind]
  refine le_ite ?_ (ih.dMembers name)
  refine le_bind (Le.refl _) ?_
  intro ps
  cases ps.head? with
  | none => exact ih.dMembers name
  | some h => exact le_ite (ih.fbLoadEntry (.m h) name) (ih.dMembers name)

theorem lstep_dMembers {n : Nat} (ih : AllLe cfg n) (name : Name) :
    Le (dMembers (n+1) cfg name) (dMembers (n+2) cfg name) :=
  le_ite (le_firstDef (ih.fbLoadEntry .g name) (ih.dLoop cfg.mods name)) (ih.dLoop cfg.mods name)

theorem lstep_dLoop {n : Nat} (ih : AllLe cfg n) (mods : List String) (name : Name) :
    Le (dLoop (n+1) cfg mods name) (dLoop (n+2) cfg mods name) := by
  cases mods with
  | nil => exact Le.refl _
  | cons m rest => exact le_firstDef (ih.fbLoadEntry (.m m) name) (ih.dLoop rest name)

theorem allLe : ∀ n, AllLe cfg n
  | 0 => by
    constructor <;> intros <;> exact le_div _
  | n+1 =>
    have ih := allLe n
    { loadEntry := lstep_loadEntry ih
      fbLoadEntry := lstep_fbLoadEntry ih
      find := lstep_find ih
      findTail := lstep_findTail ih
      parentSearch := lstep_parentSearch ih
      instantiate := lstep_instantiate ih
      instantiator := lstep_instantiator ih
      addTypes := lstep_addTypes ih
      resolveTS := lstep_resolveTS ih
      dLoadEntry := lstep_dLoadEntry ih
      dFind := lstep_dFind ih
      dMembers := lstep_dMembers ih
      dLoop := lstep_dLoop ih }

theorem loadEntry_le (n m : Nat) (h : n ≤ m) (l : Lid) (name : Name) :
    Le (loadEntry n cfg l name) (loadEntry m cfg l name) := by
  induction h with
  | refl => exact Le.refl _
  | step _ ih => exact ih.trans ((allLe _).loadEntry l name)

theorem loadS_fuel_mono (cfg : Cfg) (s : St) (name : Name) (n m : Nat) (hnm : n ≤ m)
    (h : (loadS n cfg s name).1 ≠ .failed .diverges) : loadS m cfg s name = loadS n cfg s name := by
  have hle : Le (load n cfg name) (load m cfg name) := by
    unfold load
    exact le_bind (loadEntry_le n m hnm cfg.via name) (fun _ => Le.refl _)
  have hnd : NotDiv (load n cfg name s) :=
    loadS_cases (fun r x => x.1 ≠ .failed .diverges → NotDiv r) (fun _ _ _ => trivial) (fun e _ h => by
      cases e with
      | diverges => exact absurd rfl h
      | reported c f l => trivial) h
  unfold loadS
  rw [hle s hnd]

theorem runLoads_fuel_mono (cfg : Cfg) (n m : Nat) (hnm : n ≤ m) : ∀ (names : List Name) (s : St),
    (∀ o ∈ (runLoads n cfg s names).1, o ≠ .failed .diverges) → runLoads m cfg s names = runLoads n cfg s names
  | [], _, _ => rfl
  | x :: xs, s, h => by
    have h1 : (loadS n cfg s x).1 ≠ .failed .diverges := h _ (by simp [runLoads])
    have e1 := loadS_fuel_mono cfg s x n m hnm h1
    have h2 : ∀ o ∈ (runLoads n cfg (loadS n cfg s x).2 xs).1, o ≠ .failed .diverges := by
      intro o ho
      exact h o (by simp only [runLoads, List.mem_cons]; exact Or.inr ho)
    have e2 := runLoads_fuel_mono cfg n m hnm xs _ h2
    simp only [runLoads, e1, e2]

end Pcore.Files

import Pcore.Model.DescribeSig
import Pcore.Proofs.DescribeRep
/-!
  C19, the argument-error description of a dispatch: `describeSignatures` returns normally for every call that respects the contract of
  px.DescribeSignatures (`SigOK`: every signature has a parameter tuple whose names match its types and which declares a type unless it
  takes no argument; `ArgsOK`: the argument type is a Tuple or Array type that can have as many elements as it declares).
-/
namespace Pcore.Desc
open Pcore.Lat

/-- a signature as the dispatcher builds it -/
def SigOK (sg : Sig) : Prop :=
  ∃ ts r, sg.params = some (ts, r) ∧ sg.names.length = ts.length ∧ (ts = [] → r.hi ≤ 0)

/-- the type of an argument list -/
def ArgsOK : Ty → Prop
  | .tuple ts g => (ts.length : Int) ≤ (tupleSize ts g).hi
  | .array _ r => r.lo ≤ r.hi
  | _ => False

section
variable (cfg : Cfg) (sfh : Bool)

theorem sigArgLoop_ok (eTypes : List Ty) (eNames : List String) (path : Path) (hn : eNames.length = eTypes.length)
    (aTypes : List Ty) (ax : Nat) (h : eTypes ≠ [] ∨ aTypes = []) :
    ∃ ms, sigArgLoop cfg sfh eTypes eNames path aTypes ax = .ok ms := by
  induction aTypes generalizing ax with
  | nil => exact ⟨_, rfl⟩
  | cons aType rest ih =>
    have hne : eTypes ≠ [] := by rcases h with h | h; exact h; cases h
    have hih : ∀ ax, ∃ ms, sigArgLoop cfg sfh eTypes eNames path rest ax = .ok ms := fun ax => ih ax (.inl hne)
    simp only [sigArgLoop]
    cases hl : eTypes.getLast? with
    | none => exact absurd (List.getLast?_eq_none_iff.mp hl) hne
    | some last =>
      simp only []
      split
      · exact hih _
      · have hlen : 0 < eTypes.length := List.length_pos_iff.mpr hne
        have hex : min ax (eTypes.length - 1) < eNames.length := by omega
        rw [List.getElem?_eq_getElem hex]
        simp only []
        obtain ⟨ds, hds⟩ := describe_ok cfg sfh ((eTypes[min ax (eTypes.length - 1)]?).getD last) aType
          (path ++ [⟨.parameter, eNames[min ax (eTypes.length - 1)]⟩])
        rw [hds]
        cases ds with
        | nil => exact hih _
        | cons d ds => exact ⟨_, rfl⟩

theorem sigArguments_ok (sg : Sig) (args : Ty) (path : Path) (hs : SigOK sg) (ha : ArgsOK args) :
    ∃ ms, sigArguments cfg sfh sg args path = .ok ms := by
  obtain ⟨ts, r, hp, hn, hempty⟩ := hs
  -- a parameter tuple without types takes no argument, so an argument list that fits it is empty: the loop never indexes it
  have hfit : ∀ (aSize : Rng) (aTypes : List Ty), (aSize.hi ≤ 0 → aTypes = []) → r.sub aSize = true → ts ≠ [] ∨ aTypes = [] := by
    intro aSize aTypes hnil hsub
    by_cases hts : ts = []
    · have := hempty hts
      simp only [Rng.sub, Bool.and_eq_true, decide_eq_true_eq] at hsub
      exact .inr (hnil (by omega))
    · exact .inl hts
  unfold sigArguments
  rw [hp]
  cases args <;> simp only [ArgsOK] at ha
  case tuple ats g =>
    simp only []
    split
    · exact sigArgLoop_ok cfg sfh ts sg.names path hn _ 0 (hfit (tupleSize ats g) ats (fun h0 => List.eq_nil_of_length_eq_zero (by omega)) ‹_›)
    · exact ⟨_, rfl⟩
  case array e r' =>
    simp only []
    split
    · exact sigArgLoop_ok cfg sfh ts sg.names path hn _ 0 (hfit r' _ (fun h0 => by rw [show r'.lo.toNat = 0 by omega]; rfl) ‹_›)
    · exact ⟨_, rfl⟩

theorem sigAllArgs_ok (args : Ty) (ha : ArgsOK args) (sigs : List Sig) (hs : ∀ sg ∈ sigs, SigOK sg) (ix : Nat) :
    ∃ r, sigAllArgs cfg sfh args sigs ix = .ok r := by
  induction sigs generalizing ix with
  | nil => exact ⟨_, rfl⟩
  | cons sg rest ih =>
    obtain ⟨ae, hae⟩ := sigArguments_ok cfg sfh sg args (sigPath ix) (hs sg List.mem_cons_self) ha
    obtain ⟨more, hmore⟩ := ih (fun s h => hs s (List.mem_cons_of_mem _ h)) (ix + 1)
    simp only [sigAllArgs, hae, hmore]
    exact ⟨_, rfl⟩

theorem sigFinish_ok (ea : List (List Mismatch)) : ∀ k, sigFinish ea ≠ .fault k := by
  intro k
  unfold sigFinish
  obtain ⟨r, hr, _⟩ := mergeDescriptions_spec 0 .count ea.flatten
  rw [hr]
  match r with
  | [] => simp
  | [d] => simp
  | d :: d' :: r' => simp

theorem sigBlock_ok (sg : Sig) (blk : Option Ty) (path : Path) : ∃ r, sigBlock cfg sfh sg blk path = .ok r := by
  unfold sigBlock
  cases blk with
  | none =>
    simp only []
    split
    · exact ⟨_, rfl⟩
    · split <;> exact ⟨_, rfl⟩
  | some ab =>
    simp only []
    split
    · exact ⟨_, rfl⟩
    · exact describe_ok cfg sfh _ _ _

theorem sigAllBlocks_ok (blk : Option Ty) (sigs : List Sig) (ix : Nat) : ∃ r, sigAllBlocks cfg sfh blk sigs ix = .ok r := by
  induction sigs generalizing ix with
  | nil => exact ⟨_, rfl⟩
  | cons sg rest ih =>
    obtain ⟨be, hbe⟩ := sigBlock_ok cfg sfh sg blk (sigPath ix)
    obtain ⟨more, hmore⟩ := ih (ix + 1)
    simp only [sigAllBlocks, hbe, hmore]
    exact ⟨_, rfl⟩

end
end Pcore.Desc

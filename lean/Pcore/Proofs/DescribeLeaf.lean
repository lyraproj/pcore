import Pcore.Proofs.DescribePos
import Pcore.Proofs.DescribeTm
/-!
  C19, a mismatch as an arm of `internalDescribe` reports it.  `noMerge`: an expected type without Variant / Data / RichData / Callable at any position
  the describer reaches; there nothing is merged, and both `noMerge` and `plain` are inherited along a `Step`.  Then what a mismatch looks
  like that an arm of `internalDescribe` reports itself, at its own path (`Leaf`): the condition of its kind holds of the very pair the arm
  was handed, the ranges of a size / count mismatch are those the code compared (`SizeReal`), and the actual type of a type / pattern
  mismatch — as given, or a collection with its size widened — is one the expected type does not accept, as far as the actual type is
  `plain` (`Unaccepted`, `TmReal`).
-/
namespace Pcore.Desc
open Pcore.Lat

mutual
/-- no Variant and no alias at any position `internalDescribe` can reach (it never descends into NotUndef / Type / Sensitive /
    Iterable) -/
def noMerge : Ty → Bool
  | .variant _ | .data | .richData => false
  | .callable _ _ _ => false      -- (kept outside: the parameter tuples are described under the Callable's own path)
  | .array e _ => noMerge e
  | .hash k v _ => noMerge k && noMerge v
  | .tuple ts _ => noMergeL ts
  | .struct ms => noMergeM ms
  | .optional t => noMerge t
  | _ => true
def noMergeL : List Ty → Bool
  | [] => true
  | t :: ts => noMerge t && noMergeL ts
def noMergeM : List Member → Bool
  | [] => true
  | (_, _, t) :: ms => noMerge t && noMergeM ms
end

theorem noMergeL_iff {ts : List Ty} : noMergeL ts = true ↔ ∀ t ∈ ts, noMerge t = true := by
  induction ts with
  | nil => simp [noMergeL]
  | cons t ts ih => simp only [noMergeL, Bool.and_eq_true, ih, List.mem_cons, forall_eq_or_imp]

theorem noMergeM_iff {ms : List Member} : noMergeM ms = true ↔ ∀ m ∈ ms, noMerge m.2.2 = true := by
  induction ms with
  | nil => simp [noMergeM]
  | cons m ms ih =>
    obtain ⟨n, o, t⟩ := m
    simp only [noMergeM, Bool.and_eq_true, ih, List.mem_cons, forall_eq_or_imp]

theorem members_noMerge {e : Ty} {oc : Bool} {xs : List Atom} (h : members e oc = some xs) : noMerge e = false := by
  cases e <;> first | rfl | cases h

theorem Step.noMerge {e a pe e2 a2} (h : Step e a pe e2 a2) (hn : noMerge e = true) : noMerge e2 = true := by
  cases h with
  | entryS hin => exact noMergeM_iff.mp hn _ hin
  | keyS => rfl
  | entryH => exact (Bool.and_eq_true_iff.mp hn).2
  | keyH => exact (Bool.and_eq_true_iff.mp hn).1
  | idxAT => exact hn
  | idxTA hi => exact noMergeL_iff.mp hn _ (List.mem_of_getElem? hi)
  | idxTT hl => exact noMergeL_iff.mp hn _ (List.mem_of_getLast? hl)

theorem Step.plain {e a pe e2 a2} (h : Step e a pe e2 a2) (hp : plain a = true) : plain a2 = true := by
  cases h with
  | entryS _ hm => exact (plainM_iff.mp hp _ hm).2
  | keyS => rfl
  | entryH hm => exact (plainM_iff.mp hp _ hm).2
  | keyH hm => rw [memberKey, (plainM_iff.mp hp _ hm).1]; rfl
  | idxAT hi => exact plainL_iff.mp hp _ (List.mem_of_getElem? hi)
  | idxTA => exact hp
  | idxTT _ _ hi => exact plainL_iff.mp hp _ (List.mem_of_getElem? hi)

def SizeReal : Mismatch → Prop
  | .sizeMismatch _ er ar => er.sub ar = false
  | .countMismatch _ er ar => er.sub ar = false
  | _ => True

section
variable (cfg : Cfg) (sfh : Bool)

def TmReal : Mismatch → Prop
  | .typeMismatch _ x act => ∀ t, x = .atom (.ty t) → asg cfg sfh t act = false
  | .patternMismatch _ t act => asg cfg sfh t act = false
  | _ => True

/-- `act`, reported as the actual type where `e` met `a`, is as plain and as little Undef as `a`, and `e` does not accept it -/
def Unaccepted (e a act : Ty) : Prop :=
  (isUndef a = false → isUndef act = false) ∧ (plain a = true → plain act = true ∧ asg cfg sfh e act = false)

theorem Unaccepted.same {e a : Ty} (h : plain a = true → asg cfg sfh e a = false) : Unaccepted cfg sfh e a a :=
  ⟨id, fun hp => ⟨hp, h hp⟩⟩

theorem Unaccepted.guard {e a : Ty} (h : ¬ asg cfg sfh e a = true) : Unaccepted cfg sfh e a a :=
  .same cfg sfh fun _ => Bool.eq_false_iff.mpr h

/-- a type / pattern mismatch an arm reports itself names the original (the arm of a built-in alias: the alias) and an unaccepted type -/
def TmLeaf (e o a : Ty) : Mismatch → Prop
  | .typeMismatch _ x act => (x = .ofTy o ∨ x = .ofTy e) ∧ Unaccepted cfg sfh e a act
  | .patternMismatch _ t act => t = o ∧ Unaccepted cfg sfh e a act
  | _ => True

/-- `m` is what the arm for `e` (original `o`) may report itself against `a` at `p` -/
structure Leaf (e o a : Ty) (p : Path) (m : Mismatch) : Prop where
  path : m.path = p
  loc : Local m.kk (.ty e) a
  sizeReal : SizeReal m
  tm : TmLeaf cfg sfh e o a m

variable {cfg sfh}

theorem Leaf.type {e o a act : Ty} {p : Path} (h : Unaccepted cfg sfh e a act) : Leaf cfg sfh e o a p (.typeMismatch p (.ofTy o) act) :=
  ⟨rfl, trivial, trivial, .inl rfl, h⟩

theorem Leaf.pattern {e o a : Ty} {p : Path} (h : ¬ asg cfg sfh e a = true) : Leaf cfg sfh e o a p (.patternMismatch p o a) :=
  ⟨rfl, trivial, trivial, rfl, .guard cfg sfh h⟩

theorem Leaf.size {e o a : Ty} {p : Path} {er ar : Rng} (h : ¬ er.sub ar = true) : Leaf cfg sfh e o a p (.sizeMismatch p er ar) :=
  ⟨rfl, trivial, Bool.eq_false_iff.mpr h, trivial⟩

theorem Leaf.count {e o a : Ty} {p : Path} {er ar : Rng} (h : (!er.sub ar) = true) : Leaf cfg sfh e o a p (.countMismatch p er ar) :=
  ⟨rfl, trivial, (Bool.not_eq_true' _).mp h, trivial⟩

end
end Pcore.Desc

import Pcore.Proofs.DispatchBuilder
/-!
`TupleType.IsInstance3` on the tuple that `createDispatch` builds from an accepted builder state is exactly the positional
reading of the declaration (`decl_iff`; before it `DeclAccepts` and its reading from the left), for arbitrary `T V inst`.  Core Lean only.
-/
namespace Pcore.Dispatch

section
variable {T BT V B : Type} (inst : T → V → Bool) (binst : BT → B → Bool)

/-- positional reading of a parameter declaration (independent of the builder's `min`/`max` bookkeeping):
    every required parameter receives an argument; without a repeated parameter there are no surplus arguments;
    argument `j` is an instance of the type of parameter `min(j, last)` -/
def DeclAccepts (ps : List (PKind × T)) (args : List V) : Prop :=
  (∀ j p, ps[j]? = some p → p.1.required = true → j < args.length) ∧
  ((∀ p ∈ ps, p.1.repeated = false) → args.length ≤ ps.length) ∧
  (∀ j v, args[j]? = some v → ∃ p, ps[min j (ps.length - 1)]? = some p ∧ inst p.2 v = true)

section
variable {inst}

theorem DeclAccepts.nil {args : List V} (h : DeclAccepts inst ([] : List (PKind × T)) args) : args = [] :=
  List.eq_nil_of_length_eq_zero (Nat.le_zero.mp (h.2.1 (fun _ hp => nomatch hp)))

theorem DeclAccepts.cons {k : PKind} {t : T} {ps : List (PKind × T)} {a : V} {rest : List V} (hk : k.repeated = false)
    (h : DeclAccepts inst ((k, t) :: ps) (a :: rest)) : inst t a = true ∧ DeclAccepts inst ps rest := by
  obtain ⟨hreq, hmax, hargs⟩ := h
  have hmax' : (∀ p ∈ ps, p.1.repeated = false) → rest.length ≤ ps.length := fun hnr =>
    Nat.le_of_succ_le_succ (hmax fun p hp => by
      rcases List.mem_cons.mp hp with rfl | hp
      · exact hk
      · exact hnr p hp)
  refine ⟨?_, ?_, hmax', ?_⟩
  · obtain ⟨p, hp, hi⟩ := hargs 0 a rfl
    rw [Nat.zero_min] at hp
    cases hp
    exact hi
  · intro j p hj hr
    exact Nat.lt_of_succ_lt_succ (hreq (j + 1) p hj hr)
  · intro j v hj
    obtain ⟨p, hp, hi⟩ := hargs (j + 1) v hj
    cases ps with
    | nil =>
      -- the only parameter is not repeated, so there is no second argument
      have : rest.length ≤ 0 := hmax' (fun _ hp => nomatch hp)
      have : j < rest.length := (List.getElem?_eq_some_iff.mp hj).1
      omega
    | cons q qs =>
      exact ⟨p, clamp_succ (k, t) q qs j ▸ hp, hi⟩

theorem DeclAccepts.req {t : T} {ps : List (PKind × T)} {args : List V} (h : DeclAccepts inst ((.req, t) :: ps) args) :
    ∃ a rest, args = a :: rest ∧ inst t a = true ∧ DeclAccepts inst ps rest := by
  have := h.1 0 (.req, t) rfl rfl
  match args, h, this with
  | a :: rest, h, _ => exact ⟨a, rest, rfl, h.cons rfl⟩

theorem DeclAccepts.opt {t : T} {ps : List (PKind × T)} {args : List V} (h : DeclAccepts inst ((.opt, t) :: ps) args) :
    args = [] ∨ ∃ a rest, args = a :: rest ∧ inst t a = true ∧ DeclAccepts inst ps rest := by
  match args, h with
  | [], _ => exact .inl rfl
  | a :: rest, h => exact .inr ⟨a, rest, rfl, h.cons rfl⟩

end

theorem decl_iff (b : Builder T BT) (ps : List (PKind × T)) (hinv : ParamInv b ps) (args : List V) :
    tupleInst inst b.types b.min b.max args = true ↔ DeclAccepts inst ps args := by
  have htypes : (b.types = [] ∨ ∀ j v, args[j]? = some v →
        ∃ t, b.types[min j (b.types.length - 1)]? = some t ∧ inst t v = true) ↔
      (ps = [] ∨ ∀ j v, args[j]? = some v → ∃ p, ps[min j (ps.length - 1)]? = some p ∧ inst p.2 v = true) := by
    rw [hinv.1, List.length_map, List.map_eq_nil_iff]
    refine or_congr Iff.rfl (forall_congr' fun j => forall_congr' fun v => imp_congr_right fun _ => ?_)
    rw [List.getElem?_map]
    cases ps[min j (ps.length - 1)]? <;> simp
  rw [tupleInst_iff, htypes, hinv.min_le_iff, hinv.leMax_iff]
  refine and_congr_right fun _ => and_congr_right fun hsurplus => ⟨?_, .inr⟩
  rintro (rfl | hargs)
  · obtain rfl : args = [] := List.length_eq_zero_iff.mp (Nat.le_zero.mp (hsurplus nofun))
    intro j v hj; simp at hj
  · exact hargs

end

end Pcore.Dispatch

import Pcore.Proofs.LatSound
/-! C01: the two built-in recursive aliases Data and RichData, as receivers and on the right-hand side.  In order: what is used of
    `instData` / `instRich` and of `Rng.pos`; the alias as a type (its key type, its plain members, arrays and hashes of its instances,
    Data within RichData); the alias as a receiver (`recv_alias`: the Array and Hash rules of LatSound at its own members); what accepts
    `Array[alias]` / `Hash[key, alias]` (`toArr_sound`, `toHash_sound`); the alias on the right-hand side (`inst_alias_cases`,
    `sound_alias_r`). -/
namespace Pcore.Lat
variable (cfg : Cfg) (sfh : Bool)

theorem inst_sdata_data {v : Val} (h : inst cfg sfh .scalarData v = true) : instData v = true := by
  unfold inst at h; cases v <;> simp at h <;> simp [instData]

theorem instData_rich (v : Val) : instData v = true → instRich v = true := by
  induction v using Val.ind with
  | array vs ih =>
    intro h
    simp only [instData, instDataL_iff] at h
    simp only [instRich, instRichL_iff]
    exact fun x hx => ih x hx (h x hx)
  | hash es _ ih =>
    intro h
    simp only [instData, instDataE_iff] at h
    simp only [instRich, instRichE_iff]
    intro e he
    refine ⟨?_, ih e he (h e he).2⟩
    have := (h e he).1
    cases hk : e.1 <;> simp [hk, isStrKey] at this <;> simp [isRichKey]
  | _ => intro h; simp [instData] at h <;> simp [instRich, isScalarVal]

theorem instRich_of_scalar {v : Val} (h : isScalarVal v = true) : instRich v = true := by
  cases v <;> first | rfl | cases h

theorem pos_contains_len (n : Nat) (h : (n : Int) ≤ I64.max) (r : Rng) (hr : r.sub Rng.pos = true) : r.contains n = true := by
  have h12 : r.lo ≤ 0 ∧ I64.max ≤ r.hi := by
    simp only [Rng.sub, Rng.pos, Bool.and_eq_true] at hr; exact ⟨of_decide_eq_true hr.1, of_decide_eq_true hr.2⟩
  simp only [Rng.contains, Bool.and_eq_true, decide_eq_true_eq]
  omega

theorem alias_key_frag (al : Alias) : al.key.Frag sfh ∧ Ty.WF cfg al.key ∧ al.key.US := by
  cases al <;> simp [Alias.key, Ty.Frag, Ty.WF, Ty.US]
theorem alias_key_w (al : Alias) : al.key.w ≤ al.ty.w := by cases al <;> simp [Alias.key, Alias.ty, Ty.w, Ty.wl]

theorem alias_leaf_sound (al : Alias) (x : Ty) (hx : x ∈ al.leaves) :
    x.w < al.ty.w ∧ x.Frag sfh ∧ Ty.WF cfg x ∧ x.US ∧ ∀ v, inst cfg sfh x v = true → inst cfg sfh al.ty v = true := by
  have up : ∀ v, inst cfg sfh x v = true → inst cfg sfh al.ty v = true := by
    intro v h
    cases al <;> simp only [Alias.leaves, List.mem_cons, List.not_mem_nil, or_false] at hx
    · rcases hx with rfl | rfl
      · exact inst_data cfg sfh v ▸ inst_sdata_data cfg sfh h
      · rw [inst_undef_eq cfg sfh h]; unfold inst; rfl
    · rw [Alias.ty, inst_richData]
      rcases hx with rfl | rfl | rfl | rfl | rfl | rfl
      · unfold inst at h; exact instRich_of_scalar h
      all_goals (unfold inst at h; split at h <;> first | rfl | cases h)
  refine ⟨?_, ?_, ?_, ?_, up⟩ <;>
    (cases al <;> simp only [Alias.leaves, List.mem_cons, List.not_mem_nil, or_false] at hx <;>
      rcases hx with rfl | rfl | rfl | rfl | rfl | rfl <;> simp [Alias.ty, Ty.w, Ty.Frag, Ty.TA, Ty.WF, Ty.US])

theorem inst_alias_array (al : Alias) (vs : List Val) (hall : ∀ x ∈ vs, inst cfg sfh al.ty x = true) :
    inst cfg sfh al.ty (.array vs) = true := by
  cases al
  · rw [Alias.ty, inst_data]; simp only [instData, instDataL_iff]
    exact fun x hx => inst_data cfg sfh x ▸ hall x hx
  · rw [Alias.ty, inst_richData]; simp only [instRich, instRichL_iff]
    exact fun x hx => inst_richData cfg sfh x ▸ hall x hx

theorem inst_alias_hash (al : Alias) (es : List (Val × Val))
    (hall : ∀ e ∈ es, inst cfg sfh al.key e.1 = true ∧ inst cfg sfh al.ty e.2 = true) : inst cfg sfh al.ty (.hash es) = true := by
  cases al
  · rw [Alias.ty, inst_data]; simp only [instData, instDataE_iff]
    exact fun e he => ⟨(inst_str_key_iff cfg sfh _).1 (hall e he).1, inst_data cfg sfh e.2 ▸ (hall e he).2⟩
  · rw [Alias.ty, inst_richData]; simp only [instRich, instRichE_iff]
    exact fun e he => ⟨(inst_richkey_iff cfg sfh _).1 (hall e he).1, inst_richData cfg sfh e.2 ▸ (hall e he).2⟩

/-- Data lies within RichData, values and keys -/
theorem inst_rich_of_alias (al : Alias) {x : Val} (h : inst cfg sfh al.ty x = true) : inst cfg sfh .richData x = true := by
  cases al
  · rw [inst_richData]; exact instData_rich x (inst_data cfg sfh x ▸ h)
  · exact h
theorem inst_richKey_of_alias (al : Alias) {k : Val} (h : inst cfg sfh al.key k = true) : inst cfg sfh Alias.rich.key k = true := by
  cases al
  · exact (inst_variant_iff cfg sfh _ k).2 ⟨.str, by simp, h⟩
  · exact h

/-- Data / RichData as a receiver (`recv_alias_split`): one of its plain members accepts `b`, or its member `Array[alias]` does, or its member
    `Hash[key, alias]` does — the latter two by the ordinary Array and Hash rules at the element type `alias`, whose weight hypotheses
    speak of the element types alone. -/
theorem recv_alias (al : Alias) (n : Nat) (ih : Sound cfg sfh n) (b : Ty) (v : Val)
    (hw : al.ty.w + b.w ≤ n + 1) (H : Hyp cfg sfh al.ty b v)
    (h : asgRecv cfg sfh al.ty b = true) (hi : inst cfg sfh b v = true) : inst cfg sfh al.ty v = true := by
  rw [recv_alias_split, Bool.or_eq_true, Bool.or_eq_true, List.any_eq_true] at h
  rcases h with (⟨x, hx, hxb⟩ | h) | h
  · obtain ⟨wx, fx, wfx, _, up⟩ := alias_leaf_sound cfg sfh al x hx
    exact up v (ih x b v (by omega) (H.recvPart fx wfx) hxb hi)
  · obtain ⟨vs, rfl, _, hall⟩ := (inst_array_iff cfg sfh _ _ v).1 (recv_pos_sound cfg sfh n ih al.arr b v rfl
      (fun t ht => by cases List.mem_singleton.1 ht; exact ⟨hw, H.fa, H.wa⟩) H.fb H.wb H.us H.ok H.tv h hi)
    exact inst_alias_array cfg sfh al vs hall
  · obtain ⟨fk, wk, _⟩ := alias_key_frag cfg sfh al
    obtain ⟨es, rfl, _, hall⟩ := (inst_hash_iff cfg sfh _ _ _ v).1
      (recv_hash_of cfg sfh n ih al.key al.ty Rng.pos b v (by have := alias_key_w al; omega) hw
        (H.recvPart fk wk) H h hi)
    exact inst_alias_hash cfg sfh al es hall

/-- an array all of whose elements are instances of the alias is an instance of whatever accepts `Array[alias]` -/
theorem toArr_sound (n : Nat) (ih : Sound cfg sfh n) (al : Alias) (a : Ty) : a.w + al.ty.w ≤ n + 1 →
    asgToArr cfg sfh al a = true → ∀ vs, Hyp cfg sfh a al.ty (.array vs) → (∀ x ∈ vs, inst cfg sfh al.ty x = true) →
    inst cfg sfh a (.array vs) = true := by
  induction a using Ty.ind with
  | any | unit => intros; unfold inst; rfl
  | coll r => intro _ h vs H _; unfold asgToArr at h; unfold inst; exact pos_contains_len _ H.tv.alen _ h
  | array e r _ =>
    intro hw h vs H hall
    unfold asgToArr at h
    simp only [Ty.w] at hw
    rw [Bool.and_eq_true] at h
    exact (inst_array_iff cfg sfh e r _).2 ⟨vs, rfl, pos_contains_len _ H.tv.alen _ h.1, fun x hx =>
      ih e al.ty x (by omega) ((H.recvPart H.fa.elem H.wa.elem).elem hx) h.2 (hall x hx)⟩
  | tuple ts g _ =>
    intro hw h vs H hall
    unfold asgToArr at h
    simp only [Ty.w] at hw
    rw [Bool.and_eq_true] at h
    refine (inst_tuple_iff cfg sfh ts g _).2 ⟨vs, rfl, pos_contains_len _ H.tv.alen _ h.1, fun i t x ht hx => ?_⟩
    have hm : t ∈ ts := List.mem_of_getElem? ht
    have hxm : x ∈ vs := List.mem_of_getElem? hx
    have h2 := h.2
    rw [List.isEmpty_eq_false_iff.2 (List.ne_nil_of_mem hm), Bool.false_or] at h2
    exact ih t al.ty x (by have := Ty.w_lt_wl hm; omega) ((H.recvPart (H.fa.mem_tuple hm) (H.wa.mem_tuple hm)).elem hxm)
      ((asgAllL_iff cfg sfh ts al.ty).1 h2 t hm) (hall x hxm)
  | variant as iha =>
    intro hw h vs H hall
    unfold asgToArr at h
    simp only [Ty.w] at hw
    obtain ⟨m, hm, hma⟩ := (asgToArrAny_iff cfg sfh al as).1 h
    exact (inst_variant_iff cfg sfh as _).2
      ⟨m, hm, iha m hm (by have := Ty.w_lt_wl hm; omega) hma vs (H.recvPart (H.fa.mem_variant hm) (H.wa.mem_variant hm)) hall⟩
  | optional x ihx =>
    intro hw h vs H hall
    unfold asgToArr at h
    simp only [Ty.w] at hw
    exact (inst_optional_iff cfg sfh x _).2 (Or.inr (ihx (by omega) h vs (H.recvPart H.fa.optional (H.wa.inner .optional)) hall))
  | notUndef x ihx =>
    intro hw h vs H hall
    unfold asgToArr at h
    simp only [Ty.w] at hw
    exact (inst_notUndef_iff cfg sfh x _).2 ⟨nofun, ihx (by omega) h vs (H.recvPart H.fa.notUndef (H.wa.inner .notUndef)) hall⟩
  | iterable x _ => exact fun _ _ _ H => absurd H.fa Ty.Frag.not_iterable
  | data =>
    intro _ h vs _ hall
    unfold asgToArr at h
    cases al with
    | data => exact inst_alias_array cfg sfh .data vs hall
    | rich => cases h
  | richData =>
    intro _ _ vs _ hall
    exact inst_alias_array cfg sfh .rich vs fun x hx => inst_rich_of_alias cfg sfh al (hall x hx)
  | _ => intro _ h; unfold asgToArr at h; cases h

/-- a hash all of whose entries have alias keys and alias values is an instance of whatever accepts `Hash[key, alias]` -/
theorem toHash_sound (n : Nat) (ih : Sound cfg sfh n) (al : Alias) (a : Ty) : a.w + al.ty.w ≤ n + 1 →
    asgToHash cfg sfh al a = true → ∀ es, Hyp cfg sfh a al.ty (.hash es) →
    (∀ e ∈ es, inst cfg sfh al.key e.1 = true ∧ inst cfg sfh al.ty e.2 = true) → inst cfg sfh a (.hash es) = true := by
  obtain ⟨fkl, wkl, ukl⟩ := alias_key_frag cfg sfh al
  have hkw := alias_key_w al
  induction a using Ty.ind with
  | any | unit => intros; unfold inst; rfl
  | coll r => intro _ h es H _; unfold asgToHash at h; unfold inst; exact pos_contains_len _ H.tv.hlen _ h
  | hash kk vv r _ _ =>
    intro hw h es H hall
    unfold asgToHash at h
    simp only [Ty.w] at hw
    simp only [Bool.and_eq_true] at h
    exact (inst_hash_iff cfg sfh kk vv r _).2 ⟨es, rfl, pos_contains_len _ H.tv.hlen _ h.1.1, fun e he =>
      ⟨ih kk al.key e.1 (by omega) (((H.recvPart H.fa.key H.wa.key).rhsPart fkl wkl ukl).entryKey he) h.1.2 (hall e he).1,
       ih vv al.ty e.2 (by omega) ((H.recvPart H.fa.val H.wa.val).entryVal he) h.2 (hall e he).2⟩⟩
  | struct ms _ =>
    -- only through the exempt rule, which the fragment switches off
    intro _ h es H
    unfold asgToHash at h
    rw [H.fa.ruleOff] at h; simp at h
  | variant as iha =>
    intro hw h es H hall
    unfold asgToHash at h
    simp only [Ty.w] at hw
    obtain ⟨m, hm, hma⟩ := (asgToHashAny_iff cfg sfh al as).1 h
    exact (inst_variant_iff cfg sfh as _).2
      ⟨m, hm, iha m hm (by have := Ty.w_lt_wl hm; omega) hma es (H.recvPart (H.fa.mem_variant hm) (H.wa.mem_variant hm)) hall⟩
  | optional x ihx =>
    intro hw h es H hall
    unfold asgToHash at h
    simp only [Ty.w] at hw
    exact (inst_optional_iff cfg sfh x _).2 (Or.inr (ihx (by omega) h es (H.recvPart H.fa.optional (H.wa.inner .optional)) hall))
  | notUndef x ihx =>
    intro hw h es H hall
    unfold asgToHash at h
    simp only [Ty.w] at hw
    exact (inst_notUndef_iff cfg sfh x _).2 ⟨nofun, ihx (by omega) h es (H.recvPart H.fa.notUndef (H.wa.inner .notUndef)) hall⟩
  | iterable x _ => exact fun _ _ _ H => absurd H.fa Ty.Frag.not_iterable
  | data =>
    intro _ h es _ hall
    unfold asgToHash at h
    cases al with
    | data => exact inst_alias_hash cfg sfh .data es hall
    | rich => cases h
  | richData =>
    intro _ _ es _ hall
    exact inst_alias_hash cfg sfh .rich es fun e he =>
      ⟨inst_richKey_of_alias cfg sfh al (hall e he).1, inst_rich_of_alias cfg sfh al (hall e he).2⟩
  | _ => intro _ h; unfold asgToHash at h; cases h

theorem inst_alias_cases (al : Alias) {v : Val} (h : inst cfg sfh al.ty v = true) :
    (∃ x ∈ al.leaves, inst cfg sfh x v = true) ∨ (∃ vs, v = .array vs ∧ ∀ x ∈ vs, inst cfg sfh al.ty x = true) ∨
    (∃ es, v = .hash es ∧ ∀ e ∈ es, inst cfg sfh al.key e.1 = true ∧ inst cfg sfh al.ty e.2 = true) := by
  cases al
  · rw [Alias.ty, inst_data] at h
    cases v with
    | array vs =>
      simp only [instData, instDataL_iff] at h
      exact Or.inr (Or.inl ⟨vs, rfl, fun x hx => (inst_data cfg sfh x).symm ▸ h x hx⟩)
    | hash es =>
      simp only [instData, instDataE_iff] at h
      exact Or.inr (Or.inr ⟨es, rfl, fun e he => ⟨(inst_str_key_iff cfg sfh _).2 (h e he).1, (inst_data cfg sfh e.2).symm ▸ (h e he).2⟩⟩)
    | undef => exact Or.inl ⟨.undef, by simp [Alias.leaves], by unfold inst; rfl⟩
    | str s | int i | float f | bool b => exact Or.inl ⟨.scalarData, by simp [Alias.leaves], by unfold inst; rfl⟩
    | _ => simp [instData] at h
  · rw [Alias.ty, inst_richData] at h
    cases v with
    | array vs =>
      simp only [instRich, instRichL_iff] at h
      exact Or.inr (Or.inl ⟨vs, rfl, fun x hx => (inst_richData cfg sfh x).symm ▸ h x hx⟩)
    | hash es =>
      simp only [instRich, instRichE_iff] at h
      exact Or.inr (Or.inr ⟨es, rfl, fun e he => ⟨(inst_richkey_iff cfg sfh _).2 (h e he).1, (inst_richData cfg sfh e.2).symm ▸ (h e he).2⟩⟩)
    | str s | int i | float f | bool b | tspan n | tstamp n | regexp s =>
      exact Or.inl ⟨.scalar, by simp [Alias.leaves], by unfold inst; rfl⟩
    | binary bs => exact Or.inl ⟨.bin, by simp [Alias.leaves], by unfold inst; rfl⟩
    | dflt => exact Or.inl ⟨.dflt, by simp [Alias.leaves], by unfold inst; rfl⟩
    | undef => exact Or.inl ⟨.undef, by simp [Alias.leaves], by unfold inst; rfl⟩
    | obj p => exact Or.inl ⟨.object none, by simp [Alias.leaves], by unfold inst; rfl⟩
    | typ u => exact Or.inl ⟨.typ .any, by simp [Alias.leaves], by unfold inst; exact asg_any_l cfg sfh u⟩
    | sensitive x => simp [instRich, isScalarVal] at h

/-- Data / RichData on the right-hand side: what accepts the alias accepts each member, and an instance of the alias is an instance of a
    plain member (soundness at lighter weight), an array of instances (`toArr_sound`) or a hash of instances (`toHash_sound`) -/
theorem sound_alias_r (al : Alias) (n : Nat) (ih : Sound cfg sfh n) (a : Ty) (v : Val) (hw : a.w + al.ty.w ≤ n + 1)
    (H : Hyp cfg sfh a al.ty v) (ha : asg cfg sfh a al.ty = true) (hb : inst cfg sfh al.ty v = true) : inst cfg sfh a v = true := by
  obtain ⟨hl, harr, hhash⟩ := asg_alias_comps cfg sfh al ha
  rcases inst_alias_cases cfg sfh al hb with ⟨x, hx, hxv⟩ | ⟨vs, rfl, hall⟩ | ⟨es, rfl, hall⟩
  · obtain ⟨wx, fx, wfx, ux, _⟩ := alias_leaf_sound cfg sfh al x hx
    exact ih a x v (by omega) (H.rhsPart fx wfx ux) (hl x hx) hxv
  · exact toArr_sound cfg sfh n ih al a hw harr vs H hall
  · exact toHash_sound cfg sfh n ih al a hw hhash es H hall

end Pcore.Lat

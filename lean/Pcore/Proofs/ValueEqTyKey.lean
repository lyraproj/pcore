import Pcore.Proofs.ValueEqTy
import Pcore.Proofs.ValueEqSort
/-! Helper lemmas for C07: the key of a type decides `Equals` exactly (`tyKey_iff`).  The members of a Variant and the values
    of an Enum enter the key as a SET of a given size (`appendUnorderedTypeParamKeys`: the count, then the distinct element
    keys in ascending order), which is what their `Equals` compares.  In order: the key of every type but Struct is its name
    followed by a list of framed parameter keys (`tyParamL`, `tyKey_shape`), so two keys agree exactly when the names and the
    parameter lists do; which constructors share a name (`nameTag`); one lemma per shape of parameter list (`…Param_iff`; where
    type keys are followed by size keys, `append_sep` of `Proofs/ValueEqVerStr` separates them); the entry keys of a Struct; the plan
    of `tyKey_iff` (`tyKey_iff_of_class`); the induction. -/
namespace Pcore.ValueEq

/-! ### the parameters of a type as a list of keys -/

def intParamL (lo hi : Int) : List Bytes :=
  if lo = minInt then (if hi = maxInt then [] else [defaultKey, intKey hi])
  else if hi = maxInt then [intKey lo] else [intKey lo, intKey hi]

def fltParamL (lo hi : Nat) : List Bytes :=
  if feq lo negMaxFloatBits then (if feq hi maxFloatBits then [] else [defaultKey, floatKey hi])
  else if feq hi maxFloatBits then [floatKey lo] else [floatKey lo, floatKey hi]

def sizeParamL (lo hi : Int) : List Bytes := [intKey lo, if hi = maxInt then defaultKey else intKey hi]

/-- `TupleType.ToKey` of the parameter Tuple of a Callable (no explicit size) -/
def tupKeyOf (ts : List Ty) : Bytes :=
  [1, 0x74] ++ ekStr [0x54, 0x75, 0x70, 0x6c, 0x65] ++ tyKeys ts ++ sizeParams ts.length ts.length

/-- the parameter list of a wrapper type (`wrapParam` as a list of keys) -/
def wrapParamL (quirk : Bool) (t : Ty) : List Bytes :=
  if t.isAny then []
  else match quirk, t with
    | true, .strVal v => if v.isEmpty then [tyKey t] else [strMark ++ v]
    | _, _ => [tyKey t]

def tyParamL : Ty → List Bytes
  | .any => [] | .undef => [] | .str => []
  | .int lo hi => intParamL lo hi
  | .flt lo hi => fltParamL lo hi
  | .enum ci vs => intKey (enumKeys ci vs).length :: dedupS (sortB (enumKeys ci vs))
  | .arr e lo hi => (if (e.isAny ∧ ¬ (lo = 0 ∧ hi = 0)) ∨ (e.isUnit ∧ (lo = 0 ∧ hi = 0)) then [] else [tyKey e]) ++
      (if lo = 0 ∧ hi = maxInt then [] else sizeParamL lo hi)
  | .var ts => intKey ts.length :: dedupS (sortB (ts.map tyKey))
  | .tup ts sz => ts.map tyKey ++ sizeParamL (goaSize ts.length sz).1 (goaSize ts.length sz).2
  | .opt t => wrapParamL true t
  | .typ t => wrapParamL false t
  | .nul _ => []
  | .bool none => []
  | .bool (some b) => [boolKey b]
  | .coll lo hi => if lo = 0 ∧ hi = maxInt then [] else sizeParamL lo hi
  | .un k t => wrapParamL (k == .notUndef) t
  | .strSize lo hi => intParamL lo hi
  | .strVal v => [strMark ++ v]
  | .rx p => if p.isEmpty then [] else [rxKey p]
  | .pattern ps => intKey ps.length :: dedupS (sortB (ps.map rxKey))
  | .tref s => if s = unresolvedRef then [] else [strMark ++ s]
  | .semverT _ rs => if rangesEq rs matchAllR then [] else [strMark ++ normStr rs]
  | .hash k v lo hi =>
      if (k.isAny ∧ v.isAny) ∧ (lo = 0 ∧ hi = maxInt) then []
      else if (k.isUnit ∧ v.isUnit) ∧ (lo = 0 ∧ hi = 0) then [intKey 0, intKey 0]
      else tyKey k :: tyKey v :: (if lo = 0 ∧ hi = maxInt then [] else sizeParamL lo hi)
  | .like b n => if b.isAny ∧ n.isEmpty then [] else [tyKey b, strMark ++ n]
  | .callable h ts hr r hb b => [if h then tupKeyOf ts else undefKey, if hr then tyKey r else undefKey, if hb then tyKey b else undefKey]
  | .struct _ => []      -- (a Struct's parameter is not a list of framed keys: `structTail`)
  | .init h t => if h then [tyKey t] else []
  | .runtime rt n p =>
      if (rt.isEmpty ∧ n.isEmpty) ∧ p.isNone then []
      else (strMark ++ rt) :: ((if n.isEmpty ∧ p.isNone then [] else [strMark ++ n]) ++ (match p with | none => [] | some p => [rxTyKey p]))

theorem flat_append (a b : List Bytes) : flat (a ++ b) = flat a ++ flat b := by
  induction a with
  | nil => rfl
  | cons x xs ih => simp [flat, ih]

theorem tyKeys_eq : ∀ ts : List Ty, tyKeys ts = flat ((ts.map tyKey).map frame)
  | [] => rfl
  | t :: ts => by simp [tyKeys, flat, tyKeys_eq ts]

theorem tyKeyL_eq : ∀ ts : List Ty, tyKeyL ts = ts.map tyKey
  | [] => rfl
  | t :: ts => by simp [tyKeyL, tyKeyL_eq ts]

theorem frames_eq : ∀ ks : List Bytes, frames ks = flat (ks.map frame)
  | [] => rfl
  | k :: ks => by simp [frames, flat, frames_eq ks]

theorem wrapParam_shape (q : Bool) (t : Ty) : wrapParam q t (tyKey t) = flat ((wrapParamL q t).map frame) := by
  cases q <;> cases t <;> simp [wrapParam, wrapParamL, Ty.isAny, flat, ekStr]
  split <;> simp [flat]

def Ty.isStruct : Ty → Bool
  | .struct _ => true
  | _ => false

/-- what follows the name in the key of a Struct -/
def structTail (es : List (Bytes × Bool × Ty)) : Bytes := if es.isEmpty then [] else 2 :: (ekInt es.length ++ tyKeyS es)

theorem tyKey_struct (es : List (Bytes × Bool × Ty)) :
    tyKey (.struct es) = [1, 0x74] ++ (frame (strMark ++ (Ty.struct es).name) ++ structTail es) := by
  simp [tyKey, structTail, Ty.name, ekStr]

/-! The parameter bytes are the framed members of the parameter lists. -/

theorem intParams_shape (lo hi : Int) : intParams lo hi = flat ((intParamL lo hi).map frame) := by
  unfold intParams intParamL
  split <;> split <;> simp only [List.map_cons, List.map_nil, flat, List.append_nil] <;> rfl

theorem fltParams_shape (lo hi : Nat) : fltParams lo hi = flat ((fltParamL lo hi).map frame) := by
  unfold fltParams fltParamL
  split <;> split <;> simp only [List.map_cons, List.map_nil, flat, List.append_nil] <;> rfl

theorem sizeParams_shape (lo hi : Int) : sizeParams lo hi = flat ((sizeParamL lo hi).map frame) := by
  unfold sizeParams sizeParamL
  split <;> simp only [List.map_cons, List.map_nil, flat, List.append_nil, *] <;> rfl

theorem unorderedParams_shape (keys : List Bytes) :
    unorderedParams keys = flat ((intKey keys.length :: dedupS (sortB keys)).map frame) := by
  simp only [unorderedParams, frames_eq, List.map_cons, flat, ekInt]

theorem flat_map_ite (c : Prop) [Decidable c] (a b : List Bytes) :
    flat ((if c then a else b).map frame) = if c then flat (a.map frame) else flat (b.map frame) := by
  split <;> rfl

theorem tyKey_shape (t : Ty) (hs : t.isStruct = false := by rfl) :
    tyKey t = [1, 0x74] ++ (frame (strMark ++ t.name) ++ flat ((tyParamL t).map frame)) := by
  cases t with
  | struct es => cases hs
  | bool v => cases v <;> rfl
  | un k t => cases k <;> simp only [tyKey, tyParamL, Ty.name, ekStr, wrapParam_shape, List.append_assoc]
  | runtime rt n p =>
    simp only [tyKey, tyParamL, Ty.name, ekStr]
    split
    · simp [flat]
    · cases p <;> (split <;> simp [flat])
  | _ =>
    simp only [tyKey, rxTyKey, tupKeyOf, tyParamL, Ty.name, ekStr, ekInt, intParams_shape, fltParams_shape, sizeParams_shape,
      unorderedParams_shape, wrapParam_shape, tyKeys_eq, tyKeyL_eq, flat_map_ite, List.length_map, List.map_append, flat_append,
      List.map_cons, List.map_nil, flat, List.append_nil, List.append_assoc, List.nil_append, List.cons_append]

/-! ### names: which constructors share a name -/

inductive NameTag where
  | any | undef | str | int | flt | enum | arr | var | tup | opt | typ
  | nul (k : NulK) | bool | coll | un (k : UnK) | rx | pattern | tref | semver | hash | like | callable | runtime | struct | init
  deriving DecidableEq

def nameTag : Ty → NameTag
  | .any => .any | .undef => .undef | .str => .str | .int _ _ => .int | .flt _ _ => .flt | .enum _ _ => .enum
  | .arr _ _ _ => .arr | .var _ => .var | .tup _ _ => .tup | .opt _ => .opt | .typ _ => .typ
  | .nul k => .nul k | .bool _ => .bool | .coll _ _ => .coll | .un k _ => .un k
  | .strSize _ _ => .str | .strVal _ => .str | .rx _ => .rx | .pattern _ => .pattern | .tref _ => .tref
  | .semverT _ _ => .semver | .hash _ _ _ _ => .hash | .like _ _ => .like | .callable _ _ _ _ _ _ => .callable | .runtime _ _ _ => .runtime
  | .struct _ => .struct | .init _ _ => .init

def tagName : NameTag → Bytes
  | .any => Ty.any.name | .undef => Ty.undef.name | .str => Ty.str.name | .int => (Ty.int 0 0).name | .flt => (Ty.flt 0 0).name
  | .enum => (Ty.enum false []).name | .arr => (Ty.arr .any 0 0).name | .var => (Ty.var []).name | .tup => (Ty.tup [] none).name
  | .opt => (Ty.opt .any).name | .typ => (Ty.typ .any).name | .nul k => (Ty.nul k).name | .bool => (Ty.bool none).name
  | .coll => (Ty.coll 0 0).name | .un k => (Ty.un k .any).name | .rx => (Ty.rx []).name | .pattern => (Ty.pattern []).name
  | .tref => (Ty.tref []).name | .semver => (Ty.semverT [] []).name
  | .hash => (Ty.hash .any .any 0 0).name | .like => (Ty.like .any []).name | .callable => (Ty.callable false [] false .any false .any).name
  | .runtime => (Ty.runtime [] [] none).name | .struct => (Ty.struct []).name
  | .init => (Ty.init false .any).name

theorem name_tag (t : Ty) : t.name = tagName (nameTag t) := by
  cases t with
  | nul k => cases k <;> rfl
  | un k t => cases k <;> rfl
  | _ => rfl

def allTags : List NameTag :=
  [.any, .undef, .str, .int, .flt, .enum, .arr, .var, .tup, .opt, .typ, .bool, .coll, .rx, .pattern, .tref, .semver,
   .hash, .like, .callable, .runtime, .struct, .init,
   .nul .dflt, .nul .unit, .nul .scalar, .nul .scalarData, .nul .numeric, .nul .binary, .nul .data, .nul .richData, .nul .semverRange,
   .un .notUndef, .un .sensitive, .un .iterable, .un .iterator]

theorem mem_allTags (x : NameTag) : x ∈ allTags := by
  cases x with
  | nul k => cases k <;> decide
  | un k => cases k <;> decide
  | _ => decide

theorem name_eq_iff (a b : Ty) : a.name = b.name ↔ nameTag a = nameTag b := by
  rw [name_tag a, name_tag b]
  -- the names of the classes are pairwise distinct, by evaluation
  have pw : allTags.Pairwise fun x y => tagName x = tagName y → x = y := by decide
  have inj := pw.forall_of_forall_of_flip (fun _ _ _ => rfl) (pw.imp fun h e => (h e.symm).symm)
  exact ⟨fun h => inj (mem_allTags _) (mem_allTags _) h, fun h => by rw [h]⟩

theorem nameTag_struct (t : Ty) : nameTag t = .struct ↔ t.isStruct = true := by
  cases t <;> simp [nameTag, Ty.isStruct]

theorem isStruct_of_name {a b : Ty} (ha : a.isStruct = false) (h : a.name = b.name) : b.isStruct = false := by
  rw [name_eq_iff] at h
  cases hb : b.isStruct
  · rfl
  · have := (nameTag_struct b).mpr hb
    rw [← h] at this
    rw [(nameTag_struct a).mp this] at ha
    cases ha

theorem tyKey_shape_gen (t : Ty) : ∃ tail, tyKey t = [1, 0x74] ++ (frame (strMark ++ t.name) ++ tail) := by
  cases hs : t.isStruct
  · exact ⟨_, tyKey_shape t hs⟩
  · cases t <;> simp [Ty.isStruct] at hs
    exact ⟨_, tyKey_struct _⟩

theorem name_of_tyKey {a b : Ty} (h : tyKey a = tyKey b) : a.name = b.name := by
  obtain ⟨ta, ha⟩ := tyKey_shape_gen a
  obtain ⟨tb, hb⟩ := tyKey_shape_gen b
  rw [ha, hb] at h
  exact List.append_cancel_left (frame_decode (List.append_cancel_left h)).1

theorem tyKey_eq_iff (a b : Ty) (ha : a.isStruct = false) : tyKey a = tyKey b ↔ a.name = b.name ∧ tyParamL a = tyParamL b := by
  constructor
  · intro h
    have hn := name_of_tyKey h
    rw [tyKey_shape a ha, tyKey_shape b (isStruct_of_name ha hn)] at h
    have h1 := frame_decode (List.append_cancel_left h)
    exact ⟨hn, flat_frames_inj _ _ h1.2⟩
  · rintro ⟨h1, h2⟩
    rw [tyKey_shape a ha, tyKey_shape b (isStruct_of_name ha h1), h1, h2]

theorem default_ne_intKey (i : Int) : defaultKey ≠ intKey i := by simp [defaultKey, intKey]
theorem default_ne_floatKey (b : Nat) : defaultKey ≠ floatKey b := by simp [defaultKey, floatKey]

theorem intParamL_inj {lo hi lo' hi' : Int} (h1 : IntOk lo) (h2 : IntOk hi) (h3 : IntOk lo') (h4 : IntOk hi') :
    intParamL lo hi = intParamL lo' hi' ↔ lo = lo' ∧ hi = hi' := by
  unfold intParamL
  -- the combinations of "this bound is the default one" on the two sides: the lists have different lengths, or a `Default`
  -- marker meets an integer key, or keys meet at the same positions and `intKey_inj` applies; where a default bound meets a
  -- written one the conclusion is refuted by `lo = minInt` / `hi = maxInt` (`omega`)
  split <;> split <;> split <;> split <;>
    simp_all [intKey_inj, default_ne_intKey, (default_ne_intKey _).symm] <;> (try omega) <;>
    (intros; simp_all [IntOk, minInt, maxInt]; try omega)

theorem fltOk_negMax : FltOk negMaxFloatBits := ⟨by decide, by decide⟩
theorem fltOk_max : FltOk maxFloatBits := ⟨by decide, by decide⟩

theorem fltParamL_inj {lo hi lo' hi' : Nat} (h1 : FltOk lo) (h2 : FltOk hi) (h3 : FltOk lo') (h4 : FltOk hi') :
    fltParamL lo hi = fltParamL lo' hi' ↔ feq lo lo' = true ∧ feq hi hi' = true := by
  unfold fltParamL
  rw [feq_iff_fnorm h1 h3, feq_iff_fnorm h2 h4]
  simp only [feq_iff_fnorm h1 fltOk_negMax, feq_iff_fnorm h2 fltOk_max, feq_iff_fnorm h3 fltOk_negMax,
    feq_iff_fnorm h4 fltOk_max]
  -- the same combinations as in `intParamL_inj`, with `floatKey_inj`
  split <;> split <;> split <;> split <;>
    simp_all [floatKey_inj, feq_iff_fnorm, default_ne_floatKey, (default_ne_floatKey _).symm] <;>
    (intros; first | (intro h; simp_all) | simp_all)

theorem sizeParamL_inj {lo hi lo' hi' : Int} (h1 : IntOk lo) (h2 : IntOk hi) (h3 : IntOk lo') (h4 : IntOk hi') :
    sizeParamL lo hi = sizeParamL lo' hi' ↔ lo = lo' ∧ hi = hi' := by
  unfold sizeParamL
  -- two keys each; the second is the `Default` marker or an integer key
  split <;> split <;>
    simp_all [intKey_inj, default_ne_intKey, (default_ne_intKey _).symm] <;>
    (intros; first | (intro h; simp_all) | simp_all)

/-! ### separating the type parameters from the trailing size / flag parameters -/

def IsTyKey (a : Bytes) : Prop := ∃ r, a = 1 :: 0x74 :: r
def IsStrKey (a : Bytes) : Prop := ∃ r, a = 1 :: 0x73 :: r

theorem tyKey_hd (t : Ty) : IsTyKey (tyKey t) := by
  obtain ⟨tail, h⟩ := tyKey_shape_gen t
  rw [h]; exact ⟨_, rfl⟩

theorem ne_tyKey_of_head {k : Bytes} (h : ¬ IsTyKey k) (t : Ty) : k ≠ tyKey t := fun e => h (e ▸ tyKey_hd t)

theorem not_isTyKey_size {lo hi : Int} : ∀ s ∈ sizeParamL lo hi, ¬ IsTyKey s := by
  intro s hs
  simp only [sizeParamL, List.mem_cons, List.not_mem_nil, or_false] at hs
  rcases hs with rfl | rfl
  · simp [IsTyKey, intKey]
  · split <;> simp [IsTyKey, intKey, defaultKey]

theorem map_tyKey_isTyKey (ts : List Ty) : ∀ a ∈ ts.map tyKey, IsTyKey a := by
  intro a ha
  obtain ⟨t, _, rfl⟩ := List.mem_map.mp ha
  exact tyKey_hd t

/-! ### one injectivity lemma per parameter shape -/

theorem isAny_eq {t : Ty} (h : t.isAny = true) : t = .any := by
  cases t <;> simp [Ty.isAny] at h; rfl

theorem tyEq_any_left (t : Ty) : tyEq .any t = t.isAny := by cases t <;> rfl
theorem tyEq_any_right (t : Ty) : tyEq t .any = t.isAny := by rw [tyEq_symm, tyEq_any_left]

/-- parameters written as the fixed list `a` for a default (`dx`, `dy` say "is the default") and as `l`, never `a`, otherwise: the
    lists agree exactly when the two types are related, provided a default is related to defaults only -/
theorem defaultParamL_iff {dx dy : Prop} [Decidable dx] [Decidable dy] {a l l' : List Bytes} {R : Prop}
    (hl : l ≠ a) (hl' : l' ≠ a) (hx : dx → (R ↔ dy)) (hy : dy → (R ↔ dx)) (h : ¬ dx → ¬ dy → (l = l' ↔ R)) :
    (if dx then a else l) = (if dy then a else l') ↔ R := by
  by_cases p : dx <;> by_cases q : dy
  · simp [p, q, (hx p).mpr q]
  · simpa [p, q, Ne.symm hl'] using fun r => q ((hx p).mp r)
  · simpa [p, q, hl] using fun r => p ((hy q).mp r)
  · simpa [p, q] using h p q

/-- a parameter that is left out for one default value `d` and written as one key otherwise -/
theorem defaultParam_iff {α : Type} [DecidableEq α] {d x y : α} {f : α → Bytes} (hf : f x = f y → x = y) :
    (if x = d then [] else [f x]) = (if y = d then [] else [f y]) ↔ x = y := by
  by_cases hx : x = d <;> by_cases hy : y = d
  · simp [hx, hy]
  · subst hx; simpa [hy] using Ne.symm hy
  · subst hy; simp [hx]
  · simpa [hx, hy] using ⟨hf, fun e => by rw [e]⟩

/-- a type parameter that is left out for one distinguished type `d` (Any, or Unit), recognised by `p`: the parameter
    lists agree exactly when the types are Equal -/
theorem absentParam_iff {p : Ty → Bool} {d : Ty} (hp : ∀ {t}, p t = true → t = d) (hd : ∀ t, tyEq d t = p t) {e e' : Ty}
    (ih : tyKey e = tyKey e' ↔ tyEq e e' = true) :
    (if p e then [] else [tyKey e]) = (if p e' then [] else [tyKey e']) ↔ tyEq e e' = true :=
  defaultParamL_iff (by simp) (by simp) (fun h => by rw [hp h, hd]) (fun h => by rw [hp h, tyEq_symm, hd])
    fun _ _ => by rw [List.cons.injEq, and_iff_left rfl, ih]

/-- the optional leading type parameter of Array -/
theorem optParam_iff {e e' : Ty} (ih : tyKey e = tyKey e' ↔ tyEq e e' = true) :
    (if e.isAny then [] else [tyKey e]) = (if e'.isAny then [] else [tyKey e']) ↔ tyEq e e' = true :=
  absentParam_iff isAny_eq tyEq_any_left ih

theorem isUnit_eq {t : Ty} (h : t.isUnit = true) : t = .nul .unit := by
  cases t with
  | nul k => cases k <;> simp [Ty.isUnit] at h; rfl
  | _ => simp [Ty.isUnit] at h

theorem tyEq_unit_left (t : Ty) : tyEq (.nul .unit) t = t.isUnit := by
  cases t with
  | nul k => cases k <;> rfl
  | _ => rfl

theorem tyEq_unit_right (t : Ty) : tyEq t (.nul .unit) = t.isUnit := by rw [tyEq_symm, tyEq_unit_left]

/-- the leading type parameter of `Array[T, 0, 0]`: absent for Unit -/
theorem unitParam_iff {e e' : Ty} (ih : tyKey e = tyKey e' ↔ tyEq e e' = true) :
    (if e.isUnit then [] else [tyKey e]) = (if e'.isUnit then [] else [tyKey e']) ↔ tyEq e e' = true :=
  absentParam_iff isUnit_eq tyEq_unit_left ih

def strValOf : Ty → Option Bytes
  | .strVal v => some v
  | _ => none

theorem strValOf_some {t : Ty} {v : Bytes} (h : strValOf t = some v) : t = .strVal v := by
  cases t <;> simp [strValOf] at h; rw [h]

theorem tyEq_strVal_left {v : Bytes} {t : Ty} (h : strValOf t = none) : tyEq (.strVal v) t = false :=
  Bool.eq_false_iff.mpr fun e => by rw [tyEq_head e] at h; cases h

theorem wrapParamL_eq (q : Bool) (t : Ty) : wrapParamL q t =
    if t.isAny then [] else
      match q, strValOf t with
      | true, some v => if v.isEmpty then [tyKey t] else [strMark ++ v]
      | _, _ => [tyKey t] := by
  cases q <;> cases t <;> simp [wrapParamL, strValOf, Ty.isAny]

theorem strMark_ne_tyKey (v : Bytes) (t : Ty) : strMark ++ v ≠ tyKey t :=
  ne_tyKey_of_head (by simp [IsTyKey, strMark]) t

theorem TyWF_strVal {v : Bytes} (h : TyWF (.strVal v) = true) : v ≠ [] := by simpa [TyWF] using h

/-- the one parameter of a wrapper type (Optional, Type, NotUndef, Sensitive, Iterable, Iterator): absent for Any; Optional and
    NotUndef hand out the string `'v'` for a wrapped `String['v']` -/
theorem wrapParamL_iff {q : Bool} {e e' : Ty} (he : TyWF e = true) (he' : TyWF e' = true)
    (ih : tyKey e = tyKey e' ↔ tyEq e e' = true) : wrapParamL q e = wrapParamL q e' ↔ tyEq e e' = true := by
  rw [wrapParamL_eq, wrapParamL_eq]
  cases h : e.isAny <;> cases h' : e'.isAny
  · cases q
    · simp [ih]
    · cases hs : strValOf e with
      | none =>
        cases hs' : strValOf e' with
        | none => simp [ih]
        | some v' =>
          obtain rfl := strValOf_some hs'
          have hv'' := TyWF_strVal he'
          simp [hv'', tyEq_symm e, tyEq_strVal_left hs, (strMark_ne_tyKey v' e).symm]
      | some v =>
        obtain rfl := strValOf_some hs
        have hv2 := TyWF_strVal he
        cases hs' : strValOf e' with
        | none => simp [hv2, tyEq_strVal_left hs', strMark_ne_tyKey v e']
        | some v' =>
          obtain rfl := strValOf_some hs'
          have hv'' := TyWF_strVal he'
          simp [hv2, hv'', tyEq]
  · rw [isAny_eq h', tyEq_any_right, h]; cases q <;> cases strValOf e <;> simp <;> split <;> simp
  · rw [isAny_eq h, tyEq_any_left, h']; cases q <;> cases strValOf e' <;> simp <;> split <;> simp
  · rw [isAny_eq h, isAny_eq h']; simp [tyEq]

theorem intParamL_ne_nil {lo hi : Int} (h : 0 ≤ lo) : intParamL lo hi ≠ [] := by
  unfold intParamL
  have : lo ≠ minInt := by unfold minInt; omega
  simp only [this, if_false]
  split <;> simp

theorem intParamL_ne_str {lo hi : Int} {v : Bytes} : intParamL lo hi ≠ [strMark ++ v] := by
  unfold intParamL
  split <;> split <;> simp [intKey, defaultKey, strMark]

/-- the optional trailing size of Array / Collection -/
theorem sizeOptL_iff {lo hi lo' hi' : Int} (h1 : IntOk lo) (h2 : IntOk hi) (h3 : IntOk lo') (h4 : IntOk hi') :
    ((if lo = 0 ∧ hi = maxInt then [] else sizeParamL lo hi) =
      (if lo' = 0 ∧ hi' = maxInt then [] else sizeParamL lo' hi')) ↔ lo = lo' ∧ hi = hi' :=
  defaultParamL_iff (by simp [sizeParamL]) (by simp [sizeParamL]) (fun ⟨a, b⟩ => by rw [a, b]; simp [eq_comm])
    (fun ⟨a, b⟩ => by rw [a, b]) fun _ _ => sizeParamL_inj h1 h2 h3 h4

theorem map_strMark_inj : ∀ {vs vs' : List Bytes}, vs.map (strMark ++ ·) = vs'.map (strMark ++ ·) ↔ vs = vs'
  | [], [] => by simp
  | [], _ :: _ => by simp
  | _ :: _, [] => by simp
  | v :: vs, v' :: vs' => by simp [map_strMark_inj (vs := vs) (vs' := vs')]

/-- a Go slice length is an int: `TyWF` spells the bound in `Int` against `maxInt` (Tuple, Callable) and in `Nat` (the other lists) -/
theorem intOk_natCast {n : Nat} (h : (n : Int) ≤ maxInt) : IntOk (n : Int) := by
  simp only [IntOk, minInt, maxInt] at *; omega

theorem intOk_length {n : Nat} (h : n ≤ 9223372036854775807) : IntOk (n : Int) := intOk_natCast (by unfold maxInt; omega)

theorem TyWFL_mem : ∀ {ts : List Ty}, TyWFL ts = true → ∀ t ∈ ts, TyWF t = true
  | [], _, _, h => by simp at h
  | t' :: ts, hw, t, ht => by
      simp only [TyWFL, Bool.and_eq_true] at hw
      rcases List.mem_cons.mp ht with e | ht
      · rw [e]; exact hw.1
      · exact TyWFL_mem hw.2 t ht

theorem enumKeys_length (ci : Bool) (vs : List Bytes) : (enumKeys ci vs).length = vs.length + (if ci then 1 else 0) := by
  cases ci <;> simp [enumKeys]

theorem mem_enumKeys_str (ci : Bool) (vs : List Bytes) (v : Bytes) : strMark ++ v ∈ enumKeys ci vs ↔ v ∈ vs := by
  cases ci <;> simp [enumKeys, strMark, boolKey]

theorem mem_enumKeys_flag (ci : Bool) (vs : List Bytes) : boolKey true ∈ enumKeys ci vs ↔ ci = true := by
  cases ci <;> simp [enumKeys, strMark, boolKey]

theorem mem_enumKeys (ci : Bool) (vs : List Bytes) (x : Bytes) :
    x ∈ enumKeys ci vs ↔ (∃ v ∈ vs, x = strMark ++ v) ∨ (ci = true ∧ x = boolKey true) := by
  cases ci <;> simp [enumKeys, eq_comm]

theorem containsAll_iff (a b : List Bytes) : containsAll a b = true ↔ ∀ s ∈ b, s ∈ a := by
  simp [containsAll]

theorem enumParam_iff {ci ci' : Bool} {vs vs' : List Bytes} (ha : vs.length < 9223372036854775807)
    (hb : vs'.length < 9223372036854775807) :
    (intKey (enumKeys ci vs).length = intKey (enumKeys ci' vs').length ∧
        dedupS (sortB (enumKeys ci vs)) = dedupS (sortB (enumKeys ci' vs'))) ↔
      ((ci = ci' ∧ vs.length = vs'.length) ∧ containsAll vs vs' = true) ∧ containsAll vs' vs = true := by
  rw [dedupS_sortB_eq_iff, containsAll_iff, containsAll_iff,
    intKey_inj (intOk_length (by rw [enumKeys_length]; split <;> omega)) (intOk_length (by rw [enumKeys_length]; split <;> omega))]
  constructor
  · rintro ⟨hl, hm⟩
    have hc : ci = ci' := by
      have := hm (boolKey true)
      rw [mem_enumKeys_flag, mem_enumKeys_flag] at this
      cases ci <;> cases ci' <;> simp_all
    subst hc
    have hl' : (enumKeys ci vs).length = (enumKeys ci vs').length := by exact_mod_cast hl
    rw [enumKeys_length, enumKeys_length] at hl'
    refine ⟨⟨⟨rfl, by omega⟩, fun s hs => ?_⟩, fun s hs => ?_⟩
    · exact (mem_enumKeys_str ci vs s).mp ((hm _).mpr ((mem_enumKeys_str ci vs' s).mpr hs))
    · exact (mem_enumKeys_str ci vs' s).mp ((hm _).mp ((mem_enumKeys_str ci vs s).mpr hs))
  · rintro ⟨⟨⟨hc, hl⟩, h1⟩, h2⟩
    subst hc
    refine ⟨by rw [enumKeys_length, enumKeys_length, hl], fun x => ?_⟩
    rw [mem_enumKeys, mem_enumKeys]
    constructor
    · rintro (⟨v, hv, rfl⟩ | h)
      · exact Or.inl ⟨v, h2 v hv, rfl⟩
      · exact Or.inr h
    · rintro (⟨v, hv, rfl⟩ | h)
      · exact Or.inl ⟨v, h1 v hv, rfl⟩
      · exact Or.inr h

/-- two lists have the same SET of keys exactly when every member of each has a partner in the other, given that equal keys
    mean partners: what the keys of Variant, Enum and Pattern (count + distinct element keys) rest on -/
theorem mem_map_iff_partners {α : Type} (f : α → Bytes) (R : α → α → Prop) {xs ys : List α}
    (h : ∀ x ∈ xs, ∀ y ∈ ys, (f x = f y ↔ R x y)) :
    (∀ k, k ∈ xs.map f ↔ k ∈ ys.map f) ↔ (∀ x ∈ xs, ∃ y ∈ ys, R x y) ∧ (∀ y ∈ ys, ∃ x ∈ xs, R x y) := by
  constructor
  · intro hm
    refine ⟨fun x hx => ?_, fun y hy => ?_⟩
    · obtain ⟨y, hy, e⟩ := List.mem_map.mp ((hm (f x)).mp (List.mem_map_of_mem hx))
      exact ⟨y, hy, (h x hx y hy).mp e.symm⟩
    · obtain ⟨x, hx, e⟩ := List.mem_map.mp ((hm (f y)).mpr (List.mem_map_of_mem hy))
      exact ⟨x, hx, (h x hx y hy).mp e⟩
  · rintro ⟨h1, h2⟩ k
    constructor
    · intro hk
      obtain ⟨x, hx, rfl⟩ := List.mem_map.mp hk
      obtain ⟨y, hy, e⟩ := h1 x hx
      rw [(h x hx y hy).mpr e]; exact List.mem_map_of_mem hy
    · intro hk
      obtain ⟨y, hy, rfl⟩ := List.mem_map.mp hk
      obtain ⟨x, hx, e⟩ := h2 y hy
      rw [← (h x hx y hy).mpr e]; exact List.mem_map_of_mem hx

theorem rxKey_inj {p q : Bytes} : rxKey p = rxKey q ↔ p = q := by simp [rxKey]

theorem patternParam_iff {ps qs : List Bytes} (ha : ps.length ≤ 9223372036854775807) (hb : qs.length ≤ 9223372036854775807) :
    (intKey ps.length = intKey qs.length ∧ dedupS (sortB (ps.map rxKey)) = dedupS (sortB (qs.map rxKey))) ↔
      (ps.length = qs.length ∧ containsAll ps qs = true) ∧ containsAll qs ps = true := by
  rw [dedupS_sortB_eq_iff, containsAll_iff, containsAll_iff, intKey_inj (intOk_length ha) (intOk_length hb),
    mem_map_iff_partners rxKey Eq fun _ _ _ _ => rxKey_inj]
  simp only [exists_eq_right, exists_eq_right', Int.natCast_inj]
  exact ⟨fun ⟨a, p, q⟩ => ⟨⟨a, q⟩, p⟩, fun ⟨⟨a, q⟩, p⟩ => ⟨a, p, q⟩⟩

theorem intKey_ne_tyKey (i : Int) (t : Ty) : intKey i ≠ tyKey t :=
  ne_tyKey_of_head (by simp [IsTyKey, intKey]) t

theorem rxTyKey_eq (p : Bytes) : rxTyKey p = tyKey (.rx p) := by simp [tyKey]

theorem rxTyKey_inj {p q : Bytes} : rxTyKey p = rxTyKey q ↔ p = q := by
  rw [rxTyKey_eq, rxTyKey_eq, tyKey_eq_iff _ _ rfl]
  cases p <;> cases q <;> simp [Ty.name, tyParamL, rxKey]

/-- the parameters of a Tuple type decide `Equals`: the member keys, then the given-or-actual size -/
theorem tupParam_iff {ts us : List Ty} {sz sz' : Option (Int × Int)}
    (o1 : IntOk (goaSize ts.length sz).1 ∧ IntOk (goaSize ts.length sz).2)
    (o2 : IntOk (goaSize us.length sz').1 ∧ IntOk (goaSize us.length sz').2)
    (hL : ts.map tyKey = us.map tyKey ↔ ts.length = us.length ∧ tyEqL ts us = true) :
    tyParamL (.tup ts sz) = tyParamL (.tup us sz') ↔
      (ts.length = us.length ∧ goaSize ts.length sz = goaSize us.length sz') ∧ tyEqL ts us = true := by
  simp only [tyParamL]
  rw [append_sep (P := IsTyKey) (map_tyKey_isTyKey ts) (map_tyKey_isTyKey us) not_isTyKey_size not_isTyKey_size, hL,
    sizeParamL_inj o1.1 o1.2 o2.1 o2.2]
  exact ⟨fun ⟨⟨h1, h2⟩, h3, h4⟩ => ⟨⟨h1, Prod.ext h3 h4⟩, h2⟩, fun ⟨⟨h1, h2⟩, h3⟩ => ⟨⟨h1, h3⟩, by rw [h2], by rw [h2]⟩⟩

theorem isTyKey_optKey {c : Prop} [Decidable c] {e : Ty} : ∀ a ∈ (if c then [] else [tyKey e]), IsTyKey a := by
  intro a ha; split at ha <;> simp at ha; subst ha; exact tyKey_hd e

theorem not_isTyKey_optSize {c : Prop} [Decidable c] {lo hi : Int} : ∀ s ∈ (if c then [] else sizeParamL lo hi), ¬ IsTyKey s := by
  intro s hs; split at hs
  · simp at hs
  · exact not_isTyKey_size s hs

theorem arrParam_iff {e e' : Ty} {lo hi lo' hi' : Int} (h1 : IntOk lo) (h2 : IntOk hi) (h3 : IntOk lo') (h4 : IntOk hi')
    (ih : tyKey e = tyKey e' ↔ tyEq e e' = true) :
    tyParamL (.arr e lo hi) = tyParamL (.arr e' lo' hi') ↔ (lo = lo' ∧ hi = hi') ∧ tyEq e e' = true := by
  simp only [tyParamL]
  rw [append_sep (P := IsTyKey) isTyKey_optKey isTyKey_optKey not_isTyKey_optSize not_isTyKey_optSize,
    sizeOptL_iff h1 h2 h3 h4, and_comm]
  -- the sizes agree; which type is the one left out depends on the size only
  refine and_congr_right fun ⟨hl, hh⟩ => ?_
  subst hl; subst hh
  by_cases c : lo = 0 ∧ hi = 0
  · simp only [c, not_true_eq_false, and_false, and_true, false_or]
    exact unitParam_iff ih
  · simp only [c, not_false_eq_true, and_true, and_false, or_false]
    exact optParam_iff ih

theorem hashParam_iff {k v k' v' : Ty} {lo hi lo' hi' : Int} (h1 : IntOk lo) (h2 : IntOk hi) (h3 : IntOk lo') (h4 : IntOk hi')
    (ihk : tyKey k = tyKey k' ↔ tyEq k k' = true) (ihv : tyKey v = tyKey v' ↔ tyEq v v' = true) :
    tyParamL (.hash k v lo hi) = tyParamL (.hash k' v' lo' hi') ↔
      ((lo = lo' ∧ hi = hi') ∧ tyEq k k' = true) ∧ tyEq v v' = true := by
  simp only [tyParamL]
  have ne : ∀ {c : Prop} [Decidable c] {a b : Ty} {s : List Bytes},
      (if c then [intKey 0, intKey 0] else tyKey a :: tyKey b :: s) ≠ [] := by intros; split <;> simp
  -- the default Hash: nothing is written
  refine defaultParamL_iff ne ne ?_ ?_ fun _ _ => ?_
  · rintro ⟨⟨a1, a2⟩, rfl, rfl⟩
    rw [isAny_eq a1, isAny_eq a2, tyEq_any_left, tyEq_any_left]
    exact ⟨fun ⟨⟨⟨e1, e2⟩, e3⟩, e4⟩ => ⟨⟨e3, e4⟩, e1.symm, e2.symm⟩, fun ⟨⟨e3, e4⟩, e1, e2⟩ => ⟨⟨⟨e1.symm, e2.symm⟩, e3⟩, e4⟩⟩
  · rintro ⟨⟨a1, a2⟩, rfl, rfl⟩
    rw [isAny_eq a1, isAny_eq a2, tyEq_any_right, tyEq_any_right]
    exact ⟨fun ⟨⟨⟨e1, e2⟩, e3⟩, e4⟩ => ⟨⟨e3, e4⟩, e1, e2⟩, fun ⟨⟨e3, e4⟩, e1, e2⟩ => ⟨⟨⟨e1, e2⟩, e3⟩, e4⟩⟩
  -- the empty Hash: `0, 0`, which no type key is
  refine defaultParamL_iff (fun e => intKey_ne_tyKey 0 k (List.cons.inj e).1.symm)
    (fun e => intKey_ne_tyKey 0 k' (List.cons.inj e).1.symm) ?_ ?_ fun _ _ => ?_
  · rintro ⟨⟨a1, a2⟩, rfl, rfl⟩
    rw [isUnit_eq a1, isUnit_eq a2, tyEq_unit_left, tyEq_unit_left]
    exact ⟨fun ⟨⟨⟨e1, e2⟩, e3⟩, e4⟩ => ⟨⟨e3, e4⟩, e1.symm, e2.symm⟩, fun ⟨⟨e3, e4⟩, e1, e2⟩ => ⟨⟨⟨e1.symm, e2.symm⟩, e3⟩, e4⟩⟩
  · rintro ⟨⟨a1, a2⟩, rfl, rfl⟩
    rw [isUnit_eq a1, isUnit_eq a2, tyEq_unit_right, tyEq_unit_right]
    exact ⟨fun ⟨⟨⟨e1, e2⟩, e3⟩, e4⟩ => ⟨⟨e3, e4⟩, e1, e2⟩, fun ⟨⟨e3, e4⟩, e1, e2⟩ => ⟨⟨⟨e1, e2⟩, e3⟩, e4⟩⟩
  -- otherwise both types and the optional size
  simp only [List.cons.injEq, ihk, ihv, sizeOptL_iff h1 h2 h3 h4]
  exact ⟨fun ⟨a, b, c⟩ => ⟨⟨c, a⟩, b⟩, fun ⟨⟨c, a⟩, b⟩ => ⟨a, b, c⟩⟩

theorem likeParam_iff {b b' : Ty} {n n' : Bytes} (ih : tyKey b = tyKey b' ↔ tyEq b b' = true) :
    tyParamL (.like b n) = tyParamL (.like b' n') ↔ n = n' ∧ tyEq b b' = true := by
  simp only [tyParamL]
  refine defaultParamL_iff (by simp) (by simp) ?_ ?_ fun _ _ => ?_
  · rintro ⟨h1, h2⟩; rw [isAny_eq h1, List.isEmpty_iff.mp h2, tyEq_any_left, List.isEmpty_iff, and_comm, eq_comm (a := ([] : Bytes))]
  · rintro ⟨h1, h2⟩; rw [isAny_eq h1, List.isEmpty_iff.mp h2, tyEq_any_right, List.isEmpty_iff, and_comm]
  · simp only [List.cons.injEq, List.append_cancel_left_eq, and_true, ih]; exact and_comm

theorem runtimeParam_iff {rt n rt' n' : Bytes} {p p' : Option Bytes} :
    tyParamL (.runtime rt n p) = tyParamL (.runtime rt' n' p') ↔ (rt = rt' ∧ n = n') ∧ p = p' := by
  simp only [tyParamL]
  -- the default Runtime: nothing is written
  refine defaultParamL_iff (by simp) (by simp) ?_ ?_ fun _ _ => ?_
  · rintro ⟨⟨a1, a2⟩, a3⟩
    simp [List.isEmpty_iff.mp a1, List.isEmpty_iff.mp a2, Option.isNone_iff_eq_none.mp a3, eq_comm (a := ([] : Bytes)), eq_comm (a := (none : Option Bytes))]
  · rintro ⟨⟨a1, a2⟩, a3⟩
    simp [List.isEmpty_iff.mp a1, List.isEmpty_iff.mp a2, Option.isNone_iff_eq_none.mp a3]
  -- otherwise the runtime, the name unless it is empty and last, the pattern if there is one
  · rw [List.cons.injEq, List.append_cancel_left_eq, and_assoc]
    refine and_congr_right fun _ => ?_
    cases p <;> cases p' <;> by_cases hn : n = [] <;> by_cases hn' : n' = [] <;>
      simp [hn, hn', rxTyKey_inj]

theorem tupKeyOf_eq (ts : List Ty) : tupKeyOf ts = tyKey (.tup ts none) := by simp [tupKeyOf, tyKey, goaSize]

theorem undefKey_ne_tyKey (t : Ty) : undefKey ≠ tyKey t :=
  ne_tyKey_of_head (by simp [IsTyKey, undefKey]) t

/-- one of the three parts of a Callable key: a type key, or undef for an absent part -/
theorem optPart_iff {x y : Bool} {k1 k2 : Bytes} {P : Prop} (h1 : undefKey ≠ k1) (h2 : undefKey ≠ k2)
    (hk : x = true → y = true → (k1 = k2 ↔ P)) :
    ((if x then k1 else undefKey) = (if y then k2 else undefKey)) ↔ (x = y ∧ (x = false ∨ P)) := by
  cases x <;> cases y
  · simp
  · simp [h2]
  · simp [Ne.symm h1]
  · simp [hk rfl rfl]

/-! ### Struct: the entry keys -/

theorem acceptsUndefL_eq (ts : List Ty) : acceptsUndefL ts = ts.any acceptsUndef := by
  induction ts with
  | nil => rfl
  | cons t ts ih => simp [acceptsUndefL, ih]

/-- Equal types accept undef alike (so the entry key of a Struct member is written in the same form on both sides) -/
theorem tyEq_acceptsUndef : ∀ (n : Nat) (a b : Ty), sizeOf a ≤ n → tyEq a b = true → acceptsUndef a = acceptsUndef b := by
  -- by induction on a strict bound of the size (nothing is below the bound 0)
  suffices aux : ∀ (n : Nat) (a b : Ty), sizeOf a < n → tyEq a b = true → acceptsUndef a = acceptsUndef b from
    fun n a b hs => aux (n + 1) a b (Nat.lt_succ_of_le hs)
  intro n
  induction n with
  | zero => intro a b h; exact absurd h (Nat.not_lt_zero _)
  | succ n ih =>
    intro a b hs h
    -- only Variant looks at its parameters, and `NulK` at its kind
    cases a <;> unfold tyEq at h <;> split at h <;> first | rfl | cases h | skip
    · rename_i ts _ us
      obtain ⟨_, h1, h2⟩ := (tyEq_var ts us).mp h
      simp only [acceptsUndef, acceptsUndefL_eq]
      have sz : ∀ v ∈ ts, sizeOf v < n := by
        intro v hv
        have := List.sizeOf_lt_of_mem hv
        simp only [Ty.var.sizeOf_spec] at hs
        omega
      apply Bool.eq_iff_iff.mpr
      simp only [List.any_eq_true]
      constructor
      · rintro ⟨v, hv, ha⟩
        obtain ⟨u, hu, e⟩ := h1 v hv
        exact ⟨u, hu, by rw [← ih v u (sz v hv) e]; exact ha⟩
      · rintro ⟨u, hu, ha⟩
        obtain ⟨v, hv, e⟩ := h2 u hu
        exact ⟨v, hv, by rw [ih v u (sz v hv) e]; exact ha⟩
    · simp only [beq_iff_eq] at h; rw [h]

theorem acceptsUndef_congr {a b : Ty} (h : tyEq a b = true) : acceptsUndef a = acceptsUndef b :=
  tyEq_acceptsUndef _ a b (Nat.le_refl _) h

theorem ekStr_inj {a b : Bytes} : ekStr a = ekStr b ↔ a = b := by
  constructor
  · intro h; exact List.append_cancel_left (frame_inj h)
  · intro h; rw [h]

theorem structEntryKey_inj {n n' : Bytes} {o o' a : Bool} :
    structEntryKey n o a = structEntryKey n' o' a ↔ n = n' ∧ o = o' := by
  cases o <;> cases o' <;> cases a <;>
    simp [structEntryKey, optStrKey, notUndefStrKey, strMark, ekStr_inj]

theorem tyKeyS_step {n n' : Bytes} {o o' : Bool} {v v' : Ty} {es fs : List (Bytes × Bool × Ty)}
    (ihv : tyKey v = tyKey v' ↔ tyEq v v' = true) (ihs : tyKeyS es = tyKeyS fs ↔ tyEqS es fs = true) :
    tyKeyS ((n, o, v) :: es) = tyKeyS ((n', o', v') :: fs) ↔ tyEqS ((n, o, v) :: es) ((n', o', v') :: fs) = true := by
  simp only [tyKeyS, tyEqS, Bool.and_eq_true, beq_iff_eq]
  constructor
  · intro h
    have h1 := frame_decode h
    have h2 := frame_decode (List.cons.inj h1.2).2
    have hv := ihv.mp h2.1
    have ha := acceptsUndef_congr hv
    rw [ha] at h1
    exact ⟨⟨structEntryKey_inj.mp h1.1, hv⟩, ihs.mp h2.2⟩
  · rintro ⟨⟨⟨rfl, rfl⟩, hv⟩, hs⟩
    rw [acceptsUndef_congr hv, ihv.mpr hv, ihs.mpr hs]

/-! ### the plan of `tyKey_iff`: in different name classes both sides are false; in one class the form of `b` is known (`tagHead`)
    and the keys agree exactly when the parameter lists do -/

/-- the types of a name class: what `nameTag a = nameTag b` says about `b` once the constructor of `a` is known — the counterpart of
    `tyEqHead` for the direction from equal keys, where no true `Equals` is at hand -/
def tagHead : NameTag → Ty → Prop
  | .any, b => b = .any | .undef, b => b = .undef
  | .str, b => b = .str ∨ (∃ lo hi, b = .strSize lo hi) ∨ ∃ v, b = .strVal v
  | .int, b => ∃ lo hi, b = .int lo hi | .flt, b => ∃ lo hi, b = .flt lo hi | .enum, b => ∃ ci vs, b = .enum ci vs
  | .arr, b => ∃ e lo hi, b = .arr e lo hi | .var, b => ∃ ts, b = .var ts | .tup, b => ∃ ts sz, b = .tup ts sz
  | .opt, b => ∃ t, b = .opt t | .typ, b => ∃ t, b = .typ t | .nul k, b => b = .nul k | .bool, b => ∃ v, b = .bool v
  | .coll, b => ∃ lo hi, b = .coll lo hi | .un k, b => ∃ t, b = .un k t | .rx, b => ∃ p, b = .rx p
  | .pattern, b => ∃ ps, b = .pattern ps | .tref, b => ∃ s, b = .tref s | .semver, b => ∃ o rs, b = .semverT o rs
  | .hash, b => ∃ k v lo hi, b = .hash k v lo hi | .like, b => ∃ t n, b = .like t n
  | .callable, b => ∃ h ts hr r hb bl, b = .callable h ts hr r hb bl | .runtime, b => ∃ rt n p, b = .runtime rt n p
  | .struct, b => ∃ es, b = .struct es | .init, b => ∃ h t, b = .init h t

theorem nameTag_head (b : Ty) : tagHead (nameTag b) b := by
  cases b <;> simp [tagHead, nameTag]

theorem tag_inv {a b : Ty} (h : nameTag a = nameTag b) : tagHead (nameTag a) b := h ▸ nameTag_head b

theorem tyEq_nameTag {a b : Ty} (h : tyEq a b = true) : nameTag a = nameTag b := by
  cases a <;> unfold tyEq at h <;> split at h <;> first | rfl | cases h | skip
  · simp only [beq_iff_eq] at h; rw [h]
  · simp only [Bool.and_eq_true, beq_iff_eq] at h; rw [h.1]; rfl

theorem tyKey_iff_off {a b : Ty} (hn : nameTag a ≠ nameTag b) : tyKey a = tyKey b ↔ tyEq a b = true :=
  ⟨fun e => absurd ((name_eq_iff a b).mp (name_of_tyKey e)) hn, fun e => absurd (tyEq_nameTag e) hn⟩

theorem tyKey_iff_params {a b : Ty} (hn : a.name = b.name) (ha : a.isStruct = false) :
    tyKey a = tyKey b ↔ tyParamL a = tyParamL b := by
  rw [tyKey_eq_iff a b ha, and_iff_right hn]

theorem tupKeyOf_iff {ts us : List Ty} (h1 : (ts.length : Int) ≤ maxInt) (h2 : (us.length : Int) ≤ maxInt)
    (hL : ts.map tyKey = us.map tyKey ↔ ts.length = us.length ∧ tyEqL ts us = true) :
    tupKeyOf ts = tupKeyOf us ↔ ts.length = us.length ∧ tyEqL ts us = true := by
  rw [tupKeyOf_eq, tupKeyOf_eq, tyKey_iff_params (a := .tup ts none) (b := .tup us none) rfl rfl,
    tupParam_iff (sz := none) (sz' := none) ⟨intOk_natCast h1, intOk_natCast h1⟩ ⟨intOk_natCast h2, intOk_natCast h2⟩ hL]
  exact ⟨fun h => ⟨h.1.1, h.2⟩, fun h => ⟨⟨h.1, by simp only [goaSize, h.1]⟩, h.2⟩⟩

/-- the plan of `tyKey_iff` for every type but Struct: in different name classes both sides are false; in the same class the keys
    agree exactly when the parameter lists do, so what is left to an arm is its parameter list -/
theorem tyKey_iff_of_class {a b : Ty} (ha : a.isStruct = false)
    (h : tagHead (nameTag a) b → (tyParamL a = tyParamL b ↔ tyEq a b = true)) : tyKey a = tyKey b ↔ tyEq a b = true := by
  by_cases hn : nameTag a = nameTag b
  · rw [tyKey_iff_params ((name_eq_iff _ _).mpr hn) ha]; exact h (tag_inv hn)
  · exact tyKey_iff_off hn

/-! ### the induction: every arm but Struct is `tyKey_iff_of_class` with the lemma of its parameter shape; a Struct is compared
    entry by entry (`tyKeyS_step`) -/

mutual
theorem tyKey_iff : ∀ a b : Ty, TyWF a = true → TyWF b = true → (tyKey a = tyKey b ↔ tyEq a b = true)
  | .any, b, _, _ | .undef, b, _, _ => by
      refine tyKey_iff_of_class rfl ?_
      rintro rfl
      simp only [tyParamL, tyEq]
  | .str, b, _, hb => by
      refine tyKey_iff_of_class rfl ?_
      rintro (rfl | ⟨lo, hi, rfl⟩ | ⟨v, rfl⟩)
      · exact iff_of_true rfl rfl
      · simp only [TyWF, Bool.and_eq_true, decide_eq_true_eq] at hb
        exact iff_of_false (fun e => intParamL_ne_nil hb.1.1 e.symm) nofun
      · exact iff_of_false nofun nofun
  | .int lo hi, b, ha, hb => by
      refine tyKey_iff_of_class rfl ?_
      rintro ⟨lo', hi', rfl⟩
      simp only [tyParamL, tyEq, Bool.and_eq_true, beq_iff_eq]
      simp only [TyWF, Bool.and_eq_true, decide_eq_true_eq] at ha hb
      exact intParamL_inj ha.1 ha.2 hb.1 hb.2
  | .flt lo hi, b, ha, hb => by
      refine tyKey_iff_of_class rfl ?_
      rintro ⟨lo', hi', rfl⟩
      simp only [tyParamL, tyEq_flt]
      simp only [TyWF, Bool.and_eq_true, decide_eq_true_eq, Bool.not_eq_true'] at ha hb
      exact fltParamL_inj ha.1 ha.2 hb.1 hb.2
  | .enum ci vs, b, ha, hb => by
      refine tyKey_iff_of_class rfl ?_
      rintro ⟨ci', vs', rfl⟩
      simp only [tyParamL, List.cons.injEq, tyEq_enum]
      simp only [TyWF, decide_eq_true_eq] at ha hb
      exact enumParam_iff ha hb
  | .arr e lo hi, b, ha, hb => by
      refine tyKey_iff_of_class rfl ?_
      rintro ⟨e', lo', hi', rfl⟩
      rw [tyEq_arr]
      simp only [TyWF, Bool.and_eq_true, decide_eq_true_eq] at ha hb
      exact arrParam_iff ha.2.1 ha.2.2 hb.2.1 hb.2.2 (tyKey_iff e e' ha.1 hb.1)
  | .var ts, b, ha, hb => by
      refine tyKey_iff_of_class rfl ?_
      rintro ⟨us, rfl⟩
      simp only [TyWF, Bool.and_eq_true, decide_eq_true_eq] at ha hb
      rw [tyEq_var]
      simp only [tyParamL, List.cons.injEq, dedupS_sortB_eq_iff]
      rw [intKey_inj (intOk_length ha.2) (intOk_length hb.2), Int.natCast_inj,
        mem_map_iff_partners tyKey (fun v u => tyEq v u = true)
          fun v hv u hu => tyKey_iff_all ts ha.1 v hv u (TyWFL_mem hb.1 u hu)]
  | .tup ts sz, b, ha, hb => by
      refine tyKey_iff_of_class rfl ?_
      rintro ⟨us, sz', rfl⟩
      have ok : ∀ {n : Nat} {sz : Option (Int × Int)} {l : List Ty}, TyWF (.tup l sz) = true → (n : Int) ≤ maxInt →
          IntOk (goaSize n sz).1 ∧ IntOk (goaSize n sz).2 := by
        intro n sz l h hn
        simp only [TyWF, Bool.and_eq_true, decide_eq_true_eq] at h
        cases sz with
        | none => exact ⟨intOk_natCast hn, intOk_natCast hn⟩
        | some p => simpa [goaSize, IntOk, and_assoc] using h.1.2
      have wa := ha
      have wb := hb
      simp only [TyWF, Bool.and_eq_true, decide_eq_true_eq] at wa wb
      rw [tyEq_tup]
      exact tupParam_iff (ok ha wa.2) (ok hb wb.2) (tyKey_iff_L ts us wa.1.1 wb.1.1)
  | .opt t, b, ha, hb | .typ t, b, ha, hb => by
      refine tyKey_iff_of_class rfl ?_
      rintro ⟨u, rfl⟩
      simp only [tyParamL, tyEq]
      simp only [TyWF] at ha hb
      exact wrapParamL_iff ha hb (tyKey_iff t u ha hb)
  | .nul k, b, _, _ => by
      refine tyKey_iff_of_class rfl ?_
      rintro rfl
      exact iff_of_true rfl (by simp [tyEq])
  | .bool v, b, _, _ => by
      refine tyKey_iff_of_class rfl ?_
      rintro ⟨v', rfl⟩
      cases v with
      | none => cases v' <;> simp [tyEq, tyParamL]
      | some x =>
        cases v' with
        | none => simp only [tyParamL, List.cons_ne_self, tyEq, Option.beq_none, Option.isNone_some,
          Bool.false_eq_true]
        | some y => cases x <;> cases y <;> simp [tyEq, tyParamL, boolKey]
  | .coll lo hi, b, ha, hb => by
      refine tyKey_iff_of_class rfl ?_
      rintro ⟨lo', hi', rfl⟩
      simp only [tyParamL, tyEq, Bool.and_eq_true, beq_iff_eq]
      simp only [TyWF, Bool.and_eq_true, decide_eq_true_eq] at ha hb
      exact sizeOptL_iff ha.1 ha.2 hb.1 hb.2
  | .un k t, b, ha, hb => by
      refine tyKey_iff_of_class rfl ?_
      rintro ⟨u, rfl⟩
      simp only [tyParamL, tyEq, beq_self_eq_true, Bool.true_and]
      simp only [TyWF] at ha hb
      exact wrapParamL_iff ha hb (tyKey_iff t u ha hb)
  | .strSize lo hi, b, ha, hb => by
      simp only [TyWF, Bool.and_eq_true, decide_eq_true_eq] at ha
      refine tyKey_iff_of_class rfl ?_
      rintro (rfl | ⟨lo', hi', rfl⟩ | ⟨v, rfl⟩)
      · exact iff_of_false (intParamL_ne_nil ha.1.1) nofun
      · simp only [TyWF, Bool.and_eq_true, decide_eq_true_eq] at hb
        have m1 : minInt ≤ lo := by unfold minInt; omega
        have m2 : minInt ≤ lo' := by unfold minInt; omega
        simp only [tyEq, Bool.and_eq_true, beq_iff_eq]
        exact intParamL_inj ⟨m1, ha.1.2⟩ ha.2 ⟨m2, hb.1.2⟩ hb.2
      · exact iff_of_false intParamL_ne_str nofun
  | .strVal v, b, _, _ => by
      refine tyKey_iff_of_class rfl ?_
      rintro (rfl | ⟨lo, hi, rfl⟩ | ⟨v', rfl⟩)
      · exact iff_of_false nofun nofun
      · exact iff_of_false (fun e => intParamL_ne_str e.symm) nofun
      · simp only [tyParamL, List.cons.injEq, and_true, List.append_cancel_left_eq, tyEq, beq_iff_eq]
  | .rx p, b, _, _ => by
      refine tyKey_iff_of_class rfl ?_
      rintro ⟨q, rfl⟩
      simp only [tyEq, tyParamL, beq_iff_eq, List.isEmpty_iff]
      exact defaultParam_iff (f := rxKey) rxKey_inj.mp
  | .pattern ps, b, ha, hb => by
      refine tyKey_iff_of_class rfl ?_
      rintro ⟨ps', rfl⟩
      simp only [tyParamL, List.cons.injEq, tyEq_pattern]
      simp only [TyWF, decide_eq_true_eq] at ha hb
      exact patternParam_iff ha hb
  | .tref s, b, _, _ => by
      refine tyKey_iff_of_class rfl ?_
      rintro ⟨s', rfl⟩
      simp only [tyEq, tyParamL, beq_iff_eq]
      exact defaultParam_iff (f := (strMark ++ ·)) List.append_cancel_left
  | .semverT o rs, b, ha, hb => by
      refine tyKey_iff_of_class rfl ?_
      rintro ⟨o', rs', rfl⟩
      simp only [TyWF, List.all_eq_true] at ha hb
      simp only [tyEq, tyParamL, rangesEq_iff]
      exact defaultParam_iff (f := fun rs => strMark ++ normStr rs) fun e => normStr_inj ha hb (List.append_cancel_left e)
  | .hash k v lo hi, b, ha, hb => by
      refine tyKey_iff_of_class rfl ?_
      rintro ⟨k', v', lo', hi', rfl⟩
      simp only [TyWF, Bool.and_eq_true, decide_eq_true_eq] at ha hb
      rw [tyEq_hash]
      exact hashParam_iff ha.2.1 ha.2.2 hb.2.1 hb.2.2 (tyKey_iff k k' ha.1.1 hb.1.1) (tyKey_iff v v' ha.1.2 hb.1.2)
  | .like t n, b, ha, hb => by
      refine tyKey_iff_of_class rfl ?_
      rintro ⟨t', n', rfl⟩
      simp only [TyWF] at ha hb
      rw [tyEq_like]
      exact likeParam_iff (tyKey_iff t t' ha hb)
  | .callable h ts hr r hb bl, b, ha, hb' => by
      refine tyKey_iff_of_class rfl ?_
      rintro ⟨h', us, hr', r', hb2, bl', rfl⟩
      simp only [TyWF, Bool.and_eq_true, Bool.or_eq_true, Bool.not_eq_true', decide_eq_true_eq] at ha hb'
      simp only [tyParamL, tyEq, List.cons.injEq, and_true, Bool.and_eq_true, beq_iff_eq, Bool.or_eq_true,
        Bool.not_eq_true']
      have t1 : ∀ xs : List Ty, undefKey ≠ tupKeyOf xs := fun xs => by rw [tupKeyOf_eq]; exact undefKey_ne_tyKey _
      rw [optPart_iff (P := ts.length = us.length ∧ tyEqL ts us = true) (t1 ts) (t1 us)
            (fun hx hy => by
              have a1 := ha.1.resolve_left (by simp [hx])
              have b1 := hb'.1.resolve_left (by simp [hy])
              exact tupKeyOf_iff a1.2 b1.2 (tyKey_iff_L ts us a1.1 b1.1)),
          optPart_iff (P := tyEq r r' = true) (undefKey_ne_tyKey r) (undefKey_ne_tyKey r')
            (fun hx hy => tyKey_iff r r' (ha.2.1.resolve_left (by simp [hx])) (hb'.2.1.resolve_left (by simp [hy]))),
          optPart_iff (P := tyEq bl bl' = true) (undefKey_ne_tyKey bl) (undefKey_ne_tyKey bl')
            (fun hx hy => tyKey_iff bl bl' (ha.2.2.resolve_left (by simp [hx])) (hb'.2.2.resolve_left (by simp [hy])))]
  | .runtime rt n p, b, _, _ => by
      refine tyKey_iff_of_class rfl ?_
      rintro ⟨rt', n', p', rfl⟩
      simp only [tyEq, Bool.and_eq_true, beq_iff_eq]
      exact runtimeParam_iff
  | .struct es, b, ha, hb => by
      by_cases hn : nameTag (.struct es) = nameTag b
      case neg => exact tyKey_iff_off hn
      obtain ⟨fs, rfl⟩ := tag_inv hn
      simp only [TyWF, Bool.and_eq_true, decide_eq_true_eq] at ha hb
      rw [tyKey_struct, tyKey_struct]
      simp only [Ty.name, List.append_cancel_left_eq, tyEq, Bool.and_eq_true, beq_iff_eq]
      cases es with
      | nil =>
        cases fs with
        | nil => simp [structTail, tyEqS]
        | cons f fs => simp [structTail]
      | cons e es =>
        cases fs with
        | nil => simp [structTail]
        | cons f fs =>
          simp only [structTail, List.isEmpty_cons, Bool.false_eq_true, if_false, List.cons.injEq, true_and, ekInt]
          constructor
          · intro h
            have h1 := frame_decode h
            have hl : (e :: es).length = (f :: fs).length := by
              have := (intKey_inj (intOk_length ha.2) (intOk_length hb.2)).mp h1.1
              exact_mod_cast this
            exact ⟨hl, (tyKey_iff_S (e :: es) (f :: fs) ha.1 hb.1 hl).mp h1.2⟩
          · rintro ⟨hl, h⟩
            rw [hl, (tyKey_iff_S (e :: es) (f :: fs) ha.1 hb.1 hl).mpr h]
  | .init h t, b, ha, hb => by
      refine tyKey_iff_of_class rfl ?_
      rintro ⟨h', u, rfl⟩
      cases h <;> cases h' <;> simp [tyEq, tyParamL]
      simp only [TyWF, Bool.not_true, Bool.false_or] at ha hb
      exact tyKey_iff t u ha hb

termination_by structural a => a
theorem tyKey_iff_S : ∀ es fs : List (Bytes × Bool × Ty), TyWFS es = true → TyWFS fs = true → es.length = fs.length →
    (tyKeyS es = tyKeyS fs ↔ tyEqS es fs = true)
  | [], [], _, _, _ => by simp [tyKeyS, tyEqS]
  | [], _ :: _, _, _, h => by simp at h
  | _ :: _, [], _, _, h => by simp at h
  | (n, o, v) :: es, (n', o', v') :: fs, ha, hb, hl => by
      simp only [TyWFS, Bool.and_eq_true] at ha hb
      exact tyKeyS_step (tyKey_iff v v' ha.1 hb.1) (tyKey_iff_S es fs ha.2 hb.2 (by simpa using hl))
termination_by structural es => es
theorem tyKey_iff_L : ∀ ts us : List Ty, TyWFL ts = true → TyWFL us = true →
    (ts.map tyKey = us.map tyKey ↔ ts.length = us.length ∧ tyEqL ts us = true)
  | [], [], _, _ => by simp [tyEqL]
  | [], _ :: _, _, _ => by simp
  | _ :: _, [], _, _ => by simp
  | t :: ts, u :: us, ha, hb => by
      simp only [TyWFL, Bool.and_eq_true] at ha hb
      simp only [List.map_cons, List.cons.injEq, List.length_cons, tyEqL, Bool.and_eq_true,
        tyKey_iff t u ha.1 hb.1, tyKey_iff_L ts us ha.2 hb.2]
      constructor
      · rintro ⟨h1, h2, h3⟩; exact ⟨by omega, h1, h3⟩
      · rintro ⟨h1, h2, h3⟩; exact ⟨h2, by omega, h3⟩
termination_by structural ts => ts
theorem tyKey_iff_all : ∀ ts : List Ty, TyWFL ts = true → ∀ v ∈ ts, ∀ u, TyWF u = true → (tyKey v = tyKey u ↔ tyEq v u = true)
  | [], _, _, h => by simp at h
  | t :: ts, ha, v, hv => by
      simp only [TyWFL, Bool.and_eq_true] at ha
      rcases List.mem_cons.mp hv with e | hv
      · rw [e]; exact fun u hu => tyKey_iff t u ha.1 hu
      · exact tyKey_iff_all ts ha.2 v hv
termination_by structural ts => ts
end

end Pcore.ValueEq

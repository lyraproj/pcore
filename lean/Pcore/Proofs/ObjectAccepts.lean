import Pcore.Proofs.ObjectDefine
/-! C17: which definitions `define` accepts — every well-formed one (`WellFormedDef`, `define_succeeds`): each loop of
    InitFromHash succeeds on input that is well-formed in its own terms. -/
namespace Pcore.Object

/-- a declared attribute that is well-formed on its own (attribute.initialize raises nothing) -/
def AttrDeclOK (d : AttrDecl) : Prop :=
  ¬(d.kind = .constant ∧ d.final = some false) ∧
  match d.dflt with
  | some v => d.kind ≠ .derived ∧ d.kind ≠ .givenOrDerived ∧ inst d.ty v = true
  | none => d.kind ≠ .constant

theorem mkAttr_succeeds {d : AttrDecl} (h : AttrDeclOK d) : ∃ a, mkAttr d = .ok a := by
  obtain ⟨hfin, h⟩ := h
  cases hd : d.dflt with
  | some v =>
    simp only [hd] at h
    exact ⟨_, mkAttr_eq_ok.mpr ⟨hfin, Or.inl ⟨v, hd, h.1, h.2.1, h.2.2, rfl⟩⟩⟩
  | none =>
    simp only [hd] at h
    exact ⟨_, mkAttr_eq_ok.mpr ⟨hfin, Or.inr ⟨hd, h, rfl⟩⟩⟩

/-- the declared attribute may stand where it stands: a fresh name without `override`, or a proper override (a final
    member — every constant is final — is overridden only constant by constant; the type may only narrow) -/
def OverrideOK (parent : OType) (d : AttrDecl) : Prop :=
  fnShadow parent d.name = false ∧
  match findAttr parent d.name with
  | none => d.override = false
  | some pa => d.override = true ∧ (pa.final = true → pa.kind = .constant ∧ d.kind = .constant) ∧
      ∀ a, mkAttr d = .ok a → asg pa.ty a.ty = true

theorem assertOverride_succeeds {parent : OType} {d : AttrDecl} {a : Attr} (h : OverrideOK parent d)
    (ha : mkAttr d = .ok a) : assertOverride parent a = .ok () := by
  obtain ⟨hn, hk, ho, -⟩ := mkAttr_ok ha
  unfold OverrideOK at h
  obtain ⟨hsh, h⟩ := h
  unfold assertOverride
  rw [hn]
  simp only [hsh, Bool.false_eq_true, if_false]
  cases hf : findAttr parent d.name with
  | none =>
    simp only [hf] at h
    simp [ho, h]
  | some pa =>
    simp only [hf] at h
    obtain ⟨h1, h2, h3⟩ := h
    have hfin : (pa.final && !(pa.kind == Kind.constant && a.kind == Kind.constant)) = false := by
      by_cases hc : pa.final = true
      · obtain ⟨hp, hdk⟩ := h2 hc
        simp [hk, hp, hdk]
      · simp [hc]
    simp only [hfin, ho, h1, h3 a ha, Bool.false_eq_true, if_false, Bool.not_true]

theorem defineAttrs_succeeds {parent : OType} {ds : List AttrDecl} (hok : ∀ d ∈ ds, AttrDeclOK d)
    (hov : ∀ d ∈ ds, OverrideOK parent d) : ∃ as, defineAttrs parent ds = .ok as := by
  induction ds with
  | nil => exact ⟨[], rfl⟩
  | cons d ds ih =>
    obtain ⟨a, ha⟩ := mkAttr_succeeds (hok d (by simp))
    obtain ⟨as, has⟩ := ih (fun x hx => hok x (by simp [hx])) (fun x hx => hov x (by simp [hx]))
    exact ⟨a :: as, defineAttrs_iff.mpr (.cons ⟨ha, assertOverride_succeeds (hov d (by simp)) ha⟩ (defineAttrs_iff.mp has))⟩

theorem checkEquality_succeeds {own : List Attr} {parent : OType} {l : List String}
    (h : ∀ n ∈ l, ∃ a, lookupMember own parent n = some a ∧ a.kind ≠ .constant ∧ n ∉ equalityAttributes parent) :
    checkEquality own parent l = .ok () := by
  induction l with
  | nil => rfl
  | cons n ns ih =>
    obtain ⟨a, hl, hk, hn⟩ := h n (by simp)
    unfold checkEquality
    simp only [hl]
    simp [hk, hn]
    exact ih (fun m hm => h m (by simp [hm]))

/-- required never after optional -/
def SerSorted (own : List Attr) (parent : OType) (ser : List String) : Prop :=
  ser.Pairwise (fun n m => ∀ a b, lookupMember own parent n = some a → lookupMember own parent m = some b →
    a.optional = true → b.optional = true)

theorem checkSerialization_succeeds {own : List Attr} {parent : OType} {b : Bool} {seen ser : List String}
    (hmem : ∀ n ∈ ser, ∃ a, lookupMember own parent n = some a ∧ a.settable = true)
    (hb : b = true → ∀ n ∈ ser, ∀ a, lookupMember own parent n = some a → a.optional = true)
    (hs : SerSorted own parent ser) (hnd : ser.Nodup) (hdisj : ∀ n ∈ ser, n ∉ seen) :
    checkSerialization own parent b seen ser = .ok () := by
  induction ser generalizing b seen with
  | nil => rfl
  | cons n ns ih =>
    obtain ⟨a, hl, hset⟩ := hmem n (by simp)
    unfold SerSorted at hs
    rw [List.pairwise_cons] at hs
    rw [List.nodup_cons] at hnd
    refine checkSerialization_cons.mpr ⟨a, hl, hset, fun hb' => hb hb' n (by simp) a hl, hdisj n (by simp), ?_⟩
    apply ih (fun m hm => hmem m (by simp [hm])) _ hs.2 hnd.2
    · intro m hm hms
      rcases List.mem_cons.mp hms with rfl | hms
      · exact hnd.1 hm
      · exact hdisj m (by simp [hm]) hms
    · intro hb' m hm c hc
      rcases (Bool.or_eq_true _ _).mp hb' with hb' | hb'
      · exact hb hb' m (by simp [hm]) c hc
      · exact hs.1 m hm a c hl hc hb'

/-- a well-formed definition, in the model's terms: no name both in `attributes` and in `constants`; the attribute
    specifications (`attributes`, then `constants` with their inferred type) well-formed on their own, each a fresh name or a
    proper override of an inherited attribute; equality names are (own or inherited) attributes that are not constants and not already part of
    an inherited equality; serialization names are attributes with a position, required never after optional -/
structure WellFormedDef (env : List OType) (d : Def) : Prop where
  /-- no type parameter re-declares an inherited one (trivially true of a definition without `type_parameters`) -/
  params : d.params.any (fun q => (typeParams (parentOf env d)).any (fun r => r.1 == q.1)) = false
  noBoth : d.constants.any (fun c => d.attrs.any (fun a => a.name == c.1)) = false
  /-- every member function is a fresh name or a proper override of an inherited function (trivially true of a definition
      without `functions`) -/
  funcs : defineFuncs (parentOf env d) (d.attrs.map (·.name)) d.funcs = .ok ()
  /-- `equality` / `serialization` name no member function -/
  noFnNames : ∀ as, defineAttrs (parentOf env d) (d.decls (parentOf env d)) = .ok as →
    ∀ n ∈ d.equality.toList?.getD [] ++ d.serialization.getD [], isFnName as d.funcs (parentOf env d) n = false
  attrs : ∀ a ∈ d.decls (parentOf env d), AttrDeclOK a
  override : ∀ a ∈ d.decls (parentOf env d), OverrideOK (parentOf env d) a
  equality : ∀ as, defineAttrs (parentOf env d) (d.decls (parentOf env d)) = .ok as →
    ∀ n ∈ d.equality.toList?.getD [],
      ∃ a, lookupMember as (parentOf env d) n = some a ∧ a.kind ≠ .constant ∧ n ∉ equalityAttributes (parentOf env d)
  serialization : ∀ as, defineAttrs (parentOf env d) (d.decls (parentOf env d)) = .ok as →
    ∀ ser, d.serialization = some ser →
      (∀ n ∈ ser, ∃ a, lookupMember as (parentOf env d) n = some a ∧ a.settable = true) ∧
        SerSorted as (parentOf env d) ser ∧ ser.Nodup

theorem define_succeeds {env : List OType} {d : Def} (h : WellFormedDef env d) : ∃ t, define env d = .ok t := by
  obtain ⟨as, has⟩ := defineAttrs_succeeds h.attrs h.override
  have heq := checkEquality_succeeds (h.equality as has)
  have hser : checkSerialization as (parentOf env d) false [] (d.serialization.getD []) = .ok () := by
    rcases Option.eq_none_or_eq_some d.serialization with hs | ⟨ser, hs⟩
    · simp [hs, checkSerialization]
    · obtain ⟨h1, h2, h3⟩ := h.serialization as has ser hs
      rw [hs]
      exact checkSerialization_succeeds h1 (fun hb => by cases hb) h2 h3 (by simp)
  have hnf := h.noFnNames as has
  have heqF := checkEqualityF_of (own := as) (ownF := d.funcs) (parent := parentOf env d)
    (fun n hn => hnf n (List.mem_append.mpr (Or.inl hn)))
  have hserF := checkSerializationF_of (own := as) (ownF := d.funcs) (parent := parentOf env d)
    (fun n hn => hnf n (List.mem_append.mpr (Or.inr hn)))
  unfold define
  simp only [h.params, h.noBoth, h.funcs, Bool.false_eq_true, if_false, has, heqF, hserF, heq, hser]
  exact ⟨_, rfl⟩

end Pcore.Object

import Pcore.Proofs.HashImpl
import Pcore.Proofs.ArrayImpl
/-!
Histories over a pool of hashes: every step of the implementation model preserves the invariant of every
hash in the pool and answers what the specification machine answers.  `SelectPairs`, `RejectPairs`, `EachSlice` are the
array loops of `Proofs/ArrayImpl` on the entries.
-/
namespace Pcore.Coll
open OMap

variable {α β κ : Type} [DecidableEq κ]

def PoolInv (key : α → κ) (pool : List (Hash α β κ)) : Prop := ∀ h ∈ pool, HInv key h

/-- the literals of a history have no repeated keys (the case excluded by known finding C09-literal-dup-keys) -/
def LitOK (key : α → κ) : HOp α β → Prop
  | .lit es => (keys key es).Nodup
  | _ => True

instance (key : α → κ) (op : HOp α β) : Decidable (LitOK key op) := by
  cases op <;> simp only [LitOK] <;> infer_instance

def absPool (pool : List (Hash α β κ)) : List (List (α × β)) := pool.map (·.entries)

omit [DecidableEq κ] in
theorem absPool_get (pool : List (Hash α β κ)) (i : Nat) : (absPool pool)[i]? = (pool[i]?).map (·.entries) :=
  List.getElem?_map

omit [DecidableEq κ] in
theorem absPool_append (pool : List (Hash α β κ)) (n : Hash α β κ) : absPool (pool ++ [n]) = absPool pool ++ [n.entries] :=
  List.map_append

omit [DecidableEq κ] in
theorem absPool_set (pool : List (Hash α β κ)) (i : Nat) (n : Hash α β κ) :
    absPool (pool.set i n) = (absPool pool).set i n.entries := List.map_set

theorem PoolInv.set {key : α → κ} {pool : List (Hash α β κ)} (hp : PoolInv key pool) {i : Nat} {h' : Hash α β κ}
    (hi : HInv key h') : PoolInv key (pool.set i h') := by
  intro h hm
  rcases List.mem_or_eq_of_mem_set hm with hm | rfl
  · exact hp h hm
  · exact hi

theorem PoolInv.append {key : α → κ} {pool : List (Hash α β κ)} (hp : PoolInv key pool) {n : Hash α β κ}
    (hi : HInv key n) : PoolInv key (pool ++ [n]) := by
  intro h hm
  rcases List.mem_append.mp hm with hm | hm
  · exact hp h hm
  · exact List.mem_singleton.mp hm ▸ hi

theorem PoolInv.of_getElem? {key : α → κ} {pool : List (Hash α β κ)} (hp : PoolInv key pool) {i : Nat} {h : Hash α β κ}
    (hg : pool[i]? = some h) : HInv key h := hp h (List.mem_of_getElem? hg)

/-! how a step changes the pool; the observation `obs` is carried along so that the statements have the shape of the goals of `stepH_refines` -/

theorem PoolInv.fresh {key : α → κ} {pool : List (Hash α β κ)} (hp : PoolInv key pool) {es : List (α × β)}
    (hn : (keys key es).Nodup) (obs : HObs α β) :
    PoolInv key (pool ++ [Hash.wrap es]) ∧ (absPool pool ++ [es], obs) = (absPool (pool ++ [(Hash.wrap es : Hash α β κ)]), obs) :=
  ⟨hp.append (HInv.wrap hn), by rw [absPool_append]; rfl⟩

/-- an operation that consults the index stores the receiver back with the index cached: the invariant holds of it
    and the abstract pool does not see the difference -/
theorem PoolInv.cache {key : α → κ} {pool : List (Hash α β κ)} (hp : PoolInv key pool) {i : Nat} {h : Hash α β κ}
    (hg : pool[i]? = some h) (obs : HObs α β) :
    PoolInv key (pool.set i (h.valueIndex key).1) ∧ (absPool pool, obs) = (absPool (pool.set i (h.valueIndex key).1), obs) := by
  obtain ⟨he, hv, _⟩ := (hp.of_getElem? hg).valueIndex
  refine ⟨hp.set hv, ?_⟩
  rw [absPool_set, he, set_of_getElem? (by rw [absPool_get, hg]; rfl)]

theorem PoolInv.derive {key : α → κ} {pool : List (Hash α β κ)} (hp : PoolInv key pool) {i : Nat} {h n : Hash α β κ}
    (hg : pool[i]? = some h) (hn : HInv key n) {m : List (α × β)} (hne : n.entries = m) (obs : HObs α β) :
    PoolInv key (pool.set i (h.valueIndex key).1 ++ [n]) ∧
      (absPool pool ++ [m], obs) = (absPool (pool.set i (h.valueIndex key).1 ++ [n]), obs) := by
  obtain ⟨hc, he⟩ := hp.cache hg obs
  exact ⟨hc.append hn, by rw [absPool_append, ← (Prod.mk.inj he).1, hne]⟩

theorem PoolInv.replace {key : α → κ} {pool : List (Hash α β κ)} (hp : PoolInv key pool) (i : Nat) {n : Hash α β κ}
    (hn : HInv key n) {m : List (α × β)} (hne : n.entries = m) (obs : HObs α β) :
    PoolInv key (pool.set i n) ∧ ((absPool pool).set i m, obs) = (absPool (pool.set i n), obs) :=
  ⟨hp.set hn, by rw [absPool_set, hne]⟩

/-- both machines answer `badRef` to a position outside the pool and leave it as it is, so a step that refers to one hash
    is to be checked for the hashes of the pool only -/
theorem PoolInv.lookup {key : α → κ} {pool : List (Hash α β κ)} (hp : PoolInv key pool) (i : Nat)
    (F : Hash α β κ → List (Hash α β κ) × HObs α β) (G : List (α × β) → List (List (α × β)) × HObs α β)
    (h : ∀ h, pool[i]? = some h → PoolInv key (F h).1 ∧ G h.entries = (absPool (F h).1, (F h).2)) :
    PoolInv key (match pool[i]? with | some h => F h | none => (pool, HObs.badRef)).1 ∧
    (match (pool[i]?).map (·.entries) with | some m => G m | none => (absPool pool, HObs.badRef)) =
      (absPool (match pool[i]? with | some h => F h | none => (pool, HObs.badRef)).1,
        (match pool[i]? with | some h => F h | none => (pool, HObs.badRef)).2) := by
  cases hg : pool[i]? with
  | none => exact ⟨hp, rfl⟩
  | some x => exact h x hg

theorem stepH_refines (key : α → κ) (pool : List (Hash α β κ)) (hp : PoolInv key pool) (op : HOp α β)
    (hl : LitOK key op) :
    PoolInv key (stepHImpl key pool op).1 ∧
      stepHSpec key (absPool pool) op = (absPool (stepHImpl key pool op).1, (stepHImpl key pool op).2) := by
  cases op <;> simp only [stepHImpl, stepHSpec, absPool_get]
  case lit es =>
    have hn : (keys key es).Nodup := hl
    rw [ofList, merge_of_nodup [] es hn]
    exact hp.fresh hn _
  case put i e =>
    refine hp.lookup i _ _ fun h hg => ?_
    obtain ⟨n, hm, hne, hni⟩ := (hp.of_getElem? hg).merge (o := [e]) (by simp [keys])
    simp only [hm]
    exact hp.derive hg hni hne _
  case merge i j =>
    cases hg : pool[i]? with
    | none => exact ⟨hp, by simp⟩
    | some h =>
      cases hg2 : pool[j]? with
      | none => exact ⟨hp, by simp⟩
      | some o =>
        obtain ⟨n, hm, hne, hni⟩ := (hp.of_getElem? hg).merge (hp.of_getElem? hg2).1
        simp only [hm, Option.map_some]
        exact hp.derive hg hni hne _
  case delete i k =>
    refine hp.lookup i _ _ fun h hg => ?_
    obtain ⟨n, hm, hne, hni⟩ := (hp.of_getElem? hg).delete k
    simp only [hm]
    exact hp.derive hg hni hne _
  case deleteAll i ks =>
    refine hp.lookup i _ _ fun h hg => ?_
    obtain ⟨h1, hne, hni⟩ := (hp.of_getElem? hg).deleteAll ks
    simp only [h1]
    exact hp.derive hg hni hne _
  case get i k =>
    refine hp.lookup i _ _ fun h hg => ?_
    simp only [(hp.of_getElem? hg).get]
    exact hp.cache hg _
  case includes i k =>
    refine hp.lookup i _ _ fun h hg => ?_
    simp only [(hp.of_getElem? hg).includesKey]
    exact hp.cache hg _
  case view i => exact hp.lookup i _ _ fun h _ => ⟨hp, rfl⟩
  case mput i e =>
    refine hp.lookup i _ _ fun h hg => ?_
    obtain ⟨n, hm, hne, hni⟩ := (hp.of_getElem? hg).putAll (o := [e]) (by simp [keys])
    simp only [Hash.putM, hm]
    exact hp.replace i hni hne _
  case mputAll i j =>
    cases hg : pool[i]? with
    | none => exact ⟨hp, by simp⟩
    | some h =>
      cases hg2 : pool[j]? with
      | none => exact ⟨hp, by simp⟩
      | some o =>
        obtain ⟨n, hm, hne, hni⟩ := (hp.of_getElem? hg).putAll (hp.of_getElem? hg2).1
        simp only [hm, Option.map_some]
        exact hp.replace i hni hne _
  -- the remaining operations read the entries only, and what they keep of them is a sublist or a permutation
  case slice i x y =>
    refine hp.lookup i _ _ fun h hg => ?_
    by_cases hb : x ≤ y ∧ y ≤ h.entries.length
    · simp only [Hash.slice, hb, and_self, if_true]
      exact hp.fresh (nodup_of_sublist ((List.take_sublist (y - x) _).trans (List.drop_sublist x _)) (hp.of_getElem? hg).1) _
    · simp only [Hash.slice, hb, if_false]
      exact ⟨hp, trivial⟩
  case select i ks =>
    refine hp.lookup i _ _ fun h hg => ?_
    simp only [Hash.selectPairs, Arr.rejectLoop_eq, List.nil_append, Bool.not_not]
    exact hp.fresh (nodup_of_sublist List.filter_sublist (hp.of_getElem? hg).1) _
  case reject i ks =>
    refine hp.lookup i _ _ fun h hg => ?_
    simp only [Hash.rejectPairs, Arr.rejectLoop_eq, List.nil_append]
    exact hp.fresh (nodup_of_sublist List.filter_sublist (hp.of_getElem? hg).1) _
  case sort i le =>
    refine hp.lookup i _ _ fun h hg => ?_
    exact hp.fresh (((List.mergeSort_perm h.entries (fun a b => le a.1 b.1)).map (fun e : α × β => key e.1)).nodup_iff.mpr
      (hp.of_getElem? hg).1) _
  case eachSlice i n =>
    refine hp.lookup i _ _ fun h hg => ?_
    by_cases hn : n < 1
    · simp [Hash.eachSlice, Arr.eachSlice, hn, hp]
    · simp [Hash.eachSlice, Arr.eachSlice_eq n hn, hn, hp]
/-- the specification machine has no fault to answer (one arm per operation, each answers another constructor) -/
theorem stepHSpec_ne_fault (key : α → κ) (sp : List (List (α × β))) (op : HOp α β) : (stepHSpec key sp op).2 ≠ .fault := by
  cases op <;> simp only [stepHSpec] <;> (repeat' split) <;> simp

theorem runHSpec_ne_fault (key : α → κ) (ops : List (HOp α β)) : ∀ sp, ∀ o ∈ (runHSpec key sp ops).1, o ≠ .fault := by
  induction ops with
  | nil => exact fun _ _ h => nomatch h
  | cons op ops ih =>
    intro sp o ho
    rcases List.mem_cons.mp ho with rfl | ho
    · exact stepHSpec_ne_fault key sp op
    · exact ih _ o ho

/-- the simulation, for ANY history whose literals do not repeat a key: every hash of the pool keeps the invariant (no two
    equal keys, cached index = index of the entries), every answer of every step (lookups, membership, iteration order)
    equals the specification's, and so does the content of every hash of the pool afterwards -/
theorem hash_simulation (key : α → κ) (ops : List (HOp α β)) (hl : ∀ op ∈ ops, LitOK key op) (pool : List (Hash α β κ))
    (hp : PoolInv key pool) :
    PoolInv key (runHImpl key pool ops).2 ∧
      (runHImpl key pool ops).1 = (runHSpec key (absPool pool) ops).1 ∧
      absPool (runHImpl key pool ops).2 = (runHSpec key (absPool pool) ops).2 := by
  induction ops generalizing pool with
  | nil => exact ⟨hp, rfl, rfl⟩
  | cons op ops ih =>
    obtain ⟨hp', hs⟩ := stepH_refines key pool hp op (hl op (List.mem_cons_self ..))
    obtain ⟨h1, h2, h3⟩ := ih (fun o ho => hl o (List.mem_cons_of_mem _ ho)) _ hp'
    simp only [runHImpl, runHSpec, hs]
    exact ⟨h1, by rw [h2], h3⟩

end Pcore.Coll

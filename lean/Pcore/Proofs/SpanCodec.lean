import Pcore.Model.SpanCodec
import Pcore.Proofs.Digits
/-! C10: the default Timespan format round-trips — `parseSpan (printSpan ns) = some ns`.  The parser takes a digit string up
    to a separator (`takeDigits_sep`); each printed part (`padDigits`, `natDigits` — through `Proofs/Digits` —, `fracDigits`)
    is a digit string with its value; then the five segments (`parseSpanChars_spanChars`) and the sign.  `Timespan.Format`
    with an arbitrary format is C20's (`Pcore.Format.spanFormat`, Proofs/FormatSpan), a model of its own; no theorem relates
    the two. -/
namespace Pcore.Ser

theorem digitChar_spec : ∀ d, d < 10 → isDigit (digitChar d) = true ∧ digitVal (digitChar d) = d ∧ digitChar d ≠ '-' := by
  decide

theorem digitChar_mod (n : Nat) : digitChar n = digitChar (n % 10) := by simp [digitChar]

theorem isDigit_digitChar (n : Nat) : isDigit (digitChar n) = true := by
  rw [digitChar_mod]; exact (digitChar_spec _ (Nat.mod_lt _ (by decide))).1
theorem digitVal_digitChar (n : Nat) : digitVal (digitChar n) = n % 10 := by
  rw [digitChar_mod]; exact (digitChar_spec _ (Nat.mod_lt _ (by decide))).2.1
theorem digitChar_ne_minus (n : Nat) : digitChar n ≠ '-' := by
  rw [digitChar_mod]; exact (digitChar_spec _ (Nat.mod_lt _ (by decide))).2.2

def AllDigits (cs : List Char) : Prop := ∀ c ∈ cs, isDigit c = true

theorem allDigits_append {a b : List Char} (ha : AllDigits a) (hb : AllDigits b) : AllDigits (a ++ b) := by
  intro c hc; rcases List.mem_append.mp hc with h | h
  · exact ha c h
  · exact hb c h

theorem allDigits_single (n : Nat) : AllDigits [digitChar n] := by
  intro c hc; simp at hc; subst hc; exact isDigit_digitChar n

theorem takeDigits_append : ∀ (ds rest : List Char), AllDigits ds →
    takeDigits (ds ++ rest) = (ds ++ (takeDigits rest).1, (takeDigits rest).2)
  | [], _, _ => rfl
  | d :: ds, rest, hd => by
      have h1 : isDigit d = true := hd d (by simp)
      simp [takeDigits, h1, takeDigits_append ds rest (fun x hx => hd x (by simp [hx]))]

theorem takeDigits_sep {ds : List Char} {c : Char} (rest : List Char) (hd : AllDigits ds) (hc : isDigit c = false) :
    takeDigits (ds ++ c :: rest) = (ds, c :: rest) := by
  simp [takeDigits_append ds _ hd, takeDigits, hc]

theorem takeDigits_all {ds : List Char} (hd : AllDigits ds) : takeDigits ds = (ds, []) := by
  simpa [takeDigits] using takeDigits_append ds [] hd

theorem digitsVal_snoc (cs : List Char) (c : Char) : digitsVal (cs ++ [c]) = digitsVal cs * 10 + digitVal c := by
  simp [digitsVal, List.foldl_append]

theorem padDigits_all : ∀ (w n : Nat), AllDigits (padDigits w n)
  | 0, _ => by intro c hc; simp [padDigits] at hc
  | w + 1, n => allDigits_append (padDigits_all w (n / 10)) (allDigits_single n)

theorem padDigits_length : ∀ (w n : Nat), (padDigits w n).length = w
  | 0, _ => rfl
  | w + 1, n => by simp [padDigits, padDigits_length w]

theorem padDigits_val : ∀ (w n : Nat), digitsVal (padDigits w n) = n % 10 ^ w
  | 0, n => by simp [padDigits, digitsVal, Nat.mod_one]
  | w + 1, n => by
      rw [padDigits, digitsVal_snoc, padDigits_val w, digitVal_digitChar, Nat.pow_succ]
      have := Nat.mod_mul_right_div_self n 10 (10 ^ w)
      rw [Nat.mul_comm (10 ^ w) 10, Nat.mod_mul (a := 10) (b := 10 ^ w)]
      omega

theorem natDigits_eq_map (n : Nat) : natDigits n = (Digits.digits 10 n).map digitChar :=
  Digits.map_digits_of_fuel (by decide) digitChar natDigitsF rfl (fun f n => by
    rw [natDigitsF]
    split
    · rfl
    · rw [digitChar_mod n]) n n (Nat.le_refl n)

theorem natDigits_spec (n : Nat) : AllDigits (natDigits n) ∧ digitsVal (natDigits n) = n ∧ 1 ≤ (natDigits n).length := by
  rw [natDigits_eq_map]
  refine ⟨fun c hc => ?_, ?_, ?_⟩
  · obtain ⟨d, _, rfl⟩ := List.mem_map.1 hc; exact isDigit_digitChar d
  · exact Digits.foldl_map_digits (by decide) digitChar digitVal (fun x hx => (digitChar_spec x hx).2.1) n
  · rw [List.length_map]; exact List.length_pos_iff.2 (Digits.digits_ne_nil (by decide) n)

theorem natDigits_head (n : Nat) : ∃ c rest, natDigits n = c :: rest ∧ c ≠ '-' := by
  obtain ⟨h1, _, h3⟩ := natDigits_spec n
  match hn : natDigits n with
  | [] => rw [hn] at h3; simp at h3
  | c :: rest =>
    refine ⟨c, rest, rfl, ?_⟩
    intro hc
    have := h1 c (by rw [hn]; simp)
    rw [hc] at this
    revert this; decide

theorem fracDigits_spec : ∀ (w f : Nat), 1 ≤ w → AllDigits (fracDigits w f) ∧ 1 ≤ (fracDigits w f).length ∧
    (fracDigits w f).length ≤ w ∧ digitsVal (fracDigits w f) * 10 ^ (w - (fracDigits w f).length) = f % 10 ^ w
  | 0, _, h => by omega
  | 1, f, _ => by
      refine ⟨allDigits_single f, by simp [fracDigits], by simp [fracDigits], ?_⟩
      simp [fracDigits, digitsVal, digitVal_digitChar]
  | w + 2, f, _ => by
      rw [fracDigits]
      split
      · rename_i h0
        obtain ⟨h1, h2, h3, h4⟩ := fracDigits_spec (w + 1) (f / 10) (by omega)
        refine ⟨h1, h2, by omega, ?_⟩
        have hk : w + 2 - (fracDigits (w + 1) (f / 10)).length = (w + 1 - (fracDigits (w + 1) (f / 10)).length) + 1 := by omega
        rw [hk, Nat.pow_succ, ← Nat.mul_assoc, h4]
        have hp : 10 ^ (w + 2) = 10 * 10 ^ (w + 1) := by rw [Nat.pow_succ, Nat.mul_comm]
        rw [hp, Nat.mod_mul (a := 10) (b := 10 ^ (w + 1))]
        omega
      · refine ⟨padDigits_all _ _, by simp [padDigits_length], by simp [padDigits_length], ?_⟩
        simp [padDigits_length, padDigits_val]

theorem notDigit_seps : isDigit '-' = false ∧ isDigit ':' = false ∧ isDigit '.' = false := by decide

theorem parseSpanChars_spanChars (n : Nat) : parseSpanChars (spanChars n) = some n := by
  obtain ⟨hd1, hd2, hd3⟩ := natDigits_spec (n / 1000000000 / 86400)
  obtain ⟨hf1, hf2, hf3, hf4⟩ := fracDigits_spec 9 (n % 1000000000) (by decide)
  have hF : digitsVal (fracDigits 9 (n % 1000000000)) * 10 ^ (9 - (fracDigits 9 (n % 1000000000)).length) =
      n % 1000000000 := by
    rw [hf4]; exact Nat.mod_eq_of_lt (Nat.mod_lt _ (by decide))
  have hp := fun k => padDigits_all 2 k
  have hl := fun k => padDigits_length 2 k
  have hv : ∀ k, digitsVal (padDigits 2 k) = k % 100 := fun k => by rw [padDigits_val]
  have m24 : ∀ x, x % 24 % 100 = x % 24 := fun x => Nat.mod_eq_of_lt (by omega)
  have m60 : ∀ x, x % 60 % 100 = x % 60 := fun x => Nat.mod_eq_of_lt (by omega)
  unfold parseSpanChars spanChars
  simp only [takeDigits_sep _ hd1 notDigit_seps.1, takeDigits_sep _ (hp _) notDigit_seps.2.1,
    takeDigits_sep _ (hp _) notDigit_seps.2.2, takeDigits_all hf1, expectChar, if_true, Option.bind_some, hl]
  have e1 : ¬ (natDigits (n / 1000000000 / 86400)).length < 1 := by omega
  have e2a : ¬ (fracDigits 9 (n % 1000000000)).length < 1 := by omega
  have e2b : ¬ (fracDigits 9 (n % 1000000000)).length > 9 := by omega
  simp only [e1, if_false, e2a, e2b, decide_false, Bool.or_false, Bool.false_eq_true, List.isEmpty_nil, Bool.not_true,
    hd2, hv, hF, m24, m60]
  simp
  clear hd1 hd2 hd3 hf1 hf2 hf3 hf4 hF hp hl hv e1 e2a e2b m24 m60
  have hn : n = n / 1000000000 * 1000000000 + n % 1000000000 := by omega
  generalize n / 1000000000 = sec at hn ⊢
  generalize n % 1000000000 = fr at hn ⊢
  have h2 : sec / 60 / 60 = sec / 3600 := Nat.div_div_eq_div_mul sec 60 60
  have h1 : sec / 3600 / 24 = sec / 86400 := Nat.div_div_eq_div_mul sec 3600 24
  rw [← h1, ← h2]
  omega

theorem span_codec (ns : Int) : parseSpan (printSpan ns) = some ns := by
  unfold parseSpan printSpan
  rw [String.toList_ofList]
  by_cases h : ns < 0
  · have hn : -(ns.natAbs : Int) = ns := by rw [Int.ofNat_natAbs_of_nonpos (by omega)]; omega
    simp [h, parseSpanChars_spanChars, hn]
  · have hn : (ns.natAbs : Int) = ns := Int.natAbs_of_nonneg (by omega)
    simp only [h, if_false]
    obtain ⟨c, rest, hc, hne⟩ := natDigits_head (ns.natAbs / 1000000000 / 86400)
    have hs : ∃ c rest, spanChars ns.natAbs = c :: rest ∧ c ≠ '-' := by
      unfold spanChars; rw [hc]; exact ⟨c, _, rfl, hne⟩
    obtain ⟨c', rest', hs1, hs2⟩ := hs
    have := parseSpanChars_spanChars ns.natAbs
    rw [hs1] at this ⊢
    split
    · rename_i heq; cases heq; exact absurd rfl hs2
    · simp [this, hn]

end Pcore.Ser

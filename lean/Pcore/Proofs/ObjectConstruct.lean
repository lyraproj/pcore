import Pcore.Proofs.ObjectDefine
import Pcore.Model.ObjectParams
/-! C17: the constructors; on Proofs/ObjectDefine.  A hash that says by name what a value list says by position (`Spells`) makes
    the named constructor store the trimmed denotation of that list (`stored`), an instance Equal to the positional one
    (`named_of_spells`); the argument hash `toHash` and the init-hash both spell the values of a `Valid` instance; every
    constructed instance is `Valid` (`made_valid`).  Then the same for types that declare type parameters (Model/ObjectParams):
    what a hash binds them to (`bound`, `bindParams_congr`), `newPosX_ok`, `madeX_valid`, `namedX_of_spells`. -/
namespace Pcore.Object

/-- an instance as the constructors produce it -/
structure Valid (o : Obj) : Prop where
  req : requiredCount o.typ ≤ o.values.length
  inst : allInst (posAttrs o.typ) o.values = true

theorem posMatches_iff {t : OType} {vs : List Val} : posMatches (attrInfo t) vs = true ↔ Valid { typ := t, values := vs } := by
  unfold posMatches
  simp only [Bool.and_eq_true, attrInfo_required, attrInfo_attrs]
  exact ⟨fun h => ⟨of_decide_eq_true h.1, h.2⟩, fun h => ⟨decide_eq_true h.req, h.inst⟩⟩

theorem namedMatches_iff {t : OType} {es : List (String × Val)} : namedMatches (attrInfo t) es = true ↔
    (∀ e ∈ es, ∃ a, (posAttrs t).find? (fun a => a.name == e.1) = some a ∧ inst (tyInit a.ty) e.2 = true) ∧
      ∀ a ∈ posAttrs t, a.optional = true ∨ (es.lookup a.name).isSome = true := by
  unfold namedMatches
  simp only [Bool.and_eq_true, List.all_eq_true, attrInfo_attrs, Bool.or_eq_true]
  refine and_congr_left fun _ => forall₂_congr fun e _ => ?_
  cases (posAttrs t).find? (fun a => a.name == e.1) <;> simp

theorem coerceOk_iff {t : OType} {es : List (String × Val)} : coerceOk (attrInfo t) es = true ↔
    ∀ a ∈ posAttrs t, ∀ v, es.lookup a.name = some v → inst a.ty v = true := by
  unfold coerceOk
  simp only [List.all_eq_true, attrInfo_attrs]
  refine forall₂_congr fun a _ => ?_
  cases es.lookup a.name <;> simp

theorem newPos_ok {t : OType} {vs : List Val} {o : Obj} (h : newPos t vs = .ok o) :
    o = { typ := t, values := vs } ∧ Valid { typ := t, values := vs } := by
  unfold newPos at h
  by_cases hm : posMatches (attrInfo t) vs = true
  · rw [if_pos hm] at h
    exact ⟨(Except.ok.inj h).symm, posMatches_iff.mp hm⟩
  · rw [if_neg hm] at h
    cases h

theorem Valid.length_le {t : OType} {vs : List Val} (hv : Valid { typ := t, values := vs }) :
    vs.length ≤ (posAttrs t).length := allInst_length hv.inst

theorem equals_same {t : OType} (vs vs' : List Val) :
    equals { typ := t, values := vs } { typ := t, values := vs' } =
      equalsWith true { typ := t, values := vs } { typ := t, values := vs' } := by
  unfold equals
  rw [tyEq_refl]

/-- the values `PositionalFromHash` fills in: of every positional attribute the value of its key, else the implicit one -/
def filled (t : OType) (es : List (String × Val)) : List Val :=
  (posAttrs t).map (fun a => (es.lookup a.name).getD a.implicitT)

theorem filled_length (t : OType) (es : List (String × Val)) : (filled t es).length = (posAttrs t).length :=
  List.length_map _

/-- … and what it answers when these are the denotation of `vs`: that denotation, trailing defaults trimmed -/
def stored (t : OType) (vs : List Val) : List Val := trim (requiredCount t) (posAttrs t) (den (posAttrs t) vs)

theorem den_stored {t : OType} {vs : List Val} (hw : WF t) (hl : vs.length ≤ (posAttrs t).length) :
    den (posAttrs t) (stored t vs) = den (posAttrs t) vs := by
  unfold stored
  rw [den_trim hw.god, den_full (Nat.le_of_eq (den_length hl).symm)]

theorem stored_length {t : OType} {vs : List Val} (hl : vs.length ≤ (posAttrs t).length) :
    requiredCount t ≤ (stored t vs).length :=
  trim_length_ge _ _ _ (by rw [den_length hl]; exact List.length_filter_le _ _)

theorem equalsWith_stored {t : OType} {vs va : List Val} (hw : WF t) (hl : vs.length ≤ (posAttrs t).length)
    (hreq : requiredCount t ≤ va.length) (hden : den (posAttrs t) va = den (posAttrs t) vs) :
    equalsWith true { typ := t, values := va } { typ := t, values := stored t vs } = .ok true ∧
    equalsWith true { typ := t, values := stored t vs } { typ := t, values := va } = .ok true :=
  have hd := (den_stored hw hl).trans hden.symm
  ⟨equalsWith_of_den_eq hw hreq (stored_length hl) hd.symm, equalsWith_of_den_eq hw (stored_length hl) hreq hd⟩

theorem mvh_stored {t : OType} {vs : List Val} (hw : WF t) (hv : Valid { typ := t, values := vs }) :
    makeValueHash (posAttrs t) (stored t vs) = makeValueHash (posAttrs t) vs := by
  rw [stored, mvh_trim, mvh_den (fun i a hi hle => hw.tailOpt i a hi (Nat.le_trans hv.req hle))]

/-- the hash `es` says by name what the value list `vs` says by position: it passes the named dispatcher and the
    creator's coercion, and what is filled in from it is the denotation of `vs` -/
structure Spells (t : OType) (es : List (String × Val)) (vs : List Val) : Prop where
  named : namedMatches (attrInfo t) es = true
  coerce : coerceOk (attrInfo t) es = true
  values : filled t es = den (posAttrs t) vs

theorem Spells.length_le {t : OType} {es : List (String × Val)} {vs : List Val} (hs : Spells t es vs) :
    vs.length ≤ (posAttrs t).length := by
  have := congrArg List.length hs.values
  rw [filled_length, den, List.length_append] at this
  omega

theorem spells_filled {t : OType} {es : List (String × Val)} (hm : namedMatches (attrInfo t) es = true)
    (hc : coerceOk (attrInfo t) es = true) : Spells t es (filled t es) :=
  ⟨hm, hc, (den_full (Nat.le_of_eq (filled_length t es).symm)).symm⟩

theorem Spells.pfh {t : OType} {es : List (String × Val)} {vs : List Val} (hs : Spells t es vs) :
    positionalFromHash (attrInfo t) es = .ok (stored t vs) := by
  have hfill : fillAll es (posAttrs t) = .ok (filled t es) := fillAll_eq (namedMatches_iff.mp hs.named).2
  unfold positionalFromHash
  simp only [attrInfo_attrs, attrInfo_required, hfill, hs.values]
  rfl

theorem newNamed_of_spells {t : OType} {es : List (String × Val)} {vs : List Val} (hs : Spells t es vs) (h : Val) :
    newNamed t es h = .ok { typ := t, values := stored t vs } := by
  unfold newNamed
  simp only [hs.named, hs.coerce, hs.pfh, if_true]

theorem newNamedX_of_spells {t : OType} {es : List (String × Val)} {vs : List Val} (hs : Spells t es vs) (h : Val) :
    newNamedX t es h = .ok { obj := { typ := t, values := stored t vs }, ext := bindParams t es (stored t vs) } := by
  unfold newNamedX
  simp only [hs.named, hs.coerce, hs.pfh, if_true]

/-- the two ways the named constructor succeeds: the hash is an instance of the init Struct (and is stored trimmed), or it
    falls through to the positional signature as one value -/
theorem newNamed_ok {t : OType} {es : List (String × Val)} {h : Val} {o : Obj} (hn : newNamed t es h = .ok o) :
    (Spells t es (filled t es) ∧ o = { typ := t, values := stored t (filled t es) }) ∨ newPos t [h] = .ok o := by
  by_cases hm : namedMatches (attrInfo t) es = true
  · by_cases hc : coerceOk (attrInfo t) es = true
    · have hs := spells_filled hm hc
      rw [newNamed_of_spells hs h] at hn
      exact Or.inl ⟨hs, (Except.ok.inj hn).symm⟩
    · unfold newNamed at hn
      simp [hm, hc] at hn
  · unfold newNamed at hn
    rw [if_neg hm] at hn
    exact Or.inr hn

theorem newNamedX_ok {t : OType} {es : List (String × Val)} {h : Val} {o : PObj} (hn : newNamedX t es h = .ok o) :
    (Spells t es (filled t es) ∧
      o = { obj := { typ := t, values := stored t (filled t es) }, ext := bindParams t es (stored t (filled t es)) }) ∨
    newPosX t [h] = .ok o := by
  by_cases hm : namedMatches (attrInfo t) es = true
  · by_cases hc : coerceOk (attrInfo t) es = true
    · have hs := spells_filled hm hc
      rw [newNamedX_of_spells hs h] at hn
      exact Or.inl ⟨hs, (Except.ok.inj hn).symm⟩
    · unfold newNamedX at hn
      simp [hm, hc] at hn
  · unfold newNamedX at hn
    rw [if_neg hm] at hn
    exact Or.inr hn

/-- what `PositionalFromHash` fills in is well-typed: the given values by `coerceOk`, the implicit ones by `AttrTyped` -/
theorem allInst_filled {attrs : List Attr} {es : List (String × Val)} (ht : ∀ a ∈ attrs, AttrTyped a)
    (hc : ∀ a ∈ attrs, ∀ v, es.lookup a.name = some v → inst a.ty v = true)
    (hreq : ∀ a ∈ attrs, a.optional = true ∨ (es.lookup a.name).isSome = true) :
    allInst attrs (attrs.map (fun a => (es.lookup a.name).getD a.implicitT)) = true := by
  refine allInst_iff.mpr ⟨Nat.le_of_eq (List.length_map _), fun i a v ha hv => ?_⟩
  have hm := List.mem_of_getElem? ha
  rw [List.getElem?_map, ha] at hv
  obtain rfl := Option.some.inj hv
  show inst a.ty ((es.lookup a.name).getD a.implicitT) = true
  cases hl : es.lookup a.name with
  | some v => exact hc a hm v hl
  | none =>
    refine inst_implicitT (ht a hm) ((hreq a hm).resolve_right ?_)
    rw [hl]
    exact Bool.false_ne_true

/-- what is stored for a hash that spells `vs` is `Valid`: the given values by `coerceOk`, the implicit ones by the
    well-typed defaults of an accepted definition -/
theorem valid_stored {t : OType} {es : List (String × Val)} {vs : List Val} (ht : TypeTyped t) (hs : Spells t es vs) :
    Valid { typ := t, values := stored t vs } := by
  have hfull : allInst (posAttrs t) (den (posAttrs t) vs) = true := by
    rw [← hs.values]
    exact allInst_filled (fun a ha => ht a (posAttrs_mem_each ha)) (coerceOk_iff.mp hs.coerce)
      (namedMatches_iff.mp hs.named).2
  obtain ⟨r, hr⟩ := trim_prefix (requiredCount t) (posAttrs t) (den (posAttrs t) vs)
  rw [hr] at hfull
  exact ⟨stored_length hs.length_le, allInst_prefix hfull⟩

/-- the values of a `Valid` instance, written by name, spell them — provided the values left out are implicit anyway -/
theorem spells_hashOf {keep : Attr → Val → Bool} {t : OType} {vs : List Val} (hw : WF t)
    (hv : Valid { typ := t, values := vs }) (hkeep : ∀ a v, keep a v = false → skips a v = true) :
    Spells t (hashOf keep (posAttrs t) vs) vs := by
  refine ⟨?_, ?_, filled_hashOf hw.nodup
    (fun a ha v hk => implicitT_of_skips (hw.god a ha) (hkeep a v hk)) hv.length_le⟩
  · refine namedMatches_iff.mpr ⟨?_, ?_⟩
    · intro e he
      obtain ⟨i, a, h1, h2, h3⟩ := mem_hashOf he
      exact ⟨a, h3 ▸ (find_key_iff hw.nodup).mpr ⟨List.mem_of_getElem? h1, rfl⟩, inst_tyInit _ _ (allInst_get hv.inst h1 h2)⟩
    · intro a ha
      obtain ⟨i, hi⟩ := List.getElem?_of_mem ha
      by_cases hopt : a.optional = true
      · exact Or.inl hopt
      · -- a required attribute stands before the required count: its value is given, and kept
        have hlt : i < vs.length := by
          have := hv.req
          exact Nat.lt_of_not_le (fun hge => hopt (hw.tailOpt i a hi (Nat.le_trans this hge)))
        have hk : keep a vs[i] = true := by
          cases hk : keep a vs[i] with
          | true => rfl
          | false => exact absurd (optional_of_skips (hkeep a _ hk)) hopt
        right
        rw [lookup_hashOf hw.nodup hi, List.getElem?_eq_getElem hlt, Option.bind_some, if_pos hk]
        rfl
  · refine coerceOk_iff.mpr fun a ha v hl => ?_
    obtain ⟨i, hi⟩ := List.getElem?_of_mem ha
    rw [lookup_hashOf hw.nodup hi] at hl
    cases hval : vs[i]? with
    | none => rw [hval] at hl; cases hl
    | some w =>
      rw [hval, Option.bind_some] at hl
      split at hl
      · cases hl; exact allInst_get hv.inst hi hval
      · cases hl

theorem spells_toHash {t : OType} {vs : List Val} (hw : WF t) (hv : Valid { typ := t, values := vs }) :
    Spells t (toHash (posAttrs t) vs) vs :=
  toHash_eq _ _ ▸ spells_hashOf hw hv (fun _ _ h => nomatch h)

theorem spells_initHash {t : OType} {vs : List Val} (hw : WF t) (hv : Valid { typ := t, values := vs }) :
    Spells t (makeValueHash (posAttrs t) vs) vs :=
  mvh_eq _ _ ▸ spells_hashOf hw hv (fun a v h => by simpa using h)

/-- the named twin of a positional instance / the instance rebuilt from an init-hash: made from a hash that spells the
    values, it has the same type, is Equal both ways and denotes the same values -/
theorem named_of_spells {t : OType} {es : List (String × Val)} {vs : List Val} (h : Val) (hw : WF t)
    (hv : Valid { typ := t, values := vs }) (hs : Spells t es vs) :
    ∃ o', newNamed t es h = .ok o' ∧ o'.typ = t ∧
      equals { typ := t, values := vs } o' = .ok true ∧ equals o' { typ := t, values := vs } = .ok true ∧
      den (posAttrs t) o'.values = den (posAttrs t) vs :=
  have he := equalsWith_stored hw hv.length_le hv.req rfl
  ⟨_, newNamed_of_spells hs h, rfl, equals_same _ _ ▸ he.1, equals_same _ _ ▸ he.2, den_stored hw hv.length_le⟩

theorem made_valid {t : OType} {o : Obj} (ht : TypeTyped t)
    (ho : (∃ vs, newPos t vs = .ok o) ∨ (∃ es hv, newNamed t es hv = .ok o)) : o.typ = t ∧ Valid o := by
  have hpos : ∀ {vs}, newPos t vs = .ok o → o.typ = t ∧ Valid o := fun hx =>
    ⟨by rw [(newPos_ok hx).1], (newPos_ok hx).1 ▸ (newPos_ok hx).2⟩
  rcases ho with ⟨vs, hx⟩ | ⟨es, hv, hx⟩
  · exact hpos hx
  · rcases newNamed_ok hx with ⟨hs, rfl⟩ | hp
    · exact ⟨rfl, valid_stored ht hs⟩
    · exact hpos hp

/-! ### types that declare type parameters: an instance also carries what its hash binds them to (`bindParams`, which reads the
    hash only through `bound`); the constructor lemmas again, with that component -/

theorem bindParams_plain {t : OType} (hp : isParameterized t = false) (es : List (String × Val)) (va : List Val) :
    bindParams t es va = [] := by
  have htp : typeParams t = [] := by simpa [isParameterized] using hp
  unfold bindParams
  rw [htp]
  simp

/-- what a hash binds a type parameter to: an undef binds nothing (fix de95e71) -/
def bound (es : List (String × Val)) (n : String) : Option Val := (es.lookup n).filter (· != .undef)

theorem bindParams_congr {t : OType} {es es' : List (String × Val)} {va va' : List Val}
    (hl : ∀ q ∈ typeParams t, bound es q.1 = bound es' q.1) (hv : va.isEmpty = va'.isEmpty) :
    bindParams t es va = bindParams t es' va' := by
  have hb : ∀ (es : List (String × Val)) (q : String × Ty),
      (match es.lookup q.1 with
        | some v => if v != .undef && inst (.opt q.2) v then some (q.1, v) else none
        | none => none) =
      (bound es q.1).bind (fun v => if inst (.opt q.2) v then some (q.1, v) else none) := by
    intro es q
    unfold bound
    cases es.lookup q.1 with
    | none => rfl
    | some v => cases hu : v != .undef <;> simp [Option.filter, hu]
  unfold bindParams
  rw [hv]
  split
  · rfl
  · exact List.filterMap_congr (fun q hq => (hb es q).trans (hl q hq ▸ (hb es' q).symm))

theorem bindParams_nil (t : OType) (va : List Val) : bindParams t [] va = [] := by
  unfold bindParams
  split
  · rfl
  · rw [List.filterMap_eq_nil_iff]
    intro q _
    simp

/-- what the positional constructor of ANY type builds: the values as given, bound to nothing, or — for a non-empty list
    on a parameterized type — what the named constructor makes of the hash `makeValueHash` makes of them -/
theorem newPosX_ok {t : OType} {vs : List Val} {o : PObj} (hw : WF t) (hn : newPosX t vs = .ok o) :
    Valid { typ := t, values := vs } ∧
    ((o = { obj := { typ := t, values := vs }, ext := [] } ∧ (vs = [] ∨ isParameterized t = false)) ∨
     o = { obj := { typ := t, values := stored t vs },
           ext := bindParams t (makeValueHash (posAttrs t) vs) (stored t vs) }) := by
  unfold newPosX at hn
  by_cases hm : posMatches (attrInfo t) vs = true
  · rw [if_pos hm] at hn
    have hv : Valid { typ := t, values := vs } := posMatches_iff.mp hm
    refine ⟨hv, ?_⟩
    by_cases hp : (!vs.isEmpty && isParameterized t) = true
    · rw [if_pos hp] at hn
      simp only [attrInfo_attrs, (spells_initHash hw hv).pfh] at hn
      exact Or.inr (Except.ok.inj hn).symm
    · rw [if_neg hp] at hn
      refine Or.inl ⟨(Except.ok.inj hn).symm, ?_⟩
      cases vs with
      | nil => exact Or.inl rfl
      | cons v vs' => exact Or.inr (by simpa using hp)
  · rw [if_neg hm] at hn
    cases hn

theorem newPosX_den {t : OType} {vs : List Val} {o : PObj} (hw : WF t) (hn : newPosX t vs = .ok o) :
    ∃ va ext, o = { obj := { typ := t, values := va }, ext := ext } ∧ requiredCount t ≤ va.length ∧
      den (posAttrs t) va = den (posAttrs t) vs := by
  obtain ⟨hv, ⟨rfl, -⟩ | rfl⟩ := newPosX_ok hw hn
  · exact ⟨_, _, rfl, hv.req, rfl⟩
  · exact ⟨_, _, rfl, stored_length hv.length_le, den_stored hw hv.length_le⟩

theorem madeX_valid {t : OType} {o : PObj} (hw : WF t) (ht : TypeTyped t)
    (ho : (∃ vs, newPosX t vs = .ok o) ∨ (∃ es hv, newNamedX t es hv = .ok o)) : o.obj.typ = t ∧ Valid o.obj := by
  have hpos : ∀ {vs}, newPosX t vs = .ok o → o.obj.typ = t ∧ Valid o.obj := by
    intro vs hn
    obtain ⟨hv, ⟨rfl, -⟩ | rfl⟩ := newPosX_ok hw hn
    · exact ⟨rfl, hv⟩
    · exact ⟨rfl, valid_stored ht (spells_initHash hw hv)⟩
  rcases ho with ⟨vs, hx⟩ | ⟨es, hv, hx⟩
  · exact hpos hx
  · rcases newNamedX_ok hx with ⟨hs, rfl⟩ | hp
    · exact ⟨rfl, valid_stored ht hs⟩
    · exact hpos hp

theorem equalsX_same {t : OType} (vs vs' : List Val) (ext : List (String × Val)) :
    equalsX { obj := { typ := t, values := vs }, ext := ext } { obj := { typ := t, values := vs' }, ext := ext } =
      equalsWith true { typ := t, values := vs } { typ := t, values := vs' } := by
  unfold equalsX sameTypeX
  simp only [tyEq_refl, beq_self_eq_true, Bool.and_self]

/-- `named_of_spells` with type parameters: an instance `va` of `t` with bindings `ext` whose values a hash spells (as `vs`) has
    a named twin made from that hash — provided the hash binds the same parameters — that denotes the same values and is
    Equal both ways -/
theorem namedX_of_spells {t : OType} {es : List (String × Val)} {vs va : List Val} {ext : List (String × Val)} (h : Val)
    (hw : WF t) (hs : Spells t es vs) (hreq : requiredCount t ≤ va.length)
    (hden : den (posAttrs t) va = den (posAttrs t) vs) (hext : bindParams t es (stored t vs) = ext) :
    ∃ o', newNamedX t es h = .ok o' ∧
      equalsX { obj := { typ := t, values := va }, ext := ext } o' = .ok true ∧
      equalsX o' { obj := { typ := t, values := va }, ext := ext } = .ok true ∧
      den (posAttrs t) o'.obj.values = den (posAttrs t) va ∧ o'.ext = ext := by
  have he := equalsWith_stored hw hs.length_le hreq hden
  refine ⟨_, newNamedX_of_spells hs h, ?_, ?_, (den_stored hw hs.length_le).trans hden.symm, hext⟩ <;> rw [hext, equalsX_same]
  · exact he.1
  · exact he.2

end Pcore.Object

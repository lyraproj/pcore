import Pcore.Proofs.FormatRadix
/-! Reading a radix rendering back with pcore's own Integer constructor `new(Integer, text, radix)`:
    `newInteger` (signature pattern + integerFromString) inverts every rendering of the shape
    sign ++ blanks ++ prefix ++ zeros ++ digits, for decimal/octal/binary digits and for prefixed hexadecimal
    (`newInteger_shape`), hence every `field` without a width (`newInteger_field`).  The shape is put in FormatRadix's terms
    (`SignOK`, `signStr_shape`, the printed digit list of `zeros_append_natStr`); only the readers differ. -/
namespace Pcore.Format

theorem parseDigit_digitChar (u : Bool) : ∀ d, d < 16 → parseDigit (digitChar u d) = some d := by
  cases u <;> decide

theorem digitChar_plain (u : Bool) : ∀ d, d < 16 →
    digitChar u d ≠ '-' ∧ digitChar u d ≠ '+' ∧ isReSpace (digitChar u d) = false := by cases u <;> decide

theorem digitChar_classes (u : Bool) : ∀ d, d < 16 → isHexDigit (digitChar u d) = true ∧
    (d < 10 → isDigit (digitChar u d) = true) ∧ (d < 2 → isBinDigit (digitChar u d) = true) := by
  cases u <;> decide

theorem parseDigits_map {b : Nat} (u : Bool) (hb16 : b ≤ 16) (ds : List Nat) (h : ∀ d ∈ ds, d < b) :
    parseDigits b (ds.map (digitChar u)) 0 = some (ofDigits b ds) :=
  Digits.read_map (digitChar u) (parseDigits b) (fun _ => rfl)
    (fun x hx cs acc => by simp only [parseDigits, parseDigit_digitChar u x (by omega), if_pos hx]) ds h 0

theorem dropSign_signOK {neg : Bool} {sign rest : Str} (hs : SignOK neg sign)
    (hr : ∀ c, rest.head? = some c → c ≠ '-' ∧ c ≠ '+') :
    dropSign (sign ++ rest) = rest ∧ signOf (sign ++ rest) = sign ∧ ((sign ++ rest).head? = some '-' ↔ neg = true) := by
  rcases hs with ⟨rfl, rfl⟩ | ⟨rfl, rfl | rfl⟩
  · exact ⟨rfl, rfl, by simp⟩
  · cases rest with
    | nil => exact ⟨rfl, rfl, by simp⟩
    | cons c cs =>
      obtain ⟨h1, h2⟩ := hr c rfl
      refine ⟨?_, ?_, by simp [h1]⟩
      · unfold dropSign
        split
        · rename_i h; exact absurd (List.cons.inj h).1 h2
        · rename_i h; exact absurd (List.cons.inj h).1 h1
        · rfl
      · unfold signOf
        split
        · rename_i h; exact absurd (List.cons.inj h).1 h2
        · rename_i h; exact absurd (List.cons.inj h).1 h1
        · rfl
  · exact ⟨rfl, rfl, by simp⟩

theorem goParseInt_signOK (b n : Nat) (sign D : Str) (neg : Bool) (hs : SignOK neg sign)
    (hr : ∀ c, D.head? = some c → c ≠ '-' ∧ c ≠ '+') (hne : D.isEmpty = false) (hD : parseDigits b D 0 = some n)
    (hrange : if neg then n ≤ 2^63 else n < 2^63) :
    goParseInt (sign ++ D) b = some (if neg then -(n : Int) else (n : Int)) := by
  obtain ⟨h1, _, h3⟩ := dropSign_signOK hs hr
  unfold goParseInt
  simp only [h1, hne, hD, h3]
  cases neg <;> simp_all

/-- the prefix a rendering may carry, for the radix `b` the constructor is given -/
def CtorPfxOK (b : Nat) (pfx : Str) : Prop :=
  (pfx = [] ∧ b ≤ 10) ∨ (∃ c, pfx = ['0', c] ∧ ((b = 16 ∧ (c = 'x' ∨ c = 'X')) ∨ (b = 2 ∧ (c = 'b' ∨ c = 'B'))))

theorem matchIntegerBody_digits {D : Str} (hne : D ≠ []) (hall : D.all isDigit = true) : matchIntegerBody D = true := by
  unfold matchIntegerBody
  split
  · exact absurd rfl hne
  · rename_i c r
    simp only [List.all_cons, Bool.and_eq_true] at hall
    have hc : ¬ (c = 'x' ∨ c = 'X') ∧ ¬ (c = 'b' ∨ c = 'B') := by
      constructor <;> (rintro (rfl | rfl) <;> exact absurd hall.2.1 (by decide))
    simp only [Bool.or_eq_true, decide_eq_true_eq, if_neg hc.1, if_neg hc.2, hall.2.1, hall.2.2, Bool.and_self]
  · exact hall

theorem dropRadixPrefix_digits (b : Nat) {D : Str} (hall : D.all isDigit = true) : dropRadixPrefix b D = D := by
  unfold dropRadixPrefix
  split
  · rename_i c r
    simp only [List.all_cons, Bool.and_eq_true] at hall
    refine if_neg fun h => ?_
    simp only [Bool.and_eq_true, Bool.or_eq_true, decide_eq_true_eq] at h
    rcases h.2 with ⟨_, rfl | rfl⟩ | ⟨_, rfl | rfl⟩ <;> exact absurd hall.2.1 (by decide)
  · rfl

theorem ctorPfxOK_body {b : Nat} {u : Bool} {pfx D : Str} (hpfx : CtorPfxOK b pfx)
    (hD : ∀ c ∈ D, ∃ d, d < b ∧ c = digitChar u d) (hne : D ≠ []) :
    matchIntegerBody (pfx ++ D) = true ∧ dropRadixPrefix b (pfx ++ D) = D := by
  have he : D.isEmpty = false := List.isEmpty_eq_false_iff.mpr hne
  rcases hpfx with ⟨rfl, hb10⟩ | ⟨c, rfl, ⟨rfl, hc⟩ | ⟨rfl, hc⟩⟩
  · have hall : D.all isDigit = true := List.all_eq_true.mpr fun c hc => by
      obtain ⟨d, hd, rfl⟩ := hD c hc; exact (digitChar_classes u d (by omega)).2.1 (by omega)
    exact ⟨matchIntegerBody_digits hne hall, dropRadixPrefix_digits b hall⟩
  · have hall : D.all isHexDigit = true := List.all_eq_true.mpr fun c hc => by
      obtain ⟨d, hd, rfl⟩ := hD c hc; exact (digitChar_classes u d hd).1
    rcases hc with rfl | rfl <;> exact ⟨by simp [matchIntegerBody, he, hall], by simp [dropRadixPrefix, he]⟩
  · have hall : D.all isBinDigit = true := List.all_eq_true.mpr fun c hc => by
      obtain ⟨d, hd, rfl⟩ := hD c hc; exact (digitChar_classes u d (by omega)).2.2 hd
    rcases hc with rfl | rfl <;> exact ⟨by simp [matchIntegerBody, he, hall], by simp [dropRadixPrefix, he]⟩

theorem newInteger_shape (b : Nat) (u : Bool) (a k n : Nat) (sign pfx : Str) (neg : Bool)
    (hb2 : 2 ≤ b) (hb16 : b ≤ 16) (hs : SignOK neg sign) (hpfx : CtorPfxOK b pfx)
    (hr : if neg then n ≤ 2^63 else n < 2^63) :
    newInteger (sign ++ spaces a ++ pfx ++ zeros k ++ natStr b u n) b = .int (if neg then -(n : Int) else (n : Int)) := by
  have hch := mem_zeros_natStr hb2 u k n
  have hne : zeros k ++ natStr b u n ≠ [] := List.append_ne_nil_of_right_ne_nil _ (natStr_ne_nil b u n)
  have hparse : parseDigits b (zeros k ++ natStr b u n) 0 = some n := by
    rw [zeros_append_natStr, parseDigits_map u hb16 _ (fill_lt hb2 k n), ofDigits_fill hb2]
  rw [show sign ++ spaces a ++ pfx ++ zeros k ++ natStr b u n = sign ++ (spaces a ++ (pfx ++ (zeros k ++ natStr b u n))) by
    simp only [List.append_assoc]]
  generalize zeros k ++ natStr b u n = D at hch hne hparse
  have he : D.isEmpty = false := List.isEmpty_eq_false_iff.mpr hne
  have hDhead : ∀ c, D.head? = some c → c ≠ '-' ∧ c ≠ '+' ∧ isReSpace c = false := fun c hc => by
    obtain ⟨d, hd, rfl⟩ := hch c (List.mem_of_mem_head? hc); exact digitChar_plain u d (by omega)
  -- prefix ++ digits begins with `0` or a digit
  have hphead : ∀ c, (pfx ++ D).head? = some c → c ≠ '-' ∧ c ≠ '+' ∧ isReSpace c = false := by
    rcases hpfx with ⟨rfl, _⟩ | ⟨c, rfl, _⟩
    · exact hDhead
    · intro c hc; cases hc; decide
  have hshead : ∀ c, (spaces a ++ (pfx ++ D)).head? = some c → c ≠ '-' ∧ c ≠ '+' := by
    cases a with
    | zero => exact fun c hc => ⟨(hphead c hc).1, (hphead c hc).2.1⟩
    | succ m => intro c hc; cases hc; decide
  obtain ⟨h1, h2, _⟩ := dropSign_signOK hs hshead
  have hsp : (spaces a ++ (pfx ++ D)).dropWhile isReSpace = pfx ++ D := by
    rw [List.dropWhile_append_of_pos (by intro c hc; rw [(List.mem_replicate.mp hc).2]; rfl)]
    cases hp : pfx ++ D with
    | nil => rfl
    | cons c cs => exact List.dropWhile_cons_of_neg (by rw [(hphead c (by rw [hp]; rfl)).2.2]; exact Bool.noConfusion)
  obtain ⟨h3, h4⟩ := ctorPfxOK_body hpfx hch hne
  unfold newInteger matchIntegerPattern integerFromString
  rw [h1, h2, hsp, h3, h4, goParseInt_signOK b n sign D neg hs (fun c hc => ⟨(hDhead c hc).1, (hDhead c hc).2.1⟩) he hparse hr]
  rfl

theorem int_range (i : Int) (h1 : -(2^63 : Int) ≤ i) (h2 : i < 2^63) :
    if decide (i < 0) = true then i.natAbs ≤ 2^63 else i.natAbs < 2^63 := by
  by_cases h : i < 0
  · simp [h]; omega
  · simp [h]; omega

theorem newInteger_field (b : Nat) (u minus neg plus space : Bool) (pfx : Str) (k n : Nat)
    (hb2 : 2 ≤ b) (hb16 : b ≤ 16) (hpfx : CtorPfxOK b pfx) (hr : if neg then n ≤ 2^63 else n < 2^63) :
    newInteger (field minus none (signStr neg plus space) pfx k (natStr b u n)) b =
      .int (if neg then -(n : Int) else (n : Int)) := by
  obtain ⟨j, sign, hsg, hcomm, hsok⟩ := signStr_shape neg plus space
  rw [field_none, hsg, hcomm, newInteger_shape b u j k n sign pfx neg hb2 hb16 hsok hpfx hr]

end Pcore.Format

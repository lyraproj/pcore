import Pcore.Model.Dispatch
/-!
What the acceptance of a block by a typed declared block type MEANS (`Alpha.binst`, the model of `CallableType.IsAssignable` /
`TupleType.IsAssignable` as `CallableWith` uses them): the block takes every call the declaration allows.  Core Lean only.
-/
namespace Pcore.Dispatch.Alpha

/-- position `j` of a type list that repeats its last type -/
def typeAt (ts : List BP) (j : Nat) : BP := ts.getD (Nat.min j (ts.length - 1)) .any

/-- the block takes a call with `n` arguments whose types are `argTy 0 … argTy (n-1)`: `n` is within its arity and each of its
    parameters accepts the argument it receives (a block without typed parameters takes anything) -/
def TakesCall (k : Blk) (n : Nat) (argTy : Nat → BP) : Prop :=
  k.min ≤ n ∧ leMax n k.max = true ∧ (k.types ≠ [] → ∀ j, j < n → BP.asg (typeAt k.types j) (argTy j) = true)

theorem typeAt_beyond (ts : List BP) (j : Nat) (h : ts.length - 1 ≤ j) : typeAt ts j = typeAt ts (ts.length - 1) := by
  unfold typeAt
  have h1 : Nat.min j (ts.length - 1) = ts.length - 1 := Nat.min_eq_right h
  have h2 : Nat.min (ts.length - 1) (ts.length - 1) = ts.length - 1 := Nat.min_self _
  rw [h1, h2]

theorem paramsOK_iff (bts dts : List BP) (hb : bts ≠ []) (hd : dts ≠ []) (dmax : Option Nat) :
    paramsOK bts dts dmax = true ↔
      ∀ idx, idx < Nat.max dts.length bts.length → (∀ m, dmax = some m → idx < m) →
        BP.asg (typeAt bts idx) (typeAt dts idx) = true := by
  have hb' : bts.isEmpty = false := by cases bts <;> simp at hb ⊢
  have hd' : dts.isEmpty = false := by cases dts <;> simp at hd ⊢
  unfold paramsOK
  simp only [hb', hd', Bool.false_or, List.all_eq_true, List.mem_range, Bool.or_eq_true]
  constructor
  · intro h idx hidx hm
    rcases h idx hidx with h1 | h1
    · cases dmax with
      | none => simp at h1
      | some m => simp at h1; have := hm m rfl; omega
    · exact h1
  · intro h idx hidx
    cases dmax with
    | none => right; exact h idx hidx (by simp)
    | some m =>
      by_cases hm : m ≤ idx
      · left; simp [hm]
      · right; exact h idx hidx (by intro m' hm'; cases hm'; omega)

theorem sizesOK_iff (a : Nat) (b : Option Nat) (hab : leMax a b = true) (k : Blk) :
    sizesOK a b k = true ↔ ∀ n, a ≤ n → leMax n b = true → k.min ≤ n ∧ leMax n k.max = true := by
  unfold sizesOK
  simp only [Bool.and_eq_true, decide_eq_true_eq]
  constructor
  · rintro ⟨hmin, hs⟩ n han hnb
    refine ⟨by omega, ?_⟩
    cases hk : k.max with
    | none => rfl
    | some m =>
      cases b with
      | none => simp [hk] at hs
      | some b' =>
        simp [hk] at hs
        simp [leMax] at hnb ⊢
        omega
  · intro h
    refine ⟨(h a (Nat.le_refl a) hab).1, ?_⟩
    cases hk : k.max with
    | none => rfl
    | some m =>
      cases b with
      | none =>
        -- an unbounded declaration allows m + a + 1 arguments, which a block bounded by m does not take
        have := (h (m + a + 1) (by omega) rfl).2
        simp [hk, leMax] at this
        omega
      | some b' =>
        have hab' : a ≤ b' := by simpa [leMax] using hab
        have := (h b' hab' (by simp [leMax])).2
        simpa [hk, leMax] using this

/-- the position loop means EVERY position below the declared maximum: beyond both lists each repeats its last type, and that
    pair was compared at the last position of the longer list -/
theorem paramsOK_all (bts dts : List BP) (hb : bts ≠ []) (hd : dts ≠ []) (dmax : Option Nat) :
    paramsOK bts dts dmax = true ↔
      ∀ idx, (∀ m, dmax = some m → idx < m) → BP.asg (typeAt bts idx) (typeAt dts idx) = true := by
  rw [paramsOK_iff bts dts hb hd]
  refine ⟨fun hall j hj => ?_, fun h idx _ hm => h idx hm⟩
  by_cases hjt : j < Nat.max dts.length bts.length
  · exact hall j hjt hj
  · have hlb : 0 < bts.length := List.length_pos_iff.mpr hb
    have h1 : dts.length ≤ Nat.max dts.length bts.length := Nat.le_max_left _ _
    have h2 : bts.length ≤ Nat.max dts.length bts.length := Nat.le_max_right _ _
    have hge : Nat.max dts.length bts.length ≤ j := Nat.le_of_not_lt hjt
    have hprev := hall (Nat.max dts.length bts.length - 1) (by omega) (fun m hm => by have := hj m hm; omega)
    rw [typeAt_beyond bts j (by omega), typeAt_beyond dts j (by omega)]
    rw [typeAt_beyond bts (Nat.max dts.length bts.length - 1) (by omega),
      typeAt_beyond dts (Nat.max dts.length bts.length - 1) (by omega)] at hprev
    exact hprev

theorem binst_typed_iff (ts : List BP) (hts : ts ≠ []) (a : Nat) (b : Option Nat) (hab : leMax a b = true) (k : Blk) :
    binst (.typed ts a b) k = true ↔ ∀ n, a ≤ n → leMax n b = true → TakesCall k n (typeAt ts) := by
  simp only [binst, Bool.and_eq_true]
  constructor
  · rintro ⟨hs, hp⟩ n han hnb
    obtain ⟨hmin, hmax⟩ := (sizesOK_iff a b hab k).mp hs n han hnb
    refine ⟨hmin, hmax, fun hkt j hj => (paramsOK_all k.types ts hkt hts b).mp hp j fun m hm => ?_⟩
    subst hm; simp [leMax] at hnb; omega
  · intro h
    refine ⟨(sizesOK_iff a b hab k).mpr fun n han hnb => ⟨(h n han hnb).1, (h n han hnb).2.1⟩, ?_⟩
    by_cases hkt : k.types = []
    · simp [paramsOK, hkt]
    · rw [paramsOK_all k.types ts hkt hts b]
      intro idx hm
      -- the call with max(a, idx + 1) arguments is allowed and reaches position idx
      have hallowed : leMax (Nat.max a (idx + 1)) b = true := by
        cases b with
        | none => rfl
        | some b' =>
          have hab' : a ≤ b' := by simpa [leMax] using hab
          have := hm b' rfl
          simp only [leMax, decide_eq_true_eq]
          exact Nat.max_le.mpr ⟨hab', by omega⟩
      exact (h (Nat.max a (idx + 1)) (Nat.le_max_left _ _) hallowed).2.2 hkt idx
        (Nat.lt_of_lt_of_le (Nat.lt_succ_self idx) (Nat.le_max_right _ _))
end Pcore.Dispatch.Alpha

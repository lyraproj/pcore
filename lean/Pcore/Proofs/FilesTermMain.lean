import Pcore.Proofs.FilesTerm
/-!
C15, termination of the model, the induction (see `FilesTerm.lean` for the calculus and the potential): one induction on
the fuel over all 13 functions (`AllT`).  Between two instantiations the recursion depth is bounded by the routing
(`cfg.mods.length + 7`), the nested parent search (`3 * length`, as in `find_miss`) and the member loop
(`maxMembers cfg.tree`): together `stepC cfg N` per level (`key_arith`).  At potential `W`, `loadEntry` needs
`LEn cfg N W = (W + 1) * stepC cfg N` and `instantiate` needs `INn cfg N W = W * stepC cfg N + maxMembers cfg.tree + 4`
(`stepC`, `LEn`, `maxMembers`, `fuelBound`, `seqBound`: `Pcore/Model/FilesFuel.lean`).  Name lengths grow by one per
instantiation, so `length + potential ≤ N` is invariant.
-/
namespace Pcore.Files

theorem members_le_of_mem {t : Tree} {p : Path} {k : Kind} {nm : Name} {ts : List String}
    (hmem : (p, Body.typ k nm ts) ∈ t) : ts.length ≤ maxMembers t := by
  induction t with
  | nil => cases hmem
  | cons x r ih =>
    rcases List.mem_cons.mp hmem with rfl | h
    · simp only [maxMembers]
      omega
    · have := ih h
      obtain ⟨p, b⟩ := x
      cases b <;> simp only [maxMembers] <;> omega

theorem mem_instPairs_of_idx {cfg : Cfg} {l : Lid} {k : Key} (hl : l ∈ loaders cfg) (h : idx cfg l k ≠ []) :
    (l, k) ∈ instPairs cfg := by
  unfold instPairs
  rw [List.mem_flatMap]
  refine ⟨l, hl, ?_⟩
  rw [List.mem_map]
  refine ⟨k, ?_, rfl⟩
  rw [List.mem_append]
  left
  unfold idxKeys
  rw [List.mem_eraseDups, List.mem_flatMap]
  obtain ⟨p, hp⟩ := List.exists_mem_of_ne_nil _ h
  obtain ⟨⟨b, hb⟩, hk⟩ := mem_idx_iff.mp hp
  exact ⟨(p, b), hb, hk⟩

theorem mem_instPairs_mod {cfg : Cfg} {l : Lid} (hl : l ∈ loaders cfg) : (l, [l.moduleName]) ∈ instPairs cfg := by
  unfold instPairs
  rw [List.mem_flatMap]
  refine ⟨l, hl, ?_⟩
  rw [List.mem_map]
  exact ⟨[l.moduleName], by simp, rfl⟩

theorem g_mem_loaders (cfg : Cfg) : Lid.g ∈ loaders cfg := by simp [loaders]
theorem via_mem_loaders (cfg : Cfg) : cfg.via ∈ loaders cfg := by simp [loaders]
theorem m_mem_loaders {cfg : Cfg} {m : String} (h : m ∈ cfg.mods) : Lid.m m ∈ loaders cfg := by
  simp only [loaders, List.mem_cons, List.mem_map]
  exact Or.inr (Or.inr ⟨m, h, rfl⟩)

section
variable (cfg : Cfg) (N : Nat)

/-- fuel `instantiate` needs at potential `W` -/
def INn (W : Nat) : Nat := W * stepC cfg N + maxMembers cfg.tree + 4
/-- the unit of fuel `fbLoadEntry` of a loader other than a module's can do without: a module's loader calls the global
    loader, its parent, with one unit less than it has -/
def fbSlack : Lid → Nat
  | .m _ => 0
  | _ => 1

theorem fbSlack_le (l : Lid) : fbSlack l ≤ 1 := by cases l <;> simp [fbSlack]

theorem LEn_succ (W : Nat) : LEn cfg N (W + 1) = LEn cfg N W + stepC cfg N := by
  unfold LEn; rw [Nat.succ_mul]

theorem LEn_pos (W : Nat) : stepC cfg N ≤ LEn cfg N W := by
  unfold LEn
  exact Nat.le_mul_of_pos_left _ (Nat.succ_pos W)

/-- the level constant pays for the routing, the parent search and the member loop -/
theorem key_arith (W L : Nat) (hL : L ≤ N) :
    INn cfg N W + 3 * L + 2 + cfg.mods.length + 7 ≤ LEn cfg N W := by
  have h : LEn cfg N W = W * stepC cfg N + stepC cfg N := by unfold LEn; rw [Nat.succ_mul]
  rw [h]
  unfold INn stepC
  omega

structure AllT (n : Nat) : Prop where
  loadEntry : ∀ l name W s, l ∈ loaders cfg → pot cfg s ≤ W → name.length + W ≤ N → LEn cfg N W ≤ n →
    SpecT (loadEntry n cfg l name) s
  fbLoadEntry : ∀ l name W s, l ∈ loaders cfg → pot cfg s ≤ W → name.length + W ≤ N →
    LEn cfg N W ≤ n + cfg.mods.length + 5 + fbSlack l → SpecT (fbLoadEntry n cfg l name) s
  find : ∀ l name W s, l ∈ loaders cfg → pot cfg s ≤ W → name.length + W ≤ N →
    INn cfg N W + 3 * name.length + 2 ≤ n → SpecT (find n cfg l name) s
  findTail : ∀ l name W s, l ∈ loaders cfg → pot cfg s ≤ W → name.length + W ≤ N →
    INn cfg N W + 3 * name.length + 1 ≤ n → SpecT (findTail n cfg l name) s
  parentSearch : ∀ l name ts W s, l ∈ loaders cfg → pot cfg s ≤ W → ts.length + W ≤ N →
    INn cfg N W + 3 * ts.length + 3 ≤ n → SpecT (parentSearch n cfg l name ts) s
  instantiate : ∀ l name origins W s, l ∈ loaders cfg → (l, keyOf name) ∈ instPairs cfg → pot cfg s ≤ W →
    name.length + W ≤ N → INn cfg N W ≤ n → SpecT (instantiate n cfg l name origins) s
  instantiator : ∀ name origins W s, pot cfg s ≤ W → name.length + 1 + W ≤ N →
    LEn cfg N W + maxMembers cfg.tree + 3 ≤ n → SpecT (instantiator n cfg name origins) s
  addTypes : ∀ d ts W s, pot cfg s ≤ W → d.name.length + 1 + W ≤ N → LEn cfg N W + ts.length + 2 ≤ n →
    SpecT (addTypes n cfg d ts) s
  resolveTS : ∀ nm ts i W s, pot cfg s ≤ W → nm.length + 1 + W ≤ N → LEn cfg N W + ts.length + 1 ≤ n →
    SpecT (resolveTS n cfg nm ts i) s
  dLoadEntry : ∀ name W s, pot cfg s ≤ W → name.length + W ≤ N → LEn cfg N W ≤ n + 1 → SpecT (dLoadEntry n cfg name) s
  dFind : ∀ name W s, pot cfg s ≤ W → name.length + W ≤ N → LEn cfg N W ≤ n + 2 → SpecT (dFind n cfg name) s
  dMembers : ∀ name W s, pot cfg s ≤ W → name.length + W ≤ N → LEn cfg N W ≤ n + 3 → SpecT (dMembers n cfg name) s
  dLoop : ∀ mods name W s, (∀ m ∈ mods, m ∈ cfg.mods) → pot cfg s ≤ W → name.length + W ≤ N →
    LEn cfg N W + mods.length ≤ n + cfg.mods.length + 4 → SpecT (dLoop n cfg mods name) s

variable {cfg N}

/-- the goal shape inside a function body: from the current state `s` (reached from the function's initial state `s0`
    without removing anything) the rest of the body does not diverge and removes nothing -/
abbrev Goal {α : Type} (s0 : St) (x : M α) (s : St) : Prop := tpv x (fun _ s' => Mono s0 s') (Mono s0) s

/-- a call in the middle of a body -/
theorem tpv_call {α : Type} {x : M α} {s0 s : St} {K : α → St → Prop} (hm : Mono s0 s) (hx : SpecT x s)
    (hk : ∀ a s', Mono s0 s' → K a s') : tpv x K (Mono s0) s :=
  tpv_mono hx (fun a s' h => hk a s' (hm.trans h)) (fun _ h => hm.trans h)

/-- a call in tail position -/
theorem tpv_tail {α : Type} {x : M α} {s0 s : St} (hm : Mono s0 s) (hx : SpecT x s) : Goal s0 x s :=
  tpv_mono hx (fun _ _ h => hm.trans h) (fun _ h => hm.trans h)

theorem pot_le {s0 s : St} {W : Nat} (hm : Mono s0 s) (hp : pot cfg s0 ≤ W) : pot cfg s ≤ W :=
  Nat.le_trans (pot_mono cfg hm) hp

theorem specT_setAnswer (l : Lid) (k : Key) (e : Entry) (s : St) :
    SpecT (setEntry l k e >>= fun e => pure (some e)) s :=
  specT_bind (specT_setEntry l k e s) (fun _ s' _ => Mono.refl s')

theorem specT_firstDef {x y : M (Option Entry)} {s : St} (hx : SpecT x s) (hy : ∀ s', Mono s s' → SpecT y s') :
    SpecT (firstDef x y) s := by
  refine specT_bind hx (fun e s' hm => ?_)
  split
  · exact Mono.refl s'
  · exact hy s' hm

theorem specT_reported {α : Type} (code : String) (f : Option Path) (ln : Nat) (s : St) :
    SpecT (raise (.reported code f ln) : M α) s := ⟨(by intro h; cases h), Mono.refl s⟩

theorem tstep_loadEntry {n : Nat} (ih : AllT cfg N n) (l : Lid) (name : Name) (W : Nat) (s : St) (hl : l ∈ loaders cfg)
    (hp : pot cfg s ≤ W) (hN : name.length + W ≤ N) (hn : LEn cfg N W ≤ n + 1) :
    SpecT (loadEntry (n+1) cfg l name) s :=
  loadEntry_cases (fun x => SpecT x s) (fun _ => ih.dLoadEntry name W s hp hN hn)
    (fun _ => ih.fbLoadEntry l name W s hl hp hN (by omega))

theorem tstep_fbLoadEntry {n : Nat} (ih : AllT cfg N n) (l : Lid) (name : Name) (W : Nat) (s : St)
    (hl : l ∈ loaders cfg) (hp : pot cfg s ≤ W) (hN : name.length + W ≤ N)
    (hn : LEn cfg N W ≤ n + 1 + cfg.mods.length + 5 + fbSlack l) : SpecT (fbLoadEntry (n+1) cfg l name) s := by
  have hkey := key_arith cfg N W name.length (by omega)
  have hslack := fbSlack_le l
  rw [fbLoadEntry_succ]
  refine specT_bind (fbParent_cases (fun x => SpecT x s) (Mono.refl s) (fun m hm _ => ?_)) (fun pe s1 hm1 => specT_get ?_)
  · subst hm
    exact ih.fbLoadEntry .g name W s (g_mem_loaders cfg) hp hN (by simp only [fbSlack] at hn ⊢; omega)
  · cases ownEntry pe (s1.get l (keyOf name)) with
    | some e => exact Mono.refl s1
    | none =>
      refine specT_bind (ih.find l name W s1 hl (pot_le hm1 hp) hN (by omega)) ?_
      rintro (_ | e) s2 _
      · exact specT_setAnswer l (keyOf name) none s2
      · exact Mono.refl s2

theorem tstep_find (hg : cfg.guardInit = true) {n : Nat} (ih : AllT cfg N n) (l : Lid) (name : Name) (W : Nat) (s : St)
    (hl : l ∈ loaders cfg) (hp : pot cfg s ≤ W) (hN : name.length + W ≤ N)
    (hn : INn cfg N W + 3 * name.length + 2 ≤ n + 1) : SpecT (find (n+1) cfg l name) s := by
  refine find_cases (fun x => SpecT x s) (fun _ => Mono.refl s) (fun _ _ _ => specT_reported _ _ _ s)
    (fun _ => ih.findTail l name W s hl hp hN (by omega)) ?_ (fun _ _ h => by rw [hg] at h; cases h)
  intro o os _ _ _ hk _
  have hmem : (l, keyOf name) ∈ instPairs cfg := by rw [← partsOf_eq hk]; exact mem_instPairs_mod hl
  refine specT_bind (ih.instantiate l name (o :: os) W s hl hmem hp hN (by omega)) (fun e s1 _ => ?_)
  exact expectTypeset_cases (fun x => SpecT x s1) (Mono.refl s1) (specT_reported _ _ _ s1)

theorem tstep_findTail {n : Nat} (ih : AllT cfg N n) (l : Lid) (name : Name) (W : Nat) (s : St)
    (hl : l ∈ loaders cfg) (hp : pot cfg s ≤ W) (hN : name.length + W ≤ N)
    (hn : INn cfg N W + 3 * name.length + 1 ≤ n + 1) : SpecT (findTail (n+1) cfg l name) s :=
  findTail_cases (fun x => SpecT x s)
    (fun o os hi => ih.instantiate l name _ W s hl (mem_instPairs_of_idx hl (by rw [hi]; simp)) hp hN (by omega))
    (fun _ hq => by
      have hlen : name.length ≥ 2 := qualified_iff.mp hq
      exact ih.parentSearch l name name.dropLast W s hl hp (by rw [List.length_dropLast]; omega)
        (by rw [List.length_dropLast]; omega))
    (fun _ => Mono.refl s)

theorem tstep_parentSearch {n : Nat} (ih : AllT cfg N n) (l : Lid) (name ts : Name) (W : Nat) (s : St)
    (hl : l ∈ loaders cfg) (hp : pot cfg s ≤ W) (hN : ts.length + W ≤ N)
    (hn : INn cfg N W + 3 * ts.length + 3 ≤ n + 1) : SpecT (parentSearch (n+1) cfg l name ts) s := by
  cases ts with
  | nil => exact Mono.refl s
  | cons t rest =>
    simp only [List.length_cons] at hN hn
    have hrest : ∀ s', Mono s s' → SpecT (parentSearch n cfg l name (t :: rest).dropLast) s' := fun s' hm =>
      ih.parentSearch l name _ W s' hl (pot_le hm hp) (by rw [List.length_dropLast]; simp only [List.length_cons]; omega)
        (by rw [List.length_dropLast]; simp only [List.length_cons]; omega)
    rw [parentSearch_ne _ _ _ _ _ (List.cons_ne_nil _ _)]
    refine specT_get ?_
    cases s.get l (keyOf (t :: rest)) with
    | some v => exact hrest s (Mono.refl s)
    | none =>
      refine specT_bind (ih.find l (t :: rest) W s hl hp (by simp only [List.length_cons]; omega)
        (by simp only [List.length_cons]; omega)) (fun _ s1 hm1 => specT_get ?_)
      cases s1.get l (keyOf name) with
      | some te => exact Mono.refl s1
      | none => exact hrest s1 hm1

theorem tstep_instantiate {n : Nat} (ih : AllT cfg N n) (l : Lid) (name : Name) (origins : List Path) (W : Nat) (s : St)
    (hmem : (l, keyOf name) ∈ instPairs cfg) (hp : pot cfg s ≤ W) (hN : name.length + W ≤ N)
    (hn : INn cfg N W ≤ n + 1) : SpecT (instantiate (n+1) cfg l name origins) s := by
  unfold SpecT tpv
  cases hget : s.get l (keyOf name) with
  | some v => rw [instantiate_cached hget]; exact Mono.refl s
  | none =>
    rw [instantiate_fresh hget]
    -- the placeholder lowers the potential: the file is instantiated one level below
    have hlt := pot_put_lt cfg s l (keyOf name) none hmem hget
    obtain ⟨W', rfl⟩ : ∃ W', W = W' + 1 := ⟨W - 1, by omega⟩
    change LEn cfg N W' + maxMembers cfg.tree + 4 ≤ n + 1 at hn
    exact tpv_tail (mono_put s l (keyOf name) none) (specT_bind
      (ih.instantiator name origins W' _ (by omega) (by omega) (by omega)) (fun _ s2 _ => Mono.refl s2))

theorem tstep_instantiator {n : Nat} (ih : AllT cfg N n) (name : Name) (origins : List Path) (W : Nat) (s : St)
    (hp : pot cfg s ≤ W) (hN : name.length + 1 + W ≤ N)
    (hn : LEn cfg N W + maxMembers cfg.tree + 3 ≤ n + 1) : SpecT (instantiator (n+1) cfg name origins) s := by
  cases origins with
  | nil => exact Mono.refl s
  | cons p rest =>
    have hm1 : Mono s (s.addRead p) := fun _ _ h => h
    have h := instBody_cases (n := n) (name := name) (p := p)
      (fun x => SpecT x (s.addRead p)) (fun _ _ => specT_reported _ _ _ _)
      (fun k nm ts hb hk => by
        -- a definition of the requested name (up to case) is as long, and its members are counted in `maxMembers`
        have hlen := length_eq_of_keyOf_eq hk
        have hts := members_le_of_mem (mem_of_bodyAt hb)
        exact ih.addTypes ⟨k, nm⟩ ts W _ (pot_le hm1 hp) (by simp only []; omega) (by omega))
      (fun _ => ih.addTypes ⟨.alias, name⟩ [] W _ (pot_le hm1 hp) hN (by simp only [List.length_nil]; omega))
    rw [instantiator_cons]
    show Goal s _ s
    rw [Goal, tpv_bind, tpv_modifySt]
    exact tpv_tail hm1 h

theorem tstep_addTypes {n : Nat} (ih : AllT cfg N n) (d : Def) (ts : List String) (W : Nat) (s : St)
    (hp : pot cfg s ≤ W) (hN : d.name.length + 1 + W ≤ N)
    (hn : LEn cfg N W + ts.length + 2 ≤ n + 1) : SpecT (addTypes (n+1) cfg d ts) s := by
  rw [addTypes_succ]
  have hmembers : SpecT (if d.kind = .typeset then resolveTS n cfg d.name ts 0 else pure ()) s := by
    split
    · exact ih.resolveTS d.name ts 0 W s hp hN (by omega)
    · exact Mono.refl s
  exact specT_bind hmembers (fun _ s1 _ =>
    specT_bind (specT_setEntry cfg.via (keyOf d.name) (some d) s1) (fun _ s2 _ => Mono.refl s2))

theorem tstep_resolveTS {n : Nat} (ih : AllT cfg N n) (nm : Name) (ts : List String) (i : Nat) (W : Nat) (s : St)
    (hp : pot cfg s ≤ W) (hN : nm.length + 1 + W ≤ N)
    (hn : LEn cfg N W + ts.length + 1 ≤ n + 1) : SpecT (resolveTS (n+1) cfg nm ts i) s := by
  cases ts with
  | nil => exact Mono.refl s
  | cons t rest =>
    simp only [List.length_cons] at hn
    have hrest : ∀ s', Mono s s' → SpecT (resolveTS n cfg nm rest (i + 1)) s' := fun s' hm =>
      ih.resolveTS nm rest (i+1) W s' (pot_le hm hp) hN (by omega)
    rw [resolveTS_cons]
    refine specT_bind (ih.loadEntry cfg.via (nm ++ [t]) W s (via_mem_loaders cfg) hp
      (by simp only [List.length_append, List.length_cons, List.length_nil]; omega) (by omega)) (fun le s1 hm1 => ?_)
    exact resolveMember_cases (fun x => SpecT x s1) (hrest s1 hm1)
      (specT_bind (specT_setEntry cfg.via _ _ s1) (fun _ s2 hm2 => hrest s2 (hm1.trans hm2)))

theorem tstep_dLoadEntry {n : Nat} (ih : AllT cfg N n) (name : Name) (W : Nat) (s : St)
    (hp : pot cfg s ≤ W) (hN : name.length + W ≤ N) (hn : LEn cfg N W ≤ n + 1 + 1) :
    SpecT (dLoadEntry (n+1) cfg name) s := by
  rw [dLoadEntry_succ]
  refine specT_get ?_
  split
  · exact Mono.refl s
  · refine specT_bind (ih.dFind name W s hp hN (by omega)) (fun r s1 _ => specT_get ?_)
    exact dStore_cases (fun x => SpecT x s1) (fun _ _ => Mono.refl s1) (fun _ _ => specT_setAnswer _ _ _ s1)
      (fun _ => specT_setAnswer _ _ _ s1) (fun _ _ => Mono.refl s1)

theorem tstep_dFind {n : Nat} (ih : AllT cfg N n) (name : Name) (W : Nat) (s : St)
    (hp : pot cfg s ≤ W) (hN : name.length + W ≤ N) (hn : LEn cfg N W ≤ n + 1 + 2) :
    SpecT (dFind (n+1) cfg name) s :=
  dFind_cases (fun x => SpecT x s) (fun _ _ => specT_reported _ _ _ s)
    (fun h hin _ _ => ih.fbLoadEntry (.m h) name W s (m_mem_loaders hin) hp hN (by simp only [fbSlack]; omega))
    (fun _ => ih.dMembers name W s hp hN (by omega))

theorem tstep_dMembers {n : Nat} (ih : AllT cfg N n) (name : Name) (W : Nat) (s : St)
    (hp : pot cfg s ≤ W) (hN : name.length + W ≤ N) (hn : LEn cfg N W ≤ n + 1 + 3) :
    SpecT (dMembers (n+1) cfg name) s := by
  have hloop : ∀ s', Mono s s' → SpecT (dLoop n cfg cfg.mods name) s' := fun s' hm =>
    ih.dLoop cfg.mods name W s' (fun _ h => h) (pot_le hm hp) hN (by omega)
  rw [dMembers_succ]
  split
  · exact specT_firstDef (ih.fbLoadEntry .g name W s (g_mem_loaders cfg) hp hN (by simp only [fbSlack]; omega)) hloop
  · exact hloop s (Mono.refl s)

theorem tstep_dLoop {n : Nat} (ih : AllT cfg N n) (mods : List String) (name : Name) (W : Nat) (s : St)
    (hsub : ∀ m ∈ mods, m ∈ cfg.mods) (hp : pot cfg s ≤ W) (hN : name.length + W ≤ N)
    (hn : LEn cfg N W + mods.length ≤ n + 1 + cfg.mods.length + 4) : SpecT (dLoop (n+1) cfg mods name) s := by
  cases mods with
  | nil => exact Mono.refl s
  | cons m rest =>
    simp only [List.length_cons] at hn
    rw [dLoop_cons]
    exact specT_firstDef
      (ih.fbLoadEntry (.m m) name W s (m_mem_loaders (hsub m List.mem_cons_self)) hp hN (by simp only [fbSlack]; omega))
      (fun s1 hm1 => ih.dLoop rest name W s1 (fun x hx => hsub x (List.mem_cons_of_mem _ hx)) (pot_le hm1 hp) hN
        (by omega))

theorem allT (hg : cfg.guardInit = true) : ∀ n, AllT cfg N n
  | 0 => by
    have hC : cfg.mods.length + 14 ≤ stepC cfg N := by unfold stepC; omega
    constructor
    · intro l name W s _ _ _ hn; have := LEn_pos cfg N W; omega
    · intro l name W s _ _ _ hn
      have := LEn_pos cfg N W
      have := fbSlack_le l
      omega
    · intro l name W s _ _ _ hn; omega
    · intro l name W s _ _ _ hn; omega
    · intro l name ts W s _ _ _ hn; omega
    · intro l name origins W s _ _ _ _ hn; unfold INn at hn; omega
    · intro name origins W s _ _ hn; omega
    · intro d ts W s _ _ hn; omega
    · intro nm ts i W s _ _ hn; omega
    · intro name W s _ _ hn; have := LEn_pos cfg N W; omega
    · intro name W s _ _ hn; have := LEn_pos cfg N W; omega
    · intro name W s _ _ hn; have := LEn_pos cfg N W; omega
    · intro mods name W s _ _ _ hn; have := LEn_pos cfg N W; omega
  | n+1 =>
    have ih := allT hg n
    { loadEntry := fun l name W s hl hp hN hn => tstep_loadEntry ih l name W s hl hp hN hn
      fbLoadEntry := fun l name W s hl hp hN hn => tstep_fbLoadEntry ih l name W s hl hp hN (by omega)
      find := fun l name W s hl hp hN hn => tstep_find hg ih l name W s hl hp hN hn
      findTail := fun l name W s hl hp hN hn => tstep_findTail ih l name W s hl hp hN hn
      parentSearch := fun l name ts W s hl hp hN hn => tstep_parentSearch ih l name ts W s hl hp hN hn
      instantiate := fun l name origins W s _ hmem hp hN hn => tstep_instantiate ih l name origins W s hmem hp hN hn
      instantiator := fun name origins W s hp hN hn => tstep_instantiator ih name origins W s hp hN hn
      addTypes := fun d ts W s hp hN hn => tstep_addTypes ih d ts W s hp hN hn
      resolveTS := fun nm ts i W s hp hN hn => tstep_resolveTS ih nm ts i W s hp hN hn
      dLoadEntry := fun name W s hp hN hn => tstep_dLoadEntry ih name W s hp hN (by omega)
      dFind := fun name W s hp hN hn => tstep_dFind ih name W s hp hN (by omega)
      dMembers := fun name W s hp hN hn => tstep_dMembers ih name W s hp hN (by omega)
      dLoop := fun mods name W s hsub hp hN hn => tstep_dLoop ih mods name W s hsub hp hN (by omega) }

end

/-- termination, general form: any upper bound `W` of the potential and any `N ≥ length + W` will do -/
theorem load_terminates (cfg : Cfg) (hg : cfg.guardInit = true) (s : St) (name : Name) (N W fuel : Nat)
    (hp : pot cfg s ≤ W) (hN : name.length + W ≤ N) (hf : LEn cfg N W ≤ fuel) :
    (loadS fuel cfg s name).1 ≠ .failed .diverges ∧ Mono s (loadS fuel cfg s name).2 := by
  have hle := (allT (N := N) hg fuel).loadEntry cfg.via name W s (via_mem_loaders cfg) hp hN hf
  have hload : tpv (load fuel cfg name) (fun o s' => Mono s s' ∧ ∀ e, o ≠ .failed e) (Mono s) s := by
    unfold load
    rw [tpv_bind]
    refine tpv_call (Mono.refl s) hle (fun e s1 hm1 => ?_)
    match e with
    | none =>
      rw [tpv_bind]
      exact tpv_call hm1 (specT_setEntry cfg.via (keyOf name) none s1) (fun _ _ hm2 => ⟨hm2, fun e h => by cases h⟩)
    | some none => exact ⟨hm1, fun e h => by cases h⟩
    | some (some d) => exact ⟨hm1, fun e h => by cases h⟩
  exact loadS_cases (fun r x => tpv (fun _ => r) (fun o s' => Mono s s' ∧ ∀ e, o ≠ .failed e) (Mono s) s →
      x.1 ≠ .failed .diverges ∧ Mono s x.2) (fun _ _ h => ⟨h.2 _, h.1⟩)
    (fun e _ h => ⟨fun h' => h.1 (Outcome.failed.inj h'), h.2⟩) hload

theorem runLoads_terminates (cfg : Cfg) (hg : cfg.guardInit = true) (N W fuel : Nat) (hf : LEn cfg N W ≤ fuel) :
    ∀ (names : List Name) (s : St), pot cfg s ≤ W → maxLen names + W ≤ N →
      ∀ o ∈ (runLoads fuel cfg s names).1, o ≠ .failed .diverges
  | [], _, _, _ => by intro o ho; simp [runLoads] at ho
  | n :: ns, s, hp, hN => by
    simp only [maxLen] at hN
    have h1 := load_terminates cfg hg s n N W fuel hp (by omega) hf
    have h2 := runLoads_terminates cfg hg N W fuel hf ns (loadS fuel cfg s n).2 (Nat.le_trans (pot_mono cfg h1.2) hp)
      (by omega)
    intro o ho
    simp only [runLoads, List.mem_cons] at ho
    rcases ho with rfl | ho
    · exact h1.1
    · exact h2 o ho

end Pcore.Files

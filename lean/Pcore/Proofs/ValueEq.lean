import Pcore.Proofs.ValueEqTy
import Pcore.Proofs.ValueEqObj
import Pcore.Proofs.OMap
/-! Helper lemmas for C07: `Equals` on values (`veq`).  The file defines the hypotheses of the property theorems, `Comparable`
    (`cmp`) and `EqComparable` (`ecmp`).  In order: an induction principle for `Val`; Array and HashEntry as one kind (`elems`); the
    hash index (`lookupLast`) and `Equals` of two hashes entry by entry; `veq` is true for two values of one kind only
    (`veq_head`); `veq` is a partial equivalence at every value (`veq_per`), hence an equivalence relation on `EqComparable`
    values; `Comparable` is `EqComparable` plus "has a hash key". -/
namespace Pcore.ValueEq

def distinctB : List Bytes → Bool
  | [] => true
  | x :: xs => !xs.contains x && distinctB xs

/-- the key bytes under which the entries of a hash are indexed -/
def keysOf (es : List (Val × Val)) : List Bytes := es.map fun e => kb e.1

mutual
/-- `Comparable`: the values the property speaks about — integers are int64, floats are 64 bits and not NaN, no
    Sensitive anywhere (the property's two stated exceptions), and every Hash is a well-formed map: no two of its
    entries are indexed under the same key bytes -/
def cmp : Val → Bool
  | .int i => minInt ≤ i && i ≤ maxInt
  | .float b => b < 18446744073709551616 && !fIsNaN b
  | .sensitive _ => false
  | .array vs => cmpL vs
  | .hash es => cmpE es && distinctB (es.map fun e => kb e.1)
  | .entry k v => cmp k && cmp v
  | .typ t => TyWF t
  | .timespan n => minInt ≤ n && n ≤ maxInt
  | .timestamp a b => (minInt ≤ a && a ≤ maxInt) && (minInt ≤ b && b ≤ maxInt)
  | .semver v => verOk v      -- as `NewVersion3` makes it: Go ints, parts that match the part patterns
  | .vrange _ rs => rs.all arOk   -- whatever string it was parsed from
  | .tname _ _ _ => false     -- no hash key at all: `EqComparable` only
  | .deferred _ _ => false
  | .param _ _ _ _ _ => false
  | .obj _ _ => false
  | _ => true
def cmpL : List Val → Bool
  | [] => true
  | v :: vs => cmp v && cmpL vs
def cmpE : List (Val × Val) → Bool
  | [] => true
  | (k, v) :: es => cmp k && cmp v && cmpE es
end

def Comparable (x : Val) : Prop := cmp x = true

instance (x : Val) : Decidable (Comparable x) := inferInstanceAs (Decidable (cmp x = true))

mutual
/-- `EqComparable`: the values the EQUIVALENCE clauses of the property speak about.  It is `Comparable` without the demand
    that the value has a hash key: a TypedName, a Deferred, a Parameter (`px.ToKey` reports `INVALID_MAP_KEY` for them, by
    design) and every SemVer / SemVerRange are inside; the keys of a Hash must still be keyable (else the Hash cannot be
    built) -/
def ecmp : Val → Bool
  | .int i => minInt ≤ i && i ≤ maxInt
  | .float b => b < 18446744073709551616 && !fIsNaN b
  | .sensitive _ => false
  | .array vs => ecmpL vs
  | .hash es => ecmpE es && distinctB (es.map fun e => kb e.1)
  | .entry k v => ecmp k && ecmp v
  | .typ t => TyWF t
  | .timespan n => minInt ≤ n && n ≤ maxInt
  | .timestamp a b => (minInt ≤ a && a ≤ maxInt) && (minInt ≤ b && b ≤ maxInt)
  | .deferred _ as => ecmpL as
  | .param _ t _ v _ => TyWF t && ecmp v
  | .obj t vs => objWF t vs && ecmpL vs     -- an instance as `px.New` makes it (unique attribute names, one value each)
  | _ => true
def ecmpL : List Val → Bool
  | [] => true
  | v :: vs => ecmp v && ecmpL vs
def ecmpE : List (Val × Val) → Bool
  | [] => true
  | (k, v) :: es => (keyable k && ecmp k) && ecmp v && ecmpE es
end

def EqComparable (x : Val) : Prop := ecmp x = true

instance (x : Val) : Decidable (EqComparable x) := inferInstanceAs (Decidable (ecmp x = true))

theorem cmpL_iff : ∀ {vs : List Val}, cmpL vs = true ↔ ∀ v ∈ vs, cmp v = true
  | [] => by simp [cmpL]
  | v :: vs => by simp [cmpL, cmpL_iff (vs := vs)]

theorem cmpE_iff : ∀ {es : List (Val × Val)}, cmpE es = true ↔ ∀ e ∈ es, cmp e.1 = true ∧ cmp e.2 = true
  | [] => by simp [cmpE]
  | (k, v) :: es => by simp [cmpE, cmpE_iff (es := es)]

theorem ecmpL_iff : ∀ {vs : List Val}, ecmpL vs = true ↔ ∀ v ∈ vs, ecmp v = true
  | [] => by simp [ecmpL]
  | v :: vs => by simp [ecmpL, ecmpL_iff (vs := vs)]

theorem ecmpE_iff : ∀ {es : List (Val × Val)},
    ecmpE es = true ↔ ∀ e ∈ es, (keyable e.1 = true ∧ ecmp e.1 = true) ∧ ecmp e.2 = true
  | [] => by simp [ecmpE]
  | (k, v) :: es => by simp [ecmpE, ecmpE_iff (es := es)]

theorem keyableL_iff : ∀ {vs : List Val}, keyableL vs = true ↔ ∀ v ∈ vs, keyable v = true
  | [] => by simp [keyableL]
  | v :: vs => by simp [keyableL, keyableL_iff (vs := vs)]

theorem keyableE_iff : ∀ {es : List (Val × Val)}, keyableE es = true ↔ ∀ e ∈ es, keyable e.1 = true ∧ keyable e.2 = true
  | [] => by simp [keyableE]
  | (k, v) :: es => by simp [keyableE, keyableE_iff (es := es)]

theorem distinctB_nodup {l : List Bytes} (h : distinctB l = true) : l.Nodup := nodup_of_distinct_test (fun _ _ => rfl) h

section ind
set_option linter.unusedSectionVars false
variable {P : Val → Prop}
  (hundef : P .undef) (hdflt : P .dflt) (hbool : ∀ b, P (.bool b)) (hint : ∀ i, P (.int i))
  (hfloat : ∀ b, P (.float b)) (hstr : ∀ s, P (.str s)) (hregexp : ∀ s, P (.regexp s)) (hbinary : ∀ s, P (.binary s))
  (harray : ∀ vs, (∀ v ∈ vs, P v) → P (.array vs))
  (hhash : ∀ es : List (Val × Val), (∀ e ∈ es, P e.1 ∧ P e.2) → P (.hash es))
  (hentry : ∀ k v, P k → P v → P (.entry k v))
  (hsens : ∀ v, P v → P (.sensitive v)) (htyp : ∀ t, P (.typ t))
  (htspan : ∀ n, P (.timespan n)) (htstamp : ∀ a b, P (.timestamp a b))
  (huri : ∀ s, P (.uri s)) (hsemver : ∀ v, P (.semver v)) (hvrange : ∀ o rs, P (.vrange o rs))
  (htname : ∀ a n m, P (.tname a n m)) (hdeferred : ∀ n as, (∀ v ∈ as, P v) → P (.deferred n as))
  (hparam : ∀ n t h v c, P v → P (.param n t h v c)) (hobj : ∀ t vs, (∀ v ∈ vs, P v) → P (.obj t vs))
include hundef hdflt hbool hint hfloat hstr hregexp hbinary harray hhash hentry hsens htyp htspan htstamp
  huri hsemver hvrange htname hdeferred hparam hobj

mutual
theorem Val.ind : ∀ x : Val, P x
  | .undef => hundef | .dflt => hdflt | .bool b => hbool b | .int i => hint i | .float b => hfloat b
  | .str s => hstr s | .regexp s => hregexp s | .binary s => hbinary s
  | .array vs => harray vs (Val.indL vs)
  | .hash es => hhash es (Val.indE es)
  | .entry k v => hentry k v (Val.ind k) (Val.ind v)
  | .sensitive v => hsens v (Val.ind v)
  | .typ t => htyp t
  | .timespan n => htspan n
  | .timestamp a b => htstamp a b
  | .uri s => huri s
  | .semver v => hsemver v
  | .vrange o rs => hvrange o rs
  | .tname a n m => htname a n m
  | .deferred n as => hdeferred n as (Val.indL as)
  | .param n t h v c => hparam n t h v c (Val.ind v)
  | .obj t vs => hobj t vs (Val.indL vs)
theorem Val.indL : ∀ vs : List Val, ∀ v ∈ vs, P v
  | [], _, h => by simp at h
  | w :: ws, v, hv => by
      rcases List.mem_cons.mp hv with e | hv
      · rw [e]; exact Val.ind w
      · exact Val.indL ws v hv
theorem Val.indE : ∀ es : List (Val × Val), ∀ e ∈ es, P e.1 ∧ P e.2
  | [], _, h => by simp at h
  | (k, v) :: es, e, he => by
      rcases List.mem_cons.mp he with e' | he
      · rw [e']; exact ⟨Val.ind k, Val.ind v⟩
      · exact Val.indE es e he
end
end ind

/-! ### arrays and hash entries are the same thing to `Equals` and `ToKey` -/

/-- the element sequence of an Array, or of a HashEntry seen as the array `[key, value]` -/
def elems : Val → Option (List Val)
  | .array vs => some vs
  | .entry k v => some [k, v]
  | _ => none

theorem forall_mem_pair {P : Val → Prop} {k v : Val} (hk : P k) (hv : P v) : ∀ w ∈ [k, v], P w := by
  intro w hw
  simp only [List.mem_cons, List.not_mem_nil, or_false] at hw
  rcases hw with e | e <;> rw [e] <;> assumption

theorem elems_some {x : Val} {vs : List Val} (h : elems x = some vs) :
    x = .array vs ∨ ∃ k v, x = .entry k v ∧ vs = [k, v] := by
  unfold elems at h; split at h
  · exact Or.inl (by rw [Option.some.inj h])
  · exact Or.inr ⟨_, _, rfl, (Option.some.inj h).symm⟩
  · cases h

theorem veq_elems {x y : Val} {vs ws : List Val} (hx : elems x = some vs) (hy : elems y = some ws) :
    veq x y = (vs.length == ws.length && veqL vs ws) := by
  rcases elems_some hx with rfl | ⟨k, v, rfl, rfl⟩ <;> rcases elems_some hy with rfl | ⟨k', v', rfl, rfl⟩
  · rfl
  · rfl
  · match ws with
    | [] | [_] | _ :: _ :: _ :: _ => rfl
    | [_, _] => simp [veq, veqL]
  · simp [veq, veqL]

theorem veq_elems_none_right {x y : Val} {vs : List Val} (hx : elems x = some vs) (hy : elems y = none) :
    veq x y = false := by
  rcases elems_some hx with rfl | ⟨k, v, rfl, rfl⟩ <;> unfold veq <;> split <;> first | cases hy | rfl

theorem cmp_elems {x : Val} {vs : List Val} (hx : elems x = some vs) : cmp x = cmpL vs := by
  rcases elems_some hx with rfl | ⟨k, v, rfl, rfl⟩
  · rfl
  · simp [cmp, cmpL]

theorem ecmp_elems {x : Val} {vs : List Val} (hx : elems x = some vs) : ecmp x = ecmpL vs := by
  rcases elems_some hx with rfl | ⟨k, v, rfl, rfl⟩
  · rfl
  · simp [ecmp, ecmpL]

/-! ### the hash index: `lookupLast` finds the last entry under a key; a hash with distinct keys Equals another exactly when each of
    its entries finds an Equal one there (`veqE_iff`) -/

theorem lookupLast_eq (kbs : Bytes) (es : List (Val × Val)) : lookupLast kbs es = Coll.OMap.getLast kb es kbs := by
  induction es with
  | nil => rfl
  | cons e es ih => simp only [lookupLast, Coll.OMap.getLast, ih, beq_iff_eq]; cases Coll.OMap.getLast kb es kbs <;> rfl

theorem lookupLast_some {kbs : Bytes} {es : List (Val × Val)} {e : Val × Val} (h : lookupLast kbs es = some e) :
    e ∈ es ∧ kb e.1 = kbs :=
  Coll.OMap.getLast_eq_some (lookupLast_eq kbs es ▸ h)

theorem lookupLast_none {kbs : Bytes} {es : List (Val × Val)} (h : lookupLast kbs es = none) : ∀ e ∈ es, kb e.1 ≠ kbs :=
  Coll.OMap.getLast_eq_none.mp (lookupLast_eq kbs es ▸ h)

theorem lookupLast_mem {es : List (Val × Val)} {e : Val × Val} (hn : (keysOf es).Nodup) (he : e ∈ es) :
    lookupLast (kb e.1) es = some e := by
  rw [lookupLast_eq, Coll.OMap.getLast_eq_getEntry hn]; exact (Coll.OMap.mem_iff_getEntry hn).mp he

theorem shadowed_false {k v : Val} {es : List (Val × Val)} (hd : (keysOf ((k, v) :: es)).Nodup) :
    shadowed k es = false := by
  simp only [keysOf, List.map_cons, List.nodup_cons] at hd
  simp only [shadowed, List.any_eq_false, beq_iff_eq]
  intro e he h
  exact hd.1 (List.mem_map.mpr ⟨e, he, h⟩)

theorem veqE_iff : ∀ {es fs : List (Val × Val)}, (keysOf es).Nodup →
    (veqE es fs = true ↔ ∀ e ∈ es, ∃ e', lookupLast (kb e.1) fs = some e' ∧ veq e.1 e'.1 = true ∧ veq e.2 e'.2 = true)
  | [], fs, _ => by simp [veqE]
  | (k, v) :: es, fs, hd => by
      have hd' : (keysOf es).Nodup := by
        simp only [keysOf, List.map_cons, List.nodup_cons] at hd; exact hd.2
      simp only [veqE, shadowed_false hd, Bool.false_eq_true, if_false, Bool.and_eq_true, veqE_iff hd',
        List.mem_cons, forall_eq_or_imp]
      apply and_congr_left'
      cases lookupLast (kb k) fs with
      | none => simp
      | some r => obtain ⟨k', v'⟩ := r; simp

theorem cmp_hash {es : List (Val × Val)} (h : cmp (.hash es) = true) :
    (∀ e ∈ es, cmp e.1 = true ∧ cmp e.2 = true) ∧ (keysOf es).Nodup := by
  simp only [cmp, Bool.and_eq_true] at h
  exact ⟨cmpE_iff.mp h.1, distinctB_nodup h.2⟩

theorem ecmp_hash {es : List (Val × Val)} (h : ecmp (.hash es) = true) :
    (∀ e ∈ es, ecmp e.1 = true ∧ ecmp e.2 = true) ∧ (keysOf es).Nodup := by
  simp only [ecmp, Bool.and_eq_true] at h
  exact ⟨fun e he => ⟨(ecmpE_iff.mp h.1 e he).1.2, (ecmpE_iff.mp h.1 e he).2⟩, distinctB_nodup h.2⟩

/-! ### the second argument of a true `Equals` -/

/-- `y` is built by the constructor of `x` (an Array and a HashEntry count as one); where `Equals` is `==` on every field, `y`
    is `x` -/
def veqHead : Val → Val → Prop
  | .float _, y => ∃ b, y = .float b
  | .hash _, y => ∃ fs, y = .hash fs
  | .typ _, y => ∃ t, y = .typ t
  | .timespan _, y => ∃ n, y = .timespan n
  | .semver _, y => ∃ v, y = .semver v
  | .vrange _ _, y => ∃ o rs, y = .vrange o rs
  | .tname _ _ _, y => ∃ a n m, y = .tname a n m
  | .deferred _ _, y => ∃ n as, y = .deferred n as
  | .param _ _ _ _ _, y => ∃ n t h v c, y = .param n t h v c
  | .obj _ _, y => ∃ t vs, y = .obj t vs
  | .array _, y | .entry _ _, y => ∃ ws, elems y = some ws
  | .sensitive _, _ => False
  | x, y => y = x

/-- every arm of `veq` is `match y with | <the same constructor> => … | _ => false`: splitting that one `match` leaves the
    case of the same constructor, where the equations of the fields give the claim, and `false = true` -/
theorem veq_head {x y : Val} (h : veq x y = true) : veqHead x y := by
  cases x <;> unfold veq at h <;>
    first | cases h | (split at h <;> first | rfl | cases h | simp_all [veqHead, elems])

/-! ### `Equals` is a partial equivalence at every value (`veq_per`), by one induction over `Val` -/

/-- one direction of the symmetry of `Hash.Equals`; the counting argument: an injection between two key sets of the
    same size is onto -/
theorem veqE_swap {es fs : List (Val × Val)} (hes : (keysOf es).Nodup) (hfs : (keysOf fs).Nodup)
    (hl : es.length = fs.length)
    (sw : ∀ e ∈ es, ∀ e' ∈ fs, veq e.1 e'.1 = true → veq e.2 e'.2 = true → veq e'.1 e.1 = true ∧ veq e'.2 e.2 = true)
    (h : veqE es fs = true) : veqE fs es = true := by
  rw [veqE_iff hes] at h
  rw [veqE_iff hfs]
  have sub : keysOf es ⊆ keysOf fs := by
    intro kbs hk
    obtain ⟨e, he, rfl⟩ := List.mem_map.mp hk
    obtain ⟨e', h1, _⟩ := h e he
    exact List.mem_map.mpr ⟨e', (lookupLast_some h1).1, (lookupLast_some h1).2⟩
  intro e' he'
  have : kb e'.1 ∈ keysOf es :=
    subset_of_nodup_of_length_le hes sub (by simp [keysOf, hl]) (List.mem_map.mpr ⟨e', he', rfl⟩)
  obtain ⟨e, he, hk⟩ := List.mem_map.mp this
  obtain ⟨e'', h1, h2, h3⟩ := h e he
  have : e'' = e' := by
    have := lookupLast_mem hfs he'
    rw [← hk, h1] at this
    exact Option.some.inj this
  subst this
  refine ⟨e, ?_, sw e he e'' he' h2 h3⟩
  rw [← hk]; exact lookupLast_mem hes he

/-- `Equals` is a partial equivalence at `x`: reflexive, and whatever `x` Equals also Equals `x` and everything `x`'s partner Equals -/
def Per (x : Val) : Prop :=
  ecmp x = true → veq x x = true ∧
    ∀ y, ecmp y = true → veq x y = true → veq y x = true ∧ ∀ z, veq y z = true → veq x z = true

theorem Per.flat {x : Val} (hr : veq x x = true) (hh : ∀ y, veq x y = true → y = x) : Per x :=
  fun _ => ⟨hr, fun y _ h => by obtain rfl := hh y h; exact ⟨h, fun _ h2 => h2⟩⟩

theorem Per.refl {x : Val} (p : Per x) (c : ecmp x = true) : veq x x = true := (p c).1
theorem Per.symm {x y : Val} (p : Per x) (cx : ecmp x = true) (cy : ecmp y = true) (h : veq x y = true) : veq y x = true :=
  ((p cx).2 y cy h).1
theorem Per.trans {x y z : Val} (p : Per x) (cx : ecmp x = true) (cy : ecmp y = true) (h1 : veq x y = true)
    (h2 : veq y z = true) : veq x z = true := ((p cx).2 y cy h1).2 z h2

theorem veqL_per : ∀ {vs : List Val}, (∀ v ∈ vs, Per v) → ecmpL vs = true →
    veqL vs vs = true ∧ ∀ ws, ecmpL ws = true → veqL vs ws = true →
      (vs.length = ws.length → veqL ws vs = true) ∧ ∀ us, veqL ws us = true → veqL vs us = true
  | [], _, _ => ⟨rfl, fun ws _ _ => ⟨fun hl => (by cases ws <;> first | rfl | cases hl), fun _ _ => rfl⟩⟩
  | v :: vs, ih, c => by
      simp only [ecmpL, Bool.and_eq_true] at c
      have p := ih v List.mem_cons_self
      have q := veqL_per (fun w hw => ih w (List.mem_cons_of_mem _ hw)) c.2
      refine ⟨by simp only [veqL, Bool.and_eq_true]; exact ⟨p.refl c.1, q.1⟩, fun ws cw h => ?_⟩
      match ws, cw, h with
      | w :: ws, cw, h =>
        simp only [ecmpL, veqL, Bool.and_eq_true] at cw h
        have q' := q.2 ws cw.2 h.2
        refine ⟨fun hl => by simp only [veqL, Bool.and_eq_true]; exact ⟨p.symm c.1 cw.1 h.1, q'.1 (Nat.succ.inj hl)⟩,
          fun us h2 => ?_⟩
        match us, h2 with
        | u :: us, h2 =>
          simp only [veqL, Bool.and_eq_true] at h2 ⊢
          exact ⟨p.trans c.1 cw.1 h.1 h2.1, q'.2 us h2.2⟩

theorem veq_per (x : Val) : Per x := by
  have seq : ∀ (x : Val) (vs : List Val), elems x = some vs → (∀ v ∈ vs, Per v) → Per x := by
    intro x vs hx ih cx
    rw [ecmp_elems hx] at cx
    obtain ⟨r, st⟩ := veqL_per ih cx
    refine ⟨by rw [veq_elems hx hx, r, beq_self_eq_true]; rfl, fun y cy h => ?_⟩
    cases hy : elems y with
    | none => rw [veq_elems_none_right hx hy] at h; cases h
    | some ws =>
      rw [veq_elems hx hy, Bool.and_eq_true, beq_iff_eq] at h
      rw [ecmp_elems hy] at cy
      obtain ⟨s, t⟩ := st ws cy h.2
      refine ⟨by rw [veq_elems hy hx, Bool.and_eq_true, beq_iff_eq]; exact ⟨h.1.symm, s h.1⟩, fun z h2 => ?_⟩
      cases hz : elems z with
      | none => rw [veq_elems_none_right hy hz] at h2; cases h2
      | some us =>
        rw [veq_elems hy hz, Bool.and_eq_true, beq_iff_eq] at h2
        rw [veq_elems hx hz, Bool.and_eq_true, beq_iff_eq]
        exact ⟨h.1.trans h2.1, t us h2.2⟩
  induction x using Val.ind with
  | hundef | hdflt => exact Per.flat rfl fun _ h => veq_head h
  | hbool | hint | hstr | hregexp | hbinary | htstamp | huri => exact Per.flat (by simp [veq]) fun _ h => veq_head h
  | hsens v _ => intro h; simp [ecmp] at h
  | harray vs ih => exact seq (.array vs) vs rfl ih
  | hentry k v ihk ihv => exact seq (.entry k v) [k, v] rfl (forall_mem_pair ihk ihv)
  | hfloat b =>
    intro cx
    simp only [ecmp, Bool.and_eq_true, Bool.not_eq_true'] at cx
    refine ⟨by simp [veq, feq_refl cx.2], fun y _ h => ?_⟩
    obtain ⟨b', rfl⟩ := veq_head h
    refine ⟨by simp only [veq] at h ⊢; rw [feq_comm]; exact h, fun z h2 => ?_⟩
    obtain ⟨_, rfl⟩ := veq_head h2
    simp only [veq] at h h2 ⊢; exact feq_trans h h2
  | htyp t =>
    intro cx
    simp only [ecmp] at cx
    refine ⟨by simp [veq, tyEq_refl t cx], fun y _ h => ?_⟩
    obtain ⟨t', rfl⟩ := veq_head h
    refine ⟨by simp only [veq] at h ⊢; rw [tyEq_symm]; exact h, fun z h2 => ?_⟩
    obtain ⟨_, rfl⟩ := veq_head h2
    simp only [veq] at h h2 ⊢; exact tyEq_trans _ _ _ h h2
  | htspan n =>
    intro _
    refine ⟨by simp [veq], fun y _ h => ?_⟩
    obtain ⟨n', rfl⟩ := veq_head h
    refine ⟨by simp only [veq, beq_iff_eq] at h ⊢; exact h.symm, fun z h2 => ?_⟩
    obtain ⟨_, rfl⟩ := veq_head h2
    simp only [veq, beq_iff_eq] at h h2 ⊢; exact h.trans h2
  | hsemver v =>
    intro _
    refine ⟨by simp [veq, verEq_iff], fun y _ h => ?_⟩
    obtain ⟨v', rfl⟩ := veq_head h
    refine ⟨by simp only [veq] at h ⊢; rw [verEq_comm]; exact h, fun z h2 => ?_⟩
    obtain ⟨_, rfl⟩ := veq_head h2
    simp only [veq, verEq_iff] at h h2 ⊢; exact h.trans h2
  | hvrange o rs =>
    intro _
    refine ⟨by simp [veq, rangesEq_iff], fun y _ h => ?_⟩
    obtain ⟨o', rs', rfl⟩ := veq_head h
    refine ⟨by simp only [veq] at h ⊢; rw [rangesEq_comm]; exact h, fun z h2 => ?_⟩
    obtain ⟨_, _, rfl⟩ := veq_head h2
    simp only [veq, rangesEq_iff] at h h2 ⊢; exact h.trans h2
  | htname a n m =>
    intro _
    refine ⟨by simp [veq], fun y _ h => ?_⟩
    obtain ⟨a', n', m', rfl⟩ := veq_head h
    refine ⟨by simp only [veq, beq_iff_eq] at h ⊢; exact h.symm, fun z h2 => ?_⟩
    obtain ⟨_, _, _, rfl⟩ := veq_head h2
    simp only [veq, beq_iff_eq] at h h2 ⊢; exact h.trans h2
  | hhash es ih =>
    intro cx
    obtain ⟨hc, hd⟩ := ecmp_hash cx
    refine ⟨?_, fun y cy h => ?_⟩
    · simp only [veq, beq_self_eq_true, Bool.true_and]
      rw [veqE_iff hd]
      exact fun e he => ⟨e, lookupLast_mem hd he, (ih e he).1.refl (hc e he).1, (ih e he).2.refl (hc e he).2⟩
    obtain ⟨fs, rfl⟩ := veq_head h
    obtain ⟨hc', hd'⟩ := ecmp_hash cy
    simp only [veq, Bool.and_eq_true, beq_iff_eq] at h
    refine ⟨?_, fun z h2 => ?_⟩
    · simp only [veq, Bool.and_eq_true, beq_iff_eq]
      refine ⟨h.1.symm, veqE_swap hd hd' h.1 (fun e he e' he' h1 h2 => ?_) h.2⟩
      exact ⟨(ih e he).1.symm (hc e he).1 (hc' e' he').1 h1,
        (ih e he).2.symm (hc e he).2 (hc' e' he').2 h2⟩
    · obtain ⟨gs, rfl⟩ := veq_head h2
      simp only [veq, Bool.and_eq_true, beq_iff_eq] at h2 ⊢
      refine ⟨h.1.trans h2.1, ?_⟩
      rw [veqE_iff hd] at h ⊢
      rw [veqE_iff hd'] at h2
      intro e he
      obtain ⟨e', f1, f2, f3⟩ := h.2 e he
      have he' := (lookupLast_some f1).1
      obtain ⟨e'', g1, g2, g3⟩ := h2.2 e' he'
      exact ⟨e'', by rw [← (lookupLast_some f1).2]; exact g1,
        (ih e he).1.trans (hc e he).1 (hc' e' he').1 f2 g2,
        (ih e he).2.trans (hc e he).2 (hc' e' he').2 f3 g3⟩
  | hdeferred n as ih =>
    intro cx
    simp only [ecmp] at cx
    obtain ⟨r, st⟩ := veqL_per ih cx
    refine ⟨by simp [veq, r], fun y cy h => ?_⟩
    obtain ⟨n', as', rfl⟩ := veq_head h
    simp only [ecmp] at cy
    simp only [veq, Bool.and_eq_true, beq_iff_eq] at h
    obtain ⟨s, t⟩ := st as' cy h.2.2
    refine ⟨by simp only [veq, Bool.and_eq_true, beq_iff_eq]; exact ⟨h.1.symm, h.2.1.symm, s h.2.1⟩, fun z h2 => ?_⟩
    obtain ⟨_, _, rfl⟩ := veq_head h2
    simp only [veq, Bool.and_eq_true, beq_iff_eq] at h2 ⊢
    exact ⟨h.1.trans h2.1, h.2.1.trans h2.2.1, t _ h2.2.2⟩
  | hparam n t hv v c ih =>
    intro cx
    simp only [ecmp, Bool.and_eq_true] at cx
    refine ⟨by simp [veq, tyEq_refl t cx.1, ih.refl cx.2], fun y cy h => ?_⟩
    obtain ⟨n', t', hv', v', c', rfl⟩ := veq_head h
    simp only [ecmp, Bool.and_eq_true] at cy
    simp only [veq, Bool.and_eq_true, beq_iff_eq] at h
    refine ⟨by
      simp only [veq, Bool.and_eq_true, beq_iff_eq]
      exact ⟨⟨⟨⟨h.1.1.1.1.symm, h.1.1.1.2.symm⟩, h.1.1.2.symm⟩, by rw [tyEq_symm]; exact h.1.2⟩, ih.symm cx.2 cy.2 h.2⟩,
      fun z h2 => ?_⟩
    obtain ⟨_, _, _, _, _, rfl⟩ := veq_head h2
    simp only [veq, Bool.and_eq_true, beq_iff_eq] at h2 ⊢
    exact ⟨⟨⟨⟨h.1.1.1.1.trans h2.1.1.1.1, h.1.1.1.2.trans h2.1.1.1.2⟩, h.1.1.2.trans h2.1.1.2⟩,
      tyEq_trans _ _ _ h.1.2 h2.1.2⟩, ih.trans cx.2 cy.2 h.2 h2.2⟩
  | hobj t vs ih =>
    intro cx
    simp only [ecmp, Bool.and_eq_true] at cx
    have hx := objWF_spec cx.1
    have mem : ∀ {t : OType} {us : List Val} {n : Bytes} {u : Val}, (n, u) ∈ eqView t us → u ∈ us := fun hm => by
      obtain ⟨i, _, _, hu⟩ := mem_eqView.mp hm
      exact List.mem_of_getElem? hu
    refine ⟨?_, fun y cy h => ?_⟩
    · rw [veq_obj_view hx hx]
      exact ⟨objPre_iff.mpr (Or.inl rfl), fun n v hm => ⟨v, hm, (ih v (mem hm)).refl (ecmpL_iff.mp cx.2 v (mem hm))⟩⟩
    obtain ⟨t', ws, rfl⟩ := veq_head h
    simp only [ecmp, Bool.and_eq_true] at cy
    have hy := objWF_spec cy.1
    refine ⟨?_, fun z h2 => ?_⟩
    · rw [veq_obj_view hx hy] at h
      rw [veq_obj_view hy hx, objPre_symm]
      refine ⟨h.1, viewLe_symm (eqView_names_nodup hx) (eqView_names_nodup hy) ?_ ?_ h.2⟩
      · rw [eqView_length hx, eqView_length hy]; exact objPre_length h.1
      · exact fun n v w hv hw => (ih v (mem hv)).symm (ecmpL_iff.mp cx.2 v (mem hv)) (ecmpL_iff.mp cy.2 w (mem hw))
    · obtain ⟨_, _, rfl⟩ := veq_head h2
      exact veq_obj_trans hx hy
        (fun v hv w u hw => (ih v hv).trans (ecmpL_iff.mp cx.2 v hv) (ecmpL_iff.mp cy.2 w hw)) h h2

/-! the three laws under `EqComparable` (hence the `_e`), the wider of the two hypotheses of the property theorems -/

theorem veq_refl_e : ∀ x : Val, ecmp x = true → veq x x = true := fun x h => (veq_per x).refl h

theorem veq_symm_e (x y : Val) (cx : ecmp x = true) (cy : ecmp y = true) : veq x y = veq y x :=
  Bool.eq_iff_iff.mpr ⟨(veq_per x).symm cx cy, (veq_per y).symm cy cx⟩

theorem veq_trans_e : ∀ x y z : Val, ecmp x = true → ecmp y = true → veq x y = true → veq y z = true → veq x z = true :=
  fun x _ _ => (veq_per x).trans

/-! ### `Comparable` is `EqComparable` plus "has a hash key" -/

theorem keyable_of_cmp : ∀ x : Val, cmp x = true → keyable x = true := by
  intro x
  induction x using Val.ind with
  | harray vs ih => intro h; simp only [cmp] at h; exact keyableL_iff.mpr fun v hv => ih v hv (cmpL_iff.mp h v hv)
  | hhash es ih =>
    intro h
    have hc := (cmp_hash h).1
    exact keyableE_iff.mpr fun e he => ⟨(ih e he).1 (hc e he).1, (ih e he).2 (hc e he).2⟩
  | hentry k v ihk ihv =>
    intro h
    simp only [cmp, Bool.and_eq_true] at h
    simp [keyable, ihk h.1, ihv h.2]
  | hsens | htname | hdeferred | hparam | hobj => intro h; simp [cmp] at h
  | _ => intros; rfl

theorem ecmp_of_cmp : ∀ x : Val, cmp x = true → ecmp x = true := by
  intro x
  induction x using Val.ind with
  | harray vs ih => intro h; simp only [cmp] at h; exact ecmpL_iff.mpr fun v hv => ih v hv (cmpL_iff.mp h v hv)
  | hhash es ih =>
    intro h
    simp only [cmp, Bool.and_eq_true] at h
    simp only [ecmp, Bool.and_eq_true]
    have hc := cmpE_iff.mp h.1
    exact ⟨ecmpE_iff.mpr fun e he =>
      ⟨⟨keyable_of_cmp e.1 (hc e he).1, (ih e he).1 (hc e he).1⟩, (ih e he).2 (hc e he).2⟩, h.2⟩
  | hentry k v ihk ihv =>
    intro h
    simp only [cmp, Bool.and_eq_true] at h
    simp [ecmp, ihk h.1, ihv h.2]
  | htname | hdeferred | hparam | hobj => intro h; simp [cmp] at h
  -- where `ecmp` is `true`, or the same test as `cmp`
  | _ => intros; first | rfl | assumption

end Pcore.ValueEq

import Pcore.Model.LatticeInfer
import Pcore.Proofs.LatInd
/-! What `Equals` (`tyEq`) says about the parts of two types (for C03: types that are `Equals` accept each other, LatReflAll). -/
namespace Pcore.Lat

theorem tyEqL_get (as bs : List Ty) (hlen : as.length = bs.length) (h : tyEqL as bs = true) :
    ∀ (i : Nat) (a b : Ty), as[i]? = some a → bs[i]? = some b → tyEq a b = true := by
  induction as generalizing bs with
  | nil => intro i a b ha; simp at ha
  | cons a0 as ih =>
    cases bs with
    | nil => simp at hlen
    | cons b0 bs =>
      unfold tyEqL at h
      simp only [Bool.and_eq_true] at h
      intro i a b ha hb
      cases i with
      | zero => simp at ha hb; subst ha; subst hb; exact h.1
      | succ j => simp at ha hb; exact ih bs (by simpa using hlen) h.2 j a b ha hb

theorem tyEqAny_iff (bs : List Ty) (a : Ty) : tyEqAny bs a = true ↔ ∃ b ∈ bs, tyEq b a = true := by
  induction bs with
  | nil => unfold tyEqAny; simp
  | cons b bs ih => unfold tyEqAny; simp [ih]

theorem tyEqIncl_iff (as bs : List Ty) : tyEqIncl as bs = true ↔ ∀ a ∈ as, ∃ b ∈ bs, tyEq b a = true := by
  induction as with
  | nil => unfold tyEqIncl; simp
  | cons a as ih => unfold tyEqIncl; simp [ih, tyEqAny_iff]

theorem tyEqM_spec (as bs : List Member) (hlen : as.length = bs.length) (h : tyEqM as bs = true) :
    as.map (·.1) = bs.map (·.1) ∧
    ∀ m ∈ as, ∃ m' ∈ bs, m'.1 = m.1 ∧ m'.2.1 = m.2.1 ∧ tyEq m.2.2 m'.2.2 = true := by
  induction as generalizing bs with
  | nil => cases bs with
    | nil => simp
    | cons _ _ => simp at hlen
  | cons a0 as ih =>
    cases bs with
    | nil => simp at hlen
    | cons b0 bs =>
      obtain ⟨n, o, t⟩ := a0
      obtain ⟨n', o', t'⟩ := b0
      unfold tyEqM at h
      simp only [Bool.and_eq_true, beq_iff_eq] at h
      obtain ⟨⟨⟨hn, ho⟩, ht⟩, hrest⟩ := h
      obtain ⟨h1, h2⟩ := ih bs (by simpa using hlen) hrest
      refine ⟨by simp [hn, h1], ?_⟩
      intro m hm
      simp only [List.mem_cons] at hm
      rcases hm with rfl | hm
      · exact ⟨(n', o', t'), by simp, hn.symm, ho.symm, ht⟩
      · obtain ⟨m', hm', x⟩ := h2 m hm
        exact ⟨m', by simp [hm'], x⟩

theorem Cov.tyEq {c : Ty → Ty} (hc : Cov c) {x b : Ty} (h : tyEq (c x) b = true) : ∃ y, b = c y ∧ tyEq x y = true := by
  cases hc <;> (unfold Pcore.Lat.tyEq at h; split at h) <;> first | exact ⟨_, rfl, h⟩ | cases h

theorem tyEq_array {e : Ty} {r : Rng} {b : Ty} (h : tyEq (.array e r) b = true) : ∃ e', b = .array e' r ∧ tyEq e e' = true := by
  unfold tyEq at h; split at h
  · simp only [Bool.and_eq_true, beq_iff_eq] at h; obtain ⟨rfl, he⟩ := h; exact ⟨_, rfl, he⟩
  · cases h

theorem tyEq_hash {k v : Ty} {r : Rng} {b : Ty} (h : tyEq (.hash k v r) b = true) :
    ∃ k' v', b = .hash k' v' r ∧ tyEq k k' = true ∧ tyEq v v' = true := by
  unfold tyEq at h; split at h
  · simp only [Bool.and_eq_true, beq_iff_eq] at h; obtain ⟨⟨rfl, hk⟩, hv⟩ := h; exact ⟨_, _, rfl, hk, hv⟩
  · cases h

theorem tyEq_variant {ts : List Ty} {b : Ty} (h : tyEq (.variant ts) b = true) :
    ∃ ts', b = .variant ts' ∧ (∀ t ∈ ts, ∃ t' ∈ ts', tyEq t' t = true) ∧ ∀ t' ∈ ts', ∃ t ∈ ts, tyEq t t' = true := by
  unfold tyEq at h; split at h
  · simp only [Bool.and_eq_true, tyEqIncl_iff] at h; exact ⟨_, rfl, h.1.2, h.2⟩
  · cases h

theorem tyEq_tuple {ts : List Ty} {g : Option Rng} {b : Ty} (h : tyEq (.tuple ts g) b = true) :
    ∃ ts' g', b = .tuple ts' g' ∧ ts.length = ts'.length ∧ tupleSize ts g = tupleSize ts' g' ∧
      ∀ (i : Nat) (x y : Ty), ts[i]? = some x → ts'[i]? = some y → tyEq x y = true := by
  unfold tyEq at h; split at h
  · simp only [Bool.and_eq_true, beq_iff_eq] at h; exact ⟨_, _, rfl, h.1.1, h.1.2, tyEqL_get _ _ h.1.1 h.2⟩
  · cases h

theorem tyEq_struct {ms : List Member} {b : Ty} (h : tyEq (.struct ms) b = true) :
    ∃ ms', b = .struct ms' ∧ ms.map (·.1) = ms'.map (·.1) ∧
      ∀ m ∈ ms, ∃ m' ∈ ms', m'.1 = m.1 ∧ m'.2.1 = m.2.1 ∧ tyEq m.2.2 m'.2.2 = true := by
  unfold tyEq at h; split at h
  · simp only [Bool.and_eq_true, beq_iff_eq] at h; exact ⟨_, rfl, tyEqM_spec _ _ h.1 h.2⟩
  · cases h

end Pcore.Lat

import Pcore.Model.Dispatch
import Pcore.Proofs.ListLoops
/-!
Helper lemmas for C16, for arbitrary `T V inst BT B binst` (core Lean only): "first match" (`firstMatch`, `List.findIdx?`) and `call`
as an instance of it; `instLoop` is "argument j against type min(j,last)".
-/
namespace Pcore.Dispatch

section Call
variable {T BT V B : Type} (inst : T → V → Bool) (binst : BT → B → Bool)

/-- the answer of a table that is tried from the front: the index of the first element that passes, or the argument error.  Both
    `call` (over the resolved dispatches) and `run` (over the creators, Proofs/DispatchRun.lean) are this -/
def firstMatch {α : Type} (p : α → Bool) (l : List α) : Outcome :=
  match l.findIdx? p with
  | some i => .ran i
  | none => .reported

theorem firstMatch_ran_iff {α : Type} (p : α → Bool) (l : List α) (i : Nat) :
    firstMatch p l = .ran i ↔
      ∃ x, l[i]? = some x ∧ p x = true ∧ ∀ j, j < i → ∀ y, l[j]? = some y → p y = false := by
  have h : firstMatch p l = .ran i ↔ l.findIdx? p = some i := by
    unfold firstMatch; cases l.findIdx? p <;> simp
  rw [h, List.findIdx?_eq_some_iff_getElem]
  constructor
  · rintro ⟨hlt, hp, hb⟩
    refine ⟨l[i], List.getElem?_eq_getElem hlt, hp, fun j hj y hy => ?_⟩
    obtain ⟨_, rfl⟩ := List.getElem?_eq_some_iff.mp hy
    simpa using hb j hj
  · rintro ⟨x, hx, hc, hall⟩
    obtain ⟨hlt, rfl⟩ := List.getElem?_eq_some_iff.mp hx
    exact ⟨hlt, hc, fun j hj => by simpa using hall j hj _ (List.getElem?_eq_getElem (Nat.lt_trans hj hlt))⟩

theorem firstMatch_reported_iff {α : Type} (p : α → Bool) (l : List α) :
    firstMatch p l = .reported ↔ ∀ x ∈ l, p x = false := by
  rw [← List.findIdx?_eq_none_iff]
  unfold firstMatch; cases l.findIdx? p <;> simp

theorem callFrom_eq (ds : List (Dispatch T BT)) (args : List V) (blk : Option B) : ∀ k,
    callFrom inst binst k ds args blk =
      match ds.findIdx? (fun d => callableWith inst binst d args blk) with
      | some i => .ran (k + i)
      | none => .reported := by
  induction ds with
  | nil => intro k; rfl
  | cons d ds ih =>
    intro k
    rw [callFrom, List.findIdx?_cons]
    split
    · rfl
    · rw [ih (k + 1)]
      cases List.findIdx? (fun d => callableWith inst binst d args blk) ds with
      | none => rfl
      | some i => simp only [Option.map_some, Nat.add_assoc, Nat.add_comm 1 i]

theorem call_eq (ds : List (Dispatch T BT)) (args : List V) (blk : Option B) :
    call inst binst ds args blk = firstMatch (fun d => callableWith inst binst d args blk) ds := by
  rw [call, callFrom_eq, firstMatch]
  cases List.findIdx? (fun d => callableWith inst binst d args blk) ds <;> simp

theorem call_ran_iff (ds : List (Dispatch T BT)) (args : List V) (blk : Option B) (i : Nat) :
    call inst binst ds args blk = .ran i ↔
      ∃ d, ds[i]? = some d ∧ callableWith inst binst d args blk = true ∧
        ∀ j, j < i → ∀ d', ds[j]? = some d' → callableWith inst binst d' args blk = false := by
  rw [call_eq, firstMatch_ran_iff]

theorem call_reported_iff (ds : List (Dispatch T BT)) (args : List V) (blk : Option B) :
    call inst binst ds args blk = .reported ↔ ∀ d ∈ ds, callableWith inst binst d args blk = false := by
  rw [call_eq, firstMatch_reported_iff]

theorem callableWith_noBlock (ts : List T) (mn : Nat) (mx : Option Nat) (args : List V) :
    callableWith inst binst ⟨ts, mn, mx, .none⟩ args (none : Option B) = tupleInst inst ts mn mx args := by
  simp [callableWith, blockOK]

/-- one step of `IsInstance3`: the type index moves on unless it is at the last type -/
theorem getElem_min_succ (t : T) (ts : List T) (j : Nat) :
    (t :: ts)[min (j + 1) ts.length]? = (ts.headD t :: ts.tail)[min j ts.tail.length]? := by
  cases ts with
  | nil => simp
  | cons t1 ts1 => exact clamp_succ t t1 ts1 j

theorem instLoop_iff (args : List V) : ∀ (t : T) (ts : List T),
    instLoop inst t ts args = true ↔
      ∀ j v, args[j]? = some v → ∃ t', (t :: ts)[min j ts.length]? = some t' ∧ inst t' v = true := by
  induction args with
  | nil => intro t ts; simp [instLoop]
  | cons a as ih =>
    intro t ts
    have hstep : instLoop inst t ts (a :: as) = (inst t a && instLoop inst (ts.headD t) ts.tail as) := by
      cases ts <;> rfl
    rw [hstep, Bool.and_eq_true, ih]
    constructor
    · rintro ⟨h0, hr⟩ j v hj
      cases j with
      | zero => cases hj; exact ⟨t, by simp, h0⟩
      | succ j' => rw [getElem_min_succ]; exact hr j' v hj
    · intro h
      refine ⟨?_, fun j v hj => ?_⟩
      · obtain ⟨t', ht', hi⟩ := h 0 a rfl
        simp at ht'; subst ht'; exact hi
      · rw [← getElem_min_succ]; exact h (j + 1) v hj

theorem tupleInst_iff (ts : List T) (mn : Nat) (mx : Option Nat) (args : List V) :
    tupleInst inst ts mn mx args = true ↔
      mn ≤ args.length ∧ leMax args.length mx = true ∧
      (ts = [] ∨ ∀ j v, args[j]? = some v → ∃ t, ts[min j (ts.length - 1)]? = some t ∧ inst t v = true) := by
  unfold tupleInst sizeOK
  simp only [Bool.and_eq_true, decide_eq_true_eq, and_assoc]
  refine and_congr_right fun _ => and_congr_right fun _ => ?_
  cases ts with
  | nil => simp
  | cons t ts => simpa using instLoop_iff inst args t ts

end Call

end Pcore.Dispatch

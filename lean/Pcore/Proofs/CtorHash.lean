import Pcore.Proofs.DispatchCtors
/-!
The Hash constructor from arrays: `WrapHashFromArray` on an array of `[key, value]` pairs and on a flat array, and the shape
of what the tree walk answers.  Core Lean only.
-/
namespace Pcore.Dispatch.Alpha

def pairArr (e : Val × Val) : Val := .arr [e.1, e.2]

theorem pairsOf_map (es : List (Val × Val)) : pairsOf (es.map pairArr) = some es := by
  induction es with
  | nil => rfl
  | cons e es ih => simp [pairArr, pairsOf, ih]

theorem hashFromArray_pairs (es : List (Val × Val)) (hne : es ≠ []) :
    hashFromArray (es.map pairArr) = .value (.hash es) := by
  unfold hashFromArray
  have h1 : (es.map pairArr).isEmpty = false := by cases es <;> simp at hne ⊢
  have h2 : (es.map pairArr).all isArr = true := by simp [pairArr, isArr]
  rw [h1, h2, pairsOf_map]
  rfl

theorem pairUp_flat (es : List (Val × Val)) : pairUp (es.flatMap fun e => [e.1, e.2]) = es := by
  induction es with
  | nil => rfl
  | cons e es ih => simp [pairUp, ih]

theorem treeLoop_hash (allHashes : Bool) (es : List Val) (root : List (Val × Node)) (r : Val)
    (h : treeLoop allHashes root es = .value r) : ∃ hs, r = .hash hs := by
  induction es generalizing root with
  | nil => simp [treeLoop] at h; exact ⟨_, h.symm⟩
  | cons e es ih =>
    simp only [treeLoop] at h
    cases hs : treeEntry allHashes root e with
    | ok root' => rw [hs] at h; exact ih root' h
    | unmodelled => rw [hs] at h; cases h
    | fault => rw [hs] at h; cases h

theorem run_hash_one (x : Val) :
    run inst binst hashCtor.creators [x] (none : Option Blk) =
      .called (if inst treeArray x then .ran 0 else if inst keyValueArray x then .ran 1
               else if inst iterableTy x then .ran 2 else .reported) := by
  -- the dispatch table as the builder resolves it
  rw [run_built inst binst (cs := hashCtor.creators) (ds :=
    [⟨[treeArray, .enum ["tree", "hash_tree"]], 1, some 2, .none⟩, ⟨[keyValueArray], 1, some 1, .none⟩,
     ⟨[iterableTy], 1, some 1, .none⟩]) rfl rfl]
  simp [call, callFrom, callableWith_noBlock, tupleInst, sizeOK, instLoop, leMax]

theorem keyValueArray_pairs (es : List (Val × Val)) (hne : es ≠ []) : inst keyValueArray (.arr (es.map pairArr)) = true := by
  have hlen : 1 ≤ (es.map pairArr).length := by cases es <;> simp at hne ⊢
  simp only [keyValueArray, inst, leMax, Bool.and_true, Bool.and_eq_true, decide_eq_true_eq, List.all_eq_true]
  refine ⟨hlen, ?_⟩
  intro x hx
  obtain ⟨e, _, rfl⟩ := List.mem_map.mp hx
  simp [pairArr, instZip, inst]

/-- `Hash.new([[k1,v1],…,[kn,vn]])`, n ≥ 1, whichever dispatch takes it (the tree-array one does when every key is an
    array): the constructor answers the hash with exactly these entries in this order -/
theorem hashCtor_pairs (es : List (Val × Val)) (hne : es ≠ []) :
    ctorCall hashCtor [.arr (es.map pairArr)] = .value (.hash es) := by
  rw [(ctorCall_of_run (run_hash_one _)).1, keyValueArray_pairs es hne]
  cases inst treeArray (.arr (es.map pairArr)) <;> simp [hashCtor, hashFromArray_pairs es hne]

end Pcore.Dispatch.Alpha

import Pcore.Proofs.FormatInt
/-! Reading a radix rendering back: `readRadix`, a reader on the specification's side written independently of the model,
    inverts every rendering of the shape spaces ++ sign ++ prefix ++ zeros ++ digits ++ spaces (`readRadix_shape`), hence
    every `field` (`readRadix_field`).  On the way the vocabulary FormatCtor shares: the zeros and digits as one printed
    digit list (`zeros_append_natStr`, `fill_lt`, `ofDigits_fill`), `SignOK`, and the sign of a field as blanks and a sign
    that commute (`signStr_shape`). -/
namespace Pcore.Format

def digitVal (c : Char) : Option Nat :=
  if '0' ≤ c ∧ c ≤ '9' then some (c.toNat - 48)
  else if 'a' ≤ c ∧ c ≤ 'f' then some (c.toNat - 87)
  else if 'A' ≤ c ∧ c ≤ 'F' then some (c.toNat - 55)
  else none

/-- the digits of a string in base `b`; `none` when a character is not a digit below `b` -/
def readDigits (b : Nat) : Str → Option (List Nat)
  | [] => some []
  | c :: cs =>
    match digitVal c with
    | some d => if d < b then (readDigits b cs).map (d :: ·) else none
    | none => none

def radixOf (letter : Char) : Nat :=
  if letter = 'x' ∨ letter = 'X' then 16 else if letter = 'o' then 8 else if letter = 'b' ∨ letter = 'B' then 2 else 10

/-- `0x` / `0X` / `0b` / `0B` in front of the digits, for the letter that writes it -/
def stripPrefix (letter : Char) (s : Str) : Str :=
  match s with
  | '0' :: c :: rest =>
    if (letter = 'x' ∧ c = 'x') ∨ (letter = 'X' ∧ c = 'X') ∨ (letter = 'b' ∧ c = 'b') ∨ (letter = 'B' ∧ c = 'B') then rest else s
  | _ => s

def splitSign : Str → Bool × Str
  | '-' :: r => (true, r)
  | '+' :: r => (false, r)
  | s => (false, s)

/-- Convert a rendering back: `[spaces][+|-][prefix]digits[spaces]` in the radix of the letter
    (what strconv.ParseInt does once the blanks and the prefix are removed). Written independently of the model. -/
def readRadix (letter : Char) (s : Str) : Option Int :=
  let s := s.dropWhile (· = ' ')
  let body := s.takeWhile (· ≠ ' ')
  let rest := s.dropWhile (· ≠ ' ')
  if rest.all (· = ' ') then
    let nb := splitSign body
    let ds := stripPrefix letter nb.2
    if ds.isEmpty then none
    else (readDigits (radixOf letter) ds).map fun xs =>
      if nb.1 then -(ofDigits (radixOf letter) xs : Int) else (ofDigits (radixOf letter) xs : Int)
  else none

theorem radixOf_eq_cBase (c : Char) : radixOf c = cBase c := rfl

theorem letterRadix_eq (c : Char) : letterRadix c = radixOf c := by
  unfold letterRadix radixOf; simp only [Bool.or_eq_true, decide_eq_true_eq]

theorem radixOf_bounds {c : Char} : 2 ≤ radixOf c ∧ radixOf c ≤ 16 := by
  unfold radixOf
  split
  · omega
  split
  · omega
  split <;> omega

theorem digitVal_digitChar (u : Bool) : ∀ d, d < 16 → digitVal (digitChar u d) = some d := by
  cases u <;> decide

/-- every character is a digit below `b` -/
def DigitStr (b : Nat) (s : Str) : Prop := ∀ c ∈ s, ∃ d, d < b ∧ digitVal c = some d

theorem DigitStr.append {b : Nat} {s t : Str} (hs : DigitStr b s) (ht : DigitStr b t) : DigitStr b (s ++ t) := by
  intro c hc
  rcases List.mem_append.mp hc with h | h
  · exact hs c h
  · exact ht c h

theorem DigitStr.of_digitChar {b : Nat} {u : Bool} {s : Str} (hb16 : b ≤ 16)
    (h : ∀ c ∈ s, ∃ d, d < b ∧ c = digitChar u d) : DigitStr b s :=
  fun c hc => let ⟨d, hd, e⟩ := h c hc; ⟨d, hd, e ▸ digitVal_digitChar u d (by omega)⟩

/-- the digit part of a field is one digit list, printed -/
theorem zeros_append_natStr (b : Nat) (u : Bool) (k n : Nat) :
    zeros k ++ natStr b u n = (List.replicate k 0 ++ toDigits b n).map (digitChar u) := by
  rw [List.map_append, List.map_replicate]; cases u <;> rfl

theorem fill_lt {b : Nat} (hb : 2 ≤ b) (k n : Nat) : ∀ d ∈ List.replicate k 0 ++ toDigits b n, d < b := by
  intro d hd
  rcases List.mem_append.mp hd with h | h
  · rw [(List.mem_replicate.mp h).2]; omega
  · exact toDigits_lt b hb n d h

theorem mem_zeros_natStr {b : Nat} (hb : 2 ≤ b) (u : Bool) (k n : Nat) :
    ∀ c ∈ zeros k ++ natStr b u n, ∃ d, d < b ∧ c = digitChar u d := by
  rw [zeros_append_natStr]
  intro c hc
  obtain ⟨d, hd, rfl⟩ := List.mem_map.mp hc
  exact ⟨d, fill_lt hb k n d hd, rfl⟩

theorem digitVal_not_sign {c : Char} {d : Nat} (h : digitVal c = some d) : c ≠ ' ' ∧ c ≠ '-' ∧ c ≠ '+' := by
  refine ⟨?_, ?_, ?_⟩ <;> (rintro rfl; cases h)

theorem readDigits_map {b : Nat} (u : Bool) (hb16 : b ≤ 16) :
    ∀ ds : List Nat, (∀ d ∈ ds, d < b) → readDigits b (ds.map (digitChar u)) = some ds
  | [], _ => rfl
  | d :: ds, h => by
    have hd : d < b := h d List.mem_cons_self
    simp only [List.map_cons, readDigits, digitVal_digitChar u d (by omega), if_pos hd,
      readDigits_map u hb16 ds fun x hx => h x (List.mem_cons_of_mem _ hx), Option.map_some]

theorem ofDigits_replicate_zero (b k : Nat) (ds : List Nat) : ofDigits b (List.replicate k 0 ++ ds) = ofDigits b ds := by
  induction k with
  | zero => simp
  | succ n ih => simp only [List.replicate_succ, List.cons_append]; simp [ofDigits] at ih ⊢; exact ih

theorem ofDigits_fill {b : Nat} (hb : 2 ≤ b) (k n : Nat) : ofDigits b (List.replicate k 0 ++ toDigits b n) = n := by
  rw [ofDigits_replicate_zero, ofDigits_toDigits b hb]

theorem trim_body (a bb : Nat) (body : Str) (hne : body ≠ []) (hb : ∀ c ∈ body, c ≠ ' ') :
    let s := (spaces a ++ body ++ spaces bb).dropWhile (· = ' ')
    s.takeWhile (· ≠ ' ') = body ∧ (s.dropWhile (· ≠ ' ')).all (· = ' ') = true := by
  have h1 : (spaces a ++ body ++ spaces bb).dropWhile (· = ' ') = body ++ spaces bb := by
    rw [List.append_assoc, List.dropWhile_append_of_pos (by intro c hc; simp [spaces] at hc; simp [hc.2])]
    cases body with
    | nil => exact absurd rfl hne
    | cons c cs =>
      have : c ≠ ' ' := hb c (by simp)
      simp [List.dropWhile_cons_of_neg, this]
  simp only [h1]
  constructor
  · rw [List.takeWhile_append_of_pos (by intro c hc; simpa using hb c hc)]
    simp [spaces]
  · rw [List.dropWhile_append_of_pos (by intro c hc; simpa using hb c hc)]
    simp [spaces]

/-- the sign in front of a rendering: `-` for a negative number, otherwise nothing or `+` -/
def SignOK (neg : Bool) (sign : Str) : Prop := (neg = true ∧ sign = ['-']) ∨ (neg = false ∧ (sign = [] ∨ sign = ['+']))

theorem not_prefixLetter {letter c : Char} {d : Nat} (hv : digitVal c = some d) (hd : d < radixOf letter) :
    ¬ ((letter = 'x' ∧ c = 'x') ∨ (letter = 'X' ∧ c = 'X') ∨ (letter = 'b' ∧ c = 'b') ∨ (letter = 'B' ∧ c = 'B')) := by
  rintro (⟨rfl, rfl⟩ | ⟨rfl, rfl⟩ | ⟨rfl, rfl⟩ | ⟨rfl, rfl⟩)
  · cases hv
  · cases hv
  · cases hv; revert hd; decide
  · cases hv; revert hd; decide

/-- the radix prefix a rendering may carry: none, or `0` and the letter for `x X b B` -/
def PfxOK (letter : Char) (pfx : Str) : Prop :=
  pfx = [] ∨ (pfx = ['0', letter] ∧ (letter = 'x' ∨ letter = 'X' ∨ letter = 'b' ∨ letter = 'B'))

theorem stripPrefix_pfx {letter : Char} {pfx D : Str} (hpfx : PfxOK letter pfx) (hD : DigitStr (radixOf letter) D) :
    stripPrefix letter (pfx ++ D) = D := by
  rcases hpfx with rfl | ⟨rfl, hl⟩
  · rw [List.nil_append]
    unfold stripPrefix
    split
    · rename_i c rest
      obtain ⟨d, hd, hv⟩ := hD c (by simp)
      exact if_neg (not_prefixLetter hv hd)
    · rfl
  · exact if_pos (by rcases hl with rfl | rfl | rfl | rfl <;> simp)

theorem splitSign_signOK {neg : Bool} {sign rest : Str} (hs : SignOK neg sign)
    (hr : ∀ c, rest.head? = some c → c ≠ '-' ∧ c ≠ '+') : splitSign (sign ++ rest) = (neg, rest) := by
  rcases hs with ⟨rfl, rfl⟩ | ⟨rfl, rfl | rfl⟩
  · rfl
  · cases rest with
    | nil => rfl
    | cons c cs =>
      obtain ⟨h1, h2⟩ := hr c rfl
      unfold splitSign
      split
      · rename_i h; exact absurd (List.cons.inj h).1 h1
      · rename_i h; exact absurd (List.cons.inj h).1 h2
      · rfl
  · rfl

theorem readRadix_shape (letter : Char) (u : Bool) (a k bb n : Nat) (sign pfx : Str) (neg : Bool)
    (hsign : SignOK neg sign) (hpfx : PfxOK letter pfx) :
    readRadix letter (spaces a ++ sign ++ pfx ++ zeros k ++ natStr (radixOf letter) u n ++ spaces bb) =
      some (if neg then -(n : Int) else (n : Int)) := by
  obtain ⟨hb2, hb16⟩ := radixOf_bounds (c := letter)
  have hD : DigitStr (radixOf letter) (zeros k ++ natStr (radixOf letter) u n) :=
    .of_digitChar hb16 (mem_zeros_natStr hb2 u k n)
  have hne : zeros k ++ natStr (radixOf letter) u n ≠ [] := List.append_ne_nil_of_right_ne_nil _ (natStr_ne_nil _ u n)
  have hread : ∃ xs, readDigits (radixOf letter) (zeros k ++ natStr (radixOf letter) u n) = some xs ∧
      ofDigits (radixOf letter) xs = n :=
    ⟨_, by rw [zeros_append_natStr]; exact readDigits_map u hb16 _ (fill_lt hb2 k n), ofDigits_fill hb2 k n⟩
  rw [show spaces a ++ sign ++ pfx ++ zeros k ++ natStr (radixOf letter) u n ++ spaces bb =
    spaces a ++ (sign ++ (pfx ++ (zeros k ++ natStr (radixOf letter) u n))) ++ spaces bb by simp only [List.append_assoc]]
  generalize zeros k ++ natStr (radixOf letter) u n = D at hD hne hread
  have hDc : ∀ c ∈ D, c ≠ ' ' ∧ c ≠ '-' ∧ c ≠ '+' := fun c hc => (hD c hc).elim fun _ hd => digitVal_not_sign hd.2
  -- the text after the sign begins with '0' or a digit, and has no blank
  have hpc : ∀ c ∈ pfx ++ D, c ≠ ' ' := by
    rcases hpfx with rfl | ⟨rfl, hl⟩
    · exact fun c hc => (hDc c hc).1
    · intro c hc
      rcases List.mem_cons.mp hc with rfl | hc; · decide
      rcases List.mem_cons.mp hc with rfl | hc
      · rcases hl with rfl | rfl | rfl | rfl <;> decide
      · exact (hDc c hc).1
  have hhead : ∀ c, (pfx ++ D).head? = some c → c ≠ '-' ∧ c ≠ '+' := by
    rcases hpfx with rfl | ⟨rfl, _⟩
    · exact fun c hc => (hDc c (List.mem_of_mem_head? hc)).2
    · intro c hc; cases hc; decide
  have hsc : ∀ c ∈ sign ++ (pfx ++ D), c ≠ ' ' := by
    intro c hc
    rcases List.mem_append.mp hc with h | h
    · rcases hsign with ⟨_, rfl⟩ | ⟨_, rfl | rfl⟩ <;> simp at h <;> rw [h] <;> decide
    · exact hpc c h
  obtain ⟨h1, h2⟩ := trim_body a bb (sign ++ (pfx ++ D)) (by simp [hne]) hsc
  have hemp : D.isEmpty = false := List.isEmpty_eq_false_iff.mpr hne
  obtain ⟨xs, hxs, hof⟩ := hread
  unfold readRadix
  simp only [h1, h2, if_true, splitSign_signOK hsign hhead, stripPrefix_pfx hpfx hD, hemp, Bool.false_eq_true, if_false,
    hxs, Option.map_some, hof]

/-- the blank of the blank flag is counted with the padding (`j`), on whichever side of the sign (`newInteger_field`
    needs it behind the sign, where the Integer constructor takes white space) -/
theorem signStr_shape (neg plus space : Bool) :
    ∃ j sign, signStr neg plus space = spaces j ++ sign ∧ spaces j ++ sign = sign ++ spaces j ∧ SignOK neg sign := by
  cases neg
  · cases plus
    · cases space
      · exact ⟨0, [], rfl, rfl, .inr ⟨rfl, .inl rfl⟩⟩
      · exact ⟨1, [], rfl, rfl, .inr ⟨rfl, .inl rfl⟩⟩
    · exact ⟨0, ['+'], rfl, rfl, .inr ⟨rfl, .inr rfl⟩⟩
  · exact ⟨0, ['-'], rfl, rfl, .inl ⟨rfl, rfl⟩⟩

theorem readRadix_field (letter : Char) (u minus neg plus space : Bool) (wid : Option Nat) (pfx : Str) (k n : Nat)
    (hpfx : PfxOK letter pfx) :
    readRadix letter (field minus wid (signStr neg plus space) pfx k (natStr (radixOf letter) u n)) =
      some (if neg then -(n : Int) else (n : Int)) := by
  obtain ⟨j, sign, hsg, _, hsok⟩ := signStr_shape neg plus space
  obtain ⟨a, bb, hpad⟩ := goPad_shape minus wid (spaces j ++ sign ++ pfx ++ zeros k ++ natStr (radixOf letter) u n)
  rw [field, hsg, hpad, ← readRadix_shape letter u (a + j) k bb n sign pfx neg hsok hpfx, ← spaces_add]
  simp only [List.append_assoc]

theorem int_of_natAbs (i : Int) : (if decide (i < 0) = true then -(i.natAbs : Int) else (i.natAbs : Int)) = i := by
  by_cases h : i < 0
  · simp [h]; omega
  · simp [h]; omega

end Pcore.Format

import Pcore.Proofs.LatTrans
import Pcore.Proofs.LatTransStruct
import Pcore.Proofs.LatWeaken
/-! C03, transitivity of `asg`: the receiver rules, for any fragment.  They compose on every fragment `F` closed under the sub-terms the
    rules descend into (`FragOK`), given transitivity at triples with a lighter left type and no heavier middle and right type (`IHL`):
    Scalar and ScalarData, the positional types, Collection, Hash, Struct, the wrappers, Iterable (over Proofs/LatTrans and
    Proofs/LatTransStruct).  At the end the two facts that hold whatever stands on the right, `accepts_any` and `trans_undef_gen` (over
    `wv_all` / `wo_all` of Proofs/LatWeaken).  The decompositions of the middle and right type, the aliases and the induction itself are in
    Proofs/LatTransU. -/
namespace Pcore.Lat
variable (cfg : Cfg) (sfh : Bool)

/-- What the induction asks of a fragment: Unit is outside (it is two-way assignable by definition); the types without a type term
    inside are in; sub-terms and the entry types `Tuple[k, v]` that Iterable synthesizes stay inside; a Struct inside means that the
    Struct-from-Hash rule is off and that its member names are pairwise different (asked of the left type too, which no `Ty.WF`
    hypothesis covers). -/
structure FragOK (F : Ty → Prop) : Prop where
  unit : ¬ F .unit
  leaf : ∀ t : Ty, t.isLeaf = true → F t
  array : ∀ {e r}, F (.array e r) → F e
  hash : ∀ {k v r}, F (.hash k v r) → F k ∧ F v
  tuple : ∀ {ts g}, F (.tuple ts g) → ∀ t ∈ ts, F t
  entry : ∀ {k v}, F k → F v → F (.tuple [k, v] none)
  struct : ∀ {ms}, F (.struct ms) → sfh = false ∧ NamesNodup ms ∧ ∀ m ∈ ms, F m.2.2
  variant : ∀ {ts}, F (.variant ts) → ∀ t ∈ ts, F t
  cov : ∀ {c t}, Cov c → F (c t) → F t

structure FHyp (F : Ty → Prop) (a b c : Ty) : Prop where
  fa : F a
  fb : F b
  fc : F c
  wb : Ty.WF cfg b
  wc : Ty.WF cfg c

def Tr (F : Ty → Prop) (a b c : Ty) : Prop :=
  FHyp cfg F a b c → asg cfg sfh a b = true → asg cfg sfh b c = true → asg cfg sfh a c = true

/-- the induction hypothesis of the receiver rules: a lighter left type, middle and right type no heavier (the induction of
    Proofs/LatTransU needs only the first bound; the other two let an induction on the summed weight supply the hypothesis as well:
    `Trans.ihl`, `TransG.ihl`, Proofs/LatTransFrag) -/
def IHL (F : Ty → Prop) (a b c : Ty) : Prop :=
  ∀ a' b' c', a'.w < a.w → b'.w ≤ b.w → c'.w ≤ c.w → Tr cfg sfh F a' b' c'

variable {F : Ty → Prop}

section
variable {cfg} {sfh} {a b c x : Ty}

theorem IHL.left (ih : IHL cfg sfh F a b c) (H : FHyp cfg F a b c) (hw : x.w < a.w) (fx : F x)
    (h1 : asg cfg sfh x b = true) (h2 : asg cfg sfh b c = true) : asg cfg sfh x c = true :=
  ih x b c hw (Nat.le_refl _) (Nat.le_refl _) ⟨fx, H.fb, H.fc, H.wb, H.wc⟩ h1 h2
end

/-- through the member of Scalar that accepts `b`; a member of ScalarData is accepted by one of Scalar -/
theorem tr_scalar_recv (hF : FragOK sfh F) (b c : Ty) (hc : c.plainR = true) (ih : IHL cfg sfh F .scalar b c)
    (H : FHyp cfg F .scalar b c) (h1 : asgRecv cfg sfh .scalar b = true) (h2 : asg cfg sfh b c = true) :
    asgRecv cfg sfh .scalar c = true := by
  have viaMember : ∀ m ∈ scalarMembers, ∀ b' : Ty, b'.w ≤ b.w → F b' → Ty.WF cfg b' → asg cfg sfh m b' = true →
      asg cfg sfh b' c = true → asgRecv cfg sfh .scalar c = true := by
    intro m hm b' hw fb wb hmb hbc
    obtain ⟨ml, mw, _⟩ := members_leaf (List.mem_append_left _ hm)
    refine (recv_scalar_iff cfg sfh c).2 (Or.inr (Or.inr ⟨m, hm, ?_⟩))
    exact ih m b' c (by rw [mw]; simp [Ty.w]) hw (Nat.le_refl _) ⟨hF.leaf m ml, fb, H.fc, wb, H.wc⟩ hmb hbc
  rcases (recv_scalar_iff cfg sfh b).1 h1 with rfl | rfl | ⟨m, hm, hmb⟩
  · rcases asg_plain_cases cfg sfh rfl hc h2 with rfl | h
    · exact h1
    · exact h
  · rcases asg_plain_cases cfg sfh rfl hc h2 with rfl | h
    · exact h1
    · rcases (recv_scalarData_iff cfg sfh c).1 h with rfl | ⟨m', hm', hmc⟩
      · exact h1
      · obtain ⟨ml, mw, _⟩ := members_leaf (List.mem_append_right scalarMembers hm')
        obtain ⟨mwf, s, hs, hsm⟩ := scalarDataMembers_facts cfg sfh hm'
        exact viaMember s hs m' (by rw [mw]; simp [Ty.w]) (hF.leaf m' ml) mwf hsm hmc
  · exact viaMember m hm b (Nat.le_refl _) H.fb H.wb hmb h2

theorem tr_scalarData_recv (hF : FragOK sfh F) (b c : Ty) (hc : c.plainR = true) (ih : IHL cfg sfh F .scalarData b c)
    (H : FHyp cfg F .scalarData b c) (h1 : asgRecv cfg sfh .scalarData b = true) (h2 : asg cfg sfh b c = true) :
    asgRecv cfg sfh .scalarData c = true := by
  rcases (recv_scalarData_iff cfg sfh b).1 h1 with rfl | ⟨m, hm, hmb⟩
  · rcases asg_plain_cases cfg sfh rfl hc h2 with rfl | h
    · exact h1
    · exact h
  · obtain ⟨ml, mw, _⟩ := members_leaf (List.mem_append_right scalarMembers hm)
    refine (recv_scalarData_iff cfg sfh c).2 (Or.inr ⟨m, hm, ?_⟩)
    exact ih.left H (by rw [mw]; simp [Ty.w]) (hF.leaf m ml) hmb h2

theorem pos_elem (hF : FragOK sfh F) (x : Ty) (hx : x.isPos = true) (t : Ty) (ht : t ∈ posTypes x) :
    t.w < x.w ∧ (F x → F t) ∧ (Ty.WF cfg x → Ty.WF cfg t) := by
  rcases isPos_cases hx with ⟨e, r, rfl⟩ | ⟨ts, g, rfl⟩
  · simp only [posTypes, List.mem_singleton] at ht; subst ht
    exact ⟨by simp [Ty.w], hF.array, Ty.WF.elem⟩
  · simp only [posTypes] at ht
    by_cases hts : ts.isEmpty = true
    · simp only [hts, if_true, List.mem_singleton] at ht; subst ht
      exact ⟨by simp only [Ty.w]; omega, fun _ => hF.leaf _ rfl, fun _ => Ty.wf_of_fragLeaf rfl cfg⟩
    · have ht' : t ∈ ts := by simpa [hts] using ht
      exact ⟨by have := Ty.w_lt_wl ht'; simp only [Ty.w]; omega, fun h => hF.tuple h t ht',
        fun h => h.mem_tuple ht'⟩

theorem tr_pos_recv (hF : FragOK sfh F) (a b c : Ty) (pa : a.isPos = true) (ih : IHL cfg sfh F a b c) (H : FHyp cfg F a b c)
    (h1 : asgRecv cfg sfh a b = true) (h2 : asgRecv cfg sfh b c = true) : asgRecv cfg sfh a c = true := by
  have pb := pos_closed cfg sfh a b pa h1
  have pc := pos_closed cfg sfh b c pb h2
  apply tr_pos_open cfg sfh a b c pa pb pc ?_ h1 h2
  intro a' ha' b' hb' c' hc'
  obtain ⟨wa', fa', _⟩ := pos_elem cfg sfh hF a pa a' ha'
  obtain ⟨wb', fb', wfb'⟩ := pos_elem cfg sfh hF b pb b' hb'
  obtain ⟨wc', fc', wfc'⟩ := pos_elem cfg sfh hF c pc c' hc'
  exact ih a' b' c' wa' (Nat.le_of_lt wb') (Nat.le_of_lt wc') ⟨fa' H.fa, fb' H.fb, fc' H.fc, wfb' H.wb, wfc' H.wc⟩

theorem tr_coll_recv (hF : FragOK sfh F) (r : Rng) (b c : Ty) (fb : F b) (fc : F c)
    (h1 : asgRecv cfg sfh (.coll r) b = true) (h2 : asgRecv cfg sfh b c = true) : asgRecv cfg sfh (.coll r) c = true := by
  unfold asgRecv at h1
  split at h1 <;> (first | contradiction | skip)
  · unfold asgRecv at h2 ⊢; split at h2 <;> (first | contradiction | skip)
    all_goals exact Rng.sub_trans h1 h2
  · unfold asgRecv at h2 ⊢; split at h2 <;> (first | contradiction | skip)
    · simp only [Bool.and_eq_true] at h2; exact Rng.sub_trans h1 h2.1
    · simp only [Bool.and_eq_true] at h2; exact Rng.sub_trans h1 h2.1
  · unfold asgRecv at h2 ⊢; split at h2 <;> (first | contradiction | skip)
    · rw [Bool.and_eq_true] at h2; exact Rng.sub_trans h1 h2.1
    · rw [Bool.and_eq_true] at h2; exact Rng.sub_trans h1 h2.1
  · unfold asgRecv at h2 ⊢; split at h2 <;> (first | contradiction | skip)
    · simp only [Bool.and_eq_true] at h2; exact Rng.sub_trans h1 h2.1
    · simp only [Bool.and_eq_true] at h2; exact Rng.sub_trans h1 h2.1
  · -- the middle type is a Struct: it accepts Structs only (the rule is off), and its size includes theirs
    rename_i ms'
    obtain ⟨hs, hn', _⟩ := hF.struct fb
    obtain ⟨ms'', rfl⟩ := struct_closed cfg sfh ms' c hs h2
    have := struct_sub_size cfg sfh ms' ms'' hn' (hF.struct fc).2.1 h2
    unfold asgRecv; exact Rng.sub_trans h1 this

def IsVal (x t : Ty) : Prop :=
  (∃ k r, x = .hash k t r) ∨ (∃ ms m, x = .struct ms ∧ m ∈ ms ∧ t = m.2.2)

theorem IsVal.w_lt {x t : Ty} (h : IsVal x t) : t.w < x.w := by
  rcases h with ⟨k, r, rfl⟩ | ⟨ms, m, rfl, hm, rfl⟩
  · simp only [Ty.w]; omega
  · have := Ty.w_lt_wm hm; simp only [Ty.w]; omega

theorem Ty.wm_ge {m : Member} {ms : List Member} (h : m ∈ ms) : 8 + m.2.2.w ≤ Ty.wm ms := by
  induction ms with
  | nil => cases h
  | cons a as ih =>
    obtain ⟨n, o, t⟩ := a
    simp only [Ty.wm]
    cases h with
    | head => simp
    | tail _ h' => have := ih h'; omega

theorem tr_hash_gen (hF : FragOK sfh F) (k v : Ty) (r : Rng) (b c : Ty) (fb : F b) (fc : F c) (wb : Ty.WF cfg b) (wc : Ty.WF cfg c)
    (elK : ∀ k' c', k'.w < b.w → c'.w < c.w → F k' → F c' → Ty.WF cfg k' → Ty.WF cfg c' → asg cfg sfh k k' = true →
      asg cfg sfh k' c' = true → asg cfg sfh k c' = true)
    (elV : ∀ v' c', IsVal b v' → IsVal c c' → F v' → F c' → Ty.WF cfg v' → Ty.WF cfg c' → asg cfg sfh v v' = true →
      asg cfg sfh v' c' = true → asg cfg sfh v c' = true)
    (h1 : asgRecv cfg sfh (.hash k v r) b = true) (h2 : asgRecv cfg sfh b c = true) : asgRecv cfg sfh (.hash k v r) c = true := by
  rcases hash_closed cfg sfh h1 with ⟨k', v', r', rfl⟩ | ⟨ms', rfl⟩
  · obtain ⟨fk', fv'⟩ := hF.hash fb
    obtain ⟨s1, e1⟩ := (recv_hash_hash_iff ..).1 h1
    rcases hash_closed cfg sfh h2 with ⟨k'', v'', r'', rfl⟩ | ⟨ms'', rfl⟩
    · obtain ⟨fk'', fv''⟩ := hF.hash fc
      obtain ⟨s2, e2⟩ := (recv_hash_hash_iff ..).1 h2
      refine (recv_hash_hash_iff ..).2 ⟨Rng.sub_trans s1 s2, ?_⟩
      by_cases hz : r''.hi ≤ 0
      · exact Or.inl hz
      · obtain ⟨hA1, hA2⟩ := e1.resolve_left (Rng.sub_hi_pos s2 hz)
        obtain ⟨hB1, hB2⟩ := e2.resolve_left hz
        exact Or.inr ⟨elK k' k'' (by simp only [Ty.w]; omega) (by simp only [Ty.w]; omega) fk' fk'' wb.key wc.key hA1 hB1,
          elV v' v'' (Or.inl ⟨_, _, rfl⟩) (Or.inl ⟨_, _, rfl⟩) fv' fv'' wb.val wc.val hA2 hB2⟩
    · obtain ⟨_, _, fms''⟩ := hF.struct fc
      obtain ⟨s2, e2⟩ := (recv_hash_struct_iff ..).1 h2
      refine (recv_hash_struct_iff ..).2 ⟨Rng.sub_trans s1 s2, fun m'' hm'' => ?_⟩
      obtain ⟨hA1, hA2⟩ := e1.resolve_left (Rng.sub_hi_pos s2 (struct_size_hi_pos hm''))
      obtain ⟨hB1, hB2⟩ := e2 m'' hm''
      have := Ty.wm_ge hm''
      exact ⟨elK k' (.strVal m''.1) (by simp only [Ty.w]; omega) (by simp only [Ty.w]; omega) fk' (hF.leaf _ rfl) wb.key
          (Ty.wf_of_fragLeaf rfl cfg) hA1 hB1,
        elV v' m''.2.2 (Or.inl ⟨_, _, rfl⟩) (Or.inr ⟨_, m'', rfl, hm'', rfl⟩) fv' (fms'' m'' hm'') wb.val (wc.member hm'') hA2 hB2⟩
  · obtain ⟨hs, hn', fms'⟩ := hF.struct fb
    obtain ⟨ms'', rfl⟩ := struct_closed cfg sfh ms' c hs h2
    obtain ⟨_, hn'', fms''⟩ := hF.struct fc
    obtain ⟨s1, e1⟩ := (recv_hash_struct_iff ..).1 h1
    refine (recv_hash_struct_iff ..).2 ⟨Rng.sub_trans s1 (struct_sub_size cfg sfh ms' ms'' hn' hn'' h2), ?_⟩
    rw [← asgMembers_iff] at e1 ⊢
    exact members_trans cfg sfh k v ms' ms'' hn' hn'' (fun m' hm' m'' hm'' =>
      elV m'.2.2 m''.2.2 (Or.inr ⟨_, m', rfl, hm', rfl⟩) (Or.inr ⟨_, m'', rfl, hm'', rfl⟩) (fms' m' hm') (fms'' m'' hm'')
        (wb.member hm') (wc.member hm'')) e1 h2

theorem tr_hash_recv (hF : FragOK sfh F) (k v : Ty) (r : Rng) (b c : Ty) (ih : IHL cfg sfh F (.hash k v r) b c)
    (H : FHyp cfg F (.hash k v r) b c)
    (h1 : asgRecv cfg sfh (.hash k v r) b = true) (h2 : asgRecv cfg sfh b c = true) : asgRecv cfg sfh (.hash k v r) c = true := by
  obtain ⟨fk, fv⟩ := hF.hash H.fa
  apply tr_hash_gen cfg sfh hF k v r b c H.fb H.fc H.wb H.wc ?_ ?_ h1 h2
  · intro k' c' hk' hc' f1 f2 w1 w2
    exact ih k k' c' (by simp only [Ty.w]; omega) (Nat.le_of_lt hk') (Nat.le_of_lt hc') ⟨fk, f1, f2, w1, w2⟩
  · intro v' c' i1 i2 f1 f2 w1 w2
    exact ih v v' c' (by simp only [Ty.w]; omega) (Nat.le_of_lt i1.w_lt) (Nat.le_of_lt i2.w_lt) ⟨fv, f1, f2, w1, w2⟩

theorem tr_struct_recv (hF : FragOK sfh F) (ms : List Member) (b c : Ty) (ih : IHL cfg sfh F (.struct ms) b c)
    (H : FHyp cfg F (.struct ms) b c)
    (h1 : asgRecv cfg sfh (.struct ms) b = true) (h2 : asgRecv cfg sfh b c = true) : asgRecv cfg sfh (.struct ms) c = true := by
  obtain ⟨hs, hn, fms⟩ := hF.struct H.fa
  obtain ⟨ms', rfl⟩ := struct_closed cfg sfh ms b hs h1
  obtain ⟨_, hn', fms'⟩ := hF.struct H.fb
  obtain ⟨ms'', rfl⟩ := struct_closed cfg sfh ms' c hs h2
  obtain ⟨_, hn'', fms''⟩ := hF.struct H.fc
  apply struct_trans cfg sfh ms ms' ms'' hn hn' hn'' ?_ h1 h2
  intro m hm m' hm' m'' hm''
  have := Ty.w_lt_wm hm; have := Ty.w_lt_wm hm'; have := Ty.w_lt_wm hm''
  exact ih m.2.2 m'.2.2 m''.2.2 (by simp only [Ty.w]; omega) (by simp only [Ty.w]; omega) (by simp only [Ty.w]; omega)
    ⟨fms m hm, fms' m' hm', fms'' m'' hm'', H.wb.member hm', H.wc.member hm''⟩

/-- a wrapper `K` whose rule is "the same wrapper, on the content" (`Wrap`): `K x ⊒ b ⊒ c` is `x ⊒ y ⊒ z` on the contents -/
theorem tr_wrap_recv {K : Ty → Ty} (hK : Wrap K) (hf : ∀ {x}, F (K x) → F x) (x b c : Ty) (ih : IHL cfg sfh F (K x) b c) (H : FHyp cfg F (K x) b c)
    (h1 : asgRecv cfg sfh (K x) b = true) (h2 : asgRecv cfg sfh b c = true) : asgRecv cfg sfh (K x) c = true := by
  obtain ⟨y, rfl, hxy⟩ := (recv_wrap_iff cfg sfh hK x b).1 h1
  obtain ⟨z, rfl, hyz⟩ := (recv_wrap_iff cfg sfh hK y c).1 h2
  have hw : ∀ t, (K t).w = 2 + t.w := fun t => by cases hK <;> rfl
  have := hw x; have := hw y; have := hw z
  have hc := hK.cov
  exact (recv_wrap_iff cfg sfh hK x _).2 ⟨z, rfl, ih x y z (by omega) (by omega) (by omega)
    ⟨hf H.fa, hf H.fb, hf H.fc, H.wb.inner hc, H.wc.inner hc⟩ hxy hyz⟩

/-! Iterable as the receiver.  On the positional types its rule is the position loop `tupZip [x] …` without a size test; on a Hash type it
    asks about the entry type `Tuple[k, v]`, on a Struct about the entry type `Tuple[String[name], t]` of every member (as repaired in /repo
    f8eabd3: Struct, Enum and Pattern arms); these synthesized tuples are no heavier than the Hash / Struct they come from (the weights 8
    of `Ty.w`), so `IHL` reaches them. -/

theorem entry_asg (k v k' v' : Ty) :
    asg cfg sfh (.tuple [k, v] none) (.tuple [k', v'] none) = (asg cfg sfh k k' && asg cfg sfh v v') := by
  rw [asg_plain_r cfg sfh _ _ rfl]
  simp only [Ty.isAny, sameNullary, Bool.false_or]
  unfold asgRecv
  simp only [tupleSize, Rng.exact, Rng.sub, List.isEmpty_cons, List.length_cons, List.length_nil, Bool.false_or]
  unfold tupZip
  simp only []
  unfold tupZip
  simp

theorem wf_entry {k v : Ty} (hk : Ty.WF cfg k) (hv : Ty.WF cfg v) : Ty.WF cfg (.tuple [k, v] none) :=
  Ty.wf_tuple.2 fun t ht => by
    simp only [List.mem_cons, List.not_mem_nil, or_false] at ht
    rcases ht with rfl | rfl <;> assumption

theorem w_entry (k v : Ty) : (Ty.tuple [k, v] none).w = 6 + k.w + v.w := by simp only [Ty.w, Ty.wl]; omega

theorem entry_of_hash (hF : FragOK sfh F) {k v : Ty} {r : Rng} (f : F (.hash k v r)) (w : Ty.WF cfg (.hash k v r)) :
    F (.tuple [k, v] none) ∧ Ty.WF cfg (.tuple [k, v] none) ∧ (Ty.tuple [k, v] none).w ≤ (Ty.hash k v r).w := by
  exact ⟨hF.entry (hF.hash f).1 (hF.hash f).2, wf_entry cfg w.key w.val, by rw [w_entry]; simp only [Ty.w]; omega⟩

theorem entry_of_member (hF : FragOK sfh F) {ms : List Member} {m : Member} (f : F (.struct ms)) (w : Ty.WF cfg (.struct ms))
    (hm : m ∈ ms) :
    F (.tuple [.strVal m.1, m.2.2] none) ∧ Ty.WF cfg (.tuple [.strVal m.1, m.2.2] none) ∧
      (Ty.tuple [.strVal m.1, m.2.2] none).w ≤ (Ty.struct ms).w := by
  have := Ty.wm_ge hm
  exact ⟨hF.entry (hF.leaf _ rfl) ((hF.struct f).2.2 m hm), wf_entry cfg (Ty.wf_of_fragLeaf rfl cfg) (w.member hm),
    by rw [w_entry]; simp only [Ty.w]; omega⟩

theorem tr_iterable_recv (hF : FragOK sfh F) (x b c : Ty) (ih : IHL cfg sfh F (.iterable x) b c) (H : FHyp cfg F (.iterable x) b c)
    (h1 : asgRecv cfg sfh (.iterable x) b = true) (h2 : asgRecv cfg sfh b c = true) : asgRecv cfg sfh (.iterable x) c = true := by
  have fa := hF.cov .iterable H.fa
  have hx : x.w < (Ty.iterable x).w := by simp [Ty.w]
  have hcp := Ty.w_pos c
  by_cases pb : b.isPos = true
  · -- positional middle type: the loop `[x]` against b's types, then b's against c's
    have pc := pos_closed cfg sfh b c pb h2
    rw [recv_iter_pos cfg sfh x b pb] at h1
    rw [recv_pos cfg sfh b c pb pc, Bool.and_eq_true] at h2
    rw [recv_iter_pos cfg sfh x c pc]
    apply tupZip_trans cfg sfh _ _ _ _ _ (Rng.sub_hi_le h2.1) (by simp) (posTypes_ne b pb) (posTypes_ne c pc) ?_ h1 h2.2
    intro a' ha' b' hb' c' hc'
    simp only [List.mem_singleton] at ha'; subst ha'
    obtain ⟨wb', fb', wfb'⟩ := pos_elem cfg sfh hF b pb b' hb'
    obtain ⟨wc', fc', wfc'⟩ := pos_elem cfg sfh hF c pc c' hc'
    exact ih a' b' c' hx (Nat.le_of_lt wb') (Nat.le_of_lt wc') ⟨fa, fb' H.fb, fc' H.fc, wfb' H.wb, wfc' H.wc⟩
  by_cases sb : isStringFamily b = true
  · have sc := family_closed cfg sfh sb h2
    rw [recv_iter_family cfg sfh x b sb] at h1
    rw [recv_iter_family cfg sfh x c sc]; exact h1
  -- the remaining arms of Iterable's rule: Binary, Hash, Struct, Iterable
  have hb := h1
  unfold asgRecv at hb
  split at hb <;> (first | cases hb | (exfalso; exact pb rfl) | (exfalso; exact sb rfl) | skip)
  · unfold asgRecv at h2; split at h2 <;> (first | contradiction | skip)
    exact h1
  · rename_i k' v' r'
    obtain ⟨feb, web, hwb⟩ := entry_of_hash cfg sfh hF H.fb H.wb
    unfold asgRecv at h1
    simp only [Bool.or_eq_true, decide_eq_true_eq] at h1
    unfold asgRecv at h2; split at h2 <;> (first | contradiction | skip)
    · rename_i k'' v'' r''
      obtain ⟨fec, wec, hwc⟩ := entry_of_hash cfg sfh hF H.fc H.wc
      rw [Bool.and_eq_true] at h2
      unfold asgRecv
      simp only [Bool.or_eq_true, decide_eq_true_eq]
      by_cases hz : r''.hi ≤ 0
      · left; exact hz
      · right
        have hz' := Rng.sub_hi_pos h2.1 hz
        have hB := h2.2
        simp only [Bool.or_eq_true, decide_eq_true_eq] at hB
        have hB' := hB.resolve_left hz
        have hA := h1.resolve_left hz'
        apply ih x (.tuple [k', v'] none) (.tuple [k'', v''] none) hx hwb hwc ⟨fa, feb, fec, web, wec⟩ hA
        rw [entry_asg]; exact hB'
    · rename_i ms''
      rw [Bool.and_eq_true] at h2
      unfold asgRecv
      rw [iterMembers_iff]
      intro m'' hm''
      obtain ⟨fec, wec, hwc⟩ := entry_of_member cfg sfh hF H.fc H.wc hm''
      have hz : ¬ (structSize ms'').hi ≤ 0 := struct_size_hi_pos hm''
      have hz' := Rng.sub_hi_pos h2.1 hz
      have hA := h1.resolve_left hz'
      have hB := (asgMembers_iff cfg sfh k' v' ms'').1 h2.2 m'' hm''
      apply ih x (.tuple [k', v'] none) (.tuple [.strVal m''.1, m''.2.2] none) hx hwb hwc ⟨fa, feb, fec, web, wec⟩ hA
      rw [entry_asg, hB.1, hB.2]; rfl
  · rename_i ms'
    obtain ⟨hs, hn', _⟩ := hF.struct H.fb
    obtain ⟨ms'', rfl⟩ := struct_closed cfg sfh ms' c hs h2
    obtain ⟨_, hn'', _⟩ := hF.struct H.fc
    obtain ⟨b1, b2⟩ := (struct_recv_iff cfg sfh ms' ms'' hn' hn'').1 h2
    unfold asgRecv at h1 ⊢
    rw [iterMembers_iff] at h1 ⊢
    intro m'' hm''
    obtain ⟨m', hm', hk'⟩ := b2 m'' hm''
    have hB := (b1 m' hm').1 m'' hm'' hk'.symm
    obtain ⟨feb, web, hwb⟩ := entry_of_member cfg sfh hF H.fb H.wb hm'
    obtain ⟨fec, wec, hwc⟩ := entry_of_member cfg sfh hF H.fc H.wc hm''
    apply ih x (.tuple [.strVal m'.1, m'.2.2] none) (.tuple [.strVal m''.1, m''.2.2] none) hx hwb hwc ⟨fa, feb, fec, web, wec⟩
      (h1 m' hm')
    rw [entry_asg, hB.2, hk']
    rw [asg_plain_r cfg sfh _ _ rfl]; simp [asgRecv]
  · rename_i y
    have fb := hF.cov .iterable H.fb
    have wb := H.wb.inner .iterable
    have hxy : asg cfg sfh x y = true := by unfold asgRecv at h1; exact h1
    have hy : y.w ≤ (Ty.iterable y).w := by simp [Ty.w]
    by_cases pc : c.isPos = true
    · rw [recv_iter_pos cfg sfh y c pc, tupZipL_iff cfg sfh y _ _ (posTypes_ne c pc)] at h2
      rw [recv_iter_pos cfg sfh x c pc, tupZipL_iff cfg sfh x _ _ (posTypes_ne c pc)]
      intro j t hj ht
      obtain ⟨wc', fc', wfc'⟩ := pos_elem cfg sfh hF c pc t (List.mem_of_getElem? ht)
      exact ih x y t hx hy (Nat.le_of_lt wc') ⟨fa, fb, fc' H.fc, wb, wfc' H.wc⟩ hxy (h2 j t hj ht)
    by_cases sc : isStringFamily c = true
    · rw [recv_iter_family cfg sfh y c sc] at h2
      rw [recv_iter_family cfg sfh x c sc]
      exact ih x y _ hx hy (by simp only [Ty.w]; omega) ⟨fa, fb, hF.leaf _ rfl, wb, Ty.wf_of_fragLeaf rfl cfg⟩ hxy h2
    have hc' := h2
    unfold asgRecv at hc'
    split at hc' <;> (first | cases hc' | (exfalso; exact pc rfl) | (exfalso; exact sc rfl) | skip)
    · unfold asgRecv at h2 ⊢
      exact ih x y _ hx hy (by simp [Ty.w]) ⟨fa, fb, hF.leaf _ rfl, wb, Ty.wf_of_fragLeaf rfl cfg⟩ hxy h2
    · rename_i k'' v'' r''
      obtain ⟨fec, wec, hwc⟩ := entry_of_hash cfg sfh hF H.fc H.wc
      unfold asgRecv at h2 ⊢
      simp only [Bool.or_eq_true, decide_eq_true_eq] at h2 ⊢
      rcases h2 with h2 | h2
      · left; exact h2
      · right
        exact ih x y _ hx hy hwc ⟨fa, fb, fec, wb, wec⟩ hxy h2
    · rename_i ms''
      unfold asgRecv at h2 ⊢
      rw [iterMembers_iff] at h2 ⊢
      intro m'' hm''
      obtain ⟨fec, wec, hwc⟩ := entry_of_member cfg sfh hF H.fc H.wc hm''
      exact ih x y _ hx hy hwc ⟨fa, fb, fec, wb, wec⟩ hxy (h2 m'' hm'')
    · rename_i z
      unfold asgRecv at h2 ⊢
      exact ih x y z hx hy (by simp [Ty.w]) ⟨fa, fb, hF.cov .iterable H.fc, wb, H.wc.inner .iterable⟩ hxy h2

/-! What holds whatever stands on the right, by induction on one type alone (the rules of Proofs/LatTransCall and Proofs/LatTransDAcc and
    the step of Proofs/LatTransU use both): what accepts Any accepts every type, and what accepts a type that accepts Undef accepts Undef. -/

theorem Ty.isAny_eq {t : Ty} (h : t.isAny = true) : t = .any := by cases t <;> first | rfl | cases h

theorem accepts_any (hF : FragOK sfh F) (a : Ty) (fa : F a) (h : asg cfg sfh a .any = true) (c : Ty) : asg cfg sfh a c = true := by
  induction hn : a.w using Nat.strongRecOn generalizing a with
  | ind n ih =>
    by_cases hA : a.isAny = true
    · exact asg_of_isAny cfg sfh hA c
    rcases asg_plain_cases cfg sfh (eq_false_of_ne_true hA) rfl h with rfl | h
    · exact asg_any_l cfg sfh c
    · rcases recv_any_cases cfg sfh a h with rfl | rfl | ⟨as, m, rfl, hm, hm'⟩ | ⟨x, rfl, hx⟩
      · exact asg_any_l cfg sfh c
      · exact absurd fa hF.unit
      · exact wv_all cfg sfh hm (ih m.w (hn ▸ Ty.w_lt_variant hm) m (hF.variant fa m hm) hm' rfl)
      · exact wo_all cfg sfh (ih x.w (hn ▸ Ty.w_lt_cov .optional x) x (hF.cov .optional fa) hx rfl)

theorem trans_undef_gen (hF : FragOK sfh F) (b c : Ty) (fb : F b) (fc : F c) (h1 : asg cfg sfh b c = true)
    (h2 : asg cfg sfh c .undef = true) : asg cfg sfh b .undef = true := by
  induction hn : c.w using Nat.strongRecOn generalizing c with
  | ind n ih =>
    by_cases hC : c.isAny = true
    · cases Ty.isAny_eq hC
      exact accepts_any cfg sfh hF b fb h1 _
    rcases asg_plain_cases cfg sfh (eq_false_of_ne_true hC) rfl h2 with rfl | h2
    · exact h1
    · rcases recv_undef_cases cfg sfh c h2 with h | rfl | rfl | rfl | rfl | ⟨x, rfl⟩ | ⟨cs, m, rfl, hm, hmu⟩
      · exact absurd h hC
      · exact absurd fc hF.unit
      · exact h1
      · exact (asg_data_comps cfg sfh h1).2.1
      · exact (asg_rich_comps cfg sfh h1).un
      · exact (asg_optional_parts cfg sfh h1).1
      · exact ih m.w (hn ▸ Ty.w_lt_variant hm) m (hF.variant fc m hm) (asg_variant_parts cfg sfh h1 m hm) hmu rfl

end Pcore.Lat

import Pcore.Proofs.FormatUnparse
/-! The float path around the digits: whatever digit string fmt returns (`FloatIO.sprintf` is a parameter), the
    post-processing keeps it intact.  `padNumber` is the reference's layout of a sign and the rest (`padNumber_cLayout`:
    the width is reached, zeros stand only between sign and digits); what `floatGFormat` restores of the fraction does not
    depend on the sign (`gRestored_sign`) and is a suffix of `.` and zeros (`gRestored_prefix`).  The width of the whole path
    (`fmtFloat_width_all`) needs the one assumption of the file, `IOWidth`: fmt pads its own output to the directive's width. -/
namespace Pcore.Format

def isSignChar (c : Char) : Bool := c = '+' || c = '-' || c = ' '

/-- a number text split into its sign character (if any) and the rest -/
def splitNumSign : Str → Str × Str
  | c :: cs => if isSignChar c then ([c], cs) else ([], c :: cs)
  | [] => ([], [])

theorem splitNumSign_append (s : Str) : (splitNumSign s).1 ++ (splitNumSign s).2 = s := by
  cases s with
  | nil => rfl
  | cons c cs => simp only [splitNumSign]; by_cases h : isSignChar c = true <;> simp [h]

theorem padNumber_cLayout (f : Fmt) (s : Str) :
    padNumber f s = cLayout (splitNumSign s).1 [] (splitNumSign s).2 f.width f.left f.zeroPad := by
  have hs := splitNumSign_append s
  have hl : (splitNumSign s).1.length + ([] : Str).length + (splitNumSign s).2.length = s.length := by
    rw [List.length_nil, Nat.add_zero, ← List.length_append, hs]
  unfold padNumber cLayout
  cases f.width with
  | none => simp only [List.append_nil, hs]
  | some w =>
    simp only [hl, List.append_nil, hs]
    by_cases h0 : w ≤ s.length
    · rw [if_pos (Nat.sub_eq_zero_of_le h0), if_pos h0]
    · rw [if_neg (by omega), if_neg h0]
      cases f.left <;> cases f.zeroPad <;> simp only [Bool.false_eq_true, if_false, if_true, List.append_assoc, hs]
      -- zeros between the sign character and the rest
      cases s with
      | nil => simp [splitNumSign]
      | cons c cs =>
        simp only [splitNumSign, isSignChar]
        by_cases hc : (c = '+' || c = '-' || c = ' ') = true
        · simp only [hc, if_true]; simp
        · simp only [hc]; simp

theorem padNumber_width (f : Fmt) (s : Str) (w : Nat) (hw : f.width = some w) : w ≤ (padNumber f s).length := by
  rw [padNumber_cLayout, cLayout_field, hw]; exact field_width _ _ _ _ _ _

theorem contains_dot_sign {c : Char} (str : Str) (hc : isSignChar c = true) : (c :: str).contains '.' = str.contains '.' := by
  have hdot : ('.' == c) = false := by
    simp only [isSignChar, Bool.or_eq_true, decide_eq_true_eq] at hc
    rcases hc with (rfl | rfl) | rfl <;> rfl
  rw [List.contains_cons, hdot, Bool.false_or]

/-- the sign character does not change how many zeros are restored (the defect fixed by 457acd0) -/
theorem gMissing_sign (f : Fmt) (c : Char) (str : Str) (hc : isSignChar c = true) (hs : ∀ x, str.head? = some x → isSignChar x = false) :
    gMissing f (c :: str) = gMissing f str := by
  have hcont := contains_dot_sign str hc
  have hdig : gDigits (c :: str) = gDigits str := by
    unfold gDigits
    have hc' : (c = '+' || c = '-' || c = ' ') = true := hc
    simp only [hc', if_true]
    cases str with
    | nil => rfl
    | cons x xs =>
      have := hs x rfl
      have hx : (x = '+' || x = '-' || x = ' ') = false := this
      simp [hx]
  unfold gMissing
  rw [hcont, hdig]

theorem gForced_sign (f : Fmt) (c : Char) (str : Str) (hc : isSignChar c = true) (hs : ∀ x, str.head? = some x → isSignChar x = false) :
    gForced f (c :: str) = gForced f str := by
  have hcont := contains_dot_sign str hc
  unfold gForced
  rw [hcont, gMissing_sign f c str hc hs]

theorem gRestored_sign (f : Fmt) (c : Char) (str : Str) (hc : isSignChar c = true) (hs : ∀ x, str.head? = some x → isSignChar x = false) :
    gRestored f (c :: str) = c :: gRestored f str := by
  have hcont := contains_dot_sign str hc
  unfold gRestored
  rw [hcont, gMissing_sign f c str hc hs]
  simp

theorem gRestored_prefix (f : Fmt) (str : Str) :
    ∃ suffix, gRestored f str = str ++ suffix ∧ (∀ c ∈ suffix, c = '.' ∨ c = '0') ∧ (gRestored f str).contains '.' = true := by
  unfold gRestored
  refine ⟨(if str.contains '.' then [] else '.' :: (if gMissing f str = 0 then ['0'] else [])) ++ zeros (gMissing f str).toNat,
    by simp [List.append_assoc], ?_, ?_⟩
  · intro c hc
    simp only [List.mem_append] at hc
    rcases hc with hc | hc
    · by_cases hd : str.contains '.' = true
      · rw [if_pos hd] at hc; simp at hc
      · rw [if_neg hd] at hc
        rcases List.mem_cons.mp hc with rfl | hc'
        · exact Or.inl rfl
        · by_cases hm : gMissing f str = 0
          · rw [if_pos hm] at hc'; simp at hc'; exact Or.inr hc'
          · rw [if_neg hm] at hc'; simp at hc'
    · simp [zeros] at hc; exact Or.inr hc.2
  · by_cases hd : str.contains '.' = true
    · have hm : '.' ∈ str := by simpa using hd
      rw [if_pos hd]
      simp [hm]
    · rw [if_neg hd]
      simp

/-- the one thing assumed of fmt's float code here: it pads its own output to the width of the directive -/
def IOWidth (io : FloatIO) : Prop :=
  ∀ (fm : Str) (bits : Nat) (g : GoSpec) (w : Nat), goParse fm = some g → g.wid = some w → w ≤ (io.sprintf fm bits).length

theorem sprintfF_width (io : FloatIO) (hio : IOWidth io) (fm : Str) (bits : Nat) (g : GoSpec) (w : Nat) (s : Str)
    (hg : goParse fm = some g) (hw : g.wid = some w) (h : sprintfF io fm bits = .ok s) : w ≤ s.length := by
  unfold sprintfF at h
  rw [hg] at h
  simp only at h
  split at h
  · cases h; exact hio fm bits g w hg hw
  · cases h

/-- `floatGFormat` reaches the width on each of its three ways out: scientific text padded by `padNumber` (the width
    was lost here before 25b91c3), forced scientific notation printed by fmt with the width, restored fraction padded
    by `padNumber` -/
theorem floatGFormat_width (io : FloatIO) (hio : IOWidth io) (f : Fmt) (hwf : FmtWF f) (bits w : Nat) (s : Str)
    (hw : f.width = some w) (h : floatGFormat io f bits = .ok s) : w ≤ s.length := by
  unfold floatGFormat at h
  cases hs : sprintfF io (goFormat (withoutWidth f)) bits with
  | error e => rw [hs] at h; cases h
  | ok str =>
    rw [hs] at h
    simp only at h
    unfold floatGRest at h
    simp only at h
    by_cases h1 : str.contains (if f.letter = 'G' then 'E' else 'e') = true
    · rw [if_pos h1] at h; cases h; exact padNumber_width f str w hw
    · rw [if_neg h1] at h
      by_cases h2 : gForced f str = true
      · rw [if_pos h2] at h
        have hl : isLetter (if f.letter = 'G' then 'E' else 'e') = true := by split <;> decide
        obtain ⟨g, hg, _, hgw⟩ := goParse_replace f hwf _ hl
        exact sprintfF_width io hio _ bits g w s hg (by rw [hgw, hw]) h
      · rw [if_neg h2] at h; cases h; exact padNumber_width f _ w hw

theorem fmtFloat_width_all (io : FloatIO) (hio : IOWidth io) (f : Fmt) (hwf : FmtWF f) (hgo : GoOK f) (bits w : Nat)
    (s : Str) (hw : f.width = some w) (h : fmtFloat io f bits = .text s) : w ≤ s.length := by
  obtain ⟨g, hg, ha⟩ := hgo.spec
  refine (fmtFloat_ends io f bits).width hw hgo (fun _ bits x hx => ?_) h
  rcases hx with hx | hx
  · exact sprintfF_width io hio _ bits g w x hg (ha.wid.trans hw) hx
  · exact floatGFormat_width io hio f hwf bits w x hw hx

end Pcore.Format

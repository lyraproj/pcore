import Pcore.Proofs.Object
/-! C17: the assignability the override check uses (`asg`, types.go GuardedIsAssignable on the attribute-type alphabet) is
    SOUND for the instance relation `inst`: a type that `asg` lets stand for another admits no value the other rejects. -/
namespace Pcore.Object

theorem Ty.size_pos (t : Ty) : 0 < t.size := by cases t <;> simp [Ty.size]

/-- `Ty.size` constructor by constructor (its definition ends in a catch-all arm); stated for whoever measures a type: the
    proofs below unfold `Ty.size` itself -/
theorem Ty.size_opt (t : Ty) : (Ty.opt t).size = t.size + 1 := rfl
theorem Ty.size_notUndef (t : Ty) : (Ty.notUndef t).size = t.size + 1 := rfl
theorem Ty.size_array (t : Ty) : (Ty.array t).size = t.size + 1 := rfl
theorem Ty.size_variant (a b : Ty) : (Ty.variant a b).size = a.size + b.size + 1 := rfl
theorem Ty.size_int : Ty.int.size = 1 := rfl
theorem Ty.size_str : Ty.str.size = 1 := rfl
theorem Ty.size_bool : Ty.bool.size = 1 := rfl
theorem Ty.size_float : Ty.float.size = 1 := rfl
theorem Ty.size_any : Ty.any.size = 1 := rfl
theorem Ty.size_undefT : Ty.undefT.size = 1 := rfl

/-- the `IsAssignable` METHOD of `a` (what GuardedIsAssignable falls back to), on fuel `n` -/
def selfAsg (n : Nat) (a b : Ty) : Bool :=
  match a, b with
  | .int, .int => true
  | .str, .str => true
  | .bool, .bool => true
  | .float, .float => true
  | .undefT, .undefT => true
  | .opt t, b => asgF n .undefT b || asgF n t b
  | .notUndef t, .notUndef u => asgF n t u || asgF n t (.notUndef u)
  | .notUndef t, b => !asgF n b .undefT && asgF n t b
  | .variant x y, b => asgF n x b || asgF n y b
  | .array t, .array u => asgF n t u
  | _, _ => false

theorem asgF_succ (n : Nat) (a b : Ty) : asgF (n + 1) a b =
    if a == .any then true else
    match b with
    | .notUndef nt => if !asgF n nt .undefT then asgF n a nt else selfAsg n a b
    | .opt ot => if asgF n a .undefT then asgF n a ot else false
    | .variant x y => asgF n a x && asgF n a y
    | _ => selfAsg n a b := by
  cases b <;> rfl

theorem asgF_undef (n : Nat) : ∀ a : Ty, a.size + 1 < n → asgF n a .undefT = inst a .undef := by
  induction n with
  | zero => intro a h; omega
  | succ n ih =>
    intro a h
    rw [asgF_succ]
    cases a with
    | opt t =>
      have hu : asgF n .undefT .undefT = true := ih .undefT (by have := Ty.size_pos t; simp only [Ty.size] at h ⊢; omega)
      show (asgF n .undefT .undefT || asgF n t .undefT) = (Val.undef == Val.undef || inst t .undef)
      rw [hu]; rfl
    | notUndef t =>
      have hu : asgF n .undefT .undefT = true := ih .undefT (by have := Ty.size_pos t; simp only [Ty.size] at h ⊢; omega)
      show (!asgF n .undefT .undefT && asgF n t .undefT) = (Val.undef != Val.undef && inst t .undef)
      rw [hu]; rfl
    | variant x y =>
      show (asgF n x .undefT || asgF n y .undefT) = (inst x .undef || inst y .undef)
      rw [ih x (by have := Ty.size_pos y; simp only [Ty.size] at h; omega),
        ih y (by have := Ty.size_pos x; simp only [Ty.size] at h; omega)]
    | _ => rfl

theorem asgF_sound (n : Nat) : ∀ a b : Ty, a.size + b.size < n → asgF n a b = true →
    ∀ v, inst b v = true → inst a v = true := by
  induction n with
  | zero => intro a b h; omega
  | succ n ih =>
    intro a b hsz h v hv
    by_cases hany : a = .any
    · subst hany; simp [inst]
    have hpa := Ty.size_pos a
    have hpb := Ty.size_pos b
    -- the `IsAssignable` method of `a`, arm by arm
    have hself : selfAsg n a b = true → inst a v = true := by
      intro hb
      unfold selfAsg at hb
      split at hb
      · exact hv
      · exact hv
      · exact hv
      · exact hv
      · exact hv
      · rename_i t
        have hpt := Ty.size_pos t
        simp only [Ty.size] at hsz
        simp only [inst, Bool.or_eq_true, beq_iff_eq] at hb ⊢
        rcases hb with hb | hb
        · have := ih .undefT b (by simp only [Ty.size]; omega) hb v hv
          left
          cases v <;> simp [inst] at this ⊢
        · exact Or.inr (ih t b (by omega) hb v hv)
      · rename_i t u
        have hpt := Ty.size_pos t
        simp only [Ty.size] at hsz
        simp only [inst, Bool.and_eq_true, Bool.or_eq_true] at hb hv ⊢
        refine ⟨hv.1, ?_⟩
        rcases hb with hb | hb
        · exact ih t u (by omega) hb v hv.2
        · exact ih t (.notUndef u) (by simp only [Ty.size]; omega) hb v (by simp only [inst, Bool.and_eq_true]; exact hv)
      · rename_i t _
        have hpt := Ty.size_pos t
        simp only [Ty.size] at hsz
        simp only [Bool.and_eq_true, Bool.not_eq_true'] at hb
        rw [asgF_undef n b (by omega)] at hb
        simp only [inst, Bool.and_eq_true, bne_iff_ne, ne_eq]
        refine ⟨?_, ih t b (by omega) hb.2 v hv⟩
        rintro rfl
        rw [hb.1] at hv
        cases hv
      · rename_i x y
        simp only [Ty.size] at hsz
        simp only [inst, Bool.or_eq_true] at hb ⊢
        rcases hb with hb | hb
        · exact Or.inl (ih x b (by omega) hb v hv)
        · exact Or.inr (ih y b (by omega) hb v hv)
      · rename_i t u
        simp only [Ty.size] at hsz
        simp only [inst] at hv ⊢
        exact allElems_mono (ih t u (by omega) hb) v hv
      · cases hb
    rw [asgF_succ, if_neg (by simpa using hany)] at h
    split at h
    · rename_i nt
      simp only [Ty.size] at hsz
      by_cases hu : asgF n nt .undefT = true
      · rw [hu] at h
        exact hself h
      · simp only [hu, Bool.not_false, if_true] at h
        simp only [inst, Bool.and_eq_true] at hv
        exact ih a nt (by omega) h v hv.2
    · rename_i ot
      have hpo := Ty.size_pos ot
      simp only [Ty.size] at hsz
      by_cases hu : asgF n a .undefT = true
      · simp only [hu, if_true] at h
        simp only [inst, Bool.or_eq_true, beq_iff_eq] at hv
        rcases hv with rfl | hv
        · rw [← asgF_undef n a (by omega)]
          exact hu
        · exact ih a ot (by omega) h v hv
      · simp [hu] at h
    · rename_i x y
      simp only [Ty.size] at hsz
      simp only [Bool.and_eq_true] at h
      simp only [inst, Bool.or_eq_true] at hv
      rcases hv with hv | hv
      · exact ih a x (by omega) h.1 v hv
      · exact ih a y (by omega) h.2 v hv
    · exact hself h

theorem asg_sound {a b : Ty} (h : asg a b = true) {v : Val} (hv : inst b v = true) : inst a v = true :=
  asgF_sound _ a b (by omega) h v hv

end Pcore.Object

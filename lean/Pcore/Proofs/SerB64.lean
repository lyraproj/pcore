import Pcore.Model.Ser
/-! The model's base64 decoder inverts its encoder (`unb64 (b64 bs) = some bs`). -/
namespace Pcore.Ser

/-- the alphabet: the one fact about the 64 digits; the rest is arithmetic on sextets and octets -/
theorem b64Digit_spec : ∀ n, n < 64 → b64Val (b64Digit n) = some n := by decide

theorem b64Char_val (n : Nat) : b64Val (b64Char n) = some (n % 64) :=
  b64Digit_spec (n % 64) (Nat.mod_lt _ (by decide))

theorem b64Char_ne_of_val {c : Char} (h : b64Val c = none) (n : Nat) : b64Char n ≠ c := by
  intro hc
  rw [← hc, b64Char_val] at h
  cases h

theorem b64Char_ne (n : Nat) : b64Char n ≠ '=' := b64Char_ne_of_val (by decide) n

theorem b64Chars_forall {P : Char → Prop} (hp : P '=') (hd : ∀ n, P (b64Char n)) : ∀ bs : List UInt8, ∀ c ∈ b64Chars bs, P c := by
  intro bs
  induction bs using b64Chars.induct with
  | case1 => intro c h; cases h
  | case2 a => simp [b64Chars, hp, hd]
  | case3 a b => simp [b64Chars, hp, hd]
  | case4 a b c rest ih => simpa [b64Chars, hd] using ih

theorem u8_ofNat_toNat (a : UInt8) : UInt8.ofNat a.toNat = a := by simp

/-! The decoder on one group of digits whose values make up the 24-bit number `n` (a variable with its equation as a
hypothesis: two closed 24-bit terms under `%` that have to be matched make Lean unfold `Nat.mod`). -/

theorem unb64Chars_group {p q r s n : Nat} {cs : List Char} {rs : List UInt8}
    (hn : p % 64 * 262144 + q % 64 * 4096 + r % 64 * 64 + s % 64 = n) (hr : unb64Chars cs = some rs) :
    unb64Chars (b64Char p :: b64Char q :: b64Char r :: b64Char s :: cs) =
      some (UInt8.ofNat (n / 65536) :: UInt8.ofNat (n / 256 % 256) :: UInt8.ofNat (n % 256) :: rs) := by
  subst hn
  simp only [unb64Chars, b64Char_val, b64Char_ne, hr, if_false]

theorem unb64Chars_pad1 {p q r s n : Nat} (hn : p % 64 * 262144 + q % 64 * 4096 + r % 64 * 64 + s % 64 = n)
    (hs : s % 64 = 0) (h0 : n % 256 = 0) :
    unb64Chars [b64Char p, b64Char q, b64Char r, '='] = some [UInt8.ofNat (n / 65536), UInt8.ofNat (n / 256 % 256)] := by
  rw [hs, Nat.add_zero] at hn
  subst hn
  simp only [unb64Chars, b64Char_val, b64Char_ne, h0, if_true, if_false, ne_eq, not_true_eq_false]

theorem unb64Chars_pad2 {p q r s n : Nat} (hn : p % 64 * 262144 + q % 64 * 4096 + r % 64 * 64 + s % 64 = n)
    (hr : r % 64 = 0) (hs : s % 64 = 0) (h0 : n % 65536 = 0) :
    unb64Chars [b64Char p, b64Char q, '=', '='] = some [UInt8.ofNat (n / 65536)] := by
  rw [hr, hs, Nat.zero_mul, Nat.add_zero] at hn
  subst hn
  simp only [unb64Chars, b64Char_val, h0, if_true, if_false, ne_eq, not_true_eq_false]

theorem sextets (n : Nat) (h : n < 16777216) :
    n / 262144 % 64 * 262144 + n / 4096 % 64 * 4096 + n / 64 % 64 * 64 + n % 64 = n := by omega

theorem octets (a b c : Nat) (hb : b < 256) (hc : c < 256) :
    (a * 65536 + b * 256 + c) / 65536 = a ∧ (a * 65536 + b * 256 + c) / 256 % 256 = b ∧
      (a * 65536 + b * 256 + c) % 256 = c := by omega

theorem unb64Chars_b64Chars : ∀ (bs : List UInt8), unb64Chars (b64Chars bs) = some bs := by
  intro bs
  induction bs using b64Chars.induct with
  | case1 => rfl
  | case2 a =>
    have ha := a.toNat_lt
    have hm : a.toNat * 65536 % 65536 = 0 := Nat.mul_mod_left _ _
    rw [b64Chars, unb64Chars_pad2 (sextets (a.toNat * 65536) (by omega)) (by omega) (by omega) hm,
      Nat.mul_div_cancel _ (by decide), u8_ofNat_toNat]
  | case3 a b =>
    have ha := a.toNat_lt
    have hb := b.toNat_lt
    have h := octets a.toNat b.toNat 0 hb (by decide)
    rw [Nat.add_zero] at h
    rw [b64Chars, unb64Chars_pad1 (sextets (a.toNat * 65536 + b.toNat * 256) (by omega)) (by omega) h.2.2,
      h.1, h.2.1, u8_ofNat_toNat, u8_ofNat_toNat]
  | case4 a b c rest ih =>
    have ha := a.toNat_lt
    have hb := b.toNat_lt
    have hc := c.toNat_lt
    obtain ⟨h1, h2, h3⟩ := octets a.toNat b.toNat c.toNat hb hc
    rw [b64Chars, unb64Chars_group
      (sextets (a.toNat * 65536 + b.toNat * 256 + c.toNat) (by omega)) ih, h1, h2, h3,
      u8_ofNat_toNat, u8_ofNat_toNat, u8_ofNat_toNat]

/-- the Binary leaf codec of the model inverts -/
theorem unb64_b64 (bs : List UInt8) : unb64 (b64 bs) = some bs := by
  simp [unb64, b64, unb64Chars_b64Chars]

end Pcore.Ser

import Pcore.Proofs.ValueEqBytes
import Pcore.Proofs.ValueEqVerStr
/-! Helper lemmas for C07: `Equals` on types as values (`tyEq`).  The file defines `TyWF`, the well-formed types, the hypothesis
    under which the type-key file, `cmp` and the property theorems speak of a type.  In order: `tyEq` agrees with `tyEqR`, the
    same test computed on the other operand; what `tyEq` says of two types of one constructor (`tyEq_…`), and that it is true
    for two types of one constructor only (`tyEq_head`); `tyEq` is symmetric and transitive on all types (`tyEq_per`); it is
    reflexive on well-formed types only (`tyEq_refl`: a Float type with a NaN bound does not equal itself). -/
namespace Pcore.ValueEq

theorem containsAll_refl (vs : List Bytes) : containsAll vs vs = true := by
  simp [containsAll]

theorem containsAll_trans {a b c : List Bytes} (h1 : containsAll a b = true) (h2 : containsAll b c = true) :
    containsAll a c = true := by
  simp only [containsAll, List.all_eq_true, List.contains_iff_mem] at *
  exact fun s hs => h1 s (h2 s hs)

/-! ### well-formed types: what the Go constructors guarantee of the parameters; the hypothesis of `tyEq_refl` and of `tyKey_iff` -/

mutual
def TyWF : Ty → Bool
  | .int lo hi => (minInt ≤ lo && lo ≤ maxInt) && (minInt ≤ hi && hi ≤ maxInt)
  | .flt lo hi => (lo < 18446744073709551616 && !fIsNaN lo) && (hi < 18446744073709551616 && !fIsNaN hi)
  | .arr e lo hi => TyWF e && ((minInt ≤ lo && lo ≤ maxInt) && (minInt ≤ hi && hi ≤ maxInt))
  | .enum _ vs => decide (vs.length < 9223372036854775807)              -- a Go slice length is an int (the flag counts as a parameter)
  | .var ts => TyWFL ts && decide (ts.length ≤ 9223372036854775807)
  | .tup ts sz => (TyWFL ts && (match sz with
      | some (lo, hi) => (minInt ≤ lo && lo ≤ maxInt) && (minInt ≤ hi && hi ≤ maxInt)
      | none => true)) && decide ((ts.length : Int) ≤ maxInt)   -- a Go slice length is an int
  | .opt t => TyWF t
  | .typ t => TyWF t
  | .coll lo hi => (minInt ≤ lo && lo ≤ maxInt) && (minInt ≤ hi && hi ≤ maxInt)
  | .un _ t => TyWF t
  | .strSize lo hi => (0 ≤ lo && lo ≤ maxInt) && (minInt ≤ hi && hi ≤ maxInt)   -- `NewStringType`: a length is never negative
  | .pattern ps => decide (ps.length ≤ 9223372036854775807)
  | .strVal v => !v.isEmpty                    -- `NewStringType`: an empty value is the default String
  | .semverT _ rs => rs.all arOk               -- versions as `NewVersion3` makes them (and `semver.Min`)
  | .hash k v lo hi => (TyWF k && TyWF v) && ((minInt ≤ lo && lo ≤ maxInt) && (minInt ≤ hi && hi ≤ maxInt))
  | .like b _ => TyWF b
  | .callable h ts hr r hb b =>     -- the parameter Tuple (a Go slice length is an int), the return type, the block type
      (!h || (TyWFL ts && decide ((ts.length : Int) ≤ maxInt))) && ((!hr || TyWF r) && (!hb || TyWF b))
  | .struct es => TyWFS es && decide (es.length ≤ 9223372036854775807)
  | .init h t => !h || TyWF t
  | _ => true
def TyWFL : List Ty → Bool
  | [] => true
  | t :: ts => TyWF t && TyWFL ts
def TyWFS : List (Bytes × Bool × Ty) → Bool
  | [] => true
  | (_, _, v) :: es => TyWF v && TyWFS es
end

/-! ### `a.Equals(b)` computed on `a` and computed on `b` agree -/

theorem anyL_eq (ts : List Ty) (v : Ty) : anyL ts v = ts.any (fun ov => tyEq ov v) := by
  induction ts with
  | nil => simp [anyL]
  | cons t ts ih => simp [anyL, ih]

theorem inclR_eq (ts us : List Ty) : inclR ts us = ts.all (fun v => us.any (fun ov => tyEqR v ov)) := by
  induction ts with
  | nil => simp [inclR]
  | cons t ts ih => simp [inclR, ih]

-- Each arm: both sides unfold to a `match b with` over the same constructor, `split` takes the two at once, and the
-- remaining case is `false = false`.
mutual
theorem tyEq_eq_R : ∀ a b : Ty, tyEq a b = tyEqR a b
  | .any, b | .undef, b | .str, b => by
      unfold tyEq tyEqR; rfl
  | .int lo hi, b | .coll lo hi, b | .strSize lo hi, b => by
      unfold tyEq tyEqR; split
      · rw [BEq.comm, BEq.comm (a := hi)]
      · rfl
  | .flt lo hi, b => by
      unfold tyEq tyEqR; split
      · rw [feq_comm, feq_comm hi]
      · rfl
  | .enum ci vs, b => by
      unfold tyEq tyEqR; split
      · rw [BEq.comm, BEq.comm (a := vs.length)]; ac_rfl
      · rfl
  | .arr e lo hi, b => by
      unfold tyEq tyEqR; split
      · rw [tyEq_eq_R e, BEq.comm, BEq.comm (a := hi)]
      · rfl
  | .var _, b | .pattern _, b => by
      unfold tyEq tyEqR; split
      · rw [BEq.comm]; ac_rfl
      · rfl
  | .tup ts sz, b => by
      unfold tyEq tyEqR; split
      · rw [tyEqL_eq_R ts, BEq.comm, BEq.comm (a := goaSize ts.length sz)]
      · rfl
  | .opt t, b | .typ t, b => by
      unfold tyEq tyEqR; split
      · exact tyEq_eq_R t _
      · rfl
  | .nul _, b | .bool _, b | .strVal _, b | .rx _, b | .tref _, b => by
      unfold tyEq tyEqR; split
      · exact BEq.comm
      · rfl
  | .un _ t, b | .like t _, b | .init _ t, b => by
      unfold tyEq tyEqR; split
      · rw [tyEq_eq_R t, BEq.comm]
      · rfl
  | .semverT _ rs, b => by
      unfold tyEq tyEqR; split
      · exact rangesEq_comm rs _
      · rfl
  | .hash k v lo hi, b => by
      unfold tyEq tyEqR; split
      · rw [tyEq_eq_R k, tyEq_eq_R v, BEq.comm, BEq.comm (a := hi)]
      · rfl
  | .callable h ts hr r hb bl, b => by
      unfold tyEq tyEqR; split
      · rw [tyEqL_eq_R ts, tyEq_eq_R r, tyEq_eq_R bl, BEq.comm, BEq.comm (a := ts.length), BEq.comm (a := hr),
          BEq.comm (a := hb)]
      · rfl
  | .runtime rt n p, b => by
      unfold tyEq tyEqR; split
      · rw [BEq.comm, BEq.comm (a := n), BEq.comm (a := p)]
      · rfl
  | .struct es, b => by
      unfold tyEq tyEqR; split
      · rw [tyEqS_eq_R es, BEq.comm]
      · rfl
theorem tyEqS_eq_R : ∀ es fs : List (Bytes × Bool × Ty), tyEqS es fs = tyEqRS es fs
  | [], _ => by unfold tyEqS tyEqRS; rfl
  | (n, o, v) :: es, fs => by
      unfold tyEqS tyEqRS; split
      · rw [tyEq_eq_R v, tyEqS_eq_R es, BEq.comm, BEq.comm (a := o)]
      · rfl
theorem tyEqL_eq_R : ∀ ts us : List Ty, tyEqL ts us = tyEqRL ts us
  | [], _ => by unfold tyEqL tyEqRL; rfl
  | t :: ts, us => by
      unfold tyEqL tyEqRL; split
      · rw [tyEq_eq_R t, tyEqL_eq_R ts]
      · rfl
end

theorem tyEq_var (ts us : List Ty) :
    tyEq (.var ts) (.var us) = true ↔
      ts.length = us.length ∧ (∀ v ∈ ts, ∃ u ∈ us, tyEq v u = true) ∧ (∀ u ∈ us, ∃ v ∈ ts, tyEq v u = true) := by
  simp only [tyEq, inclR_eq, ← tyEq_eq_R, anyL_eq, Bool.and_eq_true, beq_iff_eq, List.all_eq_true, List.any_eq_true,
    and_assoc]

/-! what `Equals` of two types of one constructor says (the other constructors: `tyEq_head`) -/

theorem tyEq_flt {lo hi lo' hi' : Nat} : tyEq (.flt lo hi) (.flt lo' hi') = true ↔ feq lo lo' = true ∧ feq hi hi' = true := by
  show (feq lo lo' && feq hi hi') = true ↔ _
  simp only [Bool.and_eq_true]

theorem tyEq_enum {ci ci' : Bool} {vs vs' : List Bytes} : tyEq (.enum ci vs) (.enum ci' vs') = true ↔
    ((ci = ci' ∧ vs.length = vs'.length) ∧ containsAll vs vs' = true) ∧ containsAll vs' vs = true := by
  show (ci == ci' && vs.length == vs'.length && containsAll vs vs' && containsAll vs' vs) = true ↔ _
  simp only [Bool.and_eq_true, beq_iff_eq]

theorem tyEq_pattern {ps ps' : List Bytes} : tyEq (.pattern ps) (.pattern ps') = true ↔
    (ps.length = ps'.length ∧ containsAll ps ps' = true) ∧ containsAll ps' ps = true := by
  show (ps.length == ps'.length && containsAll ps ps' && containsAll ps' ps) = true ↔ _
  simp only [Bool.and_eq_true, beq_iff_eq]

theorem tyEq_arr {e e' : Ty} {lo hi lo' hi' : Int} :
    tyEq (.arr e lo hi) (.arr e' lo' hi') = true ↔ (lo = lo' ∧ hi = hi') ∧ tyEq e e' = true := by
  show ((lo == lo' && hi == hi') && tyEq e e') = true ↔ _
  simp only [Bool.and_eq_true, beq_iff_eq]

theorem tyEq_tup {ts us : List Ty} {sz sz' : Option (Int × Int)} : tyEq (.tup ts sz) (.tup us sz') = true ↔
    (ts.length = us.length ∧ goaSize ts.length sz = goaSize us.length sz') ∧ tyEqL ts us = true := by
  show (ts.length == us.length && goaSize ts.length sz == goaSize us.length sz' && tyEqL ts us) = true ↔ _
  simp only [Bool.and_eq_true, beq_iff_eq]

theorem tyEq_opt {t u : Ty} : tyEq (.opt t) (.opt u) = true ↔ tyEq t u = true :=
  show tyEq t u = true ↔ _ from Iff.rfl

theorem tyEq_typ {t u : Ty} : tyEq (.typ t) (.typ u) = true ↔ tyEq t u = true :=
  show tyEq t u = true ↔ _ from Iff.rfl

theorem tyEq_un {k k' : UnK} {t u : Ty} : tyEq (.un k t) (.un k' u) = true ↔ k = k' ∧ tyEq t u = true := by
  show (k == k' && tyEq t u) = true ↔ _
  simp only [Bool.and_eq_true, beq_iff_eq]

theorem tyEq_like {t u : Ty} {n n' : Bytes} : tyEq (.like t n) (.like u n') = true ↔ n = n' ∧ tyEq t u = true := by
  show (n == n' && tyEq t u) = true ↔ _
  simp only [Bool.and_eq_true, beq_iff_eq]

theorem tyEq_semverT {o o' : Bytes} {rs rs' : List ARange} : tyEq (.semverT o rs) (.semverT o' rs') = true ↔ rangesEq rs rs' = true :=
  show rangesEq rs rs' = true ↔ _ from Iff.rfl

theorem tyEq_hash {k v k' v' : Ty} {lo hi lo' hi' : Int} : tyEq (.hash k v lo hi) (.hash k' v' lo' hi') = true ↔
    ((lo = lo' ∧ hi = hi') ∧ tyEq k k' = true) ∧ tyEq v v' = true := by
  show ((lo == lo' && hi == hi') && tyEq k k' && tyEq v v') = true ↔ _
  simp only [Bool.and_eq_true, beq_iff_eq]

theorem tyEq_struct {es fs : List (Bytes × Bool × Ty)} :
    tyEq (.struct es) (.struct fs) = true ↔ es.length = fs.length ∧ tyEqS es fs = true := by
  show (es.length == fs.length && tyEqS es fs) = true ↔ _
  simp only [Bool.and_eq_true, beq_iff_eq]

theorem tyEq_init {h h' : Bool} {t u : Ty} : tyEq (.init h t) (.init h' u) = true ↔ h = h' ∧ (h = false ∨ tyEq t u = true) := by
  show (h == h' && (!h || tyEq t u)) = true ↔ _
  simp only [Bool.and_eq_true, beq_iff_eq, Bool.or_eq_true, Bool.not_eq_true']

theorem tyEq_callable {h h' hr hr' hb hb' : Bool} {ts us : List Ty} {r r' bl bl' : Ty} :
    tyEq (.callable h ts hr r hb bl) (.callable h' us hr' r' hb' bl') = true ↔
      (h = h' ∧ (h = false ∨ ts.length = us.length ∧ tyEqL ts us = true)) ∧ (hr = hr' ∧ (hr = false ∨ tyEq r r' = true)) ∧
        hb = hb' ∧ (hb = false ∨ tyEq bl bl' = true) := by
  show ((h == h' && (!h || (ts.length == us.length && tyEqL ts us))) && ((hr == hr' && (!hr || tyEq r r')) && (hb == hb' && (!hb || tyEq bl bl')))) = true ↔ _
  simp only [Bool.and_eq_true, beq_iff_eq, Bool.or_eq_true, Bool.not_eq_true']

/-! ### the second argument of a true `Equals` -/

/-- `b` is built by the constructor of `a`; where `Equals` is `==` on every field, `b` is `a` -/
def tyEqHead : Ty → Ty → Prop
  | .flt _ _, b => ∃ lo hi, b = .flt lo hi
  | .enum _ _, b => ∃ ci vs, b = .enum ci vs
  | .arr _ _ _, b => ∃ e lo hi, b = .arr e lo hi
  | .var _, b => ∃ ts, b = .var ts
  | .tup _ _, b => ∃ ts sz, b = .tup ts sz
  | .opt _, b => ∃ t, b = .opt t
  | .typ _, b => ∃ t, b = .typ t
  | .un _ _, b => ∃ k t, b = .un k t
  | .pattern _, b => ∃ ps, b = .pattern ps
  | .semverT _ _, b => ∃ o rs, b = .semverT o rs
  | .hash _ _ _ _, b => ∃ k v lo hi, b = .hash k v lo hi
  | .like _ _, b => ∃ t n, b = .like t n
  | .callable _ _ _ _ _ _, b => ∃ hp ts hr r hb bl, b = .callable hp ts hr r hb bl
  | .struct _, b => ∃ es, b = .struct es
  | .init _ _, b => ∃ hp t, b = .init hp t
  | a, b => b = a

/-- `Equals` answers true only for two types of the same kind.  Every arm of `tyEq` is `match b with | <the same
    constructor> => … | _ => false`: splitting that one `match` leaves the case of the same constructor, where the equations
    of the fields give the claim, and `false = true`. -/
theorem tyEq_head {a b : Ty} (h : tyEq a b = true) : tyEqHead a b := by
  cases a <;> unfold tyEq at h <;> split at h <;>
    first | rfl | cases h | simp_all [tyEqHead]

/-- `Equals` is a partial equivalence at `a`: whatever `a` Equals also Equals `a`, and everything its partner Equals.  (Reflexivity
    is apart: it alone needs `TyWF`.) -/
def TyPer (a : Ty) : Prop := ∀ b, tyEq a b = true → tyEq b a = true ∧ ∀ c, tyEq b c = true → tyEq a c = true

mutual
theorem tyEq_per : ∀ a : Ty, TyPer a
  | .any, b, h | .undef, b, h | .str, b, h | .int _ _, b, h | .nul _, b, h | .bool _, b, h | .coll _ _, b, h |
    .strSize _ _, b, h | .strVal _, b, h | .rx _, b, h | .tref _, b, h | .runtime _ _ _, b, h => by
      obtain rfl := tyEq_head h
      exact ⟨h, fun _ h2 => h2⟩
  | .flt lo hi, b, h => by
      obtain ⟨lo', hi', rfl⟩ := tyEq_head h
      rw [tyEq_flt] at h
      refine ⟨by rw [tyEq_flt, feq_comm lo', feq_comm hi']; exact h, fun c h2 => ?_⟩
      obtain ⟨_, _, rfl⟩ := tyEq_head h2
      rw [tyEq_flt] at h2 ⊢
      exact ⟨feq_trans h.1 h2.1, feq_trans h.2 h2.2⟩
  | .enum ci vs, b, h => by
      obtain ⟨ci', vs', rfl⟩ := tyEq_head h
      rw [tyEq_enum] at h
      refine ⟨by rw [tyEq_enum]; exact ⟨⟨⟨h.1.1.1.symm, h.1.1.2.symm⟩, h.2⟩, h.1.2⟩, fun c h2 => ?_⟩
      obtain ⟨_, _, rfl⟩ := tyEq_head h2
      rw [tyEq_enum] at h2 ⊢
      exact ⟨⟨⟨h.1.1.1.trans h2.1.1.1, h.1.1.2.trans h2.1.1.2⟩, containsAll_trans h.1.2 h2.1.2⟩, containsAll_trans h2.2 h.2⟩
  | .pattern ps, b, h => by
      obtain ⟨ps', rfl⟩ := tyEq_head h
      rw [tyEq_pattern] at h
      refine ⟨by rw [tyEq_pattern]; exact ⟨⟨h.1.1.symm, h.2⟩, h.1.2⟩, fun c h2 => ?_⟩
      obtain ⟨_, rfl⟩ := tyEq_head h2
      rw [tyEq_pattern] at h2 ⊢
      exact ⟨⟨h.1.1.trans h2.1.1, containsAll_trans h.1.2 h2.1.2⟩, containsAll_trans h2.2 h.2⟩
  | .semverT o rs, b, h => by
      obtain ⟨_, rs', rfl⟩ := tyEq_head h
      refine ⟨by simp only [tyEq, rangesEq_comm rs'] at h ⊢; exact h, fun c h2 => ?_⟩
      obtain ⟨_, _, rfl⟩ := tyEq_head h2
      simp only [tyEq, rangesEq_iff] at h h2 ⊢
      exact h.trans h2
  | .arr e lo hi, b, h => by
      obtain ⟨e', lo', hi', rfl⟩ := tyEq_head h
      rw [tyEq_arr] at h
      refine ⟨by rw [tyEq_arr]; exact ⟨⟨h.1.1.symm, h.1.2.symm⟩, (tyEq_per e e' h.2).1⟩, fun c h2 => ?_⟩
      obtain ⟨_, _, _, rfl⟩ := tyEq_head h2
      rw [tyEq_arr] at h2 ⊢
      exact ⟨⟨h.1.1.trans h2.1.1, h.1.2.trans h2.1.2⟩, (tyEq_per e e' h.2).2 _ h2.2⟩
  | .var ts, b, h => by
      obtain ⟨us, rfl⟩ := tyEq_head h
      rw [tyEq_var] at h
      obtain ⟨l1, f1, g1⟩ := h
      refine ⟨?_, fun c h2 => ?_⟩
      · rw [tyEq_var]
        refine ⟨l1.symm, fun u hu => ?_, fun v hv => ?_⟩
        · obtain ⟨v, hv, e⟩ := g1 u hu
          exact ⟨v, hv, (tyEq_per_all ts v hv u e).1⟩
        · obtain ⟨u, hu, e⟩ := f1 v hv
          exact ⟨u, hu, (tyEq_per_all ts v hv u e).1⟩
      · obtain ⟨ws, rfl⟩ := tyEq_head h2
        rw [tyEq_var] at h2 ⊢
        obtain ⟨l2, f2, g2⟩ := h2
        refine ⟨l1.trans l2, fun v hv => ?_, fun w hw => ?_⟩
        · obtain ⟨u, hu, e1⟩ := f1 v hv
          obtain ⟨w, hw, e2⟩ := f2 u hu
          exact ⟨w, hw, (tyEq_per_all ts v hv u e1).2 w e2⟩
        · obtain ⟨u, hu, e2⟩ := g2 w hw
          obtain ⟨v, hv, e1⟩ := g1 u hu
          exact ⟨v, hv, (tyEq_per_all ts v hv u e1).2 w e2⟩
  | .tup ts sz, b, h => by
      obtain ⟨us, sz', rfl⟩ := tyEq_head h
      rw [tyEq_tup] at h
      refine ⟨by rw [tyEq_tup]; exact ⟨⟨h.1.1.symm, h.1.2.symm⟩, (tyEqL_per ts us h.2).1 h.1.1⟩,
        fun c h2 => ?_⟩
      obtain ⟨_, _, rfl⟩ := tyEq_head h2
      rw [tyEq_tup] at h2 ⊢
      exact ⟨⟨h.1.1.trans h2.1.1, h.1.2.trans h2.1.2⟩, (tyEqL_per ts us h.2).2 _ h2.2⟩
  | .opt t, b, h | .typ t, b, h => by
      obtain ⟨u, rfl⟩ := tyEq_head h
      simp only [tyEq] at h
      refine ⟨by simp only [tyEq]; exact (tyEq_per t u h).1, fun c h2 => ?_⟩
      obtain ⟨_, rfl⟩ := tyEq_head h2
      simp only [tyEq] at h2 ⊢
      exact (tyEq_per t u h).2 _ h2
  | .un _ t, b, h | .like t _, b, h => by
      obtain ⟨_, _, rfl⟩ := tyEq_head h
      simp only [tyEq, Bool.and_eq_true, beq_iff_eq] at h
      refine ⟨by simp only [tyEq, Bool.and_eq_true, beq_iff_eq]; exact ⟨h.1.symm, (tyEq_per t _ h.2).1⟩, fun c h2 => ?_⟩
      obtain ⟨_, _, rfl⟩ := tyEq_head h2
      simp only [tyEq, Bool.and_eq_true, beq_iff_eq] at h2 ⊢
      exact ⟨h.1.trans h2.1, (tyEq_per t _ h.2).2 _ h2.2⟩
  | .hash k v lo hi, b, h => by
      obtain ⟨k', v', lo', hi', rfl⟩ := tyEq_head h
      rw [tyEq_hash] at h
      refine ⟨by
        rw [tyEq_hash]
        exact ⟨⟨⟨h.1.1.1.symm, h.1.1.2.symm⟩, (tyEq_per k k' h.1.2).1⟩, (tyEq_per v v' h.2).1⟩, fun c h2 => ?_⟩
      obtain ⟨_, _, _, _, rfl⟩ := tyEq_head h2
      rw [tyEq_hash] at h2 ⊢
      exact ⟨⟨⟨h.1.1.1.trans h2.1.1.1, h.1.1.2.trans h2.1.1.2⟩, (tyEq_per k k' h.1.2).2 _ h2.1.2⟩, (tyEq_per v v' h.2).2 _ h2.2⟩
  | .callable hp ts hr r hb bl, b, h => by
      obtain ⟨hp', us, hr', r', hb', bl', rfl⟩ := tyEq_head h
      rw [tyEq_callable] at h
      obtain ⟨⟨rfl, p1⟩, ⟨rfl, p2⟩, rfl, p3⟩ := h
      refine ⟨?_, fun c h2 => ?_⟩
      · rw [tyEq_callable]
        exact ⟨⟨rfl, p1.imp_right fun p => ⟨p.1.symm, (tyEqL_per ts us p.2).1 p.1⟩⟩, ⟨rfl, p2.imp_right fun p => (tyEq_per r r' p).1⟩,
          rfl, p3.imp_right fun p => (tyEq_per bl bl' p).1⟩
      · obtain ⟨_, _, _, _, _, _, rfl⟩ := tyEq_head h2
        rw [tyEq_callable] at h2 ⊢
        obtain ⟨⟨rfl, q1⟩, ⟨rfl, q2⟩, rfl, q3⟩ := h2
        exact ⟨⟨rfl, p1.elim Or.inl fun p => q1.elim Or.inl fun q => Or.inr ⟨p.1.trans q.1, (tyEqL_per ts us p.2).2 _ q.2⟩⟩,
          ⟨rfl, p2.elim Or.inl fun p => q2.elim Or.inl fun q => Or.inr ((tyEq_per r r' p).2 _ q)⟩,
          rfl, p3.elim Or.inl fun p => q3.elim Or.inl fun q => Or.inr ((tyEq_per bl bl' p).2 _ q)⟩
  | .struct es, b, h => by
      obtain ⟨fs, rfl⟩ := tyEq_head h
      rw [tyEq_struct] at h
      refine ⟨by rw [tyEq_struct]; exact ⟨h.1.symm, (tyEqS_per es fs h.2).1 h.1⟩, fun c h2 => ?_⟩
      obtain ⟨_, rfl⟩ := tyEq_head h2
      rw [tyEq_struct] at h2 ⊢
      exact ⟨h.1.trans h2.1, (tyEqS_per es fs h.2).2 _ h2.2⟩
  | .init hh t, b, h => by
      obtain ⟨hh', u, rfl⟩ := tyEq_head h
      rw [tyEq_init] at h
      obtain ⟨rfl, p⟩ := h
      refine ⟨by
        rw [tyEq_init]
        exact ⟨rfl, p.imp_right fun p => (tyEq_per t u p).1⟩, fun c h2 => ?_⟩
      obtain ⟨_, _, rfl⟩ := tyEq_head h2
      rw [tyEq_init] at h2 ⊢
      obtain ⟨rfl, q⟩ := h2
      exact ⟨rfl, p.elim Or.inl fun p => q.elim Or.inl fun q => Or.inr ((tyEq_per t u p).2 _ q)⟩
-- said explicitly: with four theorems in the block the search for the structural arguments gives up ("too many
-- combinations") and the block is compiled by well-founded recursion, which is far slower to check
termination_by structural a => a
theorem tyEqS_per : ∀ es fs : List (Bytes × Bool × Ty), tyEqS es fs = true →
    (es.length = fs.length → tyEqS fs es = true) ∧ ∀ gs, tyEqS fs gs = true → tyEqS es gs = true
  | [], [], _ => ⟨fun _ => rfl, fun _ _ => rfl⟩
  | [], _ :: _, _ => ⟨fun hl => (nomatch hl), fun _ _ => rfl⟩
  | _ :: _, [], h => nomatch h
  | (n, o, v) :: es, (n', o', v') :: fs, h => by
      simp only [tyEqS, Bool.and_eq_true, beq_iff_eq] at h
      have p := tyEq_per v v' h.1.2
      have q := tyEqS_per es fs h.2
      refine ⟨fun hl => ?_, fun gs h2 => ?_⟩
      · simp only [tyEqS, Bool.and_eq_true, beq_iff_eq]
        exact ⟨⟨⟨h.1.1.1.symm, h.1.1.2.symm⟩, p.1⟩, q.1 (Nat.succ.inj hl)⟩
      · match gs, h2 with
        | (_, _, _) :: gs, h2 =>
          simp only [tyEqS, Bool.and_eq_true, beq_iff_eq] at h2 ⊢
          exact ⟨⟨⟨h.1.1.1.trans h2.1.1.1, h.1.1.2.trans h2.1.1.2⟩, p.2 _ h2.1.2⟩, q.2 gs h2.2⟩
termination_by structural es => es
theorem tyEq_per_all : ∀ ts : List Ty, ∀ v ∈ ts, TyPer v
  | [], _, h => nomatch h
  | t :: ts, v, hv => by
      rcases List.mem_cons.mp hv with e | hv
      · rw [e]; exact tyEq_per t
      · exact tyEq_per_all ts v hv
termination_by structural ts => ts
theorem tyEqL_per : ∀ ts us : List Ty, tyEqL ts us = true →
    (ts.length = us.length → tyEqL us ts = true) ∧ ∀ ws, tyEqL us ws = true → tyEqL ts ws = true
  | [], [], _ => ⟨fun _ => rfl, fun _ _ => rfl⟩
  | [], _ :: _, _ => ⟨fun hl => (nomatch hl), fun _ _ => rfl⟩
  | _ :: _, [], h => nomatch h
  | t :: ts, u :: us, h => by
      simp only [tyEqL, Bool.and_eq_true] at h
      have p := tyEq_per t u h.1
      have q := tyEqL_per ts us h.2
      refine ⟨fun hl => ?_, fun ws h2 => ?_⟩
      · simp only [tyEqL, Bool.and_eq_true]
        exact ⟨p.1, q.1 (Nat.succ.inj hl)⟩
      · match ws, h2 with
        | _ :: ws, h2 =>
          simp only [tyEqL, Bool.and_eq_true] at h2 ⊢
          exact ⟨p.2 _ h2.1, q.2 ws h2.2⟩
termination_by structural ts => ts
end

theorem tyEq_symm_imp (a b : Ty) (h : tyEq a b = true) : tyEq b a = true := (tyEq_per a b h).1

theorem tyEq_symm (a b : Ty) : tyEq a b = tyEq b a :=
  Bool.eq_iff_iff.mpr ⟨tyEq_symm_imp a b, tyEq_symm_imp b a⟩

theorem tyEq_trans : ∀ a b c : Ty, tyEq a b = true → tyEq b c = true → tyEq a c = true :=
  fun a b c h1 h2 => (tyEq_per a b h1).2 c h2

theorem tyEqS_trans : ∀ es fs gs : List (Bytes × Bool × Ty), tyEqS es fs = true → tyEqS fs gs = true → tyEqS es gs = true :=
  fun es fs gs h1 h2 => (tyEqS_per es fs h1).2 gs h2

theorem tyEq_trans_all : ∀ ts : List Ty, ∀ v ∈ ts, ∀ b c : Ty, tyEq v b = true → tyEq b c = true → tyEq v c = true :=
  fun _ v _ => tyEq_trans v

theorem tyEqL_trans : ∀ ts us ws : List Ty, tyEqL ts us = true → tyEqL us ws = true → tyEqL ts ws = true :=
  fun ts us ws h1 h2 => (tyEqL_per ts us h1).2 ws h2

/-! `tyEqR a b` is the model's `b.Equals(a)` (the form `IncludesAll` calls, by recursion on `a`); with its list companions it
    is `tyEq` with the arguments exchanged. -/

theorem tyEqR_swap (a b : Ty) : tyEqR a b = tyEq b a := by rw [← tyEq_eq_R, tyEq_symm]

theorem tyEqRS_swap : ∀ es fs : List (Bytes × Bool × Ty), es.length = fs.length → tyEqRS es fs = tyEqS fs es
  | [], [], _ => rfl
  | [], _ :: _, hl => by cases hl
  | _ :: _, [], hl => by cases hl
  | (n, o, v) :: es, (n', o', v') :: fs, hl => by
      simp only [tyEqS, tyEqRS]
      rw [tyEqR_swap v v', tyEqRS_swap es fs (Nat.succ.inj hl)]

theorem tyEqRL_swap : ∀ ts us : List Ty, ts.length = us.length → tyEqRL ts us = tyEqL us ts
  | [], [], _ => rfl
  | [], _ :: _, hl => by cases hl
  | _ :: _, [], hl => by cases hl
  | t :: ts, u :: us, hl => by
      simp only [tyEqL, tyEqRL]
      rw [tyEqR_swap t u, tyEqRL_swap ts us (Nat.succ.inj hl)]

theorem anyL_swap : ∀ (ts : List Ty) (v : Ty), anyL ts v = ts.any (fun ov => tyEqR v ov) := by
  simp only [anyL_eq, tyEqR_swap, implies_true]

theorem inclR_swap : ∀ ts us : List Ty, inclR ts us = ts.all (fun v => anyL us v) := by
  simp only [inclR_eq, anyL_eq, tyEqR_swap, implies_true]

mutual
theorem tyEq_refl : ∀ a : Ty, TyWF a = true → tyEq a a = true
  | .any, _ | .undef, _ | .str, _ | .int _ _, _ | .nul _, _ | .bool _, _ | .coll _ _, _ | .strSize _ _, _ | .strVal _, _ |
    .rx _, _ | .tref _, _ | .runtime _ _ _, _ => by
      simp [tyEq]
  | .flt lo hi, h => by
      simp only [TyWF, Bool.and_eq_true, Bool.not_eq_true', decide_eq_true_eq] at h
      simp [tyEq, feq_refl h.1.2, feq_refl h.2.2]
  | .enum _ _, _ | .pattern _, _ => by
      simp [tyEq, containsAll_refl]
  | .arr e _ _, h => by
      simp only [TyWF, Bool.and_eq_true] at h
      simp [tyEq, tyEq_refl e h.1]
  | .var ts, h => by
      rw [tyEq_var]
      simp only [TyWF, Bool.and_eq_true] at h
      exact ⟨rfl, fun v hv => ⟨v, hv, tyEq_refl_all ts h.1 v hv⟩, fun v hv => ⟨v, hv, tyEq_refl_all ts h.1 v hv⟩⟩
  | .tup ts _, h => by
      simp only [TyWF, Bool.and_eq_true] at h
      simp [tyEq, tyEqL_refl ts h.1.1]
  | .opt t, h | .typ t, h | .un _ t, h | .like t _, h => by
      simp only [TyWF] at h
      simp [tyEq, tyEq_refl t h]
  | .semverT _ _, _ => by simp [tyEq, rangesEq_iff]
  | .hash k v _ _, h => by
      simp only [TyWF, Bool.and_eq_true] at h
      simp [tyEq, tyEq_refl k h.1.1, tyEq_refl v h.1.2]
  | .callable hh ts hr r hb bl, h => by
      simp only [TyWF, Bool.and_eq_true, Bool.or_eq_true, Bool.not_eq_true'] at h
      simp only [tyEq, beq_self_eq_true, Bool.true_and, Bool.and_eq_true, Bool.or_eq_true, Bool.not_eq_true']
      exact ⟨h.1.imp_right fun h1 => by simp [tyEqL_refl ts h1.1], h.2.1.imp_right (tyEq_refl r), h.2.2.imp_right (tyEq_refl bl)⟩
  | .struct es, h => by
      simp only [TyWF, Bool.and_eq_true] at h
      simp [tyEq, tyEqS_refl es h.1]
  | .init hh t, h => by
      cases hh
      · simp [tyEq]
      · simp only [TyWF, Bool.not_true, Bool.false_or] at h
        simp [tyEq, tyEq_refl t h]
theorem tyEqS_refl : ∀ es : List (Bytes × Bool × Ty), TyWFS es = true → tyEqS es es = true
  | [], _ => by simp [tyEqS]
  | (n, o, v) :: es, h => by
      simp only [TyWFS, Bool.and_eq_true] at h
      simp [tyEqS, tyEq_refl v h.1, tyEqS_refl es h.2]
theorem tyEq_refl_all : ∀ ts : List Ty, TyWFL ts = true → ∀ v ∈ ts, tyEq v v = true
  | [], _ => by simp
  | t :: ts, h => by
      simp only [TyWFL, Bool.and_eq_true] at h
      intro v hv
      rcases List.mem_cons.mp hv with e | hv
      · rw [e]; exact tyEq_refl t h.1
      · exact tyEq_refl_all ts h.2 v hv
theorem tyEqL_refl : ∀ ts : List Ty, TyWFL ts = true → tyEqL ts ts = true
  | [], _ => by simp [tyEqL]
  | t :: ts, h => by
      simp only [TyWFL, Bool.and_eq_true] at h
      simp [tyEqL, tyEq_refl t h.1, tyEqL_refl ts h.2]
end

end Pcore.ValueEq

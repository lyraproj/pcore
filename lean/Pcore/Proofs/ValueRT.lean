import Pcore.Proofs.QualName
import Pcore.Proofs.Parse
import Pcore.Model.Print
/-!
The grammar layer of C05 (layers: `Props/C05.lean`) for literal values: the text `printVal v` parses back to `exprOf v`.
The four lemmas `item_rt` / `arr_rt` / `hash_rt` / `params_rt` follow `parseItem` / `arrayLoop` / `hashLoop` / `arrayLoop` on
the arguments of a constructor call; the fuel hypotheses are phrased in the length of the printed text, so that `parseFile`'s
`2·|input| + 2` trivially suffices.  The state a loop is entered with is given up to what `readTok` sees (`readTok env st.rest =
readTok env …`): after `, ` it begins with a blank, which `readTok` skips.
In order: what may follow a value (`follows`) and the values that can be read back (`Lit`); what `readTok` answers on each of the
continuations; the conversion of the collected items (`cvt`); the leaves (`item_scalar`, a bare type name); one step of each loop
(`arrayLoop_item`, `hashLoop_entry`); the four lemmas, by mutual recursion; the whole text (`value_rt`).
-/
namespace Pcore.Syntax

/-- a simple type name: an upper-case letter followed by word characters (no `::`) -/
def TyName (n : Str) : Prop :=
  ∃ c w, n = c :: w ∧ isUpper c = true ∧ ∀ d ∈ w, isWord d = true ∧ d ≠ ':' ∧ d ≠ runeError

/-- the name of an object type: segments `Seg::Seg…`, each an upper-case letter followed by word characters -/
def ObjName (n : Str) : Prop :=
  ∃ c w r, n = qname c w r ∧ isUpper c = true ∧ (∀ d ∈ w, isWord d = true ∧ d ≠ ':' ∧ d ≠ runeError) ∧ ∀ p ∈ r, Seg p

theorem objName_of_tyName {n : Str} (h : TyName n) : ObjName n := by
  obtain ⟨c, w, rfl, hc, hw⟩ := h
  exact ⟨c, w, [], by simp [qname, qrest], hc, hw, by simp⟩

def startsRocket : List Sym → Bool
  | .chr a :: .chr b :: _ => a = '=' && b = '>'
  | _ => false

/-- as `stopOK`, but a blank only in front of `=>` -/
def follows : List Sym → Bool
  | [] => true
  | .chr c :: rest => c = ',' || c = ']' || c = '}' || c = ')' || (c = ' ' && startsRocket rest)
  | .bad :: _ => false

theorem follows_rbrack (k : List Sym) : follows (.chr ']' :: k) = true := rfl
theorem follows_rcurly (k : List Sym) : follows (.chr '}' :: k) = true := rfl
theorem follows_comma (k : List Sym) : follows (.chr ',' :: k) = true := rfl
theorem follows_rocket (k : List Sym) : follows (.chr ' ' :: .chr '=' :: .chr '>' :: k) = true := rfl
theorem follows_rparen (k : List Sym) : follows (.chr ')' :: k) = true := rfl

theorem follows_cases {k : List Sym} (h : follows k = true) :
    k = [] ∨ (∃ c kd tl, k = .chr c :: tl ∧ (c, kd) ∈ [(',', TK.comma), (']', .rbrack), ('}', .rcurly), (')', .rparen)]) ∨
      ∃ tl, k = .chr ' ' :: .chr '=' :: .chr '>' :: tl := by
  match k, h with
  | [], _ => exact .inl rfl
  | .chr c :: rest, h =>
    simp only [follows, Bool.or_eq_true, decide_eq_true_eq, Bool.and_eq_true] at h
    rcases h with (((rfl | rfl) | rfl) | rfl) | ⟨rfl, hr⟩
    · exact .inr (.inl ⟨_, .comma, _, rfl, by simp⟩)
    · exact .inr (.inl ⟨_, .rbrack, _, rfl, by simp⟩)
    · exact .inr (.inl ⟨_, .rcurly, _, rfl, by simp⟩)
    · exact .inr (.inl ⟨_, .rparen, _, rfl, by simp⟩)
    · match rest, hr with
      | .chr a :: .chr b :: tl, hr =>
        simp only [startsRocket, Bool.and_eq_true, decide_eq_true_eq] at hr
        obtain ⟨rfl, rfl⟩ := hr
        exact .inr (.inr ⟨tl, rfl⟩)

theorem stopOK_of_follows {k : List Sym} (h : follows k = true) : stopOK k = true := by
  rcases follows_cases h with rfl | ⟨c, kd, tl, rfl, hc⟩ | ⟨tl, rfl⟩
  · rfl
  · simp only [List.mem_cons, Prod.mk.injEq, List.mem_nil_iff, or_false] at hc
    rcases hc with ⟨rfl, _⟩ | ⟨rfl, _⟩ | ⟨rfl, _⟩ | ⟨rfl, _⟩ <;> rfl
  · rfl

mutual
/-- literal values whose leaves can be read back, relative to the oracles of `env` -/
def Lit (env : Env) : Val → Prop
  | .int i => -(int64Bound : Int) ≤ i ∧ i < (int64Bound : Int)
  | .float b t =>
    (∀ k, stopOK k = true → nextToken env.isLetter (syms t ++ k) = .tok ⟨.float, t⟩ k false) ∧ env.pf t = some b
  | .regexp s => rxRep false s = true ∧ env.rxOK s = true
  | .arr vs => LitL env vs
  | .hash es => LitE env es
  | .tyx n none => TyName n
  | .tyx n (some ps) => TyName n ∧ ps ≠ [] ∧ LitL env ps
  | .obj n es => ObjName n ∧ n ≠ "Deferred".toList ∧ LitE env es
  | _ => True
def LitL (env : Env) : List Val → Prop
  | [] => True
  | v :: vs => Lit env v ∧ LitL env vs
def LitE (env : Env) : List (Val × Val) → Prop
  | [] => True
  | (k, v) :: es => Lit env k ∧ Lit env v ∧ LitE env es
end

theorem litL_iff (env : Env) (vs : List Val) : LitL env vs ↔ ∀ v ∈ vs, Lit env v := by
  induction vs with
  | nil => simp [LitL]
  | cons v vs ih => simp [LitL, ih]

theorem litL_append (env : Env) {a b : List Val} (ha : LitL env a) (hb : LitL env b) : LitL env (a ++ b) := by
  simp only [litL_iff, List.mem_append] at *
  exact fun v hv => hv.elim (ha v) (hb v)

/-- the item result "value `e`, then whatever token comes next in `k`" -/
def ItemRes (env : Env) (e : Expr) (k : List Sym) : PR (Option (Expr × Tok × PS)) :=
  (readTok env k).bind fun r => .ok (some (e, r.1, r.2))

theorem after_eq (env : Env) (e : Expr) (st : PS) : after env e st = ItemRes env e st.rest := rfl

theorem readTok_of_tok {env : Env} {r : List Sym} {t : Tok} {rest : List Sym} {b : Bool}
    (h : nextToken env.isLetter r = .tok t rest b) : readTok env r = .ok (t, ⟨rest, b, t.s.length⟩) := by
  simp [readTok, h]

theorem readTok_nil (env : Env) : readTok env [] = .ok (⟨.eoi, []⟩, ⟨[], true, 0⟩) := by
  simp [readTok, nextToken, nextTok]

theorem readTok_blank (env : Env) (r : List Sym) : readTok env (.chr ' ' :: r) = readTok env r := by
  simp [readTok, nextToken_blank]

theorem readTok_punct (env : Env) (c : Char) (kd : TK) (k : List Sym)
    (h : (c, kd) ∈ [('[', TK.lbrack), (']', .rbrack), ('{', .lcurly), ('}', .rcurly), ('(', .lparen), (')', .rparen),
      (',', .comma)]) :
    readTok env (.chr c :: k) = .ok (⟨kd, [c]⟩, ⟨k, false, 1⟩) :=
  readTok_of_tok (nextToken_punct env.isLetter c kd k h)

theorem readTok_rocket (env : Env) (r : List Sym) :
    readTok env (.chr '=' :: .chr '>' :: r) = .ok (⟨.rocket, ['=', '>']⟩, ⟨r, false, 2⟩) :=
  readTok_of_tok (nextToken_rocket env.isLetter r)

theorem nextToken_lparen (il : Char → Bool) (r : List Sym) : nextToken il (.chr '(' :: r) = .tok ⟨.lparen, ['(']⟩ r false :=
  nextToken_punct il '(' .lparen r (by simp)

theorem ItemRes_rparen (env : Env) (e : Expr) (k : List Sym) :
    ItemRes env e (.chr ')' :: k) = .ok (some (e, ⟨.rparen, [')']⟩, ⟨k, false, 1⟩)) := by
  simp [ItemRes, readTok_punct env ')' .rparen k (by simp), PR.bind]

def Expr.noEntry : Expr → Bool
  | .entry _ _ => false
  | _ => true

theorem cvt_noEntry (l : List Expr) (h : ∀ e ∈ l, e.noEntry = true) : cvt l [] = l := by
  induction l with
  | nil => rfl
  | cons e es ih =>
    have he := h e List.mem_cons_self
    have ih' := ih fun x hx => h x (List.mem_cons_of_mem _ hx)
    -- every constructor but `entry` is copied (`cvt (e :: es) [] = e :: cvt es []` by evaluation)
    cases e <;> first | exact congrArg (_ :: ·) ih' | cases he

theorem exprOf_noEntry (v : Val) : (exprOf v).noEntry = true := by
  cases v with
  | tyx n ps => cases ps <;> simp [exprOf, Expr.noEntry]
  | obj n es => cases es <;> simp [exprOf, Expr.noEntry]
  | _ => simp [exprOf, Expr.noEntry]

theorem exprsOf_noEntry (vs : List Val) : ∀ e ∈ exprsOf vs, e.noEntry = true := by
  induction vs with
  | nil => simp [exprsOf]
  | cons v vs ih =>
    intro e he
    simp only [exprsOf, List.mem_cons] at he
    rcases he with rfl | he
    · exact exprOf_noEntry v
    · exact ih e he

theorem cvt_exprsOf (vs : List Val) : cvt (exprsOf vs) [] = exprsOf vs := cvt_noEntry _ (exprsOf_noEntry vs)

theorem cvt_append_exprs (items : List Expr) (vs : List Val) (hi : ∀ e ∈ items, e.noEntry = true) :
    cvt (items.reverse ++ exprsOf vs) [] = items.reverse ++ exprsOf vs := by
  apply cvt_noEntry
  intro e he
  simp only [List.mem_append, List.mem_reverse] at he
  rcases he with he | he
  · exact hi e he
  · exact exprsOf_noEntry vs e he

theorem kw_undef : "undef".toList = ['u', 'n', 'd', 'e', 'f'] := by decide
theorem kw_default : "default".toList = ['d', 'e', 'f', 'a', 'u', 'l', 't'] := by decide
theorem kw_true : "true".toList = ['t', 'r', 'u', 'e'] := by decide
theorem kw_false : "false".toList = ['f', 'a', 'l', 's', 'e'] := by decide
theorem kw_arrow : " => ".toList = [' ', '=', '>', ' '] := by decide

theorem item_word (env : Env) (c : Char) (w : Str) (e : Expr) (k : List Sym) (fuel : Nat)
    (hc : isLower c = true) (hw : ∀ d ∈ w, isWord d = true ∧ d ≠ ':' ∧ d ≠ runeError)
    (hkw : keyword (c :: w) = e) (hk : stopOK k = true) :
    ∃ t st, readTok env (syms (c :: w) ++ k) = .ok (t, st) ∧ parseItem env fuel t st = ItemRes env e k := by
  refine ⟨_, _, readTok_of_tok (nextToken_word env.isLetter c w k hc hw hk), ?_⟩
  unfold parseItem
  simp only [hkw, after_eq]

theorem item_scalar (env : Env) (v : Val) (hv : Lit env v) (k : List Sym) (hk : stopOK k = true) (fuel : Nat)
    (hs : match v with | .arr _ => False | .hash _ => False | .tyx _ _ => False | .obj _ _ => False | _ => True) :
    ∃ t st, readTok env (syms (printVal v) ++ k) = .ok (t, st) ∧
      parseItem env fuel t st = ItemRes env (exprOf v) k := by
  cases v with
  | undef =>
    simp only [printVal, kw_undef, exprOf]
    exact item_word env 'u' _ _ k fuel (by decide) (by decide) (by rfl) hk
  | dflt =>
    simp only [printVal, kw_default, exprOf]
    exact item_word env 'd' _ _ k fuel (by decide) (by decide) (by rfl) hk
  | bool b =>
    cases b with
    | true =>
      simp only [printVal, if_true, kw_true, exprOf]
      exact item_word env 't' _ _ k fuel (by decide) (by decide) (by rfl) hk
    | false =>
      simp only [printVal, Bool.false_eq_true, if_false, kw_false, exprOf]
      exact item_word env 'f' _ _ k fuel (by decide) (by decide) (by rfl) hk
  | int i =>
    simp only [Lit] at hv
    refine ⟨_, _, readTok_of_tok (nextToken_int env.isLetter i k hk), ?_⟩
    unfold parseItem
    simp only [parseInt_intText i hv.1 hv.2, after_eq, exprOf]
  | float b t =>
    simp only [Lit] at hv
    refine ⟨_, _, readTok_of_tok (hv.1 k hk), ?_⟩
    unfold parseItem
    simp only [hv.2, after_eq, exprOf]
  | str s =>
    refine ⟨_, _, readTok_of_tok (nextToken_puppetQuote env.isLetter s k), ?_⟩
    unfold parseItem
    simp only [after_eq, exprOf]
  | regexp s =>
    simp only [Lit] at hv
    refine ⟨_, _, readTok_of_tok (nextToken_regexpQuote env.isLetter s k hv.1), ?_⟩
    unfold parseItem
    simp only [hv.2, if_true, after_eq, exprOf]
  | arr vs => exact absurd hs (by simp)
  | hash es => exact absurd hs (by simp)
  | tyx n ps => exact absurd hs (by simp)
  | obj n es => exact absurd hs (by simp)

/-- after a value the next token never opens a bracket (so a bare type name stays bare) -/
theorem follows_tok (env : Env) (k : List Sym) (h : follows k = true) :
    ∃ tk st1, readTok env k = .ok (tk, st1) ∧ tk.k ≠ .lbrack ∧ tk.k ≠ .lcurly ∧ tk.k ≠ .lparen := by
  rcases follows_cases h with rfl | ⟨c, kd, tl, rfl, hc⟩ | ⟨tl, rfl⟩
  · exact ⟨_, _, readTok_nil env, by decide, by decide, by decide⟩
  · refine ⟨⟨kd, [c]⟩, _, readTok_punct env c kd tl ?_, ?_⟩ <;>
      simp only [List.mem_cons, Prod.mk.injEq, List.mem_nil_iff, or_false] at hc ⊢ <;>
      rcases hc with ⟨rfl, rfl⟩ | ⟨rfl, rfl⟩ | ⟨rfl, rfl⟩ | ⟨rfl, rfl⟩ <;> decide
  · exact ⟨_, _, by rw [readTok_blank]; exact readTok_rocket env tl, by decide, by decide, by decide⟩

theorem parseItem_name_bare (env : Env) (fuel : Nat) (n : Str) (st : PS) (h : follows st.rest = true) :
    parseItem env fuel ⟨.name, n⟩ st = ItemRes env (.dtype n none) st.rest := by
  obtain ⟨tk, st1, h1, h2, h3, h4⟩ := follows_tok env st.rest h
  unfold parseItem ItemRes
  simp only [h1, PR.bind]

/-- the `k => v` arguments of a constructor call as the parser collects them -/
def entryExprs : List (Val × Val) → List Expr
  | [] => []
  | (k, v) :: es => .entry (exprOf k) (exprOf v) :: entryExprs es

theorem entryExprs_append (a b : List (Val × Val)) : entryExprs (a ++ b) = entryExprs a ++ entryExprs b := by
  induction a with
  | nil => rfl
  | cons x xs ih => obtain ⟨p, q⟩ := x; simp [entryExprs, ih]

theorem cvt_entries (es : List (Val × Val)) (en : List (Expr × Expr)) (h : es ≠ [] ∨ en ≠ []) :
    cvt (entryExprs es) en = [.hash (en.reverse ++ entriesOf es)] := by
  induction es generalizing en with
  | nil =>
    cases en with
    | nil => simp at h
    | cons p ps => simp [entryExprs, cvt, entriesOf]
  | cons e es ih =>
    obtain ⟨k, v⟩ := e
    simp only [entryExprs, cvt, entriesOf]
    rw [ih _ (Or.inr (by simp))]
    simp

/-- what `arrayLoop` does with the look-ahead token after a member `v` -/
def afterEl (env : Env) (f : Nat) (close : TK) (items : List Expr) (v : Expr) (r : Tok × PS) : PR (Expr × PS) :=
  if r.1.k = close then .ok (.arr (cvt (v :: items).reverse []), r.2)
  else if r.1.k = .comma then arrayLoop env f close r.2 (v :: items) none
  else if r.1.k = .rocket then arrayLoop env f close r.2 items (some v)
  else .err (synErr r.2)

theorem afterEl_close (env : Env) (f : Nat) (close : TK) (items : List Expr) (v : Expr) (s : Str) (st : PS) :
    afterEl env f close items v (⟨close, s⟩, st) = .ok (.arr (cvt (v :: items).reverse []), st) := by
  simp [afterEl]

theorem afterEl_comma (env : Env) (f : Nat) (close : TK) (hc : close ≠ .comma) (items : List Expr) (v : Expr) (s : Str) (st : PS) :
    afterEl env f close items v (⟨.comma, s⟩, st) = arrayLoop env f close st (v :: items) none := by
  simp [afterEl, Ne.symm hc]

theorem afterEl_rocket (env : Env) (f : Nat) (close : TK) (hc : close ≠ .rocket) (items : List Expr) (v : Expr) (s : Str) (st : PS) :
    afterEl env f close items v (⟨.rocket, s⟩, st) = arrayLoop env f close st items (some v) := by
  simp [afterEl, Ne.symm hc]

theorem arrayLoop_item (env : Env) (close : TK) (txt : Str) (e : Expr) (Z : List Sym) (f : Nat) (st : PS) (items : List Expr)
    (rock : Option Expr) (hst : readTok env st.rest = readTok env (syms txt ++ Z))
    (h : ∃ t s, readTok env (syms txt ++ Z) = .ok (t, s) ∧ parseItem env f t s = ItemRes env e Z) :
    arrayLoop env (f + 1) close st items rock =
      (readTok env Z).bind (afterEl env f close items (match rock with | some l => .entry l e | none => e)) := by
  obtain ⟨tk, st1, h1, h2⟩ := h
  unfold arrayLoop
  rw [hst, h1]
  simp only [PR.bind, h2, ItemRes]
  cases readTok env Z <;> rfl

/-- what `hashLoop` does with the look-ahead token after an entry -/
def afterKV (env : Env) (f : Nat) (items : List (Expr × Expr)) (kv : Expr × Expr) (r : Tok × PS) :
    PR (List (Expr × Expr) × PS) :=
  if r.1.k = .rcurly then .ok ((kv :: items).reverse, r.2)
  else if r.1.k = .comma then hashLoop env f r.2 (kv :: items)
  else .err (synErr r.2)

theorem afterKV_close (env : Env) (f : Nat) (items : List (Expr × Expr)) (kv : Expr × Expr) (s : Str) (st : PS) :
    afterKV env f items kv (⟨.rcurly, s⟩, st) = .ok ((kv :: items).reverse, st) := rfl

theorem afterKV_comma (env : Env) (f : Nat) (items : List (Expr × Expr)) (kv : Expr × Expr) (s : Str) (st : PS) :
    afterKV env f items kv (⟨.comma, s⟩, st) = hashLoop env f st (kv :: items) := rfl

theorem hashLoop_entry (env : Env) (f : Nat) (st : PS) (items : List (Expr × Expr)) (a b : Str) (ek ev : Expr) (Z : List Sym)
    (hst : readTok env st.rest = readTok env (syms a ++ (.chr ' ' :: .chr '=' :: .chr '>' :: .chr ' ' :: (syms b ++ Z))))
    (ha : ∃ t s, readTok env (syms a ++ (.chr ' ' :: .chr '=' :: .chr '>' :: .chr ' ' :: (syms b ++ Z))) = .ok (t, s) ∧
      parseItem env f t s = ItemRes env ek (.chr ' ' :: .chr '=' :: .chr '>' :: .chr ' ' :: (syms b ++ Z)))
    (hb : ∃ t s, readTok env (syms b ++ Z) = .ok (t, s) ∧ parseItem env f t s = ItemRes env ev Z) :
    hashLoop env (f + 1) st items = (readTok env Z).bind (afterKV env f items (ek, ev)) := by
  obtain ⟨tk, st1, a1, a2⟩ := ha
  obtain ⟨tk2, st3, b1, b2⟩ := hb
  unfold hashLoop
  rw [hst, a1]
  simp only [PR.bind, a2, ItemRes, readTok_rocket, ne_eq, not_true_eq_false, if_false, readTok_blank, b1, b2]
  cases readTok env Z <;> rfl

mutual
theorem item_rt (env : Env) : (v : Val) → Lit env v → (k : List Sym) → follows k = true → (fuel : Nat) →
    2 * (printVal v).length ≤ fuel →
    ∃ t st, readTok env (syms (printVal v) ++ k) = .ok (t, st) ∧
      parseItem env fuel t st = ItemRes env (exprOf v) k
  | .arr vs, hv, k, hk, fuel, hf => by
    simp only [printVal, List.length_cons, List.length_append, List.length_nil] at hf
    obtain ⟨f, rfl⟩ : ∃ f, fuel = f + 1 := ⟨fuel - 1, by omega⟩
    refine ⟨⟨.lbrack, ['[']⟩, ⟨syms (printVals vs ++ [']']) ++ k, false, 1⟩, ?_, ?_⟩
    · simp only [printVal, syms_cons, List.cons_append]
      exact readTok_punct env '[' .lbrack _ (by simp)
    · unfold parseItem
      simp only
      have hlit : LitL env vs := by simpa [Lit] using hv
      rw [arr_rt env vs hlit k hk f (by omega) _ [] (by simp) (by simp [syms_append])]
      simp only [PR.bind, after_eq, List.reverse_nil, List.nil_append, exprOf]
      rw [cvt_exprsOf]
  | .hash es, hv, k, hk, fuel, hf => by
    simp only [printVal, List.length_cons, List.length_append, List.length_nil] at hf
    obtain ⟨f, rfl⟩ : ∃ f, fuel = f + 1 := ⟨fuel - 1, by omega⟩
    refine ⟨⟨.lcurly, ['{']⟩, ⟨syms (printEntries es ++ ['}']) ++ k, false, 1⟩, ?_, ?_⟩
    · simp only [printVal, syms_cons, List.cons_append]
      exact readTok_punct env '{' .lcurly _ (by simp)
    · unfold parseItem
      simp only
      have hlit : LitE env es := by simpa [Lit] using hv
      rw [hash_rt env es hlit k hk f (by omega) _ [] (by simp [syms_append])]
      simp only [PR.bind, after_eq, List.reverse_nil, List.nil_append, exprOf]
  | .tyx n none, hv, k, hk, fuel, _ => by
    obtain ⟨c, w, rfl, hc, hw⟩ : TyName n := by simpa [Lit] using hv
    refine ⟨⟨.name, c :: w⟩, ⟨k, false, (c :: w).length⟩, ?_, ?_⟩
    · exact readTok_of_tok (nextToken_name env.isLetter c w k hc hw (identStop_of_stopOK (stopOK_of_follows hk)))
    · rw [parseItem_name_bare env fuel (c :: w) ⟨k, false, (c :: w).length⟩ hk]
      simp [exprOf]
  | .tyx n (some ps), hv, k, hk, fuel, hf => by
    obtain ⟨⟨c, w, rfl, hc, hw⟩, hne, hlit⟩ : TyName n ∧ ps ≠ [] ∧ LitL env ps := by simpa [Lit] using hv
    simp only [printVal, List.length_cons, List.length_append, List.length_nil] at hf
    obtain ⟨f, rfl⟩ : ∃ f, fuel = f + 1 := ⟨fuel - 1, by omega⟩
    refine ⟨⟨.name, c :: w⟩, ⟨.chr '[' :: (syms (printVals ps ++ [']']) ++ k), false, (c :: w).length⟩, ?_, ?_⟩
    · have := nextToken_name env.isLetter c w (.chr '[' :: (syms (printVals ps ++ [']']) ++ k)) hc hw (identStop_lbrack _)
      simp only [printVal, syms_append, syms_cons, List.append_assoc, List.cons_append] at this ⊢
      exact readTok_of_tok this
    · unfold parseItem
      simp only
      rw [readTok_punct env '[' .lbrack _ (by simp)]
      simp only [PR.bind]
      rw [arr_rt env ps hlit k hk f (by omega) _ [] (by simp) (by simp [syms_append])]
      simp only [asArray, after_eq, List.reverse_nil, List.nil_append, exprOf]
      rw [cvt_exprsOf]
      have hemp : (exprsOf ps).isEmpty = false := by
        cases ps with
        | nil => exact absurd rfl hne
        | cons p ps' => simp [exprsOf]
      simp [hemp]
  | .obj n es, hv, k, hk, fuel, hf => by
    obtain ⟨⟨c, w, r, rfl, hc, hw, hr⟩, hnd, hlit⟩ : ObjName n ∧ n ≠ "Deferred".toList ∧ LitE env es := by
      simpa [Lit] using hv
    have hlen : 1 ≤ (qname c w r).length := by simp [qname]
    simp only [printVal, List.length_cons, List.length_append, List.length_nil] at hf
    obtain ⟨f, rfl⟩ : ∃ f, fuel = f + 1 := ⟨fuel - 1, by omega⟩
    refine ⟨⟨.name, qname c w r⟩, ⟨.chr '(' :: (syms (printEntries es ++ [')']) ++ k), false, (qname c w r).length⟩, ?_, ?_⟩
    · have := nextToken_qname env.isLetter c w r (.chr '(' :: (syms (printEntries es ++ [')']) ++ k)) hc hw hr
        (identStop_lparen _)
      simp only [printVal, syms_append, syms_cons, List.append_assoc, List.cons_append] at this ⊢
      exact readTok_of_tok this
    · unfold parseItem
      simp only
      rw [readTok_of_tok (nextToken_lparen env.isLetter _)]
      simp only [PR.bind]
      cases es with
      | nil =>
        obtain ⟨f', rfl⟩ : ∃ f', f = f' + 1 := ⟨f - 1, by omega⟩
        unfold arrayLoop
        simp only [printEntries, List.nil_append, syms_cons, syms_nil, List.cons_append]
        rw [readTok_punct env ')' .rparen k (by simp)]
        simp only [PR.bind]
        unfold parseItem
        simp only [if_true, List.reverse_nil, cvt, asArray]
        rw [if_pos hnd]
        simp only [after_eq, exprOf]
      | cons e es' =>
        have hp := params_rt env (e :: es') hlit (by simp) k hk f (by omega)
          ⟨syms (printEntries (e :: es') ++ [')']) ++ k, false, ['('].length⟩ [] rfl
        simp only [entryExprs, List.reverse_nil, List.nil_append] at hp
        simp only [syms_append] at hp ⊢
        rw [hp]
        simp only [asArray]
        rw [if_pos hnd]
        have hc2 := cvt_entries (e :: es') [] (Or.inl (by simp))
        simp only [entryExprs, List.reverse_nil, List.nil_append] at hc2
        rw [hc2]
        simp only [after_eq, exprOf]
  | .undef, hv, k, hk, fuel, _ => item_scalar env _ hv k (stopOK_of_follows hk) fuel trivial
  | .dflt, hv, k, hk, fuel, _ => item_scalar env _ hv k (stopOK_of_follows hk) fuel trivial
  | .bool _, hv, k, hk, fuel, _ => item_scalar env _ hv k (stopOK_of_follows hk) fuel trivial
  | .int _, hv, k, hk, fuel, _ => item_scalar env _ hv k (stopOK_of_follows hk) fuel trivial
  | .float _ _, hv, k, hk, fuel, _ => item_scalar env _ hv k (stopOK_of_follows hk) fuel trivial
  | .str _, hv, k, hk, fuel, _ => item_scalar env _ hv k (stopOK_of_follows hk) fuel trivial
  | .regexp _, hv, k, hk, fuel, _ => item_scalar env _ hv k (stopOK_of_follows hk) fuel trivial

theorem arr_rt (env : Env) : (vs : List Val) → LitL env vs → (k : List Sym) → follows k = true → (fuel : Nat) →
    2 * (printVals vs).length + 1 ≤ fuel → (st : PS) → (items : List Expr) → (∀ e ∈ items, e.noEntry = true) →
    readTok env st.rest = readTok env (syms (printVals vs ++ [']']) ++ k) →
    arrayLoop env fuel .rbrack st items none =
      .ok (.arr (cvt (items.reverse ++ exprsOf vs) []), ⟨k, false, 1⟩)
  | [], _, k, _, fuel, hf, st, items, _, hst => by
    obtain ⟨f, rfl⟩ : ∃ f, fuel = f + 1 := ⟨fuel - 1, by omega⟩
    unfold arrayLoop
    simp only [printVals, List.nil_append, syms_cons, syms_nil, List.cons_append] at hst
    rw [hst, readTok_punct env ']' .rbrack k (by simp)]
    simp only [PR.bind]
    unfold parseItem
    simp [exprsOf]
  | [v], hvs, k, hk, fuel, hf, st, items, hi, hst => by
    obtain ⟨f, rfl⟩ : ∃ f, fuel = f + 1 := ⟨fuel - 1, by omega⟩
    simp only [printVals] at hf hst
    rw [arrayLoop_item env .rbrack (printVal v) (exprOf v) (.chr ']' :: k) f st items none
        (by simpa [syms_append, syms_cons] using hst) (item_rt env v hvs.1 _ (follows_rbrack k) f (by omega)),
      readTok_punct env ']' .rbrack k (by simp), PR.bind, afterEl_close]
    simp [exprsOf]
  | v :: w :: ws, hvs, k, hk, fuel, hf, st, items, hi, hst => by
    obtain ⟨f, rfl⟩ : ∃ f, fuel = f + 1 := ⟨fuel - 1, by omega⟩
    simp only [printVals, List.length_append, List.length_cons] at hf
    let X := syms (printVals (w :: ws) ++ [']']) ++ k
    rw [arrayLoop_item env .rbrack (printVal v) (exprOf v) (.chr ',' :: .chr ' ' :: X) f st items none
        (by simpa [printVals, syms_append, syms_cons, X] using hst) (item_rt env v hvs.1 _ (follows_comma _) f (by omega)),
      readTok_punct env ',' .comma _ (by simp), PR.bind, afterEl_comma env f _ (by decide),
      arr_rt env (w :: ws) hvs.2 k hk f (by omega) _ (exprOf v :: items) (List.forall_mem_cons.2 ⟨exprOf_noEntry v, hi⟩)
        (by simp only [readTok_blank]; rfl)]
    simp [exprsOf]

theorem hash_rt (env : Env) : (es : List (Val × Val)) → LitE env es → (k : List Sym) → follows k = true → (fuel : Nat) →
    2 * (printEntries es).length + 1 ≤ fuel → (st : PS) → (items : List (Expr × Expr)) →
    readTok env st.rest = readTok env (syms (printEntries es ++ ['}']) ++ k) →
    hashLoop env fuel st items = .ok (items.reverse ++ entriesOf es, ⟨k, false, 1⟩)
  | [], _, k, _, fuel, hf, st, items, hst => by
    obtain ⟨f, rfl⟩ : ∃ f, fuel = f + 1 := ⟨fuel - 1, by omega⟩
    unfold hashLoop
    simp only [printEntries, List.nil_append, syms_cons, syms_nil, List.cons_append] at hst
    rw [hst, readTok_punct env '}' .rcurly k (by simp)]
    simp only [PR.bind]
    unfold parseItem
    simp [entriesOf]
  | [(kk, vv)], hes, k, hk, fuel, hf, st, items, hst => by
    obtain ⟨f, rfl⟩ : ∃ f, fuel = f + 1 := ⟨fuel - 1, by omega⟩
    simp only [printEntries, List.length_append] at hf hst
    rw [hashLoop_entry env f st items (printVal kk) (printVal vv) (exprOf kk) (exprOf vv) (.chr '}' :: k)
        (by simpa [kw_arrow, syms_append, syms_cons] using hst)
        (item_rt env kk hes.1 _ (follows_rocket _) f (by omega)) (item_rt env vv hes.2.1 _ (follows_rcurly k) f (by omega)),
      readTok_punct env '}' .rcurly k (by simp), PR.bind, afterKV_close]
    simp [entriesOf]
  | (kk, vv) :: e2 :: es, hes, k, hk, fuel, hf, st, items, hst => by
    obtain ⟨f, rfl⟩ : ∃ f, fuel = f + 1 := ⟨fuel - 1, by omega⟩
    simp only [printEntries, List.length_append, List.length_cons] at hf
    let X := syms (printEntries (e2 :: es) ++ ['}']) ++ k
    rw [hashLoop_entry env f st items (printVal kk) (printVal vv) (exprOf kk) (exprOf vv) (.chr ',' :: .chr ' ' :: X)
        (by simpa [printEntries, kw_arrow, syms_append, syms_cons, X] using hst)
        (item_rt env kk hes.1 _ (follows_rocket _) f (by omega)) (item_rt env vv hes.2.1 _ (follows_comma _) f (by omega)),
      readTok_punct env ',' .comma _ (by simp), PR.bind, afterKV_comma,
      hash_rt env (e2 :: es) hes.2.2 k hk f (by omega) _ ((exprOf kk, exprOf vv) :: items) (by simp only [readTok_blank]; rfl)]
    simp [entriesOf]
/-- the arguments `k => v, …` of a constructor call `Name(…)`, entered after `(`: `p.params()` collects one entry per pair
    (two loop iterations each: the key, then — with `rockLhs` set — the value) -/
theorem params_rt (env : Env) : (es : List (Val × Val)) → LitE env es → es ≠ [] → (k : List Sym) → follows k = true →
    (fuel : Nat) → 2 * (printEntries es).length + 2 ≤ fuel → (st : PS) → (items : List (Val × Val)) →
    readTok env st.rest = readTok env (syms (printEntries es ++ [')']) ++ k) →
    arrayLoop env fuel .rparen st (entryExprs items).reverse none =
      .ok (.arr (cvt (entryExprs items ++ entryExprs es) []), ⟨k, false, 1⟩)
  | [], _, hne, _, _, _, _, _, _, _ => absurd rfl hne
  | [(kk, vv)], hes, _, k, hk, fuel, hf, st, items, hst => by
    obtain ⟨f, rfl⟩ : ∃ f, fuel = f + 2 := ⟨fuel - 2, by omega⟩
    simp only [printEntries, List.length_append] at hf hst
    rw [arrayLoop_item env .rparen (printVal kk) (exprOf kk) _ (f + 1) st _ none
        (by simpa [kw_arrow, syms_append, syms_cons] using hst) (item_rt env kk hes.1 _ (follows_rocket _) (f + 1) (by omega)),
      readTok_blank, readTok_rocket, PR.bind, afterEl_rocket env _ _ (by decide),
      arrayLoop_item env .rparen (printVal vv) (exprOf vv) (.chr ')' :: k) f _ _ (some (exprOf kk)) (readTok_blank env _)
        (item_rt env vv hes.2.1 _ (follows_rparen k) f (by omega)),
      readTok_punct env ')' .rparen k (by simp), PR.bind, afterEl_close]
    simp [entryExprs]
  | (kk, vv) :: e2 :: es, hes, _, k, hk, fuel, hf, st, items, hst => by
    obtain ⟨f, rfl⟩ : ∃ f, fuel = f + 2 := ⟨fuel - 2, by omega⟩
    simp only [printEntries, List.length_append, List.length_cons] at hf
    rw [arrayLoop_item env .rparen (printVal kk) (exprOf kk) _ (f + 1) st _ none
        (by simpa [printEntries, kw_arrow, syms_append, syms_cons] using hst)
        (item_rt env kk hes.1 _ (follows_rocket _) (f + 1) (by omega)),
      readTok_blank, readTok_rocket, PR.bind, afterEl_rocket env _ _ (by decide),
      arrayLoop_item env .rparen (printVal vv) (exprOf vv) _ f _ _ (some (exprOf kk))
        (readTok_blank env _) (item_rt env vv hes.2.1 _ (follows_comma _) f (by omega)),
      readTok_punct env ',' .comma _ (by simp), PR.bind, afterEl_comma env f _ (by decide)]
    have hitems : (entryExprs (items ++ [(kk, vv)])).reverse = .entry (exprOf kk) (exprOf vv) :: (entryExprs items).reverse := by
      simp [entryExprs_append, entryExprs]
    rw [← hitems, params_rt env (e2 :: es) hes.2.2 (by simp) k hk f (by omega) _ (items ++ [(kk, vv)])
      (by simp [readTok_blank, syms_append, syms_cons])]
    simp [entryExprs_append, entryExprs]
end

theorem exprOf_eq_str {v : Val} {s : Str} (h : exprOf v = .str s) : v = .str s := by
  cases v with
  | str a => cases h; rfl
  | tyx n ps => cases ps <;> cases h
  | obj n es => cases es <;> cases h
  | _ => cases h

theorem first_tok_not_type (env : Env) (v : Val) (t : Tok) (st : PS) (fuel : Nat)
    (h1 : readTok env (syms (printVal v)) = .ok (t, st))
    (h2 : parseItem env fuel t st = ItemRes env (exprOf v) []) :
    ¬(t.k = .ident ∧ t.s = "type".toList) := by
  rintro ⟨hk, hs⟩
  -- an item that starts with the identifier `type` is the string `type` …
  have e : exprOf v = .str "type".toList := by
    rw [parseItem.eq_def] at h2
    simp only [hk, hs, after_eq, ItemRes, readTok_nil, PR.bind] at h2
    cases hr : readTok env st.rest <;> simp [hr, keyword] at h2
    exact h2.1.symm
  -- … and a string is written with a quote in front
  rw [exprOf_eq_str e, printVal,
    ← List.append_nil (syms _), readTok_of_tok (nextToken_puppetQuote env.isLetter _ [])] at h1
  cases h1
  cases hk

theorem value_rt (env : Env) (v : Val) (hv : Lit env v) : parse env (syms (printVal v)) = .value (exprOf v) := by
  obtain ⟨t, st, h1, h2⟩ := item_rt env v hv [] rfl (fuelFor (syms (printVal v)))
    (by simp [fuelFor, syms])
  simp only [List.append_nil] at h1
  have hnt := first_tok_not_type env v t st _ h1 h2
  unfold parse parseFile
  simp only [h1, PR.bind, hnt, if_false]
  unfold parseTop
  simp only [h2, ItemRes, readTok_nil, PR.bind]
  simp

end Pcore.Syntax

import Pcore.Proofs.LatCallable
import Pcore.Proofs.LatTransStep
/-! C03, transitivity with Callable: the rule of a Callable receiver (`tr_callable_gen`).  It holds when each of the three Callables is the
    default one or says something about its PARAMETERS (`CP`); the excluded shape — parameters absent but a return type or a block present,
    which only the Go constructor makes — is exactly the left type of the known finding C03-trans-callable-top.  The parameter and block
    tests are made in reverse, so the recursive call has its arguments swapped: the rule takes transitivity on lighter triples, in any
    order, as a hypothesis, and Proofs/LatTransU supplies it from one nesting level of Callables further down. -/
namespace Pcore.Lat

variable (cfg : Cfg) (sfh : Bool)

/-- what the rule of a Callable receiver asks of the three Callables: the shape, and the parts in a fragment `P` on which `asg` is
    already transitive -/
def CP (P : Ty → Prop) (p r b : Option Ty) : Prop :=
  (p.isSome = true ∨ (r = none ∧ b = none)) ∧
  (match p with | none => True | some t' => P t' ∧ Ty.WF cfg t') ∧
  (match r with | none => True | some t' => P t' ∧ Ty.WF cfg t') ∧
  (match b with | none => True | some t' => P t' ∧ Ty.WF cfg t')

section
variable {cfg} {P : Ty → Prop} {p r b : Option Ty} {t : Ty}
theorem CP.par (h : CP cfg P (some t) r b) : P t ∧ Ty.WF cfg t := h.2.1
theorem CP.ret (h : CP cfg P p (some t) b) : P t ∧ Ty.WF cfg t := h.2.2.1
theorem CP.blk (h : CP cfg P p r (some t)) : P t ∧ Ty.WF cfg t := h.2.2.2
end

theorem callable_closed {p r k : Option Ty} {b : Ty} (h : asgRecv cfg sfh (.callable p r k) b = true) :
    ∃ p' r' k', b = .callable p' r' k' := by
  unfold asgRecv at h; split at h
  · exact ⟨_, _, _, rfl⟩
  · cases h

/-- `Callable ⊒ Callable ⊒ Callable`, given transitivity `tr` on lighter triples in whichever order they come: the return types compose (an absent
    return type of the middle stands for Any: what accepts Any accepts everything), the parameter and block tests IN REVERSE compose the
    other way round; the left type is the default Callable or has parameters, so the middle and the right type have parameters too -/
theorem tr_callable_gen {P : Ty → Prop} (hP : FragOK sfh P) (p r k : Option Ty) (b c : Ty)
    (tr : ∀ x y z, x.w + y.w + z.w < (Ty.callable p r k).w + b.w + c.w →
      P x → P y → P z → Ty.WF cfg y → Ty.WF cfg z → asg cfg sfh x y = true → asg cfg sfh y z = true → asg cfg sfh x z = true)
    (fa : CP cfg P p r k) (fb : ∀ p' r' k', b = .callable p' r' k' → CP cfg P p' r' k')
    (fc : ∀ p' r' k', c = .callable p' r' k' → CP cfg P p' r' k')
    (h1 : asgRecv cfg sfh (.callable p r k) b = true) (h2 : asgRecv cfg sfh b c = true) :
    asgRecv cfg sfh (.callable p r k) c = true := by
  obtain ⟨p', r', k', rfl⟩ := callable_closed cfg sfh h1
  obtain ⟨p'', r'', k'', rfl⟩ := callable_closed cfg sfh h2
  have fb := fb _ _ _ rfl
  have fc := fc _ _ _ rfl
  rw [recv_callable_eq] at h1 h2 ⊢
  cases p with
  | none =>
    -- no parameter list: the default Callable, which accepts every Callable
    obtain ⟨rfl, rfl⟩ : r = none ∧ k = none := by simpa using fa.1
    exact callAcc_default cfg sfh _ _ _
  | some x =>
    -- a parameter list on the left: then on the other two as well (the parameter test is made in reverse)
    obtain ⟨R1, ⟨y, rfl, hyx⟩, B1⟩ := (callAcc_some_iff ..).1 h1
    obtain ⟨R2, ⟨z, rfl, hzy⟩, B2⟩ := (callAcc_some_iff ..).1 h2
    refine (callAcc_some_iff ..).2 ⟨?_, ⟨z, rfl, tr z y x (by simp only [Ty.w, Ty.wo]; omega) fc.par.1 fb.par.1 fa.par.1
      fb.par.2 fa.par.2 hzy hyx⟩, ?_⟩
    · rintro a0 rfl
      have h := R1 a0 rfl
      cases r' with
      | none => exact accepts_any cfg sfh hP a0 fa.ret.1 h _
      | some b0 =>
        have hc0 : P (r''.getD .any) ∧ Ty.WF cfg (r''.getD .any) := by
          cases r'' with
          | none => exact ⟨hP.leaf _ rfl, Ty.wf_of_fragLeaf rfl cfg⟩
          | some c0 => exact fc.ret
        exact tr a0 b0 _ (by cases r'' <;> simp only [Ty.w, Ty.wo, Option.getD] <;> omega) fa.ret.1 fb.ret.1 hc0.1
          fb.ret.2 hc0.2 h (R2 b0 rfl)
    · rcases B1 with ⟨rfl, rfl⟩ | ⟨a0, b0, rfl, rfl, hba⟩
      · rcases B2 with ⟨_, rfl⟩ | ⟨_, _, e, _, _⟩
        · exact Or.inl ⟨rfl, rfl⟩
        · cases e
      · rcases B2 with ⟨e, _⟩ | ⟨_, c0, e, rfl, hcb⟩
        · cases e
        · cases e
          exact Or.inr ⟨a0, c0, rfl, rfl, tr c0 b0 a0 (by simp only [Ty.w, Ty.wo]; omega) fc.blk.1 fb.blk.1 fa.blk.1
            fb.blk.2 fa.blk.2 hcb hba⟩

end Pcore.Lat

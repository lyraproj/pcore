import Pcore.Proofs.FilesTypesetChild
/-!
C15, type sets through the DEPENDENCY loader as the context's loader (default topology: module loaders are children of the
global loader): a qualified name is routed to the module its first segment names; every member costs a complete miss of the
global loader, of the module loader and a placeholder in the dependency loader's own cache, then the definition over the
latter; the type set is defined in the dependency loader and answered through `SetEntry` (fix 80f753b).
-/
namespace Pcore.Files

/-- the state after the members `ts` have been defined through the dependency loader -/
def defineMembers3 (mod : String) (nm : Name) : List String → Nat → St → St
  | [], _, σ => σ
  | t :: rest, i, σ =>
    defineMembers3 mod nm rest (i+1)
      (((σ.put .g (keyOf (nm ++ [t])) none).put (.m mod) (keyOf (nm ++ [t])) none).put .d (keyOf (nm ++ [t]))
        (some ⟨kindAt i, nm ++ [t]⟩))

theorem defineMembers3_eq (mod : String) (nm : Name) : ∀ (ts : List String) (i : Nat) (σ : St),
    defineMembers3 mod nm ts i σ = membersBy [.g, .m mod] .d nm ts i σ
  | [], _, _ => rfl
  | _ :: rest, i, _ => defineMembers3_eq mod nm rest (i+1) _

theorem resolveTS_dep (cfg : Cfg) (mod : String) (hv : cfg.via = .d) (hflat : cfg.flat = false)
    (hmods : cfg.mods.contains mod = true) (hmne : mod ≠ "") (nm : Name) (hhead : (keyOf nm).head? = some mod) (s1 : St) :
    ∀ (ts : List String) (i : Nat) (σ : St) (k : Nat), 3 * (nm.length + 1) + ts.length ≤ k →
      MemHyp cfg .g nm s1 ts → MemHyp cfg (.m mod) nm s1 ts → MemInv .g nm s1 σ ts → MemInv (.m mod) nm s1 σ ts →
      (∀ t ∈ ts, σ.get .d (keyOf (nm ++ [t])) = none) →
      resolveTS (k+6) cfg nm ts i σ = .ok () (defineMembers3 mod nm ts i σ) := by
  intro ts i σ k hk hhg hhm hig him hdf
  have hnm : nm ≠ [] := hhg.nonempty
  have h := resolveTS_route cfg nm s1 [.g, .m mod] [.g, .m mod] true (3 * (nm.length + 1) + 5)
    (fun l hl => Or.inr hl)
    (fun t σ n hn hsys hq hd => by
      obtain ⟨f, rfl⟩ : ∃ f, n = f + 5 := ⟨n - 5, by omega⟩
      obtain ⟨hqg, hidxg⟩ := hq .g (by simp)
      obtain ⟨hqm, hidxm⟩ := hq (.m mod) (by simp)
      -- a member of `Mod::…` is qualified and routed to `mod`
      have hqual : qualified (nm ++ [t]) = true := by
        cases nm with
        | nil => exact absurd rfl hnm
        | cons a r => simp [qualified]
      have hparts : ∃ ps, partsOf (nm ++ [t]) = some ps ∧ ps.head? = some mod :=
        ⟨_, partsOf_of_isSome (hqm.valid.resolve_left hmne), by
          rw [keyOf_append]
          cases hk0 : keyOf nm with
          | nil => rw [hk0] at hhead; cases hhead
          | cons a r => rw [hk0] at hhead; simpa using hhead⟩
      rw [hv, loadEntry_d]
      exact dLoadEntry_miss cfg mod hflat hmods σ _ (by simp) hqual hparts hsys (hd rfl) hqg hidxg hqm hidxm f
        (by simp; omega))
    ts i σ (k+5) (by omega) hhg.nodup hhg.noStatic
    (by simp only [List.mem_cons, List.not_mem_nil, or_false, forall_eq_or_imp, forall_eq]; exact ⟨hhg, hhm⟩)
    (by simp only [List.mem_cons, List.not_mem_nil, or_false, forall_eq_or_imp, forall_eq]; exact ⟨hig, him⟩)
    (fun _ => hdf)
  rw [defineMembers3_eq, ← hv]
  exact h.1

/-- the state a type-set load through the dependency loader leaves behind (from the state in which the module loader's
    `instantiate` starts) -/
def typesetState3 (mod : String) (name nm : Name) (ts : List String) (p : Path) (s : St) : St :=
  (defineMembers3 mod nm ts 0 ((s.put (.m mod) (keyOf name) none).addRead p)).put .d (keyOf name) (some ⟨.typeset, nm⟩)

theorem typesetState3_reads (mod : String) (name nm : Name) (ts : List String) (p : Path) (s : St) :
    (typesetState3 mod name nm ts p s).reads = s.reads ++ [p] := by
  rw [typesetState3, reads_put, defineMembers3_eq, membersBy_reads]
  rfl

theorem typesetState3_member (mod : String) (name nm : Name) (ts : List String) (p : Path) (s : St)
    (hkey : keyOf nm = keyOf name) (hnd : (ts.map lowerS).Nodup) (j : Nat) (t : String) (ht : ts[j]? = some t) :
    (typesetState3 mod name nm ts p s).get .d (keyOf (nm ++ [t])) = some (some ⟨kindAt j, nm ++ [t]⟩) := by
  rw [typesetState3, get_put_key (memberKey_ne_name hkey t), defineMembers3_eq,
    membersBy_get_member _ _ nm _ ts 0 _ j t hnd ht, if_pos rfl, Nat.zero_add]

theorem typesetState3_get_name (mod : String) (name nm : Name) (ts : List String) (p : Path) (s : St)
    (hkey : keyOf nm = keyOf name) (l : Lid) (hl : l ≠ .d) :
    (typesetState3 mod name nm ts p s).get l (keyOf name) = (s.put (.m mod) (keyOf name) none).get l (keyOf name) := by
  rw [typesetState3, get_put_lid hl, defineMembers3_eq,
    membersBy_get_other _ _ nm l _ ts 0 _ (fun t _ h => memberKey_ne_name hkey t h.symm), get_addRead]

theorem typesetState3_get_outside {mod : String} (name nm : Name) (ts : List String) (p : Path) (s : St) (l : Lid) (k0 : Key)
    (h1 : l ≠ .g) (h2 : l ≠ .m mod) (h3 : l ≠ .d) : (typesetState3 mod name nm ts p s).get l k0 = s.get l k0 := by
  rw [typesetState3, get_put_lid h3, defineMembers3_eq,
    membersBy_get_outside _ _ nm l h3 (by simp [h1, h2]), get_addRead, get_put_lid h2]

/-- `instantiate` of a type-set file by a module loader below the global loader when the DEPENDENCY loader is the context's
    loader: the members and the type set are defined in the dependency loader, the module loader keeps its placeholder
    (which is what it answers) -/
theorem instantiate_typeset_dep (cfg : Cfg) (mod : String) (hv : cfg.via = .d) (hflat : cfg.flat = false)
    (hmods : cfg.mods.contains mod = true) (hmne : mod ≠ "")
    (name nm : Name) (ts : List String) (p : Path) (ps : List Path) (s0 : St) (k : Nat)
    (hk : 3 * (nm.length + 1) + ts.length ≤ k)
    (hb : bodyAt cfg.tree p = some (.typ .typeset nm ts)) (hkey : keyOf nm = keyOf name)
    (hhead : (keyOf nm).head? = some mod)
    (hgetm : s0.get (.m mod) (keyOf name) = none) (hgetg : s0.get .g (keyOf name) = some none)
    (hgetd : s0.get .d (keyOf name) = none)
    (hhg : MemHyp cfg .g nm ((s0.put (.m mod) (keyOf name) none).addRead p) ts)
    (hhm : MemHyp cfg (.m mod) nm ((s0.put (.m mod) (keyOf name) none).addRead p) ts)
    (hfreshg : ∀ t ∈ ts, s0.get .g (keyOf (nm ++ [t])) = none)
    (hfreshm : ∀ t ∈ ts, s0.get (.m mod) (keyOf (nm ++ [t])) = none)
    (hfreshd : ∀ t ∈ ts, s0.get .d (keyOf (nm ++ [t])) = none) :
    instantiate (k+9) cfg (.m mod) name (p :: ps) s0 = .ok (some none) (typesetState3 mod name nm ts p s0) := by
  have hother : ∀ (l : Lid) (k0 : Key), l ≠ .m mod → ((s0.put (.m mod) (keyOf name) none).addRead p).get l k0 = s0.get l k0 :=
    fun l k0 hl => get_put_lid hl ..
  have hres := resolveTS_dep cfg mod hv hflat hmods hmne nm hhead _ ts 0 _ k hk hhg hhm
    (memInv_start hkey (Or.inr hgetg) hfreshg) (memInv_start hkey (Or.inl rfl) hfreshm)
    (fun t ht => by rw [hother _ _ (by intro h; cases h)]; exact hfreshd t ht)
  have hdkn : (defineMembers3 mod nm ts 0 ((s0.put (.m mod) (keyOf name) none).addRead p)).get .d (keyOf name) = none := by
    rw [defineMembers3_eq, membersBy_get_other _ _ nm _ _ ts 0 _ (fun t _ h => memberKey_ne_name hkey t h.symm),
      hother _ _ (by intro h; cases h)]
    exact hgetd
  rw [instantiate_typeset_of cfg (.m mod) name nm ts p ps s0 _ (k+6) hb hkey hgetm hres
    (by rw [hv, hdkn]; intro d h; cases h), hv]
  show R.ok ((typesetState3 mod name nm ts p s0).get (.m mod) (keyOf name)) (typesetState3 mod name nm ts p s0) = _
  rw [typesetState3_get_name mod name nm ts p s0 hkey _ (by intro h; cases h), get_put_self]

theorem typeset_dep (cfg : Cfg) (mod : String) (hv : cfg.via = .d) (hflat : cfg.flat = false)
    (hmods : cfg.mods.contains mod = true) (hmne : mod ≠ "")
    (name nm : Name) (hne : name ≠ []) (hqual : qualified name = true) (ts : List String) (p : Path) (ps : List Path)
    (s : St) (k : Nat) (hk : 3 * (nm.length + 1) + ts.length ≤ k)
    (hparts : ∃ ps, partsOf name = some ps ∧ ps.head? = some mod)
    (hsys : sysLoad name = none) (hd : s.get .d (keyOf name) = none)
    (hqg : QuietAnc cfg .g s name) (hig : idx cfg .g (keyOf name) = [])
    (hi : idx cfg (.m mod) (keyOf name) = p :: ps)
    (hb : bodyAt cfg.tree p = some (.typ .typeset nm ts)) (hkey : keyOf nm = keyOf name)
    (hget : s.get (.m mod) (keyOf name) = none)
    (hhg : MemHyp cfg .g nm (((s.put .g (keyOf name) none).put (.m mod) (keyOf name) none).addRead p) ts)
    (hhm : MemHyp cfg (.m mod) nm (((s.put .g (keyOf name) none).put (.m mod) (keyOf name) none).addRead p) ts)
    (hfreshg : ∀ t ∈ ts, s.get .g (keyOf (nm ++ [t])) = none)
    (hfreshm : ∀ t ∈ ts, s.get (.m mod) (keyOf (nm ++ [t])) = none)
    (hfreshd : ∀ t ∈ ts, s.get .d (keyOf (nm ++ [t])) = none) :
    loadS (k+15) cfg s name =
      (.found ⟨.typeset, nm⟩, typesetState3 mod name nm ts p (s.put .g (keyOf name) none)) := by
  have hhead : (keyOf nm).head? = some mod := by
    obtain ⟨ps', hp', hh'⟩ := hparts
    rw [hkey, ← partsOf_eq hp']; exact hh'
  have hlen := length_eq_of_keyOf_eq hkey
  have hget' : (s.put .g (keyOf name) none).get (.m mod) (keyOf name) = none := (get_put_lid (by nofun) ..).trans hget
  have hinst := instantiate_typeset_dep cfg mod hv hflat hmods hmne name nm ts p ps (s.put .g (keyOf name) none) k hk hb hkey
    hhead hget' (get_put_self ..) ((get_put_lid (by nofun) ..).trans hd) hhg hhm
    (fun t ht => (get_put_key (memberKey_ne_name hkey t) ..).trans (hfreshg t ht))
    (fun t ht => (get_put_lid (by nofun) ..).trans (hfreshm t ht))
    (fun t ht => (get_put_lid (by nofun) ..).trans (hfreshd t ht))
  have hfind : dFind (k+13) cfg name s = .ok (some none) (typesetState3 mod name nm ts p (s.put .g (keyOf name) none)) := by
    rw [dFind_routed hmods hqual hparts]
    exact (Below.child_miss hflat hne hsys hqg hig).found (n := k+11) (by omega) hget (by
      rw [find_origin (l := .m mod) (Or.inl ⟨hqual, Or.inr hparts⟩) hi]; exact hinst)
  refine loadS_found ?_
  rw [hv, loadEntry_d, dLoadEntry_fresh hd hfind (Or.inl rfl), typesetState3, get_put_self]

end Pcore.Files

import Pcore.Proofs.TlsDefs
/-!
The loader-chain invariant behind "definitions made in a forked context are invisible to its parent and siblings":
the defining loader (head of the chain) of a WAITING goroutine's context occurs in the chain of no other context —
`Fork` allocates it fresh.  Here: which operations on contexts and loaders keep it.
-/
namespace Pcore.Tls

structure LInv (w : World) : Prop where
  ldPos : 1 ≤ w.nextLoader
  /-- every loader a context refers to has been allocated -/
  chainLt : ∀ i, i < w.nextCtx → ∀ l ∈ (w.ctxs i).loader, l < w.nextLoader
  /-- a waiting goroutine's defining loader is its own: allocated (not the shared environment loader 0) and on no other chain -/
  pendHead : ∀ t ∈ w.pending, ∃ h, headOf w t.ctx = some h ∧ 1 ≤ h ∧ ∀ i, i < w.nextCtx → i ≠ t.ctx → h ∉ (w.ctxs i).loader

/-- the invariant speaks of the context objects through their loader chains only -/
theorem LInv.of_chains {w w' : World} (h : LInv w) (h1 : ∀ i, (w'.ctxs i).loader = (w.ctxs i).loader)
    (h2 : w'.pending = w.pending) (h3 : w'.nextCtx = w.nextCtx) (h4 : w'.nextLoader = w.nextLoader) : LInv w' := by
  refine ⟨h4 ▸ h.ldPos, fun i hi l hm => ?_, fun t ht => ?_⟩
  · rw [h4]; exact h.chainLt i (h3 ▸ hi) l (h1 i ▸ hm)
  · obtain ⟨hd, e, p1, p2⟩ := h.pendHead t (h2 ▸ ht)
    exact ⟨hd, (headOf_congr (h1 _)).trans e, p1, fun i hi hne hm => p2 i (h3 ▸ hi) hne (h1 i ▸ hm)⟩

theorem LInv.of_same {w w' : World} (h : LInv w) (h1 : w'.ctxs = w.ctxs) (h2 : w'.pending = w.pending)
    (h3 : w'.nextCtx = w.nextCtx) (h4 : w'.nextLoader = w.nextLoader) : LInv w' :=
  h.of_chains (fun i => by rw [h1]) h2 h3 h4

theorem LInv.ctxUpd_keep {w : World} (h : LInv w) (c : CtxId) (f : Ctx → Ctx) (hf : ∀ y, (f y).loader = y.loader) :
    LInv (ctxUpd c f w) := by
  refine h.of_chains (fun i => ?_) rfl rfl rfl
  by_cases hi : i = c
  · subst hi; simp [ctxUpd, hf]
  · simp [ctxUpd, hi]

theorem LInv.after_newLoader {w : World} (h : LInv w) : LInv (newLoader w).2 :=
  ⟨Nat.le_succ_of_le h.ldPos, fun i hi l hm => Nat.lt_succ_of_lt (h.chainLt i hi l hm), h.pendHead⟩

theorem LInv.after_erase {w : World} (h : LInv w) (i : Nat) : LInv { w with pending := w.pending.eraseIdx i } :=
  ⟨h.ldPos, h.chainLt, fun t ht => h.pendHead t (List.mem_of_mem_eraseIdx ht)⟩

/-- one context, not a waiting goroutine's, gets the chain `ch`: loaders that are allocated, none of them a waiting goroutine's
    defining loader.  The context may be a new one (`newCtx`) or an old one (`DoWithLoader` entry and exit). -/
theorem LInv.set_chain {w w' : World} (h : LInv w) {c : CtxId} {ch : List LoaderId} (hnp : c ∉ pendCtxs w)
    (h1 : ∀ l ∈ ch, l < w.nextLoader) (h2 : ∀ t ∈ w.pending, ∀ hd, headOf w t.ctx = some hd → hd ∉ ch)
    (hp : w'.pending = w.pending) (hl : w'.nextLoader = w.nextLoader) (hn : ∀ i, i < w'.nextCtx → i ≠ c → i < w.nextCtx)
    (hc : ∀ i, i ≠ c → w'.ctxs i = w.ctxs i) (hat : (w'.ctxs c).loader = ch) : LInv w' := by
  refine ⟨hl ▸ h.ldPos, fun i hi l hm => ?_, fun t ht => ?_⟩
  · rw [hl]
    by_cases hic : i = c
    · rw [hic, hat] at hm; exact h1 l hm
    · rw [hc i hic] at hm; exact h.chainLt i (hn i hi hic) l hm
  · rw [hp] at ht
    obtain ⟨hd, e, p1, p2⟩ := h.pendHead t ht
    have hne : t.ctx ≠ c := fun hc' => hnp (hc' ▸ ctx_mem_pend ht)
    refine ⟨hd, (headOf_congr (congrArg Ctx.loader (hc _ hne))).trans e, p1, fun i hi hit hm => ?_⟩
    by_cases hic : i = c
    · rw [hic, hat] at hm; exact h2 t ht hd e hm
    · rw [hc i hic] at hm; exact p2 i (hn i hi hic) hit hm

theorem LInv.after_newCtx {w : World} (h : LInv w) (hinv : Inv w) (x : Ctx) (hx : ∀ l ∈ x.loader, l < w.nextLoader)
    (hp : ∀ t ∈ w.pending, ∀ hd, headOf w t.ctx = some hd → hd ∉ x.loader) : LInv (newCtx x w).2 :=
  h.set_chain (c := w.nextCtx) (ctx_fresh_not_pend hinv) hx hp rfl rfl
    (fun i hi hne => Nat.lt_of_le_of_ne (Nat.le_of_lt_succ hi) hne) (fun i hi => by simp [newCtx, hi]) (by simp [newCtx])

theorem LInv.after_setLoader {w : World} (h : LInv w) {c : CtxId} (hnp : c ∉ pendCtxs w) (ch : List LoaderId)
    (h1 : ∀ l ∈ ch, l < w.nextLoader) (h2 : ∀ t ∈ w.pending, ∀ hd, headOf w t.ctx = some hd → hd ∉ ch) :
    LInv (ctxUpd c (fun y => { y with loader := ch }) w) :=
  h.set_chain hnp h1 h2 rfl rfl (fun _ hi _ => hi) (fun i hi => by simp [ctxUpd, hi]) (by simp [ctxUpd])

theorem LInv.not_on_chain {w : World} (h : LInv w) {t : Task} (ht : t ∈ w.pending) {hd : LoaderId}
    (e : headOf w t.ctx = some hd) {c : CtxId} (hc : c < w.nextCtx) (hnp : c ∉ pendCtxs w) : hd ∉ (w.ctxs c).loader := by
  obtain ⟨hd', e2, _, p2⟩ := h.pendHead t ht
  rw [e] at e2; cases e2
  exact p2 c hc (fun hct => hnp (hct ▸ ctx_mem_pend ht))

/-- what `pxContext.Fork` and `DoWithLoader` install: a fresh loader on top of the chain of a context that is not a waiting
    goroutine's -/
theorem LInv.wrapped_chain {w : World} (h : LInv w) (hinv : Inv w) {c : CtxId} (hc : c < w.nextCtx) (hnp : c ∉ pendCtxs w) :
    (∀ l ∈ w.nextLoader :: (w.ctxs c).loader, l < w.nextLoader + 1) ∧
    ∀ t ∈ w.pending, ∀ hd, headOf w t.ctx = some hd → hd ∉ w.nextLoader :: (w.ctxs c).loader := by
  refine ⟨fun l hl => ?_, fun t ht hd e hm => ?_⟩
  · rcases List.mem_cons.1 hl with hl | hl
    · rw [hl]; exact Nat.lt_succ_self _
    · exact Nat.lt_succ_of_lt (h.chainLt c hc l hl)
  · rcases List.mem_cons.1 hm with hm | hm
    · exact Nat.lt_irrefl _ (hm ▸ h.chainLt _ (hinv.pendCtxLt t ht) _ (List.mem_of_mem_head? e))
    · exact h.not_on_chain ht e hc hnp hm

theorem LInv.after_forkCtx {w : World} (h : LInv w) (hinv : Inv w) {c : CtxId} (hc : c < w.nextCtx) (hnp : c ∉ pendCtxs w) :
    LInv (forkCtx c w).2 :=
  LInv.after_newCtx (w := (newLoader w).2) h.after_newLoader (newLoader_step hinv).inv _
    (h.wrapped_chain hinv hc hnp).1 (h.wrapped_chain hinv hc hnp).2

theorem LInv.after_spawn {w : World} (h : LInv w) (hinv : Inv w) {c : CtxId} (p : Prog) (hc : c < w.nextCtx)
    (hnp : c ∉ pendCtxs w) : LInv (spawn .now c p w) := by
  have hF := h.after_forkCtx hinv hc hnp
  rw [spawn_now]
  refine ⟨hF.ldPos, hF.chainLt, List.forall_mem_append.2 ⟨hF.pendHead, List.forall_mem_singleton.2 ?_⟩⟩
  refine ⟨w.nextLoader, headOf_forkCtx c w, h.ldPos, fun i hi hne hm => ?_⟩
  have hm' : w.nextLoader ∈ (w.ctxs i).loader := by simpa [forkCtx_ctxs, hne] using hm
  exact Nat.lt_irrefl _ (h.chainLt i (Nat.lt_of_le_of_ne (Nat.le_of_lt_succ hi) hne) _ hm')

/-- exit of `DoWithLoader`: the body's context gets its chain back.  Every loader of that chain was allocated before the body ran;
    a goroutine that is waiting now either was waiting then (same defining loader, `LInv` before) or got a loader allocated later. -/
theorem LInv.after_doloader {g c : Nat} {x : Option LoaderId} {w r : World} (h : Pre g c w) (hl : LInv w)
    (F : Full (some c) x (ctxUpd c (fun y => { y with loader := (newLoader w).1 :: (w.ctxs c).loader }) (newLoader w).2) r)
    (hl3 : LInv r) (hnp : c ∉ pendCtxs r) : LInv (ctxUpd c (fun y => { y with loader := (w.ctxs c).loader }) r) := by
  refine hl3.after_setLoader (c := c) hnp _ ?_ ?_
  · intro l hm
    have h2 : w.nextLoader + 1 ≤ r.nextLoader := F.d.ldMono
    exact Nat.lt_of_lt_of_le (hl.chainLt c h.clt l hm) (Nat.le_trans (Nat.le_succ _) h2)
  · intro t ht hd e hm
    rcases F.d.newHeads t ht with hold | ⟨l, hl', hge⟩
    · have hold' : t ∈ w.pending := hold
      have hne : t.ctx ≠ c := fun hc => h.cnp (hc ▸ ctx_mem_pend hold')
      have e0 : headOf w t.ctx = some hd :=
        (headOf_congr (by rw [F.pend_ctx hold ht]; simp [ctxUpd, newLoader, hne])).symm.trans e
      exact hl.not_on_chain hold' e0 h.clt h.cnp hm
    · rw [e] at hl'; cases hl'
      have h2 : w.nextLoader + 1 ≤ hd := hge
      exact absurd (hl.chainLt c h.clt hd hm) (Nat.not_lt.mpr (Nat.le_trans (Nat.le_succ _) h2))

end Pcore.Tls

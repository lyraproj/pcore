import Pcore.Model.Describe
import Pcore.Proofs.LatAsgEq
/-!
  C19, when a reported type mismatch (Tm) is real: `plain` actual types — no Unit / NotUndef / Optional / Variant / alias at any position
  the describer reaches and no optional Struct key: the kinds `GuardedIsAssignable` decomposes on the right.  Against a plain type the receiver answers
  alone (`asg_plain`), so a container accepts no plain type of another kind: what a container arm of the describer reports as
  "another kind" without asking IsAssignable is then a real type mismatch.
-/
namespace Pcore.Desc
open Pcore.Lat

mutual
def plain : Ty → Bool
  | .unit | .notUndef _ | .optional _ | .variant _ | .data | .richData => false
  | .array e _ => plain e
  | .hash k v _ => plain k && plain v
  | .tuple ts _ => plainL ts
  | .struct ms => plainM ms
  | _ => true
def plainL : List Ty → Bool
  | [] => true
  | t :: ts => plain t && plainL ts
def plainM : List Member → Bool
  | [] => true
  | (_, o, t) :: ms => !o && plain t && plainM ms
end

theorem plainL_iff {ts : List Ty} : plainL ts = true ↔ ∀ t ∈ ts, plain t = true := by
  induction ts with
  | nil => simp [plainL]
  | cons t ts ih => simp only [plainL, Bool.and_eq_true, ih, List.mem_cons, forall_eq_or_imp]

theorem plainM_iff {ms : List Member} : plainM ms = true ↔ ∀ m ∈ ms, m.2.1 = false ∧ plain m.2.2 = true := by
  induction ms with
  | nil => simp [plainM]
  | cons m ms ih =>
    obtain ⟨n, o, t⟩ := m
    simp only [plainM, Bool.and_eq_true, Bool.not_eq_true', ih, List.mem_cons, forall_eq_or_imp]

theorem plainR_of_plain {a : Ty} (hp : plain a = true) : a.plainR = true := by
  cases a <;> first | rfl | cases hp

section
variable (cfg : Cfg) (sfh : Bool)

theorem asg_plain {e a : Ty} (hp : plain a = true) (he : e.isAny = false) (hne : e = a → False) :
    asg cfg sfh e a = asgRecv cfg sfh e a :=
  asg_eq_recv cfg sfh (plainR_of_plain hp) he hne

theorem asg_undef_plain {a : Ty} (hp : plain a = true) (hu : isUndef a = false) : asg cfg sfh .undef a = false := by
  rw [asg_plain cfg sfh hp rfl fun h => by rw [← h] at hu; cases hu]
  unfold asgRecv
  cases a <;> first | rfl | cases hu

theorem asg_optional_plain {t a : Ty} (hp : plain a = true) (hu : isUndef a = false) :
    asg cfg sfh (.optional t) a = asg cfg sfh t a := by
  rw [asg_plain cfg sfh hp rfl fun h => by rw [← h] at hp; cases hp]
  unfold asgRecv
  rw [asg_undef_plain cfg sfh hp hu, Bool.false_or]

/-! a container accepts no plain type of another kind: its `IsAssignable` switches on the kind of the other type -/
theorem asg_struct_other {ms : List Member} {a : Ty} (hp : plain a = true) (h1 : ∀ ms', a = .struct ms' → False)
    (h2 : ∀ k v r, a = .hash k v r → False) : asg cfg sfh (.struct ms) a = false := by
  rw [asg_plain cfg sfh hp rfl fun h => h1 _ h.symm]
  unfold asgRecv
  split
  · exact (h1 _ rfl).elim
  · exact (h2 _ _ _ rfl).elim
  · rfl

theorem asg_hash_other {k v : Ty} {r : Rng} {a : Ty} (hp : plain a = true) (h1 : ∀ ms', a = .struct ms' → False)
    (h2 : ∀ k v r, a = .hash k v r → False) : asg cfg sfh (.hash k v r) a = false := by
  rw [asg_plain cfg sfh hp rfl fun h => h2 _ _ _ h.symm]
  unfold asgRecv
  split
  · exact (h2 _ _ _ rfl).elim
  · exact (h1 _ rfl).elim
  · rfl

theorem asg_tuple_other {ts : List Ty} {g : Option Rng} {a : Ty} (hp : plain a = true) (h1 : ∀ e r, a = .array e r → False)
    (h2 : ∀ ts' g', a = .tuple ts' g' → False) : asg cfg sfh (.tuple ts g) a = false := by
  rw [asg_plain cfg sfh hp rfl fun h => h2 _ _ h.symm]
  unfold asgRecv
  split
  · exact (h1 _ _ rfl).elim
  · exact (h2 _ _ rfl).elim
  · rfl

theorem asg_array_other {et : Ty} {r : Rng} {a : Ty} (hp : plain a = true) (h1 : ∀ ts' g', a = .tuple ts' g' → False)
    (h2 : ∀ e r, a = .array e r → False) : asg cfg sfh (.array et r) a = false := by
  rw [asg_plain cfg sfh hp rfl fun h => h2 _ _ h.symm]
  unfold asgRecv
  split
  · exact (h2 _ _ rfl).elim
  · exact (h1 _ _ rfl).elim
  · rfl

theorem asg_callable_other {ps rt bl : Option Ty} {a : Ty} (hp : plain a = true)
    (h1 : ∀ ap rt' bl', a = .callable (some ap) rt' bl' → False) (h2 : ∀ rt' bl', a = .callable none rt' bl' → False) :
    asg cfg sfh (.callable ps rt bl) a = false := by
  have h : ∀ ps' rt' bl', a = .callable ps' rt' bl' → False := fun ps' =>
    match ps' with
    | none => h2
    | some ap => h1 ap
  rw [asg_plain cfg sfh hp rfl fun h' => h _ _ _ h'.symm]
  unfold asgRecv
  split
  · exact (h _ _ _ rfl).elim
  · rfl

/-! the describer reports a collection that fits in size but is not accepted with its size widened to `Rng.pos`: still not accepted -/
theorem asg_array_generalised {et e' : Ty} {r r' : Rng} (h : ¬ asg cfg sfh (.array et r) (.array e' r') = true) (hs : r.sub r' = true) :
    asg cfg sfh (.array et r) (.array e' Rng.pos) = false := by
  simp only [Bool.not_eq_true, asg_array_array, hs, Bool.true_and, Bool.or_eq_false_iff] at h ⊢
  simp [h.2, Rng.pos, I64.max]

theorem asg_hash_generalised {k v k' v' : Ty} {r r' : Rng} (h : ¬ asg cfg sfh (.hash k v r) (.hash k' v' r') = true) (hs : r.sub r' = true) :
    asg cfg sfh (.hash k v r) (.hash k' v' Rng.pos) = false := by
  simp only [Bool.not_eq_true, asg_hash_hash, hs, Bool.true_and, Bool.or_eq_false_iff] at h ⊢
  simp [h.2, Rng.pos, I64.max]

theorem asg_struct_hash_generalised {ms : List Member} {k' v' : Ty} {r' : Rng}
    (h : ¬ asg cfg sfh (.struct ms) (.hash k' v' r') = true) (hs : (structSize ms).sub r' = true) :
    asg cfg sfh (.struct ms) (.hash k' v' Rng.pos) = false := by
  simp only [Bool.not_eq_true, asg_struct_hash, hs, Bool.and_true] at h ⊢
  simp [h]

end
end Pcore.Desc

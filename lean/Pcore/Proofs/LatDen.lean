import Pcore.Model.LatticeDen
import Pcore.Proofs.LatInst
/-! Lemmas for C02: the pieces of `inst` that have a counterpart in the set denotation `Den` (Data, RichData, Scalar, ranges, Enum, Pattern). -/
namespace Pcore.Lat

theorem instData_iff (v : Val) : instData v = true ↔ IsData v := by
  induction v using Val.ind with
  | array vs ih =>
    simp only [instData, instDataL_iff]
    exact ⟨fun h => IsData.arr vs fun x hx => (ih x hx).1 (h x hx), fun h => by
      cases h with | arr _ h' => exact fun x hx => (ih x hx).2 (h' x hx)⟩
  | hash es _ ih =>
    simp only [instData, instDataE_iff]
    exact ⟨fun h => IsData.hash es (fun e he => (isStrKey_iff _).1 (h e he).1) (fun e he => (ih e he).1 (h e he).2), fun h => by
      cases h with | hash _ h1 h2 => exact fun e he => ⟨(isStrKey_iff _).2 (h1 e he), (ih e he).2 (h2 e he)⟩⟩
  | undef => simp [instData]; exact IsData.undef
  | str s => simp [instData]; exact IsData.str s
  | int i => simp [instData]; exact IsData.int i
  | float f => simp [instData]; exact IsData.float f
  | bool b => simp [instData]; exact IsData.bool b
  | _ => simp [instData]; intro h; cases h

theorem isScalarVal_iff (v : Val) : isScalarVal v = true ↔ IsScalarVal v := by
  cases v <;> simp [isScalarVal, IsScalarVal]

theorem instRich_iff (v : Val) : instRich v = true ↔ IsRich v := by
  induction v using Val.ind with
  | array vs ih =>
    simp only [instRich, instRichL_iff]
    exact ⟨fun h => IsRich.arr vs fun x hx => (ih x hx).1 (h x hx), fun h => by
      cases h with
      | scalar _ h' => cases h'
      | arr _ h' => exact fun x hx => (ih x hx).2 (h' x hx)⟩
  | hash es _ ih =>
    simp only [instRich, instRichE_iff]
    exact ⟨fun h => IsRich.hash es (fun e he => (isRichKey_iff _).1 (h e he).1) (fun e he => (ih e he).1 (h e he).2), fun h => by
      cases h with
      | scalar _ h' => cases h'
      | hash _ h1 h2 => exact fun e he => ⟨(isRichKey_iff _).2 (h1 e he), (ih e he).2 (h2 e he)⟩⟩
  | undef => simp [instRich]; exact IsRich.undef
  | dflt => simp [instRich]; exact IsRich.dflt
  | binary b => simp [instRich]; exact IsRich.bin b
  | typ t => simp [instRich]; exact IsRich.typ t
  | obj p => simp [instRich]; exact IsRich.obj p
  | sensitive s _ => simp [instRich, isScalarVal]; intro h; cases h with | scalar _ h' => cases h'
  | _ => simp [instRich, isScalarVal]; exact IsRich.scalar _ trivial

variable (cfg : Cfg) (sfh : Bool)

theorem Rng.contains_iff (r : Rng) (i : Int) : r.contains i = true ↔ InRng r i := by
  simp [Rng.contains, InRng]

theorem enumInst_iff (vs : List String) (ci : Bool) (s : String)
    (hwf : ci = true → ∀ x ∈ vs, cfg.lower x = x) :
    enumInst cfg vs ci s = true ↔ (vs = [] ∨ (if ci then ∃ x ∈ vs, cfg.lower x = cfg.lower s else s ∈ vs)) := by
  unfold enumInst
  cases ci with
  | false => simp [List.isEmpty_iff]
  | true =>
    simp only [List.isEmpty_iff, Bool.or_eq_true, decide_eq_true_eq, if_true, List.elem_eq_mem]
    constructor
    · rintro (h | h)
      · exact Or.inl h
      · exact Or.inr ⟨cfg.lower s, h, hwf rfl _ h⟩
    · rintro (h | ⟨x, hx, hl⟩)
      · exact Or.inl h
      · right; rw [← hl, hwf rfl x hx]; exact hx

theorem rxAny_iff (rs : List String) (s : String) :
    rxAny cfg rs s = true ↔ ∃ r ∈ rs, cfg.rxMatch r s = true := by
  simp [rxAny]

end Pcore.Lat

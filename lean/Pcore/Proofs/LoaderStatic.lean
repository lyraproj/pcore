import Pcore.Model.LoaderStatic
import Pcore.Proofs.LoaderTS
import Pcore.Proofs.LoaderDep
/-! The global level (`Model/LoaderStatic`), over `Proofs/LoaderTS` and `Proofs/LoaderDep`.  In order: a step of the combined
    model (`stepX`) is the plain one where neither a type set nor a dependency loader is involved; `ResolveResolvables` as a
    sequence of definitions ended by the first rejection (`rrLoop`; C12_rr_*); what a definition does to `resolve` (facts of
    `define`, `load` and `resolve` of `Model/LoaderSeq` alone), in particular in the chain of a name that does not resolve
    (C12_define_ancestor_after_miss); `px.AddTypes` of a type set, member by member (`addMembers`, `addTypeSet`; C12_addts_*);
    every step and every history of the global level `Grows`. -/
namespace Pcore.LoaderSeq

attribute [local irreducible] segsOf canon

theorem stepX_define_plain (tss : List (Option TypeSet)) (dps : List (Option Mods)) (s : Sys) (l : Nat) (n : Name) (v : V)
    (h : tsOf tss l = none) : stepX tss dps s (.define l n v) = define s l n v := by
  unfold stepX
  split
  · rfl
  · rw [stepT_plain tss s (.define l n v) h]; rfl

theorem stepX_plain (tss : List (Option TypeSet)) (dps : List (Option Mods)) (s : Sys) (op : Op)
    (ht : tsOf tss op.loader = none) (hd : ∀ a ∈ chain s.ps op.loader, dps.getD a none = none) :
    stepX tss dps s op = step s op := by
  unfold stepX
  split
  · exact stepD_plain dps s op hd
  · exact stepT_plain tss s op ht

theorem stepX_grows (tss : List (Option TypeSet)) (dps : List (Option Mods)) (s : Sys) (op : Op) :
    Grows s (stepX tss dps s op).1 := by
  unfold stepX
  split
  · exact stepD_grows dps s op
  · exact stepT_grows tss s op

theorem rrLoop_cons (tss : List (Option TypeSet)) (dps : List (Option Mods)) (s : Sys) (l : Nat) (n : Name) (v : V)
    (r : List (Name × V)) :
    rrLoop tss dps s l ((n, v) :: r) =
      if (stepX tss dps s (.define l n v)).2 = .ok then rrLoop tss dps (stepX tss dps s (.define l n v)).1 l r
      else stepX tss dps s (.define l n v) := by
  simp only [rrLoop]
  generalize stepX tss dps s (.define l n v) = r1
  obtain ⟨s1, a⟩ := r1
  cases a <;> simp

theorem rrLoop_grows (tss : List (Option TypeSet)) (dps : List (Option Mods)) (s : Sys) (l : Nat) (q : List (Name × V)) :
    Grows s (rrLoop tss dps s l q).1 := by
  induction q generalizing s with
  | nil => exact .refl s
  | cons hd r ih =>
    obtain ⟨n, w⟩ := hd
    rw [rrLoop_cons]
    split
    · exact (stepX_grows tss dps s _).trans (ih _)
    · exact stepX_grows tss dps s _

theorem rrLoop_ok_bound (tss : List (Option TypeSet)) (dps : List (Option Mods)) (s : Sys) (l : Nat)
    (q : List (Name × V)) (ht : tsOf tss l = none) (hl : l < s.es.length) (h : (rrLoop tss dps s l q).2 = .ok) :
    ∀ nv ∈ q, bound (rrLoop tss dps s l q).1 l (canon nv.1) = some nv.2 := by
  induction q generalizing s with
  | nil => intro nv hnv; cases hnv
  | cons hd r ih =>
    obtain ⟨n, w⟩ := hd
    rw [rrLoop_cons] at h ⊢
    rw [stepX_define_plain tss dps s l n w ht] at h ⊢
    by_cases hok : (define s l n w).2 = .ok
    · simp only [hok, if_true] at h ⊢
      have hl1 : l < (define s l n w).1.es.length := by rw [define_length]; exact hl
      intro nv hnv
      rcases List.mem_cons.mp hnv with rfl | hnv
      · exact (rrLoop_grows tss dps _ l r).keeps l _ _ (define_ok_bound s l n w hl hok)
      · exact ih _ hl1 h nv hnv
    · simp only [hok, if_false] at h

theorem resolve_define_other (s : Sys) (l : Nat) (n : Name) (v : V) (l' : Nat) (k' : Key) (h : k' ≠ canon n) :
    resolve (define s l n v).1 l' k' = resolve s l' k' :=
  resolve_congr (define_ps s l n v) (fun a => define_bound_frame s l n v a k' (Or.inr h)) l'

theorem resolve_define_stable (s : Sys) (l : Nat) (n : Name) (v : V) (k : Key) (w : V)
    (hshape : l ∉ ancestors s.ps l) (h : resolve s l k = some w) : resolve (define s l n v).1 l k = some w :=
  (define_grows s l n v).resolve_stable
    (fun x hx hn => by rw [define_bound_frame s l n v x k (Or.inl fun e => hshape (e ▸ hx))]; exact hn) h

theorem findSome?_unique {α β : Type} (g : α → Option β) (xs : List α) (v : β)
    (hx : ∀ x ∈ xs, g x = none ∨ g x = some v) (hex : ∃ x ∈ xs, g x = some v) : xs.findSome? g = some v := by
  induction xs with
  | nil => obtain ⟨x, hx', _⟩ := hex; cases hx'
  | cons a t ih =>
    simp only [List.findSome?_cons]
    rcases hx a (by simp) with h | h
    · simp only [h]
      apply ih (fun y hy => hx y (by simp [hy]))
      obtain ⟨x, hmem, hv⟩ := hex
      rcases List.mem_cons.mp hmem with rfl | hmem
      · rw [h] at hv; cases hv
      · exact ⟨x, hmem, hv⟩
    · simp [h]

theorem resolve_define_chain (s : Sys) (l a : Nat) (n : Name) (v : V) (hmem : a ∈ chain s.ps l) (ha : a < s.es.length)
    (h : resolve s l (canon n) = none) :
    (define s a n v).2 = .ok ∧ resolve (define s a n v).1 l (canon n) = some v := by
  have hall := (resolve_eq_none_iff s l (canon n)).mp h
  obtain ⟨d1, d2⟩ := define_unbound s a n v ha (hall a hmem)
  refine ⟨d1, ?_⟩
  unfold resolve
  rw [define_ps]
  apply findSome?_unique
  · intro x hx
    by_cases hxa : x = a
    · subst hxa; exact Or.inr d2
    · left; rw [define_bound_frame s a n v x (canon n) (Or.inl hxa)]; exact hall x (List.mem_reverse.mp hx)
  · exact ⟨a, List.mem_reverse.mpr hmem, d2⟩

theorem resolve_define_new (s : Sys) (l : Nat) (n : Name) (v : V) (hl : l < s.es.length)
    (h : resolve s l (canon n) = none) :
    (define s l n v).2 = .ok ∧ resolve (define s l n v).1 l (canon n) = some v :=
  resolve_define_chain s l l n v (by rw [chain_eq]; exact List.mem_cons_self) hl h

theorem load_then_define (s : Sys) (l a : Nat) (n : Name) (v : V) (hmem : a ∈ chain s.ps l) (hlen' : a < s.es.length)
    (h : resolve s l (canon n) = none) :
    (run s [.load l n, .define a n v]).2 = [.notfound, .ok] ∧
    resolve (run s [.load l n, .define a n v]).1 l (canon n) = some v := by
  have hload : (load s l n).2 = .notfound := by
    by_cases ha : n.auth = runtimeAuthority
    · rw [load_eq s l n ha, h]
    · rw [load_foreign s l n ha]
  have g := load_grows s l n
  obtain ⟨d1, d2⟩ := resolve_define_chain (load s l n).1 l a n v (by rw [g.ps]; exact hmem) (by rw [g.length]; exact hlen')
    (by rw [resolve_load]; exact h)
  exact ⟨by simp only [run, step, hload, d1], d2⟩

/-- `resolveTypeSet`, one member at a time, by what the lookup of the member's name handed back (`le`: state and entry
    apart, no `match` on a pair) -/
theorem addMembers_cons (dps : List (Option Mods)) (s : Sys) (l : Nat) (ts m : String) (k : Nat) (r : List (String × Nat))
    (le : Sys × LE) (hle : loadEntryD dps s (chain s.ps l) (memberName ts m) = le) :
    addMembers dps s l ts ((m, k) :: r) =
      match le.2 with
      | .bad => (le.1, .reported "PCORE_INVALID_CHARACTERS_IN_NAME")
      | .ok (some (some _)) => addMembers dps le.1 l ts r
      | .ok _ =>
        if (define le.1 l (memberName ts m) (memberVal ts m k)).2 = .ok then
          addMembers dps (define le.1 l (memberName ts m) (memberVal ts m k)).1 l ts r
        else define le.1 l (memberName ts m) (memberVal ts m k) := by
  simp only [addMembers, hle]
  obtain ⟨s1, e⟩ := le
  have hd : ∀ d : Sys × Ans,
      (match d with
        | (s2, .ok) => addMembers dps s2 l ts r
        | (s2, a) => (s2, a)) = if d.2 = .ok then addMembers dps d.1 l ts r else d := by
    rintro ⟨s2, a⟩
    cases a <;> simp
  cases e with
  | bad => rfl
  | ok o =>
    cases o with
    | none => exact hd _
    | some o2 =>
      cases o2 with
      | none => exact hd _
      | some _ => rfl

theorem addMembers_cons_plain (dps : List (Option Mods)) (s : Sys) (l : Nat) (ts m : String) (k : Nat)
    (r : List (String × Nat)) (hd : ∀ a ∈ chain s.ps l, dps.getD a none = none) :
    addMembers dps s l ts ((m, k) :: r) =
      if (resolve s l (canon (memberName ts m))).isSome then addMembers dps s l ts r
      else if (define s l (memberName ts m) (memberVal ts m k)).2 = .ok then
        addMembers dps (define s l (memberName ts m) (memberVal ts m k)).1 l ts r
      else define s l (memberName ts m) (memberVal ts m k) := by
  rw [addMembers_cons dps s l ts m k r _ (loadEntryD_plain dps s _ _ hd), resolve_eq_join]
  cases loadEntryC s.es (chain s.ps l) (canon (memberName ts m)) with
  | none => rfl
  | some o => cases o <;> rfl

theorem addMembers_grows (dps : List (Option Mods)) (s : Sys) (l : Nat) (ts : String) (ms : List (String × Nat)) :
    Grows s (addMembers dps s l ts ms).1 := by
  induction ms generalizing s with
  | nil => exact .refl s
  | cons hd r ih =>
    obtain ⟨m, j⟩ := hd
    rw [addMembers_cons dps s l ts m j r _ rfl]
    have h1 := loadEntryD_grows dps s (chain s.ps l) (memberName ts m)
    have h2 := h1.trans (step_grows _ (.define l (memberName ts m) (memberVal ts m j)))
    split
    · exact h1
    · exact h1.trans (ih _)
    · split
      · exact h2.trans (ih _)
      · exact h2

theorem addMembers_step (dps : List (Option Mods)) (s : Sys) (l : Nat) (ts m : String) (j : Nat) (r : List (String × Nat))
    (hd : ∀ a ∈ chain s.ps l, dps.getD a none = none) (hl : l < s.es.length) :
    ∃ s1, addMembers dps s l ts ((m, j) :: r) = addMembers dps s1 l ts r ∧ s1.ps = s.ps ∧ s1.es.length = s.es.length ∧
      ∀ k', resolve s1 l k' = if k' = canon (memberName ts m)
        then some ((resolve s l (canon (memberName ts m))).getD (memberVal ts m j)) else resolve s l k' := by
  rw [addMembers_cons_plain dps s l ts m j r hd]
  cases hres : resolve s l (canon (memberName ts m)) with
  | some w => exact ⟨s, rfl, rfl, rfl, fun k' => by split <;> simp [*]⟩
  | none =>
    obtain ⟨dok, dres⟩ := resolve_define_new s l (memberName ts m) (memberVal ts m j) hl hres
    refine ⟨(define s l (memberName ts m) (memberVal ts m j)).1, by simp [dok], define_ps .., define_length .., fun k' => ?_⟩
    split
    · rename_i e; rw [e, dres]; rfl
    · rename_i e; exact resolve_define_other s l _ _ l k' e

theorem addMembers_spec (dps : List (Option Mods)) (s : Sys) (l : Nat) (ts : String) (ms : List (String × Nat))
    (hd : ∀ a ∈ chain s.ps l, dps.getD a none = none) (hl : l < s.es.length)
    (hnd : (ms.map fun m => canon (memberName ts m.1)).Nodup) :
    (addMembers dps s l ts ms).2 = .ok ∧
    (∀ m ∈ ms, resolve (addMembers dps s l ts ms).1 l (canon (memberName ts m.1)) =
      some ((resolve s l (canon (memberName ts m.1))).getD (memberVal ts m.1 m.2))) ∧
    ∀ k', k' ∉ ms.map (fun m => canon (memberName ts m.1)) →
      resolve (addMembers dps s l ts ms).1 l k' = resolve s l k' := by
  induction ms generalizing s with
  | nil => exact ⟨rfl, fun m hm => (nomatch hm), fun _ _ => rfl⟩
  | cons hd0 r ih =>
    obtain ⟨m, j⟩ := hd0
    simp only [List.map_cons, List.nodup_cons] at hnd
    obtain ⟨s1, e, hps, hlen, hres⟩ := addMembers_step dps s l ts m j r hd hl
    obtain ⟨i1, i5, i4⟩ := ih s1 (by rw [hps]; exact hd) (by rw [hlen]; exact hl) hnd.2
    rw [e]
    refine ⟨i1, fun x hx => ?_, fun k' hk' => ?_⟩
    · rcases List.mem_cons.mp hx with rfl | hx
      · rw [i4 _ hnd.1, hres, if_pos rfl]
      · have hne : canon (memberName ts x.1) ≠ canon (memberName ts m) := fun e =>
          hnd.1 (e ▸ List.mem_map_of_mem (f := fun m => canon (memberName ts m.1)) hx)
        rw [i5 x hx, hres, if_neg hne]
    · simp only [List.map_cons, List.mem_cons, not_or] at hk'
      rw [i4 k' hk'.2, hres, if_neg hk'.1]

theorem addTypeSet_eq (dps : List (Option Mods)) (s : Sys) (l : Nat) (ts : String) (ver : Nat) (ms : List (String × Nat)) :
    addTypeSet dps s l ts ver ms =
      if (addMembers dps s l ts ms).2 = .ok then
        define (addMembers dps s l ts ms).1 l ⟨runtimeAuthority, "type", ts⟩ (.tset ts ver)
      else addMembers dps s l ts ms := by
  unfold addTypeSet
  generalize addMembers dps s l ts ms = r
  obtain ⟨s1, a⟩ := r
  cases a <;> simp

theorem addTypeSet_grows (dps : List (Option Mods)) (s : Sys) (l : Nat) (ts : String) (ver : Nat)
    (ms : List (String × Nat)) : Grows s (addTypeSet dps s l ts ver ms).1 := by
  have h1 := addMembers_grows dps s l ts ms
  rw [addTypeSet_eq]
  split
  · exact h1.trans (step_grows _ (.define l _ _))
  · exact h1

theorem bound_addTypeSet_mono (dps : List (Option Mods)) (s : Sys) (l : Nat) (ts : String) (ver : Nat)
    (ms : List (String × Nat)) (l' : Nat) (k : Key) (w : V) (h : bound s l' k = some w) :
    bound (addTypeSet dps s l ts ver ms).1 l' k = some w := (addTypeSet_grows dps s l ts ver ms).keeps l' k w h

theorem stepQ_grows (tss : List (Option TypeSet)) (dps : List (Option Mods)) (q : SysQ) (op : OpQ) :
    Grows q.sys (stepQ tss dps q op).1.sys := by
  cases op with
  | op o => exact stepX_grows tss dps q.sys o
  | reg _ _ => exact .refl _
  | rr l => exact rrLoop_grows tss dps q.sys l q.queue
  | addts l nm ver ms => exact addTypeSet_grows dps q.sys l nm ver ms

theorem runQ_nil (tss : List (Option TypeSet)) (dps : List (Option Mods)) (q : SysQ) : runQ tss dps q [] = (q, []) := rfl

theorem runQ_cons (tss : List (Option TypeSet)) (dps : List (Option Mods)) (q : SysQ) (op : OpQ) (ops : List OpQ) :
    runQ tss dps q (op :: ops) =
      ((runQ tss dps (stepQ tss dps q op).1 ops).1, (stepQ tss dps q op).2 :: (runQ tss dps (stepQ tss dps q op).1 ops).2) := rfl

theorem runQ_grows (tss : List (Option TypeSet)) (dps : List (Option Mods)) (q : SysQ) (ops : List OpQ) :
    Grows q.sys (runQ tss dps q ops).1.sys := by
  induction ops generalizing q with
  | nil => exact .refl _
  | cons op ops ih => rw [runQ_cons]; exact (stepQ_grows tss dps q op).trans (ih _)

end Pcore.LoaderSeq

import Pcore.Model.Describe
/-!
  C19, the parts of the mismatch describer that do not recurse: `mergeDescriptions` always returns, and what it returns comes from
  the list it was given with kind and key unchanged and the path kept up to the one chopped element.
-/
namespace Pcore.Desc
open Pcore.Lat

/-- kind and key of a mismatch: what `mergeMismatch`, `withPath` and `chopPath` never change -/
def Mismatch.kk : Mismatch → Cls × String
  | .missingKey _ k => (.missingKey, k)
  | .extraneousKey _ k => (.extraneousKey, k)
  | .unresolvedTypeReference _ k => (.unresolvedTypeReference, k)
  | m => (m.cls, "")

theorem mergeMismatch_spec (m o : Mismatch) : (mergeMismatch m o).path = m.path ∧ (mergeMismatch m o).kk = m.kk := by
  cases m <;> cases o <;> exact ⟨rfl, rfl⟩

theorem foldMerge_spec {prev r : Mismatch} {rest : List Mismatch} (h : foldMerge prev rest = some r) :
    r.path = prev.path ∧ r.kk = prev.kk := by
  induction rest generalizing prev with
  | nil => simp only [foldMerge, Option.some.injEq] at h; subst h; exact ⟨rfl, rfl⟩
  | cons c rest ih =>
    simp only [foldMerge] at h
    split at h
    · obtain ⟨h1, h2⟩ := ih h
      exact ⟨h1.trans (mergeMismatch_spec prev c).1, h2.trans (mergeMismatch_spec prev c).2⟩
    · cases h

theorem tryClasses_spec {ds : List Mismatch} (hne : ds ≠ []) (cs : List Cls) :
    ∃ r, tryClasses ds cs = .ok r ∧ (r = ds ∨ ∃ m0 ∈ ds, ∃ d, r = [d] ∧ d.path = m0.path ∧ d.kk = m0.kk) := by
  induction cs with
  | nil => exact ⟨ds, rfl, .inl rfl⟩
  | cons c cs ih =>
    simp only [tryClasses]
    split
    · rename_i hlen
      split
      · rename_i hnil
        -- the class holds every mismatch of a non-empty list
        rw [hnil] at hlen
        exact absurd (List.eq_nil_of_length_eq_zero (beq_iff_eq.mp hlen).symm) hne
      · rename_i m0 rest hmm
        split
        · rename_i prev hf
          have hin : m0 ∈ ds := (List.mem_filter.mp (hmm ▸ List.mem_cons_self)).1
          exact ⟨[prev], rfl, .inr ⟨m0, hin, prev, rfl, foldMerge_spec hf⟩⟩
        · exact ih
    · exact ih

theorem chopPath_spec (m : Mismatch) (i : Nat) : (chopPath m i).kk = m.kk ∧ (chopPath m i).path = m.path.eraseIdx i := by
  unfold chopPath; split
  · exact ⟨rfl, (List.eraseIdx_of_length_le ‹_›).symm⟩
  · exact ⟨by cases m <;> rfl, by cases m <;> rfl⟩

theorem eraseIdx_prefix (p : Path) (e : PE) (s : Path) : (p ++ e :: s).eraseIdx p.length = p ++ s := by
  rw [List.eraseIdx_append_of_length_le (Nat.le_refl _), Nat.sub_self]; rfl

theorem mergeDescriptions_spec (pos : Nat) (sm : Cls) (ds : List Mismatch) :
    ∃ r, mergeDescriptions pos sm ds = .ok r ∧
      ∀ m ∈ r, ∃ m0 ∈ ds, m.kk = m0.kk ∧ (m.path = m0.path ∨ m.path = m0.path.eraseIdx pos) := by
  unfold mergeDescriptions
  split
  · exact ⟨[], rfl, List.forall_mem_nil _⟩
  · rename_i hne
    obtain ⟨r', hr', hs⟩ := tryClasses_spec (ds := ds) (by rintro rfl; exact hne rfl) [sm, .missingRequiredBlock, .unexpectedBlock, .type]
    rw [hr']
    have hfrom : ∀ m ∈ r', ∃ m0 ∈ ds, m.kk = m0.kk ∧ m.path = m0.path := by
      intro m hm
      rcases hs with rfl | ⟨m0, hin, d, rfl, hp, hk⟩
      · exact ⟨m, hm, rfl, rfl⟩
      · rw [List.mem_singleton.mp hm]; exact ⟨m0, hin, hk, hp⟩
    rcases r' with _ | ⟨d, _ | ⟨d', rest⟩⟩
    · exact ⟨[], rfl, List.forall_mem_nil _⟩
    · obtain ⟨m0, hin, hk, hp⟩ := hfrom d List.mem_cons_self
      exact ⟨[chopPath d pos], rfl, List.forall_mem_singleton.mpr
        ⟨m0, hin, (chopPath_spec d pos).1.trans hk, .inr (hp ▸ (chopPath_spec d pos).2)⟩⟩
    · exact ⟨_, rfl, fun m hm => (hfrom m hm).imp fun m0 h => ⟨h.1, h.2.1, .inl h.2.2⟩⟩

end Pcore.Desc

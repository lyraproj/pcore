import Pcore.Model.HashPool
import Pcore.Proofs.GoMap
import Pcore.Proofs.OMap
/-!
`types.Hash`.  For ANY entry list the lazily built index answers the LAST position of a key, which fixes what
lookups and `Delete` do on every hash, one built from a literal with repeated keys included (the model of known
finding C09-literal-dup-keys).  Under the invariant (no two equal keys; a cached index is the index of the
entries) the last position is the only one, and every operation refines its `OMap` counterpart.
-/
namespace Pcore.Coll
open OMap

variable {α β κ : Type} [DecidableEq κ]

/-- no two equal keys, and a cached index is the one `valueIndex()` builds from the entries -/
def HInv (key : α → κ) (h : Hash α β κ) : Prop :=
  (keys key h.entries).Nodup ∧ ∀ ix, h.index = some ix → ix = buildIndex key h.entries

/-- the second half of `HInv`, which is all the index needs; it holds of every hash `WrapHash` returns -/
def Hash.Cached (key : α → κ) (h : Hash α β κ) : Prop := ∀ ix, h.index = some ix → ix = buildIndex key h.entries

theorem Hash.cached_wrap (key : α → κ) (es : List (α × β)) : (Hash.wrap es : Hash α β κ).Cached key :=
  fun _ h => nomatch h

theorem HInv.wrap {key : α → κ} {es : List (α × β)} (hn : (keys key es).Nodup) :
    HInv key (Hash.wrap es : Hash α β κ) := ⟨hn, Hash.cached_wrap key es⟩

theorem get_buildIndexFrom (key : α → κ) (es : List (α × β)) (n : Nat) (m : List (κ × Nat)) (k : κ) :
    GoMap.get (buildIndexFrom key es n m) k = match lidx key es k with
      | some i => some (n + i)
      | none => GoMap.get m k := by
  induction es generalizing n m with
  | nil => rfl
  | cons e es ih =>
    rw [buildIndexFrom, ih, lidx]
    cases lidx key es k with
    | some i => simp only [Option.some.injEq]; omega
    | none => by_cases h : key e.1 = k <;> simp [GoMap.get_set, h]

theorem get_buildIndex (key : α → κ) (es : List (α × β)) (k : κ) : GoMap.get (buildIndex key es) k = lidx key es k := by
  rw [buildIndex, get_buildIndexFrom]
  cases lidx key es k <;> simp [GoMap.get]

theorem Hash.Cached.valueIndex {key : α → κ} {h : Hash α β κ} (hc : h.Cached key) :
    (h.valueIndex key).1.entries = h.entries ∧ (h.valueIndex key).1.Cached key ∧
      ∀ k, GoMap.get (h.valueIndex key).2 k = lidx key h.entries k := by
  unfold Hash.valueIndex
  cases hx : h.index with
  | some ix => exact ⟨rfl, hc, fun k => hc ix hx ▸ get_buildIndex key _ k⟩
  | none => exact ⟨rfl, fun ix h' => (Option.some.inj h').symm, get_buildIndex key _⟩

theorem HInv.valueIndex {key : α → κ} {h : Hash α β κ} (hi : HInv key h) :
    (h.valueIndex key).1.entries = h.entries ∧ HInv key (h.valueIndex key).1 ∧
      ∀ k, GoMap.get (h.valueIndex key).2 k = idx key h.entries k := by
  obtain ⟨he, hc, hg⟩ := Hash.Cached.valueIndex hi.2
  exact ⟨he, ⟨he ▸ hi.1, hc⟩, fun k => (hg k).trans (lidx_eq_idx hi.1 k)⟩

theorem Hash.get_eq {key : α → κ} {h : Hash α β κ} (hc : h.Cached key) (k : κ) :
    h.get key k = ((h.valueIndex key).1, some ((getLast key h.entries k).map (·.2))) := by
  rw [Hash.get, hc.valueIndex.2.2, getLast_eq_lidx]
  cases hx : lidx key h.entries k with
  | none => rfl
  | some i => simp [lidx_lt hx]

theorem Hash.includesKey_eq {key : α → κ} {h : Hash α β κ} (hc : h.Cached key) (k : κ) :
    h.includesKey key k = ((h.valueIndex key).1, (getLast key h.entries k).isSome) := by
  rw [Hash.includesKey, hc.valueIndex.2.2, getLast_eq_lidx]
  cases hx : lidx key h.entries k with
  | none => rfl
  | some i => simp [lidx_lt hx]

theorem Hash.delete_eq {key : α → κ} {h : Hash α β κ} (hc : h.Cached key) (k : α) :
    h.delete key k = ((h.valueIndex key).1, some (match lidx key h.entries (key k) with
      | some i => wrap (h.entries.eraseIdx i)
      | none => (h.valueIndex key).1)) := by
  rw [Hash.delete, hc.valueIndex.2.2]
  cases hx : lidx key h.entries (key k) with
  | none => rfl
  | some i => simp [lidx_lt hx, List.eraseIdx_eq_take_drop_succ]

theorem HInv.get {key : α → κ} {h : Hash α β κ} (hi : HInv key h) (k : κ) :
    h.get key k = ((h.valueIndex key).1, some (OMap.get key h.entries k)) := by
  rw [Hash.get_eq hi.2, getLast_eq_getEntry hi.1]; rfl

theorem HInv.includesKey {key : α → κ} {h : Hash α β κ} (hi : HInv key h) (k : κ) :
    h.includesKey key k = ((h.valueIndex key).1, OMap.includes key h.entries k) := by
  rw [Hash.includesKey_eq hi.2, getLast_eq_getEntry hi.1]; rfl

theorem HInv.delete {key : α → κ} {h : Hash α β κ} (hi : HInv key h) (k : α) :
    ∃ n, h.delete key k = ((h.valueIndex key).1, some n) ∧
      n.entries = OMap.delete key h.entries (key k) ∧ HInv key n := by
  obtain ⟨he, hv, _⟩ := hi.valueIndex
  refine ⟨_, Hash.delete_eq hi.2 k, ?_⟩
  rw [OMap.delete_eq hi.1, lidx_eq_idx hi.1]
  cases idx key h.entries (key k) with
  | none => exact ⟨he, hv⟩
  | some i => exact ⟨rfl, HInv.wrap (nodup_of_sublist (List.eraseIdx_sublist _ _) hi.1)⟩

omit [DecidableEq κ] in
theorem dropIdx_eq_filter (key : α → κ) (del : List Nat) (P : κ → Bool) (s : List (α × β)) (n : Nat)
    (h : ∀ j (hj : j < s.length), del.contains (n + j) = P (key s[j].1)) :
    Hash.dropIdx del s n = s.filter (fun e => !P (key e.1)) := by
  induction s generalizing n with
  | nil => rfl
  | cons e es ih =>
    have h0 := h 0 (Nat.zero_lt_succ _)
    have ih' := ih (n + 1) (fun j hj => by
      have := h (j + 1) (Nat.succ_lt_succ hj)
      rwa [Nat.add_assoc, Nat.add_comm 1 j])
    simp only [Nat.add_zero, List.getElem_cons_zero] at h0
    simp only [Hash.dropIdx, h0, ih', List.filter_cons]
    cases P (key e.1) <;> rfl

theorem deleted_contains {key : α → κ} {es : List (α × β)} (hn : (keys key es).Nodup) (ks : List α) (j : Nat)
    (hj : j < es.length) :
    (ks.filterMap (fun k => idx key es (key k))).contains j = (ks.map key).contains (key es[j].1) := by
  rw [Bool.eq_iff_iff]
  simp only [List.contains_iff_mem, List.mem_filterMap, List.mem_map, idx_iff hn, List.getElem?_eq_getElem hj,
    Option.map_some, Option.some.injEq]
  exact exists_congr fun k => and_congr_right fun _ => eq_comm

theorem HInv.deleteAll {key : α → κ} {h : Hash α β κ} (hi : HInv key h) (ks : List α) :
    (h.deleteAll key ks).1 = (h.valueIndex key).1 ∧
      (h.deleteAll key ks).2.entries = OMap.deleteAll key h.entries (ks.map key) ∧
      HInv key (h.deleteAll key ks).2 := by
  obtain ⟨he, hv, hg⟩ := hi.valueIndex
  have hfil : Hash.dropIdx (ks.filterMap (fun k => idx key h.entries (key k))) h.entries 0 =
      OMap.deleteAll key h.entries (ks.map key) :=
    dropIdx_eq_filter key _ (ks.map key).contains _ 0 fun j hj => by
      rw [Nat.zero_add]; exact deleted_contains hi.1 ks j hj
  unfold Hash.deleteAll
  simp only [hg]
  split
  · -- no key found: the receiver itself; the specification filters nothing out either
    rename_i hemp
    refine ⟨rfl, ?_, hv⟩
    rw [he, ← hfil, List.isEmpty_iff.mp hemp]
    rw [dropIdx_eq_filter key [] (fun _ => false) h.entries 0 (by simp)]
    exact (List.filter_eq_self.mpr fun _ _ => rfl).symm
  · exact ⟨rfl, hfil, HInv.wrap (hfil ▸ nodup_of_sublist List.filter_sublist hi.1)⟩

/-- the loop of `mergeEntries` consults the index of the RECEIVER throughout; that is sound because an entry
    put leaves the position of every other key where it was and the merged keys are distinct -/
theorem mergeLoop_eq (key : α → κ) (ix : List (κ × Nat)) (all es : List (α × β)) (hes : (keys key es).Nodup)
    (hag : ∀ e ∈ es, GoMap.get ix (key e.1) = idx key all (key e.1)) :
    Hash.mergeLoop key ix all es = some (OMap.merge key all es) := by
  induction es generalizing all with
  | nil => rfl
  | cons e es ih =>
    have hes' : key e.1 ∉ keys key es ∧ (keys key es).Nodup := List.nodup_cons.mp hes
    have hstep : Hash.mergeLoop key ix all (e :: es) = Hash.mergeLoop key ix (put key all e) es := by
      rw [Hash.mergeLoop, hag e (List.mem_cons_self ..), put_eq]
      cases hx : idx key all (key e.1) with
      | none => rfl
      | some i => simp [idx_lt hx]
    rw [hstep, merge_cons]
    refine ih _ hes'.2 fun e' he' => ?_
    rw [hag e' (List.mem_cons_of_mem _ he'), idx_put_of_ne]
    exact fun heq => hes'.1 (heq ▸ List.mem_map_of_mem he')

theorem HInv.merge {key : α → κ} {h : Hash α β κ} (hi : HInv key h) {o : List (α × β)}
    (ho : (keys key o).Nodup) :
    ∃ n, h.merge key o = ((h.valueIndex key).1, some n) ∧
      n.entries = OMap.merge key h.entries o ∧ HInv key n := by
  have := mergeLoop_eq key (h.valueIndex key).2 h.entries o ho fun e _ => hi.valueIndex.2.2 _
  exact ⟨Hash.wrap (OMap.merge key h.entries o), by simp [Hash.merge, Hash.mergeEntries, this], rfl,
    HInv.wrap (nodup_merge hi.1 o)⟩

theorem HInv.putAll {key : α → κ} {h : Hash α β κ} (hi : HInv key h) {o : List (α × β)} (ho : (keys key o).Nodup) :
    ∃ n, h.putAll key o = some n ∧ n.entries = OMap.merge key h.entries o ∧ HInv key n := by
  obtain ⟨n, hm, hne, hni⟩ := hi.merge ho
  exact ⟨n, by simpa [Hash.putAll, Hash.merge] using congrArg Prod.snd hm, hne, hni⟩

end Pcore.Coll

import Pcore.Model.LoaderSeq
import Pcore.Proofs.CaseTable
import Pcore.Proofs.ListFacts
/-!
Go's `unicode.ToLower` is idempotent — proved for ANY case-range table that satisfies the decidable condition `LowerOK`
(the lower-case image of every range consists of valid code points that lower-casing leaves alone) and instantiated on the
table regenerated from `$GOROOT/src/unicode/tables.go` (sorted: `CaseTableOK`) by a check of each range by its kind.
Used by C12 (`lower (canon n) = canon n`: the map key of a typed name is a fixed point of the folding, so names differing
only in letter case denote one entry).
-/
namespace Pcore.UnicodeCase

def inRange (r : Nat) (cr : CaseRange) : Bool := cr.lo ≤ r && r ≤ cr.hi

/-- `unicode.ToLower` on code points -/
def lowerNat (tbl : List CaseRange) (r : Nat) : Nat :=
  if r ≤ 127 then (if 65 ≤ r ∧ r ≤ 90 then r + 32 else r) else toCase tbl true r

/-- what `to(LowerCase, r, …)` computes once the range is found -/
def imgLower (cr : CaseRange) (r : Nat) : Nat :=
  if cr.low > 1114111 then cr.lo + ((r - cr.lo) / 2 * 2 + 1) else (Int.ofNat r + cr.low).toNat

/-- an interval that holds the lower-case image of the whole range (checked point by point below, never assumed) -/
def imgLo (cr : CaseRange) : Nat := if cr.low > 1114111 then cr.lo else (Int.ofNat cr.lo + cr.low).toNat
def imgHi (cr : CaseRange) : Nat := if cr.low > 1114111 then cr.hi + 1 else (Int.ofNat cr.hi + cr.low).toNat

theorem img_of_low_zero {cr : CaseRange} (h : cr.low = 0) (r : Nat) :
    imgLower cr r = r ∧ imgLo cr = cr.lo ∧ imgHi cr = cr.hi := by
  unfold imgLower imgLo imgHi; rw [h]; simp

theorem img_of_alternating {cr : CaseRange} (h : cr.low > 1114111) (r : Nat) :
    imgLower cr r = cr.lo + ((r - cr.lo) / 2 * 2 + 1) ∧ imgLo cr = cr.lo ∧ imgHi cr = cr.hi + 1 := by
  unfold imgLower imgLo imgHi; simp only [if_pos h, and_self]

theorem img_of_shift {cr : CaseRange} (h : ¬ cr.low > 1114111) (r : Nat) :
    imgLower cr r = (Int.ofNat r + cr.low).toNat ∧ imgLo cr = (Int.ofNat cr.lo + cr.low).toNat ∧
      imgHi cr = (Int.ofNat cr.hi + cr.low).toNat := by
  unfold imgLower imgLo imgHi; simp only [if_neg h, and_self]

def pointOK (near : List CaseRange) (lo hi x : Nat) : Bool :=
  decide (lo ≤ x) && decide (x ≤ hi) && decide (x.isValidChar) && lowerNat near x == x

/-- the ranges that can hold a point of the image interval -/
def nearOf (tbl : List CaseRange) (cr : CaseRange) : List CaseRange :=
  tbl.filter fun c => decide (c.lo ≤ imgHi cr) && decide (imgLo cr ≤ c.hi)

def rangeOK (tbl : List CaseRange) (cr : CaseRange) : Bool :=
  (List.range (cr.hi + 1 - cr.lo)).all fun i => pointOK (nearOf tbl cr) (imgLo cr) (imgHi cr) (imgLower cr (cr.lo + i))

def LowerOK (tbl : List CaseRange) : Bool := tbl.all (rangeOK tbl)

theorem toCase_lower (tbl : List CaseRange) (r : Nat) :
    toCase tbl true r = match tbl.find? (fun cr => cr.lo ≤ r && r ≤ cr.hi) with
      | none => r
      | some cr => imgLower cr r := by
  unfold toCase imgLower
  cases tbl.find? (fun cr => decide (cr.lo ≤ r) && decide (r ≤ cr.hi)) with
  | none => rfl
  | some cr => simp

theorem lowerNat_near (tbl : List CaseRange) (cr : CaseRange) (x : Nat) (h1 : imgLo cr ≤ x) (h2 : x ≤ imgHi cr) :
    lowerNat (nearOf tbl cr) x = lowerNat tbl x := by
  unfold lowerNat
  split
  · rfl
  · rw [toCase_lower, toCase_lower]
    unfold nearOf
    rw [Pcore.find?_filter_of_imp]
    intro a ha
    simp only [Bool.and_eq_true, decide_eq_true_eq] at ha ⊢
    omega

theorem lowerNat_ascii (tbl : List CaseRange) (r : Nat) (h : r ≤ 127) :
    (lowerNat tbl r).isValidChar ∧ lowerNat tbl (lowerNat tbl r) = lowerNat tbl r := by
  unfold lowerNat
  simp only [h, if_true]
  by_cases hu : 65 ≤ r ∧ r ≤ 90
  · simp only [hu, and_self, if_true]
    have h1 : r + 32 ≤ 127 := by omega
    have h2 : ¬ (65 ≤ r + 32 ∧ r + 32 ≤ 90) := by omega
    simp only [h1, if_true, h2, if_false, and_true]
    left; omega
  · simp only [hu, if_false, h, if_true, and_true]
    left; omega

theorem rangeOK_iff (tbl : List CaseRange) (cr : CaseRange) :
    rangeOK tbl cr = true ↔ ∀ r, cr.lo ≤ r → r ≤ cr.hi → imgLo cr ≤ imgLower cr r ∧ imgLower cr r ≤ imgHi cr ∧
      (imgLower cr r).isValidChar ∧ lowerNat tbl (imgLower cr r) = imgLower cr r := by
  unfold rangeOK pointOK
  simp only [List.all_eq_true, List.mem_range, Bool.and_eq_true, decide_eq_true_eq, beq_iff_eq]
  constructor
  · intro h r h1 h2
    have := h (r - cr.lo) (by omega)
    rw [show cr.lo + (r - cr.lo) = r by omega] at this
    obtain ⟨⟨⟨a, b⟩, c⟩, d⟩ := this
    exact ⟨a, b, c, by rwa [lowerNat_near tbl cr _ a b] at d⟩
  · intro h i hi
    obtain ⟨a, b, c, d⟩ := h (cr.lo + i) (by omega) (by omega)
    exact ⟨⟨⟨a, b⟩, c⟩, by rwa [lowerNat_near tbl cr _ a b]⟩

theorem lowerNat_fixed (tbl : List CaseRange) (hok : LowerOK tbl = true) (r : Nat) (hv : r.isValidChar) :
    (lowerNat tbl r).isValidChar ∧ lowerNat tbl (lowerNat tbl r) = lowerNat tbl r := by
  by_cases hr : r ≤ 127
  · exact lowerNat_ascii tbl r hr
  · have hl : lowerNat tbl r = toCase tbl true r := by unfold lowerNat; simp [hr]
    rw [hl, toCase_lower]
    cases hf : tbl.find? (fun cr => decide (cr.lo ≤ r) && decide (r ≤ cr.hi)) with
    | none => exact ⟨hv, by simp only; rw [hl, toCase_lower, hf]⟩
    | some cr =>
      have hin := List.find?_some hf
      simp only [Bool.and_eq_true, decide_eq_true_eq] at hin
      obtain ⟨_, _, h3, h4⟩ :=
        (rangeOK_iff tbl cr).mp (List.all_eq_true.mp hok cr (List.mem_of_find?_eq_some hf)) r hin.1 hin.2
      exact ⟨h3, h4⟩

theorem toNat_ofNat_valid (n : Nat) (hv : n.isValidChar) : (Char.ofNat n).toNat = n := by
  unfold Char.ofNat
  rw [dif_pos hv]
  unfold Char.ofNatAux Char.toNat
  simp [UInt32.toNat_ofNatLT]

theorem toLower_eq (tbl : List CaseRange) (c : Char) : toLower tbl c = Char.ofNat (lowerNat tbl c.toNat) := by
  unfold toLower lowerNat
  by_cases h : c.toNat ≤ 127
  · simp only [h, if_true]
    have hA : 'A'.toNat = 65 := rfl
    have hZ : 'Z'.toNat = 90 := rfl
    rw [hA, hZ]
    by_cases hu : 65 ≤ c.toNat ∧ c.toNat ≤ 90
    · simp only [hu, and_self, if_true]
    · simp only [hu, if_false, Char.ofNat_toNat]
  · simp only [h, if_false]

/-- `unicode.ToLower (unicode.ToLower c) = unicode.ToLower c` -/
theorem toLower_idem (tbl : List CaseRange) (hok : LowerOK tbl = true) (c : Char) :
    toLower tbl (toLower tbl c) = toLower tbl c := by
  obtain ⟨hv, hf⟩ := lowerNat_fixed tbl hok c.toNat c.valid
  rw [toLower_eq tbl c, toLower_eq, toNat_ofNat_valid _ hv, hf]

/-! `LowerOK` of a table that is sorted (`CaseTableOK`), without looking at the image points.  There the search finds THE range
    of a point, so a range without shift and an alternating range of even length map into themselves, onto points they leave
    alone; only a shifting range needs a look at the table, and only at where its image INTERVAL lies: every range the interval
    meets must be without shift.  All ranges of Go's table are of these three kinds (`rangeFix`); a range that is not is still
    checked point by point (`rangeOK`). -/

/-- `k n`, with `n` evaluated first.  The kernel substitutes arguments unevaluated, so a bound that needs `Int` arithmetic
    would be computed again at each of the comparisons it takes part in; a match on the numeral computes it once. -/
def force {α : Type} (n : Nat) (k : Nat → α) : α :=
  match n with
  | 0 => k 0
  | m + 1 => k (m + 1)

theorem force_eq {α : Type} (n : Nat) (k : Nat → α) : force n k = k n := by cases n <;> rfl

theorem lowerNat_eq_self {tbl : List CaseRange} {x : Nat} (hx : 90 < x)
    (h : ∀ c, tbl.find? (fun c => decide (c.lo ≤ x) && decide (x ≤ c.hi)) = some c → imgLower c x = x) :
    lowerNat tbl x = x := by
  unfold lowerNat
  split
  · rw [if_neg (by omega)]
  · rw [toCase_lower]
    cases hf : tbl.find? (fun c => decide (c.lo ≤ x) && decide (x ≤ c.hi)) with
    | none => rfl
    | some c => exact h c hf

/-- the interval holds code points only -/
def validIv (a b : Nat) : Bool := decide (b < 0xD800) || (decide (0xDFFF < a) && decide (b < 0x110000))

theorem validIv_mem {a b x : Nat} (h : validIv a b = true) (h1 : a ≤ x) (h2 : x ≤ b) : x.isValidChar := by
  simp only [validIv, Bool.or_eq_true, Bool.and_eq_true, decide_eq_true_eq] at h
  unfold Nat.isValidChar
  omega

/-- every range from here on that meets `[a, b]` is without shift; in a sorted table the search may end at the first range
    above `b`.  (`Nat.blt`, not `decide (_ < _)`: the kernel compares numerals directly.) -/
def clearIv (a b : Nat) : List CaseRange → Bool
  | [] => true
  | c :: r => Nat.blt b c.lo || ((Nat.blt c.hi a || c.low == 0) && clearIv a b r)

theorem clearIv_sound {a b : Nat} {l : List CaseRange} (hs : Pcore.Format.CaseTableOK l) (h : clearIv a b l = true) :
    ∀ c ∈ l, c.hi < a ∨ b < c.lo ∨ c.low = 0 := by
  induction l with
  | nil => intro c hc; cases hc
  | cons d r ih =>
    simp only [clearIv, Bool.or_eq_true, Bool.and_eq_true, Nat.blt_eq, beq_iff_eq] at h
    intro c hc
    rcases List.mem_cons.mp hc with rfl | hc
    · rcases h with h | ⟨h | h, _⟩
      · exact Or.inr (Or.inl h)
      · exact Or.inl h
      · exact Or.inr (Or.inr h)
    · rcases h with h | ⟨_, h⟩
      · have := hs.head_lt c hc
        have := hs.lo_le_hi
        exact Or.inr (Or.inl (by omega))
      · exact ih hs.tail h c hc

theorem lowerNat_eq_self_of_mem {tbl : List CaseRange} (hs : Pcore.Format.CaseTableOK tbl) {cr : CaseRange} (hm : cr ∈ tbl)
    {x : Nat} (h1 : cr.lo ≤ x) (h2 : x ≤ cr.hi) (hx : 90 < x) (h : imgLower cr x = x) : lowerNat tbl x = x :=
  lowerNat_eq_self hx fun c hc => by rw [Pcore.Format.find?_caseTableOK hs hm h1 h2] at hc; cases hc; exact h

/-- a sufficient condition for `rangeOK tbl cr` in a sorted table, by the kind of the range -/
def rangeFix (tbl : List CaseRange) (cr : CaseRange) : Bool :=
  if cr.low = 0 then decide (90 < cr.lo) && validIv cr.lo cr.hi
  else if cr.low > 1114111 then decide (90 < cr.lo) && decide ((cr.hi - cr.lo) % 2 = 1) && validIv cr.lo cr.hi
  else force (imgLo cr) fun a => force (imgHi cr) fun b => decide (90 < a) && validIv a b && clearIv a b tbl

theorem rangeOK_of_fix {tbl : List CaseRange} (hs : Pcore.Format.CaseTableOK tbl) {cr : CaseRange} (hm : cr ∈ tbl)
    (h : rangeFix tbl cr = true) : rangeOK tbl cr = true := by
  apply (rangeOK_iff tbl cr).mpr
  intro r hr1 hr2
  unfold rangeFix at h
  split at h
  · -- no shift: the point stays, and its range is the one the search finds
    rename_i h0
    simp only [Bool.and_eq_true, decide_eq_true_eq] at h
    obtain ⟨hx, hlo, hhi⟩ := img_of_low_zero h0 r
    rw [hx, hlo, hhi]
    exact ⟨hr1, hr2, validIv_mem h.2 hr1 hr2, lowerNat_eq_self_of_mem hs hm hr1 hr2 (by omega) hx⟩
  · split at h
    · -- alternating, of even length: the image is the odd offset next to the point, inside the range, and stays
      rename_i _ h1
      simp only [Bool.and_eq_true, decide_eq_true_eq] at h
      obtain ⟨⟨h90, hodd⟩, hv⟩ := h
      obtain ⟨hx, hlo, hhi⟩ := img_of_alternating h1 r
      rw [hx, hlo, hhi]
      have hle : cr.lo + ((r - cr.lo) / 2 * 2 + 1) ≤ cr.hi := by omega
      exact ⟨by omega, by omega, validIv_mem hv (by omega) hle,
        lowerNat_eq_self_of_mem hs hm (by omega) hle (by omega) (by rw [(img_of_alternating h1 _).1]; omega)⟩
    · -- shifting: whatever range the search finds for an image point meets the image interval, so it is without shift
      rename_i _ h1
      simp only [force_eq, Bool.and_eq_true, decide_eq_true_eq] at h
      obtain ⟨⟨h90, hv⟩, hall⟩ := h
      replace hall := clearIv_sound hs hall
      obtain ⟨hx, hlo, hhi⟩ := img_of_shift h1 r
      rw [hlo] at h90
      have b1 : imgLo cr ≤ imgLower cr r := by rw [hx, hlo]; simp only [Int.ofNat_eq_natCast] at *; omega
      have b2 : imgLower cr r ≤ imgHi cr := by rw [hx, hhi]; simp only [Int.ofNat_eq_natCast] at *; omega
      refine ⟨b1, b2, validIv_mem hv b1 b2, lowerNat_eq_self (by omega) ?_⟩
      intro c hc
      have hin := List.find?_some hc
      simp only [Bool.and_eq_true, decide_eq_true_eq] at hin
      rcases hall c (List.mem_of_find?_eq_some hc) with h' | h' | h'
      · omega
      · omega
      · exact (img_of_low_zero h' _).1

theorem lowerOK_of_fix (tbl : List CaseRange) (hs : Pcore.Format.CaseTableOK tbl)
    (h : (tbl.all fun cr => rangeFix tbl cr || rangeOK tbl cr) = true) : LowerOK tbl = true := by
  unfold LowerOK
  rw [List.all_eq_true] at h ⊢
  intro cr hm
  cases hf : rangeFix tbl cr with
  | true => exact rangeOK_of_fix hs hm hf
  | false => simpa [hf] using h cr hm

end Pcore.UnicodeCase

namespace Pcore.Generated
open Pcore.UnicodeCase

/-- the side condition holds of the table Go ships (regenerated on every check run) -/
theorem caseRanges_lowerOK : LowerOK caseRanges = true := lowerOK_of_fix _ caseRanges_tableOK (by decide +kernel)

end Pcore.Generated

namespace Pcore.LoaderSeq

theorem lowerChar_idem (c : Char) : lowerChar (lowerChar c) = lowerChar c :=
  Pcore.UnicodeCase.toLower_idem Pcore.Generated.caseRanges Pcore.Generated.caseRanges_lowerOK c

theorem lower_idem (a : String) : lower (lower a) = lower a := by
  apply String.toList_inj.mp
  simp [lower, String.toList_ofList, lowerChar_idem]

end Pcore.LoaderSeq

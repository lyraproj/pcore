import Pcore.Proofs.ConcQueueInv
/-! The declare / resolve queue, third of three files: the induction over the steps.  In order: the pop of the `fresh` variant keeps
    `Inv` (`Inv_pop`); so does every atomic step of every thread in that variant (`Inv_step`), hence `Inv_reachable`; the initial
    configurations have it (`Inv_init`); last, a table of sites that satisfies the escape discipline configures that variant
    (`variantOf_fresh`). -/
namespace Pcore.ConcQueue

theorem slotAt_some {heap : List (List (Option Item))} {q s : Slice} {b : List Item} {i : Nat} (h : SliceOK heap q s b)
    (hi : i < s.len) : ∃ x, slotAt heap s i = some x ∧ b[i]? = some x := by
  obtain ⟨_, _, h3⟩ := h.2 (by omega)
  have hib : i < b.length := h.1 ▸ hi
  have : (readSlice heap s)[i]? = some (some b[i]) := by rw [h3, List.getElem?_map, List.getElem?_eq_getElem hib]; rfl
  unfold readSlice at this
  rw [List.getElem?_take_of_lt hi] at this
  exact ⟨b[i], by unfold slotAt; rw [List.getD_eq_getElem?_getD, this]; rfl, List.getElem?_eq_getElem hib⟩

theorem no_fault_append {log : List Ans} {a : Ans} (h : ∀ ev, Ans.fault ev ∉ log) (ha : ∀ ev, a ≠ Ans.fault ev) :
    ∀ ev, Ans.fault ev ∉ log ++ [a] := by
  intro ev hm
  rcases List.mem_append.mp hm with hm | hm
  · exact h ev hm
  · simp only [List.mem_singleton] at hm
    exact ha ev hm.symm

theorem Inv_pop (cfg : Cfg) (hv : cfg.variant = .fresh) (c : Config) (i : Nat) (rest : List QOp) (log : List Ans)
    (h : Inv c) (hi : c.th[i]? = some { pc := .idle, ops := .resolve :: rest, log := log }) :
    Inv { sh := (popQ cfg c.sh).1,
          th := c.th.set i { pc := .bindRead (popQ cfg c.sh).2 (qItems c.sh) 0 [], ops := rest, log := log } } := by
  have hlen : c.sh.q.len = (qItems c.sh).length := by
    have := congrArg List.length h.w3
    rw [readSlice, List.length_take, List.length_map] at this
    have := h.w2
    omega
  have hf := h.f _ (List.mem_of_getElem? hi)
  unfold popQ
  rw [hv]
  by_cases hpos : c.sh.q.len > 0
  · simp only [hpos, if_true]
    have hq0 : qItems { c.sh with heap := c.sh.heap ++ [List.replicate cfg.cap0 none], q := { arr := c.sh.heap.length, len := 0 } } = [] := by
      simp [qItems, readSlice]
    have hlt : c.sh.heap.length < (c.sh.heap ++ [List.replicate cfg.cap0 none]).length := by
      rw [List.length_append]; exact Nat.lt_succ_self _
    refine Inv_update c i _ _ _ h hi (.push _ _ _ _) hlt (Nat.zero_le _) ?_ rfl ?_ (fun x => ?_) (fun x => rfl) (fun x => rfl) hf
    · rw [hq0]; simp [readSlice]
    · -- the slice handed out shows the old array, which the queue variable has left
      refine ⟨⟨hlen, fun _ => ⟨Nat.ne_of_lt h.w1, Nat.lt_trans h.w1 hlt, ?_⟩⟩, Nat.zero_le _⟩
      show readSlice (c.sh.heap ++ [_]) c.sh.q = _
      unfold readSlice
      rw [getD_append_lt _ _ _ _ h.w1]
      exact h.w3
    · rw [hq0]
      simp only [batch, List.count_nil, Nat.zero_add, Nat.add_zero]
  · simp only [hpos, if_false]
    have hq0 : qItems c.sh = [] := by
      have : (qItems c.sh).length = 0 := by omega
      exact List.eq_nil_of_length_eq_zero this
    refine Inv_move c i _ _ c.sh h hi ⟨⟨hlen, fun hl => absurd hl hpos⟩, Nat.zero_le _⟩ hf (h1 := fun x => ?_)
    simp [batch, hq0]

/-- one more item `y` is done: it joins the shared list `a` and the thread's done prefix `t` -/
theorem done_account (a y t f : Nat) : a + y + t + f = a + (t + y) + f := by
  omega

/-- a finished batch `b` leaves the thread's share of an account and joins the finished items `f` -/
theorem finished_account (a b f : Nat) : a + b + f = a + 0 + (f + b) := by
  omega

theorem Inv_step (cfg : Cfg) (hv : cfg.variant = .fresh) (c : Config) (i : Nat) (h : Inv c) : Inv (stepAt cfg c i) := by
  unfold stepAt
  cases hi : c.th[i]? with
  | none => exact h
  | some t =>
    simp only
    have hmem : t ∈ c.th := List.mem_of_getElem? hi
    have hp := h.p t hmem
    have hf := h.f t hmem
    obtain ⟨pc, ops, log⟩ := t
    cases pc with
    | idle =>
      cases ops with
      | nil =>
        simp only [stepThread]
        exact Inv_move c i _ _ c.sh h hi trivial hf
      | cons op rest =>
        cases op with
        | decl =>
          simp only [stepThread]
          exact Inv_move { sh := declare cfg c.sh, th := c.th } i _ _ (declare cfg c.sh) (Inv_declare cfg c h) hi trivial
            (no_fault_append hf (fun ev => by simp))
        | resolve =>
          simp only [stepThread]
          exact Inv_pop cfg hv c i rest log h hi
    | bindRead s b j ev =>
      simp only [stepThread]
      obtain ⟨hs, hj⟩ := hp
      by_cases hlt : j < s.len
      · simp only [hlt, if_true]
        obtain ⟨x, hx, hbx⟩ := slotAt_some hs hlt
        rw [hx]
        exact Inv_move c i _ _ c.sh h hi ⟨hs, hbx⟩ hf
      · simp only [hlt, if_false]
        have hjl : b.length ≤ j := by rw [← hs.1]; omega
        refine Inv_move c i _ _ c.sh h hi ⟨hs, Nat.zero_le _⟩ hf (h2 := fun x => ?_) (h3 := fun x => ?_)
        · simp only [bdone, List.take_of_length_le hjl]
        · simp only [rdone, List.take_zero]
    | bindSet s b j y ev =>
      simp only [stepThread]
      obtain ⟨hs, hy⟩ := hp
      have hjb : j < b.length := (List.getElem?_eq_some_iff.mp hy).1
      refine Inv_move c i _ _ { c.sh with bound := c.sh.bound ++ [y] } h hi ⟨hs, by rw [hs.1]; omega⟩ hf (h2 := fun x => ?_)
      simp only [bdone, take_succ_of_getElem? b j y hy, List.count_append]
      exact done_account _ _ _ _
    | resRead s b j ev =>
      simp only [stepThread]
      obtain ⟨hs, hj⟩ := hp
      by_cases hlt : j < s.len
      · simp only [hlt, if_true]
        obtain ⟨x, hx, hbx⟩ := slotAt_some hs hlt
        rw [hx]
        exact Inv_move c i _ _ c.sh h hi ⟨hs, hbx⟩ hf
      · simp only [hlt, if_false]
        have hjl : b.length ≤ j := by rw [← hs.1]; omega
        refine Inv_move c i _ _ { c.sh with fin := c.sh.fin ++ b } h hi trivial (no_fault_append hf (fun ev => by simp))
          (h1 := fun x => ?_) (h2 := fun x => ?_) (h3 := fun x => ?_)
        · simp only [batch, List.count_append, List.count_nil, Nat.zero_add]
          exact Nat.add_comm _ _
        · simp only [bdone, List.count_append, List.count_nil]
          exact finished_account _ _ _
        · simp only [rdone, List.take_of_length_le hjl, List.count_append, List.count_nil]
          exact finished_account _ _ _
    | resCall s b j y ev =>
      simp only [stepThread]
      obtain ⟨hs, hy⟩ := hp
      have hjb : j < b.length := (List.getElem?_eq_some_iff.mp hy).1
      refine Inv_move c i _ _ { c.sh with resolved := c.sh.resolved ++ [y] } h hi ⟨hs, by rw [hs.1]; omega⟩ hf (h3 := fun x => ?_)
      simp only [rdone, take_succ_of_getElem? b j y hy, List.count_append]
      exact done_account _ _ _ _

theorem Inv_reachable (cfg : Cfg) (hv : cfg.variant = .fresh) {c0 c : Config} (h0 : Inv c0) (hr : Reachable cfg c0 c) : Inv c := by
  induction hr with
  | init => exact h0
  | step i _ ih => exact Inv_step cfg hv _ i ih

theorem Inv_declareN (cfg : Cfg) (n : Nat) (sh : Shared) (th : List Thread) (h : Inv { sh := sh, th := th }) :
    Inv { sh := declareN cfg n sh, th := th } := by
  induction n generalizing sh with
  | zero => exact h
  | succ m ih => exact ih _ (Inv_declare cfg { sh := sh, th := th } h)

theorem Inv_init (cfg : Cfg) (pend : Nat) (progs : List (List QOp)) : Inv (Config.init cfg pend progs) := by
  apply Inv_declareN
  have hidle : ∀ t ∈ progs.map (fun p => ({ pc := .idle, ops := p, log := [] } : Thread)), t.pc = .idle := by
    intro t ht
    obtain ⟨p, _, rfl⟩ := List.mem_map.mp ht
    rfl
  refine { w1 := by simp [Shared.init], w2 := Nat.zero_le _, w3 := by simp [Shared.init, qItems, readSlice], p := ?_,
           a1 := ?_, a2 := ?_, a3 := ?_, f := ?_ }
  · intro t ht
    rw [hidle t ht]; trivial
  · intro x
    rw [occ_idle batch rfl x _ hidle]
    simp [Shared.init, qItems, readSlice]
  · intro x
    rw [occ_idle bdone rfl x _ hidle]
    simp [Shared.init]
  · intro x
    rw [occ_idle rdone rfl x _ hidle]
    simp [Shared.init]
  · intro t ht ev hm
    obtain ⟨p, _, rfl⟩ := List.mem_map.mp ht
    cases hm

/-- what the discipline asks of a site outside initialisation, in the form `variantOf` tests it -/
theorem siteOK_facts (tbl : List QueueSite) (s : QueueSite) (hi : s.init = false) (h : siteOK tbl s = true) :
    (s.kind != .escape || rebindOK s.rebind) = true ∧
    ((s.kind == .reslice || s.rebind == .reslice) = true → escapes tbl s.var = false) := by
  unfold siteOK at h
  rw [hi, Bool.false_or] at h
  split at h
  · cases h
  · rw [Bool.and_eq_true] at h
    have h2 := h.2
    revert h2
    cases s.kind <;> intro h2
    case append | fresh | read | write =>
      -- `rebind` is `na`, not `reslice`
      refine ⟨rfl, fun hp => ?_⟩
      rw [eq_of_beq h2] at hp
      cases hp
    case escape =>
      refine ⟨h2, fun hp => ?_⟩
      rw [eq_of_beq hp] at h2
      cases h2
    case reslice =>
      rw [Bool.not_eq_true'] at h2
      exact ⟨rfl, fun _ => h2⟩
    case unknown => cases h2

theorem variantOf_fresh (tbl : List QueueSite) (var : String) (h : queueSitesOK tbl = true) : variantOf tbl var = .fresh := by
  have hmine : ∀ s ∈ tbl.filter (fun s => s.var == var && !s.init),
      (s.kind != .escape || rebindOK s.rebind) = true ∧
      ((s.kind == .reslice || s.rebind == .reslice) = true → escapes tbl var = false) := by
    intro s hs
    obtain ⟨h1, h2⟩ := List.mem_filter.mp hs
    rw [Bool.and_eq_true, beq_iff_eq, Bool.not_eq_true'] at h2
    have := siteOK_facts tbl s h2.2 (List.all_eq_true.mp h s h1)
    rw [h2.1] at this
    exact this
  unfold variantOf
  simp only
  rw [if_neg, if_pos]
  · exact List.all_eq_true.mpr fun s hs => (hmine s hs).1
  · intro hc
    rw [Bool.and_eq_true, List.any_eq_true] at hc
    obtain ⟨⟨s, hs, hp⟩, hesc⟩ := hc
    rw [(hmine s hs).2 hp] at hesc
    cases hesc

end Pcore.ConcQueue

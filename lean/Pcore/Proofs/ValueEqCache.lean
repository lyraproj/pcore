import Pcore.Model.ValueEqCache
import Pcore.Proofs.ValueEq
import Pcore.Proofs.HashImpl
/-! Helper lemmas for C07: the lazily built index of a Hash is a refinement of `lookupLast` (through `lastIdx`, the position of the
    last entry under a key, defined here), and no answer depends on whether (or when) it was built; then `Hash.Equals` as Go
    computes it, a loop over the receiver's index, is the model's `veq` on hashes (`equals_index_spec`). -/
namespace Pcore.ValueEq

/-! ### the index is the lazily built index of `Proofs/HashImpl` at `key := kb`: one equation per definition, the laws are the library's -/

theorem idxGet_eq (m : Index) (k : Bytes) : idxGet m k = Coll.GoMap.get m k := by
  induction m with
  | nil => rfl
  | cons e r ih => obtain ⟨a, b⟩ := e; by_cases h : a = k <;> simp [idxGet, Coll.GoMap.get, h, ih]

theorem idxPut_eq (m : Index) (k : Bytes) (i : Nat) : idxPut m k i = Coll.GoMap.set m k i := by
  induction m with
  | nil => rfl
  | cons e r ih => obtain ⟨a, b⟩ := e; by_cases h : a = k <;> simp [idxPut, Coll.GoMap.set, h, ih]

theorem buildFrom_eq (es : List (Val × Val)) (n : Nat) (m : Index) : buildFrom n m es = Coll.buildIndexFrom kb es n m := by
  induction es generalizing n m with
  | nil => rfl
  | cons e es ih => rw [buildFrom, Coll.buildIndexFrom, ih, idxPut_eq]

/-- the position of the last entry indexed under `kbs` -/
def lastIdx (kbs : Bytes) : List (Val × Val) → Option Nat
  | [] => none
  | e :: es =>
    match lastIdx kbs es with
    | some i => some (i + 1)
    | none => if kb e.1 == kbs then some 0 else none

theorem lastIdx_eq (kbs : Bytes) (es : List (Val × Val)) : lastIdx kbs es = Coll.OMap.lidx kb es kbs := by
  induction es with
  | nil => rfl
  | cons e es ih => simp only [lastIdx, Coll.OMap.lidx, ih, beq_iff_eq]; cases Coll.OMap.lidx kb es kbs <;> rfl

theorem lastIdx_lt (kbs : Bytes) (l : List (Val × Val)) (j : Nat) (h : lastIdx kbs l = some j) : j < l.length :=
  Coll.OMap.lidx_lt (lastIdx_eq kbs l ▸ h)

theorem idxGet_buildIndex (kbs : Bytes) (es : List (Val × Val)) : idxGet (buildIndex es) kbs = lastIdx kbs es := by
  rw [idxGet_eq, buildIndex, buildFrom_eq, lastIdx_eq]; exact Coll.get_buildIndex kb es kbs

theorem lookupLast_lastIdx (kbs : Bytes) : ∀ es : List (Val × Val),
    lookupLast kbs es = (lastIdx kbs es).bind (fun i => es[i]?) :=
  fun es => by rw [lookupLast_eq, lastIdx_eq]; exact Coll.OMap.getLast_eq_lidx kb es kbs

theorem valueIndex_coherent {h : CHash} (c : h.Coherent) :
    h.valueIndex.2 = buildIndex h.entries ∧ h.valueIndex.1.entries = h.entries ∧ h.valueIndex.1.Coherent := by
  unfold CHash.valueIndex
  rcases c with c | c
  · rw [c]; exact ⟨rfl, rfl, Or.inr rfl⟩
  · rw [c]; exact ⟨rfl, rfl, Or.inr c⟩

theorem get_coherent {h : CHash} (c : h.Coherent) (k : Val) :
    (h.get k).2 = hashGet h.entries k ∧ (h.get k).1.entries = h.entries ∧ (h.get k).1.Coherent := by
  obtain ⟨h1, h2, h3⟩ := valueIndex_coherent c
  refine ⟨?_, h2, h3⟩
  simp only [CHash.get, h1, idxGet_buildIndex, hashGet, lookupLast_lastIdx]
  cases lastIdx (kb k) h.entries <;> simp

theorem includesKey_coherent {h : CHash} (c : h.Coherent) (k : Val) :
    (h.includesKey k).2 = (hashGet h.entries k).isSome ∧ (h.includesKey k).1.entries = h.entries ∧ (h.includesKey k).1.Coherent := by
  obtain ⟨h1, h2, h3⟩ := valueIndex_coherent c
  refine ⟨?_, h2, h3⟩
  simp only [CHash.includesKey, h1, idxGet_buildIndex, hashGet, lookupLast_lastIdx]
  cases hl : lastIdx (kb k) h.entries with
  | none => simp
  | some i =>
    have hi := lastIdx_lt (kb k) _ i hl
    simp [List.getElem?_eq_getElem hi]

/-- `Hash.Equals` reads the two indexes only: for coherent operands its answer is a function of the ENTRIES of the two hashes -/
theorem equals_coherent {h o : CHash} (ch : h.Coherent) (co : o.Coherent) :
    (h.equals o).2 = ((CHash.mk h.entries none).equals (CHash.mk o.entries none)).2 ∧
    (h.equals o).1.1.entries = h.entries ∧ (h.equals o).1.2.entries = o.entries ∧
    (h.equals o).1.1.Coherent ∧ (h.equals o).1.2.Coherent := by
  obtain ⟨h1, h2, h3⟩ := valueIndex_coherent ch
  obtain ⟨o1, o2, o3⟩ := valueIndex_coherent co
  refine ⟨?_, h2, o2, h3, o3⟩
  have e1 : (CHash.mk h.entries none).valueIndex.2 = buildIndex h.entries := rfl
  have e2 : (CHash.mk o.entries none).valueIndex.2 = buildIndex o.entries := rfl
  simp only [CHash.equals]
  rw [h1, o1, e1, e2]

theorem put_coherent (h : CHash) (k v : Val) : (h.put k v).Coherent := Or.inl rfl

theorem force_coherent {h : CHash} (c : h.Coherent) : h.force.entries = h.entries ∧ h.force.Coherent ∧ h.force.index = some (buildIndex h.entries) := by
  obtain ⟨h1, h2, h3⟩ := valueIndex_coherent c
  refine ⟨h2, h3, ?_⟩
  unfold CHash.force CHash.valueIndex
  rcases c with c | c <;> simp [c]

/-! ### `Hash.Equals` through the two indexes is the model's `veq` on hashes -/

theorem buildIndex_nodup (es : List (Val × Val)) : ((buildIndex es).map (·.1)).Nodup := by
  suffices h : ∀ (es : List (Val × Val)) (n : Nat) (m : Index), (m.map (·.1)).Nodup → ((buildFrom n m es).map (·.1)).Nodup from
    h es 0 [] List.nodup_nil
  intro es
  induction es with
  | nil => exact fun _ _ h => h
  | cons e es ih =>
    intro n m h
    refine ih (n + 1) _ ?_
    rw [idxPut_eq, Coll.GoMap.set_eq]; exact Coll.OMap.nodup_put (key := id) h _

theorem mem_buildIndex (es : List (Val × Val)) (k : Bytes) (i : Nat) : (k, i) ∈ buildIndex es ↔ lastIdx k es = some i := by
  rw [← idxGet_buildIndex, idxGet_eq, Coll.GoMap.get_eq]
  exact Coll.OMap.mem_iff_get (buildIndex_nodup es)

/-- what an entry of the receiver must find in the argument -/
def findsEqual (fs : List (Val × Val)) (e : Val × Val) : Bool :=
  match lookupLast (kb e.1) fs with
  | some e' => veq e.1 e'.1 && veq e.2 e'.2
  | none => false

theorem shadowed_iff (k : Val) (es : List (Val × Val)) : shadowed k es = (lastIdx (kb k) es).isSome := by
  induction es with
  | nil => simp [shadowed, lastIdx]
  | cons e es ih =>
    simp only [shadowed, List.any_cons] at ih ⊢
    simp only [lastIdx]
    cases hl : lastIdx (kb k) es with
    | some i => rw [hl] at ih; simp at ih; simp [ih]
    | none =>
      rw [hl] at ih
      simp only [Option.isSome_none] at ih
      rw [ih]
      by_cases hk : (kb e.1 == kb k) = true <;> simp [hk]

theorem veqE_cons (k v : Val) (es fs : List (Val × Val)) :
    veqE ((k, v) :: es) fs = ((shadowed k es || findsEqual fs (k, v)) && veqE es fs) := by
  simp only [veqE, findsEqual]
  cases shadowed k es
  · cases lookupLast (kb k) fs <;> rfl
  · rfl

theorem lastIdx_cons_zero {kbs : Bytes} {e : Val × Val} {es : List (Val × Val)} :
    lastIdx kbs (e :: es) = some 0 ↔ lastIdx kbs es = none ∧ kb e.1 = kbs := by
  simp only [lastIdx]; cases lastIdx kbs es <;> simp

theorem lastIdx_cons_succ {kbs : Bytes} {e : Val × Val} {es : List (Val × Val)} {q : Nat} :
    lastIdx kbs (e :: es) = some (q + 1) ↔ lastIdx kbs es = some q := by
  simp only [lastIdx]; cases lastIdx kbs es <;> simp

theorem veqE_iff_last : ∀ (es fs : List (Val × Val)),
    veqE es fs = true ↔ ∀ p e, es[p]? = some e → lastIdx (kb e.1) es = some p → findsEqual fs e = true
  | [], fs => by simp [veqE]
  | (k, v) :: es, fs => by
      rw [veqE_cons, Bool.and_eq_true, Bool.or_eq_true, veqE_iff_last es fs, shadowed_iff]
      -- position 0 is the last of its key exactly when nothing later has it; a later position is the last as it was in `es`
      constructor
      · rintro ⟨h0, hr⟩ (_ | p) e hp hl
        · cases hp
          exact h0.resolve_left (by rw [(lastIdx_cons_zero.mp hl).1]; exact Bool.false_ne_true)
        · exact hr p e hp (lastIdx_cons_succ.mp hl)
      · refine fun h => ⟨?_, fun p e hp hl => h (p + 1) e hp (lastIdx_cons_succ.mpr hl)⟩
        cases hl : lastIdx (kb k) es with
        | some i => exact Or.inl rfl
        | none => exact Or.inr (h 0 (k, v) rfl (lastIdx_cons_zero.mpr ⟨hl, rfl⟩))

theorem lastIdx_some {kbs : Bytes} {es : List (Val × Val)} {i : Nat} (h : lastIdx kbs es = some i) :
    ∃ e, es[i]? = some e ∧ kb e.1 = kbs := by
  have hp := List.getElem?_eq_getElem (lastIdx_lt kbs es i h)
  have := lookupLast_lastIdx kbs es
  rw [h, Option.bind_some, hp] at this
  exact ⟨_, hp, (lookupLast_some this).2⟩

theorem forall_mem_buildIndex {es : List (Val × Val)} {T : Bytes × Nat → Prop} :
    (∀ x ∈ buildIndex es, T x) ↔ ∀ p e, es[p]? = some e → lastIdx (kb e.1) es = some p → T (kb e.1, p) := by
  constructor
  · exact fun h p e _ hl => h _ ((mem_buildIndex es (kb e.1) p).mpr hl)
  · rintro h ⟨key, idx⟩ hm
    have hl := (mem_buildIndex es key idx).mp hm
    obtain ⟨e, hp, rfl⟩ := lastIdx_some hl
    exact h idx e hp hl

theorem equals_index_spec (es fs : List (Val × Val)) :
    ((CHash.mk es none).equals (CHash.mk fs none)).2 = veq (.hash es) (.hash fs) := by
  have e1 : (CHash.mk es none).valueIndex.2 = buildIndex es := rfl
  have e2 : (CHash.mk fs none).valueIndex.2 = buildIndex fs := rfl
  simp only [CHash.equals, e1, e2, veq]
  congr 1
  apply Bool.eq_iff_iff.mpr
  rw [veqE_iff_last, List.all_eq_true, forall_mem_buildIndex]
  refine forall_congr' fun p => forall_congr' fun e => imp_congr_right fun hp => imp_congr_right fun _ => ?_
  -- the test at an index entry is `findsEqual` of the entry it points at
  simp only [idxGet_buildIndex, hp, findsEqual, lookupLast_lastIdx]
  cases lastIdx (kb e.1) fs with
  | none => rfl
  | some j => cases hj : fs[j]? <;> simp [entryEq, hj]

end Pcore.ValueEq

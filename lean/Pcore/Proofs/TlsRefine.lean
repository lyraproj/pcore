import Pcore.Proofs.TlsReach
/-!
# The big-step model is realised by the small-step model (property C14, refinement)

`Model/Tls.lean` (`exec`, `run`: a forked goroutine runs from start to end at a scheduling point chosen by an oracle) and
`Model/TlsSmall.lean` (`stepG`, `Cfg.step`: any goroutine takes the next micro-step) mirror the same Go code.  This file proves
that every big-step execution IS a small-step execution: for every program, oracle and fuel, if the big-step run does not run
out of fuel there is a schedule of micro-steps from `Cfg.init p` that ends in a configuration whose shared state (goroutine-local
tables, context heap, loader entries, observation log, ghost `estab`, all counters) is exactly the big-step result, with every
goroutine ended (`run_refines`).

The simulation relation `Sim w c`: the small-step world is the big-step world without the big-step bookkeeping (`pending`,
`sched`: `strip`), and the goroutines of `c` that have not started are, in order, the big-step `pending` tasks (`U t`).

`sim_exec` (induction on the fuel): a goroutine whose continuation is `.run p c :: k` reaches, by micro-steps of itself and of
goroutines that had not started, the continuation `k` — `panicking` iff the big-step outcome is `panicked` — in a configuration
related to the big-step result; goroutines that had already started are not touched.  The simulation needs the micro-step of a
goroutine with a given continuation as an EQUATION (`stepG g (strip w) = ⟨…⟩`), so it computes `stepG` on those concrete frames and
does not go through the relation `Micro` of `Proofs/TlsMicro.lean`.

In this order: `Sim`, `Runs`, `Post` and one micro-step as a `Post`; the primitives commute with `strip`; the fuel bookkeeping of
the big-step model alone (`exitB`, `SameFuel`, `okR`, `OofMono`: what `Proofs/TlsFuel` takes from here besides `run_refines`); the simulation.
-/
namespace Pcore.Tls

/-! ## the relation `Sim`, schedules of micro-steps (`Runs`), and `Post`: goroutine `i` has moved on, started goroutines are as they
were (`Keeps`, `News`); one micro-step of a started goroutine as a `Post` (`one_step`) -/

/-- the shared state without the big-step model's scheduling bookkeeping -/
def strip (w : World) : World := { w with pending := [], sched := [] }

/-- a goroutine made by `px.Fork` that has not started: the small-step form of a pending task -/
def U (t : Task) : GS := { gid := t.gid, ctx0 := t.ctx, started := false, k := [.run t.prog t.ctx, .endG] }

def mkG (gid : Gid) (ctx0 : CtxId) (pn : Bool) (k : List Frame) : GS :=
  { gid := gid, ctx0 := ctx0, started := true, panicking := pn, k := k }

def waiting (gs : List GS) : List GS := gs.filter fun g => !g.started

structure Sim (w : World) (c : Cfg) : Prop where
  world : c.w = strip w
  pend : waiting c.gs = w.pending.map U

theorem waiting_append (a b : List GS) : waiting (a ++ b) = waiting a ++ waiting b := List.filter_append ..

theorem waiting_cons (x : GS) (xs : List GS) : waiting (x :: xs) = if x.started = true then waiting xs else x :: waiting xs := by
  cases h : x.started <;> simp [waiting, h]

theorem waiting_set_started : ∀ (gs : List GS) (i : Nat) (g g' : GS), gs[i]? = some g → g.started = true → g'.started = true →
    waiting (gs.set i g') = waiting gs := by
  intro gs
  induction gs with
  | nil => intro i g g' h; simp at h
  | cons x xs ih =>
    intro i g g' h hs hs'
    cases i with
    | zero =>
      obtain rfl : x = g := by simpa using h
      rw [List.set_cons_zero, waiting_cons, waiting_cons, if_pos hs, if_pos hs']
    | succ i => rw [List.set_cons_succ, waiting_cons, waiting_cons, ih i g g' (by simpa using h) hs hs']

theorem waiting_pick : ∀ (gs : List GS) (ts : List Task) (n : Nat) (t : Task), waiting gs = ts.map U → ts[n]? = some t →
    ∃ j, gs[j]? = some (U t) ∧ ∀ g', g'.started = true → waiting (gs.set j g') = (ts.eraseIdx n).map U := by
  intro gs
  induction gs with
  | nil =>
    intro ts n t h hn
    cases ts with
    | nil => simp at hn
    | cons a as => simp [waiting] at h
  | cons x xs ih =>
    intro ts n t h hn
    rw [waiting_cons] at h
    by_cases hx : x.started = true
    · -- a started goroutine in front: look further back
      rw [if_pos hx] at h
      obtain ⟨j, hj, hrest⟩ := ih ts n t h hn
      exact ⟨j + 1, by simpa using hj, fun g' hg' => by rw [List.set_cons_succ, waiting_cons, if_pos hx, hrest g' hg']⟩
    · rw [if_neg hx] at h
      cases ts with
      | nil => simp at h
      | cons a as =>
        obtain ⟨rfl, has⟩ := List.cons.inj h
        cases n with
        | zero =>
          obtain rfl : a = t := by simpa using hn
          exact ⟨0, rfl, fun g' hg' => by rw [List.set_cons_zero, waiting_cons, if_pos hg']; exact has⟩
        | succ n =>
          obtain ⟨j, hj, hrest⟩ := ih as n t has (by simpa using hn)
          exact ⟨j + 1, by simpa using hj, fun g' hg' => by
            rw [List.set_cons_succ, waiting_cons, if_neg hx, hrest g' hg']; rfl⟩

theorem steps_append (is js : List Nat) (c : Cfg) : Cfg.steps (is ++ js) c = Cfg.steps js (Cfg.steps is c) := by
  induction is generalizing c with
  | nil => rfl
  | cons i is ih => exact ih (c.step i)

def Runs (c c' : Cfg) : Prop := ∃ is, Cfg.steps is c = c'
theorem Runs.refl (c : Cfg) : Runs c c := ⟨[], rfl⟩

theorem Runs.trans {a b c : Cfg} (h1 : Runs a b) (h2 : Runs b c) : Runs a c := by
  obtain ⟨is, h1⟩ := h1
  obtain ⟨js, h2⟩ := h2
  exact ⟨is ++ js, by rw [steps_append, h1, h2]⟩

theorem Runs.step (c : Cfg) (i : Nat) : Runs c (c.step i) := ⟨[i], rfl⟩

/-- goroutines that have started keep their state -/
def Keeps (c c' : Cfg) (except : Option Nat) : Prop :=
  ∀ j gj, some j ≠ except → c.gs[j]? = some gj → gj.started = true → c'.gs[j]? = some gj

theorem Keeps.refl (c : Cfg) (e : Option Nat) : Keeps c c e := fun _ _ _ h _ => h

theorem Keeps.trans {a b c : Cfg} {e : Option Nat} (h1 : Keeps a b e) (h2 : Keeps b c e) : Keeps a c e :=
  fun j gj hj h hs => h2 j gj hj (h1 j gj hj h hs) hs

theorem Keeps.weaken {a b : Cfg} {e : Option Nat} (h : Keeps a b none) : Keeps a b e :=
  fun j gj _ hh hs => h j gj (by simp) hh hs

/-- a goroutine that has started either was there before in the same state, or has ended -/
def News (c c' : Cfg) (except : Option Nat) : Prop :=
  ∀ j g, some j ≠ except → c'.gs[j]? = some g → g.started = true → c.gs[j]? = some g ∨ g.k = []

theorem News.refl (c : Cfg) (e : Option Nat) : News c c e := fun _ _ _ h _ => Or.inl h

theorem News.trans {a b c : Cfg} {e : Option Nat} (h1 : News a b e) (h2 : News b c e) : News a c e := by
  intro j g hj h hs
  rcases h2 j g hj h hs with h' | h'
  · exact h1 j g hj h' hs
  · exact Or.inr h'

theorem News.weaken {a b : Cfg} {e : Option Nat} (h : News a b none) : News a b e :=
  fun j g _ hh hs => h j g (by simp) hh hs

/-- goroutine `i` has gone from its state in `c` to `g'` in `c'`, `c'` is related to the big-step world `w'` -/
structure Post (w' : World) (c c' : Cfg) (i : Nat) (g' : GS) : Prop where
  runs : Runs c c'
  sim : Sim w' c'
  here : c'.gs[i]? = some g'
  keeps : Keeps c c' (some i)
  news : News c c' (some i)

theorem Post.trans {w1 w2 : World} {a b c : Cfg} {i : Nat} {g1 g2 : GS} (h1 : Post w1 a b i g1) (h2 : Post w2 b c i g2) :
    Post w2 a c i g2 :=
  ⟨h1.runs.trans h2.runs, h2.sim, h2.here, h1.keeps.trans h2.keeps, h1.news.trans h2.news⟩

theorem Post.same {w : World} {c : Cfg} {i : Nat} {g : GS} (hs : Sim w c) (hi : c.gs[i]? = some g) : Post w c c i g :=
  ⟨Runs.refl c, hs, hi, Keeps.refl c _, News.refl c _⟩

theorem Post.whole {w' : World} {c c' : Cfg} {i : Nat} {g g' : GS} (h : Post w' c c' i g') (hi : c.gs[i]? = some g)
    (hu : g.started = false) (hk : g'.k = []) : Keeps c c' none ∧ News c c' none := by
  refine ⟨fun j gj _ hj hs => ?_, fun j gj _ hj hs => ?_⟩
  · by_cases hji : j = i
    · subst hji
      rw [hi] at hj
      rw [← Option.some.inj hj, hu] at hs
      cases hs
    · exact h.keeps j gj (by simpa using hji) hj hs
  · by_cases hji : j = i
    · subst hji
      rw [h.here] at hj
      exact Or.inr (Option.some.inj hj ▸ hk)
    · exact h.news j gj (by simpa using hji) hj hs

theorem Sim.stay {w : World} {c : Cfg} (hs : Sim w c) : ∃ c', Runs c c' ∧ Sim w c' ∧ Keeps c c' none ∧ News c c' none :=
  ⟨c, Runs.refl c, hs, Keeps.refl c none, News.refl c none⟩

theorem Post.of_step {w' : World} {c : Cfg} {i : Nat} {g g' : GS} {new : List GS} (hi : c.gs[i]? = some g)
    (e : c.step i = { w := strip w', gs := c.gs.set i g' ++ new }) (hnew : ∀ x ∈ new, x.started = false)
    (hw : waiting (c.gs.set i g' ++ new) = w'.pending.map U) : Post w' c (c.step i) i g' := by
  have hne : ∀ j, some j ≠ some i → ¬ i = j := fun j hj h' => hj (by rw [h'])
  rw [e]
  refine ⟨⟨[i], e⟩, ⟨rfl, hw⟩, ?_, ?_, ?_⟩
  · simp [(List.getElem?_eq_some_iff.1 hi).1, List.getElem?_append_left]
  · intro j gj hj h _
    rw [List.getElem?_append_left (by simpa using (List.getElem?_eq_some_iff.1 h).1)]
    simp [hne j hj, h]
  · intro j gj hj h hsj
    rcases Nat.lt_or_ge j (c.gs.set i g').length with hjl | hjl
    · rw [List.getElem?_append_left hjl] at h
      simp only [List.getElem?_set, hne j hj, if_false] at h
      exact Or.inl h
    · rw [List.getElem?_append_right hjl] at h
      rw [hnew gj (List.mem_of_getElem? h)] at hsj
      cases hsj

theorem one_step_spawn {w w' : World} {c : Cfg} {i : Nat} {gid ctx0 gid' ctx0' : Nat} {pn pn' : Bool} {k k' : List Frame}
    {t : Option Task} (hs : Sim w c) (hi : c.gs[i]? = some (mkG gid ctx0 pn k))
    (hstep : stepG (mkG gid ctx0 pn k) (strip w) = { g := mkG gid' ctx0' pn' k', w := strip w', spawned := t.map U })
    (hp : w'.pending = w.pending ++ t.toList) : Post w' c (c.step i) i (mkG gid' ctx0' pn' k') := by
  refine Post.of_step (new := (t.map U).toList) hi (by rw [Cfg.step_some hi, hs.world, hstep]) ?_ ?_
  · cases t <;> simp [U]
  · rw [hp, waiting_append, waiting_set_started _ _ _ _ hi rfl rfl, hs.pend]
    cases t <;> simp [waiting, U]

theorem one_step {w w' : World} {c : Cfg} {i : Nat} {gid ctx0 gid' ctx0' : Nat} {pn pn' : Bool} {k k' : List Frame}
    (hs : Sim w c) (hi : c.gs[i]? = some (mkG gid ctx0 pn k))
    (hstep : stepG (mkG gid ctx0 pn k) (strip w) = { g := mkG gid' ctx0' pn' k', w := strip w', spawned := none })
    (hp : w'.pending = w.pending) : Post w' c (c.step i) i (mkG gid' ctx0' pn' k') :=
  one_step_spawn (t := none) hs hi hstep (by simpa using hp)

theorem silent_step {w : World} {c : Cfg} {i : Nat} {gid ctx0 gid' ctx0' : Nat} {pn pn' : Bool} {k k' : List Frame}
    (hs : Sim w c) (hi : c.gs[i]? = some (mkG gid ctx0 pn k))
    (hstep : ∀ w0, stepG (mkG gid ctx0 pn k) w0 = { g := mkG gid' ctx0' pn' k', w := w0, spawned := none }) :
    Post w c (c.step i) i (mkG gid' ctx0' pn' k') :=
  one_step hs hi (hstep _) rfl

/-! ## the primitives do not look at `pending` / `sched`, and write one field -/

theorem strip_strip (w : World) : strip (strip w) = strip w := rfl
theorem strip_sched (w : World) (s : List Nat) : strip { w with sched := s } = strip w := rfl
theorem strip_pending (w : World) (ps : List Task) : strip { w with pending := ps } = strip w := rfl
theorem forkCtx_strip (c : CtxId) (w : World) : forkCtx c (strip w) = ((forkCtx c w).1, strip (forkCtx c w).2) := rfl
theorem newCtx_strip (x : Ctx) (w : World) : newCtx x (strip w) = ((newCtx x w).1, strip (newCtx x w).2) := rfl
theorem newLoader_strip (w : World) : newLoader (strip w) = ((newLoader w).1, strip (newLoader w).2) := rfl
theorem setTag_strip (c : CtxId) (id : Nat) (w : World) : setTag c id (strip w) = strip (setTag c id w) := rfl
theorem tlGet_strip (g : Gid) (k : String) (w : World) : tlGet g k (strip w) = tlGet g k w := rfl

theorem tlSet_strip (g : Gid) (k : String) (v : CtxId) (w : World) : tlSet g k v (strip w) = (tlSet g k v w).map strip := by
  unfold tlSet
  have : (strip w).tls g = w.tls g := rfl
  rw [this]
  cases w.tls g <;> rfl

theorem setEntry_strip (l : LoaderId) (n : String) (b : Bool) (w : World) : setEntry l n b (strip w) = strip (setEntry l n b w) := by
  unfold setEntry
  have : (strip w).defs l = w.defs l := rfl
  rw [this]
  split <;> rfl

theorem leafStep_strip (g : Gid) (c : CtxId) (l : Leaf) (w : World) :
    leafStep g c l (strip w) = ((leafStep g c l w).1, strip (leafStep g c l w).2) := by
  cases l with
  | obs =>
    simp only [leafStep, tlGet_strip]
    cases tlGet g ctxKey w <;> rfl
  | pop =>
    simp only [leafStep]
    have : ((strip w).ctxs c).stack = (w.ctxs c).stack := rfl
    rw [this]
    cases (w.ctxs c).stack <;> rfl
  | deftype n =>
    simp only [leafStep]
    have : ((strip w).ctxs c).loader = (w.ctxs c).loader := rfl
    rw [this]
    cases (w.ctxs c).loader with
    | nil => rfl
    | cons l r => simp only [setEntry_strip]
  | load n =>
    simp only [leafStep]
    have h1 : ((strip w).ctxs c).loader = (w.ctxs c).loader := rfl
    have h2 : (strip w).defs = w.defs := rfl
    rw [h1, h2]
    cases loadEntry w.defs (w.ctxs c).loader n with
    | some b => rfl
    | none =>
      cases (w.ctxs c).loader with
      | nil => rfl
      | cons l r => simp only [setEntry_strip]; rfl
  | _ => rfl

theorem dwcEnter_strip (g : Gid) (cx : CtxId) (w : World) :
    dwcEnter g cx (strip w) = (dwcEnter g cx w).map fun sw => (sw.1, strip sw.2) := by
  unfold dwcEnter
  rw [tlGet_strip]
  cases tlGet g ctxKey w with
  | some save =>
    simp only [tlSet_strip]
    cases tlSet g ctxKey cx w <;> rfl
  | none =>
    have : tlInit g (strip w) = strip (tlInit g w) := rfl
    simp only [this, tlSet_strip]
    cases tlSet g ctxKey cx (tlInit g w) <;> rfl

/-- the entry as the two models see it: the same saved context, worlds related by `strip`, nobody new waiting -/
theorem dwcEnter_sim (g : Gid) (cx : CtxId) (w : World) :
    ∃ save w2, dwcEnter g cx w = some (save, w2) ∧ dwcEnter g cx (strip w) = some (save, strip w2) ∧
      w2.pending = w.pending := by
  obtain ⟨t, _, h⟩ := dwcEnter_eq g cx w
  exact ⟨_, _, h, by rw [dwcEnter_strip, h]; rfl, rfl⟩

theorem dwcExit_strip (g : Gid) (save : Option CtxId) (w : World) : dwcExit g save (strip w) = (dwcExit g save w).map strip := by
  cases save with
  | some s => exact tlSet_strip ..
  | none => rfl

/-! ## the fuel bookkeeping of the big-step model alone: `DoWithContext` as entry, body and exit (`exitB`), what the bookkeeping
sees of a result (`SameFuel`, `okR`), and the out-of-fuel flag stays set (`OofMono`) — what both `sim_exec` below and
`Proofs/TlsFuel` need -/

/-- what `DoWithContext` does after the actor returned or panicked (its deferred function) -/
def exitB (g : Gid) (save : Option CtxId) (r : Outcome × World) : Outcome × World :=
  match dwcExit g save r.2 with
  | some w3 => (r.1, w3)
  | none => (if r.1 = .fuel then .fuel else .panicked, r.2)

theorem doWithContext_eq (g : Gid) (cx : CtxId) (body : World → Outcome × World) (w : World) :
    doWithContext .now g cx body w =
      match dwcEnter g cx w with
      | none => (.panicked, w)
      | some sw => exitB g sw.1 (body sw.2) :=
  doWithContext_enter_exit g cx body w

/-- `r'` has the waiting goroutines and the out-of-fuel flag of `r` and is out of fuel iff `r` is: all that the fuel
bookkeeping sees of a result -/
def SameFuel (r r' : Outcome × World) : Prop :=
  r'.2.pending = r.2.pending ∧ r'.2.oof = r.2.oof ∧ (r'.1 = .fuel ↔ r.1 = .fuel)

theorem SameFuel.trans {a b c : Outcome × World} (h1 : SameFuel a b) (h2 : SameFuel b c) : SameFuel a c :=
  ⟨h2.1.trans h1.1, h2.2.1.trans h1.2.1, h2.2.2.trans h1.2.2⟩

/-- neither the execution nor any goroutine run inside it ran out of fuel -/
def okR (r : Outcome × World) : Prop := r.1 ≠ .fuel ∧ r.2.oof = false

theorem okR_fst {r : Outcome × World} (h : okR r) : r.1 = .normal ∨ r.1 = .panicked :=
  Outcome.of_ne_fuel h.1

theorem SameFuel.okR {r r' : Outcome × World} (hs : SameFuel r r') (h : okR r') : okR r :=
  ⟨fun e => h.1 (hs.2.2.2 e), hs.2.1 ▸ h.2⟩

theorem catch_sameFuel (g : Gid) (ctch : Bool) (r : Outcome × World) :
    SameFuel r (if ctch = true ∧ r.1 = .panicked then (.normal, emit g .recovered r.2) else r) := by
  split
  · rename_i hc
    exact ⟨rfl, rfl, ⟨fun e => (nomatch e), fun e => by rw [hc.2] at e; cases e⟩⟩
  · exact ⟨rfl, rfl, Iff.rfl⟩

/-- `recover p` hands back what `p` leaves, up to `SameFuel` -/
theorem exec_recover_sameFuel (f : Nat) (p : Prog) (g : Gid) (c : CtxId) (w : World) :
    SameFuel (exec .now f p g c w) (exec .now (f + 1) (.recover p) g c w) := by
  simp only [exec]
  generalize exec .now f p g c w = r
  rcases r with ⟨o, w1⟩
  cases o <;> exact ⟨rfl, rfl, by simp⟩

theorem exitB_sameFuel (g : Gid) (save : Option CtxId) (r : Outcome × World) : SameFuel r (exitB g save r) := by
  unfold exitB
  split
  · rename_i w3 h
    obtain ⟨t, rfl⟩ := dwcExit_fields h
    exact ⟨rfl, rfl, Iff.rfl⟩
  · exact ⟨rfl, rfl, by split <;> simp [*]⟩

/-- `DoWithContext` hands the body a world with the waiting goroutines and the flag of `w`, and hands back what the body
leaves; likewise `DoWithParent` and `Do`/`Try` below -/
theorem doWithContext_sameFuel (g : Gid) (cx : CtxId) (body : World → Outcome × World) (w : World) :
    ∃ w2, w2.pending = w.pending ∧ w2.oof = w.oof ∧ SameFuel (body w2) (doWithContext .now g cx body w) := by
  obtain ⟨t, _, hd⟩ := dwcEnter_eq g cx w
  rw [doWithContext_eq, hd]
  exact ⟨note g cx (tlPut g t w), rfl, rfl, exitB_sameFuel ..⟩

theorem doParent_sameFuel (g id : Nat) (ctch : Bool) (body : CtxId → World → Outcome × World) (root : CtxId) (w : World) :
    ∃ cx w2, w2.pending = w.pending ∧ w2.oof = w.oof ∧ SameFuel (body cx w2) (doParent .now g id ctch body root w) := by
  obtain ⟨w2, hp, ho, hs⟩ := doWithContext_sameFuel g (forkCtx root w).1
    (fun w4 => body (forkCtx root w).1 (setTag (forkCtx root w).1 id w4)) (forkCtx root w).2
  exact ⟨(forkCtx root w).1, setTag (forkCtx root w).1 id w2, hp, ho, hs.trans (catch_sameFuel ..)⟩

theorem doDo_sameFuel (g id : Nat) (ctch : Bool) (body : CtxId → World → Outcome × World) (w : World) :
    ∃ cx w2, w2.pending = w.pending ∧ w2.oof = w.oof ∧ SameFuel (body cx w2) (doDo .now g id ctch body w) := by
  obtain ⟨w1, hp1, ho1, hs1⟩ := doWithContext_sameFuel g (newCtx { loader := [0] } w).1
    (doParent .now g id ctch body (newCtx { loader := [0] } w).1) (newCtx { loader := [0] } w).2
  obtain ⟨cx, w2, hp2, ho2, hs2⟩ := doParent_sameFuel g id ctch body (newCtx { loader := [0] } w).1 w1
  exact ⟨cx, w2, hp2.trans hp1, ho2.trans ho1, hs2.trans hs1⟩

theorem false_of_mono {a b : Bool} (h : a = true → b = true) (hb : b = false) : a = false := by
  cases a with
  | false => rfl
  | true => rw [h rfl] at hb; cases hb

/-- the out-of-fuel flag, once set, stays set -/
def OofMono (ex : Prog → Gid → CtxId → World → Outcome × World) : Prop :=
  ∀ p g c w, w.oof = true → (ex p g c w).2.oof = true

theorem oof_or_fuel (w : World) {o : Outcome} (h : o ≠ .fuel) :
    ({ w with oof := w.oof || decide (o = .fuel) } : World) = w := by
  have : decide (o = Outcome.fuel) = false := by simpa using h
  simp only [this, Bool.or_false]

theorem runTask_oof {ex : Prog → Gid → CtxId → World → Outcome × World} (hm : OofMono ex) {t : Task} {w : World}
    (h : w.oof = true) : (runTask .now ex t w).oof = true := by
  rw [runTask_now]
  have := hm t.prog t.gid t.ctx (setTag t.ctx (1000 + t.gid) (note t.gid t.ctx (tlFresh t.gid t.ctx w))) h
  show ((ex t.prog t.gid t.ctx _).2.oof || _) = true
  rw [this]; rfl

theorem yield_oof {ex : Prog → Gid → CtxId → World → Outcome × World} (hm : OofMono ex) {w : World}
    (h : w.oof = true) : (yield .now ex w).oof = true := by
  obtain ⟨s, e | ⟨n, t, _, e⟩⟩ := yield_cases ex w <;> rw [e]
  · exact h
  · exact runTask_oof hm h

theorem exec_oof_mono : ∀ f, OofMono (exec .now f) := by
  intro f
  induction f with
  | zero => intro p g c w h; exact h
  | succ f ih =>
    intro p g c w h
    have hdo : ∀ (ctch : Bool) (id : Nat) (p : Prog),
        (doDo .now g id ctch (fun cx w1 => exec .now f p g cx w1) w).2.oof = true := by
      intro ctch id p
      obtain ⟨cx, w2, _, ho, hs⟩ := doDo_sameFuel g id ctch (fun cx w1 => exec .now f p g cx w1) w
      rw [hs.2.1]
      exact ih p g cx w2 (ho.trans h)
    cases p with
    | skip => exact h
    | leaf l =>
      simp only [exec]
      rw [(leafStep_pending g c l _).2]
      exact yield_oof ih h
    | seq p q =>
      simp only [exec]
      have h1 := ih p g c w h
      split
      · exact ih q g c _ h1
      · exact h1
    | recover p =>
      rw [(exec_recover_sameFuel f p g c w).2.1]
      exact ih p g c w h
    | doctx id p =>
      simp only [exec]
      obtain ⟨w2, _, ho, hs⟩ := doWithContext_sameFuel g (forkCtx c w).1 (fun w2 => exec .now f p g (forkCtx c w).1 w2)
        (setTag (forkCtx c w).1 id (forkCtx c w).2)
      rw [hs.2.1]
      exact ih p g _ w2 (ho.trans h)
    | dodo id p =>
      simp only [exec]
      exact hdo _ _ _
    | dotry id p =>
      simp only [exec]
      exact hdo _ _ _
    | doloader p =>
      simp only [exec]
      exact ih p g c _ h
    | fork p => simp only [exec]; exact h
    | go p =>
      simp only [exec]
      split <;> exact h

theorem drain_oof (fuel : Nat) : ∀ (n : Nat) (w : World), w.oof = true → (drain .now fuel n w).oof = true := by
  intro n
  induction n with
  | zero => intro w h; simp [drain, h]
  | succ n ih =>
    intro w h
    rw [drain_succ]
    split
    · exact h
    · exact ih _ (runTask_oof (exec_oof_mono fuel) h)

/-! ## the simulation: each construct of the big-step model is matched by micro-steps of the goroutine that runs it and of the waiting
goroutines it lets run; then the induction on the fuel (`sim_exec`) and the harness op (`sim_drain`, `run_refines`) -/

def pnOf (o : Outcome) : Bool := o == .panicked

/-- what the induction hypothesis says about executing with the smaller fuel -/
def SimExec (ex : Prog → Gid → CtxId → World → Outcome × World) : Prop :=
  ∀ p gid c w cfg i ctx0 k, Sim w cfg → cfg.gs[i]? = some (mkG gid ctx0 false (.run p c :: k)) → okR (ex p gid c w) →
    ∃ cfg', Post (ex p gid c w).2 cfg cfg' i (mkG gid ctx0 (pnOf (ex p gid c w).1) k)

/-- the micro-step that runs the deferred function of `DoWithContext`, after a normal return or while unwinding -/
theorem sim_exit {w : World} {c : Cfg} {i : Nat} {gid ctx0 : Nat} {save : Option CtxId} {k : List Frame} {o : Outcome}
    (hs : Sim w c) (hi : c.gs[i]? = some (mkG gid ctx0 (pnOf o) (.restoreCtx save :: k))) (ho : o ≠ .fuel) :
    Post (exitB gid save (o, w)).2 c (c.step i) i (mkG gid ctx0 (pnOf (exitB gid save (o, w)).1) k) := by
  have hx := dwcExit_strip gid save w
  cases hd : dwcExit gid save w with
  | some w3 =>
    obtain ⟨t, rfl⟩ := dwcExit_fields hd
    have e : exitB gid save (o, w) = (o, { w with tls := t }) := by simp [exitB, hd]
    rw [hd] at hx
    rw [e]
    refine one_step hs hi ?_ rfl
    cases o <;> simp [stepG, mkG, pnOf, hx]
  | none =>
    -- the deferred `Set` panics: the goroutine unwinds, whatever the body's outcome was
    have e : exitB gid save (o, w) = (.panicked, w) := by simp [exitB, hd, ho]
    rw [hd] at hx
    rw [e]
    refine one_step hs hi ?_ rfl
    cases o <;> simp [stepG, mkG, pnOf, hx, panicS]

/-- a waiting goroutine runs from start to end: micro-steps of itself (and of whatever it lets run) -/
theorem sim_runTask {ex : Prog → Gid → CtxId → World → Outcome × World} (ih : SimExec ex) {w : World} {c : Cfg} {n : Nat}
    {t : Task} (hs : Sim w c) (ht : w.pending[n]? = some t)
    (hok : (runTask .now ex t { w with pending := w.pending.eraseIdx n }).oof = false) :
    ∃ c', Runs c c' ∧ Sim (runTask .now ex t { w with pending := w.pending.eraseIdx n }) c' ∧ Keeps c c' none ∧ News c c' none := by
  obtain ⟨j, hj, hrest⟩ := waiting_pick c.gs w.pending n t hs.pend ht
  generalize hw0 : ({ w with pending := w.pending.eraseIdx n } : World) = w0 at hok ⊢
  have hsw0 : strip w0 = strip w := by rw [← hw0]; rfl
  have hpw0 : w0.pending = w.pending.eraseIdx n := by rw [← hw0]
  -- the goroutine starts: Init, Set, the doer tags its context
  let w1 := setTag t.ctx (1000 + t.gid) (note t.gid t.ctx (tlFresh t.gid t.ctx w0))
  rw [runTask_now] at hok ⊢
  simp only [taskBody] at hok ⊢
  have h' : ((ex t.prog t.gid t.ctx w1).2.oof || decide ((ex t.prog t.gid t.ctx w1).1 = .fuel)) = false := hok
  simp only [Bool.or_eq_false_iff, decide_eq_false_iff_not] at h'
  have hokr : okR (ex t.prog t.gid t.ctx w1) := ⟨h'.2, h'.1⟩
  rw [oof_or_fuel _ h'.2]
  have e1 : c.step j = { w := strip w1, gs := c.gs.set j (mkG t.gid t.ctx false [.run t.prog t.ctx, .endG]) } := by
    have : tlSet t.gid ctxKey t.ctx (tlInit t.gid (strip w)) = some (strip (tlFresh t.gid t.ctx w0)) := by
      rw [tlSet_tlInit, ← hsw0]; rfl
    simp only [Cfg.step, hj, hs.world, stepG, U, Bool.not_false, if_true, this]
    simp only [Option.toList, List.append_nil, mkG]
    rfl
  have p1 : Post w1 c (c.step j) j (mkG t.gid t.ctx false [.run t.prog t.ctx, .endG]) :=
    Post.of_step (new := []) hj (by rw [e1, List.append_nil]) (fun _ h => nomatch h)
      (by rw [List.append_nil]; show _ = w0.pending.map U; rw [hpw0]; exact hrest _ rfl)
  obtain ⟨c2, p2⟩ := ih t.prog t.gid t.ctx w1 (c.step j) j t.ctx [.endG] p1.sim p1.here hokr
  generalize hr : ex t.prog t.gid t.ctx w1 = r at p2 hokr
  -- the bottom of the goroutine: the outcome is recorded, the deferred Cleanup runs
  have p3 : Post (tlCleanup t.gid (emit t.gid (.done r.1) r.2)) c2 (c2.step j) j (mkG t.gid t.ctx false []) := by
    refine one_step p2.sim p2.here ?_ rfl
    rcases r with ⟨o, w2⟩
    cases o with
    | fuel => exact absurd rfl hokr.1
    | normal => simp [stepG, mkG, pnOf]; rfl
    | panicked => simp [stepG, mkG, pnOf]; rfl
  have p := p1.trans (p2.trans p3)
  exact ⟨c2.step j, p.runs, p.sim, p.whole hj rfl rfl⟩

theorem sim_yield {ex : Prog → Gid → CtxId → World → Outcome × World} (ih : SimExec ex) {w : World} {c : Cfg} (hs : Sim w c)
    (hok : (yield .now ex w).oof = false) :
    ∃ c', Runs c c' ∧ Sim (yield .now ex w) c' ∧ Keeps c c' none ∧ News c c' none := by
  obtain ⟨s, e | ⟨n, t, ht, e⟩⟩ := yield_cases ex w <;> rw [e] at hok ⊢
  · exact Sim.stay ⟨hs.world, hs.pend⟩
  · exact sim_runTask ih (w := { w with sched := s }) ⟨hs.world, hs.pend⟩ ht hok

/-- the deferred `recover()` of `TryWithParent` (`ctch`), or nothing -/
theorem sim_catch {w : World} {c : Cfg} {i : Nat} {gid ctx0 : Nat} {ctch : Bool} {k : List Frame} {o : Outcome}
    (hs : Sim w c) (hi : c.gs[i]? = some (mkG gid ctx0 (pnOf o) ((if ctch then [Frame.catchK] else []) ++ k))) (ho : o ≠ .fuel) :
    ∃ c', Post (if ctch = true ∧ o = .panicked then (Outcome.normal, emit gid .recovered w) else (o, w)).2 c c' i
      (mkG gid ctx0 (pnOf (if ctch = true ∧ o = .panicked then (Outcome.normal, emit gid .recovered w) else (o, w)).1) k) := by
  cases ctch with
  | false => exact ⟨c, by simpa using Post.same hs (by simpa using hi)⟩
  | true =>
    simp only [if_true, List.singleton_append, true_and] at hi ⊢
    cases o with
    | fuel => exact absurd rfl ho
    | normal =>
      refine ⟨c.step i, ?_⟩
      simp only [reduceCtorEq, if_false]
      exact silent_step hs hi (fun w0 => by simp [stepG, mkG, pnOf])
    | panicked =>
      refine ⟨c.step i, ?_⟩
      simp only [if_true]
      refine one_step hs hi ?_ rfl
      simp [stepG, mkG, pnOf]; rfl

/-- body and deferred function of `DoWithContext`, once the entry has been simulated -/
theorem sim_dwc {c : Cfg} {i : Nat} {gid ctx0 : Nat} {save : Option CtxId} {k : List Frame} {rb : Outcome × World}
    (hbody : okR rb → ∃ c', Post rb.2 c c' i (mkG gid ctx0 (pnOf rb.1) (.restoreCtx save :: k)))
    (hok : okR (exitB gid save rb)) :
    ∃ c', Post (exitB gid save rb).2 c c' i (mkG gid ctx0 (pnOf (exitB gid save rb).1) k) := by
  have hokb : okR rb := (exitB_sameFuel gid save rb).okR hok
  obtain ⟨c1, p1⟩ := hbody hokb
  exact ⟨c1.step i, p1.trans (sim_exit p1.sim p1.here hokb.1)⟩

/-- `DoWithParent` / `TryWithParent` with a `px.Context` parent (the frame `.parent`) -/
theorem sim_parent {ex : Prog → Gid → CtxId → World → Outcome × World} (ih : SimExec ex) {w : World} {c : Cfg} {i : Nat}
    {gid ctx0 id : Nat} {ctch : Bool} {p : Prog} {root : CtxId} {k : List Frame}
    (hs : Sim w c) (hi : c.gs[i]? = some (mkG gid ctx0 false (.parent id ctch p root :: k)))
    (hok : okR (doParent .now gid id ctch (fun cx w1 => ex p gid cx w1) root w)) :
    ∃ c', Post (doParent .now gid id ctch (fun cx w1 => ex p gid cx w1) root w).2 c c' i
      (mkG gid ctx0 (pnOf (doParent .now gid id ctch (fun cx w1 => ex p gid cx w1) root w).1) k) := by
  unfold doParent at hok ⊢
  rw [doWithContext_eq] at hok ⊢
  obtain ⟨save, w5, hd, hx, hp⟩ := dwcEnter_sim gid (forkCtx root w).1 (forkCtx root w).2
  simp only [hd] at hok ⊢
  generalize hrb : ex p gid (forkCtx root w).1 (setTag (forkCtx root w).1 id w5) = rb at hok ⊢
  have p0 : Post (setTag (forkCtx root w).1 id w5) c (c.step i) i
      (mkG gid ctx0 false (.run p (forkCtx root w).1 :: .restoreCtx save :: ((if ctch then [Frame.catchK] else []) ++ k))) := by
    refine one_step hs hi ?_ ?_
    · simp only [forkCtx_fst] at hx
      simp [stepG, mkG, forkCtx_strip, hx]; rfl
    · exact hp
  -- what is left after the inner DoWithContext: catch
  have hokx : okR (exitB gid save rb) := (catch_sameFuel gid ctch _).okR hok
  obtain ⟨c2, p2⟩ := sim_dwc (c := c.step i) (i := i) (ctx0 := ctx0) (k := (if ctch then [Frame.catchK] else []) ++ k)
    (fun hb => by
      have := ih p gid (forkCtx root w).1 (setTag (forkCtx root w).1 id w5) (c.step i) i ctx0
        (.restoreCtx save :: ((if ctch then [Frame.catchK] else []) ++ k)) p0.sim p0.here (by rw [hrb]; exact hb)
      rw [hrb] at this; exact this) hokx
  obtain ⟨c3, p3⟩ := sim_catch p2.sim p2.here hokx.1
  exact ⟨c3, p0.trans (p2.trans p3)⟩

/-- `pcore.Do` / `pcore.Try` -/
theorem sim_doDo {ex : Prog → Gid → CtxId → World → Outcome × World} (ih : SimExec ex) {w : World} {c : Cfg} {i : Nat}
    {gid ctx0 id : Nat} {ctch : Bool} {p : Prog} {k : List Frame}
    (hs : Sim w c)
    (hi : ∃ k0, c.gs[i]? = some (mkG gid ctx0 false k0) ∧
      stepG (mkG gid ctx0 false k0) (strip w) = doEnter (mkG gid ctx0 false k0) k id ctch p (strip w))
    (hok : okR (doDo .now gid id ctch (fun cx w1 => ex p gid cx w1) w)) :
    ∃ c', Post (doDo .now gid id ctch (fun cx w1 => ex p gid cx w1) w).2 c c' i
      (mkG gid ctx0 (pnOf (doDo .now gid id ctch (fun cx w1 => ex p gid cx w1) w).1) k) := by
  obtain ⟨k0, hi, hstep0⟩ := hi
  simp only [doDo] at hok ⊢
  rw [doWithContext_eq] at hok ⊢
  obtain ⟨save, w2, hd, hx, hp⟩ := dwcEnter_sim gid (newCtx { loader := [0] } w).1 (newCtx { loader := [0] } w).2
  simp only [hd] at hok ⊢
  have p0 : Post w2 c (c.step i) i
      (mkG gid ctx0 false (.parent id ctch p (newCtx { loader := [0] } w).1 :: .restoreCtx save :: k)) := by
    refine one_step hs hi ?_ ?_
    · rw [hstep0]
      simp only [doEnter, mkG, newCtx_strip, hx]
    · exact hp
  obtain ⟨c2, p2⟩ := sim_dwc (c := c.step i) (i := i) (ctx0 := ctx0) (k := k)
    (fun hb => sim_parent ih p0.sim p0.here hb) hok
  exact ⟨c2, p0.trans p2⟩

theorem sim_exec_succ {f : Nat} (ih : SimExec (exec .now f)) : SimExec (exec .now (f + 1)) := by
  have hm := exec_oof_mono f
  intro p gid c w cfg i ctx0 k hs hi hok
  cases p with
  | skip =>
    have p0 : Post w cfg (cfg.step i) i (mkG gid ctx0 false k) := silent_step hs hi (fun w0 => by simp [stepG, mkG])
    exact ⟨cfg.step i, p0⟩
  | leaf l =>
    simp only [exec] at hok ⊢
    have hoky : (yield .now (exec .now f) w).oof = false := by
      rw [← (leafStep_pending gid c l _).2]; exact hok.2
    obtain ⟨c1, r1, s1, k1, n1⟩ := sim_yield ih hs hoky
    have hi1 := k1 i _ (by simp) hi rfl
    generalize yield .now (exec .now f) w = wy at hok s1 ⊢
    have p1 : Post (leafStep gid c l wy).2 c1 (c1.step i) i (mkG gid ctx0 (pnOf (leafStep gid c l wy).1) k) := by
      refine one_step s1 hi1 ?_ (leafStep_pending gid c l wy).1
      have hls := leafStep_strip gid c l wy
      rcases leafStep_outcome gid c l wy with ho | ho
      · simp [stepG, mkG, hls, ho, pnOf]
      · simp [stepG, mkG, hls, ho, pnOf, panicS]
    exact ⟨c1.step i, r1.trans p1.runs, p1.sim, p1.here, k1.weaken.trans p1.keeps, n1.weaken.trans p1.news⟩
  | seq p q =>
    simp only [exec] at hok ⊢
    have p0 : Post w cfg (cfg.step i) i (mkG gid ctx0 false (.run p c :: .run q c :: k)) :=
      silent_step hs hi (fun w0 => by simp [stepG, mkG])
    generalize hr1 : exec .now f p gid c w = r1 at hok ⊢
    -- the first half is simulated whatever its outcome; the second runs after a normal return only
    have hok1 : okR r1 := by
      rcases r1 with ⟨o1, w1⟩
      cases o1 with
      | fuel => exact absurd rfl hok.1
      | normal => exact ⟨by simp, false_of_mono (hm q gid c w1) hok.2⟩
      | panicked => exact hok
    obtain ⟨c2, p2⟩ := ih p gid c w (cfg.step i) i ctx0 (.run q c :: k) p0.sim p0.here (hr1 ▸ hok1)
    rw [hr1] at p2
    rcases r1 with ⟨o1, w1⟩
    cases o1 with
    | fuel => exact absurd rfl hok1.1
    | normal =>
      obtain ⟨c3, p3⟩ := ih q gid c w1 c2 i ctx0 k p2.sim p2.here hok
      exact ⟨c3, p0.trans (p2.trans p3)⟩
    | panicked =>
      exact ⟨c2.step i, p0.trans (p2.trans (silent_step p2.sim p2.here (fun w0 => by simp [stepG, mkG, pnOf])))⟩
  | recover p =>
    have hok1 := (exec_recover_sameFuel f p gid c w).okR hok
    simp only [exec] at hok ⊢
    have p0 : Post w cfg (cfg.step i) i (mkG gid ctx0 false (.run p c :: .catchK :: k)) :=
      silent_step hs hi (fun w0 => by simp [stepG, mkG])
    generalize hr1 : exec .now f p gid c w = r1 at hok hok1 ⊢
    obtain ⟨c2, p2⟩ := ih p gid c w (cfg.step i) i ctx0 (.catchK :: k) p0.sim p0.here (hr1 ▸ hok1)
    rw [hr1] at p2
    -- the deferred `recover()` is the one of `TryWithParent`
    obtain ⟨c3, p3⟩ := sim_catch (ctch := true) (k := k) p2.sim p2.here hok1.1
    refine ⟨c3, ?_⟩
    have p := p0.trans (p2.trans p3)
    rcases r1 with ⟨o1, w1⟩
    cases o1 <;> exact p
  | doctx id p =>
    simp only [exec] at hok ⊢
    rw [doWithContext_eq] at hok ⊢
    obtain ⟨save, w2, hd, hx, hp⟩ := dwcEnter_sim gid (forkCtx c w).1 (setTag (forkCtx c w).1 id (forkCtx c w).2)
    simp only [hd] at hok ⊢
    have p0 : Post w2 cfg (cfg.step i) i (mkG gid ctx0 false (.run p (forkCtx c w).1 :: .restoreCtx save :: k)) := by
      refine one_step hs hi ?_ ?_
      · simp only [forkCtx_fst] at hx
        simp [stepG, mkG, forkCtx_strip, setTag_strip, hx]
      · exact hp
    obtain ⟨c2, p2⟩ := sim_dwc (c := cfg.step i) (i := i) (ctx0 := ctx0) (k := k)
      (fun hb => ih p gid (forkCtx c w).1 w2 (cfg.step i) i ctx0 (.restoreCtx save :: k) p0.sim p0.here hb) hok
    exact ⟨c2, p0.trans p2⟩
  | dodo id p =>
    simp only [exec] at hok ⊢
    exact sim_doDo ih hs ⟨_, hi, by simp [stepG, mkG]⟩ hok
  | dotry id p =>
    simp only [exec] at hok ⊢
    exact sim_doDo ih hs ⟨_, hi, by simp [stepG, mkG]⟩ hok
  | doloader p =>
    simp only [exec] at hok ⊢
    have p0 : Post (ctxUpd c (fun y => { y with loader := (newLoader w).1 :: (w.ctxs c).loader }) (newLoader w).2) cfg (cfg.step i) i
        (mkG gid ctx0 false (.run p c :: .restoreLoader c (w.ctxs c).loader :: k)) :=
      one_step hs hi rfl rfl
    generalize hw1 : ctxUpd c (fun y => { y with loader := (newLoader w).1 :: (w.ctxs c).loader }) (newLoader w).2 = w1 at hok p0 ⊢
    obtain ⟨c2, p2⟩ := ih p gid c w1 (cfg.step i) i ctx0 (.restoreLoader c (w.ctxs c).loader :: k) p0.sim p0.here hok
    generalize exec .now f p gid c w1 = r at p2 ⊢
    have p3 : Post (ctxUpd c (fun y => { y with loader := (w.ctxs c).loader }) r.2) c2 (c2.step i) i (mkG gid ctx0 (pnOf r.1) k) := by
      refine one_step p2.sim p2.here ?_ rfl
      rcases r with ⟨o, wr⟩
      cases o <;> rfl
    exact ⟨c2.step i, p0.trans (p2.trans p3)⟩
  | fork p =>
    simp only [exec] at hok ⊢
    exact ⟨cfg.step i, one_step_spawn (t := some { gid := w.nextGid, ctx := w.nextCtx, prog := p }) hs hi rfl rfl⟩
  | go p =>
    simp only [exec] at hok ⊢
    cases hg : tlGet gid ctxKey w with
    | none =>
      simp only [hg] at hok ⊢
      refine ⟨cfg.step i, one_step hs hi ?_ rfl⟩
      simp [stepG, mkG, tlGet_strip, hg, panicS, pnOf]
    | some cur =>
      simp only [hg] at hok ⊢
      refine ⟨cfg.step i, ?_⟩
      refine one_step_spawn (t := some { gid := w.nextGid, ctx := w.nextCtx, prog := p }) hs hi ?_ rfl
      have hg' : tlGet gid ctxKey (strip w) = some cur := hg
      simp only [stepG, mkG, Bool.not_true, Bool.false_eq_true, if_false, hg']
      rfl

/-- **every big-step execution of a body is a small-step execution**, for every fuel -/
theorem sim_exec : ∀ f, SimExec (exec .now f) := by
  intro f
  induction f with
  | zero => intro p gid c w cfg i ctx0 k _ _ hok; exact absurd rfl hok.1
  | succ f ih => exact sim_exec_succ ih

theorem sim_drain (fuel : Nat) : ∀ (n : Nat) (w : World) (c : Cfg), Sim w c → (drain .now fuel n w).oof = false →
    ∃ c', Runs c c' ∧ Sim (drain .now fuel n w) c' ∧ Keeps c c' none ∧ News c c' none ∧ (drain .now fuel n w).pending = [] := by
  intro n
  induction n with
  | zero =>
    intro w c hs hok
    simp only [drain] at hok ⊢
    have h' : (w.oof || !w.pending.isEmpty) = false := hok
    simp only [Bool.or_eq_false_iff, Bool.not_eq_false', List.isEmpty_iff] at h'
    refine ⟨c, Runs.refl c, ⟨?_, hs.pend⟩, Keeps.refl c none, News.refl c none, h'.2⟩
    rw [hs.world]
    show strip w = strip { w with oof := w.oof || !w.pending.isEmpty }
    have : (w.oof || !w.pending.isEmpty) = w.oof := by rw [h'.1, h'.2]; rfl
    rw [this]
  | succ n ih =>
    intro w c hs hok
    rw [drain_succ] at hok ⊢
    cases ht : w.pending[0]? with
    | none =>
      exact ⟨c, Runs.refl c, hs, Keeps.refl c none, News.refl c none, by cases hp : w.pending <;> simp [hp] at ht ⊢⟩
    | some t =>
      simp only [ht] at hok ⊢
      obtain ⟨c1, r1, s1, k1, n1⟩ := sim_runTask (sim_exec fuel) hs ht (false_of_mono (drain_oof fuel n _) hok)
      obtain ⟨c2, r2, s2, k2, n2, hp2⟩ := ih _ c1 s1 hok
      exact ⟨c2, r1.trans r2, s2, k1.trans k2, n1.trans n2, hp2⟩

/-- **Refinement.**  Whatever the program and the oracle: if the big-step run does not run out of fuel, some schedule of
micro-steps of the small-step semantics leads from the initial configuration to a configuration in which every goroutine has
ended and whose shared state — goroutine-local tables, context objects, loader entries, observation log, ghost `estab`, all
counters — is exactly the big-step result (`strip` only forgets the big-step model's own `pending`/`sched`, which are empty /
irrelevant at the end). -/
theorem run_refines (sched : List Nat) (p : Prog) (hok : (run .now sched p).oof = false) :
    ∃ steps, (Cfg.steps steps (Cfg.init p)).w = strip (run .now sched p) ∧
      (∀ g ∈ (Cfg.steps steps (Cfg.init p)).gs, g.done = true) ∧ (run .now sched p).pending = [] := by
  simp only [run] at hok ⊢
  have s0 : Sim { sched := sched } (Cfg.init p) := ⟨rfl, rfl⟩
  have hi0 : (Cfg.init p).gs[0]? = some (mkG 0 0 false [.run (.dodo 1000 p) 0, .endRoot]) := rfl
  generalize hr : exec .now (fuelFor p) (.dodo 1000 p) 0 0 { sched := sched } = r at hok ⊢
  have hokd : (drain .now (fuelFor p) (fuelFor p)
      { emit 0 (.done r.1) r.2 with oof := (emit 0 (.done r.1) r.2).oof || decide (r.1 = .fuel) }).oof = false := hok
  have h' : (r.2.oof || decide (r.1 = .fuel)) = false :=
    false_of_mono (drain_oof _ _ { emit 0 (.done r.1) r.2 with oof := r.2.oof || decide (r.1 = .fuel) }) hokd
  simp only [Bool.or_eq_false_iff, decide_eq_false_iff_not] at h'
  have hokr : okR (exec .now (fuelFor p) (.dodo 1000 p) 0 0 { sched := sched }) := by rw [hr]; exact ⟨h'.2, h'.1⟩
  obtain ⟨c1, p1⟩ := sim_exec (fuelFor p) (.dodo 1000 p) 0 0 { sched := sched } (Cfg.init p) 0 0 [.endRoot] s0 hi0 hokr
  rw [hr] at p1
  -- the bottom of the root goroutine records the outcome
  have p2 : Post (emit 0 (.done r.1) r.2) c1 (c1.step 0) 0 (mkG 0 0 false []) := by
    refine one_step p1.sim p1.here ?_ rfl
    rcases r with ⟨o, wr⟩
    cases o with
    | fuel => exact absurd rfl h'.2
    | normal => rfl
    | panicked => rfl
  rw [oof_or_fuel _ h'.2] at hokd ⊢
  obtain ⟨c3, r3, s3, _, n3, hp3⟩ := sim_drain (fuelFor p) (fuelFor p) _ (c1.step 0) p2.sim hokd
  obtain ⟨is1, h1⟩ := p1.runs.trans (p2.runs.trans r3)
  refine ⟨is1, ?_, ?_, hp3⟩
  · rw [h1]; exact s3.world
  · rw [h1]
    intro g hg
    obtain ⟨j, hj⟩ := List.mem_iff_getElem?.1 hg
    -- every goroutine has started: nothing is pending
    have hst : g.started = true := by
      cases hs : g.started with
      | true => rfl
      | false =>
        have : g ∈ waiting c3.gs := by simp [waiting, hg, hs]
        rw [s3.pend, hp3] at this
        simp at this
    simp only [GS.done, hst, Bool.true_and, List.isEmpty_iff]
    rcases n3 j g (by simp) hj hst with h3 | h3
    · -- it was there when the root goroutine ended: the root itself, or one that had ended before
      by_cases hj0 : j = 0
      · subst hj0
        rw [p2.here] at h3
        rw [← Option.some.inj h3]; rfl
      · have hne : some j ≠ some 0 := by simpa using hj0
        rcases (p1.news.trans p2.news) j g hne h3 hst with h4 | h4
        · -- the initial configuration has one goroutine
          cases j with
          | zero => exact absurd rfl hj0
          | succ j => simp [Cfg.init] at h4
        · exact h4
    · exact h3

end Pcore.Tls

import Pcore.Proofs.SerRefs
/-! C10: a decidable check of the sharing hypothesis.  `sharedB c v` collects, in pre-order, the
    reference-free event of every identified node and checks that every node agrees with the FIRST entry of its
    identity.  The driver evaluates it on every op value, so the hypothesis `Shared` of `C10_refs_wellformed` and
    `C10_roundtrip_partial` is checked at run time for everything the harness generates. -/
namespace Pcore.Ser

mutual
theorem Ev.beq_eq : ∀ (a b : Ev), a.beq b = true → a = b
  | .add a, .add b, h => by rw [Ev.beq, beq_iff_eq] at h; rw [h]
  | .ref a, .ref b, h => by rw [Ev.beq, beq_iff_eq] at h; rw [h]
  | .arr a, .arr b, h => by rw [beqList_eq a b h]
  | .hsh a, .hsh b, h => by rw [beqList_eq a b h]
  | .add _, .ref _, h | .add _, .arr _, h | .add _, .hsh _, h | .ref _, .add _, h | .ref _, .arr _, h | .ref _, .hsh _, h
  | .arr _, .add _, h | .arr _, .ref _, h | .arr _, .hsh _, h | .hsh _, .add _, h | .hsh _, .ref _, h
  | .hsh _, .arr _, h => by cases h
theorem beqList_eq : ∀ (a b : List Ev), beqList a b = true → a = b
  | [], [], _ => rfl
  | x :: xs, y :: ys, h => by
      simp only [beqList, Bool.and_eq_true] at h
      rw [Ev.beq_eq x y h.1, beqList_eq xs ys h.2]
  | [], _ :: _, h | _ :: _, [], h => by cases h
end

mutual
theorem cohB_sound (c : Cfg) (tbl : List (Key × Ev)) : ∀ (v : V), cohB c tbl v = true → Coh c (Fof tbl) v
  | .hash id es, h => by
      simp only [cohB, Bool.and_eq_true] at h
      exact ⟨Ev.beq_eq _ _ h.1, cohBPairs_sound c tbl es h.2⟩
  | .arr id vs, h => by
      simp only [cohB, Bool.and_eq_true] at h
      exact ⟨Ev.beq_eq _ _ h.1, cohBList_sound c tbl vs h.2⟩
  | .sens id v, h => by
      simp only [cohB, Bool.and_eq_true] at h
      exact ⟨Ev.beq_eq _ _ h.1, cohB_sound c tbl v h.2⟩
  | .bin id bs, h => Ev.beq_eq _ _ h
  | .leaf id k enc disp, h => Ev.beq_eq _ _ h
  | .obj id tn disp as, h => by
      simp only [cohB, Bool.and_eq_true] at h
      exact ⟨Ev.beq_eq _ _ h.1, cohBAttrs_sound c tbl as h.2⟩
  | .undef, _ | .dflt, _ | .bool _, _ | .int _, _ | .flt _, _ | .str _, _ => trivial
theorem cohBList_sound (c : Cfg) (tbl : List (Key × Ev)) : ∀ (vs : List V), cohBList c tbl vs = true → CohList c (Fof tbl) vs
  | [], _ => trivial
  | v :: vs, h => by
      simp only [cohBList, Bool.and_eq_true] at h
      exact ⟨cohB_sound c tbl v h.1, cohBList_sound c tbl vs h.2⟩
theorem cohBPairs_sound (c : Cfg) (tbl : List (Key × Ev)) : ∀ (es : List (V × V)),
    cohBPairs c tbl es = true → CohPairs c (Fof tbl) es
  | [], _ => trivial
  | (k, v) :: es, h => by
      simp only [cohBPairs, Bool.and_eq_true] at h
      exact ⟨cohB_sound c tbl k h.1.1, cohB_sound c tbl v h.1.2, cohBPairs_sound c tbl es h.2⟩
theorem cohBAttrs_sound (c : Cfg) (tbl : List (Key × Ev)) : ∀ (as : List (String × V)),
    cohBAttrs c tbl as = true → CohAttrs c (Fof tbl) as
  | [], _ => trivial
  | (_, v) :: as, h => by
      simp only [cohBAttrs, Bool.and_eq_true] at h
      exact ⟨cohB_sound c tbl v h.1, cohBAttrs_sound c tbl as h.2⟩
end

end Pcore.Ser

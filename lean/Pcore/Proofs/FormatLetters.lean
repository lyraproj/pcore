import Pcore.Proofs.FormatBasic
import Pcore.Proofs.CaseTable
/-! The letter sets of the model's ToString functions, the ways each of them ends (`Flagged`, `Ends`: what the
    unsupported-format, width and no-fault lemmas are cases on), and the side conditions on the two regenerated tables
    (format letters: `LettersOK`; Unicode case ranges: `CaseTableOK`, in Proofs/CaseTable). -/
namespace Pcore.Format

/-- the letters the model's function of a kind formats (`none`: the kind ignores the letter) -/
def modelLetters : Kind → Option (List Char)
  | .int => some ['d', 'x', 'X', 'o', 'p', 'b', 'B', 'e', 'E', 'f', 'g', 'G', 'c', 's']
  | .float => some ['d', 'x', 'X', 'o', 'b', 'B', 'p', 'e', 'E', 'f', 'g', 'G', 's']
  | .str => some ['s', 'p', 'c', 'C', 'u', 'd', 't']
  | .bool => some ['t', 'T', 'y', 'Y', 'd', 'x', 'X', 'o', 'b', 'B', 'e', 'E', 'f', 'g', 'G', 's', 'p']
  | .bin => some ['s', 'p', 'b', 'B', 'u', 't', 'T']
  | .dflt => some ['d', 's', 'p', 'D']
  | .arr => some ['a', 's', 'p']
  | .hash => some ['a', 'h', 's', 'p']
  | .undef => none
  | .regexp => none

def accepts (k : Kind) (c : Char) : Bool :=
  match modelLetters k with
  | some ls => ls.contains c
  | none => true

/-- the letter set of each kind, in the order and grouping of the method's `if` chain -/
theorem accepts_int (c : Char) : accepts .int c =
    (isIntLetter c || isPbB c || isFloatLetter c || decide (c = 'c') || decide (c = 's')) := by
  simp only [accepts, modelLetters, List.contains_cons, List.contains_nil, Bool.or_false, Bool.or_assoc, isIntLetter, isPbB,
    isFloatLetter]
  rfl

theorem accepts_float (c : Char) : accepts .float c =
    (isRadixLetter c || decide (c = 'p') || (decide (c = 'e') || decide (c = 'E') || decide (c = 'f')) ||
      (decide (c = 'g') || decide (c = 'G')) || decide (c = 's')) := by
  simp only [accepts, modelLetters, List.contains_cons, List.contains_nil, Bool.or_false, Bool.or_assoc, isRadixLetter]
  rfl

theorem accepts_bool (c : Char) : accepts .bool c =
    (decide (c = 't') || decide (c = 'T') || decide (c = 'y') || decide (c = 'Y') || isRadixLetter c || isFloatLetter c ||
      (decide (c = 's') || decide (c = 'p'))) := by
  simp only [accepts, modelLetters, List.contains_cons, List.contains_nil, Bool.or_false, Bool.or_assoc, isRadixLetter,
    isFloatLetter]
  rfl

theorem accepts_str (c : Char) : accepts .str c =
    (decide (c = 's') || decide (c = 'p') || decide (c = 'c') || decide (c = 'C') || decide (c = 'u') || decide (c = 'd') ||
      decide (c = 't')) := by
  simp only [accepts, modelLetters, List.contains_cons, List.contains_nil, Bool.or_false, Bool.or_assoc]
  rfl

theorem accepts_dflt (c : Char) : accepts .dflt c =
    (decide (c = 'd') || decide (c = 's') || decide (c = 'p') || decide (c = 'D')) := by
  simp only [accepts, modelLetters, List.contains_cons, List.contains_nil, Bool.or_false, Bool.or_assoc]
  rfl

theorem accepts_bin (c : Char) : accepts .bin c =
    (decide (c = 's') || decide (c = 'p') || decide (c = 'b') || decide (c = 'B') || decide (c = 'u') || decide (c = 't') ||
      decide (c = 'T')) := by
  simp only [accepts, modelLetters, List.contains_cons, List.contains_nil, Bool.or_false, Bool.or_assoc]
  rfl

/-- the letter set of an Array is the letter check `Array.ToString2` starts with; a Hash formats `a` as well (as the array of
    its entries) -/
theorem accepts_arr (c : Char) : accepts .arr c = isArrayLetter c := by
  simp only [accepts, modelLetters, List.contains_cons, List.contains_nil, Bool.or_false, Bool.or_assoc, isArrayLetter]
  rfl

theorem accepts_hash (c : Char) : accepts .hash c = (decide (c = 'a') || isHashLetter c) := by
  simp only [accepts, modelLetters, List.contains_cons, List.contains_nil, Bool.or_false, Bool.or_assoc, isHashLetter]
  rfl

theorem isHashLetter_ne_a {c : Char} (h : isHashLetter c = true) : c ≠ 'a' := by
  rintro rfl; exact absurd h (by decide)

/-! ### The ways a method ends
Every `ToString` method is an `if` chain over the format's letter.  Each chain is walked once (`fmtIntCore_ends` …
`fmtBinary_flagged`) to say in which of a few ways the method can end; what is claimed of a scalar's rendering (which letters
are unsupported, the width, the absence of fmt faults) is then proved by cases on `Ends`. -/

/-- a text padded by `ApplyStringFlags`, or the unsupported-format error: all the methods without a numeric path end
    in one of these; `ok` = the letter is one the method formats -/
inductive Flagged (f : Fmt) : Bool → Res → Prop
  | text (t : Str) (q : Bool) : Flagged f true (.text (applyStringFlags f t q))
  | unsupported : Flagged f false (.reported .unsupported)

/-- the ways the `ToString` method of a scalar ends under the format `f`.  fmt's part (`goFmtInt`, `sprintfF`,
    `floatGFormat`) is left as it stands in the model. -/
inductive Ends (io : FloatIO) (f : Fmt) : Bool → Res → Prop
  | flagged {ok : Bool} {r : Res} : Flagged f ok r → Ends io f ok r
  | goInt (i : Int) : isIntLetter f.letter = true → Ends io f true (goFmtInt (goParse (goFormat f)) i)
  | pbb (i : Int) : isPbB f.letter = true → Ends io f true (.text (intPbB f i))
  | floatStr (d : Fmt) (bits : Nat) (q : Bool) : d = defaultFormatP ∨ d = defaultFormatS →
      Ends io f true (exceptRes (floatGFormat io d bits) (fun s => applyStringFlags f s q))
  | sci (bits : Nat) : isFloatLetter f.letter = true → Ends io f true (exceptRes (sprintfF io (goFormat f) bits) id)
  | gen (bits : Nat) : f.letter = 'g' ∨ f.letter = 'G' → Ends io f true (exceptRes (floatGFormat io f bits) id)

theorem goFmtInt_not_reported (g : Option GoSpec) (i : Int) (c : Code) : goFmtInt g i ≠ .reported c := by
  unfold goFmtInt
  cases g with
  | none => exact fun h => nomatch h
  | some g =>
    simp only
    iterate 4 (refine iteInduction (motive := (· ≠ Res.reported c)) (fun _ h => Res.noConfusion h) fun _ => ?_)
    exact fun h => Res.noConfusion h

theorem exceptRes_not_reported (r : Except FaultKind Str) (k : Str → Str) (c : Code) : exceptRes r k ≠ .reported c := by
  cases r <;> exact fun h => nomatch h

theorem Flagged.reported {f : Fmt} {ok : Bool} {r : Res} (h : Flagged f ok r) {c : Code} (hr : r = .reported c) :
    c = .unsupported ∧ ok = false := by
  cases h with
  | text => cases hr
  | unsupported => cases hr; exact ⟨rfl, rfl⟩

theorem Flagged.of_false {f : Fmt} {r : Res} (h : Flagged f false r) : r = .reported .unsupported := by
  cases h; rfl

theorem Ends.reported {io : FloatIO} {f : Fmt} {ok : Bool} {r : Res} (h : Ends io f ok r) {c : Code}
    (hr : r = .reported c) : c = .unsupported ∧ ok = false := by
  cases h with
  | flagged h => exact h.reported hr
  | pbb => cases hr
  | goInt => exact absurd hr (goFmtInt_not_reported _ _ _)
  | floatStr | sci | gen => exact absurd hr (exceptRes_not_reported _ _ _)

theorem Ends.of_false {io : FloatIO} {f : Fmt} {r : Res} (h : Ends io f false r) : r = .reported .unsupported := by
  cases h with
  | flagged h => exact h.of_false

theorem fmtIntCore_ends (io : FloatIO) (f : Fmt) (i : Int) :
    Ends io f (isIntLetter f.letter || isPbB f.letter || decide (f.letter = 'c') || decide (f.letter = 's'))
      (fmtIntCore f i) := by
  unfold fmtIntCore
  refine iteInduction (fun h => by simp only [h, Bool.true_or]; exact .goInt i h) fun _ => ?_
  refine iteInduction (fun h => by simp only [h, Bool.true_or, Bool.or_true]; exact .pbb i h) fun _ => ?_
  iterate 2 (refine iteInduction (fun h => by simp only [h, decide_true, Bool.or_true]; exact .flagged (.text _ _)) fun _ => ?_)
  simp only [*, decide_false, Bool.or_false]; exact .flagged .unsupported

theorem fmtIntCore_ends_radix (io : FloatIO) (f : Fmt) (i : Int) (h : isRadixLetter f.letter = true) :
    Ends io f true (fmtIntCore f i) := by
  have hc : (isIntLetter f.letter || isPbB f.letter || decide (f.letter = 'c') || decide (f.letter = 's')) = true := by
    simp only [isRadixLetter, isIntLetter, isPbB, Bool.or_eq_true, decide_eq_true_eq] at h ⊢
    rcases h with ((((h | h) | h) | h) | h) | h <;> simp only [h, true_or, or_true]
  exact hc ▸ fmtIntCore_ends io f i

theorem accepts_float_of_floatLetter {c : Char} (h : isFloatLetter c = true) : accepts .float c = true := by
  simp only [isFloatLetter, Bool.or_eq_true, decide_eq_true_eq] at h
  rcases h with (((h | h) | h) | h) | h <;> rw [h] <;> rfl

theorem fmtFloat_ends (io : FloatIO) (f : Fmt) (bits : Nat) : Ends io f (accepts .float f.letter) (fmtFloat io f bits) := by
  rw [accepts_float]; unfold fmtFloat
  refine iteInduction (fun h => by simp only [h, Bool.true_or]; exact fmtIntCore_ends_radix io f _ h) fun _ => ?_
  refine iteInduction (fun h => by simp only [h, decide_true, Bool.true_or, Bool.or_true]; exact .floatStr _ _ _ (.inl rfl))
    fun _ => ?_
  refine iteInduction (fun h => by
    simp only [h, Bool.true_or, Bool.or_true]; exact .sci _ (by simp only [isFloatLetter, h, Bool.true_or])) fun _ => ?_
  refine iteInduction (fun h => by
    simp only [h, Bool.true_or, Bool.or_true]; exact .gen _ (by simpa only [Bool.or_eq_true, decide_eq_true_eq] using h))
    fun _ => ?_
  refine iteInduction (fun h => by simp only [h, decide_true, Bool.or_true]; exact .floatStr _ _ _ (.inr rfl)) fun _ => ?_
  simp only [*, decide_false, Bool.or_false]; exact .flagged .unsupported

theorem fmtInt_ends (io : FloatIO) (f : Fmt) (i : Int) : Ends io f (accepts .int f.letter) (fmtInt io f i) := by
  rw [accepts_int]; unfold fmtInt
  refine iteInduction (fun h => ?_) fun h => ?_
  · simp only [h, Bool.true_or, Bool.or_true]
    exact accepts_float_of_floatLetter h ▸ fmtFloat_ends io f _
  · simp only [h, Bool.or_false]; exact fmtIntCore_ends io f i

theorem fmtBool_ends (io : FloatIO) (f : Fmt) (b : Bool) : Ends io f (accepts .bool f.letter) (fmtBool io f b) := by
  rw [accepts_bool]; unfold fmtBool
  iterate 4 (refine iteInduction (fun h => by simp only [h, decide_true, Bool.true_or, Bool.or_true]; exact .flagged (.text _ _)) fun _ => ?_)
  refine iteInduction (fun h => by simp only [h, Bool.true_or, Bool.or_true]; exact fmtIntCore_ends_radix io f _ h) fun _ => ?_
  refine iteInduction (fun h => by
    simp only [h, Bool.true_or, Bool.or_true]; exact accepts_float_of_floatLetter h ▸ fmtFloat_ends io f _) fun _ => ?_
  refine iteInduction (fun h => by simp only [h, Bool.or_true]; exact .flagged (.text _ _)) fun _ => ?_
  simp only [*, decide_false, Bool.or_false]; exact .flagged .unsupported

theorem fmtStr_flagged (f : Fmt) (s : Str) : Flagged f (accepts .str f.letter) (fmtStr f s) := by
  rw [accepts_str]; unfold fmtStr
  iterate 7 (refine iteInduction (fun h => by simp only [h, decide_true, Bool.true_or, Bool.or_true]; exact .text _ _) fun _ => ?_)
  simp only [*, decide_false, Bool.or_false]; exact .unsupported

theorem fmtDefault_flagged (f : Fmt) : Flagged f (accepts .dflt f.letter) (fmtDefault f) := by
  rw [accepts_dflt]; unfold fmtDefault
  iterate 2 (refine iteInduction (fun h => by simp only [h, decide_true, Bool.true_or, Bool.or_true]; exact .text _ _) fun _ => ?_)
  simp only [*, decide_false, Bool.or_false]; exact .unsupported

theorem fmtBinary_flagged (f : Fmt) (bs : List Nat) (u : Option Str) :
    (f.letter = 's' ∧ u = none ∧ fmtBinary f bs u = .reported .failure) ∨
      Flagged f (accepts .bin f.letter) (fmtBinary f bs u) := by
  by_cases hs : f.letter = 's' ∧ u = none
  · exact .inl ⟨hs.1, hs.2, by simp only [fmtBinary, hs.1, hs.2, if_true]⟩
  refine .inr ?_
  rw [accepts_bin]; unfold fmtBinary
  refine iteInduction (fun hl => ?_) fun _ => ?_
  · cases u with
    | none => exact absurd ⟨hl, rfl⟩ hs
    | some s => simp only [hl, decide_true, Bool.true_or]; exact .text _ _
  iterate 6 (refine iteInduction (fun h => by simp only [h, decide_true, Bool.true_or, Bool.or_true]; exact .text _ _) fun _ => ?_)
  simp only [*, decide_false, Bool.or_false]; exact .unsupported

theorem fmtIntCore_unsupported (f : Fmt) (i : Int) :
    fmtIntCore f i = .reported .unsupported ↔
      ¬ (isIntLetter f.letter = true ∨ isPbB f.letter = true ∨ f.letter = 'c' ∨ f.letter = 's') := by
  -- `fmtIntCore` has no float path: any `io` will do
  have h := fmtIntCore_ends ⟨fun _ _ => [], fun _ => 0, fun _ => 0⟩ f i
  have hb : (isIntLetter f.letter || isPbB f.letter || decide (f.letter = 'c') || decide (f.letter = 's')) = true ↔
      (isIntLetter f.letter = true ∨ isPbB f.letter = true ∨ f.letter = 'c' ∨ f.letter = 's') := by
    simp only [Bool.or_eq_true, decide_eq_true_eq, or_assoc]
  rw [← hb]
  constructor
  · intro hr ht; exact absurd (h.reported hr).2 (by rw [ht]; exact Bool.noConfusion)
  · intro hn; rw [Bool.not_eq_true] at hn; exact (hn ▸ h).of_false

/-! ### The side condition on the regenerated letter table
`LettersOK` is decided on the table (`lettersOKb_sound`); what it gives: the documented letters of a kind are the letters
the model accepts (`documentedIn_eq_accepts`). -/

def sameLetters (a b : List Char) : Bool := a.all b.contains && b.all a.contains

def allKinds : List Kind := [.int, .float, .str, .bool, .undef, .dflt, .bin, .regexp, .arr, .hash]

theorem allKinds_complete (k : Kind) : k ∈ allKinds := by cases k <;> simp [allKinds]

def rowOf (tbl : List LetterRow) (k : Kind) : Option LetterRow := tbl.find? (fun r => r.kind == k)

/-- a row agrees with the model: nothing unrecognised; the letters whose arm formats are exactly the documented
    literal and exactly the letters the model formats; a letter handed over to the Float / Integer method is
    formatted there -/
def rowCoreOKb (r : LetterRow) (k : Kind) : Bool :=
  match modelLetters k with
  | none => r.noSwitch && r.documented.isEmpty && r.handled.isEmpty
  | some ls => !r.noSwitch && sameLetters r.handled r.documented && sameLetters r.documented ls

def rowOKb (tbl : List LetterRow) (k : Kind) : Bool :=
  match rowOf tbl k with
  | none => false
  | some r =>
    rowCoreOKb r k && r.unknown.isEmpty &&
    (match rowOf tbl .float with
     | some fr => r.toFloat.all fr.handled.contains
     | none => r.toFloat.isEmpty) &&
    (match rowOf tbl .int with
     | some ir => r.toInt.all ir.handled.contains
     | none => r.toInt.isEmpty)

def lettersOKb (tbl : List LetterRow) : Bool := allKinds.all (rowOKb tbl)

/-- `LettersOK`: for every value kind, handled = documented = what the model formats -/
def LettersOK (tbl : List LetterRow) : Prop := ∀ k : Kind, rowOKb tbl k = true

theorem lettersOKb_sound (tbl : List LetterRow) (h : lettersOKb tbl = true) : LettersOK tbl := by
  intro k
  exact List.all_eq_true.mp h k (allKinds_complete k)

/-- the documented set of a kind according to the table (every letter for a kind without a switch) -/
def documentedIn (tbl : List LetterRow) (k : Kind) (c : Char) : Bool :=
  match rowOf tbl k with
  | some r => r.noSwitch || r.documented.contains c
  | none => false

theorem sameLetters_contains {a b : List Char} (h : sameLetters a b = true) (c : Char) : a.contains c = b.contains c := by
  simp [sameLetters, List.all_eq_true] at h
  by_cases ha : c ∈ a
  · simp [ha, h.1 c ha]
  · by_cases hb : c ∈ b
    · exact absurd (h.2 c hb) ha
    · simp [ha, hb]

theorem documentedIn_eq_accepts (tbl : List LetterRow) (h : LettersOK tbl) (k : Kind) (c : Char) :
    documentedIn tbl k c = accepts k c := by
  have hk := h k
  unfold rowOKb at hk
  unfold documentedIn accepts
  cases hr : rowOf tbl k with
  | none => simp [hr] at hk
  | some r =>
    simp only [hr, Bool.and_eq_true] at hk ⊢
    have hcore := hk.1.1.1
    unfold rowCoreOKb at hcore
    cases hm : modelLetters k with
    | none => simp [hm] at hcore ⊢; simp [hcore.1.1]
    | some ls =>
      simp only [hm, Bool.and_eq_true] at hcore ⊢
      have hs := sameLetters_contains hcore.2 c
      have hn : r.noSwitch = false := by simpa using hcore.1.1
      rw [hn, hs]; simp

end Pcore.Format

import Pcore.Proofs.ObjectDefine
import Pcore.Proofs.ObjectAsg
/-! C17: inheritance coheres attribute by attribute along the WHOLE chain — every attribute of an ancestor is an attribute
    of the subtype (possibly overridden), and the subtype's declaration admits only values the ancestor's admits. -/
namespace Pcore.Object

/-- the chain invariant `define` establishes level by level: distinct attribute names, and every own attribute that
    overrides an inherited one admits only values the inherited declaration admits -/
def ChainOK : OType → Prop
  | [] => True
  | l :: p => TypeOK (l :: p) ∧
      (∀ b ∈ l.attrs, ∀ x, findAttr p b.name = some x → ∀ v, inst b.ty v = true → inst x.ty v = true) ∧ ChainOK p

theorem chainOK_typeOK : ∀ {t : OType}, ChainOK t → TypeOK t
  | [], _ => typeOK_nil
  | _ :: _, h => h.1

theorem step_sound {l : Level} {p : OType} (h : ChainOK (l :: p)) {x a' : Attr} (hx : x ∈ eachAttribute p)
    (ha' : a' ∈ eachAttribute (l :: p)) (hn : a'.name = x.name) {v : Val} (hv : inst a'.ty v = true) :
    inst x.ty v = true := by
  obtain ⟨hok, hov, hp⟩ := h
  have hfx := findAttr_of_mem (chainOK_typeOK hp).nodup hx
  -- looked up by name, the subtype's attribute is the own one of that name, else the inherited `x`
  have hfa := hn ▸ findAttr_of_mem hok.nodup ha'
  rw [findAttr_cons, hfx] at hfa
  cases hf : l.attrs.find? (fun b => b.name == x.name) with
  | none => rw [hf] at hfa; cases hfa; exact hv
  | some b =>
    rw [hf] at hfa; cases hfa
    obtain ⟨hb, hbn⟩ := find_key_some hf
    exact hov a' hb x (hbn ▸ hfx) v hv

/-- the WHOLE chain: for every ancestor `p` of `t` (a suffix of its level list), every attribute of `p` is — by name — an
    attribute of `t`, and whatever `t`'s declaration of it admits, `p`'s declaration admits -/
theorem chain_sound : ∀ (pre : List Level) {p : OType}, ChainOK (pre ++ p) → ∀ a ∈ eachAttribute p,
    ∃ a' ∈ eachAttribute (pre ++ p), a'.name = a.name ∧ ∀ v, inst a'.ty v = true → inst a.ty v = true
  | [], _, _, a, ha => ⟨a, ha, rfl, fun _ h => h⟩
  | l :: pre, p, h, a, ha => by
    obtain ⟨x, hx, hxn, hxs⟩ := chain_sound pre h.2.2 a ha
    have hfx : findAttr (pre ++ p) x.name = some x := findAttr_of_mem (chainOK_typeOK h.2.2).nodup hx
    obtain ⟨a', hfa⟩ : ∃ a', findAttr (l :: (pre ++ p)) x.name = some a' := by
      rw [findAttr_cons, hfx]
      cases l.attrs.find? (fun b => b.name == x.name) <;> exact ⟨_, rfl⟩
    obtain ⟨ha', hn⟩ := findAttr_some hfa
    exact ⟨a', ha', hn.trans hxn, fun v hv => hxs v (step_sound (l := l) (p := pre ++ p) h hx ha' hn hv)⟩

theorem define_override_sound {env : List OType} {d : Def} {l : Level} {p : OType} (h : define env d = .ok (l :: p)) :
    ∀ b ∈ l.attrs, ∀ x, findAttr p b.name = some x → ∀ v, inst b.ty v = true → inst x.ty v = true := by
  obtain ⟨attrs, hattrs, ht, -⟩ := define_ok h
  obtain ⟨rfl, rfl⟩ := List.cons.inj ht
  intro b hb x hf v hv
  obtain ⟨_, -, -, ho⟩ := defineAttrs_mem hattrs b hb
  exact asg_sound ((assertOverride_ok ho).2.2 x hf) hv

theorem define_chainOK {env : List OType} {d : Def} {t : OType} (henv : ∀ t' ∈ env, ChainOK t')
    (hnd : (d.attrs.map (·.name)).Nodup) (hcn : (d.constants.map (·.1)).Nodup) (h : define env d = .ok t) :
    ChainOK t := by
  have hok := (define_wf (fun t' ht' => chainOK_typeOK (henv t' ht')) ⟨hnd, hcn⟩ h).1
  obtain ⟨_, _, rfl, -⟩ := define_ok h
  exact ⟨hok, define_override_sound h, parentOf_forall (P := ChainOK) trivial henv d⟩

end Pcore.Object

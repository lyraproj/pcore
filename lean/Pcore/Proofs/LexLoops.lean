import Pcore.Model.LexLoops
/-!
For ANY table accepted by `loopOK`, every iteration of the abstract loop that returns to the loop head has consumed a
character: the number of characters left is a strictly decreasing measure, so the loop terminates.
-/
namespace Pcore.LexLoops

theorem loopOK_progress (l : Loop) (h : loopOK l = true) (n n' : Nat) (hs : Step l n (some n')) : n' < n := by
  cases hs with
  | back c a consumed guarded ha ho hacc hreach _ hn =>
    simp only [loopOK, Bool.and_eq_true, List.all_eq_true] at h
    have hout := (h.2 a ha).2 _ ho
    simp only [Bool.and_eq_true, Bool.not_eq_true', Bool.and_eq_false_iff] at hout
    obtain ⟨⟨hc, he⟩, hr⟩ := hout
    -- the arm is not taken, or its `Next()` not reached, at the end of input and on an undecodable byte
    have hchr : c = .chr := by
      cases c with
      | chr => rfl
      | eof => simp [hacc, hreach] at he
      | err => simp [hacc, hreach] at hr
    subst hchr
    have hpos : n ≠ 0 := fun h0 => hn h0 rfl
    rw [if_pos ⟨rfl, hc⟩]
    omega

theorem loopOK_terminates (l : Loop) (h : loopOK l = true) :
    ∀ n, Acc (fun n' n => Step l n (some n')) n := by
  intro n
  induction n using Nat.strongRecOn with
  | _ n ih =>
    constructor
    intro n' hs
    exact ih n' (loopOK_progress l h n n' hs)

end Pcore.LexLoops

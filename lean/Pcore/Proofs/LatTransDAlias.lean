import Pcore.Proofs.LatTransDAcc
import Pcore.Proofs.LatTransDFold
/-! C03, transitivity with the aliases: Data / RichData as receiver (`tr_alias_recv`), as the middle type (`tr_alias_mid`) and on the right
    (`tr_alias_right`), on any fragment with `FragOK` and `AliasOK`.  An alias' receiver rule is: one of its scalar members accepts, or its
    Array member `Array[al]` does, or its Hash member `Hash[key, al]` does (`recv_alias_split`); the latter two are the ordinary Array /
    Hash rules on those type terms, whose element steps keep the left type (the alias) and lower the rank of the middle / right type
    (`RankElem`) — except when both are the alias' own members again, where two of the three types coincide (`alias_triple`).  In the
    middle and on the right the alias is taken apart into its members by `asgToArr_eq` / `asgToHash_eq` (Proofs/LatTransDFold); the two
    unmodelled members of RichData go by `acc_of_asg` (Proofs/LatTransDAcc). -/
namespace Pcore.Lat
variable (cfg : Cfg) (sfh : Bool) {F : Ty → Prop}

theorem alias_isAlias (al : Alias) : al.ty.isAlias = true := by cases al <;> rfl

theorem wf_alias (al : Alias) : Ty.WF cfg al.arr ∧ Ty.WF cfg al.hsh := by
  cases al <;> simp [Alias.ty, Alias.key, Alias.arr, Alias.hsh, Ty.WF]

theorem leaves_facts (al : Alias) (x : Ty) (hx : x ∈ al.leaves) :
    x.w < al.ty.w ∧ vw x < vw al.ty ∧ Ty.WF cfg x := by
  cases al <;> simp [Alias.leaves] at hx <;> rcases hx with rfl | rfl | rfl | rfl | rfl | rfl <;>
    simp [Alias.ty, Ty.w, vw, Ty.WF]

theorem leaves_in (hF : FragOK sfh F) (hA : AliasOK F) (al : Alias) (x : Ty) (hx : x ∈ al.leaves) : F x := by
  cases al <;> simp [Alias.leaves] at hx
  · rcases hx with rfl | rfl <;> exact hF.leaf _ rfl
  · rcases hx with rfl | rfl | rfl | rfl | rfl | rfl <;> first | exact hF.leaf _ rfl | exact hA.typAny

theorem vw_arr (al : Alias) : vw al.arr + 1 = al.ty.w := by cases al <;> simp [vw, Alias.arr, Alias.ty, Ty.w, Ty.isData, Ty.isRich]
theorem vw_hsh (al : Alias) : vw al.hsh + 1 = al.ty.w := by
  cases al <;> simp [vw, Alias.hsh, Alias.ty, Alias.key, Ty.w, Ty.isData, Ty.isRich, Ty.isStr, Ty.isRichKey]
theorem vw_alias (al : Alias) : vw al.ty = al.ty.w := by cases al <;> rfl

/-- how far the rank of an element / value type can exceed that of its container: by one, and only for an alias -/
def RankElem (x t : Ty) : Prop :=
  (t.isAlias = true → vw t ≤ vw x + 1) ∧ (t.isAlias = false → vw t + 1 ≤ vw x ∧ (vw t + 2 ≤ vw x ∨ t = .any))

/-- an element or value type `t` of `x` (`2 + t.w ≤ x.w`, and `t` is the alias if `x` is an alias' own member) -/
theorem rankElem_of {x t : Ty} (hw : 2 + t.w ≤ x.w) (hal : ∀ al : Alias, x = al.arr ∨ x = al.hsh → t = al.ty) : RankElem x t := by
  have := vw_le t
  rcases vw_cases x with h | ⟨al, hx, h⟩
  · exact ⟨fun _ => by omega, fun _ => ⟨by omega, Or.inl (by omega)⟩⟩
  · cases hal al hx
    have := vw_alias al
    exact ⟨fun _ => by omega, fun hn => by rw [alias_isAlias] at hn; cases hn⟩

theorem rank_pos_elem (x : Ty) (hx : x.isPos = true) (t : Ty) (ht : t ∈ posTypes x) : RankElem x t := by
  rcases isPos_cases hx with ⟨e, r, rfl⟩ | ⟨ts, g, rfl⟩
  · simp only [posTypes, List.mem_singleton] at ht; subst ht
    exact rankElem_of (by simp only [Ty.w]; omega) fun al h => by
      cases al <;> simp [Alias.arr, Alias.hsh, Alias.ty] at h ⊢ <;> exact h.1
  · simp only [posTypes] at ht
    by_cases hts : ts.isEmpty = true
    · -- an untyped Tuple: the one element is Any, one below the Tuple
      simp only [hts, if_true, List.mem_singleton] at ht; subst ht
      have hv : vw (.tuple ts g) = 2 + Ty.wl ts := rfl
      have : vw Ty.any = 1 := rfl
      exact ⟨fun h => by simp [Ty.isAlias] at h, fun _ => ⟨by omega, Or.inr rfl⟩⟩
    · have ht' : t ∈ ts := by simpa [hts] using ht
      exact rankElem_of (by have := Ty.w_lt_wl ht'; simp only [Ty.w]; omega) fun al h => by
        cases al <;> simp [Alias.arr, Alias.hsh] at h

theorem rank_val (x t : Ty) (h : IsVal x t) : RankElem x t := by
  rcases h with ⟨k, r, rfl⟩ | ⟨ms, m', rfl, hm, rfl⟩
  · exact rankElem_of (by simp only [Ty.w]; omega) fun al h => by
      cases al <;> simp [Alias.arr, Alias.hsh, Alias.ty] at h ⊢ <;> exact h.2.1
  · exact rankElem_of (by have := Ty.wm_ge hm; simp only [Ty.w]; omega) fun al h => by
      cases al <;> simp [Alias.arr, Alias.hsh] at h

theorem asg_alias_any (al : Alias) : asg cfg sfh al.ty .any = false := by
  cases al <;> simp [Alias.ty, asg, asgRecv, sameNullary, isStringFamily, floatAll]

theorem alias_el (hA : AliasOK F) (al : Alias) (b c b' c' : Ty) (ihR : IHR cfg sfh F al.ty b c)
    (rb : RankElem b b') (rc : RankElem c c') (fb : F b') (fc : F c') (wb : Ty.WF cfg b') (wc : Ty.WF cfg c')
    (h1 : asg cfg sfh al.ty b' = true) (h2 : asg cfg sfh b' c' = true) : asg cfg sfh al.ty c' = true := by
  have H : FHyp cfg F al.ty b' c' := ⟨(hA.mem al).1, fb, fc, wb, wc⟩
  by_cases hb : b'.isAlias = true
  · by_cases hc : c'.isAlias = true
    · obtain ⟨x, rfl⟩ := isAlias_ty hb
      obtain ⟨y, rfl⟩ := isAlias_ty hc
      exact alias_triple cfg sfh al x y h1 h2
    · have hc' := eq_false_of_ne_true hc
      obtain ⟨r1, r2⟩ := rc.2 hc'
      rcases r2 with r2 | rfl
      · exact ihR b' c' (by have := rb.1 hb; omega) H h1 h2
      · obtain ⟨x, rfl⟩ := isAlias_ty hb
        rw [asg_alias_any] at h2; cases h2
  · have hb' := eq_false_of_ne_true hb
    obtain ⟨r1, r2⟩ := rb.2 hb'
    by_cases hc : c'.isAlias = true
    · rcases r2 with r2 | rfl
      · exact ihR b' c' (by have := rc.1 hc; omega) H h1 h2
      · rw [asg_alias_any] at h1; cases h1
    · have := (rc.2 (eq_false_of_ne_true hc)).1
      exact ihR b' c' (by omega) H h1 h2

theorem tr_alias_arr (hF : FragOK sfh F) (hA : AliasOK F) (al : Alias) (b c : Ty) (ihR : IHR cfg sfh F al.ty b c)
    (fb : F b) (fc : F c) (wb : Ty.WF cfg b) (wc : Ty.WF cfg c)
    (h1 : asgRecv cfg sfh al.arr b = true) (h2 : asgRecv cfg sfh b c = true) : asgRecv cfg sfh al.arr c = true := by
  have pa : al.arr.isPos = true := rfl
  have pb : b.isPos = true := pos_closed cfg sfh _ b pa h1
  have pc : c.isPos = true := pos_closed cfg sfh b c pb h2
  apply tr_pos_open cfg sfh al.arr b c pa pb pc ?_ h1 h2
  intro a' ha' b' hb' c' hc'
  have : a' = al.ty := by simpa [Alias.arr, posTypes] using ha'
  subst this
  obtain ⟨_, fb', wfb'⟩ := pos_elem cfg sfh hF b pb b' hb'
  obtain ⟨_, fc', wfc'⟩ := pos_elem cfg sfh hF c pc c' hc'
  exact alias_el cfg sfh hA al b c b' c' ihR (rank_pos_elem b pb b' hb') (rank_pos_elem c pc c' hc') (fb' fb) (fc' fc) (wfb' wb) (wfc' wc)

theorem tr_alias_hsh (hF : FragOK sfh F) (hA : AliasOK F) (al : Alias) (b c : Ty) (ihL : IHL cfg sfh F al.ty b c)
    (ihR : IHR cfg sfh F al.ty b c)
    (fb : F b) (fc : F c) (wb : Ty.WF cfg b) (wc : Ty.WF cfg c)
    (h1 : asgRecv cfg sfh al.hsh b = true) (h2 : asgRecv cfg sfh b c = true) : asgRecv cfg sfh al.hsh c = true := by
  unfold Alias.hsh at h1 ⊢
  apply tr_hash_gen cfg sfh hF al.key al.ty Rng.pos b c fb fc wb wc ?_ ?_ h1 h2
  · intro k' c' hk hc f1 f2 w1 w2
    exact ihL al.key k' c' (by cases al <;> simp [Alias.key, Alias.ty, Ty.w, Ty.wl]) (Nat.le_of_lt hk) (Nat.le_of_lt hc)
      ⟨(hA.mem al).2.1, f1, f2, w1, w2⟩
  · intro v' c' i1 i2 f1 f2 w1 w2
    exact alias_el cfg sfh hA al b c v' c' ihR (rank_val b v' i1) (rank_val c c' i2) f1 f2 w1 w2

theorem tr_alias_recv (hF : FragOK sfh F) (hA : AliasOK F) (al : Alias) (b c : Ty) (ihL : IHL cfg sfh F al.ty b c)
    (ihR : IHR cfg sfh F al.ty b c) (H : FHyp cfg F al.ty b c)
    (h1 : asgRecv cfg sfh al.ty b = true) (h2 : asg cfg sfh b c = true) (h2' : asgRecv cfg sfh b c = true) :
    asgRecv cfg sfh al.ty c = true := by
  rw [recv_alias_split] at h1 ⊢
  simp only [Bool.or_eq_true, List.any_eq_true] at h1 ⊢
  rcases h1 with (⟨x, hx, hxb⟩ | h1) | h1
  · left; left
    obtain ⟨xw, _, xwf⟩ := leaves_facts cfg al x hx
    exact ⟨x, hx, ihL.left H xw (leaves_in sfh hF hA al x hx) hxb h2⟩
  · left; right
    exact tr_alias_arr cfg sfh hF hA al b c ihR H.fb H.fc H.wb H.wc h1 h2'
  · right
    exact tr_alias_hsh cfg sfh hF hA al b c ihL ihR H.fb H.fc H.wb H.wc h1 h2'

theorem tr_alias_mid (hF : FragOK sfh F) (hA : AliasOK F) (al : Alias) (a c : Ty) (ihR : IHR cfg sfh F a al.ty c)
    (H : FHyp cfg F a al.ty c) (hc : c.plainR = true)
    (h1 : asg cfg sfh a al.ty = true) (h2 : asg cfg sfh al.ty c = true) : asg cfg sfh a c = true := by
  obtain ⟨tdt, _, tda, tdh⟩ := hA.mem al
  obtain ⟨wfa, wfh⟩ := wf_alias cfg al
  have h2 := recv_of_decomposed cfg sfh (by cases al <;> rfl) hc h2
  rw [recv_alias_split] at h2
  simp only [Bool.or_eq_true, List.any_eq_true] at h2
  have hva := vw_alias al
  obtain ⟨la, ma, mh⟩ := asg_alias_comps cfg sfh al h1
  rcases h2 with (⟨x, hx, hxc⟩ | h2) | h2
  · obtain ⟨_, xv, xwf⟩ := leaves_facts cfg al x hx
    exact ihR x c (by omega) ⟨H.fa, leaves_in sfh hF hA al x hx, H.fc, xwf, H.wc⟩ (la x hx) hxc
  · have := vw_arr al
    rw [asgToArr_eq cfg sfh hF hA al a H.fa] at ma
    exact ihR al.arr c (by omega) ⟨H.fa, tda, H.fc, wfa, H.wc⟩ ma (asg_of_recv cfg sfh (Or.inl hc) h2)
  · have := vw_hsh al
    rw [asgToHash_eq cfg sfh hF al a H.fa] at mh
    exact ihR al.hsh c (by omega) ⟨H.fa, tdh, H.fc, wfh, H.wc⟩ mh (asg_of_recv cfg sfh (Or.inl hc) h2)

theorem tr_alias_right (hF : FragOK sfh F) (hA : AliasOK F) (al : Alias) (a b : Ty) (ihR : IHR cfg sfh F a b al.ty)
    (H : FHyp cfg F a b al.ty)
    (h1 : asg cfg sfh a b = true) (h2 : asg cfg sfh b al.ty = true) : asg cfg sfh a al.ty = true := by
  obtain ⟨tdt, _, tda, tdh⟩ := hA.mem al
  obtain ⟨wfa, wfh⟩ := wf_alias cfg al
  have hva := vw_alias al
  obtain ⟨lb, mb, mhb⟩ := asg_alias_comps cfg sfh al h2
  apply asg_alias_of cfg sfh al
  · intro x hx
    obtain ⟨_, xv, xwf⟩ := leaves_facts cfg al x hx
    exact ihR b x (by omega) ⟨H.fa, H.fb, leaves_in sfh hF hA al x hx, H.wb, xwf⟩ h1 (lb x hx)
  · have := vw_arr al
    rw [asgToArr_eq cfg sfh hF hA al a H.fa]
    rw [asgToArr_eq cfg sfh hF hA al b H.fb] at mb
    exact ihR b al.arr (by omega) ⟨H.fa, H.fb, tda, H.wb, wfa⟩ h1 mb
  · have := vw_hsh al
    rw [asgToHash_eq cfg sfh hF al a H.fa]
    rw [asgToHash_eq cfg sfh hF al b H.fb] at mhb
    exact ihR b al.hsh (by omega) ⟨H.fa, H.fb, tdh, H.wb, wfh⟩ h1 mhb
  · rintro rfl
    have hc := asg_rich_comps cfg sfh h2
    exact ⟨acc_of_asg cfg sfh hF (accLike_typeSet cfg sfh) a b H.fa H.fb h1 hc.ts,
      acc_of_asg cfg sfh hF (accLike_deferred cfg sfh) a b H.fa H.fb h1 hc.de⟩

end Pcore.Lat

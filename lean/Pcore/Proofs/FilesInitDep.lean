import Pcore.Proofs.FilesTypesetDep
/-!
C15, a module's OWN name (`Mod`, unqualified) through the dependency loader in the default topology — the lookup that loads
`modules/mod/types/init_typeset.pp`.  An unqualified name is not routed: it is offered to every module loader in turn; each
asks the global loader first; a module of another name refuses it (placeholder); the module of that name takes the
`init_typeset` route and resolves the type set into the dependency loader, answering its own placeholder — so the loop
goes on over the remaining modules and ends with the entry the dependency loader holds by then.
-/
namespace Pcore.Files

theorem skipMods_typesetState3_get_d {mod a : String} (hkey1 : keyOf [a] = [mod]) (nm : Name) (ts : List String) (o : Path)
    (ms : List String) (σ : St) :
    (skipMods [mod] ms (typesetState3 mod [a] nm ts o σ)).get .d (keyOf [a]) = some (some ⟨.typeset, nm⟩) := by
  rw [hkey1, skipMods_get_other [mod] .d [mod] ms _ (fun m _ h => by cases h), typesetState3, hkey1, get_put_self]

section
variable (cfg : Cfg) (mod a : String)

/-- the global loader either holds the placeholder of the name already, or has nothing and no file for it -/
def GState (σ : St) : Prop :=
  σ.get .g [mod] = some none ∨ (σ.get .g [mod] = none ∧ idx cfg .g [mod] = [])

variable {cfg mod a}

/-- in either case a module's loader is `Below` the global loader, which holds the placeholder afterwards -/
theorem Below.of_gstate (hflat : cfg.flat = false) (hkey1 : keyOf [a] = [mod]) (hsys : sysLoad [a] = none) {σ : St}
    (hg : GState cfg mod σ) (m : String) : Below cfg (.m m) [a] σ (σ.put .g [mod] none) 3 := by
  rcases hg with hg | ⟨hg, hig⟩
  · rw [put_same σ .g [mod] none hg]
    have h := Below.child_cached (mod := m) hflat hsys (hkey1 ▸ hg)
    exact ⟨h.file, fun n hn => h.run n (by omega), h.own, h.reads⟩
  · exact hkey1 ▸ Below.child_absent hflat hsys rfl (hkey1 ▸ hig) (hkey1 ▸ hg)

theorem other_step (hflat : cfg.flat = false) (m : String) (hm : m ≠ mod) (hmg : isGlobalMod m = false)
    (hkey1 : keyOf [a] = [mod]) (hparts : partsOf [a] = some [mod]) (hsys : sysLoad [a] = none)
    (σ : St) (hg : GState cfg mod σ) (hget : σ.get (.m m) [mod] = none) (n : Nat) :
    fbLoadEntry (n+4) cfg (.m m) [a] σ = .ok (some none) ((σ.put .g [mod] none).put (.m m) [mod] none) := by
  have h := (Below.of_gstate hflat hkey1 hsys hg m).refuse (n := n+2) (by omega) hmg hparts (fun h => absurd h hm)
    (by rw [hkey1, hget]; nofun)
  rwa [hkey1] at h

theorem gstate_after (σ : St) (l : Lid) (hl : l ≠ .g) (k : Key) (e : Entry) :
    GState cfg mod ((σ.put .g [mod] none).put l k e) := by
  left
  rw [get_put_lid (Ne.symm hl), get_put_self]

theorem dLoop_skip (hflat : cfg.flat = false) (hkey1 : keyOf [a] = [mod]) (hparts : partsOf [a] = some [mod])
    (hsys : sysLoad [a] = none) : ∀ (ms rest : List String) (σ : St) (f : Nat), ms.length + 5 ≤ f →
      (∀ m ∈ ms, m ≠ mod ∧ isGlobalMod m = false) → ms.Nodup → (∀ m ∈ ms, σ.get (.m m) [mod] = none) →
      σ.get .g [mod] = some none →
      dLoop f cfg (ms ++ rest) [a] σ = dLoop (f - ms.length) cfg rest [a] (skipMods [mod] ms σ) := by
  intro ms rest σ f hf hoth _ hfresh hg
  exact hkey1 ▸ dLoop_refuse (c := 1) (fun σ => σ.get .g (keyOf [a]) = some none) hparts
    (fun σ m h => by rw [get_put_lid (by nofun)]; exact h) (fun m σ h => Below.child_cached hflat hsys h)
    ms rest σ f (by omega) (hkey1 ▸ hg) (fun m hm => ⟨(hoth m hm).2, fun h => absurd h (hoth m hm).1⟩)
    (fun m hm => by rw [hkey1, hfresh m hm]; nofun)

theorem mod_step (hv : cfg.via = .d) (hflat : cfg.flat = false) (hguard : cfg.guardInit = true)
    (hmods : cfg.mods.contains mod = true) (hmg : isGlobalMod mod = false)
    (hkey1 : keyOf [a] = [mod]) (hparts : partsOf [a] = some [mod]) (hsys : sysLoad [a] = none)
    (nm : Name) (ts : List String) (o : Path) (os : List Path) (σ : St) (hg : GState cfg mod σ) (k : Nat)
    (hk : 3 * (nm.length + 1) + ts.length ≤ k)
    (hi : idx cfg (.m mod) ["init_typeset"] = o :: os)
    (hb : bodyAt cfg.tree o = some (.typ .typeset nm ts)) (hkey : keyOf nm = [mod])
    (hgetm : σ.get (.m mod) [mod] = none) (hgetd : σ.get .d [mod] = none)
    (hhg : MemHyp cfg .g nm (((σ.put .g [mod] none).put (.m mod) [mod] none).addRead o) ts)
    (hhm : MemHyp cfg (.m mod) nm (((σ.put .g [mod] none).put (.m mod) [mod] none).addRead o) ts)
    (hfreshg : ∀ t ∈ ts, σ.get .g (keyOf (nm ++ [t])) = none)
    (hfreshm : ∀ t ∈ ts, σ.get (.m mod) (keyOf (nm ++ [t])) = none)
    (hfreshd : ∀ t ∈ ts, σ.get .d (keyOf (nm ++ [t])) = none) :
    fbLoadEntry (k+11) cfg (.m mod) [a] σ =
      .ok (some none) (typesetState3 mod [a] nm ts o (σ.put .g [mod] none)) := by
  have hmne : mod ≠ "" := by intro h; rw [h] at hmg; simp [isGlobalMod] at hmg
  have hkeya : keyOf nm = keyOf [a] := hkey.trans hkey1.symm
  have hgetm' : (σ.put .g [mod] none).get (.m mod) (keyOf [a]) = none :=
    hkey1 ▸ ((get_put_lid (by nofun) ..).trans hgetm : (σ.put .g [mod] none).get (.m mod) [mod] = none)
  have hinst := instantiate_typeset_dep cfg mod hv hflat hmods hmne [a] nm ts o os (σ.put .g [mod] none) k hk hb hkeya
    (by rw [hkey]; rfl) hgetm' (by rw [hkey1, get_put_self])
    (hkey1 ▸ ((get_put_lid (by nofun) ..).trans hgetd : (σ.put .g [mod] none).get .d [mod] = none)) (by rw [hkey1]; exact hhg) (by rw [hkey1]; exact hhm)
    (fun t ht => (get_put_key (hkey ▸ memberKey_ne_name rfl t) ..).trans (hfreshg t ht))
    (fun t ht => (get_put_lid (by nofun) ..).trans (hfreshm t ht))
    (fun t ht => (get_put_lid (by nofun) ..).trans (hfreshd t ht))
  exact (Below.of_gstate hflat hkey1 hsys hg mod).found (n := k+10) (by omega) (hkey1 ▸ hgetm)
    (by rw [find_init hguard hmg hparts hi, bind_ok hinst]; rfl)

theorem loop_from_mod (hv : cfg.via = .d) (hflat : cfg.flat = false) (hguard : cfg.guardInit = true)
    (hmods : cfg.mods.contains mod = true) (hmg : isGlobalMod mod = false)
    (hkey1 : keyOf [a] = [mod]) (hparts : partsOf [a] = some [mod]) (hsys : sysLoad [a] = none)
    (nm : Name) (ts : List String) (o : Path) (os : List Path) (σ : St) (hg : GState cfg mod σ) (k : Nat)
    (hk : 3 * (nm.length + 1) + ts.length ≤ k)
    (hi : idx cfg (.m mod) ["init_typeset"] = o :: os)
    (hb : bodyAt cfg.tree o = some (.typ .typeset nm ts)) (hkey : keyOf nm = [mod])
    (hgetm : σ.get (.m mod) [mod] = none) (hgetd : σ.get .d [mod] = none)
    (hhg : MemHyp cfg .g nm (((σ.put .g [mod] none).put (.m mod) [mod] none).addRead o) ts)
    (hhm : MemHyp cfg (.m mod) nm (((σ.put .g [mod] none).put (.m mod) [mod] none).addRead o) ts)
    (hfreshg : ∀ t ∈ ts, σ.get .g (keyOf (nm ++ [t])) = none)
    (hfreshm : ∀ t ∈ ts, σ.get (.m mod) (keyOf (nm ++ [t])) = none)
    (hfreshd : ∀ t ∈ ts, σ.get .d (keyOf (nm ++ [t])) = none)
    (after : List String) (hoth : ∀ m ∈ after, m ≠ mod ∧ isGlobalMod m = false) (hnd : after.Nodup)
    (hfa : ∀ m ∈ after, σ.get (.m m) [mod] = none) :
    dLoop (k + after.length + 13) cfg (mod :: after) [a] σ =
      .ok (some (some ⟨.typeset, nm⟩))
        (skipMods [mod] after (typesetState3 mod [a] nm ts o (σ.put .g [mod] none))) := by
  have hkeya : keyOf nm = keyOf [a] := hkey.trans hkey1.symm
  have hstep := mod_step hv hflat hguard hmods hmg hkey1 hparts hsys nm ts o os σ hg (k + after.length + 1) (by omega) hi hb
    hkey hgetm hgetd hhg hhm hfreshg hfreshm hfreshd
  have hskip := dLoop_skip (cfg := cfg) (a := a) hflat hkey1 hparts hsys after []
    (typesetState3 mod [a] nm ts o (σ.put .g [mod] none)) (k + after.length + 12) (by omega) hoth hnd
    (fun m hm => by
      have hmm : Lid.m m ≠ Lid.m mod := fun h => (hoth m hm).1 (Lid.m.inj h)
      rw [typesetState3_get_outside _ _ _ _ _ _ _ (by intro h; cases h) hmm (by intro h; cases h), get_put,
        if_neg (by intro h; cases h)]
      exact hfa m hm)
    (by
      rw [← hkey1, typesetState3_get_name mod [a] nm ts o _ hkeya .g (by intro h; cases h), get_put,
        if_neg (by intro h; cases h), hkey1, get_put_self])
  rw [List.append_nil] at hskip
  rw [show k + after.length + 13 = (k + after.length + 1 + 11) + 1 by omega, dLoop_pass hstep,
    show k + after.length + 1 + 11 = k + after.length + 12 by omega, hskip,
    show k + after.length + 12 - after.length = (k + 11) + 1 by omega, dLoop_nil, skipMods_typesetState3_get_d hkey1]

end

theorem init_typeset_dep (cfg : Cfg) (mod a : String) (hv : cfg.via = .d) (hflat : cfg.flat = false)
    (hguard : cfg.guardInit = true) (before after : List String) (hmodsEq : cfg.mods = before ++ mod :: after)
    (hnd : cfg.mods.Nodup) (hoth : ∀ m ∈ before ++ after, isGlobalMod m = false) (hmg : isGlobalMod mod = false)
    (hparts : partsOf [a] = some [mod]) (hsys : sysLoad [a] = none)
    (nm : Name) (ts : List String) (o : Path) (os : List Path) (s : St) (k : Nat)
    (hk : 3 * (nm.length + 1) + ts.length ≤ k)
    (hi : idx cfg (.m mod) ["init_typeset"] = o :: os)
    (hb : bodyAt cfg.tree o = some (.typ .typeset nm ts)) (hkey : keyOf nm = [mod])
    (hd : s.get .d [mod] = none) (hgs : s.get .g [mod] = none) (hig : idx cfg .g [mod] = [])
    (hfm : ∀ m ∈ cfg.mods, s.get (.m m) [mod] = none)
    (hhg : MemHyp cfg .g nm (((skipMods [mod] before (s.put .g [mod] none)).put (.m mod) [mod] none).addRead o) ts)
    (hhm : MemHyp cfg (.m mod) nm (((skipMods [mod] before (s.put .g [mod] none)).put (.m mod) [mod] none).addRead o) ts)
    (hfreshg : ∀ t ∈ ts, s.get .g (keyOf (nm ++ [t])) = none)
    (hfreshm : ∀ t ∈ ts, s.get (.m mod) (keyOf (nm ++ [t])) = none)
    (hfreshd : ∀ t ∈ ts, s.get .d (keyOf (nm ++ [t])) = none) :
    loadS (k + cfg.mods.length + 16) cfg s [a] =
      (.found ⟨.typeset, nm⟩,
        skipMods [mod] after (typesetState3 mod [a] nm ts o (skipMods [mod] before (s.put .g [mod] none)))) := by
  have hkey1 : keyOf [a] = [mod] := (partsOf_eq hparts).symm
  have hmods : cfg.mods.contains mod = true := by rw [hmodsEq]; simp
  rw [hmodsEq] at hnd
  obtain ⟨hndb, hnda, hdisj⟩ := List.nodup_append.mp hnd
  have hnd2 := List.nodup_cons.mp hnda
  have hoth_after : ∀ m ∈ after, m ≠ mod ∧ isGlobalMod m = false :=
    fun m hm => ⟨fun h => hnd2.1 (h ▸ hm), hoth m (List.mem_append_right _ hm)⟩
  have hlenmem : ∀ t, keyOf (nm ++ [t]) ≠ [mod] := fun t => hkey ▸ memberKey_ne_name rfl t
  -- the first module loader asked sends the global loader's placeholder ahead
  have hprime : ∀ (m : String) (ms : List String) (n : Nat),
      dLoop (n+5) cfg (m :: ms) [a] s = dLoop (n+5) cfg (m :: ms) [a] (s.put .g [mod] none) := by
    intro m ms n
    simp only [dLoop_cons, firstDef, bind, (Below.of_gstate hflat hkey1 hsys (Or.inr ⟨hgs, hig⟩) m).run (n+3) (by omega),
      (Below.of_gstate hflat hkey1 hsys (Or.inl (get_put_self ..)) m).run (n+3) (by omega), put_put]
  -- the state in which `mod` is reached holds what `s` holds, but for the placeholders of the name in the global loader
  -- and in the loaders of the modules before
  have hσ : ∀ (l : Lid) (k0 : Key), (l ≠ .g ∧ ∀ m ∈ before, l ≠ .m m) ∨ k0 ≠ [mod] →
      (skipMods [mod] before (s.put .g [mod] none)).get l k0 = s.get l k0 := fun l k0 h => by
    rw [skipMods_get_other [mod] l k0 before _ (fun m hm h' =>
        h.elim (fun h1 => h1.2 m hm (Prod.mk.inj h').1) (fun h2 => h2 (Prod.mk.inj h').2)),
      get_put, if_neg (fun h' => h.elim (fun h1 => h1.1 (Prod.mk.inj h').1) (fun h2 => h2 (Prod.mk.inj h').2))]
  have hd' : Lid.d ≠ .g ∧ ∀ m ∈ before, Lid.d ≠ .m m := ⟨(by intro h; cases h), fun m _ h => by cases h⟩
  have hm' : Lid.m mod ≠ .g ∧ ∀ m ∈ before, Lid.m mod ≠ .m m :=
    ⟨(by intro h; cases h), fun m hm h => hdisj m hm mod List.mem_cons_self (Lid.m.inj h).symm⟩
  have hg1 : (skipMods [mod] before (s.put .g [mod] none)).get .g [mod] = some none := by
    rw [skipMods_get_other [mod] .g [mod] before _ (fun m _ h => by cases h), get_put_self]
  have hthis := loop_from_mod hv hflat hguard hmods hmg hkey1 hparts hsys nm ts o os
    (skipMods [mod] before (s.put .g [mod] none)) (Or.inl hg1) k hk hi hb hkey
    ((hσ _ _ (Or.inl hm')).trans (hfm mod (by rw [hmodsEq]; simp))) ((hσ _ _ (Or.inl hd')).trans hd)
    (by rw [put_same _ .g [mod] none hg1]; exact hhg) (by rw [put_same _ .g [mod] none hg1]; exact hhm)
    (fun t ht => (hσ _ _ (Or.inr (hlenmem t))).trans (hfreshg t ht))
    (fun t ht => (hσ _ _ (Or.inl hm')).trans (hfreshm t ht)) (fun t ht => (hσ _ _ (Or.inl hd')).trans (hfreshd t ht))
    after hoth_after hnd2.2
    (fun m hm => (hσ _ _ (Or.inl ⟨(by intro h; cases h),
      fun x hx h => hdisj x hx m (List.mem_cons_of_mem _ hm) (Lid.m.inj h).symm⟩)).trans (hfm m (by rw [hmodsEq]; simp [hm])))
  rw [put_same _ .g [mod] none hg1] at hthis
  have hskip := dLoop_skip (cfg := cfg) (a := a) hflat hkey1 hparts hsys before (mod :: after) (s.put .g [mod] none)
    (k + before.length + after.length + 13) (by omega)
    (fun m hm => ⟨fun h => hdisj m hm mod List.mem_cons_self h, hoth m (List.mem_append_left _ hm)⟩) hndb
    (fun m hm => by rw [get_put_lid (by intro h; cases h)]; exact hfm m (by rw [hmodsEq]; simp [hm]))
    (get_put_self ..)
  have hloop : dLoop (k + cfg.mods.length + 12) cfg cfg.mods [a] s =
      .ok (some (some ⟨.typeset, nm⟩))
        (skipMods [mod] after (typesetState3 mod [a] nm ts o (skipMods [mod] before (s.put .g [mod] none)))) := by
    obtain ⟨m, ms, hcons⟩ : ∃ m ms, before ++ mod :: after = m :: ms := by cases before <;> exact ⟨_, _, rfl⟩
    rw [hmodsEq, show k + (before ++ mod :: after).length + 12 = (k + before.length + after.length + 8) + 5 by
      simp only [List.length_append, List.length_cons]; omega, hcons, hprime, ← hcons, hskip,
      show k + before.length + after.length + 13 - before.length = k + after.length + 13 by omega]
    exact hthis
  have hfin := skipMods_typesetState3_get_d hkey1 nm ts o after (skipMods [mod] before (s.put .g [mod] none))
  rw [← dMembers_default hflat, ← dFind_unqualified _ _ _ rfl] at hloop
  refine loadS_found ?_
  rw [hv, loadEntry_d, dLoadEntry_fresh (hkey1 ▸ hd) hloop (Or.inr hfin.symm), hfin]

end Pcore.Files

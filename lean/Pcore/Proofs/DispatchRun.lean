import Pcore.Proofs.DispatchDecl
/-!
From the builder calls of a whole table to the body that runs, for arbitrary `T V inst BT B binst`.  Defined here, the
specification the end-to-end theorems of C16 are stated in: `BlockSat`, `declaredBlock`, `CreatorAccepts` (`DeclAccepts` of the
creator's parameters and its declared block satisfied); `creatorTest` is its Boolean form for the proofs.  In order: an accepted
state resolves (`resolves`); the dispatch of a built creator is callable exactly when the creator accepts (`buildOne_callable`);
`run` is first match over the creators (`run_find`), read by `run_ran_iff`, `run_nomatch`, `run_no_fault`.  Core Lean only.
-/
namespace Pcore.Dispatch

section
variable {T BT V B : Type}

/-- `createDispatch` of an accepted builder state never reaches `NewIntegerType(min > max)` -/
theorem resolves (ops : List (BOp T BT)) (b : Builder T BT) (k : FnKind) (h : steps Builder.init ops = .ok b) :
    ∃ d, createDispatch b k = .ok d ∧ d.types = b.types ∧ d.min = b.min ∧ d.max = b.max := by
  simp [createDispatch, builder_le ops b h]

variable (inst : T → V → Bool) (binst : BT → B → Bool)

def BlockSat : BlockReq BT → Option B → Prop
  | .none, blk => blk = none
  | .required bt, blk => ∃ b, blk = some b ∧ binst bt b = true
  | .optional bt, blk => blk = none ∨ ∃ b, blk = some b ∧ binst bt b = true

theorem blockOK_iff (r : BlockReq BT) (blk : Option B) : blockOK binst r blk = true ↔ BlockSat binst r blk := by
  cases r <;> cases blk <;> simp [blockOK, BlockSat]

/-- the block requirement a creator declares: its (only) block call; `none` without one -/
def declaredBlock (c : Creator T BT) : BlockReq BT := (blocksOf c.ops).headD .none

def CreatorAccepts (c : Creator T BT) (args : List V) (blk : Option B) : Prop :=
  DeclAccepts inst (paramsOf c.ops) args ∧ BlockSat binst (declaredBlock c) blk

theorem buildOne_callable (c : Creator T BT) (b : Builder T BT) (hb : buildOne c = .ok b) :
    ∃ d, createDispatch b c.kind = .ok d ∧
      ∀ (args : List V) (blk : Option B), callableWith inst binst d args blk = true ↔ CreatorAccepts inst binst c args blk := by
  obtain ⟨hs, hk⟩ := buildOne_ok hb
  obtain ⟨hp, hbi⟩ := builder_inv c.ops b hs
  refine ⟨_, createDispatch_built hbi hk (builder_le c.ops b hs), fun args blk => ?_⟩
  unfold callableWith CreatorAccepts declaredBlock
  rw [Bool.and_eq_true, blockOK_iff, decl_iff inst b _ hp args]
  exact And.comm

/-- a table that builds and resolves is called through its dispatches (for a concrete table both hypotheses hold by `rfl`) -/
theorem run_built {cs : List (Creator T BT)} {bs : List (Builder T BT × FnKind)} {ds : List (Dispatch T BT)}
    (hb : buildAll cs = .ok bs) (hr : resolveAll bs = .ok ds) (args : List V) (blk : Option B) :
    run inst binst cs args blk = .called (call inst binst ds args blk) := by
  simp only [run, hb, hr]

/-- `CreatorAccepts` as a Boolean test (it is only classically decidable for arbitrary `inst`), so that `run` can be stated as a first match -/
noncomputable def creatorTest (args : List V) (blk : Option B) (c : Creator T BT) : Bool :=
  @decide (CreatorAccepts inst binst c args blk) (Classical.propDecidable _)

theorem creatorTest_iff (args : List V) (blk : Option B) (c : Creator T BT) :
    creatorTest inst binst args blk c = true ↔ CreatorAccepts inst binst c args blk := by
  unfold creatorTest; exact @decide_eq_true_iff _ (Classical.propDecidable _)

theorem built_find (args : List V) (blk : Option B) :
    ∀ (cs : List (Creator T BT)) (bs : List (Builder T BT × FnKind)), buildAll cs = .ok bs →
      ∃ ds, resolveAll bs = .ok ds ∧
        ds.findIdx? (fun d => callableWith inst binst d args blk) = cs.findIdx? (creatorTest inst binst args blk) := by
  intro cs
  induction cs with
  | nil => intro bs h; cases h; exact ⟨[], rfl, rfl⟩
  | cons c cs ih =>
    intro bs h
    unfold buildAll at h
    cases hb : buildOne c with
    | error e => simp [hb] at h
    | ok b =>
      cases hbs : buildAll cs with
      | error e => simp [hb, hbs] at h
      | ok bs' =>
        simp only [hb, hbs, Except.ok.injEq] at h
        subst h
        obtain ⟨d, hd, hcw⟩ := buildOne_callable inst binst c b hb
        obtain ⟨ds, hds, hfind⟩ := ih bs' hbs
        refine ⟨d :: ds, by simp [resolveAll, hd, hds], ?_⟩
        have : callableWith inst binst d args blk = creatorTest inst binst args blk c :=
          Bool.eq_iff_iff.mpr ((hcw args blk).trans (creatorTest_iff inst binst args blk c).symm)
        rw [List.findIdx?_cons, List.findIdx?_cons, this, hfind]

theorem run_find {cs : List (Creator T BT)} {bs : List (Builder T BT × FnKind)} (hb : buildAll cs = .ok bs)
    (args : List V) (blk : Option B) :
    run inst binst cs args blk = .called (firstMatch (creatorTest inst binst args blk) cs) := by
  obtain ⟨ds, hds, hfind⟩ := built_find inst binst args blk cs bs hb
  rw [run_built inst binst hb hds, call_eq, firstMatch, firstMatch, hfind]

theorem run_ran_iff {cs : List (Creator T BT)} {bs : List (Builder T BT × FnKind)} (hb : buildAll cs = .ok bs)
    (args : List V) (blk : Option B) (i : Nat) :
    run inst binst cs args blk = .called (.ran i) ↔
      ∃ c, cs[i]? = some c ∧ CreatorAccepts inst binst c args blk ∧
        ∀ j, j < i → ∀ c', cs[j]? = some c' → ¬ CreatorAccepts inst binst c' args blk := by
  rw [run_find inst binst hb, RunOutcome.called.injEq, firstMatch_ran_iff]
  simp only [creatorTest_iff, ← Bool.not_eq_true]

theorem run_nomatch {cs : List (Creator T BT)} {bs : List (Builder T BT × FnKind)} (hb : buildAll cs = .ok bs)
    (args : List V) (blk : Option B) :
    run inst binst cs args blk = .called .reported ↔ ∀ c ∈ cs, ¬ CreatorAccepts inst binst c args blk := by
  rw [run_find inst binst hb, RunOutcome.called.injEq, firstMatch_reported_iff]
  simp only [creatorTest_iff, ← Bool.not_eq_true]

theorem run_no_fault (cs : List (Creator T BT)) (args : List V) (blk : Option B) (e : ResolveError) :
    run inst binst cs args blk ≠ .resolveFailed e := by
  cases hb : buildAll cs with
  | error p => simp [run, hb]
  | ok bs => rw [run_find inst binst hb]; exact fun h => nomatch h

end

end Pcore.Dispatch

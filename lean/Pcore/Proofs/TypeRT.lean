import Pcore.Proofs.ValueRT
import Pcore.Proofs.CallableArgs
import Pcore.Proofs.CoreNames
/-!
The resolution layer of C05 (layers: `Props/C05.lean`) for the modelled fragment: the expression a type prints (`tyExpr`) is a printable
expression (`Lit`), and the positional creators map it back to the type (`resolve (exprOf (tyExpr t)) = some t`), for the
types in the normal form the creators produce (`WFTy`).  It rests on the value round trip (`ValueRT`) and, for Tuple and Callable, on
the argument-level facts of `CallableArgs`.  In order: `WFTy` (with `FloatIO`, what is assumed of float conversion); the `Lit` half;
the `resolve` half, leaf types before composite ones; their recursion `resolve_tyExpr`; the round trip through the text, `type_rt`.
-/
namespace Pcore.Syntax

theorem tyName_of_B {n : Str} (h : tyNameB n = true) : TyName n := by
  cases n with
  | nil => simp [tyNameB] at h
  | cons c w =>
    simp only [tyNameB, Bool.and_eq_true, List.all_eq_true] at h
    exact ⟨c, w, rfl, h.1, fun d hd => ⟨h.2 d hd, isWord_ne (h.2 d hd)⟩⟩

theorem tyName_kind (k : TKind) : TyName k.name := tyName_of_B (kind_table k (allKinds_complete k)).1

def inI64 (lo hi : Int) : Prop := i64min ≤ lo ∧ lo ≤ hi ∧ hi ≤ i64max

/-- **the float parameter** (DESIGN §3.4), exactly what the type theorem assumes of decimal float conversion, per bound
    `b` of a `Float[…]` type that is printed (`b ≠ dflt`): the text kept with the bound is the text the formatter oracle
    gives (`env.ff b` — `floatGFormat("%g")` in the implementation); that text, followed by any continuation the printer
    produces, lexes as ONE float token; and the reader oracle (`env.pf` — `strconv.ParseFloat`) maps it back to `b`.
    A bound left at its default (`-MaxFloat64` resp. `MaxFloat64`) is not printed and carries no text. -/
def FloatIO (env : Env) (b dflt : Nat) (text : Str) : Prop :=
  if b = dflt then text = [] else text = env.ff b ∧ Lit env (.float b text)

theorem floatIO_dflt (env : Env) (d : Nat) (t : Str) : FloatIO env d d t ↔ t = [] := by simp [FloatIO]
theorem floatIO_ne (env : Env) {b d : Nat} (h : b ≠ d) (t : Str) :
    FloatIO env b d t ↔ t = env.ff b ∧ Lit env (.float b t) := by simp [FloatIO, h]

mutual
/-- the types of the fragment in the normal form the creators produce (`env` = `regexp.Compile` succeeds) -/
def WFTy (env : Env) : Ty → Prop
  | .named n => n ∈ plainNames
  | .int lo hi => inI64 lo hi
  | .float lo lot hi hit => FloatIO env lo fNegMax lot ∧ FloatIO env hi fPosMax hit ∧ fkey lo ≤ fkey hi
  | .strSz lo hi => 0 ≤ lo ∧ inI64 lo hi ∧ ¬(lo = 0 ∧ hi = i64max)
  | .strVal _ => False
  | .bool _ => True
  | .enum vs ci => (vs = [] → ci = false) ∧ (ci = true → ∀ v ∈ vs, lowerStr v = v)
  | .regexp s => s = [] ∨ (rxRep false s = true ∧ env.rxOK s = true)
  | .pattern srcs => ∀ s ∈ srcs, rxRep false s = true ∧ env.rxOK s = true
  | .wrap k t =>
    match t with
    | .strVal s => (k = .optional ∨ k = .notUndef) ∧ s ≠ []
    | _ => WFTy env t
  | .variant ts => ts.length ≠ 1 ∧ WFTys env ts
  | .array t lo hi => WFTy env t ∧ inI64 lo hi
  | .hash k v lo hi => WFTy env k ∧ WFTy env v ∧ inI64 lo hi
  | .collection lo hi => inI64 lo hi
  | .tuple ts sz =>
    WFTys env ts ∧
    (match sz with
     | none => ts ≠ []
     | some r => inI64 r.1 r.2 ∧ 0 ≤ r.2)
  | .struct ms => WFMs env ms
  | .callable none ret blk => ret = none ∧ blk = none
  | .callable (some (ts, sz)) ret blk =>
    WFTys env ts ∧ CallableShape ts sz ret.isSome blk.isSome ∧ WFOpt env ret ∧ WFOpt env blk ∧ blk.all Ty.isBlock = true
  | .runtime rt name pat =>
    (rt = "go".toList → name = []) ∧
    (match pat with
     | some src => src = [] ∨ (rxRep false src = true ∧ env.rxOK src = true)
     | none => True)
  | .typeRef _ => True
def WFTys (env : Env) : List Ty → Prop
  | [] => True
  | t :: ts => WFTy env t ∧ WFTys env ts
def WFOpt (env : Env) : Option Ty → Prop
  | none => True
  | some t => WFTy env t
/-- Struct members: a non-empty name, any optionality of the key, a well-formed value type (duplicate names are allowed:
    the creator keeps them) -/
def WFMs (env : Env) : List (Str × Bool × Ty) → Prop
  | [] => True
  | (n, _, t) :: ms => n ≠ [] ∧ WFTy env t ∧ WFMs env ms
end

theorem wfMs_iff (env : Env) (ms : List (Str × Bool × Ty)) : WFMs env ms ↔ ∀ m ∈ ms, m.1 ≠ [] ∧ WFTy env m.2.2 := by
  induction ms with
  | nil => simp [WFMs]
  | cons m ms ih => obtain ⟨n, o, t⟩ := m; simp [WFMs, ih, and_assoc]

theorem wfms_names (env : Env) (ms : List (Str × Bool × Ty)) (h : WFMs env ms) : ∀ m ∈ ms, m.1 ≠ [] :=
  fun m hm => ((wfMs_iff env ms).1 h m hm).1

theorem wfTy_wrap_inner {env : Env} {k : WrapKind} {t : Ty} (h : WFTy env (.wrap k t))
    (h1 : ∀ s, k = .optional → t = .strVal s → False) (h2 : ∀ s, k = .notUndef → t = .strVal s → False) : WFTy env t := by
  cases t with
  | strVal s =>
    simp only [WFTy] at h
    rcases h.1 with rfl | rfl
    · exact (h1 s rfl rfl).elim
    · exact (h2 s rfl rfl).elim
  | _ => simp only [WFTy] at h; exact h

/-! ### What a type prints is a printable expression: the parameter lists first, then `Lit env (tyExpr t)` by recursion over the type -/

theorem lit_tname (env : Env) {k : TKind} {ps : List Val} (h : LitL env ps) : Lit env (tname k ps) := by
  unfold tname
  cases ps with
  | nil => simp [Lit, tyName_kind]
  | cons p ps' => simp [Lit, tyName_kind, h]

theorem lit_int (env : Env) (i : Int) (h1 : i64min ≤ i) (h2 : i ≤ i64max) : Lit env (.int i) := by
  simp only [Lit, int64Bound, i64min, i64max] at *
  omega

theorem litL_sizeParams (env : Env) (lo hi : Int) (h : inI64 lo hi) : LitL env (sizeParams lo hi) := by
  obtain ⟨h1, h2, h3⟩ := h
  unfold sizeParams
  split
  · exact ⟨lit_int env lo h1 (by omega), trivial, trivial⟩
  · exact ⟨lit_int env lo h1 (by omega), lit_int env hi (by omega) h3, trivial⟩

theorem litL_intParams (env : Env) (lo hi : Int) (h : inI64 lo hi) : LitL env (intParams lo hi) := by
  obtain ⟨h1, h2, h3⟩ := h
  unfold intParams
  split
  · split
    · trivial
    · exact ⟨trivial, lit_int env hi (by omega) h3, trivial⟩
  · split
    · exact ⟨lit_int env lo h1 (by omega), trivial⟩
    · exact ⟨lit_int env lo h1 (by omega), lit_int env hi (by omega) h3, trivial⟩

theorem litL_strs (env : Env) (vs : List Str) (tl : List Val) (h : LitL env tl) : LitL env (vs.map Val.str ++ tl) :=
  litL_append env ((litL_iff env _).2 (by simp [Lit])) h

theorem litL_rxs (env : Env) (srcs : List Str) (h : ∀ s ∈ srcs, rxRep false s = true ∧ env.rxOK s = true) :
    LitL env (srcs.map Val.regexp) :=
  (litL_iff env _).2 (by simpa [Lit] using h)

theorem litL_floatParams (env : Env) (lo : Nat) (lot : Str) (hi : Nat) (hit : Str)
    (h1 : FloatIO env lo fNegMax lot) (h2 : FloatIO env hi fPosMax hit) : LitL env (floatParams lo lot hi hit) := by
  unfold floatParams
  split
  · split
    · trivial
    · rename_i hhi; exact ⟨trivial, ((floatIO_ne env hhi _).1 h2).2, trivial⟩
  · rename_i hlo
    split
    · exact ⟨((floatIO_ne env hlo _).1 h1).2, trivial⟩
    · rename_i hhi; exact ⟨((floatIO_ne env hlo _).1 h1).2, ((floatIO_ne env hhi _).1 h2).2, trivial⟩

theorem lit_callableVal (env : Env) (tp : List Val) (blk ret : Option Val) (h1 : LitL env tp) (h2 : ∀ v ∈ blk, Lit env v)
    (h3 : ∀ v ∈ ret, Lit env v) : Lit env (callableVal tp blk ret) := by
  have hpb : LitL env (tp ++ blk.toList) := by
    apply litL_append env h1
    cases blk with
    | none => trivial
    | some b => exact ⟨h2 b rfl, trivial⟩
  unfold callableVal
  cases ret with
  | none => exact lit_tname env hpb
  | some r => exact lit_tname env ⟨hpb, h3 r rfl, trivial⟩

theorem lit_memberKey (env : Env) (n : Str) (o ov : Bool) : Lit env (memberKey n o ov) := by
  unfold memberKey
  split
  · trivial
  · split
    · exact ⟨tyName_kind (.wrap .optional), by simp, trivial, trivial⟩
    · exact ⟨tyName_kind (.wrap .notUndef), by simp, trivial, trivial⟩

/-- a Regexp type prints its source unless it is empty; also the pattern of a Runtime -/
theorem lit_regexpTy (env : Env) (s : Str) (h : s = [] ∨ (rxRep false s = true ∧ env.rxOK s = true)) :
    Lit env (tyExpr (.regexp s)) := by
  simp only [tyExpr]
  refine lit_tname env ?_
  split
  · trivial
  · rename_i hs
    rcases h with h | h
    · subst h; simp at hs
    · exact ⟨h, trivial⟩

mutual
theorem lit_tyExpr (env : Env) : (t : Ty) → WFTy env t → Lit env (tyExpr t)
  | .named n, h => by
    simpa [tyExpr, Lit] using tyName_of_B (plain_table n h).1
  | .int lo hi, h => by
    simp only [tyExpr]; exact lit_tname env (litL_intParams env lo hi h)
  | .float lo lot hi hit, h => by
    simp only [tyExpr]; exact lit_tname env (litL_floatParams env lo lot hi hit h.1 h.2.1)
  | .strSz lo hi, h => by
    simp only [tyExpr]; exact lit_tname env (litL_intParams env lo hi h.2.1)
  | .strVal _, h => absurd h (by simp [WFTy])
  | .bool none, _ => by simp only [tyExpr]; exact lit_tname env trivial
  | .bool (some b), _ => by simp only [tyExpr]; exact lit_tname env ⟨trivial, trivial⟩
  | .enum vs ci, _ => by
    simp only [tyExpr]
    refine lit_tname env (litL_strs env vs _ ?_)
    split
    · exact ⟨trivial, trivial⟩
    · trivial
  | .regexp s, h => lit_regexpTy env s h
  | .pattern srcs, h => by
    simp only [tyExpr]; exact lit_tname env (litL_rxs env srcs h)
  | .wrap k t, h => by
    simp only [tyExpr]
    split
    · exact lit_tname env trivial
    · split
      · exact lit_tname env ⟨trivial, trivial⟩
      · exact lit_tname env ⟨trivial, trivial⟩
      · rename_i h1 h2
        exact lit_tname env ⟨lit_tyExpr env t (wfTy_wrap_inner h h1 h2), trivial⟩
  | .variant ts, h => by
    simp only [tyExpr]; exact lit_tname env (litL_tyExprs env ts h.2)
  | .array t lo hi, h => by
    simp only [tyExpr]
    split
    · exact lit_tname env (litL_sizeParams env lo hi h.2)
    · refine lit_tname env (litL_append env ?_ ?_)
      · split
        · exact ⟨lit_tyExpr env t h.1, trivial⟩
        · trivial
      · split
        · trivial
        · exact litL_sizeParams env lo hi h.2
  | .hash k v lo hi, h => by
    simp only [tyExpr]
    split
    · exact lit_tname env trivial
    · split
      · exact lit_tname env ⟨lit_int env 0 (by decide) (by decide), lit_int env 0 (by decide) (by decide), trivial⟩
      · refine lit_tname env ⟨lit_tyExpr env k h.1, lit_tyExpr env v h.2.1, ?_⟩
        split
        · trivial
        · exact litL_sizeParams env lo hi h.2.2
  | .collection lo hi, h => by
    simp only [tyExpr]
    refine lit_tname env ?_
    split
    · trivial
    · exact litL_sizeParams env lo hi h
  | .tuple ts sz, h => by
    simp only [tyExpr]
    refine lit_tname env (litL_append env (litL_tyExprs env ts h.1) ?_)
    cases sz with
    | none => trivial
    | some r =>
      simp only
      split
      · trivial
      · exact litL_sizeParams env r.1 r.2 h.2.1
  | .struct ms, h => by
    simp only [tyExpr]
    refine lit_tname env ?_
    split
    · trivial
    · exact ⟨litE_tyMembers env ms h, trivial⟩
  | .callable none ret blk, h => by
    obtain ⟨rfl, rfl⟩ := h
    simp only [tyExpr, tyExprOpt, callableVal, Option.toList, List.append_nil]
    exact lit_tname env trivial
  | .callable (some (ts, sz)) ret blk, h => by
    obtain ⟨hts, hshape, hret, hblk, _⟩ := h
    have hsz : LitL env (tupleSizeVals ts.isEmpty sz) := by
      unfold tupleSizeVals
      cases sz with
      | none => trivial
      | some r =>
        simp only
        split
        · trivial
        · obtain ⟨h1, h2, h3, _⟩ := hshape.1
          exact litL_sizeParams env r.1 r.2 ⟨h1, h2, h3⟩
    have htp := litL_append env (litL_tyExprsNU env ts hts) hsz
    simp only [tyExpr]
    exact lit_callableVal env _ _ _ htp (lit_tyExprOpt env blk hblk) (lit_tyExprOpt env ret hret)
  | .runtime rt name pat, h => by
    obtain ⟨_, h3⟩ := h
    simp only [tyExpr]
    split
    · exact lit_tname env trivial
    · refine lit_tname env ⟨trivial, litL_append env ?_ ?_⟩
      · split
        · trivial
        · exact ⟨trivial, trivial⟩
      · cases pat with
        | none => trivial
        | some src => exact ⟨lit_regexpTy env src h3, trivial⟩
  | .typeRef s, _ => by
    simp only [tyExpr]
    refine lit_tname env ?_
    split
    · trivial
    · exact ⟨trivial, trivial⟩
theorem litL_tyExprs (env : Env) : (ts : List Ty) → WFTys env ts → LitL env (tyExprs ts)
  | [], _ => trivial
  | t :: ts, h => ⟨lit_tyExpr env t h.1, litL_tyExprs env ts h.2⟩
theorem lit_tyExprOpt (env : Env) : (o : Option Ty) → WFOpt env o → ∀ v ∈ tyExprOpt o, Lit env v
  | none, _ => by simp [tyExprOpt]
  | some t, h => by
    intro v hv
    simp only [tyExprOpt, Option.mem_def, Option.some.injEq] at hv
    subst hv
    exact lit_tyExpr env t h
theorem litL_tyExprsNU (env : Env) : (ts : List Ty) → WFTys env ts → LitL env (tyExprsNU ts)
  | [], _ => trivial
  | t :: ts, h => by
    simp only [tyExprsNU]
    split
    · exact litL_tyExprsNU env ts h.2
    · exact ⟨lit_tyExpr env t h.1, litL_tyExprsNU env ts h.2⟩
theorem litE_tyMembers (env : Env) : (ms : List (Str × Bool × Ty)) → WFMs env ms → LitE env (tyMembers ms)
  | [], _ => trivial
  | (n, o, t) :: ms, h => ⟨lit_memberKey env n o _, lit_tyExpr env t h.2.1, litE_tyMembers env ms h.2.2⟩
end

/-! ### The creators map it back: a printed type name resolves to its creator run on the resolved arguments
(`resolve_tname_args`); then one lemma per kind of type, each after the facts about its creator -/

theorem exprOf_tname (k : TKind) (ps : List Val) :
    exprOf (tname k ps) = .dtype k.name (if ps.isEmpty then none else some (exprsOf ps)) := by
  unfold tname
  cases ps <;> simp [exprOf]

theorem resolve_bare (env : Env) (k : TKind) : resolve env (.dtype k.name none) = some (defaultOf k) := by
  simp [resolve, resolveName, canon_kind, kindOf_name]

theorem resolve_params (env : Env) (k : TKind) (es : List Expr) :
    resolve env (.dtype k.name (some es)) = (resolveArgs env es).bind (createK env k) := by
  simp [resolve, create, canon_kind, kindOf_name]

theorem resolve_tname (env : Env) (k : TKind) (ps : List Val) :
    resolve env (exprOf (tname k ps)) =
      if ps.isEmpty then some (defaultOf k) else (resolveArgs env (exprsOf ps)).bind (createK env k) := by
  rw [exprOf_tname]
  cases ps with
  | nil => simp [resolve_bare]
  | cons p ps' => simp [resolve_params]

/-- the three steps every parameterised case takes after `resolve_tname`: the list is not empty, its arguments resolve, the creator runs -/
theorem resolve_tname_args (env : Env) (k : TKind) {ps : List Val} {args : List Arg} (hne : ps ≠ [])
    (hra : resolveArgs env (exprsOf ps) = some args) : resolve env (exprOf (tname k ps)) = createK env k args := by
  rw [resolve_tname, if_neg (by simpa using hne), hra]; rfl

theorem exprOf_tyExpr_dtype (t : Ty) : ∃ n ps, exprOf (tyExpr t) = .dtype n ps := by
  have key : ∀ k ps, ∃ n q, exprOf (tname k ps) = .dtype n q := fun k ps => ⟨_, _, exprOf_tname k ps⟩
  cases t with
  | named n => exact ⟨n, none, by simp [tyExpr, exprOf]⟩
  | bool b => cases b <;> (simp only [tyExpr]; exact key _ _)
  | wrap k t =>
    simp only [tyExpr]
    split
    · exact key _ _
    · split <;> exact key _ _
  | array t lo hi => simp only [tyExpr]; split <;> exact key _ _
  | struct ms => simp only [tyExpr]; exact key _ _
  | callable ps ret blk =>
    have kc : ∀ tp b r, ∃ n q, exprOf (callableVal tp b r) = .dtype n q := by
      intro tp b r; unfold callableVal; cases r <;> exact key _ _
    cases ps with
    | none => simp only [tyExpr]; exact kc _ _ _
    | some p => obtain ⟨ts, sz⟩ := p; simp only [tyExpr]; exact kc _ _ _
  | runtime rt name pat => simp only [tyExpr]; split <;> exact key _ _
  | hash k v lo hi =>
    simp only [tyExpr]
    split
    · exact key _ _
    · split <;> exact key _ _
  | _ => simp only [tyExpr]; exact key _ _

theorem resolveArg_ty (env : Env) (t : Ty) :
    resolveArg env (exprOf (tyExpr t)) = (resolve env (exprOf (tyExpr t))).map .ty := by
  obtain ⟨n, ps, h⟩ := exprOf_tyExpr_dtype t
  rw [h]; simp [resolveArg]

theorem exprsOf_append (a b : List Val) : exprsOf (a ++ b) = exprsOf a ++ exprsOf b := by
  induction a with
  | nil => simp [exprsOf]
  | cons x xs ih => simp [exprsOf, ih]

theorem resolveArgs_append (env : Env) {a b : List Expr} {x y : List Arg}
    (ha : resolveArgs env a = some x) (hb : resolveArgs env b = some y) :
    resolveArgs env (a ++ b) = some (x ++ y) := by
  induction a generalizing x with
  | nil => simp [resolveArgs] at ha; subst ha; simpa using hb
  | cons e es ih =>
    simp only [resolveArgs, Option.bind_eq_some_iff, Option.map_eq_some_iff] at ha
    obtain ⟨a1, h1, as, h2, rfl⟩ := ha
    simp [resolveArgs, h1, ih h2]

theorem resolveArgs_sizeParams (env : Env) (lo hi : Int) :
    resolveArgs env (exprsOf (sizeParams lo hi)) = some (sizeArgs lo hi) := by
  unfold sizeParams sizeArgs
  split <;> simp [exprsOf, exprOf, resolveArgs, resolveArg, *]

theorem intOr_int (d i : Int) : intOr d (.int i) = some i := rfl

theorem sizeArg_intOr (hi : Int) : intOr i64max (if hi = i64max then Arg.dflt else Arg.int hi) = some hi := by
  split <;> simp [intOr, *]

theorem isAny_eq {t : Ty} (h : t.isAny = true) : t = tyAny := by
  cases t <;> simp_all [Ty.isAny, tyAny]

theorem resolve_named (env : Env) (n : Str) (h : n ∈ plainNames) :
    resolve env (exprOf (tyExpr (.named n))) = some (.named n) := by
  simp only [tyExpr, exprOf, resolve, resolveName, (plain_table n h).2.1]
  rcases (plain_table n h).2.2 with hk | rfl
  · simp [hk, h]
  · rfl

theorem resolve_int (env : Env) (lo hi : Int) (h : inI64 lo hi) :
    resolve env (exprOf (tyExpr (.int lo hi))) = some (.int lo hi) := by
  obtain ⟨h1, h2, h3⟩ := h
  simp only [tyExpr, resolve_tname, intParams]
  by_cases hlo : lo = i64min
  · by_cases hhi : hi = i64max
    · simp [hlo, hhi, defaultOf]
    · simp [hlo, hhi, exprsOf, exprOf, resolveArgs, resolveArg, createK, intOr, newInt_of_le (Int.le_trans h1 h2)]
  · by_cases hhi : hi = i64max
    · simp [hlo, hhi, exprsOf, exprOf, resolveArgs, resolveArg, createK, intOr, newInt_of_le (Int.le_trans h2 h3)]
    · simp [hlo, hhi, exprsOf, exprOf, resolveArgs, resolveArg, createK, intOr, newInt_of_le h2]

theorem resolve_float (env : Env) (lo : Nat) (lot : Str) (hi : Nat) (hit : Str)
    (h : FloatIO env lo fNegMax lot ∧ FloatIO env hi fPosMax hit ∧ fkey lo ≤ fkey hi) :
    resolve env (exprOf (tyExpr (.float lo lot hi hit))) = some (.float lo lot hi hit) := by
  obtain ⟨h1, h2, h3⟩ := h
  have hle : ¬ fkey lo > fkey hi := by omega
  simp only [tyExpr, resolve_tname, floatParams]
  by_cases hlo : lo = fNegMax
  · subst hlo
    obtain rfl := (floatIO_dflt env _ _).1 h1
    by_cases hhi : hi = fPosMax
    · subst hhi
      obtain rfl := (floatIO_dflt env _ _).1 h2
      simp [defaultOf]
    · obtain ⟨e2, _⟩ := (floatIO_ne env hhi _).1 h2
      simp [hhi, exprsOf, exprOf, resolveArgs, resolveArg, createK, floatOr, newFloat, hle, ← e2]
  · obtain ⟨e1, _⟩ := (floatIO_ne env hlo _).1 h1
    by_cases hhi : hi = fPosMax
    · subst hhi
      obtain rfl := (floatIO_dflt env _ _).1 h2
      simp [hlo, exprsOf, exprOf, resolveArgs, resolveArg, createK, floatOr, newFloat, hle, ← e1]
    · obtain ⟨e2, _⟩ := (floatIO_ne env hhi _).1 h2
      simp [hlo, hhi, exprsOf, exprOf, resolveArgs, resolveArg, createK, floatOr, newFloat, hle, ← e1, ← e2]

theorem resolve_strSz (env : Env) (lo hi : Int) (h : 0 ≤ lo ∧ inI64 lo hi ∧ ¬(lo = 0 ∧ hi = i64max)) :
    resolve env (exprOf (tyExpr (.strSz lo hi))) = some (.strSz lo hi) := by
  obtain ⟨h0, ⟨h1, h2, h3⟩, hn⟩ := h
  have hlo : lo ≠ i64min := by simp only [i64min]; omega
  simp only [tyExpr, resolve_tname, intParams]
  by_cases hhi : hi = i64max
  · subst hhi
    have e2 : ¬ lo < 0 := by omega
    have e3 : lo ≠ 0 := fun e => hn ⟨e, rfl⟩
    simp [hlo, exprsOf, exprOf, resolveArgs, resolveArg, createK, newStr, newInt_of_le h2, e2, e3]
  · have e2 : ¬ lo < 0 := by omega
    simp [hlo, hhi, exprsOf, exprOf, resolveArgs, resolveArg, createK, newStr, newInt_of_le h2, e2]

theorem resolve_bool (env : Env) (b : Option Bool) :
    resolve env (exprOf (tyExpr (.bool b))) = some (.bool b) := by
  cases b with
  | none => simp [tyExpr, resolve_tname, defaultOf]
  | some b => simp [tyExpr, resolve_tname, exprsOf, exprOf, resolveArgs, resolveArg, createK]

theorem resolve_regexp (env : Env) (s : Str) :
    resolve env (exprOf (tyExpr (.regexp s))) = some (.regexp s) := by
  simp only [tyExpr, resolve_tname]
  cases s with
  | nil => simp [defaultOf]
  | cons c cs => simp [exprsOf, exprOf, resolveArgs, resolveArg, createK]

theorem resolveArgs_rxs (env : Env) (srcs : List Str) :
    resolveArgs env (exprsOf (srcs.map Val.regexp)) = some (srcs.map Arg.rx) := by
  induction srcs with
  | nil => simp [exprsOf, resolveArgs]
  | cons s ss ih => simp [exprsOf, exprOf, resolveArgs, resolveArg, ih]

theorem mapM_patOne_rx (env : Env) (srcs : List Str) : (srcs.map Arg.rx).mapM (patOne env) = some srcs := by
  induction srcs with
  | nil => rfl
  | cons s ss ih => simp [List.mapM_cons, patOne, ih]

theorem resolve_pattern (env : Env) (srcs : List Str) :
    resolve env (exprOf (tyExpr (.pattern srcs))) = some (.pattern srcs) := by
  simp only [tyExpr, resolve_tname]
  cases srcs with
  | nil => simp [defaultOf]
  | cons s ss =>
    simp only [List.map_cons, List.isEmpty_cons, Bool.false_eq_true, if_false]
    have := resolveArgs_rxs env (s :: ss)
    simp only [List.map_cons] at this
    rw [this]
    simp only [Option.bind, createK, patArgs]
    have hm := mapM_patOne_rx env (s :: ss)
    simp only [List.map_cons] at hm
    cases ss with
    | nil => simp [patOne]
    | cons s2 ss2 =>
      simp only [List.map_cons] at hm ⊢
      rw [hm]; rfl

theorem resolve_collection (env : Env) (lo hi : Int) (h : inI64 lo hi) :
    resolve env (exprOf (tyExpr (.collection lo hi))) = some (.collection lo hi) := by
  simp only [tyExpr]
  by_cases hd : lo = 0 ∧ hi = i64max
  · simp [resolve_tname, hd, defaultOf]
  · simp only [hd, if_false]
    rw [resolve_tname_args env .collection (by simp [sizeParams]) (resolveArgs_sizeParams env lo hi)]
    simp [createK, sizeArgs, sizes2, sizeArg_intOr, intOr_int, newInt_of_le h.2.1]

/-- the optional size suffix of Array / Hash / Collection, printed and resolved -/
theorem resolveArgs_optSize (env : Env) (pre : List Val) (preA : List Arg) (lo hi : Int)
    (hpre : resolveArgs env (exprsOf pre) = some preA) :
    resolveArgs env (exprsOf (pre ++ if lo = 0 ∧ hi = i64max then [] else sizeParams lo hi)) =
      some (preA ++ if lo = 0 ∧ hi = i64max then [] else sizeArgs lo hi) := by
  rw [exprsOf_append]
  refine resolveArgs_append env hpre ?_
  split
  · simp [exprsOf, resolveArgs]
  · exact resolveArgs_sizeParams env lo hi

theorem createK_hash_tys (env : Env) (k v : Ty) (lo hi : Int) (h : lo ≤ hi) :
    createK env .hash (.ty k :: .ty v :: if lo = 0 ∧ hi = i64max then [] else sizeArgs lo hi) = some (.hash k v lo hi) := by
  split
  · rename_i hd; obtain ⟨rfl, rfl⟩ := hd; simp [createK]
  · simp [createK, sizeArgs, sizes2, sizeArg_intOr, intOr_int, newInt_of_le h]

theorem createK_array_ty (env : Env) (t : Ty) (lo hi : Int) (h : lo ≤ hi) :
    createK env .array (.ty t :: if lo = 0 ∧ hi = i64max then [] else sizeArgs lo hi) = some (.array t lo hi) := by
  split
  · rename_i hd; obtain ⟨rfl, rfl⟩ := hd; simp [createK]
  · simp [createK, sizeArgs, sizeArg_intOr, intOr_int, newInt_of_le h]

theorem createK_array_size (env : Env) (lo hi : Int) (h : lo ≤ hi) (hz : ¬(lo = 0 ∧ hi = 0)) :
    createK env .array (if lo = 0 ∧ hi = i64max then [] else sizeArgs lo hi) = some (.array tyAny lo hi) := by
  split
  · rename_i hd; obtain ⟨rfl, rfl⟩ := hd; simp [createK]
  · simp [createK, sizeArgs, sizeArg_intOr, intOr_int, newInt_of_le h, hz]

theorem resolve_array (env : Env) (t : Ty) (lo hi : Int) (ih : resolve env (exprOf (tyExpr t)) = some t) (h : inI64 lo hi) :
    resolve env (exprOf (tyExpr (.array t lo hi))) = some (.array t lo hi) := by
  obtain ⟨_, h2, _⟩ := h
  simp only [tyExpr]
  split
  · rename_i hu
    obtain ⟨hu1, rfl, rfl⟩ := hu
    rw [isUnit_eq hu1]
    simp [resolve_tname, sizeParams, exprsOf, exprOf, resolveArgs, resolveArg, createK, intOr, i64max]
  · by_cases hel : (!t.isAny) = true ∨ (lo = 0 ∧ hi = 0)
    · simp only [hel, if_true]
      exact (resolve_tname_args env .array (by simp)
        (resolveArgs_optSize env [tyExpr t] [.ty t] lo hi (by simp [exprsOf, resolveArgs, resolveArg_ty, ih]))).trans
        (createK_array_ty env t lo hi h2)
    · simp only [hel, if_false]
      obtain ⟨hany, hz⟩ := not_or.1 hel
      have ht : t = tyAny := isAny_eq (by simpa using hany)
      subst ht
      by_cases hd : lo = 0 ∧ hi = i64max
      · obtain ⟨rfl, rfl⟩ := hd; simp [resolve_tname, defaultOf, tyAny]
      · have := resolveArgs_optSize env [] [] lo hi (by simp [exprsOf, resolveArgs])
        simp only [List.nil_append] at this
        exact (resolve_tname_args env .array (by simp [hd, sizeParams]) this).trans (createK_array_size env lo hi h2 hz)

/-- the case-insensitivity flag of an Enum as a resolved argument -/
def flagA (ci : Bool) : List Arg := if ci then [.bool true] else []

theorem resolveArgs_enum (env : Env) (vs : List Str) (ci : Bool) :
    resolveArgs env (exprsOf (vs.map Val.str ++ if ci then [.bool true] else [])) = some (vs.map Arg.str ++ flagA ci) := by
  induction vs with
  | nil => cases ci <;> simp [flagA, exprsOf, exprOf, resolveArgs, resolveArg]
  | cons v vs ih => simp [exprsOf, exprOf, resolveArgs, resolveArg, ih]

theorem enumFlat_strs (vs : List Str) (ci : Bool) : enumFlat (vs.map Arg.str ++ flagA ci) = some (vs, ci) := by
  induction vs with
  | nil => cases ci <;> simp [flagA, enumFlat]
  | cons v vs ih =>
    simp only [List.map_cons, List.cons_append]
    cases hrest : vs.map Arg.str ++ flagA ci with
    | nil =>
      have hv : vs = [] := by
        cases vs with
        | nil => rfl
        | cons a b => simp at hrest
      subst hv
      have hc : ci = false := by cases ci <;> simp_all [flagA]
      subst hc
      simp [enumFlat]
    | cons a as =>
      rw [hrest] at ih
      simp [enumFlat, ih]

theorem enumArgs_strs (f : Nat) (v : Str) (vs : List Str) (ci : Bool) :
    enumArgs (f + 1) ((v :: vs).map Arg.str ++ flagA ci) = some (v :: vs, ci) := by
  have hflat := enumFlat_strs (v :: vs) ci
  simp only [List.map_cons, List.cons_append] at hflat ⊢
  -- `enumArgs` with at least one fuel reaches `enumFlat`, or its single-string shortcut, which agrees with it
  cases hrest : vs.map Arg.str ++ flagA ci with
  | nil => rw [hrest] at hflat; simp only [enumArgs]; simpa [enumFlat] using hflat
  | cons a as => rw [hrest] at hflat; simp only [enumArgs]; exact hflat

theorem resolve_enum (env : Env) (vs : List Str) (ci : Bool)
    (h : (vs = [] → ci = false) ∧ (ci = true → ∀ v ∈ vs, lowerStr v = v)) :
    resolve env (exprOf (tyExpr (.enum vs ci))) = some (.enum vs ci) := by
  simp only [tyExpr, resolve_tname]
  cases vs with
  | nil =>
    have hc := h.1 rfl
    subst hc
    simp [defaultOf]
  | cons v vs' =>
    have hne : (List.map Val.str (v :: vs') ++ if ci = true then [Val.bool true] else []).isEmpty = false := by simp
    simp only [hne, Bool.false_eq_true, if_false]
    rw [resolveArgs_enum env (v :: vs') ci]
    simp only [Option.bind, createK]
    rw [enumArgs_strs]
    simp only [newEnum, List.isEmpty_cons, Bool.false_eq_true, if_false]
    cases ci with
    | false => simp
    | true =>
      have : (v :: vs').map lowerStr = v :: vs' := by simpa using List.map_congr_left (g := id) (h.2 rfl)
      simp only [List.map_cons] at this
      simp [this]

theorem tyExprs_isEmpty (ts : List Ty) : (tyExprs ts).isEmpty = ts.isEmpty := by
  cases ts <;> simp [tyExprs]

theorem tupleMk_tys (ts : List Ty) (rng : Option (Int × Int)) (h : ts ≠ []) :
    tupleMk (ts.map Arg.ty) rng = some (.tuple ts rng) := by
  cases ts with
  | nil => exact absurd rfl h
  | cons t ts' =>
    have := mapM_argTy (t :: ts')
    simp only [List.map_cons] at this
    simp [tupleMk, this]

theorem tupleBody_tys (ts : List Ty) (h : ts ≠ []) : tupleBody (ts.map Arg.ty) = some (.tuple ts none) := by
  rw [tupleBody_eq, tupleBodyG_tys, tupleMk_tys ts none h]

theorem tupleBody_sized (ts : List Ty) (lo hi : Int) (h : inI64 lo hi) (h0 : 0 ≤ hi) :
    tupleBody (ts.map Arg.ty ++ sizeArgs lo hi) = some (.tuple ts (some (lo, hi))) := by
  rw [tupleBody_eq, tupleBodyG_sized _ _ lo hi h.2.1 h0]
  cases ts with
  | nil => rfl
  | cons t ts' => exact tupleMk_tys _ _ (by simp)

theorem tupleCreate_tys (ts : List Ty) (hne : ts ≠ []) : tupleCreate (ts.map Arg.ty) = some (.tuple ts none) := by
  rw [tupleCreate_eq (by simp), tupleBody_tys ts hne]

theorem tupleCreate_sized (ts : List Ty) (lo hi : Int) (h : inI64 lo hi) (h0 : 0 ≤ hi) :
    tupleCreate (ts.map Arg.ty ++ sizeArgs lo hi) = some (.tuple ts (some (lo, hi))) := by
  rw [tupleCreate_eq (head_tys_append ts _ (head_sizeArgs lo hi)), tupleBody_sized ts lo hi h h0]

theorem resolve_tuple (env : Env) (ts : List Ty) (sz : Option (Int × Int))
    (ihs : resolveArgs env (exprsOf (tyExprs ts)) = some (ts.map .ty))
    (hsz : match sz with | none => ts ≠ [] | some r => inI64 r.1 r.2 ∧ 0 ≤ r.2) :
    resolve env (exprOf (tyExpr (.tuple ts sz))) = some (.tuple ts sz) := by
  simp only [tyExpr, resolve_tname]
  cases sz with
  | none =>
    simp only [List.append_nil, tyExprs_isEmpty, List.isEmpty_iff, hsz, if_false, ihs, Option.bind, createK]
    exact tupleCreate_tys ts hsz
  | some r =>
    obtain ⟨lo, hi⟩ := r
    obtain ⟨hin, h0⟩ := hsz
    simp only
    by_cases hd : ts.isEmpty = true ∧ lo = 0 ∧ hi = i64max
    · obtain ⟨he, rfl, rfl⟩ := hd
      have : ts = [] := by cases ts <;> simp_all
      subst this
      simp [tyExprs, defaultOf]
    · have hne : (tyExprs ts ++ sizeParams lo hi).isEmpty = false := by simp [sizeParams]
      simp only [hd, if_false, hne, Bool.false_eq_true, exprsOf_append]
      rw [resolveArgs_append env ihs (resolveArgs_sizeParams env lo hi)]
      exact tupleCreate_sized ts lo hi hin h0

theorem resolve_typeRef (env : Env) (s : Str) : resolve env (exprOf (tyExpr (.typeRef s))) = some (.typeRef s) := by
  simp only [tyExpr, resolve_tname]
  by_cases h : s = unresolvedRef
  · simp [h, defaultOf]
  · simp [h, exprsOf, exprOf, resolveArgs, resolveArg, createK, typeRefCreate]

theorem resolve_regexp_arg (env : Env) (src : Str) :
    resolveArg env (exprOf (tname .regexp (if src.isEmpty then [] else [.regexp src]))) = some (.ty (.regexp src)) := by
  have := resolveArg_ty env (.regexp src)
  rwa [resolve_regexp] at this

theorem resolve_runtime (env : Env) (rt name : Str) (pat : Option Str)
    (h : (rt = "go".toList → name = []) ∧
      (match pat with
       | some src => src = [] ∨ (rxRep false src = true ∧ env.rxOK src = true)
       | none => True)) :
    resolve env (exprOf (tyExpr (.runtime rt name pat))) = some (.runtime rt name pat) := by
  obtain ⟨h2, _⟩ := h
  simp only [tyExpr]
  have hgo' : "go".toList = ['g', 'o'] := by decide
  have hgo : ¬(rt = ['g', 'o'] ∧ ¬ name = []) := fun ⟨e, hn⟩ => hn (h2 (hgo' ▸ e))
  cases pat with
  | none =>
    by_cases hn : name = []
    · subst hn
      by_cases hrt : rt = []
      · subst hrt
        simp [resolve_tname, defaultOf]
      · simp [hrt, resolve_tname, exprsOf, exprOf, resolveArgs, resolveArg, createK, runtimeCreate]
    · have hg : ¬ rt = ['g', 'o'] := fun e => hgo ⟨e, hn⟩
      simp [hn, resolve_tname, exprsOf, exprOf, resolveArgs, resolveArg, createK, runtimeCreate, hg]
  | some src =>
    have hra := resolve_regexp_arg env src
    simp only [Option.isNone_some, Bool.false_eq_true, and_false, if_false, resolve_tname, List.isEmpty_cons,
      List.cons_append, List.nil_append, exprsOf, exprOf, resolveArgs, resolveArg, hra, Option.map, Option.bind, createK,
      runtimeCreate]
    by_cases hn : name = []
    · subst hn; simp
    · have hg : ¬ rt = ['g', 'o'] := fun e => hgo ⟨e, hn⟩
      simp [hn, hg]

/-- the key of a member as a resolved argument -/
def memberKeyA (n : Str) (o ov : Bool) : Arg :=
  if o = ov then .str n
  else if o then .ty (.wrap .optional (.strVal n))
  else .ty (.wrap .notUndef (.strVal n))

theorem kindOf_wrap (k : WrapKind) : kindOf k.name = some (.wrap k) := kindOf_name (.wrap k)

theorem resolve_wrap_str (env : Env) (k : WrapKind) (n : Str) (hk : k = .optional ∨ k = .notUndef) (hn : n ≠ []) :
    resolve env (.dtype k.name (some [.str n])) = some (.wrap k (.strVal n)) := by
  have hc : canonName k.name = k.name := canon_kind (.wrap k)
  simp only [resolve, resolveArgs, resolveArg, Option.map, Option.bind, create, hc, kindOf_wrap, createK, wrapOf, List.isEmpty_iff, hn, hk]
  simp

theorem resolve_tname_wrap_str (env : Env) (k : WrapKind) (n : Str) (hk : k = .optional ∨ k = .notUndef) (hn : n ≠ []) :
    resolve env (exprOf (tname (.wrap k) [.str n])) = some (.wrap k (.strVal n)) := by
  rw [exprOf_tname]; exact resolve_wrap_str env k n hk hn

theorem resolveArg_memberKey (env : Env) (n : Str) (o ov : Bool) (hn : n ≠ []) :
    resolveArg env (exprOf (memberKey n o ov)) = some (memberKeyA n o ov) := by
  unfold memberKey memberKeyA
  split
  · simp [exprOf, resolveArg]
  · split
    · have h : resolve env (.dtype "Optional".toList (some [.str n])) = some (.wrap .optional (.strVal n)) :=
        resolve_wrap_str env .optional n (Or.inl rfl) hn
      simp only [exprOf, exprsOf, resolveArg, h, Option.map]
    · have h : resolve env (.dtype "NotUndef".toList (some [.str n])) = some (.wrap .notUndef (.strVal n)) :=
        resolve_wrap_str env .notUndef n (Or.inr rfl) hn
      simp only [exprOf, exprsOf, resolveArg, h, Option.map]

theorem structKey_memberKeyA (n : Str) (o : Bool) (t : Ty) (hn : n ≠ []) :
    structKey t (memberKeyA n o t.acceptsUndef) = some (n, o) := by
  unfold memberKeyA
  split
  · rename_i h; simp [structKey, hn, h]
  · split
    · rename_i h; simp [structKey, hn, h]
    · rename_i h; simp [structKey, hn]; simpa using h

/-- the resolved entries of what a Struct prints -/
def memberArgs : List (Str × Bool × Ty) → List (Arg × Arg)
  | [] => []
  | (n, o, t) :: ms => (memberKeyA n o t.acceptsUndef, .ty t) :: memberArgs ms

theorem structMembers_memberArgs : (ms : List (Str × Bool × Ty)) → (∀ m ∈ ms, m.1 ≠ []) →
    structMembers (memberArgs ms) = some ms
  | [], _ => rfl
  | (n, o, t) :: ms, h => by
    have ih := structMembers_memberArgs ms (fun m hm => h m (by simp [hm]))
    simp [memberArgs, structMembers, structKey_memberKeyA n o t (h (n, o, t) (by simp)), ih]

/-! ### The recursion over the type: most cases are the lemmas above, given the round trips of the component types;
Wrap, Variant, Hash, Callable and Struct are done in place -/

mutual
theorem resolve_tyExpr (env : Env) : (t : Ty) → WFTy env t → resolve env (exprOf (tyExpr t)) = some t
  | .named n, h => resolve_named env n h
  | .int lo hi, h => resolve_int env lo hi h
  | .float lo lot hi hit, h => resolve_float env lo lot hi hit h
  | .strSz lo hi, h => resolve_strSz env lo hi h
  | .strVal _, h => absurd h (by simp [WFTy])
  | .bool b, _ => resolve_bool env b
  | .enum vs ci, h => resolve_enum env vs ci h
  | .regexp s, _ => resolve_regexp env s
  | .pattern srcs, _ => resolve_pattern env srcs
  | .collection lo hi, h => resolve_collection env lo hi h
  | .wrap k t, h => by
    simp only [tyExpr]
    split
    · rename_i hany
      rw [isAny_eq hany]
      simp [resolve_tname, defaultOf]
    · rename_i hany
      split
      · exact resolve_tname_wrap_str env _ _ (Or.inl rfl) h.2
      · exact resolve_tname_wrap_str env _ _ (Or.inr rfl) h.2
      · rename_i h1 h2
        have ih := resolve_tyExpr env t (wfTy_wrap_inner h h1 h2)
        simp [resolve_tname, exprsOf, resolveArgs, resolveArg_ty, ih, createK, wrapOf]
  | .variant ts, h => by
    simp only [tyExpr, resolve_tname, tyExprs_isEmpty]
    cases ts with
    | nil => simp [defaultOf]
    | cons t1 ts1 =>
      cases ts1 with
      | nil => exact absurd rfl h.1
      | cons t2 ts2 =>
        simp only [List.isEmpty_cons, Bool.false_eq_true, if_false]
        rw [resolveArgs_tyExprs env _ h.2]
        have hm := mapM_argTy (t1 :: t2 :: ts2)
        simp only [List.map_cons] at hm ⊢
        simp only [Option.bind, createK, variantArgs]
        rw [hm]; rfl
  | .array t lo hi, h => resolve_array env t lo hi (resolve_tyExpr env t h.1) h.2
  | .hash k v lo hi, h => by
    obtain ⟨hk, hv, h1, h2, h3⟩ := h
    have ihk := resolve_tyExpr env k hk
    have ihv := resolve_tyExpr env v hv
    simp only [tyExpr]
    split
    · rename_i hd
      obtain ⟨ha, hb, rfl, rfl⟩ := hd
      rw [isAny_eq ha, isAny_eq hb]
      simp [resolve_tname, defaultOf]
    · split
      · rename_i hd
        obtain ⟨ha, hb, rfl, rfl⟩ := hd
        rw [isUnit_eq ha, isUnit_eq hb]
        simp [resolve_tname, exprsOf, exprOf, resolveArgs, resolveArg, createK, intOr]
      · exact (resolve_tname_args env .hash (by simp) (resolveArgs_optSize env [tyExpr k, tyExpr v] [.ty k, .ty v] lo hi
          (by simp [exprsOf, resolveArgs, resolveArg_ty, ihk, ihv]))).trans (createK_hash_tys env k v lo hi h2)
  | .tuple ts sz, h => resolve_tuple env ts sz (resolveArgs_tyExprs env ts h.1) h.2
  | .callable none ret blk, h => by
    obtain ⟨rfl, rfl⟩ := h
    simp [tyExpr, tyExprOpt, callableVal, resolve_tname, defaultOf]
  | .callable (some (ts, sz)) ret blk, h => by
    obtain ⟨hts, hshape, hret, hblk, hisb'⟩ := h
    have hisb : ∀ b ∈ blk, b.isBlock = true := by
      intro b hb
      cases blk with
      | none => simp at hb
      | some x => simp at hb; subst hb; simpa using hisb'
    have hNU := resolveArgs_tyExprsNU env ts hts
    have hsz : resolveArgs env (exprsOf (tupleSizeVals ts.isEmpty sz)) = some (cSizeArgs ts sz) := by
      unfold tupleSizeVals cSizeArgs
      cases sz with
      | none => simp [exprsOf, resolveArgs]
      | some r =>
        simp only
        split
        · simp [exprsOf, resolveArgs]
        · exact resolveArgs_sizeParams env r.1 r.2
    have hb : resolveArgs env (exprsOf (tyExprOpt blk).toList) = some (cBlockArgs blk) := by
      cases blk with
      | none => simp [tyExprOpt, exprsOf, resolveArgs, cBlockArgs]
      | some b =>
        have := resolve_tyExpr env b hblk
        simp [tyExprOpt, exprsOf, resolveArgs, resolveArg_ty, this, cBlockArgs]
    have hpb : resolveArgs env (exprsOf (tyExprsNU ts ++ tupleSizeVals ts.isEmpty sz ++ (tyExprOpt blk).toList)) =
        some (cArgs ts sz blk) := by
      rw [exprsOf_append, exprsOf_append]
      exact resolveArgs_append env (resolveArgs_append env hNU hsz) hb
    cases ret with
    | none =>
      have hne := cArgs_ne_nil ts sz blk hshape
      have hemp : (tyExprsNU ts ++ tupleSizeVals ts.isEmpty sz ++ (tyExprOpt blk).toList).isEmpty = false := by
        cases hl : tyExprsNU ts ++ tupleSizeVals ts.isEmpty sz ++ (tyExprOpt blk).toList with
        | nil =>
          rw [hl] at hpb
          simp only [exprsOf, resolveArgs, Option.some.injEq] at hpb
          exact absurd hpb.symm hne
        | cons v vs => rfl
      simp only [tyExpr, tyExprOpt, callableVal, resolve_tname, hemp, Bool.false_eq_true, if_false, hpb, Option.bind, createK]
      exact callableCreate_flat ts sz blk hshape hisb hne
    | some r =>
      have hr := resolve_tyExpr env r hret
      simp only [tyExpr, tyExprOpt, callableVal, resolve_tname, List.isEmpty_cons, Bool.false_eq_true, if_false, exprsOf, exprOf,
        resolveArgs, resolveArg, hpb, resolveArg_ty, hr, Option.map, Option.bind, createK]
      exact callableCreate_ret ts sz blk r hshape hisb
  | .runtime rt name pat, h => resolve_runtime env rt name pat h
  | .typeRef s, _ => resolve_typeRef env s
  | .struct ms, h => by
    simp only [tyExpr, resolve_tname]
    cases ms with
    | nil => simp [defaultOf]
    | cons m ms' =>
      have ih := resolveEntries_tyMembers env (m :: ms') h
      have hnames := wfms_names env (m :: ms') h
      simp only [List.isEmpty_cons, Bool.false_eq_true, if_false, exprsOf, exprOf, resolveArgs, resolveArg, ih,
        Option.map, Option.bind, createK, structArgs, structMembers_memberArgs _ hnames]
theorem resolveArgs_tyExprs (env : Env) : (ts : List Ty) → WFTys env ts →
    resolveArgs env (exprsOf (tyExprs ts)) = some (ts.map .ty)
  | [], _ => by simp [tyExprs, exprsOf, resolveArgs]
  | t :: ts, h => by
    simp [tyExprs, exprsOf, resolveArgs, resolveArg_ty, resolve_tyExpr env t h.1, resolveArgs_tyExprs env ts h.2]
theorem resolveArgs_tyExprsNU (env : Env) : (ts : List Ty) → WFTys env ts →
    resolveArgs env (exprsOf (tyExprsNU ts)) = some ((notUnitTys ts).map .ty)
  | [], _ => by simp [tyExprsNU, exprsOf, resolveArgs, notUnitTys]
  | t :: ts, h => by
    simp only [tyExprsNU, notUnitTys]
    split
    · exact resolveArgs_tyExprsNU env ts h.2
    · simp [exprsOf, resolveArgs, resolveArg_ty, resolve_tyExpr env t h.1, resolveArgs_tyExprsNU env ts h.2]
theorem resolveEntries_tyMembers (env : Env) : (ms : List (Str × Bool × Ty)) → WFMs env ms →
    resolveEntries env (entriesOf (tyMembers ms)) = some (memberArgs ms)
  | [], _ => by simp [tyMembers, entriesOf, resolveEntries, memberArgs]
  | (n, o, t) :: ms, h => by
    simp [tyMembers, entriesOf, resolveEntries, memberArgs, resolveArg_memberKey env n o _ h.1, resolveArg_ty,
      resolve_tyExpr env t h.2.1, resolveEntries_tyMembers env ms h.2.2]
end

theorem type_rt (env : Env) (t : Ty) (h : WFTy env t) : parseType env (syms (printTy t)) = some t := by
  unfold parseType printTy
  rw [value_rt env (tyExpr t) (lit_tyExpr env t h)]
  exact resolve_tyExpr env t h

end Pcore.Syntax

import Pcore.Model.GoMap
import Pcore.Proofs.OMap
/-! Laws of the Go-map model.  A Go map is an ordered map (`OMap` at `key := id`) whose order nobody looks at: `get` after
    `set` / `erase` are `OMap.get_put` / `OMap.get_delete`; `mapVals` has no counterpart there. -/
namespace Pcore.Coll.GoMap
variable {κ : Type} [DecidableEq κ]

theorem get_eq (m : List (κ × Nat)) (k : κ) : get m k = OMap.get id m k := by
  induction m with
  | nil => rfl
  | cons e r ih =>
    obtain ⟨a, b⟩ := e
    simp only [OMap.get] at ih ⊢
    by_cases h : a = k <;> simp [get, OMap.getEntry, h, ih]

theorem set_eq (m : List (κ × Nat)) (k : κ) (v : Nat) : set m k v = OMap.put id m (k, v) := by
  induction m with
  | nil => rfl
  | cons e r ih => obtain ⟨a, b⟩ := e; simp only [set, OMap.put, id, ih]

theorem erase_eq (m : List (κ × Nat)) (k : κ) : erase m k = OMap.delete id m k := by
  induction m with
  | nil => rfl
  | cons e r ih =>
    obtain ⟨a, b⟩ := e
    simp only [OMap.delete] at ih ⊢
    by_cases h : a = k <;> simp [erase, h, ih]

theorem get_set (m : List (κ × Nat)) (k : κ) (v : Nat) (k' : κ) :
    get (set m k v) k' = if k = k' then some v else get m k' := by
  rw [get_eq, set_eq, OMap.get_put, get_eq]; rfl

theorem get_erase (m : List (κ × Nat)) (k k' : κ) :
    get (erase m k) k' = if k' = k then none else get m k' := by
  rw [get_eq, erase_eq, OMap.get_delete, get_eq]

theorem get_mapVals (f : Nat → Nat) (m : List (κ × Nat)) (k : κ) :
    get (mapVals f m) k = (get m k).map f := by
  induction m with
  | nil => simp [mapVals, get]
  | cons e r ih =>
    obtain ⟨a, b⟩ := e
    simp only [mapVals] at ih
    by_cases h : a = k <;> simp [mapVals, get, h, ih]

end Pcore.Coll.GoMap

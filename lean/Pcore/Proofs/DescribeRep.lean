import Pcore.Proofs.DescribeLeaf
/-!
  C19, the one induction over the describer (`describe_rep`): `internalDescribe` always returns, and every mismatch it returns
  arises in one of the ways of `Rep` (how a mismatch comes to be REPorted) — reported by the arm itself (`Leaf`), passed on from a
  sub-term one `Step` below, from the type an alias or Optional contains, from a Callable's parameters, or merged from what a member of a
  Variant reported.
  What C19 says of a reported mismatch is an induction over `Rep`: `Rep.just`, and where nothing is merged `Rep.leaf_of_noMerge`
  (from it `Rep.sizeReal`, `Rep.tmReal`).
-/
namespace Pcore.Desc
open Pcore.Lat

section
variable (cfg : Cfg) (sfh : Bool)

/-- how `m` comes to be among the mismatches `internalDescribe e o a p` reports.  A member's mismatch `m0` may come out of
    `mergeDescriptions` changed: kind and key stay, the path stays or loses the variant element at `p.length`. -/
inductive Rep : Ty → Ty → Ty → Path → Mismatch → Prop where
  | leaf {e o a p m} : Leaf cfg sfh e o a p m → Rep e o a p m
  | alias {t o a p m} : Rep t (.variant [t]) a p m → Rep (.variant [t]) o a p m
  | opt {t o a p m} : isUndef a = false → Rep t (if isAlias o then o else .optional t) a p m → Rep (.optional t) o a p m
  | sub {e o a p pe e2 a2 m} : Step e a pe e2 a2 → Rep e2 e2 a2 (p ++ [pe]) m → Rep e o a p m
  | params {ep rt bl ps' rt' bl' o p m} : Rep ep ep (ps'.getD (.tuple [] (some Rng.pos))) p m →
      Rep (.callable (some ep) rt bl) o (.callable ps' rt' bl') p m
  | ret {ps er bl ps' rt' bl' o p} :
      Rep (.callable ps (some er) bl) o (.callable ps' rt' bl') p (.typeMismatch (p ++ [⟨.ret, ""⟩]) (.ofTy er) (rt'.getD .any))
  | blk {ps rt eb ps' rt' ab o p} :
      Rep (.callable ps rt (some eb)) o (.callable ps' rt' (some ab)) p (.typeMismatch (p ++ [⟨.block, ""⟩]) (.ofTy eb) ab)
  | member {e o a p xs j t m0 m} : members e (isOptional o) = some xs → xs[j]? = some (.ty t) →
      Rep t t a (p ++ [PE.nat .variant j]) m0 → m.kk = m0.kk → (m.path = m0.path ∨ m.path = m0.path.eraseIdx p.length) → Rep e o a p m
  | opq {e o a p xs j y m} : members e (isOptional o) = some xs → xs[j]? = some y → (∀ t, y ≠ .ty t) →
      m.kk = (Cls.type, "") → (m.path = p ++ [PE.nat .variant j] ∨ m.path = (p ++ [PE.nat .variant j]).eraseIdx p.length) → Rep e o a p m

/-- the result `R` is a list of mismatches each of which satisfies `Q`: the shape of the motives of the induction -/
def Yields (R : Res) (Q : Mismatch → Prop) : Prop :=
  ∃ r, R = .ok r ∧ ∀ m ∈ r, Q m

theorem Yields.nil {Q : Mismatch → Prop} : Yields (.ok []) Q := ⟨[], rfl, List.forall_mem_nil _⟩

theorem Yields.one {Q : Mismatch → Prop} {m : Mismatch} (h : Q m) : Yields (.ok [m]) Q :=
  ⟨[m], rfl, List.forall_mem_singleton.mpr h⟩

theorem Yields.mono {R : Res} {Q Q' : Mismatch → Prop} (h : Yields R Q) (f : ∀ m, Q m → Q' m) : Yields R Q' :=
  h.imp fun _ h => ⟨h.1, fun m hm => f m (h.2 m hm)⟩

theorem Yields.append {R R' : Res} {Q : Mismatch → Prop} (h : Yields R Q) (h' : Yields R' Q) : Yields (Res.append R R') Q := by
  obtain ⟨x, rfl, hx⟩ := h
  obtain ⟨y, rfl, hy⟩ := h'
  exact ⟨x ++ y, rfl, fun m hm => (List.mem_append.mp hm).elim (hx m) (hy m)⟩

def ItemRep (items : List Item) (p : Path) (m : Mismatch) : Prop :=
  Item.leaf m ∈ items ∨ ∃ e2 a2 pe g, Item.sub e2 a2 pe g ∈ items ∧ Rep cfg sfh e2 e2 a2 (p ++ [pe]) m

/-- `m0` is what member number `i + j` of a Variant reports -/
def MemRep (full : List Atom) (i : Nat) (a : Ty) (p : Path) (m0 : Mismatch) : Prop :=
  ∃ j y, full[j]? = some y ∧
    ((∃ t, y = .ty t ∧ Rep cfg sfh t t a (p ++ [PE.nat .variant (i + j)]) m0) ∨
     ((∀ t, y ≠ .ty t) ∧ m0 = .typeMismatch (p ++ [PE.nat .variant (i + j)]) (.atom y) a))

/-- the motive for the member loop: it finds an accepting member, or returns what the members report -/
def GivesMembers (V : VRes) (full : List Atom) (i : Nat) (a : Ty) (p : Path) : Prop :=
  V = .hit ∨ ∃ ds, V = .acc ds ∧ ∀ m0 ∈ ds, MemRep cfg sfh full i a p m0

variable {cfg sfh}

theorem ItemRep.cons {it : Item} {rest : List Item} {p : Path} {m : Mismatch} (h : ItemRep cfg sfh rest p m) :
    ItemRep cfg sfh (it :: rest) p m :=
  h.imp (List.mem_cons_of_mem _) fun ⟨e2, a2, pe, g, hin, hrep⟩ => ⟨e2, a2, pe, g, List.mem_cons_of_mem _ hin, hrep⟩

theorem Rep.ofItem {e o a : Ty} {p : Path} {items : List Item} {m : Mismatch} (hok : ∀ it ∈ items, ItemOK e a p it)
    (h : ItemRep cfg sfh items p m) : Rep cfg sfh e o a p m := by
  rcases h with hleaf | ⟨e2, a2, pe, g, hin, hsub⟩
  · -- a leaf item of a loop is a missing or an unrecognised key
    obtain ⟨⟨k, rfl | rfl⟩, hl⟩ := hok _ hleaf
    · exact .leaf ⟨rfl, hl, trivial, trivial⟩
    · exact .leaf ⟨rfl, hl, trivial, trivial⟩
  · exact .sub (hok _ hin) hsub

/-- the end of describeVariantType: a single mismatch on the alias, or the members' mismatches merged (`o'`, the original it is
    handed: the original itself, or for Data / RichData the alias) -/
theorem Yields.ofVariant {e o o' a : Ty} {p : Path} {full : List Atom} {V : VRes} (ho : o' = o ∨ o' = e)
    (hmem : members e (isOptional o) = some full) (hasg : ¬ asg cfg sfh e a = true) (ih : GivesMembers cfg sfh V full 0 a p) :
    Yields (variantTail o' a p V) (Rep cfg sfh e o a p) := by
  rcases ih with rfl | ⟨vs, rfl, hvs⟩
  · exact .nil
  · obtain ⟨ds, hds, hspec⟩ := mergeDescriptions_spec p.length .size vs
    simp only [variantTail, hds]
    split
    · rcases ho with rfl | rfl
      · exact .one (.leaf (.type (.guard cfg sfh hasg)))
      · exact .one (.leaf ⟨rfl, trivial, trivial, .inr rfl, .guard cfg sfh hasg⟩)
    · refine ⟨ds, rfl, fun m hm => ?_⟩
      obtain ⟨m0, hin, hk, hpath⟩ := hspec m hm
      obtain ⟨j, y, hj, hy⟩ := hvs m0 hin
      rw [Nat.zero_add] at hy
      rcases hy with ⟨t, rfl, hrep⟩ | ⟨hno, rfl⟩
      · exact .member hmem hj hrep hk hpath
      · exact .opq hmem hj hno hk hpath

theorem Yields.ofCallTail {ps rt bl ps' rt' bl' : Option Ty} {o : Ty} {p : Path} :
    Yields (callTail cfg sfh rt bl rt' bl' p) (Rep cfg sfh (.callable ps rt bl) o (.callable ps' rt' bl') p) := by
  have hblock : Yields (callBlock cfg sfh bl bl' p) (Rep cfg sfh (.callable ps rt bl) o (.callable ps' rt' bl') p) := by
    unfold callBlock
    split
    · exact .nil
    · split
      · exact .nil
      · split
        · exact .one (.leaf ⟨rfl, trivial, trivial, trivial⟩)
        · exact .one .blk
  unfold callTail
  split
  · split
    · exact hblock
    · exact .one .ret
  · exact hblock

theorem Yields.ofCall {ep o : Ty} {rt bl ps' rt' bl' : Option Ty} {p : Path} {R : Res}
    (ih : Yields R (Rep cfg sfh ep ep (ps'.getD (.tuple [] (some Rng.pos))) p)) :
    Yields (Res.orElse R (callTail cfg sfh rt bl rt' bl' p)) (Rep cfg sfh (.callable (some ep) rt bl) o (.callable ps' rt' bl') p) := by
  obtain ⟨x, rfl, hrep⟩ := ih
  cases x with
  | nil => exact .ofCallTail
  | cons d ds => exact ⟨_, rfl, fun m hm => .params (hrep m hm)⟩

theorem GivesMembers.cons {y : Atom} {full : List Atom} {i : Nat} {a : Ty} {p : Path} {d : List Mismatch} {V : VRes}
    (hd : ∀ m0 ∈ d, MemRep cfg sfh (y :: full) i a p m0) (ih : GivesMembers cfg sfh V full (i + 1) a p) :
    GivesMembers cfg sfh (VRes.cons (.ok d) V) (y :: full) i a p := by
  rcases ih with rfl | ⟨ds, rfl, hds⟩
  · exact .inl rfl
  · refine .inr ⟨d ++ ds, rfl, fun m0 hm => ?_⟩
    rcases List.mem_append.mp hm with hm | hm
    · exact hd m0 hm
    · obtain ⟨j, y', hj, hy'⟩ := hds m0 hm
      exact ⟨j + 1, y', hj, by rwa [show i + (j + 1) = i + 1 + j by omega]⟩

variable (cfg sfh)

theorem describe_rep :
    (∀ e o a p, Yields (internalDescribe cfg sfh e o a p) (Rep cfg sfh e o a p)) ∧
    (∀ items p, Yields (descAll cfg sfh items p) (ItemRep cfg sfh items p)) ∧
    (∀ xs u i a p, GivesMembers cfg sfh (descVar cfg sfh xs u i a p) (xs ++ if u then [.ty .undef] else []) i a p) := by
  apply internalDescribe.mutual_induct cfg sfh
    (fun e o a p => Yields (internalDescribe cfg sfh e o a p) (Rep cfg sfh e o a p))
    (fun items p => Yields (descAll cfg sfh items p) (ItemRep cfg sfh items p))
    (fun xs u i a p => GivesMembers cfg sfh (descVar cfg sfh xs u i a p) (xs ++ if u then [Atom.ty .undef] else []) i a p)
  all_goals intros
  -- `caseN` is the N-th branch of the three functions in source order, entered under its conditions: compute what it returns
  all_goals simp only [internalDescribe, descAll, descVar, *, if_true, if_false, Bool.false_eq_true]
  -- nothing to report: accepted, Undef against an Optional, or nothing of a Tuple to compare
  case case2 | case4 | case6 | case9 | case15 | case19 | case23 | case25 | case31 | case40 | case42 | case44 | case46 =>
    exact .nil
  -- a type / pattern mismatch behind an assignability guard
  case case47 => exact .one (.leaf (.type (.guard cfg sfh ‹_›)))
  case case20 => exact .one (.leaf (.type (.guard cfg sfh fun h => ‹¬ _› (by rw [h, Bool.or_true]))))
  case case43 | case45 => exact .one (.leaf (.pattern ‹_›))
  -- a container against a type of another kind: reported without asking IsAssignable
  case case12 => exact .one (.leaf (.type (.same cfg sfh fun hp => asg_struct_other cfg sfh hp ‹_› ‹_›)))
  case case18 => exact .one (.leaf (.type (.same cfg sfh fun hp => asg_hash_other cfg sfh hp ‹_› ‹_›)))
  case case28 => exact .one (.leaf (.type (.same cfg sfh fun hp => asg_tuple_other cfg sfh hp ‹_› ‹_›)))
  case case34 => exact .one (.leaf (.type (.same cfg sfh fun hp => asg_array_other cfg sfh hp ‹_› ‹_›)))
  case case39 => exact .one (.leaf (.type (.same cfg sfh fun hp => asg_callable_other cfg sfh hp ‹_› ‹_›)))
  -- a collection that fits in size and is still not accepted: reported with its size widened
  case case10 =>
    exact .one (.leaf (.type ⟨fun _ => rfl, fun hp => ⟨hp, asg_struct_hash_generalised cfg sfh ‹_› ‹_›⟩⟩))
  case case16 =>
    exact .one (.leaf (.type ⟨fun _ => rfl, fun hp => ⟨hp, asg_hash_generalised cfg sfh ‹_› ‹_›⟩⟩))
  case case32 =>
    exact .one (.leaf (.type ⟨fun _ => rfl, fun hp => ⟨hp, asg_array_generalised cfg sfh ‹_› ‹_›⟩⟩))
  -- a size that does not fit: the two ranges compared
  case case11 | case14 | case17 | case30 | case33 => exact .one (.leaf (.size ‹_›))
  case case21 | case24 => exact .one (.leaf (.count ‹_›))
  -- a Tuple with a positive length has a last type
  case case26 =>
    rename_i hlen hnone _
    rw [List.getLast?_eq_none_iff.mp hnone] at hlen
    exact absurd rfl hlen
  -- the loops
  case case8 => exact .mono ‹_› fun _ => .ofItem (structItems_ok _ _ _)
  case case13 => exact .mono ‹_› fun _ => .ofItem (hashItems_ok _ _ _ _ _)
  case case22 => exact .mono ‹_› fun _ => .ofItem (tupArrItems_ok _ _ _ _ _)
  case case27 => exact .mono ‹_› fun _ => .ofItem (tupTupItems_ok _ _ _ _ _ ‹_›)
  case case29 => exact .mono ‹_› fun _ => .ofItem (arrTupItems_ok _ _ _ _ _)
  -- Variant, Data, RichData: the member loop, then the merge
  case case3 => exact .ofVariant (.inl rfl) rfl ‹_› ‹_›
  case case5 | case7 => exact .ofVariant (.inr rfl) rfl ‹_› ‹_›
  -- a user alias, an Optional: the contained type
  case case1 => exact .mono ‹_› fun _ => .alias
  case case41 => exact .mono ‹_› fun _ => .opt (Bool.eq_false_iff.mpr ‹_›)
  -- Callable against Callable
  case case35 => exact .ofCall (ps' := some _) ‹_›
  case case37 => exact .ofCall (ps' := none) ‹_›
  case case36 | case38 => exact .ofCallTail
  -- the items of a loop in order
  case case48 => exact .nil
  case case49 => exact .append (.one (.inl List.mem_cons_self)) (.mono ‹_› fun _ => .cons)
  case case50 => exact .mono ‹_› fun _ => .cons
  case case51 | case52 =>
    exact .append (.mono ‹Yields (internalDescribe ..) _› fun _ h => .inr ⟨_, _, _, _, List.mem_cons_self, h⟩) (.mono ‹_› fun _ => .cons)
  -- the members of a Variant in order, Undef last for an Optional original
  case case53 | case56 | case58 => exact .inl rfl
  case case55 => exact .inr ⟨[], rfl, List.forall_mem_nil _⟩
  case case54 =>
    exact .inr ⟨_, rfl, List.forall_mem_singleton.mpr
      ⟨0, .ty .undef, rfl, .inl ⟨.undef, rfl, .leaf (.type (.guard cfg sfh ‹_›))⟩⟩⟩
  case case57 =>
    rename_i t _ _ ih2 ih1
    obtain ⟨d, hd, hrep⟩ := ih2
    rw [hd]
    exact .cons (fun m0 hm => ⟨0, .ty t, rfl, .inl ⟨t, rfl, hrep m0 hm⟩⟩) ih1
  case case59 =>
    rename_i x _ hno _ ih1
    exact .cons (List.forall_mem_singleton.mpr ⟨0, x, rfl, .inr ⟨fun t h => hno t h, rfl⟩⟩) ih1

/-- the guard and the fallback of `describe` make its answer empty exactly for an assignable pair; the fallback is a `Leaf` too.
    `describe_ok` and `describe_rep_top` are its readings for "no fault" and for a result already in hand. -/
theorem describe_spec (e a : Ty) (p : Path) :
    ∃ ms, describe cfg sfh e a p = .ok ms ∧ (ms = [] ↔ asg cfg sfh e a = true) ∧ ∀ m ∈ ms, Rep cfg sfh e e a p m := by
  unfold describe
  split
  · rename_i h
    exact ⟨[], rfl, ⟨fun _ => h, fun _ => rfl⟩, List.forall_mem_nil _⟩
  · rename_i h
    obtain ⟨r, hr, hrep⟩ := (describe_rep cfg sfh).1 e e a p
    rw [hr]
    cases r with
    | nil =>
      exact ⟨_, rfl, ⟨fun hnil => absurd hnil (List.cons_ne_nil _ _), fun ha => absurd ha h⟩,
        List.forall_mem_singleton.mpr (.leaf (.type (.guard cfg sfh h)))⟩
    | cons d ds => exact ⟨_, rfl, ⟨fun hnil => absurd hnil (List.cons_ne_nil _ _), fun ha => absurd ha h⟩, hrep⟩

theorem describe_ok (e a : Ty) (p : Path) : ∃ ms, describe cfg sfh e a p = .ok ms :=
  (describe_spec cfg sfh e a p).imp fun _ h => h.1

variable {cfg sfh}

theorem describe_rep_top {e a : Ty} {p : Path} {ms : List Mismatch} (h : describe cfg sfh e a p = .ok ms) :
    ∀ m ∈ ms, Rep cfg sfh e e a p m := by
  obtain ⟨ms', h', _, hrep⟩ := describe_spec cfg sfh e a p
  cases h'.symm.trans h
  exact hrep

/-- every reported mismatch is justified (`C19_describe_justified`): kind and key survive a merge, and a chopped variant element is a
    silent step of the walk -/
theorem Rep.just {e o a : Ty} {p : Path} {m : Mismatch} (h : Rep cfg sfh e o a p m) :
    ∃ s x a', m.path = p ++ s ∧ Reach e a (isOptional o) s x a' ∧ Local m.kk x a' := by
  induction h with
  | leaf hl => exact ⟨[], _, _, by rw [hl.path, List.append_nil], .refl _ _ _, hl.loc⟩
  | alias _ ih =>
    obtain ⟨s, x, a', hp, hr, hl⟩ := ih
    exact ⟨s, x, a', hp, .silent rfl (List.mem_append_left _ List.mem_cons_self) hr, hl⟩
  | opt _ _ ih =>
    obtain ⟨s, x, a', hp, hr, hl⟩ := ih
    exact ⟨s, x, a', hp, .opt hr, hl⟩
  | sub hs _ ih =>
    obtain ⟨s, x, a', hp, hr, hl⟩ := ih
    exact ⟨_ :: s, x, a', by rw [hp, List.append_assoc]; rfl, hs.reach hr.drop_isOptional, hl⟩
  | params _ ih =>
    obtain ⟨s, x, a', hp, hr, hl⟩ := ih
    exact ⟨s, x, a', hp, .callP hr.drop_isOptional, hl⟩
  | ret => exact ⟨_, _, _, rfl, .callRet, trivial⟩
  | blk => exact ⟨_, _, _, rfl, .callBlk, trivial⟩
  | @member _ _ _ p _ _ _ _ _ hmem hj _ hk hpath ih =>
    obtain ⟨s, x, a', hp, hr, hl⟩ := ih
    rw [List.append_assoc] at hp
    rw [← hk] at hl
    rcases hpath with h | h
    · exact ⟨_, x, a', h.trans hp, .explicit hmem hj hr.drop_isOptional, hl⟩
    · exact ⟨s, x, a', by rw [h, hp]; exact eraseIdx_prefix p _ s, .silent hmem (List.mem_of_getElem? hj) hr.drop_isOptional, hl⟩
  | @opq _ _ _ p _ _ _ _ hmem hj hno hk hpath =>
    rcases hpath with h | h
    · exact ⟨_, _, _, h, .opq hmem hj hno, by rw [hk]; trivial⟩
    · exact ⟨[], _, _, h.trans (eraseIdx_prefix p _ []), .opqSilent hmem (List.mem_of_getElem? hj) hno,
        by rw [hk]; trivial⟩

/-- the original the describer reports for `e`: `e` itself, or the Optional around it (then the actual type is not Undef) -/
def OrigOK (e o a : Ty) : Prop := o = e ∨ (o = .optional e ∧ isUndef a = false)

theorem Leaf.tmReal {e o a : Ty} {p : Path} {m : Mismatch} (hl : Leaf cfg sfh e o a p m) (ho : OrigOK e o a)
    (hp : plain a = true) : TmReal cfg sfh m := by
  -- what `e` does not accept, the Optional around `e` does not either: the reported actual type is plain and not Undef
  have orig : ∀ act, Unaccepted cfg sfh e a act → asg cfg sfh o act = false := by
    intro act ⟨hu, hact⟩
    rcases ho with rfl | ⟨rfl, hua⟩
    · exact (hact hp).2
    · rw [asg_optional_plain cfg sfh (hact hp).1 (hu hua)]; exact (hact hp).2
  cases m with
  | typeMismatch q x act =>
    obtain ⟨hx, hun⟩ := hl.tm
    intro t ht
    rcases hx with rfl | rfl <;> cases ht
    · exact orig act hun
    · exact (hun.2 hp).2
  | patternMismatch q t act =>
    obtain ⟨rfl, hun⟩ := hl.tm
    exact orig act hun
  | _ => trivial

/-- where nothing is merged, a reported mismatch is what one arm reports itself (`Leaf`), at a pair reached by unwrapping Optionals and
    by steps into both types; along these a plain actual type stays plain and the original stays the expectation or the Optional around it -/
theorem Rep.leaf_of_noMerge {e o a : Ty} {p : Path} {m : Mismatch} (h : Rep cfg sfh e o a p m) (hn : noMerge e = true) :
    ∃ e' o' a' p', Leaf cfg sfh e' o' a' p' m ∧ (plain a = true → OrigOK e o a → plain a' = true ∧ OrigOK e' o' a') := by
  induction h with
  | leaf hl => exact ⟨_, _, _, _, hl, fun hp ho => ⟨hp, ho⟩⟩
  | @opt t o _ _ _ hu _ ih =>
    obtain ⟨e', o', a', p', hl, hk⟩ := ih hn
    refine ⟨e', o', a', p', hl, fun hp ho => hk hp ?_⟩
    have hal : isAlias o = false := by rcases ho with rfl | ⟨rfl, _⟩ <;> rfl
    rw [hal]
    exact .inr ⟨rfl, hu⟩
  | sub hs _ ih =>
    obtain ⟨e', o', a', p', hl, hk⟩ := ih (hs.noMerge hn)
    exact ⟨e', o', a', p', hl, fun hp _ => hk (hs.plain hp) (.inl rfl)⟩
  | alias | params | ret | blk => cases hn
  | member hmem | opq hmem => rw [members_noMerge hmem] at hn; cases hn

theorem Rep.sizeReal {e o a : Ty} {p : Path} {m : Mismatch} (h : Rep cfg sfh e o a p m) (hn : noMerge e = true) : SizeReal m := by
  obtain ⟨_, _, _, _, hl, _⟩ := h.leaf_of_noMerge hn
  exact hl.sizeReal

theorem Rep.tmReal {e o a : Ty} {p : Path} {m : Mismatch} (h : Rep cfg sfh e o a p m) (hn : noMerge e = true)
    (hp : plain a = true) (ho : OrigOK e o a) : TmReal cfg sfh m := by
  obtain ⟨_, _, _, _, hl, hk⟩ := h.leaf_of_noMerge hn
  exact hl.tmReal (hk hp ho).2 (hk hp ho).1

end
end Pcore.Desc

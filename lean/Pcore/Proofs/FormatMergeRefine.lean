import Pcore.Proofs.FormatXEmbed
/-!
# The 16-key model of `mergeFormats` IS the general one on the 16 default keys

`Format.lean` models the merge of a user's map with the defaults over the 16-key table (`contextMap`, `mergeMaps`, `sortEntries`, …);
`FormatMergeG.lean` models it over any key order (`contextMapG`, …).  Here: on maps keyed by the 16 default types, re-keyed by
`XKey.base`, the general definitions instantiated with `xkeyOrd` compute the same map entry by entry (`MapEq`), at every level of
nesting — hence (with `fmtX_embed`) `new(String, v, map)` of the 16-key model and of the general model agree.
-/
namespace Pcore.Format

mutual
/-- the same tree, keys re-keyed by `XKey.base` -/
inductive TreeEq : FTree → GTree XKey → Prop
  | leaf (f : Fmt) : TreeEq (.mk f none) (.mk f none)
  | node (f : Fmt) (m : FMap) (m' : GMap XKey) : MapEq m m' → TreeEq (.mk f (some m)) (.mk f (some m'))
inductive MapEq : FMap → GMap XKey → Prop
  | nil : MapEq [] []
  | cons (k : Key) (t : FTree) (t' : GTree XKey) (m : FMap) (m' : GMap XKey) :
      TreeEq t t' → MapEq m m' → MapEq ((k, t) :: m) ((.base k, t') :: m')
end

mutual
theorem TreeEq.toRel : ∀ {t : FTree} {t' : GTree XKey}, TreeEq t t' → TreeRel t t'
  | _, _, .leaf f => TreeRel.leaf f
  | _, _, .node f m m' h => TreeRel.node f m m' (MapEq.toRel h)
theorem MapEq.toRel : ∀ {m : FMap} {m' : GMap XKey}, MapEq m m' → MapRel m m'
  | _, _, .nil => MapRel.nil
  | _, _, .cons k t t' m m' ht hm => MapRel.cons k t t' m m' (TreeEq.toRel ht) (MapEq.toRel hm)
end

theorem TreeEq.f_eq {t : FTree} {t' : GTree XKey} (h : TreeEq t t') : t'.f = t.f := by cases h <;> rfl

/-- the container formats of related trees are related (`none` with `none`) -/
inductive OptMapEq : Option FMap → Option (GMap XKey) → Prop
  | none : OptMapEq none none
  | some (m : FMap) (m' : GMap XKey) : MapEq m m' → OptMapEq (some m) (some m')

theorem TreeEq.cf {t : FTree} {t' : GTree XKey} (h : TreeEq t t') : OptMapEq t.cf t'.cf := by
  cases h with
  | leaf f => exact OptMapEq.none
  | node f m m' hm => exact OptMapEq.some m m' hm

theorem TreeEq.mk' (f : Fmt) {cf : Option FMap} {cf' : Option (GMap XKey)} (h : OptMapEq cf cf') : TreeEq (.mk f cf) (.mk f cf') := by
  cases h with
  | none => exact TreeEq.leaf f
  | some m m' hm => exact TreeEq.node f m m' hm

theorem MapEq.keys : ∀ {m : FMap} {m' : GMap XKey}, MapEq m m' → m'.map (·.1) = (m.map (·.1)).map XKey.base
  | _, _, .nil => rfl
  | _, _, .cons k t t' m m' _ hm => by simp [MapEq.keys hm]

theorem MapEq.length : ∀ {m : FMap} {m' : GMap XKey}, MapEq m m' → m'.length = m.length
  | _, _, .nil => rfl
  | _, _, .cons k t t' m m' _ hm => by simp [MapEq.length hm]

theorem lookup_eq : ∀ {m : FMap} {m' : GMap XKey}, MapEq m m' → ∀ k : Key,
    (lookupKey m k = none ∧ lookupG xkeyOrd m' (.base k) = none) ∨
    (∃ t t', lookupKey m k = some t ∧ lookupG xkeyOrd m' (.base k) = some t' ∧ TreeEq t t')
  | _, _, .nil, k => Or.inl ⟨rfl, rfl⟩
  | _, _, .cons k0 t t' m m' ht hm, k => by
    unfold lookupKey lookupG
    simp only [List.find?_cons, xkeyOrd_eqv_base]
    by_cases h : k0 = k
    · subst h
      simp only [decide_true, beq_self_eq_true, Option.map_some]
      exact Or.inr ⟨t, t', rfl, rfl, ht⟩
    · have h1 : decide (k0 = k) = false := by simpa using h
      have h2 : (k0 == k) = false := by simpa using h
      simp only [h1, h2]
      have ih := lookup_eq hm k
      unfold lookupKey lookupG at ih
      exact ih

theorem any_sub_eq (hi : List Key) (k : Key) :
    ((hi.map XKey.base).any (fun h => !xkeyOrd.eqv h (.base k) && xkeyOrd.sub h (.base k))) =
      hi.any (fun h => h != k && Key.sub h k) := by
  induction hi with
  | nil => rfl
  | cons x xs ih =>
    simp only [List.map_cons, List.any_cons, ih, xkeyOrd_eqv_base, xkeyOrd_sub_base]
    rfl

theorem normLower_eq : ∀ {lo : FMap} {lo' : GMap XKey}, MapEq lo lo' → ∀ {hi : FMap} {hi' : GMap XKey}, MapEq hi hi' →
    MapEq (normLowerOf lo hi) (normLowerOfG xkeyOrd lo' hi')
  | _, _, .nil, _, _, _ => MapEq.nil
  | _, _, .cons k t t' m m' ht hm, hi, hi', hh => by
    have ih := normLower_eq hm hh
    have hkeys := MapEq.keys hh
    unfold normLowerOf normLowerOfG at *
    simp only [List.filter_cons, hkeys, any_sub_eq] at ih ⊢
    split
    · exact MapEq.cons k t t' _ _ ht ih
    · exact ih

theorem mergedKeys_eq {lo : FMap} {lo' : GMap XKey} (hl : MapEq lo lo') {hi : FMap} {hi' : GMap XKey} (hh : MapEq hi hi') :
    mergedKeysG xkeyOrd lo' hi' = (mergedKeys lo hi).map XKey.base := by
  unfold mergedKeysG mergedKeys
  rw [MapEq.keys (normLower_eq hl hh), MapEq.keys hh, ← List.map_append, dedup_eq]

theorem mergedEntries_eq (mt : FTree → FTree → FTree) (mt' : GTree XKey → GTree XKey → GTree XKey)
    (hmt : ∀ l h l' h', TreeEq l l' → TreeEq h h' → TreeEq (mt l h) (mt' l' h'))
    {lo : FMap} {lo' : GMap XKey} (hl : MapEq lo lo') {hi : FMap} {hi' : GMap XKey} (hh : MapEq hi hi') :
    MapEq (mergedEntries mt lo hi) (mergedEntriesG xkeyOrd mt' lo' hi') := by
  unfold mergedEntries mergedEntriesG
  rw [mergedKeys_eq hl hh]
  generalize mergedKeys lo hi = ks
  induction ks with
  | nil => exact MapEq.nil
  | cons k ks ih =>
    simp only [List.map_cons, List.filterMap_cons]
    rcases lookup_eq (normLower_eq hl hh) k with ⟨h1, h1'⟩ | ⟨l, l', h1, h1', hl1⟩ <;>
      rcases lookup_eq hh k with ⟨h2, h2'⟩ | ⟨h, h', h2, h2', hh2⟩ <;> simp only [h1, h1', h2, h2']
    · exact ih
    · exact MapEq.cons k h h' _ _ hh2 ih
    · exact MapEq.cons k l l' _ _ hl1 ih
    · exact MapEq.cons k _ _ _ _ (hmt l h l' h' hl1 hh2) ih

theorem insSorted_eq (keys : List Key) (k : Key) (t : FTree) (t' : GTree XKey) (ht : TreeEq t t') :
    ∀ {m : FMap} {m' : GMap XKey}, MapEq m m' →
      MapEq (insSorted (fun a b => entryLess keys a.1 b.1) (k, t) m)
        (insSorted (fun a b => entryLessG xkeyOrd (keys.map XKey.base) a.1 b.1) (.base k, t') m')
  | _, _, .nil => MapEq.cons k t t' [] [] ht MapEq.nil
  | _, _, .cons k0 t0 t0' m m' ht0 hm => by
    simp only [insSorted, entryLess_eq_G]
    split
    · exact MapEq.cons k t t' _ _ ht (MapEq.cons k0 t0 t0' m m' ht0 hm)
    · exact MapEq.cons k0 t0 t0' _ _ ht0 (insSorted_eq keys k t t' ht hm)

theorem insertionSort_eq (keys : List Key) : ∀ {m : FMap} {m' : GMap XKey}, MapEq m m' →
    MapEq (insertionSort (fun a b => entryLess keys a.1 b.1) m)
      (insertionSort (fun a b => entryLessG xkeyOrd (keys.map XKey.base) a.1 b.1) m')
  | _, _, .nil => MapEq.nil
  | _, _, .cons k t t' m m' ht hm => by
    simp only [insertionSort, List.foldr_cons]
    exact insSorted_eq keys k t t' ht (insertionSort_eq keys hm)

theorem sortEntries_eq {m : FMap} {m' : GMap XKey} (h : MapEq m m') : MapEq (sortEntries m) (sortEntriesG xkeyOrd m') := by
  unfold sortEntries sortEntriesG
  rw [MapEq.keys h]
  exact insertionSort_eq _ h

theorem mergeTree_mergeMaps_eq : ∀ (fuel : Nat),
    (∀ l h l' h', TreeEq l l' → TreeEq h h' → TreeEq (mergeTree fuel l h) (mergeTreeG xkeyOrd fuel l' h')) ∧
    (∀ lo hi lo' hi', OptMapEq lo lo' → OptMapEq hi hi' → OptMapEq (mergeMaps fuel lo hi) (mergeMapsG xkeyOrd fuel lo' hi'))
  | 0 => ⟨fun _ _ _ _ _ hh => by simpa [mergeTree, mergeTreeG] using hh,
          fun _ _ _ _ _ hh => by simpa [mergeMaps, mergeMapsG] using hh⟩
  | fuel + 1 => by
    have ih := mergeTree_mergeMaps_eq fuel
    constructor
    · intro l h l' h' hl hh
      simp only [mergeTree, mergeTreeG, hl.f_eq, hh.f_eq]
      exact TreeEq.mk' _ (ih.2 _ _ _ _ hl.cf hh.cf)
    · intro lo hi lo' hi' hl hh
      cases hl with
      | none => simpa [mergeMaps, mergeMapsG] using hh
      | some lm lm' hlm =>
        cases hlm with
        | nil => simpa [mergeMaps, mergeMapsG] using hh
        | cons k t t' m m' ht hm =>
          cases hh with
          | none => simpa [mergeMaps, mergeMapsG] using OptMapEq.some _ _ (MapEq.cons k t t' m m' ht hm)
          | some hm0 hm0' hhm =>
            cases hhm with
            | nil => simpa [mergeMaps, mergeMapsG] using OptMapEq.some _ _ (MapEq.cons k t t' m m' ht hm)
            | cons k2 t2 t2' m2 m2' ht2 hm2 =>
              simp only [mergeMaps, mergeMapsG]
              exact OptMapEq.some _ _ (sortEntries_eq (mergedEntries_eq _ _ ih.1
                (MapEq.cons k t t' m m' ht hm) (MapEq.cons k2 t2 t2' m2 m2' ht2 hm2)))

theorem dcf_eq : ∀ n, MapEq (dcf n) (dcfG XKey.base n)
  | 0 => by
    simp only [dcf, dcfG, defaultCFG]
    iterate 8 refine MapEq.cons _ _ _ _ _ (TreeEq.leaf _) ?_
    exact MapEq.nil
  | n + 1 => by
    have ih := dcf_eq n
    simp only [dcf, dcfG]
    refine MapEq.cons _ _ _ _ _ (TreeEq.node _ _ _ ih) ?_
    refine MapEq.cons _ _ _ _ _ (TreeEq.node _ _ _ ih) ?_
    refine MapEq.cons _ _ _ _ _ (TreeEq.leaf _) ?_
    refine MapEq.cons _ _ _ _ _ (TreeEq.leaf _) ?_
    refine MapEq.cons _ _ _ _ _ (TreeEq.node _ _ _ ih) ?_
    refine MapEq.cons _ _ _ _ _ (TreeEq.node _ _ _ ih) ?_
    refine MapEq.cons _ _ _ _ _ (TreeEq.leaf _) ?_
    refine MapEq.cons _ _ _ _ _ (TreeEq.leaf _) ?_
    exact MapEq.nil

theorem defaultFormats_eq (n : Nat) : MapEq (defaultFormats n) (defaultFormatsG XKey.base n) := by
  have ih := dcf_eq n
  simp only [defaultFormats, defaultFormatsG]
  refine MapEq.cons _ _ _ _ _ (TreeEq.node _ _ _ ih) ?_
  refine MapEq.cons _ _ _ _ _ (TreeEq.node _ _ _ ih) ?_
  refine MapEq.cons _ _ _ _ _ (TreeEq.leaf _) ?_
  refine MapEq.cons _ _ _ _ _ (TreeEq.leaf _) ?_
  refine MapEq.cons _ _ _ _ _ (TreeEq.node _ _ _ ih) ?_
  refine MapEq.cons _ _ _ _ _ (TreeEq.node _ _ _ ih) ?_
  refine MapEq.cons _ _ _ _ _ (TreeEq.leaf _) ?_
  refine MapEq.cons _ _ _ _ _ (TreeEq.leaf _) ?_
  exact MapEq.nil

/-- `newFormatContext3`: the 16-key model and the general model build the same map -/
theorem contextMap_eq {user : FMap} {user' : GMap XKey} (h : MapEq user user') :
    MapEq (contextMap user) (contextMapG xkeyOrd XKey.base user') := by
  unfold contextMap contextMapG
  have := (mergeTree_mergeMaps_eq (2 * mergeDepth + 2)).2 _ _ _ _ (OptMapEq.some _ _ (defaultFormats_eq mergeDepth))
    (OptMapEq.some _ _ h)
  generalize mergeMaps (2 * mergeDepth + 2) (some (defaultFormats mergeDepth)) (some user) = r at this
  generalize mergeMapsG xkeyOrd (2 * mergeDepth + 2) (some (defaultFormatsG XKey.base mergeDepth)) (some user') = r' at this
  cases this with
  | none => exact MapEq.nil
  | some m m' hm => exact hm

end Pcore.Format

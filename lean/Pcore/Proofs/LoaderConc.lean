import Pcore.Model.LoaderConc
import Pcore.Proofs.LoaderSeq
/-! Invariants of the loaders' interleaving model (`Model/LoaderConc.lean`, C13).  The shared state is handled through C12's `Grows`
    (`Proofs/LoaderSeq.lean`); `Mono` is its part about bindings.  In order: what a thread knows about the shared state (`WalkOK`,
    `LogOK`) is stable under growth; every step grows the shared state, whatever the thread is doing (`stepThread_grows`); the thread
    that steps re-establishes what it knows (`stepThread_inv`), hence `Inv_step` and the invariants of reachable configurations; last,
    what the deterministic scheduler executes is reachable (`reachable_…`, for the witnesses of Props/C13). -/
namespace Pcore.LoaderConc
open Pcore.LoaderSeq

/-- the shared state only grows: the hierarchy is fixed and a binding, once made, stays what it is -/
def Mono (s s' : Sys) : Prop :=
  s'.ps = s.ps ∧ s'.es.length = s.es.length ∧ ∀ l k v, bound s l k = some v → bound s' l k = some v

theorem Mono.refl (s : Sys) : Mono s s := ⟨rfl, rfl, fun _ _ _ h => h⟩

theorem Mono.trans {a b c : Sys} (h1 : Mono a b) (h2 : Mono b c) : Mono a c :=
  ⟨h2.1.trans h1.1, h2.2.1.trans h1.2.1, fun l k v h => h2.2.2 l k v (h1.2.2 l k v h)⟩

theorem _root_.Pcore.LoaderSeq.Grows.mono {s s' : Sys} (h : Grows s s') : Mono s s' := ⟨h.ps, h.length, h.keeps⟩

/-- what a continuation knows about the shared state -/
def WalkOK (s : Sys) : PC → Prop
  | .loadWalk l _ todo (.searching nones last) => (chain s.ps l).reverse = nones ++ todo ∧ last.join = none
  | .loadWalk l n todo (.foundAt nones x v) =>
    (∃ skipped, (chain s.ps l).reverse = nones ++ x :: skipped ++ todo) ∧ bound s x (canon n) = some v
  | .getHold l k (some (some v)) => bound s l k = some v
  | _ => True

theorem walkOK_getHold {s : Sys} {l : Nat} {k : Key} {e : Option (Option V)} :
    WalkOK s (.getHold l k e) ↔ ∀ v, e = some (some v) → bound s l k = some v := by
  rcases e with _ | _ | v <;> simp [WalkOK]

theorem srcOf_eq_some {l : Nat} {k : Key} {e : Option (Option V)} {x : Nat} {k' : Key} {v : V} :
    srcOf l k e = some (x, k', v) ↔ x = l ∧ k' = k ∧ e = some (some v) := by
  rcases e with _ | _ | w <;> simp [srcOf, eq_comm]

def LogOK (s : Sys) (log : List (Ans × Src)) : Prop :=
  (∀ e ∈ log, ∀ x k v, e.2 = some (x, k, v) → bound s x k = some v) ∧
  (∀ e ∈ log, e.1 ≠ .fault) ∧
  (∀ e ∈ log, ∀ v, e.1 = .found v → ∃ x k, e.2 = some (x, k, v))

theorem LogOK.src {s : Sys} {log : List (Ans × Src)} (h : LogOK s log) :
    ∀ e ∈ log, ∀ x k v, e.2 = some (x, k, v) → bound s x k = some v := h.1
theorem LogOK.no_fault {s : Sys} {log : List (Ans × Src)} (h : LogOK s log) : ∀ e ∈ log, e.1 ≠ .fault := h.2.1
theorem LogOK.found_src {s : Sys} {log : List (Ans × Src)} (h : LogOK s log) :
    ∀ e ∈ log, ∀ v, e.1 = .found v → ∃ x k, e.2 = some (x, k, v) := h.2.2

def ThreadInv (s : Sys) (t : Thread) : Prop := WalkOK s t.pc ∧ LogOK s t.log

def Inv (c : Config) : Prop := ∀ t ∈ c.th, ThreadInv c.sh t

theorem WalkOK_mono {s s' : Sys} (h : Mono s s') (pc : PC) (hw : WalkOK s pc) : WalkOK s' pc := by
  cases pc with
  | loadWalk l n todo st =>
    cases st with
    | searching nones last => simp only [WalkOK] at hw ⊢; rw [h.1]; exact hw
    | foundAt nones x v => simp only [WalkOK] at hw ⊢; rw [h.1]; exact ⟨hw.1, h.2.2 _ _ _ hw.2⟩
  | getHold l k e => exact walkOK_getHold.mpr fun v he => h.2.2 _ _ _ (walkOK_getHold.mp hw v he)
  | _ => trivial

theorem LogOK_mono {s s' : Sys} (h : Mono s s') (log : List (Ans × Src)) (hl : LogOK s log) : LogOK s' log :=
  ⟨fun e he x k v hs => h.2.2 _ _ _ (hl.src e he x k v hs), hl.no_fault, hl.found_src⟩

theorem LogOK_snoc {s : Sys} {log : List (Ans × Src)} (hl : LogOK s log) (e : Ans × Src)
    (h1 : ∀ x k v, e.2 = some (x, k, v) → bound s x k = some v) (h2 : e.1 ≠ .fault)
    (h3 : ∀ v, e.1 = .found v → ∃ x k, e.2 = some (x, k, v)) : LogOK s (log ++ [e]) := by
  simp only [LogOK, List.mem_append, List.mem_singleton, or_imp, forall_and, forall_eq]
  exact ⟨⟨hl.src, h1⟩, ⟨hl.no_fault, h2⟩, ⟨hl.found_src, h3⟩⟩

theorem LogOK_snoc_plain {s : Sys} {log : List (Ans × Src)} (hl : LogOK s log) (a : Ans)
    (hf : a ≠ .fault := by simp) (hv : ∀ v, a ≠ .found v := by simp) : LogOK s (log ++ [(a, none)]) :=
  LogOK_snoc hl _ (fun _ _ _ hs => nomatch hs) hf fun v h => absurd h (hv v)

theorem LogOK_snoc_src {s : Sys} {log : List (Ans × Src)} (hl : LogOK s log) (a : Ans) (x : Nat) (k : Key) (v : V)
    (hb : bound s x k = some v) (hf : a ≠ .fault) (hv : ∀ w, a = .found w → w = v) :
    LogOK s (log ++ [(a, some (x, k, v))]) := by
  refine LogOK_snoc hl _ (fun x' k' v' hs => ?_) hf fun w hw => ⟨x, k, by rw [hv w hw]⟩
  cases hs
  exact hb

theorem walkLevel_ok (s : Sys) (l : Nat) (n : Name) (x : Nat) (todo : List Nat) (st : WalkSt)
    (h : WalkOK s (.loadWalk l n (x :: todo) st)) : WalkOK s (.loadWalk l n todo (walkLevel s (canon n) x st)) := by
  cases st with
  | searching nones last =>
    simp only [WalkOK] at h
    simp only [walkLevel]
    split
    · rename_i v hv
      simp only [WalkOK]
      exact ⟨⟨[], by rw [List.append_assoc]; exact h.1⟩, bound_eq_some_iff.mpr hv⟩
    · rename_i e hne
      simp only [WalkOK]
      refine ⟨by rw [List.append_assoc]; exact h.1, ?_⟩
      generalize lk (canon n) (s.ents x) = o at hne ⊢
      rcases o with _ | _ | v
      · rfl
      · rfl
      · exact absurd rfl (hne v)
  | foundAt nones y v =>
    simp only [WalkOK] at h
    simp only [walkLevel, WalkOK]
    obtain ⟨⟨sk, hs⟩, hb⟩ := h
    exact ⟨⟨sk ++ [x], by rw [hs]; simp only [List.append_assoc, List.cons_append, List.nil_append]⟩, hb⟩

theorem setEntry_none_res (es : Ents) (k : Key) : (setEntry es k none).2 = .stored ∨ (setEntry es k none).2 = .kept := by
  cases hj : (lk k es).join with
  | none => rw [setEntry_unbound _ _ _ hj]; exact Or.inl rfl
  | some v => rw [setEntry_bound _ _ v none hj]; exact Or.inr rfl

/-- the third branch of `missStep` is dead: offering a placeholder never raises -/
theorem missStep_eq (s : Sys) (l : Nat) (k : Key) :
    missStep s l k = (s.setEnts l (setEntry (s.ents l) k none).1, .notfound) := by
  unfold missStep
  split
  · rfl
  · rfl
  · rename_i h1 h2
    rcases setEntry_none_res (s.ents l) k with h | h
    · exact absurd h h1
    · exact absurd h h2

theorem startOp_grows (s : Sys) (log : List (Ans × Src)) (rest : List Op) (op : Op) : Grows s (startOp s log rest op).1 := by
  cases op with
  | load l n => simp only [startOp]; split <;> exact .refl s
  | define l n v => exact step_grows s (.define l n v)
  | has l n => exact .refl s
  | get l n => exact .refl s
  | discover l p => exact .refl s

/-- whatever the thread that steps is doing, the shared state is left alone, or changed by the critical section of a definition or
    by the placeholder of a miss -/
theorem stepThread_grows (s : Sys) (t : Thread) : Grows s (stepThread s t).1 := by
  unfold stepThread
  split
  · split
    · exact .refl s
    · exact startOp_grows s _ _ _
  · exact .refl s
  · exact .refl s
  · exact .refl s
  · exact .refl s
  · rw [missStep_eq]; exact grows_setEntry s _ _ none
  · split <;> exact .refl s
  · exact .refl s
  · exact .refl s
  · split <;> exact .refl s
  · exact .refl s

theorem stepAt_grows (c : Config) (i : Nat) : Grows c.sh (stepAt c i).sh := by
  unfold stepAt
  cases c.th[i]? with
  | none => exact .refl _
  | some t => exact stepThread_grows c.sh t

theorem stepAt_mono (c : Config) (i : Nat) : Mono c.sh (stepAt c i).sh := (stepAt_grows c i).mono

theorem define_ans (s : Sys) (l : Nat) (n : Name) (v : V) :
    (define s l n v).2 ≠ .fault ∧ ∀ w, (define s l n v).2 ≠ .found w := by
  unfold define
  split <;> exact ⟨by simp, by simp⟩

theorem startOp_inv (s : Sys) (log : List (Ans × Src)) (rest : List Op) (op : Op) (hl : LogOK s log) :
    ThreadInv (startOp s log rest op).1 (startOp s log rest op).2 := by
  cases op with
  | load l n =>
    simp only [startOp]
    split
    · exact ⟨trivial, LogOK_snoc_plain hl _⟩
    · exact ⟨by simp [WalkOK], hl⟩
  | define l n v =>
    simp only [startOp]
    have ha := define_ans s l n v
    exact ⟨trivial, LogOK_snoc_plain (LogOK_mono (step_grows s (.define l n v)).mono _ hl) _ ha.1 ha.2⟩
  | has l n => exact ⟨trivial, hl⟩
  | get l n => exact ⟨walkOK_getHold.mpr fun _ he => bound_eq_some_iff.mpr he, hl⟩
  | discover l p => exact ⟨trivial, hl⟩

theorem stepThread_inv (s : Sys) (t : Thread) (ht : ThreadInv s t) : ThreadInv (stepThread s t).1 (stepThread s t).2 := by
  obtain ⟨hw, hl⟩ := ht
  unfold stepThread
  split
  · split
    · exact ⟨hw, hl⟩
    · exact startOp_inv s t.log _ _ hl
  · rename_i l n x todo st hpc
    rw [hpc] at hw
    exact ⟨walkLevel_ok s l n x todo st hw, hl⟩
  · exact ⟨trivial, hl⟩
  · exact ⟨trivial, LogOK_snoc_plain hl _⟩
  · rename_i l n nones x v hpc
    rw [hpc] at hw
    simp only [WalkOK] at hw
    exact ⟨trivial, LogOK_snoc_src hl _ x (canon n) v hw.2 (by simp) (by intro w hw'; cases hw'; rfl)⟩
  · rename_i l n hpc
    refine ⟨trivial, ?_⟩
    rw [missStep_eq]
    exact LogOK_snoc_plain (LogOK_mono (grows_setEntry s l (canon n) none).mono _ hl) _
  · split
    · exact ⟨trivial, LogOK_snoc_plain hl _⟩
    · exact ⟨trivial, hl⟩
  · exact ⟨trivial, LogOK_snoc_plain hl _⟩
  · rename_i l k e hpc
    rw [hpc] at hw
    refine ⟨trivial, LogOK_snoc hl _ (fun x k' v hs => ?_) (by simp) (fun v h => nomatch h)⟩
    obtain ⟨rfl, rfl, he⟩ := srcOf_eq_some.mp hs
    exact walkOK_getHold.mp hw v he
  · split
    · exact ⟨trivial, LogOK_snoc_plain hl _⟩
    · exact ⟨trivial, hl⟩
  · exact ⟨trivial, LogOK_snoc_plain hl _⟩

/-- not used below: `stepThread_grows` and `stepThread_inv` in one statement -/
theorem stepThread_spec (s : Sys) (t : Thread) (ht : ThreadInv s t) :
    Mono s (stepThread s t).1 ∧ ThreadInv (stepThread s t).1 (stepThread s t).2 :=
  ⟨(stepThread_grows s t).mono, stepThread_inv s t ht⟩

theorem stepAt_threads {P : Sys → Thread → Prop} (c : Config) (i : Nat) (h : ∀ t ∈ c.th, P c.sh t)
    (hmove : ∀ t ∈ c.th, P (stepThread c.sh t).1 (stepThread c.sh t).2)
    (hrest : ∀ t ∈ c.th, ∀ t', P c.sh t' → P (stepThread c.sh t).1 t') :
    ∀ t' ∈ (stepAt c i).th, P (stepAt c i).sh t' := by
  unfold stepAt
  cases hi : c.th[i]? with
  | none => exact h
  | some t =>
    have ht := List.mem_of_getElem? hi
    intro t' ht'
    rcases List.mem_or_eq_of_mem_set ht' with h1 | rfl
    · exact hrest t ht t' (h t' h1)
    · exact hmove t ht

theorem Inv_step (c : Config) (i : Nat) (hi : Inv c) : Inv (stepAt c i) :=
  stepAt_threads c i hi (fun t ht => stepThread_inv c.sh t (hi t ht))
    (fun t _ _ h' =>
      have hm := (stepThread_grows c.sh t).mono
      ⟨WalkOK_mono hm _ h'.1, LogOK_mono hm _ h'.2⟩)

theorem init_threads {ps : List (Option Nat)} {progs : List (List Op)} {P : Thread → Prop}
    (h : ∀ p, P { pc := .idle, ops := p, log := [] }) : ∀ t ∈ (Config.init ps progs).th, P t := by
  intro t ht
  obtain ⟨p, _, rfl⟩ := List.mem_map.mp ht
  exact h p

theorem Inv_init (ps : List (Option Nat)) (progs : List (List Op)) : Inv (Config.init ps progs) :=
  init_threads fun _ => ⟨trivial, by simp [LogOK]⟩

theorem Reachable.invariant {P : Config → Prop} (hstep : ∀ c i, P c → P (stepAt c i)) {c0 c : Config} (h0 : P c0)
    (h : Reachable c0 c) : P c := by
  induction h with
  | init => exact h0
  | step i _ ih => exact hstep _ i ih

theorem Inv_reachable {c0 c : Config} (h0 : Inv c0) (h : Reachable c0 c) : Inv c :=
  Reachable.invariant Inv_step h0 h

theorem Mono_reachable {c0 c : Config} (h : Reachable c0 c) : Mono c0.sh c.sh :=
  Reachable.invariant (P := fun c => Mono c0.sh c.sh) (fun c i hc => hc.trans (stepAt_mono c i)) (Mono.refl _) h

theorem Reachable.trans {a b c : Config} (h1 : Reachable a b) (h2 : Reachable b c) : Reachable a c :=
  Reachable.invariant (fun _ i h => Reachable.step i h) h1 h2

theorem reachable_runToYield (c0 : Config) (fuel : Nat) (c : Config) (i : Nat) (h : Reachable c0 c) :
    Reachable c0 (runToYield fuel c i) := by
  induction fuel generalizing c with
  | zero => exact h
  | succ f ih =>
    simp only [runToYield]
    split
    · exact h
    · split
      · exact h
      · exact ih _ (Reachable.step i h)

theorem reachable_release (c0 c : Config) (i : Nat) (h : Reachable c0 c) : Reachable c0 (release c i) := by
  unfold release
  split
  · exact h
  · split
    · exact h
    · exact reachable_runToYield c0 _ _ i (Reachable.step i h)

theorem reachable_runSched (c0 c : Config) (sched : List Nat) (h : Reachable c0 c) : Reachable c0 (runSched c sched) := by
  induction sched generalizing c with
  | nil => exact h
  | cons i rest ih => exact ih _ (reachable_release c0 c i h)

theorem reachable_drainThread (c0 : Config) (fuel : Nat) (c : Config) (i : Nat) (h : Reachable c0 c) :
    Reachable c0 (drainThread fuel c i) := by
  induction fuel generalizing c with
  | zero => exact h
  | succ f ih =>
    simp only [drainThread]
    split
    · exact h
    · split
      · exact h
      · exact ih _ (reachable_release c0 c i h)

theorem reachable_drainAll (c0 c : Config) (h : Reachable c0 c) : Reachable c0 (drainAll c) := by
  unfold drainAll
  generalize List.range c.th.length = is
  induction is generalizing c with
  | nil => exact h
  | cons i rest ih => exact ih _ (reachable_drainThread c0 _ c i h)

theorem reachable_execute (ps : List (Option Nat)) (progs : List (List Op)) (sched : List Nat) :
    Reachable (Config.init ps progs) (execute ps progs sched) :=
  reachable_drainAll _ _ (reachable_runSched _ _ sched Reachable.init)

end Pcore.LoaderConc

import Pcore.Proofs.FilesDeep
/-!
C15, type sets, on `FilesDeep`.  `instantiate` of a type-set file resolves every member — each is first looked up through the
context's loader (a complete miss on every loader of the route, each recording it with a placeholder), then defined over the
placeholder of the context's loader — and finally defines the type set itself.  In this order: the keys of the members are
distinct; the state the loop leaves (`memberStep`, `membersBy`) read back; what the loop needs of its state (`MemInv`) and of
the tree (`MemHyp`); the loop, once (`resolveTS_route`: the loaders that record the miss are a parameter); its instance for a
TOP-LEVEL file loader that is the context's loader (the global loader; a module's loader in the flat topology) —
`FilesTypesetChild` and `FilesTypesetDep` hold the other two routes; `MemHyp` decidably and the state a whole load leaves
(`typesetState`), for closed examples.
-/
namespace Pcore.Files

theorem memberKey_ne {nm : Name} {t u : String} (h : lowerS t ≠ lowerS u) : keyOf (nm ++ [t]) ≠ keyOf (nm ++ [u]) := by
  rw [keyOf_append, keyOf_append]
  intro hk
  have := List.append_cancel_left hk
  simp [keyOf] at this
  exact h this

theorem memberKey_ne_name {name nm : Name} (hkey : keyOf nm = keyOf name) (t : String) : keyOf (nm ++ [t]) ≠ keyOf name :=
  fun h => keyOf_ne_of_length (by simp) (hkey ▸ h)

theorem memberKey_ne_of_nodup {nm : Name} {t u : String} {rest : List String} (hnd : ((t :: rest).map lowerS).Nodup)
    (hu : u ∈ rest) : keyOf (nm ++ [u]) ≠ keyOf (nm ++ [t]) :=
  memberKey_ne (fun h => (List.nodup_cons.mp hnd).1 (h ▸ List.mem_map_of_mem hu))

/-! ## the state the member loop leaves, read back: a member's key holds its definition in the context's loader and a
placeholder in the recording loaders; other keys, other loaders and the read log are untouched -/

/-- one member resolved: the loaders `holders` have recorded the miss, the context's loader `via` holds the definition
    (over its own record of the miss) -/
def memberStep (holders : List Lid) (via : Lid) (k : Key) (d : Def) (σ : St) : St :=
  (holders.foldl (fun σ l => σ.put l k none) σ).put via k (some d)

/-- the members `ts` of `nm` (positions from `i`) resolved -/
def membersBy (holders : List Lid) (via : Lid) (nm : Name) : List String → Nat → St → St
  | [], _, σ => σ
  | t :: rest, i, σ =>
    membersBy holders via nm rest (i+1) (memberStep holders via (keyOf (nm ++ [t])) ⟨kindAt i, nm ++ [t]⟩ σ)

theorem placeholders_get (k : Key) (l' : Lid) (k' : Key) : ∀ (holders : List Lid) (σ : St),
    (holders.foldl (fun σ l => σ.put l k none) σ).get l' k' = if k' = k ∧ l' ∈ holders then some none else σ.get l' k'
  | [], σ => by simp
  | l :: ls, σ => by
    rw [List.foldl_cons, placeholders_get k l' k' ls, get_put]
    by_cases hk : k' = k <;> by_cases hl : l' = l <;> by_cases hm : l' ∈ ls <;> simp [hk, hl, hm]

theorem memberStep_get (holders : List Lid) (via : Lid) (k : Key) (d : Def) (σ : St) (l' : Lid) (k' : Key) :
    (memberStep holders via k d σ).get l' k' =
      if k' = k ∧ l' = via then some (some d) else if k' = k ∧ l' ∈ holders then some none else σ.get l' k' := by
  rw [memberStep, get_put, placeholders_get]
  by_cases hk : k' = k <;> by_cases hl : l' = via <;> simp [hk, hl]

theorem memberStep_get_other (holders : List Lid) (via : Lid) {k k' : Key} (h : k' ≠ k) (d : Def) (σ : St) (l' : Lid) :
    (memberStep holders via k d σ).get l' k' = σ.get l' k' := by
  rw [memberStep_get, if_neg (fun h' => h h'.1), if_neg (fun h' => h h'.1)]

theorem memberStep_reads (holders : List Lid) (via : Lid) (k : Key) (d : Def) (σ : St) :
    (memberStep holders via k d σ).reads = σ.reads := by
  rw [memberStep, reads_put]
  induction holders generalizing σ with
  | nil => rfl
  | cons l ls ih => rw [List.foldl_cons, ih]; rfl

section
variable (holders : List Lid) (via : Lid) (nm : Name)

theorem membersBy_reads : ∀ (ts : List String) (i : Nat) (σ : St), (membersBy holders via nm ts i σ).reads = σ.reads
  | [], _, _ => rfl
  | t :: rest, i, σ => by rw [membersBy, membersBy_reads rest, memberStep_reads]

theorem membersBy_get_other (l' : Lid) (k' : Key) : ∀ (ts : List String) (i : Nat) (σ : St),
    (∀ t ∈ ts, k' ≠ keyOf (nm ++ [t])) → (membersBy holders via nm ts i σ).get l' k' = σ.get l' k'
  | [], _, _, _ => rfl
  | t :: rest, i, σ, h => by
    rw [membersBy, membersBy_get_other l' k' rest _ _ (fun u hu => h u (List.mem_cons_of_mem _ hu)),
      memberStep_get_other _ _ (h t List.mem_cons_self)]

theorem membersBy_get_outside (l' : Lid) (h1 : l' ≠ via) (h2 : l' ∉ holders) (k' : Key) :
    ∀ (ts : List String) (i : Nat) (σ : St), (membersBy holders via nm ts i σ).get l' k' = σ.get l' k'
  | [], _, _ => rfl
  | t :: rest, i, σ => by
    rw [membersBy, membersBy_get_outside l' h1 h2 k' rest, memberStep_get, if_neg (fun h => h1 h.2),
      if_neg (fun h => h2 h.2)]

theorem membersBy_get_member (l' : Lid) : ∀ (ts : List String) (i : Nat) (σ : St) (j : Nat) (t : String),
    (ts.map lowerS).Nodup → ts[j]? = some t →
    (membersBy holders via nm ts i σ).get l' (keyOf (nm ++ [t])) =
      if l' = via then some (some ⟨kindAt (i + j), nm ++ [t]⟩) else if l' ∈ holders then some none
      else σ.get l' (keyOf (nm ++ [t]))
  | [], _, _, j, t, _, h => by simp at h
  | u :: rest, i, σ, 0, t, hnd, h => by
    simp only [List.getElem?_cons_zero, Option.some.injEq] at h
    subst h
    rw [membersBy, membersBy_get_other holders via nm l' _ rest _ _ (fun v hv => (memberKey_ne_of_nodup hnd hv).symm),
      memberStep_get]
    simp
  | u :: rest, i, σ, j+1, t, hnd, h => by
    simp only [List.getElem?_cons_succ] at h
    rw [membersBy, membersBy_get_member l' rest (i+1) _ j t (List.nodup_cons.mp hnd).2 h,
      memberStep_get_other _ _ (memberKey_ne_of_nodup hnd (List.mem_of_getElem? h)), show i + 1 + j = i + (j + 1) by omega]

end

/-! ## what the loop needs: `MemInv` of the running state (kept by each step), `MemHyp` of the tree and the start state -/

section
variable (cfg : Cfg) (l : Lid) (nm : Name)

/-- what the resolution of the members needs, as a predicate on the running state `σ`: the type set's own key holds the
    placeholder, nothing that was cached is lost, the members still to come are fresh -/
structure MemInv (s1 σ : St) (ts : List String) : Prop where
  holder : σ.get l (keyOf nm) = some none
  mono : ∀ k, s1.get l k ≠ none → σ.get l k ≠ none
  fresh : ∀ t ∈ ts, σ.get l (keyOf (nm ++ [t])) = none

/-- static hypotheses on a type set `nm` with members `ts` in loader `l`, stated on the state `s1` in which the member
    resolution starts: members are no core types, have no files of their own, are addressable; the proper prefixes of the
    type set's name are cached or without origin; the `init_typeset` route is closed for the members -/
structure MemHyp (s1 : St) (ts : List String) : Prop where
  nonempty : nm ≠ []
  nodup : (ts.map lowerS).Nodup
  noStatic : ∀ t ∈ ts, sysLoad (nm ++ [t]) = none
  noOrigin : ∀ t ∈ ts, idx cfg l (keyOf (nm ++ [t])) = []
  valid : l.moduleName = "" ∨ ∀ t ∈ ts, (partsOf (nm ++ [t])).isSome
  init : isGlobalMod l.moduleName = true ∨ idx cfg l ["init_typeset"] = [] ∨ s1.get l (keyOf (nm.take 1)) ≠ none
  ancestors : ∀ x, x ≠ [] → x <+: nm → x ≠ nm → s1.get l (keyOf x) ≠ none ∨ idx cfg l (keyOf x) = []
end

theorem member_quiet {cfg : Cfg} {l : Lid} {nm : Name} {s1 σ : St} {ts : List String} {t : String}
    (hh : MemHyp cfg l nm s1 (t :: ts)) (hi : MemInv l nm s1 σ (t :: ts)) : QuietAnc cfg l σ (nm ++ [t]) :=
  quietAnc_of_parent (List.prefix_append nm [t]) (by simp) hh.nonempty (hi.fresh t List.mem_cons_self)
    (hh.valid.imp id (fun h => h t List.mem_cons_self)) (hh.init.imp id (Or.imp id (hi.mono _)))
    (Or.inl (by rw [hi.holder]; nofun)) (fun x hx hp hne => (hh.ancestors x hx hp hne).imp (hi.mono _) id)

theorem memInv_step {l : Lid} {nm : Name} {s1 σ σ' : St} {t : String} {rest : List String}
    (hi : MemInv l nm s1 σ (t :: rest)) (hnd : ((t :: rest).map lowerS).Nodup)
    (hother : ∀ k, k ≠ keyOf (nm ++ [t]) → σ'.get l k = σ.get l k)
    (hthis : σ'.get l (keyOf (nm ++ [t])) ≠ none) : MemInv l nm s1 σ' rest := by
  refine ⟨?_, ?_, fun u hu => ?_⟩
  · rw [hother _ (keyOf_ne_of_length (by simp))]; exact hi.holder
  · intro k0 h0
    by_cases hk0 : k0 = keyOf (nm ++ [t])
    · rw [hk0]; exact hthis
    · rw [hother k0 hk0]; exact hi.mono k0 h0
  · rw [hother _ (memberKey_ne_of_nodup hnd hu)]
    exact hi.fresh u (List.mem_cons_of_mem _ hu)

theorem memInv_start {l l0 : Lid} {name nm : Name} {ts : List String} {p : Path} {s : St} (hkey : keyOf nm = keyOf name)
    (hholder : l = l0 ∨ s.get l (keyOf name) = some none) (hfresh : ∀ t ∈ ts, s.get l (keyOf (nm ++ [t])) = none) :
    MemInv l nm ((s.put l0 (keyOf name) none).addRead p) ((s.put l0 (keyOf name) none).addRead p) ts := by
  refine ⟨?_, fun _ h => h, fun t ht => ?_⟩
  · rw [hkey, get_addRead, get_put]
    split
    · rfl
    · next hne => exact hholder.resolve_left (fun h => hne (by rw [h]))
  · rw [get_addRead, get_put_key (memberKey_ne_name hkey t)]; exact hfresh t ht

theorem memHyp_tail {cfg : Cfg} {l : Lid} {nm : Name} {s1 : St} {t : String} {rest : List String}
    (hh : MemHyp cfg l nm s1 (t :: rest)) : MemHyp cfg l nm s1 rest :=
  ⟨hh.nonempty, (List.nodup_cons.mp (by simpa using hh.nodup)).2,
    fun u hu => hh.noStatic u (List.mem_cons_of_mem _ hu), fun u hu => hh.noOrigin u (List.mem_cons_of_mem _ hu),
    hh.valid.imp id (fun h u hu => h u (List.mem_cons_of_mem _ hu)), hh.init, hh.ancestors⟩

/-! ## the member loop, once for all routes -/

/-- `resolveTypeSet` over fresh members, on any route.  `holders` record the miss of a member before the context's loader
    does (`hmiss`: what the lookup of a member that is quiet in the file loaders `fls` of the route — and, with `dep`, not
    cached by the dependency loader — answers and leaves behind); each member costs that miss and one definition over
    the placeholder of the context's loader -/
theorem resolveTS_route (cfg : Cfg) (nm : Name) (s1 : St) (holders fls : List Lid) (dep : Bool) (N : Nat)
    (hfls : ∀ l ∈ fls, l = cfg.via ∨ l ∈ holders)
    (hmiss : ∀ (t : String) (σ : St) (n : Nat), N ≤ n → sysLoad (nm ++ [t]) = none →
      (∀ l ∈ fls, QuietAnc cfg l σ (nm ++ [t]) ∧ idx cfg l (keyOf (nm ++ [t])) = []) →
      (dep = true → σ.get .d (keyOf (nm ++ [t])) = none) →
      loadEntry n cfg cfg.via (nm ++ [t]) σ =
        .ok (some none) ((holders.foldl (fun σ l => σ.put l (keyOf (nm ++ [t])) none) σ).put cfg.via (keyOf (nm ++ [t])) none)) :
    ∀ (ts : List String) (i : Nat) (σ : St) (k : Nat), N + ts.length ≤ k → (ts.map lowerS).Nodup →
      (∀ t ∈ ts, sysLoad (nm ++ [t]) = none) → (∀ l ∈ fls, MemHyp cfg l nm s1 ts) → (∀ l ∈ fls, MemInv l nm s1 σ ts) →
      (dep = true → ∀ t ∈ ts, σ.get .d (keyOf (nm ++ [t])) = none) →
      resolveTS (k+1) cfg nm ts i σ = .ok () (membersBy holders cfg.via nm ts i σ) ∧
      ∀ l ∈ fls, MemInv l nm s1 (membersBy holders cfg.via nm ts i σ) [] := by
  intro ts
  induction ts with
  | nil => exact fun i σ k _ _ _ _ hi _ => ⟨rfl, hi⟩
  | cons t rest ih =>
    intro i σ k hk hnd hsys hh hi hdf
    obtain ⟨k', rfl⟩ : ∃ k', k = k' + 1 := ⟨k - 1, by simp only [List.length_cons] at hk; omega⟩
    simp only [List.length_cons] at hk
    have hload := hmiss t σ (k'+1) (by omega) (hsys t List.mem_cons_self)
      (fun l hl => ⟨member_quiet (hh l hl) (hi l hl), (hh l hl).noOrigin t List.mem_cons_self⟩)
      (fun hd => hdf hd t List.mem_cons_self)
    have hnd' := List.nodup_cons.mp (by simpa using hnd : (lowerS t :: rest.map lowerS).Nodup)
    have hi' : ∀ l ∈ fls, MemInv l nm s1 (memberStep holders cfg.via (keyOf (nm ++ [t])) ⟨kindAt i, nm ++ [t]⟩ σ) rest := by
      intro l hl
      refine memInv_step (hi l hl) hnd ?_ ?_
      · intro k0 hk0
        rw [memberStep_get_other _ _ hk0]
      · rw [memberStep_get]
        rcases hfls l hl with h | h
        · rw [if_pos ⟨rfl, h⟩]; intro h'; cases h'
        · split
          · intro h'; cases h'
          · rw [if_pos ⟨rfl, h⟩]; intro h'; cases h'
    obtain ⟨ih1, ih2⟩ := ih (i+1) _ k' (by omega) hnd'.2
      (fun u hu => hsys u (List.mem_cons_of_mem _ hu)) (fun l hl => memHyp_tail (hh l hl)) hi'
      (fun hd u hu => by
        rw [memberStep_get_other _ _ (memberKey_ne_of_nodup hnd hu)]
        exact hdf hd u (List.mem_cons_of_mem _ hu))
    refine ⟨?_, ih2⟩
    rw [membersBy, ← ih1]
    simp only [resolveTS_cons, resolveMember, bind, hload, setEntry, get_put_self, put_put, memberStep]

/-! ## a top-level file loader as the context's loader: no other loader records the miss of a member -/

/-- the state after the members `ts` (positions from `i`) of the type set `nm` have been defined in loader `l` -/
def defineMembers (l : Lid) (nm : Name) : List String → Nat → St → St
  | [], _, σ => σ
  | t :: rest, i, σ => defineMembers l nm rest (i+1) (σ.put l (keyOf (nm ++ [t])) (some ⟨kindAt i, nm ++ [t]⟩))

theorem defineMembers_eq (l : Lid) (nm : Name) : ∀ (ts : List String) (i : Nat) (σ : St),
    defineMembers l nm ts i σ = membersBy [] l nm ts i σ
  | [], _, _ => rfl
  | _ :: rest, i, _ => defineMembers_eq l nm rest (i+1) _

theorem resolveTS_fresh (cfg : Cfg) (l : Lid) (hv : cfg.via = l) (hl : TopLevel cfg l) (nm : Name) (s1 : St) :
    ∀ (ts : List String) (i : Nat) (σ : St) (k : Nat), 3 * (nm.length + 1) + ts.length ≤ k →
      MemHyp cfg l nm s1 ts → MemInv l nm s1 σ ts →
      resolveTS (k+3) cfg nm ts i σ = .ok () (defineMembers l nm ts i σ) ∧
      MemInv l nm s1 (defineMembers l nm ts i σ) [] := by
  intro ts i σ k hk hh hi
  subst hv
  have h := resolveTS_route cfg nm s1 [] [cfg.via] false (3 * (nm.length + 1) + 2) (fun l hl => Or.inl (List.mem_singleton.mp hl))
    (fun t σ n hn hsys hq _ => by
      obtain ⟨f, rfl⟩ : ∃ f, n = f + 2 := ⟨n - 2, by omega⟩
      obtain ⟨hq, hidx⟩ := hq cfg.via (List.mem_singleton.mpr rfl)
      rw [loadEntry_file hl.ne_d]
      exact fbLoadEntry_top_miss cfg _ hl σ _ (by simp) hsys hq hidx f (by simp; omega))
    ts i σ (k+2) (by omega) hh.nodup hh.noStatic (fun l hl => List.mem_singleton.mp hl ▸ hh)
    (fun l hl => List.mem_singleton.mp hl ▸ hi) (fun h => by cases h)
  rw [defineMembers_eq]
  exact ⟨h.1, h.2 _ (List.mem_singleton.mpr rfl)⟩

theorem instantiate_typeset (cfg : Cfg) (l : Lid) (hv : cfg.via = l) (hl : TopLevel cfg l) (name nm : Name)
    (ts : List String) (p : Path) (ps : List Path) (s : St) (k : Nat)
    (hk : 3 * (nm.length + 1) + ts.length ≤ k)
    (hb : bodyAt cfg.tree p = some (.typ .typeset nm ts)) (hkey : keyOf nm = keyOf name)
    (hget : s.get l (keyOf name) = none)
    (hh : MemHyp cfg l nm ((s.put l (keyOf name) none).addRead p) ts)
    (hfresh : ∀ t ∈ ts, s.get l (keyOf (nm ++ [t])) = none) :
    instantiate (k+6) cfg l name (p :: ps) s =
      .ok (some (some ⟨.typeset, nm⟩))
        ((defineMembers l nm ts 0 ((s.put l (keyOf name) none).addRead p)).put l (keyOf name) (some ⟨.typeset, nm⟩)) := by
  obtain ⟨hres, hinv⟩ := resolveTS_fresh cfg l hv hl nm _ ts 0 _ k hk hh (memInv_start hkey (Or.inl rfl) hfresh)
  have hholder := hkey ▸ hinv.holder
  rw [instantiate_typeset_of cfg l name nm ts p ps s _ (k+3) hb hkey hget hres (by rw [hv, hholder]; intro d h; cases h), hv,
    get_put_self]

/-! ## for closed examples: `MemHyp` as a check, and the state a type-set load leaves with what it holds for a member -/

/-- `MemHyp`, decidably (for closed examples) -/
def memHypB (cfg : Cfg) (l : Lid) (nm : Name) (s1 : St) (ts : List String) : Bool :=
  !nm.isEmpty && decide ((ts.map lowerS).Nodup) &&
  ts.all (fun t => (sysLoad (nm ++ [t])).isNone && (idx cfg l (keyOf (nm ++ [t]))).isEmpty) &&
  (l.moduleName = "" || ts.all fun t => (partsOf (nm ++ [t])).isSome) &&
  (isGlobalMod l.moduleName || (idx cfg l ["init_typeset"]).isEmpty || (s1.get l (keyOf (nm.take 1))).isSome) &&
  (List.range nm.length).all fun i =>
    i = 0 || (s1.get l (keyOf (nm.take i))).isSome || (idx cfg l (keyOf (nm.take i))).isEmpty

theorem memHyp_of_check {cfg : Cfg} {l : Lid} {nm : Name} {s1 : St} {ts : List String}
    (h : memHypB cfg l nm s1 ts = true) : MemHyp cfg l nm s1 ts := by
  unfold memHypB at h
  simp only [Bool.and_eq_true, Bool.or_eq_true, decide_eq_true_eq, List.all_eq_true, List.mem_range,
    Option.isNone_iff_eq_none, List.isEmpty_iff, Bool.not_eq_true'] at h
  obtain ⟨⟨⟨⟨⟨h0, h1⟩, h2⟩, h3⟩, h4⟩, h5⟩ := h
  exact ⟨fun hn => by rw [hn] at h0; simp at h0, h1, fun t ht => (h2 t ht).1, fun t ht => (h2 t ht).2, h3, init_of_check h4,
    ancestors_of_check h5⟩

/-- the state a type-set load leaves behind: placeholder, read, the members, the type set over the placeholder -/
def typesetState (l : Lid) (name nm : Name) (ts : List String) (p : Path) (s : St) : St :=
  (defineMembers l nm ts 0 ((s.put l (keyOf name) none).addRead p)).put l (keyOf name) (some ⟨.typeset, nm⟩)

theorem typesetState_reads (l : Lid) (name nm : Name) (ts : List String) (p : Path) (s : St) :
    (typesetState l name nm ts p s).reads = s.reads ++ [p] := by
  rw [typesetState, reads_put, defineMembers_eq, membersBy_reads]
  rfl

theorem typesetState_member (l : Lid) (name nm : Name) (ts : List String) (p : Path) (s : St)
    (hkey : keyOf nm = keyOf name) (hnd : (ts.map lowerS).Nodup) (j : Nat) (t : String) (ht : ts[j]? = some t) :
    (typesetState l name nm ts p s).get l (keyOf (nm ++ [t])) = some (some ⟨kindAt j, nm ++ [t]⟩) := by
  rw [typesetState, get_put_key (memberKey_ne_name hkey t), defineMembers_eq,
    membersBy_get_member [] l nm l ts 0 _ j t hnd ht, if_pos rfl, Nat.zero_add]

end Pcore.Files

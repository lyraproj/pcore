import Pcore.Proofs.ValueEqVer
import Pcore.Proofs.Digits
/-! Helper lemmas for C07: the printed form of a version (`version.ToString`) and the normalized form of a version range
    (`versionRange.ToNormalizedString`) determine the parsed data — so the keys `[1,'v'] ++ verStr v` and
    `[1,'R'] ++ normStr rs` are equal exactly when `Equals` holds.  Every injectivity here comes from one tool, `split_unique`
    (as `append_sep_pred` / `append_sep_byte` on bytes): a prefix free of the separator, followed by nothing or by the separator,
    splits off in one way only; it is stated for any list, and `append_sep` is the form the type keys use (`Proofs/ValueEqTyKey`).
    In order: decimal digits; the splitting lemma; `joinB`; well-formed versions (`segOk`, `verOk`) and `verStr`; bounds, ranges
    and `normStr`; what `NewVersion3` returns is well-formed. -/
namespace Pcore.ValueEq

/-! ### decimal digits: `natStr` is injective, and `parseInt64` reads `intStr` back -/

theorem digit_facts : ∀ d, d < 10 → isDigit (UInt8.ofNat (48 + d)) = true ∧ (UInt8.ofNat (48 + d)).toNat - 48 = d := by decide

theorem decDigits_eq_map (f n : Nat) (h : n ≤ f) : decDigits f n = (Digits.digits 10 n).map fun d => UInt8.ofNat (48 + d) :=
  Digits.map_digits_of_fuel (by decide) _ decDigits rfl (fun _ _ => rfl) f n h

theorem natStr_eq_map (n : Nat) : natStr n = (Digits.digits 10 n).map fun d => UInt8.ofNat (48 + d) :=
  decDigits_eq_map n n (Nat.le_refl n)

theorem digitsAcc_decDigits : ∀ f n, n ≤ f → digitsAcc 0 (decDigits f n) = some n := fun f n h => by
  rw [decDigits_eq_map f n h]
  refine Digits.read_map_digits (by decide) _ (fun cs acc => digitsAcc acc cs) (fun _ => rfl) (fun x hx cs acc => ?_) n
  have hf := digit_facts x hx
  show digitsAcc acc (UInt8.ofNat (48 + x) :: cs) = digitsAcc (acc * 10 + x) cs
  rw [digitsAcc, if_pos hf.1, hf.2]

theorem natStr_ne_nil (n : Nat) : natStr n ≠ [] := by
  rw [natStr_eq_map]; simpa using Digits.digits_ne_nil (by decide) n

theorem natStr_digits (n : Nat) : ∀ c ∈ natStr n, isDigit c = true := by
  rw [natStr_eq_map]
  exact Digits.forall_map_digits (by decide) _ (fun k hk => (digit_facts k hk).1) n

theorem digitsVal_natStr (n : Nat) : digitsVal (natStr n) = some n := by
  cases hd : natStr n with
  | nil => exact absurd hd (natStr_ne_nil n)
  | cons c cs =>
    simp only [digitsVal]
    rw [← hd]
    exact digitsAcc_decDigits n n (Nat.le_refl _)

theorem natStr_inj {a b : Nat} (h : natStr a = natStr b) : a = b := by
  have := digitsVal_natStr a
  rw [h, digitsVal_natStr] at this
  exact (Option.some.inj this).symm

theorem parseInt64_intStr (i : Int) (h1 : -9223372036854775808 ≤ i) (h2 : i ≤ 9223372036854775807) :
    parseInt64 (intStr i) = some i := by
  unfold intStr
  split
  · rename_i hneg
    have hn : (i.natAbs : Int) = -i := Int.ofNat_natAbs_of_nonpos (by omega)
    generalize i.natAbs = n at hn ⊢
    simp only [parseInt64, ↓reduceIte, digitsVal_natStr]
    have hle : n ≤ 9223372036854775808 := by omega
    rw [if_pos hle]
    have e : -(n : Int) = i := by omega
    rw [e, if_neg (by decide)]
  · rename_i hpos
    have hn : (i.natAbs : Int) = i := Int.natAbs_of_nonneg (by omega)
    generalize i.natAbs = n at hn ⊢
    have hne := natStr_ne_nil n
    have hdig := natStr_digits n
    have hv := digitsVal_natStr n
    cases hs : natStr n with
    | nil => exact absurd hs hne
    | cons c r =>
      rw [hs] at hdig hv
      have hc : isDigit c = true := hdig c List.mem_cons_self
      have c1 : c ≠ 0x2b := by intro e; subst e; exact absurd hc (by decide)
      have c2 : c ≠ 0x2d := by intro e; subst e; exact absurd hc (by decide)
      simp only [parseInt64]
      rw [if_neg c1, if_neg c2, hv]
      have hlt : n < 9223372036854775808 := by omega
      simp only [if_pos hlt]
      congr 1

/-! ### the splitting lemma: a prefix free of the separator splits off in one way only -/

/-- `x` is empty or starts with a byte satisfying `P` -/
def Starts (P : UInt8 → Bool) (x : Bytes) : Prop := x = [] ∨ ∃ c r, x = c :: r ∧ P c = true

/-- a prefix free of `P`-elements followed by a tail that is empty or starts with a `P`-element can be split in one way only -/
theorem split_unique {α : Type} {P : α → Prop} : ∀ {a a' x x' : List α}, (∀ c ∈ a, ¬ P c) → (∀ c ∈ a', ¬ P c) →
    (∀ c ∈ x.head?, P c) → (∀ c ∈ x'.head?, P c) → a ++ x = a' ++ x' → a = a' ∧ x = x'
  | [], [], _, _, _, _, _, _, h => ⟨rfl, h⟩
  | [], b :: bs, _, _, _, hb, hx, _, h => by
      subst h; exact absurd (hx b rfl) (hb b List.mem_cons_self)
  | b :: bs, [], _, _, hb, _, _, hx', h => by
      subst h; exact absurd (hx' b rfl) (hb b List.mem_cons_self)
  | b :: bs, b' :: bs', _, _, hb, hb', hx, hx', h => by
      have h2 := List.cons.inj (h : b :: (bs ++ _) = b' :: (bs' ++ _))
      have := split_unique (fun c hc => hb c (List.mem_cons_of_mem _ hc)) (fun c hc => hb' c (List.mem_cons_of_mem _ hc)) hx hx' h2.2
      exact ⟨by rw [h2.1, this.1], this.2⟩

theorem append_sep {α : Type} {P : α → Prop} {A B S S' : List α} (hA : ∀ a ∈ A, P a) (hB : ∀ b ∈ B, P b)
    (hS : ∀ s ∈ S, ¬ P s) (hS' : ∀ s ∈ S', ¬ P s) : A ++ S = B ++ S' ↔ A = B ∧ S = S' :=
  ⟨split_unique (P := fun a => ¬ P a) (fun a ha h => h (hA a ha)) (fun b hb h => h (hB b hb))
      (fun c hc => hS c (List.mem_of_mem_head? hc)) (fun c hc => hS' c (List.mem_of_mem_head? hc)),
    fun ⟨h1, h2⟩ => by rw [h1, h2]⟩

theorem Starts.head {P : UInt8 → Bool} {x : Bytes} (h : Starts P x) : ∀ c ∈ x.head?, P c = true := by
  rcases h with rfl | ⟨c, r, rfl, hc⟩
  · exact fun _ h => nomatch h
  · intro d hd; cases hd; exact hc

theorem Starts.nil {P : UInt8 → Bool} : Starts P [] := Or.inl rfl

theorem Starts.cons {P : UInt8 → Bool} {c : UInt8} (h : P c = true) (r : Bytes) : Starts P (c :: r) := Or.inr ⟨c, r, rfl, h⟩

theorem append_sep_pred {P : UInt8 → Bool} : ∀ {a a' x x' : Bytes}, (∀ c ∈ a, P c = false) → (∀ c ∈ a', P c = false) →
    Starts P x → Starts P x' → a ++ x = a' ++ x' → a = a' ∧ x = x' :=
  fun ha ha' hx hx' h =>
    split_unique (P := fun c => P c = true) (fun c hc => by simp [ha c hc]) (fun c hc => by simp [ha' c hc]) hx.head hx'.head h

theorem append_sep_byte {k : UInt8} {a a' x x' : Bytes} (ha : k ∉ a) (ha' : k ∉ a') (hx : Starts (· == k) x) (hx' : Starts (· == k) x')
    (h : a ++ x = a' ++ x') : a = a' ∧ x = x' :=
  split_unique (P := (· = k)) (fun _ hc e => ha (e ▸ hc)) (fun _ hc e => ha' (e ▸ hc))
    (fun c hc => by simpa using hx.head c hc) (fun c hc => by simpa using hx'.head c hc) h

/-! ### `joinB`: non-empty parts free of the separator can be read back from the joined string -/

/-- what follows the first part in `writeParts` -/
def joinTail (c : UInt8) : List Bytes → Bytes
  | [] => []
  | r :: rs => c :: joinB c (r :: rs)

theorem joinB_cons (c : UInt8) (r : Bytes) (rs : List Bytes) : joinB c (r :: rs) = r ++ joinTail c rs := by
  cases rs <;> simp [joinB, joinTail]

theorem joinTail_starts (c : UInt8) (rs : List Bytes) : Starts (fun b => b == c) (joinTail c rs) := by
  cases rs
  · exact Starts.nil
  · exact Starts.cons (by simp) _

theorem joinB_cons_ne_nil (c : UInt8) {p : Bytes} (hp : p ≠ []) (ps : List Bytes) : joinB c (p :: ps) ≠ [] := by
  rw [joinB_cons]; exact fun h => hp (List.append_eq_nil_iff.mp h).1

theorem joinB_inj (c : UInt8) : ∀ {ps qs : List Bytes}, (∀ p ∈ ps, p ≠ [] ∧ c ∉ p) → (∀ q ∈ qs, q ≠ [] ∧ c ∉ q) →
    joinB c ps = joinB c qs → ps = qs
  | [], [], _, _, _ => rfl
  | [], q :: qs, _, hq, h => absurd h.symm (joinB_cons_ne_nil c (hq q List.mem_cons_self).1 qs)
  | p :: ps, [], hp, _, h => absurd h (joinB_cons_ne_nil c (hp p List.mem_cons_self).1 ps)
  | p :: ps, q :: qs, hp, hq, h => by
      rw [joinB_cons, joinB_cons] at h
      obtain ⟨rfl, ht⟩ := append_sep_byte (hp p List.mem_cons_self).2 (hq q List.mem_cons_self).2
        (joinTail_starts c ps) (joinTail_starts c qs) h
      -- the tails agree: both empty, or the same separator in front of the joined rest
      match ps, qs, ht with
      | [], [], _ => rfl
      | p' :: ps, q' :: qs, ht =>
        rw [joinB_inj c (fun x hx => hp x (List.mem_cons_of_mem _ hx)) (fun x hx => hq x (List.mem_cons_of_mem _ hx))
          (List.cons.inj ht).2]

/-! ### well-formed versions (`segOk`, `verOk`): a part is printed without `.`, `+`, space or `|`, so `verStr` is injective on them -/

/-- a pre-release part as `mungePart` makes it: an int64, or a `[0-9A-Za-z-]+` string that `ParseInt` rejects -/
def segOk : Seg → Bool
  | .num i => decide (-9223372036854775808 ≤ i) && decide (i ≤ 9223372036854775807)
  | .txt s => partOk s && (parseInt64 s).isNone

/-- a version as `NewVersion3` makes it (and `semver.Min`): the numbers are Go ints, the parts match the part patterns -/
def verOk (v : Ver) : Bool :=
  (decide (v.major < 9223372036854775808) && decide (v.minor < 9223372036854775808) && decide (v.patch < 9223372036854775808)) &&
  (match v.pre with | none => true | some ps => ps.all segOk) &&
  (match v.build with | none => true | some ps => ps.all partOk)

theorem partChar_facts : ∀ c : UInt8, isPartChar c = true → c ≠ 0x2e ∧ c ≠ 0x2b ∧ c ≠ 0x20 ∧ c ≠ 0x7c := by
  intro c h
  refine ⟨?_, ?_, ?_, ?_⟩ <;> (intro e; subst e; exact absurd h (by decide))

theorem partOk_facts {p : Bytes} (h : partOk p = true) : p ≠ [] ∧ ∀ c ∈ p, isPartChar c = true := by
  simp only [partOk, Bool.and_eq_true, Bool.not_eq_true', List.isEmpty_eq_false_iff, List.all_eq_true] at h
  exact h

theorem partOk_sep {p : Bytes} (h : partOk p = true) : p ≠ [] ∧ (0x2e : UInt8) ∉ p :=
  ⟨(partOk_facts h).1, fun hm => (partChar_facts _ ((partOk_facts h).2 _ hm)).1 rfl⟩

theorem digit_partChar {c : UInt8} (h : isDigit c = true) : isPartChar c = true := by simp [isPartChar, h]

theorem intStr_facts (i : Int) : intStr i ≠ [] ∧ ∀ c ∈ intStr i, isPartChar c = true := by
  unfold intStr
  split
  · refine ⟨by simp, ?_⟩
    intro c hc
    rcases List.mem_cons.mp hc with e | hc
    · subst e; decide
    · exact digit_partChar (natStr_digits _ c hc)
  · exact ⟨natStr_ne_nil _, fun c hc => digit_partChar (natStr_digits _ c hc)⟩

theorem segStr_facts {s : Seg} (h : segOk s = true) : segStr s ≠ [] ∧ ∀ c ∈ segStr s, isPartChar c = true := by
  cases s with
  | num i => exact intStr_facts i
  | txt t =>
    simp only [segOk, Bool.and_eq_true] at h
    exact partOk_facts h.1

theorem segStr_sep {s : Seg} (h : segOk s = true) : segStr s ≠ [] ∧ (0x2e : UInt8) ∉ segStr s :=
  ⟨(segStr_facts h).1, fun hm => (partChar_facts _ ((segStr_facts h).2 _ hm)).1 rfl⟩

/-- `mungePart` reads a printed part back: printing is a right inverse of the function that makes the parts -/
theorem mungePart_segStr {s : Seg} (h : segOk s = true) : mungePart (segStr s) = s := by
  cases s with
  | num i =>
    simp only [segOk, Bool.and_eq_true, decide_eq_true_eq] at h
    simp only [mungePart, segStr, parseInt64_intStr i h.1 h.2]
  | txt t =>
    simp only [segOk, Bool.and_eq_true, Option.isNone_iff_eq_none] at h
    simp only [mungePart, segStr, h.2]

theorem segStr_inj {a b : Seg} (ha : segOk a = true) (hb : segOk b = true) (h : segStr a = segStr b) : a = b := by
  rw [← mungePart_segStr ha, h, mungePart_segStr hb]

theorem map_segStr_inj : ∀ {ps qs : List Seg}, (∀ p ∈ ps, segOk p = true) → (∀ q ∈ qs, segOk q = true) →
    ps.map segStr = qs.map segStr → ps = qs
  | [], [], _, _, _ => rfl
  | [], _ :: _, _, _, h => by simp at h
  | _ :: _, [], _, _, h => by simp at h
  | p :: ps, q :: qs, hp, hq, h => by
      simp only [List.map_cons, List.cons.injEq] at h
      rw [segStr_inj (hp p List.mem_cons_self) (hq q List.mem_cons_self) h.1,
        map_segStr_inj (fun x hx => hp x (List.mem_cons_of_mem _ hx)) (fun x hx => hq x (List.mem_cons_of_mem _ hx)) h.2]

/-- the part of the printed version after the patch number -/
def verTail (v : Ver) : Bytes :=
  (match v.pre with | none => [] | some ps => 0x2d :: joinB 0x2e (ps.map segStr)) ++
  (match v.build with | none => [] | some ps => 0x2b :: joinB 0x2e ps)

theorem verStr_eq (v : Ver) : verStr v = natStr v.major ++ 0x2e :: (natStr v.minor ++ 0x2e :: (natStr v.patch ++ verTail v)) := rfl

theorem joinB_chars (c : UInt8) {P : UInt8 → Prop} (hc : P c) : ∀ ps : List Bytes, (∀ p ∈ ps, ∀ x ∈ p, P x) → ∀ x ∈ joinB c ps, P x
  | [], _, x, hx => by simp [joinB] at hx
  | [p], h, x, hx => by simp only [joinB] at hx; exact h p List.mem_cons_self x hx
  | p :: q :: ps, h, x, hx => by
      simp only [joinB, List.mem_append, List.mem_cons] at hx
      rcases hx with hx | hx | hx
      · exact h p List.mem_cons_self x hx
      · rw [hx]; exact hc
      · exact joinB_chars c hc (q :: ps) (fun p' hp' => h p' (List.mem_cons_of_mem _ hp')) x hx

/-- the optional pre-release / build part of a printed version: nothing, or the lead byte and the dot-separated parts -/
def optTail (c : UInt8) : Option (List Bytes) → Bytes
  | none => []
  | some ps => c :: joinB 0x2e ps

theorem verTail_eq (v : Ver) : verTail v = optTail 0x2d (v.pre.map (·.map segStr)) ++ optTail 0x2b v.build := by
  unfold verTail; cases v.pre <;> cases v.build <;> rfl

theorem optTail_starts {P : UInt8 → Bool} {c : UInt8} (hc : P c = true) (o : Option (List Bytes)) : Starts P (optTail c o) := by
  cases o
  · exact Starts.nil
  · exact Starts.cons hc _

theorem optTail_chars {P : UInt8 → Prop} {c : UInt8} (hc : P c) (hd : P 0x2e) {o : Option (List Bytes)}
    (h : ∀ ps, o = some ps → ∀ p ∈ ps, ∀ x ∈ p, P x) : ∀ x ∈ optTail c o, P x := by
  cases o with
  | none => exact fun _ hx => nomatch hx
  | some ps =>
    intro x hx
    rcases List.mem_cons.mp hx with e | hx
    · rw [e]; exact hc
    · exact joinB_chars 0x2e hd ps (h ps rfl) x hx

theorem optTail_inj (c : UInt8) {o o' : Option (List Bytes)} (h : ∀ ps, o = some ps → ∀ p ∈ ps, p ≠ [] ∧ (0x2e : UInt8) ∉ p)
    (h' : ∀ ps, o' = some ps → ∀ p ∈ ps, p ≠ [] ∧ (0x2e : UInt8) ∉ p) (e : optTail c o = optTail c o') : o = o' := by
  cases o <;> cases o'
  · rfl
  · cases e
  · cases e
  · rw [joinB_inj 0x2e (h _ rfl) (h' _ rfl) (List.cons.inj e).2]

theorem verOk_parts {v : Ver} (h : verOk v = true) :
    (∀ ps, v.pre = some ps → ∀ s ∈ ps, segOk s = true) ∧ (∀ ps, v.build = some ps → ∀ p ∈ ps, partOk p = true) := by
  simp only [verOk, Bool.and_eq_true] at h
  refine ⟨fun ps e => ?_, fun ps e => ?_⟩
  · have := h.1.2; rw [e] at this; exact List.all_eq_true.mp this
  · have := h.2; rw [e] at this; exact List.all_eq_true.mp this

theorem pre_parts {v : Ver} (h : ∀ ps, v.pre = some ps → ∀ s ∈ ps, segOk s = true) :
    ∀ qs, v.pre.map (·.map segStr) = some qs → ∀ p ∈ qs, ∃ s, segOk s = true ∧ p = segStr s := by
  intro qs e p hp
  cases hv : v.pre with
  | none => rw [hv] at e; cases e
  | some ps =>
    rw [hv] at e; cases e
    obtain ⟨s, hs, rfl⟩ := List.mem_map.mp hp
    exact ⟨s, h ps hv s hs, rfl⟩

theorem verStr_chars {v : Ver} (h : verOk v = true) : ∀ c ∈ verStr v, isPartChar c = true ∨ c = 0x2e ∨ c = 0x2b := by
  obtain ⟨hp, hb⟩ := verOk_parts h
  have dg : ∀ n, ∀ c ∈ natStr n, isPartChar c = true ∨ c = 0x2e ∨ c = 0x2b :=
    fun n c hc => Or.inl (digit_partChar (natStr_digits n c hc))
  intro c hc
  rw [verStr_eq, verTail_eq] at hc
  simp only [List.mem_append, List.mem_cons] at hc
  rcases hc with hc | hc | hc | hc | hc | hc | hc
  · exact dg _ c hc
  · exact Or.inr (Or.inl hc)
  · exact dg _ c hc
  · exact Or.inr (Or.inl hc)
  · exact dg _ c hc
  · refine optTail_chars (P := fun c => isPartChar c = true ∨ c = 0x2e ∨ c = 0x2b) (Or.inl (by decide)) (Or.inr (Or.inl rfl))
      (fun qs e p hq x hx => ?_) c hc
    obtain ⟨s, hs, rfl⟩ := pre_parts hp qs e p hq
    exact Or.inl ((segStr_facts hs).2 x hx)
  · exact optTail_chars (P := fun c => isPartChar c = true ∨ c = 0x2e ∨ c = 0x2b) (Or.inr (Or.inr rfl)) (Or.inr (Or.inl rfl))
      (fun ps e p hq x hx => Or.inl ((partOk_facts (hb ps e p hq)).2 x hx)) c hc

theorem verStr_inj {a b : Ver} (ha : verOk a = true) (hb : verOk b = true) (h : verStr a = verStr b) : a = b := by
  have dotfree : ∀ n, ∀ c ∈ natStr n, (fun b : UInt8 => b == 0x2e) c = false := by
    intro n c hc
    simp only [beq_eq_false_iff_ne]
    intro e; subst e; exact absurd (natStr_digits n _ hc) (by decide)
  have nondig : ∀ n, ∀ c ∈ natStr n, (fun b : UInt8 => !isDigit b) c = false := by
    intro n c hc; simp [natStr_digits n c hc]
  have stdot : ∀ r : Bytes, Starts (fun b : UInt8 => b == 0x2e) (0x2e :: r) := fun r => Starts.cons (by decide) _
  rw [verStr_eq, verStr_eq] at h
  have s1 := append_sep_pred (dotfree _) (dotfree _) (stdot _) (stdot _) h
  have s2 := append_sep_pred (dotfree _) (dotfree _) (stdot _) (stdot _) (List.cons.inj s1.2).2
  -- the tail starts with `-` or `+` (not a digit) or is empty
  have sttail : ∀ v : Ver, Starts (fun b : UInt8 => !isDigit b) (verTail v) := by
    intro v
    rw [verTail_eq]
    cases v.pre with
    | some ps => exact Starts.cons (by decide) _
    | none => exact optTail_starts (by decide) _
  have s3 := append_sep_pred (nondig _) (nondig _) (sttail a) (sttail b) (List.cons.inj s2.2).2
  obtain ⟨pa, ba⟩ := verOk_parts ha
  obtain ⟨pb, bb⟩ := verOk_parts hb
  -- pre-release part free of `+`, build part starts with `+`
  have prefree : ∀ {v : Ver}, (∀ ps, v.pre = some ps → ∀ s ∈ ps, segOk s = true) →
      ∀ c ∈ optTail 0x2d (v.pre.map (·.map segStr)), (fun b : UInt8 => b == 0x2b) c = false := fun hv c hc =>
    beq_eq_false_iff_ne.mpr (optTail_chars (P := (· ≠ 0x2b)) (by decide) (by decide) (fun qs e p hp x hx => by
      obtain ⟨s, hs, rfl⟩ := pre_parts hv qs e p hp
      exact (partChar_facts x ((segStr_facts hs).2 x hx)).2.1) c hc)
  rw [verTail_eq, verTail_eq] at s3
  have s4 := append_sep_pred (prefree pa) (prefree pb) (optTail_starts (by decide) _) (optTail_starts (by decide) _) s3.2
  have e4 : a.pre = b.pre := by
    have := optTail_inj 0x2d (fun qs e p hp => by obtain ⟨s, hs, rfl⟩ := pre_parts pa qs e p hp; exact segStr_sep hs)
      (fun qs e p hp => by obtain ⟨s, hs, rfl⟩ := pre_parts pb qs e p hp; exact segStr_sep hs) s4.1
    cases ha' : a.pre with
    | none =>
      cases hb' : b.pre with
      | none => rfl
      | some qs => rw [ha', hb'] at this; cases this
    | some ps =>
      cases hb' : b.pre with
      | none => rw [ha', hb'] at this; cases this
      | some qs => rw [ha', hb'] at this; rw [map_segStr_inj (pa _ ha') (pb _ hb') (Option.some.inj this)]
  have e5 : a.build = b.build :=
    optTail_inj 0x2b (fun ps e p hp => partOk_sep (ba ps e p hp)) (fun ps e p hp => partOk_sep (bb ps e p hp)) s4.2
  have e1 := natStr_inj s1.1
  have e2 := natStr_inj s2.1
  have e3 := natStr_inj s3.1
  cases a; cases b
  simp only at e1 e2 e3 e4 e5
  subst e1; subst e2; subst e3; subst e4; subst e5
  rfl

theorem verStr_iff {a b : Ver} (ha : verOk a = true) (hb : verOk b = true) : verStr a = verStr b ↔ verEq a b = true := by
  rw [verEq_iff]
  exact ⟨verStr_inj ha hb, fun h => by rw [h]⟩

/-! ### bounds and ranges: an operator holds no digit, a bound neither space nor `|`, so `normStr` is injective on well-formed ranges -/

def boundOk (b : Bound) : Bool := verOk b.v

def arOk : ARange → Bool
  | .simple b => boundOk b
  | .se s e => boundOk s && boundOk e

theorem opStr_inj {a b : BOp} (h : opStr a = opStr b) : a = b := by
  cases a <;> cases b <;> first | rfl | (exact absurd h (by decide))

theorem opStr_chars (o : BOp) : ∀ c ∈ opStr o, isDigit c = false ∧ c ≠ 0x20 ∧ c ≠ 0x7c := by
  cases o <;> decide

theorem verStr_starts {v : Ver} : ∃ c r, verStr v = c :: r ∧ isDigit c = true := by
  rw [verStr_eq]
  have hne := natStr_ne_nil v.major
  have hd := natStr_digits v.major
  cases hs : natStr v.major with
  | nil => exact absurd hs hne
  | cons c r => rw [hs] at hd; exact ⟨c, _, rfl, hd c List.mem_cons_self⟩

theorem boundStr_inj {a b : Bound} (ha : boundOk a = true) (hb : boundOk b = true) (h : boundStr a = boundStr b) : a = b := by
  have st : ∀ v : Ver, Starts isDigit (verStr v) := fun v => by
    obtain ⟨c, r, e, hc⟩ := verStr_starts (v := v); exact e ▸ Starts.cons hc r
  have := append_sep_pred (P := isDigit) (fun c hc => (opStr_chars a.op c hc).1) (fun c hc => (opStr_chars b.op c hc).1)
    (st a.v) (st b.v) h
  cases a; cases b
  simp only [boundOk] at ha hb this
  rw [opStr_inj this.1, verStr_inj ha hb this.2]

theorem boundStr_chars {b : Bound} (hb : boundOk b = true) : ∀ c ∈ boundStr b, c ≠ 0x20 ∧ c ≠ 0x7c := by
  intro c hc
  simp only [boundStr, List.mem_append] at hc
  rcases hc with hc | hc
  · exact (opStr_chars b.op c hc).2
  · rcases verStr_chars hb c hc with h | h | h
    · exact ⟨(partChar_facts c h).2.2.1, (partChar_facts c h).2.2.2⟩
    · subst h; decide
    · subst h; decide

theorem boundStr_head (b : Bound) : ∃ c r, boundStr b = c :: r ∧ c ≠ 0x20 ∧ c ≠ 0x7c := by
  obtain ⟨c, r, e, hc⟩ := verStr_starts (v := b.v)
  cases ho : opStr b.op with
  | nil =>
    refine ⟨c, r, by simp [boundStr, ho, e], ?_, ?_⟩ <;> (intro e'; subst e'; exact absurd hc (by decide))
  | cons d ds =>
    have := opStr_chars b.op d (by rw [ho]; exact List.mem_cons_self)
    exact ⟨d, ds ++ verStr b.v, by simp [boundStr, ho], this.2⟩

/-- what follows the first range in the normalized form -/
def normTail : List ARange → Bytes
  | [] => []
  | q :: rs => [0x20, 0x7c, 0x7c, 0x20] ++ normStr (q :: rs)

theorem normStr_cons (r : ARange) (rs : List ARange) : normStr (r :: rs) = arStr r ++ normTail rs := by
  cases rs <;> simp [normStr, normTail]

theorem normTail_starts (rs : List ARange) : Starts (fun b : UInt8 => b == 0x20) (normTail rs) := by
  cases rs
  · exact Starts.nil
  · exact Starts.cons (by decide) _

theorem normStr_cons_ne_nil (q : ARange) (qs : List ARange) : normStr (q :: qs) ≠ [] := by
  have : arStr q ≠ [] := by
    cases q with
    | simple b => obtain ⟨c, r, e, _⟩ := boundStr_head b; simp [arStr, e]
    | se s e' => obtain ⟨c, r, e, _⟩ := boundStr_head s; simp [arStr, e]
  rw [normStr_cons]
  exact fun h => this (List.append_eq_nil_iff.mp h).1

theorem normStr_inj : ∀ {rs qs : List ARange}, (∀ r ∈ rs, arOk r = true) → (∀ q ∈ qs, arOk q = true) →
    normStr rs = normStr qs → rs = qs
  | [], [], _, _, _ => rfl
  | [], q :: qs, _, _, h => absurd h.symm (normStr_cons_ne_nil q qs)
  | r :: rs, [], _, _, h => absurd h (normStr_cons_ne_nil r rs)
  | r :: rs, q :: qs, hr, hq, h => by
      have ih : normTail rs = normTail qs → rs = qs := by
        intro ht
        cases rs with
        | nil =>
          cases qs with
          | nil => rfl
          | cons _ _ => simp [normTail] at ht
        | cons r' rs' =>
          cases qs with
          | nil => simp [normTail] at ht
          | cons q' qs' =>
            simp only [normTail, List.append_cancel_left_eq] at ht
            exact normStr_inj (fun x hx => hr x (List.mem_cons_of_mem _ hx)) (fun x hx => hq x (List.mem_cons_of_mem _ hx)) ht
      have nosp : ∀ b : Bound, boundOk b = true → ∀ c ∈ boundStr b, (fun x : UInt8 => x == 0x20) c = false := by
        intro b hb c hc
        simp only [beq_eq_false_iff_ne]
        exact (boundStr_chars hb c hc).1
      -- a tail never looks like the second bound of a start-end range
      have clash : ∀ (ts : List ARange) (e : Bound) (x : Bytes), normTail ts = 0x20 :: (boundStr e ++ x) → False := by
        intro ts e x hx
        obtain ⟨c, r', he, _, hc⟩ := boundStr_head e
        cases ts with
        | nil => simp [normTail] at hx
        | cons t ts =>
          simp only [normTail, he, List.cons_append, List.cons.injEq, true_and] at hx
          exact hc hx.1.symm
      rw [normStr_cons, normStr_cons] at h
      have hr1 := hr r List.mem_cons_self
      have hq1 := hq q List.mem_cons_self
      cases r with
      | simple a =>
        cases q with
        | simple b =>
          simp only [arOk] at hr1 hq1
          simp only [arStr] at h
          have := append_sep_pred (nosp a hr1) (nosp b hq1) (normTail_starts rs) (normTail_starts qs) h
          rw [boundStr_inj hr1 hq1 this.1, ih this.2]
        | se s e =>
          exfalso
          simp only [arOk, Bool.and_eq_true] at hr1 hq1
          simp only [arStr, List.append_assoc, List.cons_append] at h
          have := append_sep_pred (x' := 0x20 :: (boundStr e ++ normTail qs)) (nosp a hr1) (nosp s hq1.1) (normTail_starts rs)
            (Starts.cons (by decide) _) h
          exact clash rs e _ this.2
      | se s e =>
        simp only [arOk, Bool.and_eq_true] at hr1
        cases q with
        | simple b =>
          exfalso
          simp only [arOk] at hq1
          simp only [arStr, List.append_assoc, List.cons_append] at h
          have := append_sep_pred (x := 0x20 :: (boundStr e ++ normTail rs)) (nosp s hr1.1) (nosp b hq1)
            (Starts.cons (by decide) _) (normTail_starts qs) h
          exact clash qs e _ this.2.symm
        | se s' e' =>
          simp only [arOk, Bool.and_eq_true] at hq1
          simp only [arStr, List.append_assoc, List.cons_append] at h
          have h1 := append_sep_pred (x := 0x20 :: (boundStr e ++ normTail rs)) (x' := 0x20 :: (boundStr e' ++ normTail qs))
            (nosp s hr1.1) (nosp s' hq1.1) (Starts.cons (by decide) _) (Starts.cons (by decide) _) h
          have h2 := append_sep_pred (nosp e hr1.2) (nosp e' hq1.2) (normTail_starts rs) (normTail_starts qs)
            (List.cons.inj h1.2).2
          rw [boundStr_inj hr1.1 hq1.1 h1.1, boundStr_inj hr1.2 hq1.2 h2.1, ih h2.2]

theorem normStr_iff {rs qs : List ARange} (hr : ∀ r ∈ rs, arOk r = true) (hq : ∀ q ∈ qs, arOk q = true) :
    normStr rs = normStr qs ↔ rangesEq rs qs = true := by
  rw [rangesEq_iff]
  exact ⟨normStr_inj hr hq, fun h => by rw [h]⟩

/-! ### what `NewVersion3` returns is well-formed -/

theorem parseInt64_range {s : Bytes} {i : Int} (h : parseInt64 s = some i) :
    -9223372036854775808 ≤ i ∧ i ≤ 9223372036854775807 := by
  -- each of the three branches (`+digits`, `-digits`, `digits`) answers `some` only below the bound it tests
  have branch : ∀ (d : Option Nat) (f : Nat → Int) (ok : Nat → Prop) [DecidablePred ok],
      (∀ n, ok n → -9223372036854775808 ≤ f n ∧ f n ≤ 9223372036854775807) →
      (match d with | some n => if ok n then some (f n) else none | none => none) = some i →
      -9223372036854775808 ≤ i ∧ i ≤ 9223372036854775807 := by
    intro d f ok _ hf hd
    cases d with
    | none => cases hd
    | some n =>
      simp only at hd
      split at hd
      · cases hd; exact hf n ‹_›
      · cases hd
  cases s with
  | nil => cases h
  | cons c r =>
    simp only [parseInt64] at h
    split at h
    · exact branch _ (fun n => (n : Int)) (· < 9223372036854775808) (fun n hn => by omega) h
    · split at h
      · exact branch _ (fun n => -(n : Int)) (· ≤ 9223372036854775808) (fun n hn => by omega) h
      · exact branch _ (fun n => (n : Int)) (· < 9223372036854775808) (fun n hn => by omega) h

theorem mungePart_ok {p : Bytes} (h : prPartOk p = true) : segOk (mungePart p) = true := by
  simp only [prPartOk, Bool.and_eq_true] at h
  unfold mungePart
  cases hp : parseInt64 p with
  | some i =>
    have := parseInt64_range hp
    simp [segOk, this.1, this.2]
  | none => simp [segOk, h.1, hp]

theorem newVersion3_ok {ma mi pa : Int} {p q : Bytes} {v : Ver} (h : newVersion3 ma mi pa p q = some v)
    (h1 : ma ≤ 9223372036854775807) (h2 : mi ≤ 9223372036854775807) (h3 : pa ≤ 9223372036854775807) : verOk v = true := by
  unfold newVersion3 at h
  split at h
  · cases h
  · rename_i hneg
    split at h
    · cases h
    · rename_i hpre
      split at h
      · cases h
      · rename_i hbuild
        cases h
        simp only [verOk, Bool.and_eq_true, decide_eq_true_eq]
        refine ⟨⟨⟨⟨by omega, by omega⟩, by omega⟩, ?_⟩, ?_⟩
        · cases hp : p.isEmpty
          · simp only [Bool.false_eq_true, if_false, List.all_eq_true]
            simp only [hp, Bool.not_false, Bool.true_and, Bool.not_eq_true', Bool.not_eq_false] at hpre
            intro s hs
            obtain ⟨x, hx, rfl⟩ := List.mem_map.mp hs
            simp only [preOk, List.all_eq_true] at hpre
            exact mungePart_ok (hpre x hx)
          · simp []
        · cases hq : q.isEmpty
          · simp only [Bool.false_eq_true, if_false]
            simp only [hq, Bool.not_false, Bool.true_and, Bool.not_eq_true', Bool.not_eq_false] at hbuild
            simpa [buildOk] using hbuild
          · simp []

end Pcore.ValueEq

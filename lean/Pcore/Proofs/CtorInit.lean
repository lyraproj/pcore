import Pcore.Proofs.DispatchCtors
import Pcore.Model.CtorInit
/-!
`v` is an instance of `Init[T, ia]` iff the call `Init[T, ia].new(v)` makes is accepted by a signature of T's constructor;
the String constructor (its table, no fault arm reachable).  Core Lean only.
-/
namespace Pcore.Dispatch.Alpha

theorem initCall_eq (c : Ctor) (ia args : List Val) : initCall c ia args = ctorCall c (createArgs c ia args) := by
  unfold initCall createArgs
  split
  · rfl
  · split
    · rfl
    · match args with
      | [] => rfl
      | [a] => cases a <;> rfl
      | a :: _ :: _ => cases a <;> rfl

theorem initInstTest_eq (c : Ctor) (ia : List Val) (v : Val) :
    initInstTest c ia v = anyCallable c (createArgs c ia [v]) := by
  rw [Bool.eq_iff_iff]
  unfold initInstTest createArgs
  by_cases hia : ia.isEmpty = true
  · simp only [hia, Bool.not_true, Bool.false_eq_true, if_false]
    by_cases h1 : anyCallable c [v] = true
    · simp [h1]
    · simp only [h1, Bool.false_or]
      cases v <;> simp [h1]
  · simp [hia]

theorem string_no_fault (args : List Val) : ctorCall stringCtor args ≠ .fault := by
  refine ctorCall_no_fault _ ⟨_, rfl⟩ args fun i cr hcr h => ?_
  match i, hcr with
  | 0, hcr =>
    cases hcr
    obtain ⟨v, rest, rfl, -, -⟩ := h.req
    match rest with
    | [] => simp only [stringCtor]; split <;> simp
    | _ :: _ => exact fun hf => nomatch hf
  | n + 1, hcr => cases hcr

theorem string_run (args : List Val) :
    run inst binst stringCtor.creators args (none : Option Blk) =
      .called (if tupleInst inst [.any, stringFormatsTy] 1 (some 2) args then .ran 0 else .reported) := by
  rw [run_built inst binst (cs := stringCtor.creators) (ds := [⟨[.any, stringFormatsTy], 1, some 2, .none⟩]) rfl rfl]
  simp only [call, callFrom, callableWith_noBlock]

end Pcore.Dispatch.Alpha

import Pcore.Model.StringHashFacts
import Pcore.Proofs.ListFacts
/-!
For ANY fact table satisfying `ShOK`, the model driven by the facts is the model `stepSH` that the
invariant/refinement proofs are about.
-/
namespace Pcore.Coll

theorem ShFacts.guardOf_eq {f : ShFacts} (hall : f.methods.all ShFacts.methodOK = true) {n : String}
    (hs : (f.method? n).isSome = true) {g : Guard}
    (hg : ∀ m : ShMethod, m.name = n → ShFacts.methodOK m = true → m.guard = g) : f.guardOf n = g := by
  cases hm : f.method? n with
  | none => simp [hm] at hs
  | some m =>
    obtain ⟨hmem, hname⟩ := find_key_some (key := ShMethod.name) hm
    simp [ShFacts.guardOf, hm, hg m hname (List.all_eq_true.mp hall m hmem)]

structure ShOKFacts (f : ShFacts) : Prop where
  put : f.guardOf "Put" = .atStart
  delete : f.guardOf "Delete" = .atStart
  cia : f.guardOf "ComputeIfAbsent" = .afterHit
  renum : f.renum = .decAbove
  erases : f.deleteErasesKey = true
  putMiss : f.putMiss = .indexLenThenAppend
  ciaMiss : f.ciaMiss = .indexLenThenAppend
  copyFrozen : f.copyFrozen = some false

theorem ShOK.parts {f : ShFacts} (h : ShOK f = true) :
    f.methods.all ShFacts.methodOK = true ∧ f.hasAll = true ∧ f.renum = .decAbove ∧ f.deleteErasesKey = true ∧
      f.deleteCutsEntry = true ∧ f.putMiss = .indexLenThenAppend ∧ f.ciaMiss = .indexLenThenAppend ∧
      f.putHitReplacesValue = true ∧ f.copyFrozen = some false ∧ f.copyFresh = true ∧ f.mergeIsCopyPutAll = true ∧
      f.putAllIsPutEach = true ∧ f.getViaIndex = true ∧ f.includesViaIndex = true ∧ f.newIsEmptyUnfrozen = true ∧
      f.emptyIsFrozen = true := by
  simpa only [ShOK, Bool.and_eq_true, decide_eq_true_eq, and_assoc] using h

theorem ShOK.facts {f : ShFacts} (h : ShOK f = true) : ShOKFacts f := by
  obtain ⟨hall, hhas, hrenum, herases, _, hputMiss, hciaMiss, _, hcopyFrozen, _⟩ := ShOK.parts h
  have hhas' := List.all_eq_true.mp hhas
  refine ⟨ShFacts.guardOf_eq hall (hhas' "Put" (by simp)) ?_, ShFacts.guardOf_eq hall (hhas' "Delete" (by simp)) ?_,
    ShFacts.guardOf_eq hall (hhas' "ComputeIfAbsent" (by simp)) ?_, hrenum, herases, hputMiss, hciaMiss, hcopyFrozen⟩
  all_goals
    intro m hn hok
    simp [ShFacts.methodOK, hn] at hok
    exact hok.1.1

variable {β : Type}

theorem SH.putT_eq {f : ShFacts} (hf : ShOKFacts f) (h : SH β) (k : String) (v : β) : h.putT f k v = h.put k v := by
  simp only [SH.putT, SH.put, hf.put, hf.putMiss, Guard.rejectsAtStart, Guard.rejectsAfterHit, SH.appendT]
  by_cases hfz : h.frozen = true
  · simp [hfz]
  · simp only [hfz, if_false, Bool.false_eq_true]
    cases GoMap.get h.index k with
    | none => rfl
    | some p => cases h.entries[p]? <;> rfl

theorem SH.putAllT_eq {f : ShFacts} (hf : ShOKFacts f) (h : SH β) (es : List (String × β)) :
    h.putAllT f es = h.putAll es := by
  induction es generalizing h with
  | nil => rfl
  | cons e es ih =>
    simp only [SH.putAllT, SH.putAll, SH.putT_eq hf]
    generalize h.put e.1 e.2 = r
    obtain ⟨h', o⟩ := r
    cases o <;> simp [ih]

theorem stepSHT_eq {f : ShFacts} (hok : ShOK f = true) (h : SH β) (op : SOp β) : stepSHT f h op = stepSH h op := by
  have hf := ShOK.facts hok
  cases op with
  | put k v => exact SH.putT_eq hf h k v
  | delete k =>
    simp only [stepSHT, stepSH, SH.deleteT, SH.delete, hf.delete, hf.renum, hf.erases, Guard.rejectsAtStart, if_true]
    rfl
  | get k => rfl
  | includes k => rfl
  | cia k v =>
    simp only [stepSHT, stepSH, SH.computeIfAbsentT, SH.computeIfAbsent, hf.cia, hf.ciaMiss, Guard.rejectsAtStart,
      Guard.rejectsAfterHit, SH.appendT]
    cases GoMap.get h.index k with
    | none => by_cases hfz : h.frozen = true <;> simp [hfz]
    | some p => cases h.entries[p]? <;> rfl
  | copy => simp [stepSHT, stepSH, SH.copyT, SH.copy, hf.copyFrozen]
  | merge o => simp [stepSHT, stepSH, SH.mergeT, SH.merge, SH.copyT, SH.copy, hf.copyFrozen, SH.putAllT_eq hf]
  | putAll o => exact SH.putAllT_eq hf h o
  | freeze => rfl

theorem runSHT_eq {f : ShFacts} (hok : ShOK f = true) (h : SH β) (ops : List (SOp β)) : runSHT f h ops = runSH h ops := by
  induction ops generalizing h with
  | nil => rfl
  | cons op ops ih => simp only [runSHT, runSH, stepSHT_eq hok, ih]

end Pcore.Coll

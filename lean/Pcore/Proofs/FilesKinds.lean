import Pcore.Proofs.FilesSteps
import Pcore.Model.FilesCtor
/-!
C15, the three kinds of file loader `newFileBasedLoader` distinguishes — module name `` (global), the pseudo module name
`environment` (global by special case: smart paths NOT module-name relative, `find` still filters qualified names by the
name) and an ordinary module name (module-name relative smart paths).  First the constructor (`Model/FilesCtor`): the smart
path the model consults is the one it builds, every path it builds carries the flag `!isGlobal`, and which lists of path types
it refuses.  Then each kind as a TOP-LEVEL loader (flat topology: the parent is the system loader): a lookup of a name the
cache does not hold yet is decided by the first origin of the name's key in that loader's own index (`toplevel_outcome`, on
`Below.top` of `FilesSteps`).  Last: `HasEntry` of a file loader spelt out (`hasEntry_file`).
-/
namespace Pcore.Files

/-- the smart path `find` / `HasEntry` / `Discover` of the model consult IS the one `newFileBasedLoader` builds for the
    data-type path -/
theorem spOf_is_ctor (l : Lid) :
    newLoaderPaths (spOf l).root l.moduleName ["puppetDataType"] = .ok [spOf l] := by
  cases l <;> rfl

/-- every smart path the constructor builds carries the flag `!isGlobal`, whatever the list of path types -/
theorem newLoaderPaths_flag (root : Path) (mod : String) : ∀ (pts : List String) (sps : List SmartPath),
    newLoaderPaths root mod pts = .ok sps →
      sps.length = pts.length ∧ ∀ sp ∈ sps, sp.moduleNameRelative = !isGlobalMod mod ∧ sp.moduleName = mod ∧ sp.root = root
  | [], sps, h => by
    simp only [newLoaderPaths] at h
    cases h
    exact ⟨rfl, fun _ h => by cases h⟩
  | pt :: rest, sps, h => by
    simp only [newLoaderPaths, newSmartPath] at h
    cases hf : smartPathFactory pt with
    | none => rw [hf] at h; cases h
    | some re =>
      rw [hf] at h
      simp only at h
      cases hr : newLoaderPaths root mod rest with
      | error e => rw [hr] at h; cases h
      | ok sps' =>
        rw [hr] at h
        simp only [Except.ok.injEq] at h
        subst h
        obtain ⟨hl, hall⟩ := newLoaderPaths_flag root mod rest sps' hr
        refine ⟨by simp [hl], ?_⟩
        intro sp hsp
        rcases List.mem_cons.mp hsp with rfl | hsp'
        · exact ⟨rfl, rfl, rfl⟩
        · exact hall sp hsp'

/-- the constructor refuses exactly the lists that hold a path type without a factory -/
theorem newLoaderPaths_ok_iff (root : Path) (mod : String) : ∀ pts : List String,
    (∃ sps, newLoaderPaths root mod pts = .ok sps) ↔ ∀ pt ∈ pts, pt = "puppetDataType"
  | [] => by simp [newLoaderPaths]
  | pt :: rest => by
    have ih := newLoaderPaths_ok_iff root mod rest
    simp only [newLoaderPaths, newSmartPath, List.mem_cons, forall_eq_or_imp]
    by_cases hpt : pt = "puppetDataType"
    · subst hpt
      simp only [smartPathFactory, true_and]
      rw [← ih]
      cases newLoaderPaths root mod rest with
      | error e => simp
      | ok sps => simp
    · have hf : smartPathFactory pt = none := by
        unfold smartPathFactory
        split
        · exact absurd rfl hpt
        · rfl
      simp [hf, hpt]

theorem toplevel_plain (cfg : Cfg) (l : Lid) (hv : cfg.via = l) (hl : TopLevel cfg l)
    (name : Name) (s : St) (n : Nat)
    (hsys : sysLoad name = none) (hget : s.get l (keyOf name) = none) (hroute : Routed l name)
    (p : Path) (ps : List Path) (hi : idx cfg l (keyOf name) = p :: ps)
    (hnt : ∀ nm ts, bodyAt cfg.tree p ≠ some (.typ .typeset nm ts)) :
    (loadS (n+7) cfg s name).1 = plainOutcomeAt cfg l name ∧
    (loadS (n+7) cfg s name).2.reads = s.reads ++ [p] :=
  (Below.top hl hsys).loadS_plain hv (Nat.zero_le _) hroute hget hi hnt

theorem toplevel_absent (cfg : Cfg) (l : Lid) (hv : cfg.via = l) (hl : TopLevel cfg l)
    (name : Name) (s : St) (n : Nat)
    (hsys : sysLoad name = none) (hget : s.get l (keyOf name) = none) (hroute : Routed l name)
    (hq : qualified name = false) (hi : idx cfg l (keyOf name) = []) :
    loadS (n+7) cfg s name = (.notfound, s.put l (keyOf name) none) := by
  refine loadS_notfound ?_
  rw [(Below.top (s := s) hl hsys).via hv]
  exact (Below.top hl hsys).absent (n := n+3) (Nat.zero_le _) hroute hq hi hget

def NotTypeset (cfg : Cfg) (name : Name) : Prop :=
  ∀ p ps nm ts, idx cfg .g (keyOf name) = p :: ps → bodyAt cfg.tree p ≠ some (.typ .typeset nm ts)

theorem toplevel_outcome {cfg : Cfg} {l : Lid} (hv : cfg.via = l) (hl : TopLevel cfg l) {name : Name} (s : St) (n : Nat)
    (hsys : sysLoad name = none) (hget : s.get l (keyOf name) = none) (hroute : Routed l name)
    (habs : idx cfg l (keyOf name) = [] → qualified name = false)
    (hnt : ∀ p ps nm ts, idx cfg l (keyOf name) = p :: ps → bodyAt cfg.tree p ≠ some (.typ .typeset nm ts)) :
    (loadS (n+7) cfg s name).1 = plainOutcomeAt cfg l name ∧
    (loadS (n+7) cfg s name).2.reads = s.reads ++ (idx cfg l (keyOf name)).head?.toList ∧
    (idx cfg l (keyOf name) = [] → (loadS (n+7) cfg s name).2 = s.put l (keyOf name) none) := by
  cases hi : idx cfg l (keyOf name) with
  | nil =>
    rw [toplevel_absent cfg l hv hl name s n hsys hget hroute (habs hi) hi, (plainOutcomeAt_notfound cfg l name).mpr hi]
    exact ⟨rfl, by simp, fun _ => rfl⟩
  | cons p ps =>
    obtain ⟨h1, h2⟩ := toplevel_plain cfg l hv hl name s n hsys hget hroute p ps hi (hnt p ps · · hi)
    exact ⟨h1, h2, nofun⟩

theorem sysLoad_none_static (name : Name) (h : sysLoad name = none) : staticHas (keyOf name) = false := by
  unfold sysLoad at h
  unfold staticHas
  cases hf : staticTypes.find? (fun e => e.1 = keyOf name) with
  | some e => rw [hf] at h; cases h
  | none =>
    rw [List.find?_eq_none] at hf
    rw [Bool.eq_false_iff]
    intro hany
    rw [List.any_eq_true] at hany
    obtain ⟨e, he, hk⟩ := hany
    exact hf e he hk

theorem hasEntry_file (cfg : Cfg) (s : St) (l : Lid) (hl : l ≠ .d) (k : Key) :
    hasEntry cfg s l k = true ↔
      staticHas k = true ∨ idx cfg l k ≠ [] ∨ ((∃ mod, l = .m mod) ∧ cfg.flat = false ∧ idx cfg .g k ≠ []) := by
  cases l with
  | d => exact absurd rfl hl
  | g =>
    simp only [hasEntry, Bool.or_eq_true, Bool.not_eq_true', List.isEmpty_eq_false_iff]
    constructor
    · rintro (h | h)
      · exact Or.inl h
      · exact Or.inr (Or.inl h)
    · rintro (h | h | ⟨⟨_, h⟩, _⟩)
      · exact Or.inl h
      · exact Or.inr h
      · cases h
  | m mod =>
    simp only [hasEntry, Bool.or_eq_true, Bool.and_eq_true, Bool.not_eq_true', List.isEmpty_eq_false_iff]
    constructor
    · rintro ((h | ⟨hf, h⟩) | h)
      · exact Or.inl h
      · exact Or.inr (Or.inr ⟨⟨mod, rfl⟩, hf, h⟩)
      · exact Or.inr (Or.inl h)
    · rintro (h | h | ⟨_, hf, h⟩)
      · exact Or.inl (Or.inl h)
      · exact Or.inr h
      · exact Or.inl (Or.inr ⟨hf, h⟩)

end Pcore.Files

import Pcore.Model.LazyCache
/-! Lazily built type caches (C13_lazy_caches, C13_cache_never_narrow).  First what both invariants share: the shape of a step
    (`stepAt_inv`: a predicate on the shared part and one on every thread) and of an initial configuration (`init_threads`).  Then
    the two halves: with publication last no cache is ever seen half-built (`CInv`); without an in-place fold no reader is handed a
    type that is not a type of the value (`NInv`). -/
namespace Pcore.LazyCache

theorem Reachable.invariant {cfg : Cfg} {P : Config → Prop} (hstep : ∀ c i, P c → P (stepAt cfg c i)) {c0 c : Config} (h0 : P c0)
    (h : Reachable cfg c0 c) : P c := by
  induction h with
  | init => exact h0
  | step i _ ih => exact hstep _ i ih

theorem stepAt_inv {cfg : Cfg} {G : Shared → Prop} {P : Thread → Prop} (c : Config) (i : Nat) (hg : G c.sh) (h : ∀ t ∈ c.th, P t)
    (hmove : ∀ t ∈ c.th, G (stepThread cfg c.sh t).1 ∧ P (stepThread cfg c.sh t).2) :
    G (stepAt cfg c i).sh ∧ ∀ t' ∈ (stepAt cfg c i).th, P t' := by
  unfold stepAt
  cases hi : c.th[i]? with
  | none => exact ⟨hg, h⟩
  | some t =>
    have hm := hmove t (List.mem_of_getElem? hi)
    refine ⟨hm.1, fun t' ht' => ?_⟩
    rcases List.mem_or_eq_of_mem_set ht' with h1 | rfl
    · exact h t' h1
    · exact hm.2

theorem init_threads {k : Kind} {n : Nat} {progs : List (List COp)} {slow : Nat} {P : Thread → Prop}
    (h : ∀ p, P { pc := .idle, ops := p, log := [] }) : ∀ t ∈ (Config.init k n progs slow).th, P t := by
  intro t ht
  obtain ⟨p, _, rfl⟩ := List.mem_map.mp ht
  exact h p

/-! ### Publication last (`PublishLast`): the shared state stays `Clean` and every answer logged is `full` (`CInv`) -/

def Clean (s : Shared) : Prop := s.red ≠ .part ∧ s.det ≠ .part

def AllFull (log : List Obs) : Prop := ∀ o ∈ log, o = .full

theorem AllFull.snoc {log : List Obs} (h : AllFull log) : AllFull (log ++ [.full]) := by
  intro o ho
  rcases List.mem_append.mp ho with ho | ho
  · exact h o ho
  · simpa using ho

/-- every fill function publishes last: the discipline under which no cache is ever `part`.  `cleanCfg` is the instance the results
    use; the hypothesis is all the proofs below read of the configuration (its fold flags play no part) -/
def PublishLast (cfg : Cfg) : Prop := ∀ k, cfg.redFirst k = false ∧ cfg.detFirst k = false

/-- every fill function publishes last -/
def cleanCfg : Cfg := { arrRed := false, arrDet := false, hshRed := false, hshDet := false }

theorem publishLast_clean : PublishLast cleanCfg := fun k => by cases k <;> exact ⟨rfl, rfl⟩

theorem seeRedC_full (cfg : Cfg) {r : CS} (k : Kind) (h : r ≠ .part) : seeRedC cfg k r = .full := by
  cases r <;> simp_all [seeRedC]

/-- not used below: `seeRed` is a function of the model that no step calls (the steps use `seeRedC`) -/
theorem seeRed_clean {r : CS} (h : r ≠ .part) : seeRed r = .full := by
  cases r <;> simp_all [seeRed]

theorem reduced_clean {cfg : Cfg} (hc : PublishLast cfg) {s s' : Shared} {o : Option Obs} (h : Clean s)
    (he : reduced cfg s = (s', o)) : Clean s' ∧ ∀ o', o = some o' → o' = .full := by
  unfold reduced at he
  split at he
  · split at he
    · cases he; exact ⟨⟨by simp, h.2⟩, by intro o ho; cases ho; rfl⟩
    · cases he; exact ⟨⟨by simp [(hc s.kind).1], h.2⟩, by intro o ho; cases ho⟩
  · cases he; exact ⟨h, fun o ho => by cases ho; exact seeRedC_full _ _ h.1⟩

theorem startOp_clean {cfg : Cfg} (hc : PublishLast cfg) (s : Shared) (log : List Obs) (rest : List COp) (op : COp)
    (h : Clean s) (hl : AllFull log) : Clean (startOp cfg s log rest op).1 ∧ AllFull (startOp cfg s log rest op).2.log := by
  cases op with
  | ptype =>
    simp only [startOp]
    split
    · rename_i heq; exact ⟨(reduced_clean hc h heq).1, hl⟩
    · rename_i heq; obtain ⟨h1, h2⟩ := reduced_clean hc h heq
      rw [h2 _ rfl]; exact ⟨h1, hl.snoc⟩
  | str =>
    simp only [startOp]
    split
    · rename_i heq; exact ⟨(reduced_clean hc h heq).1, hl⟩
    · rename_i heq; exact ⟨(reduced_clean hc h heq).1, hl.snoc⟩
  | pure => exact ⟨h, hl.snoc⟩
  | dtype =>
    simp only [startOp]
    split
    · exact ⟨h, hl.snoc⟩
    · rename_i hp; exact absurd hp h.2
    · rw [seeRedC_full _ _ h.1]; exact ⟨h, hl.snoc⟩
    · split
      · split
        · rename_i heq; exact ⟨(reduced_clean hc h heq).1, hl⟩
        · rename_i heq; obtain ⟨h1, h2⟩ := reduced_clean hc h heq
          rw [h2 _ rfl]; exact ⟨⟨h1.1, by simp⟩, hl.snoc⟩
      · exact ⟨⟨h.1, by simp [(hc s.kind).2]⟩, hl⟩

theorem stepThread_clean {cfg : Cfg} (hc : PublishLast cfg) (s : Shared) (t : Thread) (h : Clean s) (hl : AllFull t.log) :
    Clean (stepThread cfg s t).1 ∧ AllFull (stepThread cfg s t).2.log := by
  unfold stepThread
  split
  · split
    · exact ⟨h, hl⟩
    · exact startOp_clean hc s t.log _ _ h hl
  · exact ⟨h, hl⟩
  · rename_i thenDet _
    refine ⟨⟨by simp, ?_⟩, hl.snoc⟩
    cases thenDet
    · simpa using h.2
    · simp
  · exact ⟨h, hl⟩
  · exact ⟨⟨h.1, by simp⟩, hl.snoc⟩

def CInv (c : Config) : Prop := Clean c.sh ∧ ∀ t ∈ c.th, AllFull t.log

theorem CInv_stepAt {cfg : Cfg} (hc : PublishLast cfg) (c : Config) (i : Nat) (h : CInv c) : CInv (stepAt cfg c i) :=
  stepAt_inv c i h.1 h.2 fun t ht => stepThread_clean hc c.sh t h.1 (h.2 t ht)

theorem CInv_step (c : Config) (i : Nat) (h : CInv c) : CInv (stepAt cleanCfg c i) :=
  CInv_stepAt publishLast_clean c i h

theorem CInv_init (k : Kind) (n : Nat) (progs : List (List COp)) (slow : Nat) : CInv (Config.init k n progs slow) :=
  ⟨⟨by simp [Config.init], by simp [Config.init]⟩, init_threads fun _ _ ho => nomatch ho⟩

/-! ### No in-place fold (`NoFold`): no answer logged is `narrow` (`NInv`); the shared state plays no part -/

/-- no fill function completes its published object by an in-place fold -/
def NoFold (cfg : Cfg) : Prop := ∀ k, cfg.redFold k = false ∧ cfg.detFold k = false

def NoNarrow (log : List Obs) : Prop := Obs.narrow ∉ log

theorem NoNarrow.snoc {log : List Obs} {o : Obs} (h : NoNarrow log) (ho : o ≠ .narrow) : NoNarrow (log ++ [o]) := by
  intro hm
  rcases List.mem_append.mp hm with hm | hm
  · exact h hm
  · simp only [List.mem_singleton] at hm
    exact ho hm.symm

theorem seeRedC_ne_narrow {cfg : Cfg} (hc : NoFold cfg) (k : Kind) (r : CS) : seeRedC cfg k r ≠ .narrow := by
  cases r <;> simp [seeRedC, (hc k).1]

theorem seeDetPart_ne_narrow {cfg : Cfg} (hc : NoFold cfg) (k : Kind) : seeDetPart cfg k ≠ .narrow := by
  simp [seeDetPart, (hc k).2]

theorem reduced_ne_narrow {cfg : Cfg} (hc : NoFold cfg) {s s' : Shared} {o : Obs} (he : reduced cfg s = (s', some o)) :
    o ≠ .narrow := by
  unfold reduced at he
  split at he
  · split at he
    · cases he; simp
    · cases he
  · cases he; exact seeRedC_ne_narrow hc _ _

theorem startOp_nonarrow {cfg : Cfg} (hc : NoFold cfg) (s : Shared) (log : List Obs) (rest : List COp) (op : COp)
    (hl : NoNarrow log) : NoNarrow (startOp cfg s log rest op).2.log := by
  cases op with
  | ptype =>
    simp only [startOp]
    split
    · exact hl
    · rename_i heq; exact hl.snoc (reduced_ne_narrow hc heq)
  | str =>
    simp only [startOp]
    split
    · exact hl
    · exact hl.snoc (by simp)
  | pure => exact hl.snoc (by simp)
  | dtype =>
    simp only [startOp]
    split
    · exact hl.snoc (by simp)
    · exact hl.snoc (seeDetPart_ne_narrow hc _)
    · exact hl.snoc (seeRedC_ne_narrow hc _ _)
    · split
      · split
        · exact hl
        · rename_i heq; exact hl.snoc (reduced_ne_narrow hc heq)
      · exact hl

theorem stepThread_nonarrow {cfg : Cfg} (hc : NoFold cfg) (s : Shared) (t : Thread) (hl : NoNarrow t.log) :
    NoNarrow (stepThread cfg s t).2.log := by
  unfold stepThread
  split
  · split
    · exact hl
    · exact startOp_nonarrow hc s t.log _ _ hl
  · exact hl
  · exact hl.snoc (by simp)
  · exact hl
  · exact hl.snoc (by simp)

def NInv (c : Config) : Prop := ∀ t ∈ c.th, NoNarrow t.log

theorem NInv_step {cfg : Cfg} (hc : NoFold cfg) (c : Config) (i : Nat) (h : NInv c) : NInv (stepAt cfg c i) :=
  (stepAt_inv (G := fun _ => True) c i trivial h fun t ht => ⟨trivial, stepThread_nonarrow hc c.sh t (h t ht)⟩).2

theorem NInv_init (k : Kind) (n : Nat) (progs : List (List COp)) (slow : Nat) : NInv (Config.init k n progs slow) :=
  init_threads fun _ ho => nomatch ho

theorem NoFold_ofTables (sites : List CacheSite) (writes : List CacheWrite) (h : completionOK writes = true) :
    NoFold (Cfg.ofTables sites writes) := by
  have hf : ∀ fn, fnFoldsInPlace writes fn = false := by
    intro fn
    unfold fnFoldsInPlace
    rw [List.any_eq_false]
    intro w hw
    have := List.all_eq_true.mp h w hw
    simp only [bne_iff_ne, ne_eq] at this
    simp [this]
  intro k
  cases k <;> simp [Cfg.ofTables, Cfg.redFold, Cfg.detFold, hf]

end Pcore.LazyCache

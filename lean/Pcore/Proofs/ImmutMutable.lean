import Pcore.Model.ImmutMutable
import Pcore.Proofs.SliceHeap
/-!
Helper lemmas for the MutableHashValue-as-object model (property C08): the pool only grows at its end; what a step pushes;
with `frozen := true` no alias is ever created; a table without one of the four override rows is not `mutFrozen`.
-/
namespace Pcore.Mut
open Pcore.Heap

/-- the operations whose Go method may `return hv` -/
def MOp.sameSite : MOp → Bool
  | .delete _ _ => true
  | .deleteAll _ _ => true
  | .unique _ => true
  | .entries _ => true
  | _ => false

def MEntry.isAlias : MEntry → Bool
  | .alias _ => true
  | _ => false

theorem hashRecv_self_frozen {s : MState} {r : Nat} {es : List Val} {self : MEntry}
    (h : s.hashRecv true r = some (es, self)) : self.isAlias = false := by
  unfold MState.hashRecv at h
  split at h
  · cases ho : s.objs[‹Nat›]? <;> simp [ho] at h; rw [← h.2]; rfl
  · cases ho : s.objs[‹Nat›]? <;> simp [ho] at h; rw [← h.2]; rfl
  · simp at h; rw [← h.2]; rfl
  · cases h

theorem mstep_push (frozen : Bool) (s : MState) (op : MOp) :
    ∃ e, (mstep frozen s op).pool = s.pool ++ [e] ∧ (e.isAlias = true → op.sameSite = true ∧ frozen = false) := by
  have self : ∀ {r es self}, s.hashRecv frozen r = some (es, self) → self.isAlias = true → frozen = false := by
    intro r es self hr ha
    cases frozen with
    | false => rfl
    | true => rw [hashRecv_self_frozen hr] at ha; cases ha
  cases op <;> simp only [mstep, MState.push]
  all_goals repeat' split
  all_goals refine ⟨_, rfl, fun h => ?_⟩
  -- what is pushed is a marker, a value or the builder, none of them an alias (`h` is absurd), or `self`: what
  -- `return hv` answers
  all_goals first | cases h | exact ⟨rfl, self ‹_› h⟩

theorem mrun_prefix (frozen : Bool) (ops : List MOp) (i j j' : Nat) (hij : i < j) (hjj : j ≤ j') (hj : j' ≤ ops.length) :
    (mrun frozen (ops.take j)).pool[i]? = (mrun frozen (ops.take j')).pool[i]? :=
  foldl_take_pool (pool := MState.pool) (fun s op => (mstep_push frozen s op).imp fun _ h => h.1) {} rfl ops i j j' hij hjj
    (Nat.le_trans hjj hj)

theorem frozen_no_alias (ops : List MOp) : ∀ e ∈ (mrun true ops).pool, e.isAlias = false := by
  refine foldl_inv (Inv := fun s : MState => ∀ e ∈ s.pool, e.isAlias = false) ?_ ops {} (by intro e he; cases he)
  intro s op hs e' he'
  obtain ⟨e, he, ha⟩ := mstep_push true s op
  rw [he, List.mem_append, List.mem_singleton] at he'
  rcases he' with h1 | rfl
  · exact hs e' h1
  · cases hb : e'.isAlias with
    | false => rfl
    | true => exact absurd (ha hb).2 (by decide)

theorem mutFrozen_filter (t : Table) {key : String}
    (hk : key ∈ ["MutableHashValue.Delete/r0", "MutableHashValue.DeleteAll/r0", "MutableHashValue.Entries/r0",
      "MutableHashValue.Unique/r0"]) : mutFrozen (t.filter fun r => r.1 != key) = false := by
  unfold mutFrozen
  rw [List.all_eq_false]
  exact ⟨key, hk, by rw [find_filter_ne]; simp⟩

end Pcore.Mut

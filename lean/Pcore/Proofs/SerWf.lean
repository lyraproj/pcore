import Pcore.Model.SerSpec
/-! C10, the stream laws that need no sharing hypothesis.  First the equations of the emit primitives `record`, `seen`,
    `strData` (and `mkCfg_keys`) that all later files use.  Then `Good`: the emitted event is well formed for the consumer's
    capabilities and the position counter advanced by exactly the positions the event consumes.  It is proved with one
    rule per emit primitive (`good_add`, `good_strData`, `good_arr`, `good_hsh`, `good_typed`, `good_record`); the arms
    of `toData` are compositions of these.  Last the inversion lemmas of `collect`, and that the collector consumes the same
    number of positions (`collect_len`); `nposList`, `wfList` of an append close the file. -/
namespace Pcore.Ser

theorem record_cases (c : Cfg) (k : Key) (pos : Nat) (r : Ev × St) :
    record c k pos r = r ∨ (r.2.ref > pos ∧ record c k pos r = (r.1, { r.2 with vals := (k, pos) :: r.2.vals })) := by
  unfold record
  split
  · exact .inl rfl
  · split
    · split
      · exact .inl rfl
      · exact .inr ⟨‹_›, rfl⟩
    · exact .inl rfl

@[simp] theorem record_fst (c : Cfg) (k : Key) (pos : Nat) (r : Ev × St) : (record c k pos r).1 = r.1 := by
  rcases record_cases c k pos r with h | ⟨_, h⟩ <;> rw [h]

@[simp] theorem record_ref (c : Cfg) (k : Key) (pos : Nat) (r : Ev × St) : (record c k pos r).2.ref = r.2.ref := by
  rcases record_cases c k pos r with h | ⟨_, h⟩ <;> rw [h]

@[simp] theorem bump_ref (st : St) : (bump st).ref = st.ref + 1 := rfl
@[simp] theorem bump_vals (st : St) : (bump st).vals = st.vals := rfl
@[simp] theorem addData_fst (d : Sc) (st : St) : (addData d st).1 = .add d := rfl
@[simp] theorem addData_snd (d : Sc) (st : St) : (addData d st).2 = bump st := rfl

theorem seen_eq_some {c : Cfg} {k : Key} {st : St} {r : Nat} :
    seen c k st = some r ↔ c.dedup ≠ 0 ∧ st.vals.lookup k = some r := by
  unfold seen; split <;> simp [*]

theorem seen_nodedup {c : Cfg} (h : c.dedup = 0) (k : Key) (st : St) : seen c k st = none := by
  simp [seen, h]

theorem strData_cases (c : Cfg) (level : Nat) (s : String) (st : St) :
    ((strData c level s st).1 = .add (.str s) ∧ (strData c level s st).2.ref = st.ref + 1) ∨
    ((∃ r, (strData c level s st).1 = .ref r) ∧ (strData c level s st).2 = st ∧ level ≤ c.dedup ∧ c.dedup ≠ 0) := by
  unfold strData
  split
  · rename_i h
    split
    · rename_i hs
      exact .inr ⟨⟨_, rfl⟩, rfl, h.1, (seen_eq_some.1 hs).1⟩
    · exact .inl ⟨record_fst .., record_ref ..⟩
  · exact .inl ⟨rfl, rfl⟩

theorem strData_plain (c : Cfg) (level : Nat) (s : String) (st : St) (h : c.dedup < level) :
    (strData c level s st).1 = .add (.str s) := by
  rcases strData_cases c level s st with h' | ⟨_, _, h', _⟩
  · exact h'.1
  · omega

theorem allStrKeys_cons {k v : V} {es : List (V × V)} (h : allStrKeys ((k, v) :: es) = true) :
    (∃ s, k = .str s) ∧ allStrKeys es = true := by
  simp only [allStrKeys, Bool.and_eq_true] at h
  refine ⟨?_, h.2⟩
  cases k with
  | str s => exact ⟨s, rfl⟩
  | _ => cases h.1

/-- `Convert` lowers MaxDedup for a consumer without complex keys: there keys (level 2) are never de-duplicated -/
theorem mkCfg_keys (o : Opts) (cp : Caps) : cp.cplx = false → (mkCfg o cp).cplx = false ∧ (mkCfg o cp).dedup ≤ 1 := by
  intro h
  refine ⟨h, ?_⟩
  simp only [mkCfg, h, and_true]
  split <;> split <;> omega

def Good (sk nb : Bool) (st : St) (r : Ev × St) : Prop :=
  r.1.wf sk nb = true ∧ r.2.ref = st.ref + r.1.npos

def GoodL (sk nb : Bool) (st : St) (r : List Ev × St) : Prop :=
  wfList sk nb r.1 = true ∧ r.2.ref = st.ref + nposList r.1

def GoodH (sk nb : Bool) (st : St) (r : List Ev × St) : Prop :=
  hkeys sk r.1 = true ∧ GoodL sk nb st r

section
variable {c : Cfg} {sk nb : Bool} {st : St}

theorem good_ref (n : Nat) : Good sk nb st (.ref n, st) := ⟨rfl, rfl⟩

theorem good_add {d : Sc} (h : nb = true → (Ev.add d).isBin = false) : Good sk nb st (addData d st) := by
  refine ⟨?_, rfl⟩
  cases nb with
  | false => rfl
  | true => simp only [addData_fst, Ev.wf, h rfl, Bool.and_false, Bool.not_false]

theorem good_strData (level : Nat) (s : String) : Good sk nb st (strData c level s st) := by
  unfold Good
  rcases strData_cases c level s st with ⟨h1, h2⟩ | ⟨⟨r, h1⟩, h2, _⟩
  · rw [h1, h2]; exact ⟨by cases nb <;> rfl, rfl⟩
  · rw [h1, h2]; exact ⟨rfl, rfl⟩

theorem good_record {r : Ev × St} (k : Key) (pos : Nat) (h : Good sk nb st r) : Good sk nb st (record c k pos r) := by
  unfold Good; rw [record_fst, record_ref]; exact h

/-- with `sk` (then `dedup ≤ 1`, see `mkCfg`) a key, emitted at level 2, is never a back-reference -/
theorem strData_key (hk : sk = true → c.cplx = false ∧ c.dedup ≤ 1) (s : String) (st : St) :
    (!sk || (strData c 2 s st).1.isStr) = true := by
  cases sk with
  | false => rfl
  | true => rw [strData_plain c 2 s st (by have := (hk rfl).2; omega)]; rfl

theorem goodL_nil : GoodL sk nb st ([], st) := ⟨rfl, rfl⟩

theorem goodL_cons {r1 : Ev × St} {es : List Ev} {st2 : St} (h1 : Good sk nb st r1)
    (h2 : GoodL sk nb r1.2 (es, st2)) : GoodL sk nb st (r1.1 :: es, st2) := by
  have w2 : wfList sk nb es = true := h2.1
  have n2 : st2.ref = r1.2.ref + nposList es := h2.2
  exact ⟨by simp only [wfList, h1.1, w2, Bool.and_self], by simp only [nposList, n2, h1.2, Nat.add_assoc]⟩

theorem goodH_nil : GoodH sk nb st ([], st) := ⟨rfl, goodL_nil⟩

theorem goodH_cons {r1 r2 : Ev × St} {es : List Ev} {st3 : St}
    (hk : (!sk || r1.1.isStr) = true) (h1 : Good sk nb st r1) (h2 : Good sk nb r1.2 r2)
    (h3 : GoodH sk nb r2.2 (es, st3)) : GoodH sk nb st (r1.1 :: r2.1 :: es, st3) := by
  have k3 : hkeys sk es = true := h3.1
  exact ⟨by simp only [hkeys, hk, k3, Bool.and_self], goodL_cons h1 (goodL_cons h2 h3.2)⟩

theorem good_arr {es : List Ev} {st1 : St} (h : GoodL sk nb (bump st) (es, st1)) : Good sk nb st (.arr es, st1) := by
  have n : st1.ref = st.ref + 1 + nposList es := h.2
  exact ⟨h.1, by simp only [Ev.npos, n, Nat.add_assoc]⟩

theorem good_hsh {es : List Ev} {st1 : St} (h : GoodH sk nb (bump st) (es, st1)) : Good sk nb st (.hsh es, st1) := by
  have k : hkeys sk es = true := h.1
  have w : wfList sk nb es = true := h.2.1
  have n : st1.ref = st.ref + 1 + nposList es := h.2.2
  exact ⟨by simp only [Ev.wf, k, w, Bool.and_self], by simp only [Ev.npos, n, Nat.add_assoc]⟩

/-- a typed hash `{__ptype: tn, __pvalue: e}` emitted under `process` -/
theorem good_typed (hk : sk = true → c.cplx = false ∧ c.dedup ≤ 1) (k : Key) (pos tl : Nat) (tn : String) {e : Ev} {st1 : St}
    (h : Good sk nb (head3 c tl tn (bump st)).2 (e, st1)) :
    Good sk nb st (record c k pos (.hsh ((head3 c tl tn (bump st)).1 ++ [e]), st1)) := by
  refine good_record k pos (good_hsh ?_)
  simp only [head3, List.cons_append, List.nil_append] at h ⊢
  exact goodH_cons (strData_key hk ..) (good_strData ..) (good_strData ..)
    (goodH_cons (r2 := (e, st1)) (strData_key hk ..) (good_strData ..) h goodH_nil)

end

mutual
theorem toData_good (c : Cfg) (sk nb : Bool) (hk : sk = true → c.cplx = false ∧ c.dedup ≤ 1) (hb : nb = true → c.bin = false) :
    ∀ (level : Nat) (v : V) (st : St), Good sk nb st (toData c level v st)
  | _, .undef, st | _, .bool _, st | _, .int _, st | _, .flt _, st => good_add (fun _ => rfl)
  | level, .str s, st => by simp only [toData]; exact good_strData ..
  | _, .dflt, st => by
      simp only [toData]
      split
      · exact good_hsh (goodH_cons (strData_key hk ..) (good_strData ..) (good_strData ..) goodH_nil)
      · exact good_strData ..
  | _, .hash id es, st => by
      simp only [toData]
      split
      · exact good_ref _
      · split
        · rename_i hc
          have hs : sk = true → allStrKeys es = true := fun h => by simpa only [(hk h).1, Bool.false_or] using hc
          exact good_record _ _ (good_hsh (pairsData_good c sk nb hk hb es (bump st) hs))
        · split
          · exact good_typed hk _ _ _ _ (good_arr (flatData_good c sk nb hk hb es _))
          · exact good_record _ _ (good_hsh (skeyData_good c sk nb hk hb es (bump st)))
  | _, .arr id vs, st => by
      simp only [toData]
      split
      · exact good_ref _
      · exact good_record _ _ (good_arr (listData_good c sk nb hk hb vs (bump st)))
  | level, .sens id v, st => by
      simp only [toData]
      split
      · exact good_ref _
      · split
        · exact good_typed hk _ _ _ _ (toData_good c sk nb hk hb 1 v _)
        · exact good_record _ _ (good_strData ..)
  | level, .bin id bs, st => by
      simp only [toData]
      split
      · exact good_ref _
      · split
        · rename_i hbin
          exact good_record _ _ (good_add (fun h => by rw [hb h] at hbin; cases hbin))
        · split
          · exact good_typed hk _ _ _ _ (good_strData ..)
          · exact good_record _ _ (good_strData ..)
  | _, .leaf id k enc disp, st => by
      simp only [toData]
      split
      · split
        · exact good_ref _
        · exact good_typed hk _ _ _ _ (good_strData ..)
      · exact good_strData ..
  | _, .obj id tn disp attrs, st => by
      simp only [toData]
      split
      · split
        · exact good_ref _
        · exact good_record _ _ (good_hsh (goodH_cons (strData_key hk ..) (good_strData ..)
            (good_strData ..) (attrsData_good c sk nb hk hb attrs _)))
      · exact good_strData ..

theorem listData_good (c : Cfg) (sk nb : Bool) (hk : sk = true → c.cplx = false ∧ c.dedup ≤ 1) (hb : nb = true → c.bin = false) :
    ∀ (vs : List V) (st : St), GoodL sk nb st (listData c vs st)
  | [], st => goodL_nil
  | v :: vs, st => by
      simp only [listData]
      exact goodL_cons (toData_good c sk nb hk hb 1 v st) (listData_good c sk nb hk hb vs _)

theorem pairsData_good (c : Cfg) (sk nb : Bool) (hk : sk = true → c.cplx = false ∧ c.dedup ≤ 1) (hb : nb = true → c.bin = false) :
    ∀ (es : List (V × V)) (st : St), (sk = true → allStrKeys es = true) →
      hkeys sk (pairsData c es st).1 = true ∧ GoodL sk nb st (pairsData c es st)
  | [], st, _ => goodH_nil
  | (k, v) :: es, st, hs => by
      have hkey : (!sk || (toData c 2 k st).1.isStr) = true := by
        cases sk with
        | false => rfl
        | true =>
          obtain ⟨s, rfl⟩ := (allStrKeys_cons (hs rfl)).1
          simp only [toData]; exact strData_key hk s st
      simp only [pairsData]
      exact goodH_cons hkey (toData_good c sk nb hk hb 2 k st) (toData_good c sk nb hk hb 1 v _)
        (pairsData_good c sk nb hk hb es _ (fun h => (allStrKeys_cons (hs h)).2))

theorem flatData_good (c : Cfg) (sk nb : Bool) (hk : sk = true → c.cplx = false ∧ c.dedup ≤ 1) (hb : nb = true → c.bin = false) :
    ∀ (es : List (V × V)) (st : St), GoodL sk nb st (flatData c es st)
  | [], st => goodL_nil
  | (k, v) :: es, st => by
      simp only [flatData]
      exact goodL_cons (toData_good c sk nb hk hb 1 k st)
        (goodL_cons (toData_good c sk nb hk hb 1 v _) (flatData_good c sk nb hk hb es _))

theorem skeyData_good (c : Cfg) (sk nb : Bool) (hk : sk = true → c.cplx = false ∧ c.dedup ≤ 1) (hb : nb = true → c.bin = false) :
    ∀ (es : List (V × V)) (st : St),
      hkeys sk (skeyData c es st).1 = true ∧ GoodL sk nb st (skeyData c es st)
  | [], st => goodH_nil
  | (k, v) :: es, st => by
      simp only [skeyData]
      exact goodH_cons (strData_key hk ..) (good_strData ..) (toData_good c sk nb hk hb 1 v _)
        (skeyData_good c sk nb hk hb es _)

theorem attrsData_good (c : Cfg) (sk nb : Bool) (hk : sk = true → c.cplx = false ∧ c.dedup ≤ 1) (hb : nb = true → c.bin = false) :
    ∀ (as : List (String × V)) (st : St),
      hkeys sk (attrsData c as st).1 = true ∧ GoodL sk nb st (attrsData c as st)
  | [], st => goodH_nil
  | (k, v) :: as, st => by
      simp only [attrsData]
      exact goodH_cons (strData_key hk ..) (good_strData ..) (toData_good c sk nb hk hb 1 v _)
        (attrsData_good c sk nb hk hb as _)
end

theorem collect_ref_ok {n : Nat} {vals : List Slot} {d : V} {vals' : List Slot}
    (h : collect (.ref n) vals = .ok (d, vals')) : vals[n]? = some (.done d) ∧ vals' = vals := by
  simp only [collect] at h
  split at h
  · cases h
  · cases h
  · rename_i v hv; cases h; exact ⟨hv, rfl⟩

theorem collect_arr_ok {es : List Ev} {vals : List Slot} {d : V} {vals' : List Slot}
    (h : collect (.arr es) vals = .ok (d, vals')) :
    ∃ kids vals1, collectList es (vals ++ [.opened]) = .ok (kids, vals1) ∧ d = .arr vals.length kids ∧
      vals' = vals1.set vals.length (.done d) := by
  simp only [collect] at h
  split at h
  · cases h
  · rename_i kids vals1 hc; cases h; exact ⟨kids, vals1, hc, rfl, rfl⟩

theorem collect_hsh_ok {es : List Ev} {vals : List Slot} {d : V} {vals' : List Slot}
    (h : collect (.hsh es) vals = .ok (d, vals')) :
    ∃ kids vals1 ps, collectList es (vals ++ [.opened]) = .ok (kids, vals1) ∧ pairUp kids = some ps ∧
      d = .hash vals.length ps ∧ vals' = vals1.set vals.length (.done d) := by
  simp only [collect] at h
  split at h
  · cases h
  · rename_i kids vals1 hc
    split at h
    · cases h
    · rename_i ps hp; cases h; exact ⟨kids, vals1, ps, hc, hp, rfl, rfl⟩

theorem collectList_cons_ok {e : Ev} {es : List Ev} {vals : List Slot} {ds : List V} {vals' : List Slot}
    (h : collectList (e :: es) vals = .ok (ds, vals')) :
    ∃ v vals1 vs, collect e vals = .ok (v, vals1) ∧ collectList es vals1 = .ok (vs, vals') ∧ ds = v :: vs := by
  simp only [collectList] at h
  split at h
  · cases h
  · rename_i v vals1 hc
    split at h
    · cases h
    · rename_i vs vals2 hc2; cases h; exact ⟨v, vals1, vs, hc, hc2, rfl⟩

theorem collect_of_deserialize {e : Ev} {r : V} (h : deserialize e = .ok r) : ∃ d vals', collect e [] = .ok (d, vals') := by
  unfold deserialize at h
  split at h
  · cases h
  · exact ⟨_, _, ‹_›⟩

mutual
theorem collect_len : ∀ (e : Ev) (vals : List Slot) (d : V) (vals' : List Slot),
    collect e vals = .ok (d, vals') → vals'.length = vals.length + e.npos
  | .add d, vals, _, _, h => by cases h; exact List.length_append
  | .ref n, vals, _, _, h => by rw [(collect_ref_ok h).2]; rfl
  | .arr es, vals, _, _, h => by
      obtain ⟨kids, vals1, hc, _, rfl⟩ := collect_arr_ok h
      rw [List.length_set, collectList_len es _ _ _ hc, List.length_append, List.length_singleton, Ev.npos]; omega
  | .hsh es, vals, _, _, h => by
      obtain ⟨kids, vals1, ps, hc, _, _, rfl⟩ := collect_hsh_ok h
      rw [List.length_set, collectList_len es _ _ _ hc, List.length_append, List.length_singleton, Ev.npos]; omega
theorem collectList_len : ∀ (es : List Ev) (vals : List Slot) (ds : List V) (vals' : List Slot),
    collectList es vals = .ok (ds, vals') → vals'.length = vals.length + nposList es
  | [], vals, _, _, h => by cases h; rfl
  | e :: es, vals, _, _, h => by
      obtain ⟨v, vals1, vs, hc, hc2, _⟩ := collectList_cons_ok h
      rw [collectList_len es _ _ _ hc2, collect_len e _ _ _ hc, nposList, Nat.add_assoc]
end

theorem nposList_append (a b : List Ev) : nposList (a ++ b) = nposList a + nposList b := by
  induction a with
  | nil => simp only [List.nil_append, nposList, Nat.zero_add]
  | cons e es ih => simp only [List.cons_append, nposList, ih, Nat.add_assoc]

theorem wfList_append (sk nb : Bool) (a b : List Ev) : wfList sk nb (a ++ b) = (wfList sk nb a && wfList sk nb b) := by
  induction a with
  | nil => simp only [List.nil_append, wfList, Bool.true_and]
  | cons e es ih => simp only [List.cons_append, wfList, ih, Bool.and_assoc]

end Pcore.Ser

import Pcore.Proofs.FormatUnparse
import Pcore.Proofs.FormatContainer
import Pcore.Proofs.FormatCtor
/-! A directive (`Directive d f`: `newFormat` accepts `d`) applied to a value: the map of a single directive, and how an Integer is
    rendered under a radix letter — d x X o by fmt (`goInteger` of the directive as printf reads it), b B by pcore's own `intPbB`;
    either way the text is a `field` (`formatDirective_radix`). -/
namespace Pcore.Format

/-- `d` is a syntactically valid directive with Format record `f` -/
def Directive (d : Str) (f : Fmt) : Prop := newFormat d = .ok f

/-- the directive as printf reads it -/
def printfView (f : Fmt) : Option GoSpec := goParse (goFormat f)

theorem getFormat_single (f : Fmt) (k : Kind) : getFormat [(Key.any, FTree.mk f none)] k = .mk f none := by
  simp [getFormat, Key.accepts]

theorem allGoOK_single (f : Fmt) (h : GoOK f) (k : Key) : AllGoOK [(k, .mk f none)] := by
  intro g hg
  cases hg
  rename_i k' t ht hmem
  simp at hmem
  obtain ⟨rfl, rfl⟩ := hmem
  cases ht
  exact h

theorem formatDirective_eq_fmtVal (io : FloatIO) (f : Fmt) (v : Val) (d : Str) (h : Directive d f) :
    formatDirective io d v = fmtVal io [(.any, .mk f none)] Ind.default v := by
  unfold formatDirective format; rw [h]

theorem formatDirective_int (io : FloatIO) (d : Str) (f : Fmt) (i : Int) (h : Directive d f)
    (hl : isFloatLetter f.letter = false) : formatDirective io d (.int i) = fmtIntCore f i := by
  rw [formatDirective_eq_fmtVal io f _ d h]
  have hg := getFormat_single f .int
  simp only [fmtVal, hg, FTree.f, fmtInt, hl, Bool.false_eq_true, if_false]

theorem isRadixLetter_eq (c : Char) : isRadixLetter c = (isIntLetter c || decide (c = 'b') || decide (c = 'B')) := rfl

theorem not_float_of_radix (c : Char) (h : isRadixLetter c = true) : isFloatLetter c = false := by
  simp only [isRadixLetter, Bool.or_eq_true, decide_eq_true_eq] at h
  rcases h with ((((rfl | rfl) | rfl) | rfl) | rfl) | rfl <;> decide

theorem bB_of_radix (c : Char) (hl : isRadixLetter c = true) (hi : ¬ isIntLetter c = true) : c = 'b' ∨ c = 'B' := by
  rw [isRadixLetter_eq] at hl
  simpa [hi] using hl

theorem formatDirective_dxXo (io : FloatIO) (d : Str) (f : Fmt) (i : Int) (h : Directive d f) (hi : isIntLetter f.letter = true) :
    ∃ g b u, printfView f = some g ∧ g.Agrees f ∧ verbBase g.verb = some (b, u) ∧
      formatDirective io d (.int i) = .text (goInteger g b u i) := by
  obtain ⟨g, hg, ha⟩ := (parseFormat_goOK d none none f h).spec
  obtain ⟨b, u, hvb, hgo⟩ := goFmtInt_verbBase g i (ha.verb ▸ hi)
  refine ⟨g, b, u, hg, ha, hvb, ?_⟩
  rw [formatDirective_int io d f i h (not_float_of_radix _ (by rw [isRadixLetter_eq, hi]; rfl))]
  unfold fmtIntCore
  rw [if_pos hi, hg, hgo]

theorem formatDirective_bB (io : FloatIO) (d : Str) (f : Fmt) (i : Int) (h : Directive d f) (hb : f.letter = 'b' ∨ f.letter = 'B') :
    PlusOK f ∧ formatDirective io d (.int i) = .text (intPbB f i) := by
  refine ⟨parseFormat_plusOK d none none f h, ?_⟩
  rw [formatDirective_int io d f i h (by rcases hb with h' | h' <;> rw [h'] <;> rfl)]
  unfold fmtIntCore
  rcases hb with h' | h' <;> rw [h'] <;> rfl

/-- the `#` prefix of an Integer under a radix letter (fmt writes `0x` for 0 too, the hand-written branch no `0b`) -/
def radixPfx (f : Fmt) (i : Int) : Str :=
  if f.alt = true ∧ (f.letter = 'x' ∨ f.letter = 'X' ∨ ((f.letter = 'b' ∨ f.letter = 'B') ∧ i ≠ 0)) then ['0', f.letter]
  else []

theorem radixPfx_ok (f : Fmt) (i : Int) : PfxOK f.letter (radixPfx f i) := by
  unfold radixPfx
  refine iteInduction (fun h => .inr ⟨rfl, ?_⟩) fun _ => .inl rfl
  rcases h.2 with h | h | ⟨h | h, _⟩
  · exact .inl h
  · exact .inr (.inl h)
  · exact .inr (.inr (.inl h))
  · exact .inr (.inr (.inr h))

/-- the prefix is one the Integer constructor takes off: `0x` is asked for in front of hexadecimal digits (`hx`), `0b` is
    taken, the other radices have none -/
theorem radixPfx_ctorOK (f : Fmt) (i : Int) (hx : f.letter = 'x' ∨ f.letter = 'X' → f.alt = true) :
    CtorPfxOK (radixOf f.letter) (radixPfx f i) := by
  rcases radixPfx_ok f i with h0 | ⟨h0, hc⟩
  · refine .inl ⟨h0, ?_⟩
    by_cases hxl : f.letter = 'x' ∨ f.letter = 'X'
    · rw [radixPfx, if_pos ⟨hx hxl, hxl.elim .inl fun h => .inr (.inl h)⟩] at h0; cases h0
    · unfold radixOf
      rw [if_neg hxl]
      split
      · omega
      split <;> omega
  · refine .inr ⟨_, h0, ?_⟩
    rcases hc with hc | hc | hc | hc <;> rw [hc] <;> simp [radixOf]

theorem formatDirective_radix (io : FloatIO) (d : Str) (f : Fmt) (i : Int) (h : Directive d f)
    (hl : isRadixLetter f.letter = true) (hne : ¬ (i = 0 ∧ f.prec = some 0 ∧ isIntLetter f.letter = true)) :
    ∃ plus space k, formatDirective io d (.int i) =
      .text (field f.left f.width (signStr (decide (i < 0)) plus space) (radixPfx f i) k
        (natStr (radixOf f.letter) (decide (f.letter = 'X')) i.natAbs)) := by
  by_cases hi : isIntLetter f.letter = true
  · obtain ⟨g, b, u, _, ha, hvb, hfd⟩ := formatDirective_dxXo io d f i h hi
    refine ⟨g.plus, g.space, goFill g b (decide (i < 0)) (natStr b u i.natAbs), ?_⟩
    have hpf : goPfx g b u = radixPfx f i := by
      unfold goPfx radixPfx
      rw [ha.sharp]
      rcases verbBase_cases hvb with ⟨hc, rfl, rfl⟩ | ⟨hc, rfl, rfl⟩ | ⟨hc, rfl, rfl⟩ | ⟨hc, rfl, rfl⟩ <;>
        (rw [ha.verb] at hc; simp [hc])
    obtain ⟨hb, hu, _⟩ := ha.verb ▸ verbBase_eq hvb
    rw [hfd, goInteger, if_neg (by intro hh; exact hne ⟨by omega, ha.prec ▸ hh.1, hi⟩), goAbs_field, hpf, ha.minus, ha.wid,
      radixOf_eq_cBase, hb, hu]
  · have hb := bB_of_radix _ hl hi
    obtain ⟨hplus, hfd⟩ := formatDirective_bB io d f i h hb
    have hp : f.letter ≠ 'p' := by rcases hb with h' | h' <;> rw [h'] <;> decide
    refine ⟨decide (f.plus = some '+'), decide (f.plus = some ' '), pbbZeroPad f i, ?_⟩
    have hpf : pbbPrefix f i = radixPfx f i := by
      unfold pbbPrefix radixPfx
      rcases hb with h' | h' <;> simp [h']
    have hr : radixOf f.letter = 2 ∧ decide (f.letter = 'X') = false := by rcases hb with h' | h' <;> rw [h'] <;> decide
    rw [hfd, intPbB_field f i hp, pbbSign_eq f i hp hplus, pbbDigits_bin f i hb, hpf, hr.1, hr.2]

end Pcore.Format

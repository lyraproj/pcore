import Pcore.Proofs.LatSound
/-! C01: soundness of the receiver `Type[x]` is transitivity (C03).  Whatever `Type[x]` accepts is, after the right-hand decomposition
    of `GuardedIsAssignable` (Variant: every member; NotUndef; never Optional, Undef or an alias, which `Type[x]` rejects), a `Type[y]`
    with `x ⊒ y`; its instances are the type values `u` with `y ⊒ u`; so `x ⊒ u` on every fragment on which assignability is transitive
    (Props/C01: `Ty.TA` with `transD`, `Ty.TSK` with `transGK`).  The file stands beside the main theorem, not under it: inside
    `sound_all` the same receiver is `recv_typ` (LatSoundMain), on `Ty.Frag`; here the fragment is abstract and need not lie within
    `Ty.Frag`, for `C01_sound_type_receiver` and `C01_sound_type_receiver_callable` alone. -/
namespace Pcore.Lat
variable (cfg : Cfg) (sfh : Bool)

/-- `Type[x] ⊒ b` and `v ∈ b` give `v ∈ Type[x]`, for right-hand types of any fragment `F` without Unit that the decomposition of
    `GuardedIsAssignable` stays in (members of a Variant, content of a NotUndef, of a `Type[..]`) and on which `x ⊒ y ⊒ u` is transitive -/
theorem typ_recv_sound_of (x : Ty) (F : Ty → Prop) (hunit : ¬ F .unit)
    (hvar : ∀ bs, F (.variant bs) → ∀ m ∈ bs, F m) (hnu : ∀ t, F (.notUndef t) → F t) (htyp : ∀ t, F (.typ t) → F t)
    (htr : ∀ y u, F y → F u → Ty.WF cfg y → Ty.WF cfg u → asg cfg sfh x y = true → asg cfg sfh y u = true → asg cfg sfh x u = true)
    (b : Ty) (fb : F b) (wb : Ty.WF cfg b) (v : Val) (hv : ∀ u, v = .typ u → F u ∧ Ty.WF cfg u)
    (h : asg cfg sfh (.typ x) b = true) (hi : inst cfg sfh b v = true) : inst cfg sfh (.typ x) v = true := by
  -- `Type[x]` rejects Undef, hence an Optional and both aliases (Undef is a member of each)
  have noU : asg cfg sfh (.typ x) .undef ≠ true := by
    rw [plain_rejects cfg sfh .undef rfl (by unfold asgRecv; rfl) (.typ x) rfl (by unfold asgRecv; rfl)]; exact Bool.false_ne_true
  refine asg_rhs_ind cfg sfh (.typ x) (P := fun b => F b → Ty.WF cfg b → inst cfg sfh b v = true → inst cfg sfh (.typ x) v = true)
    (fun f => absurd f hunit) ?_ (fun h => absurd (asg_data_comps cfg sfh h).2.1 noU) (fun h => absurd (asg_rich_comps cfg sfh h).un noU)
    (fun _ hu => absurd hu noU) ?_ ?_ b h fb wb hi
  · intro b pb h fb wb hi
    rcases recvPos_cases cfg sfh pb h with h | h | h
    · cases h
    · cases eq_of_sameNullary h; cases h
    · refine typ_recv_core cfg sfh x b v h hi fun y u hb hu hxy hyu => ?_
      subst hb
      obtain ⟨fu, wu⟩ := hv u hu
      exact htr y u (htyp y fb) fu (wb.inner .typ) wu hxy hyu
  · intro bs pm fb wb hi
    obtain ⟨m, hm, hmi⟩ := (inst_variant_iff cfg sfh bs v).1 hi
    exact (pm m hm).2 (hvar bs fb m hm) (wb.mem_variant hm) hmi
  · intro nt _ _ pn fb wb hi
    exact pn (hnu nt fb) (wb.inner .notUndef) ((inst_notUndef_iff cfg sfh nt v).1 hi).2

end Pcore.Lat

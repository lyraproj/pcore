import Pcore.Proofs.FormatWidth
import Pcore.Proofs.ListFacts
/-! The directive grammar: what `parseFormat` accepts is a directive that Go's fmt parses to the same flags, width,
    precision and verb once the container delimiters are filtered out (`parseFormat_goOK0`; `GoOK0` is FormatWidth's).  Both
    parsers are described on the text in pieces — flags, width digits, precision part, letter: first pcore's pattern
    (`matchPattern_pieces`) and the record `parseFormat` builds from a match (`Parsed`, `parseFormat_ok`; its sign flag is
    FormatBin's `PlusOK`, its numbers are within fmt's limit: `NumOK`), then fmt's reader (`goParse_pieces`). -/
namespace Pcore.Format

theorem isDelim_cases (c : Char) (h : isDelim c = true) : c = '[' ∨ c = '{' ∨ c = '<' ∨ c = '(' ∨ c = '|' := by
  simpa only [isDelim, Bool.or_eq_true, decide_eq_true_eq, or_assoc] using h

theorem not_delim_of_digit (c : Char) (h : isDigit c = true) : isDelim c = false := by
  cases hd : isDelim c with
  | false => rfl
  | true => rcases isDelim_cases c hd with rfl | rfl | rfl | rfl | rfl <;> revert h <;> decide

theorem not_delim_of_letter (c : Char) (h : isLetter c = true) : isDelim c = false := by
  cases hd : isDelim c with
  | false => rfl
  | true => rcases isDelim_cases c hd with rfl | rfl | rfl | rfl | rfl <;> revert h <;> decide

theorem not_dot_of_letter (c : Char) (h : isLetter c = true) : c ≠ '.' := by
  rintro rfl; revert h; decide

theorem not_digit_of_letter (c : Char) (h : isLetter c = true) : isDigit c = false := by
  simp only [isLetter, isDigit, Bool.or_eq_true, Bool.and_eq_true, decide_eq_true_eq] at h
  cases hd : isDigit c with
  | false => rfl
  | true =>
    simp only [isDigit, Bool.and_eq_true, decide_eq_true_eq] at hd
    have h9 : c.toNat ≤ '9'.toNat := hd.2
    rcases h with h | h
    · have : 'a'.toNat ≤ c.toNat := h.1
      simp at h9 this; omega
    · have : 'A'.toNat ≤ c.toNat := h.1
      simp at h9 this; omega

theorem goFlag_of_flag (c : Char) (h : isFlag c = true) (hd : isDelim c = false) : isGoFlag c = true := by
  simp only [isFlag, Bool.or_eq_true, decide_eq_true_eq] at h
  rcases h with ((((((((rfl | rfl) | rfl) | rfl) | rfl) | rfl) | rfl) | rfl) | rfl) | rfl <;>
    first | rfl | exact absurd hd (by decide)

theorem not_goFlag_of_not_flag (c : Char) (h : isFlag c = false) : isGoFlag c = false :=
  Bool.eq_false_iff.mpr fun hg => by
    simp only [isGoFlag, Bool.or_eq_true, decide_eq_true_eq] at hg
    rcases hg with (((rfl | rfl) | rfl) | rfl) | rfl <;> cases h

theorem not_goFlag_of_letter (c : Char) (h : isLetter c = true) : isGoFlag c = false := by
  cases hg : isGoFlag c with
  | false => rfl
  | true =>
    simp only [isGoFlag, Bool.or_eq_true, decide_eq_true_eq] at hg
    rcases hg with (((rfl | rfl) | rfl) | rfl) | rfl <;> revert h <;> decide

/-- a precision part and the precision it stands for: nothing, or `.` and digits -/
def PrecPart (pr : Str) (p : Option Nat) : Prop :=
  (pr = [] ∧ p = none) ∨ ∃ pd, pd ≠ [] ∧ (∀ c ∈ pd, isDigit c = true) ∧ pr = '.' :: pd ∧ p = some (readNat pd)

theorem PrecPart.noDelim {pr : Str} {p : Option Nat} (h : PrecPart pr p) : ∀ c ∈ pr, isDelim c = false := by
  rcases h with ⟨rfl, _⟩ | ⟨pd, _, hpd, rfl, _⟩
  · exact fun _ hc => nomatch hc
  · intro c hc
    rcases List.mem_cons.mp hc with rfl | hc
    · decide
    · exact not_delim_of_digit c (hpd c hc)

/-- a successful match of the format pattern, as a decomposition of the text: `%`, the flags, the digits of the width (not
    beginning with a flag character, that is with `0`), the precision part, the letter -/
theorem matchPattern_pieces (s : Str) (p : Pattern) (h : matchPattern s = some p) :
    ∃ wd pr, s = '%' :: (p.flags ++ (wd ++ (pr ++ [p.letter]))) ∧
      (∀ c ∈ p.flags, isFlag c = true) ∧ (∀ c ∈ wd, isDigit c = true) ∧ (∀ c, wd.head? = some c → isFlag c = false) ∧
      p.width = (if wd.isEmpty then none else some (readNat wd)) ∧ isLetter p.letter = true ∧
      PrecPart pr p.prec := by
  unfold matchPattern at h
  split at h
  · rename_i rest
    have hrest : rest = rest.takeWhile isFlag ++
        ((rest.dropWhile isFlag).takeWhile isDigit ++ (rest.dropWhile isFlag).dropWhile isDigit) := by
      rw [List.takeWhile_append_dropWhile, List.takeWhile_append_dropWhile]
    have hwd0 : ∀ c, ((rest.dropWhile isFlag).takeWhile isDigit).head? = some c → isFlag c = false :=
      fun c hc => head_dropWhile rest c (head_takeWhile _ c hc)
    simp only at h
    split at h
    · rename_i r3 hr2
      split at h
      · cases h
      · rename_i hpd
        split at h
        · rename_i c hr4
          split at h
          · rename_i hc
            cases h
            have hr3 : r3 = r3.takeWhile isDigit ++ [c] := by
              rw [← hr4, List.takeWhile_append_dropWhile]
            refine ⟨_, '.' :: r3.takeWhile isDigit, by rw [List.cons_append, ← hr3, ← hr2, ← hrest],
              fun c hc => mem_takeWhile _ c hc, fun c hc => mem_takeWhile _ c hc, hwd0, rfl, hc,
              Or.inr ⟨_, fun he => ?_, fun c hc => mem_takeWhile _ c hc, rfl, rfl⟩⟩
            rw [he] at hpd; simp at hpd
          · cases h
        · cases h
    · rename_i c hr2
      split at h
      · rename_i hc
        cases h
        exact ⟨_, [], by rw [List.nil_append, ← hr2, ← hrest], fun c hc => mem_takeWhile _ c hc,
          fun c hc => mem_takeWhile _ c hc, hwd0, rfl, hc, Or.inl ⟨rfl, rfl⟩⟩
      · cases h
    · cases h
  · cases h

theorem bind_eq_ok {ε α β : Type} {x : Except ε α} {f : α → Except ε β} {b : β} (h : (x >>= f) = .ok b) :
    ∃ a, x = .ok a ∧ f a = .ok b := by
  cases x with
  | error e => cases h
  | ok a => exact ⟨a, rfl, h⟩

theorem hasOnce_ok (fl : Str) (c : Char) (b : Bool) (h : hasOnce fl c = .ok b) : b = fl.contains c := by
  unfold hasOnce at h
  split at h
  · rename_i h0; cases h
    have : c ∉ fl := List.count_eq_zero.mp h0
    simp [this]
  · rename_i h1; cases h
    have : c ∈ fl := List.count_pos_iff.mp (by omega)
    simp [this]
  · cases h

/-- what an accepted format text says about its record: `p` the matched pattern, the flags of the record read off its flags
    (`hasPlus`, `hasSpace`: whether `+` and the blank are among them), `found` the delimiter among the flags -/
structure Parsed (orig : Str) (f : Fmt) (p : Pattern) (hasPlus hasSpace : Bool) (found : Option Char) : Prop where
  pat : matchPattern orig = some p
  plus : hasPlus = p.flags.contains '+'
  space : hasSpace = p.flags.contains ' '
  left : f.left = p.flags.contains '-'
  alt : f.alt = p.flags.contains '#'
  zero : f.zeroPad = p.flags.contains '0'
  plus_eq : f.plus = (if hasPlus then some '+' else if hasSpace then some ' ' else none)
  letter_eq : f.letter = p.letter
  width_eq : f.width = p.width
  prec_eq : f.prec = p.prec
  orig_eq : f.orig = orig
  ldelim_eq : f.ldelim = (match found with | some d => some d | none => if hasSpace then some ' ' else none)
  delim : findDelim p.flags delimiters none = .ok found
  width_le : p.width.getD 0 ≤ maxFormatNumber
  prec_le : p.prec.getD 0 ≤ maxFormatNumber

theorem parseFormat_ok (orig : Str) (sep sep2 : Option Str) (f : Fmt) (h : parseFormat orig sep sep2 = .ok f) :
    ∃ p hasPlus hasSpace found, Parsed orig f p hasPlus hasSpace found := by
  unfold parseFormat at h
  cases hm : matchPattern orig with
  | none => rw [hm] at h; cases h
  | some p =>
    rw [hm] at h
    obtain ⟨hasSpace, h2, h⟩ := bind_eq_ok h
    obtain ⟨hasPlus, h1, h⟩ := bind_eq_ok h
    obtain ⟨found, h3, h⟩ := bind_eq_ok h
    by_cases hnum : (decide (p.width.getD 0 > maxFormatNumber) || decide (p.prec.getD 0 > maxFormatNumber)) = true
    · rw [if_pos hnum] at h; cases h
    · rw [if_neg hnum] at h
      obtain ⟨left, h4, h⟩ := bind_eq_ok h
      obtain ⟨alt, h5, h⟩ := bind_eq_ok h
      obtain ⟨zp, h6, h⟩ := bind_eq_ok h
      cases h
      simp only [Bool.or_eq_true, decide_eq_true_eq, not_or, Nat.not_lt] at hnum
      exact ⟨p, hasPlus, hasSpace, found, hm, hasOnce_ok _ _ _ h1, hasOnce_ok _ _ _ h2, hasOnce_ok _ _ _ h4,
        hasOnce_ok _ _ _ h5, hasOnce_ok _ _ _ h6, rfl, rfl, rfl, rfl, rfl, rfl, h3, hnum.1, hnum.2⟩

theorem parseFormat_plusOK (orig : Str) (sep sep2 : Option Str) (f : Fmt) (h : parseFormat orig sep sep2 = .ok f) :
    PlusOK f := by
  obtain ⟨_, hasPlus, hasSpace, _, hP⟩ := parseFormat_ok orig sep sep2 f h
  rw [PlusOK, hP.plus_eq]; cases hasSpace <;> cases hasPlus <;> simp

theorem readNat_snoc (xs : Str) (c : Char) : readNat (xs ++ [c]) = readNat xs * 10 + (c.toNat - '0'.toNat) := by
  simp [readNat, List.foldl_append]

theorem digit_lt (c : Char) (h : isDigit c = true) : c.toNat - '0'.toNat < 10 := by
  simp only [isDigit, Bool.and_eq_true, decide_eq_true_eq] at h
  have h9 : c.toNat ≤ '9'.toNat := h.2
  simp at h9 ⊢; omega

theorem readNat_dropLast (ds : Str) (hne : ds ≠ []) (hd : ∀ c ∈ ds, isDigit c = true) :
    readNat ds.dropLast = readNat ds / 10 := by
  have hsplit := List.dropLast_concat_getLast hne
  have hlast : isDigit (ds.getLast hne) = true := hd _ (List.getLast_mem hne)
  conv => rhs; rw [← hsplit, readNat_snoc]
  have := digit_lt _ hlast
  omega

theorem goNum_ok (ds : Str) (hne : ds ≠ []) (hd : ∀ c ∈ ds, isDigit c = true) (hlim : readNat ds / 10 ≤ 1000000) :
    goNum ds = some (readNat ds) := by
  unfold goNum
  rw [readNat_dropLast ds hne hd, if_neg (by omega)]

/-- fmt's limit on the numbers of a directive: `parsenum` gives up once the digits read so far exceed 10^6 -/
def NumOK (f : Fmt) : Prop := f.width.getD 0 / 10 ≤ 1000000 ∧ f.prec.getD 0 / 10 ≤ 1000000

instance (f : Fmt) : Decidable (NumOK f) := by unfold NumOK; infer_instance

theorem NumOK.width {f : Fmt} (h : NumOK f) (w : Nat) (hw : f.width = some w) : w / 10 ≤ 1000000 := by
  have := h.1; rw [hw] at this; exact this

theorem NumOK.prec {f : Fmt} (h : NumOK f) (p : Nat) (hp : f.prec = some p) : p / 10 ≤ 1000000 := by
  have := h.2; rw [hp] at this; exact this

theorem parseFormat_numOK (orig : Str) (sep sep2 : Option Str) (f : Fmt) (h : parseFormat orig sep sep2 = .ok f) :
    NumOK f := by
  obtain ⟨p, _, _, _, hP⟩ := parseFormat_ok orig sep sep2 f h
  have h1 := hP.width_le
  have h2 := hP.prec_le
  unfold NumOK
  rw [hP.width_eq, hP.prec_eq]
  unfold maxFormatNumber at h1 h2
  constructor <;> omega

theorem goPrecPart_none {c : Char} (hc : isLetter c = true) : goPrecPart [c] = (some none, [c]) := by
  unfold goPrecPart
  split
  · rename_i r3 heq; exact absurd (List.cons.inj heq).1 (not_dot_of_letter _ hc)
  · rfl

theorem goPrecPart_some {pd : Str} {c : Char} {n : Nat} (hne : pd ≠ []) (hpd : ∀ x ∈ pd, isDigit x = true)
    (hn : goNum pd = some n) (hc : isLetter c = true) : goPrecPart ('.' :: (pd ++ [c])) = (some (some n), [c]) := by
  obtain ⟨htk, hdr⟩ := takeWhile_append_stop (p := isDigit) pd [c] hpd
    (by intro x hx; cases hx; exact not_digit_of_letter _ hc)
  simp only [goPrecPart, htk, hdr, List.isEmpty_eq_false_iff.mpr hne, Bool.false_eq_true, if_false, hn, Option.map_some]

/-- **fmt's parser on a directive text in pieces**, the pieces as `matchPattern_pieces` gives them: go flags, the digits of
    the width (not beginning with a flag character, that is with `0`), the precision part, the verb; both numbers within
    fmt's limit -/
theorem goParse_pieces {fl wd pr : Str} {c : Char} {w p : Option Nat}
    (hfl : ∀ x ∈ fl, isGoFlag x = true)
    (hwd : ∀ x ∈ wd, isDigit x = true) (hwd0 : ∀ x, wd.head? = some x → isGoFlag x = false)
    (hw : w = if wd.isEmpty then none else some (readNat wd)) (hpr : PrecPart pr p)
    (hwlim : ∀ n, w = some n → n / 10 ≤ 1000000) (hplim : ∀ n, p = some n → n / 10 ≤ 1000000) (hc : isLetter c = true) :
    goParse ('%' :: (fl ++ (wd ++ (pr ++ [c])))) =
      some ⟨fl.contains '#', fl.contains '0', fl.contains '+', fl.contains '-', fl.contains ' ', w, p, c⟩ := by
  have hw : (if wd.isEmpty then some none else (goNum wd).map some) = some w := by
    subst hw
    cases wd with
    | nil => rfl
    | cons d ds =>
      simp only [List.isEmpty_cons, Bool.false_eq_true, if_false] at hwlim ⊢
      rw [goNum_ok _ (List.cons_ne_nil _ _) hwd (hwlim _ rfl)]; rfl
  have hpr' : goPrecPart (pr ++ [c]) = (some p, [c]) := by
    rcases hpr with ⟨rfl, rfl⟩ | ⟨pd, hne, hpd, rfl, rfl⟩
    · exact goPrecPart_none hc
    · exact goPrecPart_some hne hpd (goNum_ok pd hne hpd (hplim _ rfl)) hc
  have hpr0 : ∀ x, (pr ++ [c]).head? = some x → isDigit x = false ∧ isGoFlag x = false := by
    rcases hpr with ⟨rfl, _⟩ | ⟨pd, _, _, rfl, _⟩
    · intro x hx; cases hx; exact ⟨not_digit_of_letter _ hc, not_goFlag_of_letter _ hc⟩
    · intro x hx; cases hx; exact ⟨by decide, by decide⟩
  have hhead : ∀ x, (wd ++ (pr ++ [c])).head? = some x → isGoFlag x = false := by
    cases wd with
    | nil => exact fun x hx => (hpr0 x hx).2
    | cons d ds => exact fun x hx => hwd0 x hx
  obtain ⟨h1, h2⟩ := takeWhile_append_stop fl _ hfl hhead
  obtain ⟨h3, h4⟩ := takeWhile_append_stop (p := isDigit) wd _ hwd fun x hx => (hpr0 x hx).1
  simp only [goParse, h1, h2, h3, h4, hw, hpr']

/-- **the directive grammar is understood by fmt**: for every format `parseFormat` accepts, the string handed to fmt
    parses to the same verb, width, precision and flags -/
theorem parseFormat_goOK0 (orig : Str) (sep sep2 : Option Str) (f : Fmt) (h : parseFormat orig sep sep2 = .ok f) :
    GoOK0 f := by
  have hn := parseFormat_numOK orig sep sep2 f h
  obtain ⟨p, hasPlus, hasSpace, _, hP⟩ := parseFormat_ok orig sep sep2 f h
  obtain ⟨wd, pr, hs, hfl, hwd, hwd0, hw, hlet, htail⟩ := matchPattern_pieces orig p hP.pat
  -- the text handed to fmt: the delimiters go, everything else stays
  have hkeep : ∀ c ∈ wd ++ (pr ++ [p.letter]), (!isDelim c) = true := by
    intro c hc
    rcases List.mem_append.mp hc with h1 | h1
    · rw [not_delim_of_digit c (hwd c h1)]; rfl
    · rcases List.mem_append.mp h1 with h1 | h1
      · rw [htail.noDelim c h1]; rfl
      · cases List.mem_singleton.mp h1; rw [not_delim_of_letter _ hlet]; rfl
  have hgf : goFormat f = '%' :: (p.flags.filter (fun c => !isDelim c) ++ (wd ++ (pr ++ [p.letter]))) := by
    unfold goFormat
    rw [hP.orig_eq, hs, List.filter_cons_of_pos (by decide), List.filter_append, List.filter_eq_self.mpr hkeep]
  have hfl'_go : ∀ c ∈ p.flags.filter (fun c => !isDelim c), isGoFlag c = true := fun c hc =>
    goFlag_of_flag c (hfl c (List.mem_filter.mp hc).1) (by simpa using (List.mem_filter.mp hc).2)
  -- membership of the fmt flags is not changed by the filter
  have hcont : ∀ c, isDelim c = false → (p.flags.filter (fun c => !isDelim c)).contains c = p.flags.contains c := by
    intro c hc
    simp [List.mem_filter, hc]
  unfold GoOK0
  rw [hgf, goParse_pieces hfl'_go hwd (fun c hc => not_goFlag_of_not_flag c (hwd0 c hc)) hw htail (fun n e => hn.width n (hP.width_eq.trans e))
    (fun n e => hn.prec n (hP.prec_eq.trans e)) hlet]
  refine ⟨hP.letter_eq.symm, hP.width_eq.symm, hP.prec_eq.symm, ?_, ?_, ?_, ?_⟩
  · rw [hcont '-' (by decide), hP.left]
  · rw [hcont '#' (by decide), hP.alt]
  · rw [hcont '0' (by decide), hP.zero]
  · rw [hcont '+' (by decide), hcont ' ' (by decide), hP.plus_eq, ← hP.plus, ← hP.space]
    cases hasSpace <;> cases hasPlus <;> rfl

end Pcore.Format

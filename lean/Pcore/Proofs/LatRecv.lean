import Pcore.Proofs.LatAsg
import Pcore.Proofs.LatAsgEq
import Pcore.Proofs.LatStruct
import Pcore.Proofs.LatCallable
import Pcore.Proofs.LatRuntime
import Pcore.Proofs.LatInd
/-! What a receiver accepts.  `GuardedIsAssignable(a, b)` first decomposes the right-hand side `b` (Unit, Optional, Variant, NotUndef, the
    two aliases) and then asks the rule of the receiver `a` (`asgRecv`).  Every law of the lattice — soundness, transitivity,
    reflexivity, monotonicity, widening, the mismatch report — inverts these two steps; here each inversion is stated once, on all
    type terms, before any fragment is chosen.  First the decomposition (its forms one by one, the two aliases, then as one induction
    principle, `asg_rhs_ind`); then the rule receiver by receiver; then, across all receivers, which of them accept four particular
    right-hand sides; last the rule of an alias as receiver through its members. -/
namespace Pcore.Lat
variable (cfg : Cfg) (sfh : Bool)

/-! ### the decomposition inverted, form by form: what `a ⊒ b` gives at a right-hand side that reaches the receiver's rule (`RecvPos`: the
    shortcuts or the rule) and at Optional, Variant, NotUndef (the parts), with the converses -/

/-- a right-hand side the receiver's own rule is asked about: not decomposed, or a NotUndef whose content accepts Undef -/
def RecvPos (b : Ty) : Prop :=
  b.plainR = true ∨ ∃ nt, b = .notUndef nt ∧ asg cfg sfh nt .undef = true

theorem asg_of_recv {a b : Ty} (hb : RecvPos cfg sfh b) (h : asgRecv cfg sfh a b = true) : asg cfg sfh a b = true := by
  rcases hb with hb | ⟨nt, rfl, hnt⟩
  · rw [asg_plain_r cfg sfh a b hb, h]; simp
  · rw [asg_notUndef_r, hnt]; simp [h]

theorem asg_of_isAny {a : Ty} (h : a.isAny = true) (b : Ty) : asg cfg sfh a b = true := by
  cases a <;> simp [Ty.isAny] at h; exact asg_any_l cfg sfh b

theorem recvPos_cases {a b : Ty} (hb : RecvPos cfg sfh b) (h : asg cfg sfh a b = true) :
    a.isAny = true ∨ sameNullary a b = true ∨ asgRecv cfg sfh a b = true := by
  rcases hb with hb | ⟨nt, rfl, hnt⟩
  · rw [asg_plain_r cfg sfh a b hb] at h
    simpa only [Bool.or_eq_true, or_assoc] using h
  · rw [asg_notUndef_r, hnt] at h
    simp only [Bool.not_true, Bool.false_eq_true, if_false, Bool.or_eq_true] at h
    exact h.imp_right Or.inr

theorem asg_plain_cases {a c : Ty} (ha : a.isAny = false) (hc : c.plainR = true) (h : asg cfg sfh a c = true) :
    a = c ∨ asgRecv cfg sfh a c = true := by
  rcases recvPos_cases cfg sfh (Or.inl hc) h with h | h | h
  · rw [ha] at h; cases h
  · exact Or.inl (eq_of_sameNullary h)
  · exact Or.inr h

theorem plain_rejects (c : Ty) (hc : c.plainR = true) (hcc : asgRecv cfg sfh c c = true) (t : Ty) (h1 : t.isAny = false)
    (h3 : asgRecv cfg sfh t c = false) : asg cfg sfh t c = false := by
  cases hh : asg cfg sfh t c with
  | false => rfl
  | true =>
    rcases asg_plain_cases cfg sfh h1 hc hh with rfl | h
    · rw [hcc] at h3; cases h3
    · rw [h] at h3; cases h3

/-- a decomposed type against a plain right-hand side: no shortcut applies, its own rule decides (instance of `asg_eq_recv`, LatAsgEq) -/
theorem asg_eq_recv_dec {a T : Ty} (ha : a.plainR = false) (hT : T.plainR = true) : asg cfg sfh a T = asgRecv cfg sfh a T :=
  asg_eq_recv cfg sfh hT (by cases a <;> first | rfl | cases ha) (fun e => by rw [e, hT] at ha; cases ha)
theorem recv_of_decomposed {b c : Ty} (hb : b.plainR = false) (hc : c.plainR = true) (h : asg cfg sfh b c = true) :
    asgRecv cfg sfh b c = true := asg_eq_recv_dec cfg sfh hb hc ▸ h

theorem asg_optional_parts {a ot : Ty} (h : asg cfg sfh a (.optional ot) = true) :
    asg cfg sfh a .undef = true ∧ asg cfg sfh a ot = true := by
  rw [asg_optional_r] at h
  simp only [Bool.or_eq_true, Bool.and_eq_true] at h
  rcases h with h | h
  · exact ⟨asg_of_isAny cfg sfh h _, asg_of_isAny cfg sfh h _⟩
  · exact h

theorem asg_variant_parts {a : Ty} {bs : List Ty} (h : asg cfg sfh a (.variant bs) = true) :
    ∀ t ∈ bs, asg cfg sfh a t = true := by
  rw [asg_variant_r] at h
  simp only [Bool.or_eq_true] at h
  rcases h with h | h
  · exact fun t _ => asg_of_isAny cfg sfh h t
  · exact (asgAllR_iff cfg sfh a bs).1 h

theorem asg_nu_strict {a nt : Ty} (hnt : asg cfg sfh nt .undef = false) (h : asg cfg sfh a (.notUndef nt) = true) :
    asg cfg sfh a nt = true := by
  rw [asg_notUndef_r] at h
  simp only [Bool.or_eq_true] at h
  rcases h with h | h
  · exact asg_of_isAny cfg sfh h _
  · simpa [hnt] using h

theorem asg_nu_fall {a nt : Ty} (ha : a.isAny = false) (hnt : asg cfg sfh nt .undef = true)
    (h : asg cfg sfh a (.notUndef nt) = true) : asgRecv cfg sfh a (.notUndef nt) = true := by
  rcases recvPos_cases cfg sfh (Or.inr ⟨nt, rfl, hnt⟩) h with h | h | h
  · rw [ha] at h; cases h
  · cases eq_of_sameNullary h; cases h
  · exact h

theorem asg_nu_of_strict {a nt : Ty} (hnt : asg cfg sfh nt .undef = false) (h : asg cfg sfh a nt = true) :
    asg cfg sfh a (.notUndef nt) = true := by
  rw [asg_notUndef_r]; simp [hnt, h]

theorem asg_variant_of {a : Ty} {bs : List Ty} (h : ∀ t ∈ bs, asg cfg sfh a t = true) : asg cfg sfh a (.variant bs) = true := by
  rw [asg_variant_r, (asgAllR_iff cfg sfh a bs).2 h, Bool.or_true]

theorem asg_optional_of {a ot : Ty} (hu : asg cfg sfh a .undef = true) (h : asg cfg sfh a ot = true) :
    asg cfg sfh a (.optional ot) = true := by
  rw [asg_optional_r, hu, h]; simp

/-! ### the two aliases on the right: what accepts an alias accepts its members, and conversely — alias by alias (`asg_data_comps`,
    `RichComps`), then uniformly in the alias (`Alias.leaves`, `asg_alias_comps`, `asg_alias_of`), the form meant for use -/

theorem asg_data_comps {a : Ty} (h : asg cfg sfh a .data = true) :
    asg cfg sfh a .scalarData = true ∧ asg cfg sfh a .undef = true ∧ asgToArr cfg sfh .data a = true ∧ asgToHash cfg sfh .data a = true := by
  rw [asg_data_r] at h
  simp only [Bool.or_eq_true, Bool.and_eq_true] at h
  rcases h with (h | h) | h
  · cases a <;> simp [Ty.isAny] at h
    refine ⟨asg_any_l cfg sfh _, asg_any_l cfg sfh _, ?_, ?_⟩
    · unfold asgToArr; rfl
    · unfold asgToHash; rfl
  · -- `a` is Data itself
    have := eq_of_sameNullary h; subst this
    refine ⟨?_, ?_, ?_, ?_⟩
    · simp [asg_plain_r cfg sfh _ .scalarData rfl, asgRecv, sameNullary]
    · simp [asg_plain_r cfg sfh _ .undef rfl, asgRecv, sameNullary]
    · unfold asgToArr; rfl
    · unfold asgToHash; rfl
  · exact ⟨h.1.1.1, h.1.1.2, h.1.2, h.2⟩

theorem asg_data_of_comps {a : Ty} (h1 : asg cfg sfh a .scalarData = true) (h2 : asg cfg sfh a .undef = true)
    (h3 : asgToArr cfg sfh .data a = true) (h4 : asgToHash cfg sfh .data a = true) : asg cfg sfh a .data = true := by
  rw [asg_data_r]; simp [h1, h2, h3, h4]

/-- the members of `RichData` (the unmodelled TypeSet and Deferred types as the two acceptance predicates) -/
structure RichComps (a : Ty) : Prop where
  sc : asg cfg sfh a .scalar = true
  bi : asg cfg sfh a .bin = true
  df : asg cfg sfh a .dflt = true
  ob : asg cfg sfh a (.object none) = true
  ty : asg cfg sfh a (.typ .any) = true
  ts : accTypeSet a = true
  de : accDeferred a = true
  un : asg cfg sfh a .undef = true
  ar : asgToArr cfg sfh .rich a = true
  ha : asgToHash cfg sfh .rich a = true

theorem asg_rich_of_comps {a : Ty} (h : RichComps cfg sfh a) : asg cfg sfh a .richData = true := by
  rw [asg_rich_r]; simp [h.sc, h.bi, h.df, h.ob, h.ty, h.ts, h.de, h.un, h.ar, h.ha]

theorem asg_rich_comps {a : Ty} (h : asg cfg sfh a .richData = true) : RichComps cfg sfh a := by
  rw [asg_rich_r] at h
  simp only [Bool.or_eq_true, Bool.and_eq_true] at h
  rcases h with (h | h) | h
  · cases a <;> simp [Ty.isAny] at h
    exact ⟨asg_any_l cfg sfh _, asg_any_l cfg sfh _, asg_any_l cfg sfh _, asg_any_l cfg sfh _, asg_any_l cfg sfh _, rfl, rfl,
      asg_any_l cfg sfh _, by unfold asgToArr; rfl, by unfold asgToHash; rfl⟩
  · -- `a` is RichData itself: it accepts each of its members by that member's own clause
    have := eq_of_sameNullary h; subst this
    exact ⟨by simp [asg_plain_r cfg sfh _ .scalar rfl, asgRecv, sameNullary],
      by simp [asg_plain_r cfg sfh _ .bin rfl, asgRecv, sameNullary, isStringFamily],
      by simp [asg_plain_r cfg sfh _ .dflt rfl, asgRecv, sameNullary, isStringFamily],
      by simp [asg_plain_r cfg sfh _ (.object none) rfl, asgRecv, sameNullary, isStringFamily],
      by simp [asg_plain_r cfg sfh _ (.typ .any) rfl, asgRecv, sameNullary, isStringFamily, asg_any_l],
      rfl, rfl, by simp [asg_plain_r cfg sfh _ .undef rfl, asgRecv, sameNullary, isStringFamily],
      by unfold asgToArr; rfl, by unfold asgToHash; rfl⟩
  · exact ⟨h.1.1.1.1.1.1.1.1.1, h.1.1.1.1.1.1.1.1.2, h.1.1.1.1.1.1.1.2, h.1.1.1.1.1.1.2, h.1.1.1.1.1.2, h.1.1.1.1.2, h.1.1.1.2, h.1.1.2,
      h.1.2, h.2⟩

/-- the members of the alias other than its Array and Hash member -/
def Alias.leaves : Alias → List Ty
  | .data => [.scalarData, .undef]
  | .rich => [.scalar, .bin, .dflt, .object none, .typ .any, .undef]

theorem asg_alias_comps (al : Alias) {a : Ty} (h : asg cfg sfh a al.ty = true) :
    (∀ x ∈ al.leaves, asg cfg sfh a x = true) ∧ asgToArr cfg sfh al a = true ∧ asgToHash cfg sfh al a = true := by
  cases al
  · obtain ⟨h1, h2, h3, h4⟩ := asg_data_comps cfg sfh h
    exact ⟨by simp [Alias.leaves, h1, h2], h3, h4⟩
  · have c := asg_rich_comps cfg sfh h
    exact ⟨by simp [Alias.leaves, c.sc, c.bi, c.df, c.ob, c.ty, c.un], c.ar, c.ha⟩

theorem asg_alias_of (al : Alias) {a : Ty} (hl : ∀ x ∈ al.leaves, asg cfg sfh a x = true)
    (ha : asgToArr cfg sfh al a = true) (hh : asgToHash cfg sfh al a = true)
    (hacc : al = .rich → accTypeSet a = true ∧ accDeferred a = true) : asg cfg sfh a al.ty = true := by
  cases al
  · exact asg_data_of_comps cfg sfh (hl _ (by simp [Alias.leaves])) (hl _ (by simp [Alias.leaves])) ha hh
  · apply asg_rich_of_comps
    exact ⟨hl _ (by simp [Alias.leaves]), hl _ (by simp [Alias.leaves]), hl _ (by simp [Alias.leaves]), hl _ (by simp [Alias.leaves]),
      hl _ (by simp [Alias.leaves]), (hacc rfl).1, (hacc rfl).2, hl _ (by simp [Alias.leaves]), ha, hh⟩

/-! ### the decomposition as one induction principle over the right-hand side -/

/-- What `a ⊒ b` rests on, by the form of `b` — the decomposition that `GuardedIsAssignable` performs before it asks the receiver:
    Unit is accepted; an Optional through Undef and its content; a Variant through every member; a NotUndef whose content rejects
    Undef through the content; the two aliases through their members (left to the caller: `asg_data_comps`, `asg_rich_comps`, uniformly `asg_alias_comps`); every
    other right-hand side (`RecvPos`) by the shortcuts or the receiver's own rule.  The receiver `Any` needs no case of its own: it
    accepts the parts as well. -/
theorem asg_rhs_ind (a : Ty) {P : Ty → Prop}
    (unit : P .unit)
    (recv : ∀ b, RecvPos cfg sfh b → asg cfg sfh a b = true → P b)
    (data : asg cfg sfh a .data = true → P .data)
    (rich : asg cfg sfh a .richData = true → P .richData)
    (optional : ∀ ot, asg cfg sfh a .undef = true → asg cfg sfh a ot = true → P .undef → P ot → P (.optional ot))
    (variant : ∀ bs, (∀ m ∈ bs, asg cfg sfh a m = true ∧ P m) → P (.variant bs))
    (notUndef : ∀ nt, asg cfg sfh nt .undef = false → asg cfg sfh a nt = true → P nt → P (.notUndef nt)) :
    ∀ b, asg cfg sfh a b = true → P b := by
  intro b
  induction b using Ty.ind with
  | unit => exact fun _ => unit
  | data => exact data
  | richData => exact rich
  | optional ot ih =>
    intro h
    obtain ⟨h1, h2⟩ := asg_optional_parts cfg sfh h
    exact optional ot h1 h2 (recv .undef (Or.inl rfl) h1) (ih h2)
  | variant bs ih =>
    intro h
    exact variant bs fun m hm => have hm' := asg_variant_parts cfg sfh h m hm; ⟨hm', ih m hm hm'⟩
  | notUndef nt ih =>
    intro h
    by_cases hc : asg cfg sfh nt .undef = true
    · exact recv _ (Or.inr ⟨nt, rfl, hc⟩) h
    · have h' := asg_nu_strict cfg sfh (eq_false_of_ne_true hc) h
      exact notUndef nt (eq_false_of_ne_true hc) h' (ih h')
  | _ => exact recv _ (Or.inl rfl)

/-! ### the string family; Scalar and ScalarData through their member lists -/
theorem family_closed {b c : Ty} (hb : isStringFamily b = true) (h : asgRecv cfg sfh b c = true) : isStringFamily c = true := by
  unfold isStringFamily at hb
  split at hb
  · unfold asgRecv at h; exact h
  · unfold asgRecv at h; split at h <;> first | rfl | cases h
  · unfold asgRecv at h; split at h <;> first | rfl | cases h
  · unfold asgRecv at h
    split at h
    · exact h
    · split at h <;> first | rfl | cases h
  · unfold asgRecv at h; split at h <;> first | rfl | cases h
  · cases hb

/-- Scalar accepts Scalar, ScalarData, and what one of these accepts; ScalarData likewise with its own list (the `b'` arms of `asgRecv`) -/
def scalarMembers : List Ty := [.str, .numeric, .bool none, .regexp "", .tspan Rng.all, .tstamp tstampAll]
def scalarDataMembers : List Ty := [.str, .int Rng.all, .bool none, floatAll]

theorem recv_scalar_iff (c : Ty) :
    asgRecv cfg sfh .scalar c = true ↔ c = .scalar ∨ c = .scalarData ∨ ∃ m ∈ scalarMembers, asg cfg sfh m c = true := by
  unfold asgRecv
  split <;> simp_all [scalarMembers, or_assoc]

theorem recv_scalarData_iff (c : Ty) :
    asgRecv cfg sfh .scalarData c = true ↔ c = .scalarData ∨ ∃ m ∈ scalarDataMembers, asg cfg sfh m c = true := by
  unfold asgRecv
  split <;> simp_all [scalarDataMembers, or_assoc]

theorem members_leaf {m : Ty} (h : m ∈ scalarMembers ++ scalarDataMembers) :
    m.isLeaf = true ∧ m.w = 1 ∧ m.isAny = false ∧ m.fragLeaf = true := by
  simp only [scalarMembers, scalarDataMembers, List.mem_append, List.mem_cons, List.not_mem_nil, or_false] at h
  rcases h with (rfl | rfl | rfl | rfl | rfl | rfl) | (rfl | rfl | rfl | rfl) <;> exact ⟨rfl, rfl, rfl, rfl⟩

theorem member_recv_shape {m c : Ty} (hm : m ∈ scalarMembers ++ scalarDataMembers) (h : asgRecv cfg sfh m c = true) :
    match c with
    | .str | .strSz _ | .strVal _ | .enum _ _ | .pattern _ | .int _ | .float _ _ | .bool _ | .regexp _ | .tspan _ | .tstamp _ => True
    | _ => False := by
  simp only [scalarMembers, scalarDataMembers, floatAll, List.mem_append, List.mem_cons, List.not_mem_nil, or_false] at hm
  rcases hm with (rfl | rfl | rfl | rfl | rfl | rfl) | (rfl | rfl | rfl | rfl) <;> unfold asgRecv at h
  case inl.inl | inr.inl => unfold isStringFamily at h; split at h <;> first | trivial | cases h
  all_goals split at h <;> first | trivial | cases h

/-- a right-hand side `c` of another form than those is rejected by Scalar and ScalarData (`lf`: how a receiver whose rule rejects `c`
    rejects it — `plain_rejects` for a plain `c`) -/
theorem scalars_reject (c : Ty)
    (hc : match c with
      | .scalar | .scalarData | .str | .strSz _ | .strVal _ | .enum _ _ | .pattern _ | .int _ | .float _ _ | .bool _ | .regexp _
      | .tspan _ | .tstamp _ => False
      | _ => True)
    (lf : ∀ t : Ty, t.isAny = false → asgRecv cfg sfh t c = false → asg cfg sfh t c = false) :
    asg cfg sfh .scalar c = false ∧ asg cfg sfh .scalarData c = false ∧
    asgRecv cfg sfh .scalar c = false ∧ asgRecv cfg sfh .scalarData c = false := by
  have hm' : ∀ m ∈ scalarMembers ++ scalarDataMembers, asg cfg sfh m c = false := by
    intro m h
    refine lf m (members_leaf h).2.2.1 ?_
    cases hh : asgRecv cfg sfh m c with
    | false => rfl
    | true => have := member_recv_shape cfg sfh h hh; split at this <;> first | exact hc.elim | exact this.elim
  have hscR : asgRecv cfg sfh .scalar c = false := by
    cases hh : asgRecv cfg sfh .scalar c with
    | false => rfl
    | true =>
      rcases (recv_scalar_iff cfg sfh c).1 hh with rfl | rfl | ⟨m, hm, hmb⟩
      · exact hc.elim
      · exact hc.elim
      · rw [hm' m (List.mem_append_left _ hm)] at hmb; cases hmb
  have hsdR : asgRecv cfg sfh .scalarData c = false := by
    cases hh : asgRecv cfg sfh .scalarData c with
    | false => rfl
    | true =>
      rcases (recv_scalarData_iff cfg sfh c).1 hh with rfl | ⟨m, hm, hmb⟩
      · exact hc.elim
      · rw [hm' m (List.mem_append_right _ hm)] at hmb; cases hmb
  exact ⟨lf _ rfl hscR, lf _ rfl hsdR, hscR, hsdR⟩

/-! ### the positional types Array and Tuple in one normal form, so that the four receiver rules among them are one (`recv_pos`);
    an Iterable receiver against a positional type and against the string family -/

/-- the positional types Array and Tuple: one normal form (declared types, size) for the four receiver rules among them -/
def posTypes : Ty → List Ty
  | .array e _ => [e]
  | .tuple ts _ => if ts.isEmpty then [.any] else ts
  | _ => []

def posSize : Ty → Rng
  | .array _ r => r
  | .tuple ts g => tupleSize ts g
  | _ => ⟨0, 0⟩

theorem isPos_cases {t : Ty} (h : t.isPos = true) : (∃ e r, t = .array e r) ∨ (∃ ts g, t = .tuple ts g) := by
  unfold Ty.isPos at h
  split at h
  · exact Or.inl ⟨_, _, rfl⟩
  · exact Or.inr ⟨_, _, rfl⟩
  · cases h

theorem posTypes_ne (t : Ty) (h : t.isPos = true) : posTypes t ≠ [] := by
  rcases isPos_cases h with ⟨e, r, rfl⟩ | ⟨ts, g, rfl⟩
  · simp [posTypes]
  · simp only [posTypes]; split <;> simp_all

/-- `tupleAssignableTo` (inlined by the model at four receivers) in the positional normal form -/
theorem tupleTo_eq (e : Ty) (ts : List Ty) (g : Option Rng) :
    (if (tupleSize ts g).hi ≤ 0 then true else if ts.isEmpty then asg cfg sfh e .any else tupZip cfg sfh [e] ts (tupleSize ts g).hi)
      = tupZip cfg sfh [e] (posTypes (.tuple ts g)) (posSize (.tuple ts g)).hi := by
  simp only [posSize, posTypes]
  by_cases hz : (tupleSize ts g).hi ≤ 0
  · simp [hz, tupZip_nonpos]
  · by_cases hts : ts.isEmpty = true
    · simp [hz, hts, tupZip_single]
    · simp [hz, hts]

theorem recv_pos (a b : Ty) (ha : a.isPos = true) (hb : b.isPos = true) :
    asgRecv cfg sfh a b = ((posSize a).sub (posSize b) && tupZip cfg sfh (posTypes a) (posTypes b) (posSize b).hi) := by
  rcases isPos_cases ha with ⟨e, r, rfl⟩ | ⟨ts, g, rfl⟩ <;> rcases isPos_cases hb with ⟨e', r', rfl⟩ | ⟨ts', g', rfl⟩
  · unfold asgRecv; simp only [posSize, posTypes, tupZip_single]
  · unfold asgRecv; simp only [tupleTo_eq]; rfl
  · unfold asgRecv; simp only [posSize, posTypes]
    congr 1
    by_cases hts : ts.isEmpty = true
    · simp [hts, tupZip_any_l]
    · simp only [hts, Bool.false_or]
      by_cases hz : r'.hi = 0
      · simp [hz, tupZip_nonpos]
      · simp [hz]
  · unfold asgRecv; simp only [posSize, posTypes]
    congr 1
    by_cases hts : ts.isEmpty = true
    · have hne : (if ts'.isEmpty = true then [Ty.any] else ts') ≠ [] := by split <;> simp_all
      simp only [hts, if_true, Bool.true_or]
      exact (tupZip_any_l cfg sfh _ _ hne).symm
    · by_cases hts' : ts'.isEmpty = true <;> simp [hts, hts']

theorem pos_closed (b c : Ty) (pb : b.isPos = true) (h : asgRecv cfg sfh b c = true) : c.isPos = true := by
  rcases isPos_cases pb with ⟨e, r, rfl⟩ | ⟨ts, g, rfl⟩
  · unfold asgRecv at h; split at h <;> first | rfl | cases h
  · unfold asgRecv at h; split at h <;> first | rfl | cases h

theorem recv_iter_pos (x c : Ty) (pc : c.isPos = true) :
    asgRecv cfg sfh (.iterable x) c = tupZip cfg sfh [x] (posTypes c) (posSize c).hi := by
  rcases isPos_cases pc with ⟨e, r, rfl⟩ | ⟨ts, g, rfl⟩
  · unfold asgRecv; simp only [posSize, posTypes, tupZip_single]
  · unfold asgRecv; exact tupleTo_eq cfg sfh x ts g

theorem recv_iter_family (x c : Ty) (hc : isStringFamily c = true) :
    asgRecv cfg sfh (.iterable x) c = asg cfg sfh x (.strSz ⟨1, 1⟩) := by
  unfold isStringFamily at hc
  split at hc <;> first | (unfold asgRecv; rfl) | cases hc

/-! ### a Struct receiver against a Struct, as a relation between the two member lists; what it gives for required members and sizes -/

theorem struct_recv_iff (ms ms' : List Member) (hn : NamesNodup ms) (hn' : NamesNodup ms') :
    asgRecv cfg sfh (.struct ms) (.struct ms') = true ↔
      (∀ m ∈ ms, (∀ m' ∈ ms', m'.1 = m.1 → (m.2.1 || !m'.2.1) = true ∧ asg cfg sfh m.2.2 m'.2.2 = true) ∧
                 ((∀ m' ∈ ms', m'.1 ≠ m.1) → m.2.1 = true)) ∧
      (∀ m' ∈ ms', ∃ m ∈ ms, m.1 = m'.1) := by
  unfold asgRecv
  rw [beq_iff_eq, distinctCount_nodup _ hn', List.length_map]
  exact structAll_full cfg sfh ms ms' hn hn'

/-- a required member of the receiver is a member of the accepted Struct, and required there -/
theorem struct_recv_required {ms ms' : List Member} (hn : NamesNodup ms) (hn' : NamesNodup ms')
    (h : asgRecv cfg sfh (.struct ms) (.struct ms') = true) {m : Member} (hm : m ∈ ms) (ho : m.2.1 = false) :
    ∃ m' ∈ ms', m'.1 = m.1 ∧ m'.2.1 = false ∧ asg cfg sfh m.2.2 m'.2.2 = true := by
  obtain ⟨hA, hB⟩ := ((struct_recv_iff cfg sfh ms ms' hn hn').1 h).1 m hm
  have hex : ∃ m' ∈ ms', m'.1 = m.1 := Classical.byContradiction fun hno => by
    rw [hB fun m' hm' hk => hno ⟨m', hm', hk⟩] at ho; cases ho
  obtain ⟨m', hm', hk⟩ := hex
  have := hA m' hm' hk
  rw [ho, Bool.false_or, Bool.not_eq_true'] at this
  exact ⟨m', hm', hk, this⟩

theorem struct_sub_size (ms ms' : List Member) (hn : NamesNodup ms) (hn' : NamesNodup ms')
    (h : asgRecv cfg sfh (.struct ms) (.struct ms') = true) : (structSize ms).sub (structSize ms') = true := by
  have hlen : ms'.length ≤ ms.length :=
    length_le_of_names ms' ms hn' hn ((struct_recv_iff cfg sfh ms ms' hn hn').1 h).2
  have hreq : (ms.filter (fun m => !m.2.1)).length ≤ (ms'.filter (fun m => !m.2.1)).length := by
    apply length_le_of_names _ _ (namesNodup_filter _ hn) (namesNodup_filter _ hn')
    intro m hm
    simp only [List.mem_filter, Bool.not_eq_true'] at hm ⊢
    obtain ⟨m', hm', hk, ho, _⟩ := struct_recv_required cfg sfh hn hn' h hm.1 hm.2
    exact ⟨m', ⟨hm', ho⟩, hk⟩
  simp only [structSize, Rng.sub, Bool.and_eq_true]
  exact ⟨by simpa using hreq, by simpa using hlen⟩

theorem struct_closed (ms : List Member) (c : Ty) (hs : sfh = false) (h : asgRecv cfg sfh (.struct ms) c = true) :
    ∃ ms', c = .struct ms' := by
  unfold asgRecv at h; cases c <;> simp only [] at h <;> (first | contradiction | skip)
  · simp [hs] at h
  · exact ⟨_, rfl⟩

/-! ### a Hash receiver accepts Hashes and Structs only, each by bounds and entry types -/

theorem hash_closed {k v : Ty} {r : Rng} {b : Ty} (h : asgRecv cfg sfh (.hash k v r) b = true) :
    (∃ k' v' r', b = .hash k' v' r') ∨ ∃ ms, b = .struct ms := by
  unfold asgRecv at h; split at h
  · exact Or.inl ⟨_, _, _, rfl⟩
  · exact Or.inr ⟨_, rfl⟩
  · cases h

theorem recv_hash_hash_iff (k v k' v' : Ty) (r r' : Rng) :
    asgRecv cfg sfh (.hash k v r) (.hash k' v' r') = true ↔
      r.sub r' = true ∧ (r'.hi ≤ 0 ∨ (asg cfg sfh k k' = true ∧ asg cfg sfh v v' = true)) := by
  unfold asgRecv; simp only [Bool.and_eq_true, Bool.or_eq_true, decide_eq_true_eq]

theorem recv_hash_struct_iff (k v : Ty) (r : Rng) (ms : List Member) :
    asgRecv cfg sfh (.hash k v r) (.struct ms) = true ↔
      r.sub (structSize ms) = true ∧ ∀ m ∈ ms, asg cfg sfh k (.strVal m.1) = true ∧ asg cfg sfh v m.2.2 = true := by
  unfold asgRecv; simp only [Bool.and_eq_true, asgMembers_iff]

/-! ### the receivers that hand the question to their content: the three wrappers, NotUndef, Variant, Optional; and Undef -/

theorem recv_wrap_iff {K : Ty → Ty} (hK : Wrap K) (x b : Ty) :
    asgRecv cfg sfh (K x) b = true ↔ ∃ y, b = K y ∧ asg cfg sfh x y = true := by
  cases hK <;> (unfold asgRecv; split)
  all_goals first | (simp; done) | (rename_i h; simp; exact fun y e => (h y e).elim)

theorem recv_typ_iff (x b : Ty) : asgRecv cfg sfh (.typ x) b = true ↔ ∃ y, b = .typ y ∧ asg cfg sfh x y = true :=
  recv_wrap_iff cfg sfh .typ x b

theorem recv_nu_plain {x b : Ty} (hp : b.plainR = true) :
    asgRecv cfg sfh (.notUndef x) b = (!asg cfg sfh b .undef && asg cfg sfh x b) := by
  cases b <;> first | (unfold asgRecv; rfl) | cases hp

theorem recv_nu_nu (x y : Ty) :
    asgRecv cfg sfh (.notUndef x) (.notUndef y) = (asg cfg sfh x y || asg cfg sfh x (.notUndef y)) := by
  rw [asgRecv]

theorem recv_variant_iff (as : List Ty) (b : Ty) : asgRecv cfg sfh (.variant as) b = true ↔ ∃ m ∈ as, asg cfg sfh m b = true := by
  unfold asgRecv; exact asgAnyL_iff cfg sfh as b

theorem recv_optional_iff (x b : Ty) : asgRecv cfg sfh (.optional x) b = true ↔ asg cfg sfh .undef b = true ∨ asg cfg sfh x b = true := by
  unfold asgRecv; simp only [Bool.or_eq_true]

/-- Undef accepts, and its rule accepts, Undef only (among the right-hand sides that reach a rule) -/
theorem recv_undef_iff (b : Ty) : asgRecv cfg sfh .undef b = true ↔ b = .undef := by
  unfold asgRecv; cases b <;> simp
theorem undef_accepts_plain {b : Ty} (hb : b.plainR = true) (h : asg cfg sfh .undef b = true) : b = .undef := by
  rcases asg_plain_cases cfg sfh rfl hb h with rfl | h
  · rfl
  · exact (recv_undef_iff cfg sfh b).1 h

/-! ### which receivers accept a NotUndef that reaches their rule, Undef, Any, the default Object -/
theorem recvNU_cases (a nb : Ty) (hu : a ≠ .unit) (hnb : asg cfg sfh nb .undef = true)
    (h : asgRecv cfg sfh a (.notUndef nb) = true) :
    a = .any ∨ (∃ as m, a = .variant as ∧ m ∈ as ∧ asg cfg sfh m (.notUndef nb) = true) ∨
    (∃ x, a = .optional x ∧ asg cfg sfh x (.notUndef nb) = true) ∨
    (∃ x, a = .notUndef x ∧ (asg cfg sfh x nb = true ∨ asg cfg sfh x (.notUndef nb) = true)) := by
  have leafF : ∀ t : Ty, t.isAny = false → asgRecv cfg sfh t (.notUndef nb) = false → asg cfg sfh t (.notUndef nb) = false := by
    intro t h1 h2; rw [asg_notUndef_r, hnb]; simp [h1, h2]
  obtain ⟨hsc, hsd, hscR, hsdR⟩ := scalars_reject cfg sfh (.notUndef nb) trivial leafF
  cases a with
  | any => left; rfl
  | unit => exact absurd rfl hu
  | data =>
    exfalso
    unfold asgRecv at h
    simp [hsd, leafF .undef rfl (by unfold asgRecv; rfl)] at h
  | richData =>
    exfalso
    unfold asgRecv at h
    simp [hsc, leafF .undef rfl (by unfold asgRecv; rfl), leafF .bin rfl (by unfold asgRecv; rfl),
      leafF .dflt rfl (by unfold asgRecv; rfl), leafF (.object none) rfl (by unfold asgRecv; rfl),
      leafF (.typ .any) rfl (by unfold asgRecv; rfl)] at h
  | variant as =>
    right; left
    obtain ⟨m, hm, h⟩ := (recv_variant_iff cfg sfh _ _).1 h
    exact ⟨as, m, rfl, hm, h⟩
  | optional x =>
    right; right; left
    rcases (recv_optional_iff cfg sfh _ _).1 h with h | h
    · rw [leafF .undef rfl (by unfold asgRecv; rfl)] at h; cases h
    · exact ⟨x, rfl, h⟩
  | notUndef x =>
    right; right; right
    unfold asgRecv at h
    simp only [Bool.or_eq_true] at h
    exact ⟨x, rfl, h⟩
  | scalar => rw [hscR] at h; cases h
  | scalarData => rw [hsdR] at h; cases h
  | enum vs ci => exfalso; unfold asgRecv at h; split at h <;> simp [isStringFamily] at h
  | _ => exfalso; unfold asgRecv at h; simp [isStringFamily] at h

theorem recv_undef_cases (c : Ty) (h : asgRecv cfg sfh c .undef = true) :
    c.isAny = true ∨ c = .unit ∨ c = .undef ∨ c = .data ∨ c = .richData ∨ (∃ x, c = .optional x) ∨
    (∃ cs m, c = .variant cs ∧ m ∈ cs ∧ asg cfg sfh m .undef = true) := by
  have lf := plain_rejects cfg sfh .undef rfl (by unfold asgRecv; rfl)
  obtain ⟨_, _, hscR, hsdR⟩ := scalars_reject cfg sfh .undef trivial lf
  cases c with
  | any => left; rfl
  | unit => right; left; rfl
  | undef => right; right; left; rfl
  | data => right; right; right; left; rfl
  | richData => right; right; right; right; left; rfl
  | optional x => right; right; right; right; right; left; exact ⟨x, rfl⟩
  | variant cs =>
    right; right; right; right; right; right
    obtain ⟨m, hm, h⟩ := (recv_variant_iff cfg sfh _ _).1 h
    exact ⟨cs, m, rfl, hm, h⟩
  | notUndef x => exfalso; unfold asgRecv at h; simp [asg_undef_undef] at h
  | scalar => rw [hscR] at h; cases h
  | scalarData => rw [hsdR] at h; cases h
  | enum vs ci => exfalso; unfold asgRecv at h; split at h <;> simp [isStringFamily] at h
  | _ => exfalso; unfold asgRecv at h; simp [isStringFamily] at h

theorem recv_any_cases (a : Ty) (h : asgRecv cfg sfh a .any = true) :
    a = .any ∨ a = .unit ∨ (∃ as m, a = .variant as ∧ m ∈ as ∧ asg cfg sfh m .any = true) ∨
    (∃ x, a = .optional x ∧ asg cfg sfh x .any = true) := by
  have lf := plain_rejects cfg sfh .any rfl (by unfold asgRecv; rfl)
  obtain ⟨hsc, hsd, hscR, hsdR⟩ := scalars_reject cfg sfh .any trivial lf
  cases a with
  | any => left; rfl
  | unit => right; left; rfl
  | variant as =>
    right; right; left
    obtain ⟨m, hm, h⟩ := (recv_variant_iff cfg sfh _ _).1 h
    exact ⟨as, m, rfl, hm, h⟩
  | optional x =>
    right; right; right
    rcases (recv_optional_iff cfg sfh _ _).1 h with h | h
    · rw [lf .undef rfl (by unfold asgRecv; rfl)] at h; cases h
    · exact ⟨x, rfl, h⟩
  | notUndef x => unfold asgRecv at h; simp [asg_any_l] at h
  | scalar => rw [hscR] at h; cases h
  | scalarData => rw [hsdR] at h; cases h
  | data =>
    exfalso; unfold asgRecv at h
    simp [hsd, lf .undef rfl (by unfold asgRecv; rfl)] at h
  | richData =>
    exfalso; unfold asgRecv at h
    simp [hsc, lf .undef rfl (by unfold asgRecv; rfl), lf .bin rfl (by unfold asgRecv; rfl),
      lf .dflt rfl (by unfold asgRecv; rfl), lf (.object none) rfl (by unfold asgRecv; rfl),
      lf (.typ .any) rfl (by unfold asgRecv; rfl)] at h
  | enum vs ci => exfalso; unfold asgRecv at h; split at h <;> simp [isStringFamily] at h
  | _ => exfalso; unfold asgRecv at h; simp [isStringFamily] at h

theorem recv_object_cases (a : Ty) (h : asgRecv cfg sfh a (.object none) = true) :
    a = .any ∨ a = .unit ∨ a = .richData ∨ a = .object none ∨
    (∃ as m, a = .variant as ∧ m ∈ as ∧ asg cfg sfh m (.object none) = true) ∨
    (∃ x, a = .optional x ∧ asg cfg sfh x (.object none) = true) ∨
    (∃ x, a = .notUndef x ∧ asg cfg sfh x (.object none) = true) := by
  have lf := plain_rejects cfg sfh (.object none) rfl (by unfold asgRecv; rfl)
  obtain ⟨_, hsd, hscR, hsdR⟩ := scalars_reject cfg sfh (.object none) trivial lf
  cases a with
  | any => left; rfl
  | unit => right; left; rfl
  | richData => right; right; left; rfl
  | object p =>
    right; right; right; left
    unfold asgRecv at h
    cases p with
    | none => rfl
    | some pp => simp at h
  | variant as =>
    right; right; right; right; left
    obtain ⟨m, hm, h⟩ := (recv_variant_iff cfg sfh _ _).1 h
    exact ⟨as, m, rfl, hm, h⟩
  | optional x =>
    right; right; right; right; right; left
    rcases (recv_optional_iff cfg sfh _ _).1 h with h | h
    · rw [lf .undef rfl (by unfold asgRecv; rfl)] at h; cases h
    · exact ⟨x, rfl, h⟩
  | notUndef x =>
    right; right; right; right; right; right
    unfold asgRecv at h
    simp only [Bool.and_eq_true] at h
    exact ⟨x, rfl, h.2⟩
  | scalar => rw [hscR] at h; cases h
  | scalarData => rw [hsdR] at h; cases h
  | data =>
    exfalso; unfold asgRecv at h
    simp [hsd, lf .undef rfl (by unfold asgRecv; rfl)] at h
  | enum vs ci => exfalso; unfold asgRecv at h; split at h <;> simp [isStringFamily] at h
  | _ => exfalso; unfold asgRecv at h; simp [isStringFamily] at h

/-! ### an alias as receiver: its Array and Hash members as type terms, and its rule as the disjunction over its members (`recv_alias_split`) -/

/-- the alias' own Array and Hash members as type terms -/
def Alias.arr (al : Alias) : Ty := .array al.ty Rng.pos
def Alias.hsh (al : Alias) : Ty := .hash al.key al.ty Rng.pos
def Alias.ent (al : Alias) : Ty := .tuple [al.key, al.ty] none

theorem asgMembers_richkey (ms : List Member) :
    asgMembers cfg sfh (.variant [.str, .numeric]) .richData ms = asgMembersRichKey cfg sfh ms := by
  apply Bool.eq_iff_iff.2
  rw [asgMembers_iff, asgMembersRichKey_iff]
  constructor
  · exact fun h m hm => (h m hm).2
  · exact fun h m hm => ⟨by simp [asg, asgRecv, asgAnyL, sameNullary, isStringFamily], h m hm⟩

theorem recv_alias_split (al : Alias) (c : Ty) :
    asgRecv cfg sfh al.ty c = (al.leaves.any (fun x => asg cfg sfh x c) || asgRecv cfg sfh al.arr c || asgRecv cfg sfh al.hsh c) := by
  cases al
  · simp only [Alias.ty, Alias.arr, Alias.hsh, Alias.key, Alias.leaves, List.any_cons, List.any_nil, Bool.or_false]
    conv => lhs; unfold asgRecv
    split <;> (conv => rhs; unfold asgRecv) <;> simp [Bool.or_assoc]
  · simp only [Alias.ty, Alias.arr, Alias.hsh, Alias.key, Alias.leaves, List.any_cons, List.any_nil, Bool.or_false]
    conv => lhs; unfold asgRecv
    split <;> (conv => rhs; unfold asgRecv) <;> simp [asgMembers_richkey, Bool.or_assoc]

end Pcore.Lat

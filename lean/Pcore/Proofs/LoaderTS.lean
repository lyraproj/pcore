import Pcore.Model.LoaderTS
import Pcore.Proofs.LoaderSeq
/-! Type-set leaves: the specification of a lookup through one (`tsResolve`, side condition `TSReach`) and the lemmas for
    C12_ts_*. -/
namespace Pcore.LoaderSeq

/-- specification (from the property text and the meaning of a type set): the ancestors' binding of the name (outermost
    first; the leaf's own entry map never holds a value), otherwise the member the name denotes, otherwise the name taken
    relative to the type set -/
def tsResolve (s : Sys) (l : Nat) (t : TypeSet) (n : Name) : List String → Option V
  | [] => none
  | hd :: rest =>
    match resolve s l (canon (withSegs n (hd :: rest))) with
    | some v => some v
    | none =>
      match tsGetType t n (hd :: rest) with
      | some v => some v
      | none => if !rest.isEmpty && hd = t.name then tsResolve s l t n rest else none

/-- the two side conditions of `C12_ts_load`, for every name the lookup reaches (the name, then its forms relative to the
    type set): (1) a member name is not also bound along the chain — the known finding's class; (2) a name that can be
    taken relative to the type set has no cached miss in the leaf's own entry map (the leaf only caches a miss
    under a name that can NOT be taken relative — `tsLoadEntry` —, but a name with an empty first segment, `::::My::Foo`, has
    the key of one that can) -/
def TSReach (s : Sys) (l : Nat) (t : TypeSet) (n : Name) : List String → Prop
  | [] => True
  | hd :: rest =>
    ((tsGetType t n (hd :: rest)).isSome = true → resolve s l (canon (withSegs n (hd :: rest))) = none) ∧
    ((!rest.isEmpty && hd = t.name) = true → lk (canon (withSegs n (hd :: rest))) (s.ents l) = none) ∧
    TSReach s l t n rest

instance decTSReach (s : Sys) (l : Nat) (t : TypeSet) (n : Name) : (segs : List String) → Decidable (TSReach s l t n segs)
  | [] => isTrue trivial
  | hd :: rest => by
    unfold TSReach
    have := decTSReach s l t n rest
    infer_instance

-- (keeps the unifier from evaluating string functions on variables)
attribute [local irreducible] segsOf canon

theorem tsLoadEntry_spec (s : Sys) (l : Nat) (t : TypeSet) (n : Name) (segs : List String)
    (h : TSReach s l t n segs) : (tsLoadEntry s l t n segs).2.join = tsResolve s l t n segs := by
  induction segs with
  | nil => rfl
  | cons hd rest ih =>
    simp only [tsLoadEntry, tsResolve]
    obtain ⟨h1, h2, h3⟩ := h
    cases hg : tsGetType t n (hd :: rest) with
    | some v =>
      have := h1 (by simp [hg])
      simp [this]
    | none =>
      simp only
      rw [resolve_eq_join]
      cases hl : loadEntryC s.es (chain s.ps l) (canon (withSegs n (hd :: rest))) with
      | some e =>
        cases e with
        | none =>
          have hp := loadEntryC_placeholder s l _ hl
          by_cases hc : (!rest.isEmpty && hd = t.name) = true
          · rw [h2 hc] at hp; cases hp
          · simp [hc]
        | some v => simp
      | none =>
        by_cases hc : (!rest.isEmpty && hd = t.name) = true
        · simp only [Option.join, hc, if_true]
          exact ih h3
        · simp [hc]

theorem tsLoadEntry_fst (s : Sys) (l : Nat) (t : TypeSet) (n : Name) (segs : List String) :
    (tsLoadEntry s l t n segs).1 = s ∨ ∃ k, (tsLoadEntry s l t n segs).1 = s.setEnts l (setEntry (s.ents l) k none).1 := by
  induction segs with
  | nil => exact Or.inl rfl
  | cons hd rest ih =>
    simp only [tsLoadEntry]
    split
    · exact Or.inl rfl
    · split
      · exact Or.inl rfl
      · split
        · exact ih
        · exact Or.inr ⟨_, rfl⟩

theorem bound_tsLoadEntry (s : Sys) (l : Nat) (t : TypeSet) (n : Name) (segs : List String) (l' : Nat) (k' : Key) :
    bound (tsLoadEntry s l t n segs).1 l' k' = bound s l' k' := by
  rcases tsLoadEntry_fst s l t n segs with e | ⟨k, e⟩ <;> rw [e]
  exact bound_setEnts_placeholder s l k l' k'

theorem tsHas_spec (s : Sys) (l : Nat) (t : TypeSet) (n : Name) (segs : List String) :
    tsHas s l t n segs = (tsResolve s l t n segs).isSome := by
  induction segs with
  | nil => rfl
  | cons hd rest ih =>
    simp only [tsHas, tsResolve, hasC_eq]
    cases h1 : resolve s l (canon (withSegs n (hd :: rest))) with
    | some v => simp
    | none =>
      cases h2 : tsGetType t n (hd :: rest) with
      | some v => simp
      | none => rw [ih]; cases hc : (!rest.isEmpty && decide (hd = t.name)) <;> simp [hc]

theorem runT_nil (tss : List (Option TypeSet)) (s : Sys) : runT tss s [] = (s, []) := rfl

theorem runT_cons (tss : List (Option TypeSet)) (s : Sys) (op : Op) (ops : List Op) :
    runT tss s (op :: ops) =
      ((runT tss (stepT tss s op).1 ops).1, (stepT tss s op).2 :: (runT tss (stepT tss s op).1 ops).2) := rfl

theorem stepT_load (tss : List (Option TypeSet)) (s : Sys) (l : Nat) (t : TypeSet) (n : Name) (ht : tsOf tss l = some t)
    (ha : n.auth = runtimeAuthority) :
    stepT tss s (.load l n) = ((tsLoadEntry s l t n (segsOf n)).1, ansOf (tsLoadEntry s l t n (segsOf n)).2.join) := by
  unfold stepT
  simp only [ht, ha, ne_eq, not_true_eq_false, if_false]

theorem stepT_load_foreign (tss : List (Option TypeSet)) (s : Sys) (l : Nat) (t : TypeSet) (n : Name)
    (ht : tsOf tss l = some t) (ha : n.auth ≠ runtimeAuthority) : stepT tss s (.load l n) = (s, .notfound) := by
  unfold stepT
  simp only [ht, ne_eq, ha, not_false_eq_true, if_true]

theorem stepT_has (tss : List (Option TypeSet)) (s : Sys) (l : Nat) (t : TypeSet) (n : Name) (ht : tsOf tss l = some t) :
    stepT tss s (.has l n) = (s, .bool (tsHas s l t n (segsOf n))) := by
  unfold stepT
  simp only [ht]

theorem stepT_define (tss : List (Option TypeSet)) (s : Sys) (l p : Nat) (t : TypeSet) (n : Name) (v : V)
    (ht : tsOf tss l = some t) (hp : s.ps.getD l none = some p) : stepT tss s (.define l n v) = define s p n v := by
  unfold stepT
  simp only [ht, hp]

theorem stepT_define_root (tss : List (Option TypeSet)) (s : Sys) (l : Nat) (t : TypeSet) (n : Name) (v : V)
    (ht : tsOf tss l = some t) (hp : s.ps.getD l none = none) : stepT tss s (.define l n v) = (s, .fault) := by
  unfold stepT
  simp only [ht, hp]

theorem stepT_discover (tss : List (Option TypeSet)) (s : Sys) (l : Nat) (t : TypeSet) (p : Key → Bool)
    (ht : tsOf tss l = some t) : stepT tss s (.discover l p) = (s, .keys (tsDiscover s l t p)) := by
  unfold stepT
  simp only [ht]

theorem stepT_plain (tss : List (Option TypeSet)) (s : Sys) (op : Op) (h : tsOf tss op.loader = none) :
    stepT tss s op = step s op := by
  cases op with
  | load l n => unfold stepT; simp only [Op.loader] at h; simp only [h]
  | define l n v => unfold stepT; simp only [Op.loader] at h; simp only [h]
  | has l n => unfold stepT; simp only [Op.loader] at h; simp only [h]
  | get l n => rfl
  | discover l p => unfold stepT; simp only [Op.loader] at h; simp only [h]

theorem tsLoadEntry_grows (s : Sys) (l : Nat) (t : TypeSet) (n : Name) (segs : List String) :
    Grows s (tsLoadEntry s l t n segs).1 := by
  rcases tsLoadEntry_fst s l t n segs with e | ⟨k, e⟩ <;> rw [e]
  · exact .refl s
  · exact grows_setEntry s l k none

theorem tsLoadEntry_ps (s : Sys) (l : Nat) (t : TypeSet) (n : Name) (segs : List String) :
    (tsLoadEntry s l t n segs).1.ps = s.ps := (tsLoadEntry_grows s l t n segs).ps

theorem tsLoadEntry_length (s : Sys) (l : Nat) (t : TypeSet) (n : Name) (segs : List String) :
    (tsLoadEntry s l t n segs).1.es.length = s.es.length := (tsLoadEntry_grows s l t n segs).length

theorem stepT_grows (tss : List (Option TypeSet)) (s : Sys) (op : Op) : Grows s (stepT tss s op).1 := by
  cases ht : tsOf tss op.loader with
  | none => rw [stepT_plain tss s op ht]; exact step_grows s op
  | some t =>
    cases op with
    | load l n =>
      by_cases ha : n.auth = runtimeAuthority
      · rw [stepT_load tss s l t n ht ha]; exact tsLoadEntry_grows s l t n _
      · rw [stepT_load_foreign tss s l t n ht ha]; exact .refl s
    | define l n v =>
      cases hp : s.ps.getD l none with
      | some p => rw [stepT_define tss s l p t n v ht hp]; exact step_grows s (.define p n v)
      | none => rw [stepT_define_root tss s l t n v ht hp]; exact .refl s
    | has l n => rw [stepT_has tss s l t n ht]; exact .refl s
    | get _ _ => exact .refl s
    | discover l p => rw [stepT_discover tss s l t p ht]; exact .refl s

theorem bound_stepT_mono (tss : List (Option TypeSet)) (s : Sys) (op : Op) (l : Nat) (k : Key) (v : V)
    (h : bound s l k = some v) : bound (stepT tss s op).1 l k = some v := (stepT_grows tss s op).keeps l k v h

end Pcore.LoaderSeq

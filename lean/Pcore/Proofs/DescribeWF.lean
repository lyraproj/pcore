import Pcore.Proofs.DescribePos
import Pcore.Proofs.LatWF
/-!
  C19, missing keys: well-formedness (Struct member names pairwise different) is inherited along a walk, which turns the "or the
  expected Struct names a member twice" escape of the missing-key condition into "absent from the actual Struct".
-/
namespace Pcore.Desc
open Pcore.Lat

theorem wf_of_mem_members {cfg : Cfg} {e : Ty} {oc : Bool} {xs : List Atom} {t : Ty} (hw : Ty.WF cfg e)
    (hm : members e oc = some xs) (hin : Atom.ty t ∈ xs) : Ty.WF cfg t := by
  cases e <;> simp only [members, Option.some.injEq, reduceCtorEq] at hm
  case data =>
    subst hm
    simp only [dataMembers, List.mem_cons, Atom.ty.injEq, List.mem_nil_iff, or_false] at hin
    rcases hin with rfl | rfl | rfl | rfl <;> simp [Ty.WF]
  case richData =>
    subst hm
    simp only [richMembers, List.mem_cons, Atom.ty.injEq, List.mem_nil_iff, or_false, reduceCtorEq, false_or] at hin
    rcases hin with rfl | rfl | rfl | rfl | rfl | rfl | rfl | rfl <;> simp [Ty.WF]
  case variant ts =>
    subst hm
    rcases List.mem_append.mp hin with h | h
    · obtain ⟨t', ht', heq⟩ := List.mem_map.mp h
      cases heq
      exact hw.mem_variant ht'
    · cases oc
      · simp at h
      · simp only [if_true, List.mem_singleton, Atom.ty.injEq] at h; subst h; simp [Ty.WF]

theorem Reach.wf {cfg : Cfg} {e a oc s e' a'} (h : Reach e a oc s (.ty e') a') (hw : Ty.WF cfg e) : Ty.WF cfg e' := by
  generalize hx : Atom.ty e' = x at h
  induction h with
  | refl => cases hx; exact hw
  | opt _ ih => exact ih (hw.inner .optional) hx
  | silent hm hin _ ih => exact ih (wf_of_mem_members hw hm hin) hx
  | explicit hm hi _ ih => exact ih (wf_of_mem_members hw hm (List.mem_of_getElem? hi)) hx
  | opq _ _ hno => exact absurd hx.symm (hno _)
  | opqSilent _ _ hno => exact absurd hx.symm (hno _)
  | entryS hin _ _ _ ih => exact ih (hw.member hin) hx
  | keyS _ _ _ _ ih => exact ih (by simp [Ty.WF]) hx
  | entryH _ _ ih => exact ih hw.val hx
  | keyH _ _ ih => exact ih hw.key hx
  | idxAT _ _ ih => exact ih hw.elem hx
  | idxTA hi _ ih => exact ih (hw.mem_tuple (List.mem_of_getElem? hi)) hx
  | idxTT hl _ _ _ ih => exact ih (hw.mem_tuple (List.mem_of_getLast? hl)) hx
  | callP _ ih => exact ih hw.params hx
  | callRet => cases hx; exact hw.ret
  | callBlk => cases hx; exact hw.block

end Pcore.Desc

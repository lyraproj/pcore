import Pcore.Proofs.Tls
/-!
`Defs` are the loader ENTRY tables `World.defs` (the definitions a loader holds), not the definitions of this development.
First the leaf operations, which both semantics use: `headOf` (the defining loader of a context), `LeafEff`/`leafStep_nf` (all
that a leaf operation writes) and `leafStep_step` (a leaf as a `Step` of `Proofs/Tls.lean`).  Then isolation of entries:
`DStep x w w'` — an entry table `defs l` that existed before (`l < w.nextLoader`) is unchanged unless `l` is the exception `x`
(the head of the running body's loader chain) or the head of the chain of a goroutine that was waiting in `w`; new waiting
goroutines get fresh heads — and `Full`, which bundles it with `Step`, with its composition.
-/
namespace Pcore.Tls

/-- the loader a body working on context `c` defines into (`DefiningLoader()`), if any -/
def headOf (w : World) (c : CtxId) : Option LoaderId := (w.ctxs c).loader.head?

theorem headOf_congr {w w' : World} {c : CtxId} (h : (w'.ctxs c).loader = (w.ctxs c).loader) : headOf w' c = headOf w c := by
  simp only [headOf, h]

theorem headOf_of_cons {w : World} {c : CtxId} {l : LoaderId} {tl : List LoaderId} (h : (w.ctxs c).loader = l :: tl) :
    headOf w c = some l := by
  simp only [headOf, h, List.head?_cons]

theorem headOf_forkCtx (c : CtxId) (w : World) : headOf (forkCtx c w).2 w.nextCtx = some w.nextLoader := by
  exact headOf_of_cons (by rw [forkCtx_ctxs, if_pos rfl])

theorem setEntry_nf (hd : LoaderId) (n : String) (b : Bool) (w : World) :
    ∃ d, setEntry hd n b w = { w with defs := d } ∧ ∀ l, l ≠ hd → d l = w.defs l := by
  unfold setEntry
  split
  · exact ⟨_, rfl, fun _ _ => rfl⟩
  · exact ⟨_, rfl, fun l h => by simp [h]⟩

theorem loadEntry_congr (d d' : LoaderId → List (String × Bool)) (chain : List LoaderId) (n : String)
    (h : ∀ l ∈ chain, d' l = d l) : loadEntry d' chain n = loadEntry d chain n := by
  induction chain with
  | nil => rfl
  | cons l r ih =>
    simp only [loadEntry]
    rw [ih (fun l' hl' => h l' (List.mem_cons_of_mem _ hl')), h l (List.mem_cons_self ..)]

theorem Outcome.of_ne_fuel {o : Outcome} (h : o ≠ .fuel) : o = .normal ∨ o = .panicked := by
  cases o with
  | normal => exact Or.inl rfl
  | panicked => exact Or.inr rfl
  | fuel => exact absurd rfl h

/-- what a leaf operation of a body that was handed `c` does to the world: it writes `c`'s context object (never its loader
    chain), the entry table of `c`'s defining loader and the log, and nothing else -/
structure LeafEff (c : CtxId) (w : World) (r : Outcome × World) : Prop where
  eq : ∃ cs d lg, r.2 = { w with ctxs := cs, defs := d, log := lg }
  loader : ∀ i, (r.2.ctxs i).loader = (w.ctxs i).loader
  ctxs : ∀ i, i ≠ c → r.2.ctxs i = w.ctxs i
  defs : ∀ l, some l ≠ headOf w c → r.2.defs l = w.defs l
  ne_fuel : r.1 ≠ .fuel

theorem leafStep_nf (g : Gid) (c : CtxId) (l : Leaf) (w : World) : LeafEff c w (leafStep g c l w) := by
  -- the three forms a result takes: the context object updated, only the log, an entry set (and possibly logged)
  have upd : ∀ (f : Ctx → Ctx) (o : Outcome), (∀ y, (f y).loader = y.loader) → o ≠ .fuel → LeafEff c w (o, ctxUpd c f w) :=
    fun f o hf ho => ⟨⟨_, _, _, rfl⟩, fun i => by by_cases hi : i = c <;> simp [ctxUpd, hi, hf], fun i hi => by simp [ctxUpd, hi],
      fun _ _ => rfl, ho⟩
  have same : ∀ (o : Outcome) (lg : List (Gid × Ev)), o ≠ .fuel → LeafEff c w (o, { w with log := lg }) :=
    fun o lg ho => ⟨⟨_, _, _, rfl⟩, fun _ => rfl, fun _ _ => rfl, fun _ _ => rfl, ho⟩
  have ent : ∀ (hd : LoaderId) (tl : List LoaderId) (n : String) (b : Bool) (post : World → World),
      (∀ s, ∃ lg, post s = { s with log := lg }) → (w.ctxs c).loader = hd :: tl →
      LeafEff c w (Outcome.normal, post (setEntry hd n b w)) := by
    intro hd tl n b post hpost heq
    obtain ⟨d, hd1, hd2⟩ := setEntry_nf hd n b w
    obtain ⟨lg, hlg⟩ := hpost (setEntry hd n b w)
    rw [hlg, hd1]
    exact ⟨⟨_, d, _, rfl⟩, fun _ => rfl, fun _ _ => rfl, fun l' hl' => hd2 l' (fun e => hl' (by rw [headOf_of_cons heq, e])), by simp⟩
  cases l with
  | obs => simp only [leafStep]; split <;> exact same _ _ (by simp)
  | set k x => exact upd _ _ (fun _ => rfl) (by simp)
  | get k => exact same _ _ (by simp)
  | del k => exact upd _ _ (fun _ => rfl) (by simp)
  | push x => exact upd _ _ (fun _ => rfl) (by simp)
  | pop =>
    simp only [leafStep]
    split
    · exact same _ w.log (by simp)
    · exact upd _ _ (fun _ => rfl) (by simp)
  | deftype n =>
    simp only [leafStep]
    split
    · exact same _ w.log (by simp)
    · rename_i hd tl heq; exact ent hd tl n true id (fun s => ⟨s.log, rfl⟩) heq
  | load n =>
    simp only [leafStep]
    split
    · split
      · exact same _ _ (by simp)
      · rename_i hd tl heq; exact ent hd tl n false (emit g (.load n false)) (fun s => ⟨_, rfl⟩) heq
    · exact same _ _ (by simp)
  | panic => exact same _ w.log (by simp)

theorem leafStep_defs (g : Gid) (c : CtxId) (lf : Leaf) (w : World) (l : Nat) (hne : some l ≠ headOf w c) :
    (leafStep g c lf w).2.defs l = w.defs l :=
  (leafStep_nf g c lf w).defs l hne

theorem leafStep_chain (g : Gid) (c : CtxId) (lf : Leaf) (w : World) :
    (∀ i, ((leafStep g c lf w).2.ctxs i).loader = (w.ctxs i).loader) ∧
    (leafStep g c lf w).2.nextLoader = w.nextLoader ∧ (leafStep g c lf w).2.nextCtx = w.nextCtx := by
  obtain ⟨cs, d, lg, h⟩ := (leafStep_nf g c lf w).eq
  exact ⟨(leafStep_nf g c lf w).loader, by rw [h], by rw [h]⟩

theorem leafStep_pending (g : Gid) (c : CtxId) (l : Leaf) (w : World) :
    (leafStep g c l w).2.pending = w.pending ∧ (leafStep g c l w).2.oof = w.oof := by
  obtain ⟨cs, d, lg, h⟩ := (leafStep_nf g c l w).eq
  rw [h]
  exact ⟨rfl, rfl⟩

theorem leafStep_outcome (g : Gid) (c : CtxId) (l : Leaf) (w : World) :
    (leafStep g c l w).1 = .normal ∨ (leafStep g c l w).1 = .panicked :=
  Outcome.of_ne_fuel (leafStep_nf g c l w).ne_fuel

theorem leafStep_logOK {g c : Nat} {l : Leaf} {w : World} (h : Pre g c w) (hl : LogOK w) : LogOK (leafStep g c l w).2 := by
  cases l with
  | obs => simp only [leafStep, h.cur]; exact logOK_emit rfl rfl (EvOK.obs h.est) hl
  | get k => exact logOK_emit rfl rfl EvOK.get hl
  | pop => simp only [leafStep]; split <;> exact logOK_same rfl rfl hl
  | deftype n =>
    simp only [leafStep]
    split
    · exact hl
    · rename_i hd _ _
      obtain ⟨d, e, _⟩ := setEntry_nf hd n true w
      rw [e]; exact logOK_same rfl rfl hl
  | load n =>
    simp only [leafStep]
    split
    · split
      · exact logOK_emit rfl rfl EvOK.load hl
      · rename_i hd _ _
        obtain ⟨d, e, _⟩ := setEntry_nf hd n false w
        rw [e]; exact logOK_emit rfl rfl EvOK.load hl
    · exact logOK_emit rfl rfl EvOK.load hl
  | panic => exact hl
  | _ => exact logOK_same rfl rfl hl

theorem leafStep_step {g c : Nat} {l : Leaf} {w : World} (h : Pre g c w) :
    Step (some c) w (leafStep g c l w).2 ∧ (leafStep g c l w).2.tls = w.tls := by
  obtain ⟨cs, d, lg, hw⟩ := (leafStep_nf g c l w).eq
  have hl := leafStep_logOK (l := l) h
  have hc := (leafStep_nf g c l w).ctxs
  rw [hw] at hl hc ⊢
  exact ⟨Step.of_same h.inv rfl rfl rfl rfl rfl hl (fun i hi => hc i (fun e => hi (by rw [e]))), rfl⟩

structure DStep (x : Option LoaderId) (w w' : World) : Prop where
  ldMono : w.nextLoader ≤ w'.nextLoader
  dframe : ∀ l, l < w.nextLoader → some l ≠ x → (∀ t ∈ w.pending, some l ≠ headOf w t.ctx) → w'.defs l = w.defs l
  newHeads : ∀ t ∈ w'.pending, t ∈ w.pending ∨ ∃ l, headOf w' t.ctx = some l ∧ w.nextLoader ≤ l

theorem DStep.of_same {x w w'} (h1 : w'.defs = w.defs) (h2 : w'.nextLoader = w.nextLoader) (h3 : w'.pending = w.pending) :
    DStep x w w' :=
  ⟨by rw [h2]; exact Nat.le_refl _, fun _ _ _ _ => by rw [h1], by rw [h3]; exact fun _ h => Or.inl h⟩

structure Full (xc : Option CtxId) (x : Option LoaderId) (w w' : World) : Prop where
  s : Step xc w w'
  d : DStep x w w'
  hinv : Inv w
  hx : ∀ t ∈ w.pending, some t.ctx ≠ xc

theorem none_ne_pend {w : World} : ∀ t ∈ w.pending, some t.ctx ≠ (none : Option CtxId) := fun _ _ => by simp

theorem not_pend_ne {w : World} {cx : Nat} (h : cx ∉ pendCtxs w) : ∀ t ∈ w.pending, some t.ctx ≠ some cx :=
  fun _ ht hc => h (Option.some.inj hc ▸ ctx_mem_pend ht)

theorem lex_ne_pend {g c : Nat} {w : World} (h : Pre g c w) : ∀ t ∈ w.pending, some t.ctx ≠ some c := not_pend_ne h.cnp

theorem Full.refl {xc x w} (h : Inv w) (hx : ∀ t ∈ w.pending, some t.ctx ≠ xc) : Full xc x w w :=
  ⟨Step.refl h, ⟨Nat.le_refl _, fun _ _ _ _ => rfl, fun _ h => Or.inl h⟩, h, hx⟩

theorem Full.of_step {w w' : World} (s : Step none w w') (h : Inv w) (h1 : w'.defs = w.defs)
    (h2 : w'.nextLoader = w.nextLoader) (h3 : w'.pending = w.pending) : Full none none w w' :=
  ⟨s, DStep.of_same h1 h2 h3, h, none_ne_pend⟩

theorem Full.weakenC {x w w'} {xc : Option CtxId} (f : Full none x w w') (hx : ∀ t ∈ w.pending, some t.ctx ≠ xc) :
    Full xc x w w' :=
  ⟨f.s.weaken, f.d, f.hinv, hx⟩

theorem Full.weakenL {xc x w w'} (f : Full xc none w w') : Full xc x w w' :=
  ⟨f.s, ⟨f.d.ldMono, fun l hl _ hp => f.d.dframe l hl (by simp) hp, f.d.newHeads⟩, f.hinv, f.hx⟩

theorem Full.weaken {x w w'} {xc : Option CtxId} (f : Full none none w w') (hx : ∀ t ∈ w.pending, some t.ctx ≠ xc) :
    Full xc x w w' :=
  (f.weakenC hx).weakenL

theorem Full.pend_ctx {xc x w w'} (f : Full xc x w w') {t : Task} (ht : t ∈ w.pending) (ht' : t ∈ w'.pending) :
    w'.ctxs t.ctx = w.ctxs t.ctx :=
  f.s.frame t.ctx (f.hinv.pendCtxLt t ht) (f.hx t ht)
    (Or.inr (ctx_mem_pend ht'))

theorem Full.trans {xc yc x y w w1 w2} (f1 : Full xc x w w1) (f2 : Full yc y w1 w2)
    (hc : ∀ i, i < w.nextCtx → some i ≠ xc → some i ≠ yc)
    (hl : ∀ l, l < w.nextLoader → some l ≠ x → (∀ t ∈ w.pending, some l ≠ headOf w t.ctx) → some l ≠ y) :
    Full xc x w w2 where
  s := f1.s.trans f2.s hc
  hinv := f1.hinv
  hx := f1.hx
  d :=
    { ldMono := Nat.le_trans f1.d.ldMono f2.d.ldMono
      dframe := by
        intro l hl1 hlx hp
        rw [← f1.d.dframe l hl1 hlx hp]
        apply f2.d.dframe l (Nat.lt_of_lt_of_le hl1 f1.d.ldMono) (hl l hl1 hlx hp)
        intro t ht
        rcases f1.d.newHeads t ht with h | ⟨l', hl', hge⟩
        · rw [headOf_congr (congrArg Ctx.loader (f1.pend_ctx h ht))]; exact hp t h
        · rw [hl']; intro hc'; cases hc'; omega
      newHeads := by
        intro t ht
        rcases f2.d.newHeads t ht with h | ⟨l', hl', hge⟩
        · rcases f1.d.newHeads t h with h1 | ⟨l', hl', hge⟩
          · exact Or.inl h1
          · refine Or.inr ⟨l', ?_, hge⟩
            rw [headOf_congr (congrArg Ctx.loader (f2.pend_ctx h ht))]; exact hl'
        · exact Or.inr ⟨l', hl', Nat.le_trans f1.d.ldMono hge⟩ }

end Pcore.Tls

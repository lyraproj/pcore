import Pcore.Proofs.FormatX
/-! Laws of the extended model over any key system, on Proofs/FormatX.lean.  In order: how a leaf (no container, no parameter list) ends
    (`fmtX_ends`), hence unsupported ⇔ letter outside the set; width, first for the kinds whose arms apply the string flags, then for
    every kind whose `ToString` looks at the width (`fmtX_width`); one level of a container: what `ToString2` writes is the assembler
    applied to the renderings of the children.  What the assemblers write without `#` is in Proofs/FormatContainer.lean and, for the
    parenthesised init hash of an object, `hashAssembleD_paren_nonalt` (Proofs/FormatXPP.lean, beside the layout it is read off). -/
namespace Pcore.Format

/-- not a container and no parameter list to format: the rendering depends on the value's own format only -/
def XVal.isLeaf : XVal → Bool
  | .array _ | .hash _ | .obj _ _ => false
  | .typ _ (_ :: _) => false
  | .talias _ _ | .otype _ _ | .otypeX _ _ => false
  | _ => true

theorem kind_of_not_leaf (v : XVal) (hv : v.isContainer = false) (hl : v.isLeaf = false) :
    v.kind = .typ ∨ v.kind = .otype ∨ v.kind = .talias := by
  cases v <;> simp [XVal.isContainer, XVal.isLeaf, XVal.kind] at hv hl ⊢

/-- Every leaf ends in one of four ways: the failure of `%s` on a Binary that is not valid UTF-8; a text written without looking
    at the format (Timespan, Timestamp, Sensitive); a text padded by `ApplyStringFlags` or the unsupported-format error (`Flagged`);
    Boolean, Integer and Float also through fmt (`Ends`). -/
theorem fmtX_ends {κ : Type} (ks : KeySys κ) (io : FloatIO) (m : GMap κ) (ind : Ind) (v : XVal) (hv : v.isLeaf = true) :
    (∃ bs, v = .binary bs none ∧ (getG ks m v).f.letter = 's' ∧ fmtX ks io m ind v = .reported .failure) ∨
    ((v.kind = .tspan ∨ v.kind = .tstamp ∨ v.kind = .sensitive) ∧ ∃ s, fmtX ks io m ind v = .text s) ∨
    Flagged (getG ks m v).f (acceptsX v.kind (getG ks m v).f.letter) (fmtX ks io m ind v) ∨
    ((v.kind = .bool ∨ v.kind = .int ∨ v.kind = .float) ∧
      Ends io (getG ks m v).f (acceptsX v.kind (getG ks m v).f.letter) (fmtX ks io m ind v)) := by
  cases v with
  | undef => exact .inr (.inr (.inl (.text _ _)))
  | dflt => exact .inr (.inr (.inl (fmtDefault_flagged _)))
  | bool b => exact .inr (.inr (.inr ⟨.inl rfl, fmtBool_ends io _ b⟩))
  | int i => exact .inr (.inr (.inr ⟨.inr (.inl rfl), fmtInt_ends io _ i⟩))
  | float bits => exact .inr (.inr (.inr ⟨.inr (.inr rfl), fmtFloat_ends io _ bits⟩))
  | str s => exact .inr (.inr (.inl (fmtStr_flagged _ s)))
  | regexp src => exact .inr (.inr (.inl (.text _ _)))
  | binary bs u =>
    rcases fmtBinary_flagged (getG ks m (.binary bs u)).f bs u with ⟨hl, rfl, he⟩ | h
    · exact .inl ⟨bs, rfl, hl, he⟩
    · exact .inr (.inr (.inl h))
  | semver t => exact .inr (.inr (.inl (fmtSemVer_flagged _ t)))
  | semverRange t n => exact .inr (.inr (.inl (fmtSemVerRange_flagged _ t n)))
  | uri t => exact .inr (.inr (.inl (fmtUri_flagged _ t)))
  | tspan ns => exact .inr (.inl ⟨.inl rfl, _, rfl⟩)
  | tstamp t => exact .inr (.inl ⟨.inr (.inl rfl), _, rfl⟩)
  | sensitive v => exact .inr (.inl ⟨.inr (.inr rfl), _, rfl⟩)
  | typ name ps =>
    cases ps with
    | cons p ps => cases hv
    | nil =>
      refine .inr (.inr (.inl ?_))
      simp only [fmtX, XVal.kind, acceptsX_typ]
      cases isTypeLetter (getG ks m (.typ name [])).f.letter
      · exact .unsupported
      · exact typeFinish_flagged _ _ _
  | talias | otype | otypeX | obj | array | hash => cases hv

theorem fmtX_reported_leaf {κ : Type} (ks : KeySys κ) (io : FloatIO) (m : GMap κ) (ind : Ind) (v : XVal)
    (hv : v.isLeaf = true) (c : Code) (h : fmtX ks io m ind v = .reported c) :
    (c = .unsupported ∧ acceptsX v.kind (getG ks m v).f.letter = false) ∨
    (c = .failure ∧ (getG ks m v).f.letter = 's' ∧ ∃ bs, v = .binary bs none) := by
  rcases fmtX_ends ks io m ind v hv with ⟨bs, rfl, hl, he⟩ | ⟨_, s, hs⟩ | hf | ⟨_, he⟩
  · rw [he] at h; cases h; exact .inr ⟨rfl, hl, bs, rfl⟩
  · rw [hs] at h; cases h
  · exact .inl (hf.reported h)
  · exact .inl (he.reported h)

theorem fmtX_unsupported_iff {κ : Type} (ks : KeySys κ) (io : FloatIO) (m : GMap κ) (ind : Ind) (v : XVal)
    (hv : v.isLeaf = true) :
    fmtX ks io m ind v = .reported .unsupported ↔ acceptsX v.kind (getG ks m v).f.letter = false := by
  refine ⟨fun h => ?_, fun h => ?_⟩
  · rcases fmtX_reported_leaf ks io m ind v hv _ h with h' | h'
    · exact h'.2
    · cases h'.1
  · rcases fmtX_ends ks io m ind v hv with ⟨bs, rfl, hl, _⟩ | ⟨hk, _⟩ | hf | ⟨_, he⟩
    · rw [hl] at h; cases h
    · rcases hk with hk | hk | hk <;> rw [hk] at h <;> cases h
    · exact (h ▸ hf).of_false
    · exact (h ▸ he).of_false

theorem typeFinish_width (f : Fmt) (name : Str) (r : Res) (w : Nat) (hw : f.width = some w) (s : Str)
    (h : typeFinish f name r = .text s) : w ≤ s.length := by
  cases r with
  | text ps => exact (typeFinish_flagged f name ps).width hw h
  | reported c => cases h
  | fault e => cases h

theorem text_of_ite_unsupported (c : Prop) [Decidable c] (r : Res) (s : Str)
    (h : (if c then Res.reported .unsupported else r) = .text s) : r = .text s := by
  split at h
  · cases h
  · exact h

/-- the kinds of the extended model whose arms apply the string flags: SemVer, URI, SemVerRange (every letter they format, after
    fix 5c2f826), Type -/
theorem fmtX_width_flagged {κ : Type} (ks : KeySys κ) (io : FloatIO) (m : GMap κ) (ind : Ind) (v : XVal) (w : Nat)
    (hk : v.kind = .semver ∨ v.kind = .uri ∨ v.kind = .semverRange ∨ v.kind = .typ ∨ v.kind = .otype)
    (hw : (getG ks m v).f.width = some w) (s : Str) (h : fmtX ks io m ind v = .text s) : w ≤ s.length := by
  cases v with
  | otype name ih => simp only [fmtX] at h; exact typeFinish_width _ _ _ w hw s (text_of_ite_unsupported _ _ s h)
  | otypeX d ih => simp only [fmtX] at h; exact typeFinish_width _ _ _ w hw s (text_of_ite_unsupported _ _ s h)
  | semver t => exact (fmtSemVer_flagged _ t).width hw h
  | uri t => exact (fmtUri_flagged _ t).width hw h
  | semverRange t n => exact (fmtSemVerRange_flagged _ t n).width hw h
  | typ name ps =>
    cases ps <;> simp only [fmtX] at h <;> exact typeFinish_width _ _ _ w hw s (text_of_ite_unsupported _ _ s h)
  | _ => simp [XVal.kind] at hk

/-- **width, every kind but the four whose ToString never looks at the width** (Timespan, Timestamp, Sensitive, type alias): a value
    that is not a container, rendered under a format with width `w`, is at least `w` runes wide (for Integer / Float / Boolean the
    letters whose digits come from fmt's float code excepted, as in `fmtVal_width`) -/
theorem fmtX_width {κ : Type} (ks : KeySys κ) (io : FloatIO) (m : GMap κ) (ind : Ind) (v : XVal) (f : Fmt)
    (hf : (getG ks m v).f = f) (hv : v.isContainer = false)
    (hk : v.kind ≠ .tspan ∧ v.kind ≠ .tstamp ∧ v.kind ≠ .sensitive ∧ v.kind ≠ .talias)
    (w : Nat) (hw : f.width = some w) (hgo : GoOK f)
    (hfl : isFloatLetter f.letter = false ∨ (v.kind ≠ .int ∧ v.kind ≠ .float ∧ v.kind ≠ .bool))
    (s : Str) (h : fmtX ks io m ind v = .text s) : w ≤ s.length := by
  subst hf
  by_cases hl : v.isLeaf = true
  · rcases fmtX_ends ks io m ind v hl with ⟨_, _, _, he⟩ | ⟨hk', _⟩ | hf | ⟨hn, he⟩
    · rw [he] at h; cases h
    · rcases hk' with h' | h' | h'
      · exact absurd h' hk.1
      · exact absurd h' hk.2.1
      · exact absurd h' hk.2.2.1
    · exact hf.width hw h
    · -- a numeric kind: `hfl` can only hold by its first alternative
      refine he.width_noFloat hw hgo (hfl.resolve_right fun hne => ?_) h
      rcases hn with h' | h' | h'
      · exact hne.2.2 h'
      · exact hne.1 h'
      · exact hne.2.1 h'
  · rcases kind_of_not_leaf v hv (Bool.not_eq_true _ ▸ hl) with h' | h' | h'
    · exact fmtX_width_flagged ks io m ind v w (.inr (.inr (.inr (.inl h')))) hw s h
    · exact fmtX_width_flagged ks io m ind v w (.inr (.inr (.inr (.inr h')))) hw s h
    · exact absurd h' hk.2.2.2

/-- the children of a container render to the texts `texts` -/
def ChildrenTextX {κ : Type} (ks : KeySys κ) (io : FloatIO) (m cf : GMap κ) (ci : Ind) : List XVal → List Str → Prop
  | [], [] => True
  | v :: vs, s :: ss => fmtX ks io (if v.isContainer then m else cf) ci v = .text s ∧ ChildrenTextX ks io m cf ci vs ss
  | _, _ => False

/-- the (text, is a container) pairs `Array.ToString2` assembles -/
def partsOf : List XVal → List Str → List (Str × Bool)
  | v :: vs, s :: ss => (s, v.isContainer) :: partsOf vs ss
  | _, _ => []

theorem partsOf_texts {κ : Type} (ks : KeySys κ) (io : FloatIO) (m cf : GMap κ) (ci : Ind) :
    ∀ (vs : List XVal) (ss : List Str), ChildrenTextX ks io m cf ci vs ss → (partsOf vs ss).map (·.1) = ss
  | [], [], _ => rfl
  | v :: vs, s :: ss, h => by simp [partsOf, partsOf_texts ks io m cf ci vs ss h.2]
  | [], _ :: _, h => by simp [ChildrenTextX] at h
  | _ :: _, [], h => by simp [ChildrenTextX] at h

theorem fmtElemsX_of_children {κ : Type} (ks : KeySys κ) (io : FloatIO) (m cf : GMap κ) (ci : Ind) :
    ∀ (vs : List XVal) (texts : List Str), ChildrenTextX ks io m cf ci vs texts →
      fmtElemsX ks io m cf ci vs = .ok (partsOf vs texts)
  | [], [], _ => by simp [fmtElemsX, partsOf]
  | v :: vs, s :: ss, h => by
    have ih := fmtElemsX_of_children ks io m cf ci vs ss h.2
    simp only [fmtElemsX, h.1, ResL.cons, ih, partsOf]
  | [], _ :: _, h => by simp [ChildrenTextX] at h
  | _ :: _, [], h => by simp [ChildrenTextX] at h

/-- the entries of a hash render to the key and value texts -/
def EntriesTextX {κ : Type} (ks : KeySys κ) (io : FloatIO) (m cf : GMap κ) (ci : Ind) : List XEntry → List (Str × Str) → Prop
  | [], [] => True
  | .mk k v :: es, (sk, sv) :: ss =>
    fmtX ks io (if k.isContainer then m else cf) ci k = .text sk ∧
    fmtX ks io (if v.isContainer then m else cf) ci v = .text sv ∧ EntriesTextX ks io m cf ci es ss
  | _, _ => False

theorem fmtPairsX_of_entries {κ : Type} (ks : KeySys κ) (io : FloatIO) (m cf : GMap κ) (ci : Ind) :
    ∀ (es : List XEntry) (texts : List (Str × Str)), EntriesTextX ks io m cf ci es texts → fmtPairsX ks io m cf ci es = .ok texts
  | [], [], _ => by simp [fmtPairsX]
  | .mk k v :: es, (sk, sv) :: ss, h => by
    have ih := fmtPairsX_of_entries ks io m cf ci es ss h.2.2
    simp only [fmtPairsX, h.1, h.2.1, ResL.cons, ih]
  | [], _ :: _, h => by simp [EntriesTextX] at h
  | _ :: _, [], h => by simp [EntriesTextX] at h

/-- the letter set of an Array is the letter check `Array.ToString2` starts with -/
theorem fmtX_array_own_letter {κ : Type} (ks : KeySys κ) (io : FloatIO) (m : GMap κ) (ind : Ind) (vs : List XVal) :
    acceptsX .arr (getG ks m (.array vs)).f.letter = isArrayLetter (getG ks m (.array vs)).f.letter :=
  acceptsX_arr _

theorem fmtX_array_assemble {κ : Type} (ks : KeySys κ) (io : FloatIO) (m : GMap κ) (ind : Ind) (vs : List XVal) (texts : List Str)
    (hl : isArrayLetter (getG ks m (.array vs)).f.letter = true)
    (hc : ChildrenTextX ks io m (cfOfG ks (getG ks m (.array vs))) (arrayChildInd (getG ks m (.array vs)).f ind) vs texts) :
    fmtX ks io m ind (.array vs) = .text (arrayAssemble (getG ks m (.array vs)).f ind (partsOf vs texts)) := by
  have hp := fmtElemsX_of_children ks io m _ _ vs texts hc
  simp only [fmtX, hl, Bool.not_true, Bool.false_eq_true, if_false, hp, arrayOf]

theorem hashAssembleD_false (f : Fmt) (ind : Ind) (parts : List (Str × Str)) :
    hashAssembleD f ind false parts = hashAssemble f ind parts := by
  simp [hashAssembleD, hashAssemble]

theorem fmtX_hash_assemble {κ : Type} (ks : KeySys κ) (io : FloatIO) (m : GMap κ) (ind : Ind) (es : List XEntry)
    (texts : List (Str × Str))
    (hl : isHashLetter (getG ks m (.hash es)).f.letter = true)
    (hc : EntriesTextX ks io m (cfOfG ks (getG ks m (.hash es))) (hashChildInd (getG ks m (.hash es)).f ind) es texts) :
    fmtX ks io m ind (.hash es) = .text (hashAssemble (getG ks m (.hash es)).f ind texts) := by
  have hp := fmtPairsX_of_entries ks io m _ _ es texts hc
  simp only [fmtX, isHashLetter_ne_a hl, if_false, hl, Bool.not_true, Bool.false_eq_true, hp, hashOf, hashAssembleD_false]

theorem fmtX_obj_assemble {κ : Type} (ks : KeySys κ) (io : FloatIO) (m : GMap κ) (ind : Ind) (name : Str) (es : List XEntry)
    (texts : List (Str × Str)) (hn : name ≠ [])
    (hl : isHashLetter (getG ks m (.obj name es)).f.letter = true)
    (hc : EntriesTextX ks io m (cfOfG ks (getG ks m (.obj name es))) (hashChildInd (getG ks m (.obj name es)).f ind) es texts) :
    fmtX ks io m ind (.obj name es) =
      .text ((if ind.breaks then '\n' :: ind.padding else []) ++ name ++ hashAssembleD (getG ks m (.obj name es)).f ind true texts) := by
  have hp := fmtPairsX_of_entries ks io m _ _ es texts hc
  have hne : name.isEmpty = false := List.isEmpty_eq_false_iff.2 hn
  simp only [fmtX, hne, isHashLetter_ne_a hl, hl, hp, hashOf, Res.bind, Bool.false_eq_true, Bool.not_true, if_false]

end Pcore.Format

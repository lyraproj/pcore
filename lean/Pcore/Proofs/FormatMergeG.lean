import Pcore.Model.FormatMergeG
import Pcore.Proofs.FormatX
import Pcore.Proofs.ListFacts
import Pcore.Proofs.InsertionSort
import Mathlib.Data.String.Basic
/-!
# The lookup law of a merged format map over ANY system of key types

`mergeFormats` sorts the merged entries by "more acceptors first, then rank, then name"; `px.GetFormat` takes the FIRST entry whose key
accepts the value.  That this is the entry of the most specific accepting key needs only that, on the keys OF THE MAP, assignability is
reflexive, transitive and antisymmetric (`KeysLawful`): parameterised key types (C02, C03) are covered.  In order: insertion sort and
`find?` on lists of pairs (nothing there is about formats); the order and the lookup law; the keys and entries of the merged map; the
22 parameterless default types as an instance (between them assignability is inclusion of the accepted kinds, `XKey.sub_iff`).
-/
namespace Pcore.Format

/-! ### Lists of pairs: insertion sort by an asymmetric, negatively transitive order on the keys sorts, and `find?` on a sorted list
    returns the accepting entry whose key is below that of every other accepting one -/

theorem insertionSort_is {α} (less : α → α → Bool) : InsertionSort.Is less (insSorted less) (insertionSort less) :=
  ⟨fun _ => rfl, fun _ _ _ => rfl, rfl, fun _ _ => rfl⟩

theorem mem_insertionSort {α} (less : α → α → Bool) (z : α) (l : List α) : z ∈ insertionSort less l ↔ z ∈ l :=
  ((insertionSort_is less).perm l).mem_iff

def Sorted {α} (less : α → α → Bool) (l : List α) : Prop := l.Pairwise (fun x y => less y x = false)

theorem insertionSort_sorted {α} (less : α → α → Bool)
    (asym : ∀ a b, less a b = true → less b a = false)
    (nt : ∀ a b c, less a b = false → less b c = false → less a c = false) (l : List α) :
    Sorted less (insertionSort less l) :=
  (insertionSort_is less).pairwise asym (fun _ _ h => h) (fun _ y _ h1 h2 => nt _ y _ h2 h1) l

theorem insertionSort_fst_sorted {α β} (less : α → α → Bool)
    (asym : ∀ a b, less a b = true → less b a = false)
    (nt : ∀ a b c, less a b = false → less b c = false → less a c = false) (m : List (α × β)) :
    Sorted (fun x y => less x.1 y.1) (insertionSort (fun x y => less x.1 y.1) m) :=
  insertionSort_sorted _ (fun a b => asym a.1 b.1) (fun a b c => nt a.1 b.1 c.1) m

theorem find?_sorted_first {α β} (less : α → α → Bool) (acc : α → Bool) (L : List (α × β))
    (hs : Sorted (fun x y => less x.1 y.1) L) (K : α) (t : β) (hm : (K, t) ∈ L) (hacc : acc K = true)
    (hfirst : ∀ e ∈ L, acc e.1 = true → e = (K, t) ∨ less K e.1 = true) :
    L.find? (fun e => acc e.1) = some (K, t) := by
  induction L with
  | nil => cases hm
  | cons x xs ih =>
    have ⟨hx, hxs⟩ := List.pairwise_cons.1 hs
    rw [List.find?_cons]
    rcases List.mem_cons.1 hm with rfl | hm'
    · simp only [hacc]
    · cases hax : acc x.1 with
      | true =>
        rcases hfirst x (List.mem_cons_self ..) hax with rfl | hlt
        · simp only
        · exact absurd hlt (by rw [show less K x.1 = false from hx _ hm']; decide)
      | false => exact ih hxs hm' (fun e he => hfirst e (List.mem_cons_of_mem _ he))

theorem filterMap_keys_nodup {α β} (f : α → Option (α × β)) (hf : ∀ k e, f k = some e → e.1 = k) :
    ∀ ks : List α, ks.Nodup → ((ks.filterMap f).map (·.1)).Nodup
  | [], _ => by simp
  | k :: ks, h => by
      have hn := List.nodup_cons.1 h
      have ih := filterMap_keys_nodup f hf ks hn.2
      cases hk : f k with
      | none => simpa [List.filterMap_cons, hk] using ih
      | some e =>
        simp only [List.filterMap_cons, hk, List.map_cons, List.nodup_cons]
        refine ⟨?_, ih⟩
        intro hmem
        obtain ⟨e', he', hfst⟩ := List.mem_map.1 hmem
        obtain ⟨k', hk', hfk'⟩ := List.mem_filterMap.1 he'
        have : k' = k := by rw [← hf k' e' hfk', hfst, hf k e hk]
        exact hn.1 (this ▸ hk')

/-! ### The order of `mergeFormats` is asymmetric and negatively transitive and puts the more specific of two lawful keys first: the
    lookup law -/

variable {κ : Type}

/-- what the lookup law needs of the key types that occur in a map -/
structure KeysLawful (ko : KeyOrd κ) (keys : List κ) : Prop where
  refl : ∀ a ∈ keys, ko.sub a a = true
  trans : ∀ a ∈ keys, ∀ b ∈ keys, ∀ c ∈ keys, ko.sub a b = true → ko.sub b c = true → ko.sub a c = true
  antisymm : ∀ a ∈ keys, ∀ b ∈ keys, ko.sub a b = true → ko.sub b a = true → a = b
  name_inj : ∀ a ∈ keys, ∀ b ∈ keys, ko.name a = ko.name b → a = b

/-- the order as a proposition: lexicographic on (acceptors descending, rank, name) -/
theorem entryLessG_iff (ko : KeyOrd κ) (keys : List κ) (a b : κ) :
    entryLessG ko keys a b = true ↔
      (acceptorsG ko keys b < acceptorsG ko keys a ∨
       (acceptorsG ko keys a = acceptorsG ko keys b ∧
         (ko.rank a < ko.rank b ∨ (ko.rank a = ko.rank b ∧ ko.name a < ko.name b)))) := by
  unfold entryLessG
  by_cases h1 : acceptorsG ko keys a = acceptorsG ko keys b <;> by_cases h2 : ko.rank a = ko.rank b <;>
    simp only [h1, h2, bne_iff_ne, ne_eq, not_true_eq_false, not_false_eq_true, if_true, if_false, decide_eq_true_eq, gt_iff_lt, true_and,
      false_and, or_false, false_or, lt_self_iff_false]

theorem entryLessG_false_iff (ko : KeyOrd κ) (keys : List κ) (a b : κ) :
    entryLessG ko keys a b = false ↔
      (acceptorsG ko keys a < acceptorsG ko keys b ∨
       (acceptorsG ko keys a = acceptorsG ko keys b ∧
         (ko.rank b < ko.rank a ∨ (ko.rank a = ko.rank b ∧ ko.name b ≤ ko.name a)))) := by
  rw [← Bool.not_eq_true, entryLessG_iff, ← not_lt (a := ko.name a)]
  by_cases h3 : ko.name a < ko.name b <;> simp only [h3, and_true, and_false, or_false, not_true_eq_false, not_false_eq_true] <;> omega

theorem entryLessG_asymm (ko : KeyOrd κ) (keys : List κ) (a b : κ) :
    entryLessG ko keys a b = true → entryLessG ko keys b a = false := by
  rw [entryLessG_iff, entryLessG_false_iff]
  rintro (h | ⟨h, h' | ⟨h', h''⟩⟩)
  · exact Or.inl h
  · exact Or.inr ⟨h.symm, Or.inl h'⟩
  · exact Or.inr ⟨h.symm, Or.inr ⟨h'.symm, le_of_lt h''⟩⟩

theorem entryLessG_negtrans (ko : KeyOrd κ) (keys : List κ) (a b c : κ) :
    entryLessG ko keys a b = false → entryLessG ko keys b c = false → entryLessG ko keys a c = false := by
  rw [entryLessG_false_iff, entryLessG_false_iff, entryLessG_false_iff]
  rintro (h1 | ⟨h1, h1' | ⟨h1', h1''⟩⟩) (h2 | ⟨h2, h2' | ⟨h2', h2''⟩⟩)
  · exact Or.inl (by omega)
  · exact Or.inl (by omega)
  · exact Or.inl (by omega)
  · exact Or.inl (by omega)
  · exact Or.inr ⟨by omega, Or.inl (by omega)⟩
  · exact Or.inr ⟨by omega, Or.inl (by omega)⟩
  · exact Or.inl (by omega)
  · exact Or.inr ⟨by omega, Or.inl (by omega)⟩
  · exact Or.inr ⟨by omega, Or.inr ⟨by omega, le_trans h2'' h1''⟩⟩

theorem acceptorsG_lt (ko : KeyOrd κ) (keys : List κ) (hk : KeysLawful ko keys) (a b : κ) (ha : a ∈ keys) (hb : b ∈ keys)
    (hba : ko.sub b a = true) (hab : ko.sub a b = false) : acceptorsG ko keys b < acceptorsG ko keys a := by
  unfold acceptorsG
  simpa only [← List.countP_eq_length_filter] using
    countP_lt_of_imp (fun o ho hob => hk.trans o ho b hb a ha hob hba) ha (hk.refl a ha) hab

theorem entryLessG_of_sub (ko : KeyOrd κ) (keys : List κ) (hk : KeysLawful ko keys) (a b : κ) (ha : a ∈ keys) (hb : b ∈ keys)
    (hba : ko.sub b a = true) (hne : a ≠ b) : entryLessG ko keys a b = true :=
  (entryLessG_iff ko keys a b).2 (Or.inl (acceptorsG_lt ko keys hk a b ha hb hba
    (Bool.eq_false_iff.2 fun hab => hne (hk.antisymm a ha b hb hab hba))))

theorem sortEntriesG_mem (ko : KeyOrd κ) (m : GMap κ) (e : κ × GTree κ) : e ∈ sortEntriesG ko m ↔ e ∈ m :=
  mem_insertionSort _ e m

theorem sortEntriesG_sorted (ko : KeyOrd κ) (m : GMap κ) :
    Sorted (fun (x y : κ × GTree κ) => entryLessG ko (m.map (·.1)) x.1 y.1) (sortEntriesG ko m) :=
  insertionSort_fst_sorted _ (entryLessG_asymm ko _) (entryLessG_negtrans ko _) m

theorem getG_sorted_least (ks : KeySys κ) (ko : KeyOrd κ) (keys : List κ) (hk : KeysLawful ko keys) (L : GMap κ)
    (hs : Sorted (fun (x y : κ × GTree κ) => entryLessG ko keys x.1 y.1) L) (hL : ∀ e ∈ L, e.1 ∈ keys)
    (K : κ) (t : GTree κ) (v : XVal) (hm : (K, t) ∈ L) (hacc : ks.acc K v = true)
    (hleast : ∀ e ∈ L, ks.acc e.1 v = true → ko.sub e.1 K = true)
    (huniq : ∀ e ∈ L, e.1 = K → e = (K, t)) :
    getG ks L v = t := by
  unfold getG
  rw [find?_sorted_first _ (fun k => ks.acc k v) L hs K t hm hacc]
  intro e he hacce
  by_cases hek : e.1 = K
  · exact Or.inl (huniq e he hek)
  · exact Or.inr (entryLessG_of_sub ko keys hk K e.1 (hL _ hm) (hL e he) (hleast e he hacce) (Ne.symm hek))

/-- THE LOOKUP LAW of a merged map, any key system: the format applied to a value is the entry of the most specific key that
    accepts the value -/
theorem getG_sortEntriesG_least (ks : KeySys κ) (ko : KeyOrd κ) (m : GMap κ) (hk : KeysLawful ko (m.map (·.1)))
    (hn : (m.map (·.1)).Nodup) (K : κ) (t : GTree κ) (v : XVal) (hm : (K, t) ∈ m) (hacc : ks.acc K v = true)
    (hleast : ∀ e ∈ m, ks.acc e.1 v = true → ko.sub e.1 K = true) :
    getG ks (sortEntriesG ko m) v = t := by
  have hmem := sortEntriesG_mem ko m
  have hkeys : ∀ e ∈ sortEntriesG ko m, e.1 ∈ m.map (·.1) := fun e he => List.mem_map.2 ⟨e, (hmem e).1 he, rfl⟩
  have hleast' : ∀ e ∈ sortEntriesG ko m, ks.acc e.1 v = true → ko.sub e.1 K = true := fun e he => hleast e ((hmem e).1 he)
  have huniq : ∀ e ∈ sortEntriesG ko m, e.1 = K → e = (K, t) := fun e he => nodup_key_inj hn ((hmem e).1 he) hm
  exact getG_sorted_least ks ko _ hk _ (sortEntriesG_sorted ko m) hkeys K t v ((hmem _).2 hm) hacc hleast' huniq

/-! ### The merged map holds each key once, and the user's entry where the defaults have none for its key -/

theorem mem_dedupG (ko : KeyOrd κ) (heq : ∀ a b, ko.eqv a b = true ↔ a = b) (k : κ) : ∀ l, k ∈ dedupG ko l ↔ k ∈ l
  | [] => by simp [dedupG]
  | x :: xs => by
      simp only [dedupG, List.mem_cons, List.mem_filter, mem_dedupG ko heq k xs, Bool.not_eq_true', ← Bool.not_eq_true, heq]
      by_cases h : k = x <;> simp [h]

theorem nodup_dedupG (ko : KeyOrd κ) (heq : ∀ a b, ko.eqv a b = true ↔ a = b) : ∀ l, (dedupG ko l).Nodup
  | [] => by simp [dedupG]
  | x :: xs => by
      simp only [dedupG, List.nodup_cons, List.mem_filter, Bool.not_eq_true']
      refine ⟨?_, (nodup_dedupG ko heq xs).filter _⟩
      rintro ⟨_, h⟩
      rw [(heq x x).2 rfl] at h
      cases h

theorem lookupG_some_mem (ko : KeyOrd κ) (heq : ∀ a b, ko.eqv a b = true ↔ a = b) (m : GMap κ) (k : κ) (t : GTree κ)
    (h : lookupG ko m k = some t) : (k, t) ∈ m := by
  unfold lookupG at h
  obtain ⟨e, hf, rfl⟩ := Option.map_eq_some_iff.1 h
  have hk : e.1 = k := (heq _ _).1 (List.find?_some (p := fun e : κ × GTree κ => ko.eqv e.1 k) hf)
  exact hk ▸ List.mem_of_find?_eq_some hf

theorem mergedEntriesG_fst (ko : KeyOrd κ) (mt : GTree κ → GTree κ → GTree κ) (lo hi : GMap κ) (k : κ) (e : κ × GTree κ)
    (h : (match lookupG ko (normLowerOfG ko lo hi) k, lookupG ko hi k with
      | some l, some h => some (k, mt l h)
      | some l, none => some (k, l)
      | none, some h => some (k, h)
      | none, none => none) = some e) : e.1 = k := by
  split at h <;> simp only [Option.some.injEq, reduceCtorEq] at h <;> rw [← h]

theorem mergedEntriesG_keys_nodup (ko : KeyOrd κ) (heq : ∀ a b, ko.eqv a b = true ↔ a = b)
    (mt : GTree κ → GTree κ → GTree κ) (lo hi : GMap κ) : ((mergedEntriesG ko mt lo hi).map (·.1)).Nodup :=
  filterMap_keys_nodup _ (mergedEntriesG_fst ko mt lo hi) _ (nodup_dedupG ko heq _)

theorem mergedEntriesG_user_only (ko : KeyOrd κ) (heq : ∀ a b, ko.eqv a b = true ↔ a = b) (mt : GTree κ → GTree κ → GTree κ)
    (lo hi : GMap κ) (K : κ) (h : GTree κ) (hl : lookupG ko (normLowerOfG ko lo hi) K = none) (hh : lookupG ko hi K = some h) :
    (K, h) ∈ mergedEntriesG ko mt lo hi := by
  unfold mergedEntriesG
  refine List.mem_filterMap.2 ⟨K, ?_, ?_⟩
  · unfold mergedKeysG
    rw [mem_dedupG ko heq]
    exact List.mem_append_right _ (List.mem_map.2 ⟨(K, h), lookupG_some_mem ko heq hi K h hh, rfl⟩)
  · simp only [hl, hh]

theorem mergeMapsG_both (ko : KeyOrd κ) (fuel : Nat) (x : κ × GTree κ) (xs : GMap κ) (y : κ × GTree κ) (ys : GMap κ) :
    mergeMapsG ko (fuel + 1) (some (x :: xs)) (some (y :: ys)) =
      some (sortEntriesG ko (mergedEntriesG ko (mergeTreeG ko fuel) (x :: xs) (y :: ys))) := by
  simp only [mergeMapsG]

/-! ### The 22 parameterless default types are lawful keys: assignability among them is inclusion of the accepted kinds, read off the
    finite table by evaluation -/

def allXKeys : List XKey :=
  [.base .any, .base .scalar, .base .numeric, .base .int, .base .float, .base .str, .base .bool, .base .bin, .base .arr, .base .hash,
   .base .coll, .base .undef, .base .dflt, .base .regexp, .base .obj, .base .typ,
   .semver, .semverRange, .uri, .tspan, .tstamp, .sensitive]

theorem allXKeys_complete (a : XKey) : a ∈ allXKeys := by
  cases a with
  | base k => cases k <;> decide
  | _ => decide

theorem allXKeys_all₂ {p : XKey → XKey → Bool} (h : allXKeys.all (fun a => allXKeys.all (p a)) = true) (a b : XKey) : p a b = true :=
  List.all_eq_true.1 (List.all_eq_true.1 h a (allXKeys_complete a)) b (allXKeys_complete b)

theorem allXKeys_allKinds {p : XKey → XKind → Bool} (h : allXKeys.all (fun a => allXKinds.all (p a)) = true) (a : XKey) (k : XKind) :
    p a k = true :=
  List.all_eq_true.1 (List.all_eq_true.1 h a (allXKeys_complete a)) k (allXKinds_complete k)

theorem XKey.sub_incl_all : allXKeys.all (fun a => allXKeys.all (fun b =>
    XKey.sub a b == allXKinds.all (fun k => !b.accepts k || a.accepts k))) = true := by decide +kernel

theorem XKey.sub_iff (a b : XKey) : XKey.sub a b = true ↔ ∀ k, b.accepts k = true → a.accepts k = true := by
  have h := allXKeys_all₂ XKey.sub_incl_all a b
  rw [beq_iff_eq.1 h, List.all_eq_true]
  simp only [Bool.or_eq_true, Bool.not_eq_true', ← Bool.not_eq_true, ← imp_iff_not_or]
  exact ⟨fun h k => h k (allXKinds_complete k), fun h k _ => h k⟩

theorem XKey.sub_refl (a : XKey) : XKey.sub a a = true := (XKey.sub_iff a a).2 fun _ h => h

theorem XKey.sub_trans (a b c : XKey) (hab : XKey.sub a b = true) (hbc : XKey.sub b c = true) : XKey.sub a c = true :=
  (XKey.sub_iff a c).2 fun k h => (XKey.sub_iff a b).1 hab k ((XKey.sub_iff b c).1 hbc k h)

theorem XKey.accepts_mono (a b : XKey) (k : XKind) (hab : XKey.sub a b = true) : b.accepts k = true → a.accepts k = true :=
  (XKey.sub_iff a b).1 hab k

theorem XKey.sub_antisymm_all : allXKeys.all (fun a => allXKeys.all (fun b =>
    !(XKey.sub a b && XKey.sub b a) || decide (a = b))) = true := by decide +kernel

theorem XKey.sub_antisymm (a b : XKey) (hab : XKey.sub a b = true) (hba : XKey.sub b a = true) : a = b := by
  simpa [hab, hba] using allXKeys_all₂ XKey.sub_antisymm_all a b

theorem XKey.name_inj_all : allXKeys.all (fun a => allXKeys.all (fun b =>
    !(decide (XKey.name a = XKey.name b)) || decide (a = b))) = true := by decide +kernel

theorem xkeyOrd_lawful (keys : List XKey) : KeysLawful xkeyOrd keys where
  refl a _ := XKey.sub_refl a
  trans a _ b _ c _ := XKey.sub_trans a b c
  antisymm a _ b _ := XKey.sub_antisymm a b
  name_inj a _ b _ hn := by simpa [show XKey.name a = XKey.name b from hn] using allXKeys_all₂ XKey.name_inj_all a b

theorem xkeyOrd_eqv (a b : XKey) : xkeyOrd.eqv a b = true ↔ a = b := by simp [xkeyOrd]

theorem XKey.accepts_mono_all : allXKeys.all (fun a => allXKeys.all (fun b =>
    [XKind.int, .float, .str, .bool, .undef, .dflt, .bin, .regexp, .arr, .hash, .semver, .semverRange, .uri, .tspan, .tstamp,
      .sensitive, .typ, .obj, .talias, .otype].all (fun k => !(XKey.sub a b && b.accepts k) || a.accepts k))) = true := by
  simp only [List.all_eq_true, Bool.or_eq_true, Bool.not_eq_true', ← Bool.not_eq_true, ← imp_iff_not_or, Bool.and_eq_true]
  exact fun a _ b _ k _ h => XKey.accepts_mono a b k h.1 h.2

theorem XKey.accepts_sub_exact_all : allXKeys.all (fun a => allXKinds.all (fun k =>
    !a.accepts k || XKey.sub a k.key)) = true := by decide +kernel

theorem XKey.accepts_sub_exact (a : XKey) (k : XKind) (h : a.accepts k = true) : XKey.sub a k.key = true := by
  simpa [h] using allXKeys_allKinds XKey.accepts_sub_exact_all a k

theorem XKind.key_accepts (k : XKind) : k.key.accepts k = true := by cases k <;> decide

end Pcore.Format

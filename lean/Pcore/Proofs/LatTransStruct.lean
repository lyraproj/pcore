import Pcore.Proofs.LatRecv
/-! C03, transitivity: `StructType.IsAssignable(Struct)`, as the relation between member lists of `struct_recv_iff`
    (Proofs/LatRecv), composes when the member types do; so does the member loop of `HashType.IsAssignable(Struct)` with it.  At the
    end: a Struct with a member has a positive upper size bound; `NamesNodup` passes to the tail. -/
namespace Pcore.Lat
variable (cfg : Cfg) (sfh : Bool)

theorem struct_trans (ms ms' ms'' : List Member) (hn : NamesNodup ms) (hn' : NamesNodup ms') (hn'' : NamesNodup ms'')
    (el : ∀ m ∈ ms, ∀ m' ∈ ms', ∀ m'' ∈ ms'', asg cfg sfh m.2.2 m'.2.2 = true → asg cfg sfh m'.2.2 m''.2.2 = true →
      asg cfg sfh m.2.2 m''.2.2 = true)
    (h1 : asgRecv cfg sfh (.struct ms) (.struct ms') = true) (h2 : asgRecv cfg sfh (.struct ms') (.struct ms'') = true) :
    asgRecv cfg sfh (.struct ms) (.struct ms'') = true := by
  obtain ⟨a1, a2⟩ := (struct_recv_iff cfg sfh ms ms' hn hn').1 h1
  obtain ⟨b1, b2⟩ := (struct_recv_iff cfg sfh ms' ms'' hn' hn'').1 h2
  rw [struct_recv_iff cfg sfh ms ms'' hn hn'']
  refine ⟨fun m hm => ⟨fun m'' hm'' hk => ?_, fun hno => ?_⟩, fun m'' hm'' => ?_⟩
  · obtain ⟨m', hm', hk'⟩ := b2 m'' hm''
    have hA := (a1 m hm).1 m' hm' (hk'.trans hk)
    have hB := (b1 m' hm').1 m'' hm'' hk'.symm
    refine ⟨?_, el m hm m' hm' m'' hm'' hA.2 hB.2⟩
    have x := hA.1; have y := hB.1
    revert x y
    cases m.2.1 <;> cases m'.2.1 <;> cases m''.2.1 <;> simp
  · by_cases hex : ∃ m' ∈ ms', m'.1 = m.1
    · obtain ⟨m', hm', hk⟩ := hex
      have hopt' : m'.2.1 = true := (b1 m' hm').2 (fun m'' hm'' hk'' => hno m'' hm'' (hk''.trans hk))
      have := ((a1 m hm).1 m' hm' hk).1
      rw [hopt'] at this
      simpa using this
    · exact (a1 m hm).2 (fun m' hm' hk => hex ⟨m', hm', hk⟩)
  · obtain ⟨m', hm', hk'⟩ := b2 m'' hm''
    obtain ⟨m, hm, hk⟩ := a2 m' hm'
    exact ⟨m, hm, hk.trans hk'⟩

theorem members_trans (k v : Ty) (ms' ms'' : List Member) (hn' : NamesNodup ms') (hn'' : NamesNodup ms'')
    (el : ∀ m' ∈ ms', ∀ m'' ∈ ms'', asg cfg sfh v m'.2.2 = true → asg cfg sfh m'.2.2 m''.2.2 = true → asg cfg sfh v m''.2.2 = true)
    (h1 : asgMembers cfg sfh k v ms' = true) (h2 : asgRecv cfg sfh (.struct ms') (.struct ms'') = true) :
    asgMembers cfg sfh k v ms'' = true := by
  rw [asgMembers_iff] at h1 ⊢
  obtain ⟨b1, b2⟩ := (struct_recv_iff cfg sfh ms' ms'' hn' hn'').1 h2
  intro m'' hm''
  obtain ⟨m', hm', hk'⟩ := b2 m'' hm''
  have hB := (b1 m' hm').1 m'' hm'' hk'.symm
  have hA := h1 m' hm'
  exact ⟨by rw [← hk']; exact hA.1, el m' hm' m'' hm'' hA.2 hB.2⟩

theorem struct_size_hi_pos {ms : List Member} {m : Member} (hm : m ∈ ms) : ¬ (structSize ms).hi ≤ 0 := by
  simp only [structSize]
  have := List.length_pos_of_mem hm
  omega

theorem namesNodup_tail {m : Member} {ms : List Member} (h : NamesNodup (m :: ms)) : NamesNodup ms := by
  simp only [NamesNodup, List.map_cons, List.nodup_cons] at h; exact h.2

end Pcore.Lat

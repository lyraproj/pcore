import Pcore.Model.UnicodeCase
import Pcore.Generated.UnicodeCase
/-! The side condition on the regenerated Unicode case table (`CaseTableOK`: rows recognised, ranges non-empty, in order and
    apart), what it gives the search of `toCase` (`find?_caseTableOK`: the range found is THE range of the point, as for Go's
    binary search), and the table Go ships satisfying it.  C20 states it as a property of the table; C12's idempotence of
    `unicode.ToLower` (Proofs/LoaderCase) rests on it. -/
namespace Pcore.Format

/-- every row was recognised, the ranges are well formed, sorted and disjoint — what makes the linear search of
    `toCase` find the range Go's binary search finds -/
def caseTableOKb : List Pcore.UnicodeCase.CaseRange → Bool
  | [] => true
  | [r] => r.unknown.isEmpty && decide (r.lo ≤ r.hi)
  | r :: r2 :: rest => r.unknown.isEmpty && decide (r.lo ≤ r.hi) && decide (r.hi < r2.lo) && caseTableOKb (r2 :: rest)

def CaseTableOK (t : List Pcore.UnicodeCase.CaseRange) : Prop := caseTableOKb t = true

instance (t : List Pcore.UnicodeCase.CaseRange) : Decidable (CaseTableOK t) := by unfold CaseTableOK; infer_instance

open Pcore.UnicodeCase

theorem CaseTableOK.tail {a : CaseRange} {r : List CaseRange} (h : CaseTableOK (a :: r)) : CaseTableOK r := by
  cases r with
  | nil => rfl
  | cons b r => simp only [CaseTableOK, caseTableOKb, Bool.and_eq_true] at h; exact h.2

theorem CaseTableOK.lo_le_hi {a : CaseRange} {r : List CaseRange} (h : CaseTableOK (a :: r)) : a.lo ≤ a.hi := by
  cases r <;> simp only [CaseTableOK, caseTableOKb, Bool.and_eq_true, decide_eq_true_eq] at h
  · exact h.2
  · exact h.1.1.2

theorem CaseTableOK.head_lt {a : CaseRange} {r : List CaseRange} (h : CaseTableOK (a :: r)) : ∀ c ∈ r, a.hi < c.lo := by
  induction r generalizing a with
  | nil => intro c hc; cases hc
  | cons b r ih =>
    intro c hc
    have hab : a.hi < b.lo := by
      simp only [CaseTableOK, caseTableOKb, Bool.and_eq_true, decide_eq_true_eq] at h; exact h.1.2
    rcases List.mem_cons.mp hc with rfl | hc
    · exact hab
    · have := ih h.tail c hc
      have := h.tail.lo_le_hi
      omega

theorem find?_caseTableOK {tbl : List CaseRange} (hs : CaseTableOK tbl) {cr : CaseRange} (hm : cr ∈ tbl) {x : Nat}
    (h1 : cr.lo ≤ x) (h2 : x ≤ cr.hi) : tbl.find? (fun c => decide (c.lo ≤ x) && decide (x ≤ c.hi)) = some cr := by
  induction tbl with
  | nil => cases hm
  | cons a r ih =>
    rcases List.mem_cons.mp hm with rfl | hm
    · simp [h1, h2]
    · have := hs.head_lt cr hm
      have hx : ¬ x ≤ a.hi := by omega
      simp only [List.find?_cons, hx, decide_false, Bool.and_false]
      exact ih hs.tail hm

end Pcore.Format

namespace Pcore.Generated

theorem caseRanges_tableOK : Pcore.Format.CaseTableOK caseRanges := by decide +kernel

end Pcore.Generated

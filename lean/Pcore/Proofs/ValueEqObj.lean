import Pcore.Model.ValueEq
import Pcore.Proofs.ListFacts
import Mathlib.Data.List.Perm.Subperm
import Mathlib.Data.List.Nodup
/-! Helper lemmas for C07: `attributeSlice.Equals` (object instances).  The file defines `objWF`, an instance as `px.New` makes it.
    Two descriptions of `Equals`, in this order.  `SelPos`, which position of the receiver is compared with which of the argument
    (the same position for the same type, the position of the same name across two types without `equality_include_type`):
    selections compose, which gives transitivity.  The EQUALITY VIEW (the participating attributes as name/value pairs): both
    branches say that every pair of the receiver has an Equal partner of the same name in the argument; for well-formed
    instances that matching can be turned round (`viewLe_symm`), which gives symmetry. -/
namespace Pcore.ValueEq

def distinctN : List Nat → Bool
  | [] => true
  | x :: xs => !xs.contains x && distinctN xs

def distinctBy : List Bytes → Bool
  | [] => true
  | x :: xs => !xs.contains x && distinctBy xs

theorem distinctN_nodup {l : List Nat} (h : distinctN l = true) : l.Nodup := nodup_of_distinct_test (fun _ _ => rfl) h

theorem distinctBy_nodup {l : List Bytes} (h : distinctBy l = true) : l.Nodup := nodup_of_distinct_test (fun _ _ => rfl) h

/-- an instance as `px.New` makes it: attribute names are unique, the equality positions are distinct positions of the type, one
    value per attribute -/
def objWF (t : OType) (vs : List Val) : Bool :=
  distinctBy t.names && distinctN t.eqPos && t.eqPos.all (· < t.names.length) && vs.length == t.names.length

structure ObjWF (t : OType) (vs : List Val) : Prop where
  names : t.names.Nodup
  pos : t.eqPos.Nodup
  range : ∀ i ∈ t.eqPos, i < t.names.length
  len : vs.length = t.names.length

theorem objWF_spec {t : OType} {vs : List Val} (h : objWF t vs = true) : ObjWF t vs := by
  simp only [objWF, Bool.and_eq_true, List.all_eq_true, decide_eq_true_eq, beq_iff_eq] at h
  exact ⟨distinctBy_nodup h.1.1.1, distinctN_nodup h.1.1.2, h.1.2, h.2⟩

theorem posOf_eq (ns : List Bytes) (n : Bytes) : posOf ns n = ns.idxOf? n := by
  induction ns with
  | nil => rfl
  | cons m ms ih => simp only [posOf, List.idxOf?_cons, ih]

theorem posOf_some {ns : List Bytes} {n : Bytes} {j : Nat} (h : posOf ns n = some j) : ns[j]? = some n := by
  rw [posOf_eq, List.idxOf?_eq_some_iff] at h
  obtain ⟨hlt, e, _⟩ := h
  rw [List.getElem?_eq_getElem hlt, e]

theorem posOf_of_nodup {ns : List Bytes} {n : Bytes} {i : Nat} (hd : ns.Nodup) (h : ns[i]? = some n) : posOf ns n = some i := by
  obtain ⟨hlt, e⟩ := List.getElem?_eq_some_iff.mp h
  rw [posOf_eq, List.idxOf?_eq_some_iff]
  -- an earlier position with the same name would be the same position
  exact ⟨hlt, e, fun j hj hji => absurd ((List.getElem_inj hd).mp (hji.trans e.symm)) (by omega)⟩

/-! ### `Equals` of two instances unfolded: a condition on the two types (`objPre`, an equivalence) and one condition on each
    attribute value of the receiver (`selOk`) -/

/-- what one attribute value must satisfy -/
def selOk (v : Val) : Sel → Prop
  | .skip => True
  | .fail => False
  | .cmp w => veq v w = true

theorem selOk_iff (v : Val) (s : Sel) : (match s with | .skip => true | .fail => false | .cmp w => veq v w) = true ↔ selOk v s := by
  cases s <;> simp [selOk]

theorem veqSel_range (f : Nat → Sel) : ∀ (vs : List Val) (k : Nat),
    veqSel vs ((List.range' k vs.length).map f) = true ↔ ∀ i v, vs[i]? = some v → selOk v (f (k + i))
  | [], k => by simp [veqSel]
  | v :: vs, k => by
      simp only [List.length_cons, List.range'_succ, List.map_cons, veqSel, Bool.and_eq_true, veqSel_range f vs (k + 1)]
      constructor
      · rintro ⟨h0, hr⟩ (_ | i) w hi
        · cases hi; exact (selOk_iff v _).mp h0
        · rw [show k + (i + 1) = k + 1 + i by omega]; exact hr i w hi
      · exact fun h => ⟨(selOk_iff v _).mpr (h 0 v rfl), fun i w hi => by rw [show k + 1 + i = k + (i + 1) by omega]; exact h (i + 1) w hi⟩

theorem veq_obj_iff (t t' : OType) (vs ws : List Val) :
    veq (.obj t vs) (.obj t' ws) = true ↔ objPre t t' = true ∧ ∀ i v, vs[i]? = some v → selOk v (objSelAt t t' ws i) := by
  simp only [veq, Bool.and_eq_true, objSel, List.range_eq_range']
  rw [veqSel_range]
  simp

theorem objPre_iff {t t' : OType} :
    objPre t t' = true ↔ t = t' ∨ (t.incl = false ∧ t'.incl = false ∧ t.eqPos.length = t'.eqPos.length) := by
  simp [objPre, and_assoc]

theorem objPre_symm (t t' : OType) : objPre t t' = objPre t' t := by
  have imp : ∀ t t', objPre t t' = true → objPre t' t = true := fun t t' h => by
    rw [objPre_iff] at h ⊢
    rcases h with rfl | ⟨a, b, c⟩
    · exact Or.inl rfl
    · exact Or.inr ⟨b, a, c.symm⟩
  exact Bool.eq_iff_iff.mpr ⟨imp t t', imp t' t⟩

theorem objPre_trans {t t' t'' : OType} (h1 : objPre t t' = true) (h2 : objPre t' t'' = true) : objPre t t'' = true := by
  rw [objPre_iff] at *
  rcases h1 with rfl | ⟨a, _, c⟩
  · exact h2
  · rcases h2 with rfl | ⟨_, b', c'⟩
    · exact Or.inr ⟨a, ‹_›, c⟩
    · exact Or.inr ⟨a, b', c.trans c'⟩

theorem objPre_length {t t' : OType} (h : objPre t t' = true) : t.eqPos.length = t'.eqPos.length := by
  rcases objPre_iff.mp h with rfl | ⟨_, _, c⟩
  · rfl
  · exact c

/-! ### which position is compared with which (`SelPos`): selections compose, so `Equals` is transitive attribute by attribute,
    with no demand on the third operand -/

theorem objSelAt_skip {t t' : OType} {ws : List Val} {i : Nat} (h : i ∉ t.eqPos) : objSelAt t t' ws i = .skip := by
  unfold objSelAt
  simp [h]

theorem objSelAt_same {t : OType} {ws : List Val} {i : Nat} (h : i ∈ t.eqPos) :
    objSelAt t t ws i = (match ws[i]? with | some w => .cmp w | none => .fail) := by
  unfold objSelAt
  cases hw : ws[i]? <;> simp [h]

theorem objSelAt_diff {t t' : OType} {ws : List Val} {i : Nat} (h : i ∈ t.eqPos) (e : t ≠ t') :
    objSelAt t t' ws i = (match t.names[i]? with
      | none => .fail
      | some n =>
        match posOf t'.names n with
        | none => .fail
        | some j => if t'.eqPos.contains j then (match ws[j]? with | some w => .cmp w | none => .fail) else .fail) := by
  unfold objSelAt
  cases hn : t.names[i]? with
  | none => simp [h, e]
  | some n =>
    cases hp : posOf t'.names n with
    | none => simp [h, e, hp]
    | some j => by_cases hj : j ∈ t'.eqPos <;> cases hw : ws[j]? <;> simp [h, e, hp, hj, hw]

/-- the receiver's equality attribute `i` is compared with the argument's equality attribute `j`: the same position for the same
    type, else the position of the same name -/
def SelPos (t t' : OType) (i j : Nat) : Prop :=
  i ∈ t.eqPos ∧ j ∈ t'.eqPos ∧ ((t = t' ∧ j = i) ∨ (t ≠ t' ∧ ∃ n, t.names[i]? = some n ∧ posOf t'.names n = some j))

theorem selOk_pos {t t' : OType} {ws : List Val} {i : Nat} {v : Val} (hi : i ∈ t.eqPos) (hlt : i < t.names.length) :
    selOk v (objSelAt t t' ws i) ↔ ∃ j w, SelPos t t' i j ∧ ws[j]? = some w ∧ veq v w = true := by
  have hn : t.names[i]? = some t.names[i] := List.getElem?_eq_getElem hlt
  by_cases e : t = t'
  · subst e
    rw [objSelAt_same hi]
    constructor
    · intro h
      cases hw : ws[i]? with
      | none => rw [hw] at h; exact absurd h (by simp [selOk])
      | some w => rw [hw] at h; exact ⟨i, w, ⟨hi, hi, Or.inl ⟨rfl, rfl⟩⟩, hw, h⟩
    · rintro ⟨j, w, ⟨_, _, hc⟩, hw, hvw⟩
      rcases hc with ⟨_, rfl⟩ | ⟨ne, _⟩
      · rw [hw]; exact hvw
      · exact absurd rfl ne
  · rw [objSelAt_diff hi e, hn]
    constructor
    · intro h
      simp only at h
      cases hp : posOf t'.names t.names[i] with
      | none => rw [hp] at h; exact absurd h (by simp [selOk])
      | some j =>
        rw [hp] at h
        simp only at h
        by_cases hj : t'.eqPos.contains j = true
        · simp only [hj, if_true] at h
          cases hw : ws[j]? with
          | none => rw [hw] at h; exact absurd h (by simp [selOk])
          | some w => rw [hw] at h; exact ⟨j, w, ⟨hi, by simpa using hj, Or.inr ⟨e, _, hn, hp⟩⟩, hw, h⟩
        · simp only [hj, Bool.false_eq_true, if_false] at h
          exact absurd h (by simp [selOk])
    · rintro ⟨j, w, ⟨_, hj, hc⟩, hw, hvw⟩
      rcases hc with ⟨rfl, _⟩ | ⟨_, n, hn', hp⟩
      · exact absurd rfl e
      · obtain rfl := Option.some.inj (hn.symm.trans hn')
        have hjc : t'.eqPos.contains j = true := by simpa using hj
        simp only [hp, hjc, if_true, hw]
        exact hvw

/-- selections compose: a fact about the three types alone (names are unique in the first) -/
theorem SelPos.trans {t t' t'' : OType} {i j k : Nat} (hn : t.names.Nodup) (s1 : SelPos t t' i j) (s2 : SelPos t' t'' j k) :
    SelPos t t'' i k := by
  obtain ⟨hi, _, c1⟩ := s1
  obtain ⟨_, hk, c2⟩ := s2
  refine ⟨hi, hk, ?_⟩
  rcases c1 with ⟨rfl, rfl⟩ | ⟨e1, n, hni, hp1⟩
  · exact c2
  · rcases c2 with ⟨rfl, rfl⟩ | ⟨e2, m, hmj, hp2⟩
    · exact Or.inr ⟨e1, n, hni, hp1⟩
    · obtain rfl : n = m := Option.some.inj ((posOf_some hp1).symm.trans hmj)
      by_cases e : t = t''
      · subst e
        -- back in the first type: the position found must be `i`
        rw [posOf_of_nodup hn hni] at hp2
        exact Or.inl ⟨rfl, (Option.some.inj hp2).symm⟩
      · exact Or.inr ⟨e, n, hni, hp2⟩

theorem veq_obj_trans {t t' t'' : OType} {vs ws us : List Val} (hx : ObjWF t vs) (hy : ObjWF t' ws)
    (tr : ∀ v ∈ vs, ∀ w u, w ∈ ws → veq v w = true → veq w u = true → veq v u = true)
    (h1 : veq (.obj t vs) (.obj t' ws) = true) (h2 : veq (.obj t' ws) (.obj t'' us) = true) :
    veq (.obj t vs) (.obj t'' us) = true := by
  rw [veq_obj_iff] at h1 h2 ⊢
  refine ⟨objPre_trans h1.1 h2.1, fun i v hv => ?_⟩
  by_cases hi : i ∈ t.eqPos
  swap
  · rw [objSelAt_skip hi]; trivial
  obtain ⟨j, w, s1, hw, hvw⟩ := (selOk_pos hi (hx.range i hi)).mp (h1.2 i v hv)
  obtain ⟨k, u, s2, hu, hwu⟩ := (selOk_pos s1.2.1 (hy.range j s1.2.1)).mp (h2.2 j w hw)
  exact (selOk_pos hi (hx.range i hi)).mpr
    ⟨k, u, s1.trans hx.names s2, hu, tr v (List.mem_of_getElem? hv) w u (List.mem_of_getElem? hw) hvw hwu⟩

/-- for types with unique attribute names the selection is "the equality attribute of the same name" -/
theorem selPos_iff_name {t t' : OType} {i j : Nat} (hn : t.names.Nodup) (hn' : t'.names.Nodup) (hlt : i < t.names.length) :
    SelPos t t' i j ↔ i ∈ t.eqPos ∧ j ∈ t'.eqPos ∧ ∃ n, t.names[i]? = some n ∧ t'.names[j]? = some n := by
  have hi : t.names[i]? = some t.names[i] := List.getElem?_eq_getElem hlt
  refine and_congr_right fun _ => and_congr_right fun _ => ⟨?_, ?_⟩
  · rintro (⟨rfl, rfl⟩ | ⟨_, n, h1, hp⟩)
    · exact ⟨_, hi, hi⟩
    · exact ⟨n, h1, posOf_some hp⟩
  · rintro ⟨n, h1, h2⟩
    by_cases e : t = t'
    · subst e; exact Or.inl ⟨rfl, nodup_idx_inj hn h2 h1⟩
    · exact Or.inr ⟨e, n, h1, posOf_of_nodup hn' h2⟩

/-! ### the equality view: both branches of `Equals` say that every pair of the receiver has an Equal partner of the same name -/

/-- the participating attributes as name / value pairs -/
def eqView (t : OType) (vs : List Val) : List (Bytes × Val) :=
  t.eqPos.filterMap fun i =>
    match t.names[i]?, vs[i]? with
    | some n, some v => some (n, v)
    | _, _ => none

theorem mem_eqView {t : OType} {vs : List Val} {n : Bytes} {v : Val} :
    (n, v) ∈ eqView t vs ↔ ∃ i ∈ t.eqPos, t.names[i]? = some n ∧ vs[i]? = some v := by
  simp only [eqView, List.mem_filterMap]
  constructor
  · rintro ⟨i, hi, h⟩
    cases hn : t.names[i]? with
    | none => rw [hn] at h; simp at h
    | some n' =>
      cases hv : vs[i]? with
      | none => rw [hn, hv] at h; simp at h
      | some v' =>
        rw [hn, hv] at h
        simp only [Option.some.injEq, Prod.mk.injEq] at h
        exact ⟨i, hi, h.1 ▸ hn, h.2 ▸ hv⟩
  · rintro ⟨i, hi, hn, hv⟩
    exact ⟨i, hi, by rw [hn, hv]⟩

/-- the receiver's view is matched inside the argument's: every pair has an Equal partner of the same name -/
def viewLe (a b : List (Bytes × Val)) : Prop := ∀ n v, (n, v) ∈ a → ∃ w, (n, w) ∈ b ∧ veq v w = true

theorem veq_obj_view {t t' : OType} {vs ws : List Val} (hx : ObjWF t vs) (hy : ObjWF t' ws) :
    veq (.obj t vs) (.obj t' ws) = true ↔ objPre t t' = true ∧ viewLe (eqView t vs) (eqView t' ws) := by
  rw [veq_obj_iff]
  refine and_congr_right fun _ => ⟨fun h n v hm => ?_, fun h i v hv => ?_⟩
  · obtain ⟨i, hi, hn, hv⟩ := mem_eqView.mp hm
    obtain ⟨j, w, s, hw, hvw⟩ := (selOk_pos hi (hx.range i hi)).mp (h i v hv)
    obtain ⟨_, hj, m, h1, h2⟩ := (selPos_iff_name hx.names hy.names (hx.range i hi)).mp s
    exact ⟨w, mem_eqView.mpr ⟨j, hj, (hn.symm.trans h1) ▸ h2, hw⟩, hvw⟩
  · by_cases hi : i ∈ t.eqPos
    swap
    · rw [objSelAt_skip hi]; trivial
    have hlt := hx.range i hi
    obtain ⟨w, hm, hvw⟩ := h _ v (mem_eqView.mpr ⟨i, hi, List.getElem?_eq_getElem hlt, hv⟩)
    obtain ⟨j, hj, hnj, hwj⟩ := mem_eqView.mp hm
    exact (selOk_pos hi hlt).mpr
      ⟨j, w, (selPos_iff_name hx.names hy.names hlt).mpr ⟨hi, hj, _, List.getElem?_eq_getElem hlt, hnj⟩, hwj, hvw⟩

/-! ### the view of a well-formed instance: distinct names, one pair per equality position -/

/-- for a well-formed instance no equality position is dropped -/
theorem eqView_eq_map {t : OType} {vs : List Val} (hx : ObjWF t vs) :
    eqView t vs = t.eqPos.map fun i => ((t.names[i]?).getD [], (vs[i]?).getD default) := by
  have key : ∀ ps : List Nat, (∀ i ∈ ps, i < t.names.length) →
      (ps.filterMap fun i => match t.names[i]?, vs[i]? with | some n, some v => some (n, v) | _, _ => none) =
        ps.map fun i => ((t.names[i]?).getD [], (vs[i]?).getD default) := by
    intro ps
    induction ps with
    | nil => intro _; rfl
    | cons p ps ih =>
      intro hr
      have hp := hr p List.mem_cons_self
      have hpv : p < vs.length := by rw [hx.len]; exact hp
      simp only [List.filterMap_cons, List.map_cons, List.getElem?_eq_getElem hp, List.getElem?_eq_getElem hpv, Option.getD_some,
        ih fun i hi => hr i (List.mem_cons_of_mem _ hi)]
  exact key t.eqPos hx.range

theorem eqView_names_nodup {t : OType} {vs : List Val} (hx : ObjWF t vs) : ((eqView t vs).map (·.1)).Nodup := by
  rw [eqView_eq_map hx, List.map_map]
  refine List.Nodup.map_on (fun i hi j hj e => ?_) hx.pos
  simp only [Function.comp, List.getElem?_eq_getElem (hx.range i hi), List.getElem?_eq_getElem (hx.range j hj), Option.getD_some] at e
  exact nodup_idx_inj hx.names (List.getElem?_eq_getElem (hx.range i hi)) (e ▸ List.getElem?_eq_getElem (hx.range j hj))

theorem eqView_length {t : OType} {vs : List Val} (hx : ObjWF t vs) : (eqView t vs).length = t.eqPos.length := by
  rw [eqView_eq_map hx, List.length_map]

/-- the counting argument: a duplicate-free list inside a list that is not longer is all of it -/
theorem subset_of_nodup_of_length_le {α : Type} {l₁ l₂ : List α} (h : l₁.Nodup) (hs : l₁ ⊆ l₂) (hl : l₂.length ≤ l₁.length) :
    l₂ ⊆ l₁ :=
  ((List.subperm_of_subset h hs).perm_of_length_le hl).symm.subset

theorem viewLe_symm {a b : List (Bytes × Val)} (ha : (a.map (·.1)).Nodup) (hb : (b.map (·.1)).Nodup) (hl : a.length = b.length)
    (sw : ∀ n v w, (n, v) ∈ a → (n, w) ∈ b → veq v w = true → veq w v = true) (h : viewLe a b) : viewLe b a := by
  have sub : a.map (·.1) ⊆ b.map (·.1) := by
    intro n hn
    obtain ⟨⟨n', v⟩, hm, rfl⟩ := List.mem_map.mp hn
    obtain ⟨w, hw, _⟩ := h n' v hm
    exact List.mem_map.mpr ⟨(n', w), hw, rfl⟩
  intro n w hw
  have : n ∈ a.map (·.1) := subset_of_nodup_of_length_le ha sub (by simp [hl]) (List.mem_map.mpr ⟨(n, w), hw, rfl⟩)
  obtain ⟨⟨n', v⟩, hm, e⟩ := List.mem_map.mp this
  simp only at e
  subst e
  obtain ⟨w', hw', hvw⟩ := h n' v hm
  have : w' = w := nodup_key_snd hb hw' hw
  subst this
  exact ⟨v, hm, sw n' v w' hm hw' hvw⟩

end Pcore.ValueEq

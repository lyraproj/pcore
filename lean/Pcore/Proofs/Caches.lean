import Pcore.Model.Caches
import Pcore.Proofs.SliceHeapRefine
/-!
C08 helper lemmas: the lazily built caches stay coherent with the content they were computed from
(`CInv`, preserved by fills and by steps under `IdiomsSafe` + `CachesSafe`); hence every observation is computed from what the
pure layer says the value holds (`observed_eq_look`).
-/
namespace Pcore.Heap

def expectedFields : List (String × List String) :=
  [("Array", ["reducedType", "detailedType"]), ("Hash", ["reducedType", "detailedType", "index"]),
   ("MutableHashValue", ["embedded Hash"])]

/-- * the hidden state of a value is exactly the caches the model knows (a new field is a new obligation);
    * a cache field is only ever filled lazily (`if recv.f == nil { recv.f = … }`) or reset;
    * the only method that replaces a value's backing slice is `MutableHashValue.PutAll`, and it resets EVERY cache. -/
def cachesSafeB (f : CacheFacts) : Bool :=
  f.fields == expectedFields &&
  f.writes.all (fun w => w.2.2 == .lazyFill || w.2.2 == .reset) &&
  f.mutators == ["MutableHashValue.PutAll"] &&
  [CacheField.reduced, .detailed, .index].all (fun c => f.resets "MutableHashValue.PutAll" c)

def CachesSafe (f : CacheFacts) : Prop := cachesSafeB f = true

instance (f : CacheFacts) : Decidable (CachesSafe f) := by unfold CachesSafe; infer_instance

theorem safe_resets {f : CacheFacts} (h : CachesSafe f) (c : CacheField) :
    f.resets NewSite.mutPutAll.method c = true := by
  unfold CachesSafe cachesSafeB at h
  simp only [Bool.and_eq_true, List.all_eq_true] at h
  have := h.2 c (by cases c <;> simp)
  exact this

theorem Cache.get_set (c : Cache) (f f' : CacheField) (v : Option (List Val)) :
    (c.set f v).get f' = if f' = f then v else c.get f' := by
  cases f <;> cases f' <;> simp [Cache.set, Cache.get]

theorem resetCache_none {facts : CacheFacts} (h : CachesSafe facts) (c : Cache) (fld : CacheField) :
    (resetCache facts NewSite.mutPutAll.method c).get fld = none := by
  have h1 := safe_resets h .reduced
  have h2 := safe_resets h .detailed
  have h3 := safe_resets h .index
  cases fld <;> simp [resetCache, Cache.get, h1, h2, h3]

structure CInv (st : CState) : Prop where
  wf : st.hs.WF
  /-- every pool entry has an object -/
  len : st.obj.length = st.hs.pool.length
  /-- object ids in use are below `next` -/
  bound : ∀ (i o : Nat), st.obj[i]? = some o → o < st.next
  /-- the caches of unused ids are empty -/
  empty : ∀ (o : Nat), st.next ≤ o → ∀ fld, (st.caches o).get fld = none
  /-- COHERENCE: a cached answer of a live value was computed from exactly what the value holds now -/
  coh : ∀ (i : Nat) (k : Kind) (sl : Slice) (o : Nat), st.hs.slice? i = some (k, sl) → st.obj[i]? = some o →
    ∀ fld snap, (st.caches o).get fld = some snap → snap = st.hs.heap.read sl
  /-- live entries of one object hold the same content; a mutable hash's object has one live entry -/
  share : ∀ (i j : Nat) (ki kj : Kind) (si sj : Slice) (o : Nat), st.hs.slice? i = some (ki, si) → st.hs.slice? j = some (kj, sj) →
    st.obj[i]? = some o → st.obj[j]? = some o →
    st.hs.heap.read si = st.hs.heap.read sj ∧ ((ki = .mut ∨ kj = .mut) → i = j)

theorem CInv.init : CInv {} where
  wf := WF_empty
  len := rfl
  bound := by intro i o h; simp at h
  empty := by intro o _ fld; cases fld <;> rfl
  coh := by intro i k sl o h; simp [HState.slice?] at h
  share := by intro i j ki kj si sj o h; simp [HState.slice?] at h

theorem CInv.fill {st : CState} (inv : CInv st) (i : Nat) (fld : CacheField) : CInv (st.fill i fld) := by
  unfold CState.fill
  split
  · rename_i k sl o hs ho
    split
    · exact inv
    · rename_i hnone
      refine ⟨inv.wf, inv.len, inv.bound, ?_, ?_, inv.share⟩
      · intro o' ho' fld'
        have ho'' : st.next ≤ o' := ho'
        have : o' ≠ o := by have := inv.bound i o ho; omega
        simp only [this, if_false]
        exact inv.empty o' ho'' fld'
      · intro j kj sj o' hsj hoj fld' snap hget
        simp only at hget
        by_cases hoo : o' = o
        · subst hoo
          simp only [if_true] at hget
          rw [Cache.get_set] at hget
          by_cases hf : fld' = fld
          · simp only [hf, if_true, Option.some.injEq] at hget
            rw [← hget]
            exact (inv.share i j k kj sl sj o' hs hsj ho hoj).1
          · simp only [hf, if_false] at hget
            exact inv.coh j kj sj o' hsj hoj fld' snap hget
        · simp only [hoo, if_false] at hget
          exact inv.coh j kj sj o' hsj hoj fld' snap hget
  · exact inv

theorem CInv.fills {st : CState} (inv : CInv st) (fs : List (Nat × CacheField)) : CInv (st.fills fs) :=
  foldl_inv (Inv := CInv) (fun _ p h => h.fill p.1 p.2) fs st inv

theorem CState.fill_hs (st : CState) (i : Nat) (fld : CacheField) : (st.fill i fld).hs = st.hs := by
  unfold CState.fill
  split
  · split <;> rfl
  · rfl

theorem CState.fills_hs (st : CState) (fs : List (Nat × CacheField)) : (st.fills fs).hs = st.hs :=
  foldl_inv (Inv := fun s' : CState => s'.hs = st.hs) (fun s p h => (s.fill_hs p.1 p.2).trans h) fs st rfl

/-- The invariant after a step, whichever object `o` the entry it creates belongs to, provided: `o` is in use afterwards;
    the caches afterwards hold nothing that the caches before did not (`hc`); the new entry, if it is live, is what the
    caches of `o` were computed from, holds what every older live entry of `o` holds, and neither is a mutable hash
    (`hnew`).  Older entries keep the invariant by sealing: their cells are not written. -/
theorem CInv.step_obj (P : Policy) (tbl : Table) (ht : IdiomsSafe tbl) {st : CState} (inv : CInv st) (op : Op)
    (o next' : Nat) (caches' : Nat → Cache) (hn : st.next ≤ next') (ho : o < next')
    (hc : ∀ o' fld snap, (caches' o').get fld = some snap → (st.caches o').get fld = some snap)
    (hnew : ∀ k sl, (stepHeap P tbl st.hs op).slice? st.hs.pool.length = some (k, sl) →
      (∀ fld snap, (caches' o).get fld = some snap → snap = (stepHeap P tbl st.hs op).heap.read sl) ∧
      ∀ j kj sj, st.hs.slice? j = some (kj, sj) → (stepHeap P tbl st.hs op).slice? j = some (kj, sj) →
        st.obj[j]? = some o → (stepHeap P tbl st.hs op).heap.read sl = st.hs.heap.read sj ∧ k ≠ .mut ∧ kj ≠ .mut) :
    CInv { hs := stepHeap P tbl st.hs op, obj := st.obj ++ [o], next := next', caches := caches' } := by
  obtain ⟨e, he⟩ := (stepHeap_grows P tbl st.hs op).1
  have old : ∀ i k sl oi, (stepHeap P tbl st.hs op).slice? i = some (k, sl) → (st.obj ++ [o])[i]? = some oi →
      (st.hs.slice? i = some (k, sl) ∧ st.obj[i]? = some oi) ∨ (i = st.hs.pool.length ∧ oi = o) := by
    intro i k sl oi hs hoi
    rcases slice?_after P tbl st.hs op i k sl hs with ⟨hi, hs1⟩ | ⟨hi, _⟩
    · rw [List.getElem?_append_left (by rw [inv.len]; exact hi)] at hoi
      exact .inl ⟨hs1, hoi⟩
    · subst hi
      rw [← inv.len, List.getElem?_concat_length] at hoi
      exact .inr ⟨rfl, (Option.some.inj hoi).symm⟩
  refine ⟨(step_refines P tbl ht st.hs inv.wf op).2.1, ?_, ?_, ?_, ?_, ?_⟩
  · simp only [List.length_append, List.length_cons, List.length_nil, he, inv.len]
  · intro i o' ho'
    have hmem := List.mem_of_getElem? ho'
    rw [List.mem_append, List.mem_singleton] at hmem
    rcases hmem with hmem | rfl
    · obtain ⟨j, hj⟩ := List.getElem?_of_mem hmem
      exact Nat.lt_of_lt_of_le (inv.bound j o' hj) hn
    · exact ho
  · intro o' ho' fld
    cases hg : (caches' o').get fld with
    | none => rfl
    | some snap =>
      have := hc o' fld snap hg
      rw [inv.empty o' (Nat.le_trans hn ho') fld] at this
      cases this
  · intro i k sl oi hs hoi fld snap hget
    rcases old i k sl oi hs hoi with ⟨hs1, ho1⟩ | ⟨rfl, rfl⟩
    · rw [read_after P tbl ht st.hs inv.wf op i k sl hs1]
      exact inv.coh i k sl oi hs1 ho1 fld snap (hc _ _ _ hget)
    · exact (hnew k sl hs).1 fld snap hget
  · intro i j ki kj si sj oi hsi hsj hoi hoj
    rcases old i ki si oi hsi hoi with ⟨hs1, ho1⟩ | ⟨rfl, rfl⟩ <;> rcases old j kj sj oi hsj hoj with ⟨hs2, ho2⟩ | ⟨rfl, h2⟩
    · rw [read_after P tbl ht st.hs inv.wf op i ki si hs1, read_after P tbl ht st.hs inv.wf op j kj sj hs2]
      exact inv.share i j ki kj si sj oi hs1 hs2 ho1 ho2
    · subst h2
      obtain ⟨hr, hk1, hk2⟩ := (hnew kj sj hsj).2 i ki si hs1 hsi ho1
      rw [read_after P tbl ht st.hs inv.wf op i ki si hs1]
      exact ⟨hr.symm, fun hm => (hm.elim hk2 hk1).elim⟩
    · obtain ⟨hr, hk1, hk2⟩ := (hnew ki si hsi).2 j kj sj hs2 hsj ho2
      rw [read_after P tbl ht st.hs inv.wf op j kj sj hs2]
      exact ⟨hr, fun hm => (hm.elim hk1 hk2).elim⟩
    · rw [hsi] at hsj
      cases hsj
      exact ⟨rfl, fun _ => rfl⟩

/-- a step with a NEW object for the entry it creates: its caches are empty and no older entry has it -/
theorem CInv.step_fresh (P : Policy) (tbl : Table) (ht : IdiomsSafe tbl) {st : CState} (inv : CInv st) (op : Op) :
    CInv { hs := stepHeap P tbl st.hs op, obj := st.obj ++ [st.next], next := st.next + 1, caches := st.caches } := by
  refine inv.step_obj P tbl ht op st.next (st.next + 1) st.caches (Nat.le_succ _) (Nat.lt_succ_self _)
    (fun _ _ _ h => h) fun k sl _ => ⟨?_, ?_⟩
  · intro fld snap hget
    rw [inv.empty st.next (Nat.le_refl _) fld] at hget
    cases hget
  · intro j kj sj _ _ hoj
    exact absurd (inv.bound j _ hoj) (Nat.lt_irrefl _)

theorem CInv.step_same (P : Policy) (tbl : Table) (ht : IdiomsSafe tbl) {st : CState} (inv : CInv st) (op : Op)
    (site : SameSite) (k k' : Kind) (r : Nat) (recv : Slice) (o : Nat)
    (hop : opSem st.hs.look op = .same site k r) (hs : st.hs.slice? r = some (k', recv)) (ho : st.obj[r]? = some o)
    (hc : (tbl.find site.key).cls = .recv) (hk : k ≠ .mut) (hk' : k' ≠ .mut) :
    CInv { hs := stepHeap P tbl st.hs op, obj := st.obj ++ [o], next := st.next, caches := st.caches } := by
  have hstep : stepHeap P tbl st.hs op = { st.hs with pool := st.hs.pool ++ [.val k recv] } := by
    rw [stepHeap_same P tbl hop, hs]
    simp only [produce, hc]
    rfl
  refine inv.step_obj P tbl ht op o st.next st.caches (Nat.le_refl _) (inv.bound r o ho) (fun _ _ _ h => h) ?_
  intro k1 sl hnew
  -- the new entry is the receiver's header over the heap as it was
  rcases slice?_after P tbl st.hs op _ k1 sl hnew with ⟨hlt, _⟩ | ⟨_, hp⟩
  · exact absurd hlt (Nat.lt_irrefl _)
  rw [hstep, List.getElem?_concat_length] at hp
  cases hp
  rw [hstep]
  refine ⟨inv.coh r k' recv o hs ho, ?_⟩
  intro j kj sj hs1 _ hoj
  obtain ⟨hr, hm⟩ := inv.share j r kj k' sj recv o hs1 hs hoj ho
  refine ⟨hr.symm, hk, ?_⟩
  intro hkj
  have := hm (.inl hkj)
  subst this
  rw [hs] at hs1
  cases hs1
  exact hk' hkj

/-- a step that changes a mutable hash: the new entry continues the receiver's object, whose caches the mutator
    has reset; the receiver's entry — the only live one of that object — is retired -/
theorem CInv.step_kill (P : Policy) (tbl : Table) (ht : IdiomsSafe tbl) (facts : CacheFacts) (hf : CachesSafe facts)
    {st : CState} (inv : CInv st) (op : Op) (k : Kind) (r : Nat) (res : List Val) (recv : Slice) (o : Nat)
    (hop : opSem st.hs.look op = .new .mutPutAll k r res true) (hs : st.hs.slice? r = some (.mut, recv))
    (ho : st.obj[r]? = some o) :
    CInv { hs := stepHeap P tbl st.hs op, obj := st.obj ++ [o], next := st.next,
           caches := fun o' => if o' = o then resetCache facts NewSite.mutPutAll.method (st.caches o) else st.caches o' } := by
  refine inv.step_obj P tbl ht op o st.next _ (Nat.le_refl _) (inv.bound r o ho) ?_ fun k1 sl _ => ⟨?_, ?_⟩
  · intro o' fld snap hget
    by_cases hoo : o' = o
    · simp only [hoo, if_true, resetCache_none hf] at hget
      cases hget
    · simp only [hoo, if_false] at hget
      exact hget
  · intro fld snap hget
    simp only [if_true, resetCache_none hf] at hget
    cases hget
  · intro j kj sj hs1 hl hoj
    have := (inv.share j r kj .mut sj recv o hs1 hs hoj ho).2 (.inr rfl)
    subst this
    -- the receiver is retired by this step, so it is not live afterwards
    have hd := (slice?_eq_some.mp hl).1
    rw [(stepHeap_grows P tbl st.hs op).2, hop, Out.kill?, List.contains_cons, BEq.rfl, Bool.true_or] at hd
    cases hd

theorem CInv.step (P : Policy) (tbl : Table) (ht : IdiomsSafe tbl) (facts : CacheFacts) (hf : CachesSafe facts)
    (sched : Nat → List (Nat × CacheField)) {st : CState} (inv : CInv st) (op : Op) :
    CInv (stepC P tbl facts sched st op) := by
  unfold stepC
  simp only
  have inv1 := inv.fills (sched st.hs.pool.length)
  generalize st.fills (sched st.hs.pool.length) = st1 at inv1 ⊢
  unfold objOf
  simp only
  -- the receiver's object in the two arms of `objOf` that say so, a new object everywhere else
  split
  · rename_i site k r hop
    split
    · rename_i k' recv o hs ho
      split
      · rename_i hcond
        simp only [Bool.and_eq_true, beq_iff_eq, bne_iff_ne, ne_eq] at hcond
        exact inv1.step_same P tbl ht op site k k' r recv o hop hs ho hcond.1.1 hcond.1.2 hcond.2
      · exact inv1.step_fresh P tbl ht op
    · exact inv1.step_fresh P tbl ht op
  · rename_i site k r res hop
    split
    · rename_i k' recv o hs ho
      split
      · rename_i hcond
        simp only [Bool.and_eq_true, beq_iff_eq] at hcond
        obtain ⟨⟨rfl, rfl⟩, rfl⟩ := hcond
        exact inv1.step_kill P tbl ht facts hf op _ r res recv o hop hs ho
      · exact inv1.step_fresh P tbl ht op
    · exact inv1.step_fresh P tbl ht op
  · exact inv1.step_fresh P tbl ht op

theorem CInv.run (P : Policy) (tbl : Table) (ht : IdiomsSafe tbl) (facts : CacheFacts) (hf : CachesSafe facts)
    (sched : Nat → List (Nat × CacheField)) (ops : List Op) : CInv (runC P tbl facts sched ops) :=
  foldl_inv (Inv := CInv) (step := stepC P tbl facts sched) (fun _ op h => h.step P tbl ht facts hf sched op) ops {}
    CInv.init

theorem runC_hs (P : Policy) (tbl : Table) (facts : CacheFacts) (sched : Nat → List (Nat × CacheField)) (ops : List Op) :
    (runC P tbl facts sched ops).hs = runHeap P tbl ops :=
  foldl_sim (f := CState.hs) (Inv := fun _ => True) (fun _ _ _ => trivial)
    (fun st op _ => by unfold stepC; simp only [CState.fills_hs]) ops {} trivial

/-- COHERENCE as an equation: whatever is asked for in between, an observation of any entry, through a cache or not, is
    computed from what the pure layer says the entry holds now (nothing for a marker or a retired builder) -/
theorem observed_eq_look (P : Policy) (tbl : Table) (ht : IdiomsSafe tbl) (facts : CacheFacts) (hf : CachesSafe facts)
    (sched : Nat → List (Nat × CacheField)) (ops : List Op) (i : Nat) (fld : CacheField) :
    observedContent (runC P tbl facts sched ops) i fld = ((runPure ops).look i).map (·.2) := by
  have inv := CInv.run P tbl ht facts hf sched ops
  rw [← run_refines P tbl ht ops, abs_look, ← runC_hs P tbl facts sched ops]
  generalize runC P tbl facts sched ops = st at inv ⊢
  unfold observedContent HState.look
  cases hs : st.hs.slice? i with
  | none => rfl
  | some p =>
    obtain ⟨k, sl⟩ := p
    have hi : i < st.obj.length := by
      rw [inv.len]
      exact (List.getElem?_eq_some_iff.mp (slice?_pool hs)).1
    rw [List.getElem?_eq_getElem hi]
    simp only [Option.map_some]
    split
    · rename_i snap hg
      rw [inv.coh i k sl _ hs (List.getElem?_eq_getElem hi) fld snap hg]
    · rfl

end Pcore.Heap

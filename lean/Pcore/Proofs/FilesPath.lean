import Pcore.Proofs.Files
/-!
C15, the name ↔ path round trip of `smartpath.go`: the file at the effective path of a name is indexed under exactly
that name's key (helper lemmas; the property theorem is `C15_path_name` in `Pcore/Props/C15.lean`).
-/
namespace Pcore.Files

theorem toLower_of_not (d : Char) (h : ¬(d.val ≥ 'A'.val ∧ d.val ≤ 'Z'.val)) : d.toLower = d := by
  unfold Char.toLower; rw [dif_neg h]

theorem toLower_idem (c : Char) : c.toLower.toLower = c.toLower := by
  by_cases h : c.val ≥ 'A'.val ∧ c.val ≤ 'Z'.val
  · have hv : c.toLower.val = c.val + ('a'.val - 'A'.val) := by
      unfold Char.toLower; rw [dif_pos h]
    apply toLower_of_not
    rw [hv]
    obtain ⟨h1, h3⟩ := h
    have h1' : 65 ≤ c.val.toNat := by simpa [UInt32.le_iff_toNat_le] using h1
    have h3' : c.val.toNat ≤ 90 := by simpa [UInt32.le_iff_toNat_le] using h3
    intro ⟨_, h5⟩
    have : (c.val + ('a'.val - 'A'.val)).toNat = c.val.toNat + 32 := by
      rw [UInt32.toNat_add]
      have : ('a'.val - 'A'.val).toNat = 32 := by decide
      rw [this]; omega
    have h5' : (c.val + ('a'.val - 'A'.val)).toNat ≤ 90 := by simpa [UInt32.le_iff_toNat_le] using h5
    omega
  · rw [toLower_of_not c h, toLower_of_not c h]

theorem keyOf_idem (n : Name) : keyOf (keyOf n) = keyOf n := by
  unfold keyOf
  rw [List.map_map]
  apply List.map_congr_left
  intro s _
  show lowerS (lowerS s) = lowerS s
  unfold lowerS
  rw [String.toList_ofList, List.map_map]
  congr 1
  exact List.map_congr_left (fun c _ => toLower_idem c)

theorem stripExt_append (ext s : String) : stripExt ext (s ++ ext) = s := by
  unfold stripExt
  rw [String.toList_append, String.length_append, Nat.add_sub_cancel, List.take_left' String.length_toList,
    String.ofList_toList]

theorem appendExt_ne_nil (ext : String) : ∀ ps : Path, ps ≠ [] → appendExt ext ps ≠ []
  | [], h => absurd rfl h
  | [s], _ => by simp [appendExt]
  | s :: t :: rest, _ => by simp [appendExt]

theorem stripLast_appendExt (ext : String) : ∀ ps : Path, stripLast ext (appendExt ext ps) = ps
  | [] => rfl
  | [s] => by simp [appendExt, stripLast, stripExt_append]
  | s :: t :: rest => by
    have ih := stripLast_appendExt ext (t :: rest)
    rw [appendExt]
    cases h : appendExt ext (t :: rest) with
    | nil => exact absurd h (appendExt_ne_nil ext _ (by simp))
    | cons a as =>
      rw [h] at ih
      cases as with
      | nil =>
        rw [stripLast, ih]
      | cons b bs => rw [stripLast, ih]

theorem relOf_append (g x : Path) (hx : x ≠ []) : relOf g (g ++ x) = some x := by
  unfold relOf
  have h1 : g.isPrefixOf (g ++ x) = true := List.isPrefixOf_iff_prefix.mpr (List.prefix_append g x)
  have h2 : (g ++ x).length > g.length := by
    rw [List.length_append]
    have : x.length > 0 := List.length_pos_iff.mpr hx
    omega
  simp only [h1, h2, decide_true, Bool.and_self, if_true]
  rw [List.drop_left' rfl]

theorem getLast_appendExt (ext : String) : ∀ ps : Path, ps ≠ [] → ∃ s, (appendExt ext ps).getLast? = some (s ++ ext)
  | [], h => absurd rfl h
  | [s], _ => ⟨s, by simp [appendExt]⟩
  | s :: t :: rest, _ => by
    obtain ⟨x, hx⟩ := getLast_appendExt ext (t :: rest) (by simp)
    refine ⟨x, ?_⟩
    rw [appendExt]
    cases h : appendExt ext (t :: rest) with
    | nil => exact absurd h (appendExt_ne_nil ext _ (by simp))
    | cons a as =>
      rw [h] at hx
      rw [List.getLast?_cons_cons]
      exact hx

theorem hasSuffix_append (s ext : String) : hasSuffix (s ++ ext) ext = true := by
  unfold hasSuffix
  rw [String.toList_append]
  exact List.isSuffixOf_iff_suffix.mpr (List.suffix_append _ _)

/-- the reserved names of a module: `<mod>::init` and `<mod>::init_typeset` address the top-level files that are indexed
    without the module prefix -/
def Reserved (sp : SmartPath) (n : Name) : Prop :=
  sp.moduleNameRelative = true ∧ ∃ m s, keyOf n = [m, s] ∧ (s = "init" ∨ s = "init_typeset")

theorem fileKeys_of_rel (sp : SmartPath) (rel : Path) (hrel : rel ≠ []) :
    fileKeys sp (sp.generic ++ appendExt sp.extension rel) =
      [keyOf (if sp.moduleNameRelative && !isSpecial rel then sp.moduleName :: rel else rel)] := by
  unfold fileKeys
  rw [relOf_append _ _ (appendExt_ne_nil _ _ hrel)]
  obtain ⟨x, hx⟩ := getLast_appendExt sp.extension rel hrel
  simp only [hx, hasSuffix_append, if_true]
  unfold typedNames
  simp only [stripLast_appendExt]
  by_cases hc : (sp.moduleNameRelative && !isSpecial rel) = true
  · simp [hc]
  · simp [hc]

theorem effectivePath_eq_path {sp : SmartPath} {n : Name} {p : Path} (hn : n ≠ []) (h : effectivePath sp n = .path p) :
    ∃ rel, rel ≠ [] ∧ p = sp.generic ++ appendExt sp.extension rel ∧
      keyOf n = if sp.moduleNameRelative then sp.moduleName :: rel else rel := by
  unfold effectivePath at h
  cases hp : partsOf n with
  | none => rw [hp] at h; cases h
  | some ps =>
    rw [hp] at h
    have hps := partsOf_eq hp
    subst hps
    dsimp only at h
    by_cases hm : sp.moduleNameRelative = true
    · rw [if_pos hm] at h
      match hk : keyOf n, h with
      | [], h => cases h
      | [_], h => cases h
      | m :: a :: rest, h =>
        dsimp only at h
        split at h
        · cases h
        · next hmm => exact ⟨a :: rest, by simp, (EP.path.inj h).symm, by rw [if_pos hm, Decidable.of_not_not hmm]⟩
    · rw [if_neg hm] at h
      exact ⟨keyOf n, fun h' => hn (List.map_eq_nil_iff.mp h'), (EP.path.inj h).symm, by rw [if_neg hm]⟩

theorem fileKeys_effectivePath (sp : SmartPath) (n : Name) (p : Path) (hn : n ≠ [])
    (h : effectivePath sp n = .path p) (hr : ¬ Reserved sp n) : fileKeys sp p = [keyOf n] := by
  obtain ⟨rel, hrel, rfl, hk⟩ := effectivePath_eq_path hn h
  rw [fileKeys_of_rel sp rel hrel]
  cases hm : sp.moduleNameRelative with
  | false =>
    rw [hm, if_neg (by decide)] at hk
    rw [Bool.false_and, if_neg (by decide), ← hk, keyOf_idem]
  | true =>
    rw [hm, if_pos rfl] at hk
    have hspecial : isSpecial rel = false := by
      cases hs : isSpecial rel with
      | false => rfl
      | true =>
        match rel, hs with
        | [a], hs => exact absurd ⟨hm, sp.moduleName, a, hk, by simpa [isSpecial] using hs⟩ hr
    rw [hspecial, Bool.true_and, Bool.not_false, if_pos rfl, ← hk, keyOf_idem]

end Pcore.Files

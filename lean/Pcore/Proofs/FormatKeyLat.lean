import Pcore.Model.FormatLat
import Pcore.Proofs.LatAsgEq
/-!
# The key types of format maps inside the lattice model

`mergeFormats` orders and rejects entries by `px.IsAssignable` on their key types.  The Format model carries that
relation as the 16 × 16 table `Key.sub`; here it is shown to BE the assignability of the lattice model (`Lat.asg`, the mirror
of the `IsAssignable` methods that C01–C04 are about) on the corresponding default types.
-/
namespace Pcore.Format
open Pcore.Lat

/-- the default type a key stands for, as a term of the lattice model -/
def Key.toTy : Key → Ty
  | .any => .any | .scalar => .scalar | .numeric => .numeric | .int => .int Rng.all | .float => floatAll | .str => .str
  | .bool => .bool none | .bin => .bin | .arr => .array .any Rng.pos | .hash => .hash .any .any Rng.pos | .coll => .coll Rng.pos
  | .undef => .undef | .dflt => .dflt | .regexp => .regexp "" | .obj => .object none | .typ => .typ .any

theorem Key.latTy_eq_toTy (k : Key) : k.latTy = k.toTy := by cases k <;> rfl

variable (cfg : Cfg) (sfh : Bool)

theorem Key.toTy_plainR (b : Key) : b.toTy.plainR = true := by cases b <;> rfl

/-- One row of the table at a time: the receiver's `IsAssignable` is unfolded once for the row, then the sixteen other types are
    put in.  Every receiver but `Scalar` decides by looking at the other type itself. -/
theorem Key.asg_toTy_row (a b : Key) (ha : a ≠ .scalar) : asg cfg sfh a.toTy b.toTy = Key.sub a b := by
  rw [asg_plain_r _ _ _ _ (Key.toTy_plainR b), asgRecv.eq_def]
  cases a <;> simp only [Key.toTy, floatAll, asg_any_l, ne_eq, not_true_eq_false] at ha ⊢ <;> cases b
  -- Float against Float compares the bounds with themselves
  case float.float => simp [Key.sub]
  all_goals rfl

/-- Timespan and Timestamp, which `Scalar` also asks, accept none of the sixteen -/
theorem Key.asg_tspan_toTy (b : Key) : asg cfg sfh (.tspan Rng.all) b.toTy = false ∧ asg cfg sfh (.tstamp tstampAll) b.toTy = false := by
  rw [asg_plain_r _ _ _ _ (Key.toTy_plainR b), asg_plain_r _ _ _ _ (Key.toTy_plainR b), asgRecv.eq_def, asgRecv.eq_def]
  cases b <;> exact ⟨rfl, rfl⟩

/-- `Scalar` is String, Numeric, Boolean, Regexp, Timespan or Timestamp: its row is the union of theirs -/
theorem Key.asg_toTy_scalar (b : Key) : asg cfg sfh .scalar b.toTy = Key.sub .scalar b := by
  have h : asg cfg sfh .scalar b.toTy =
      (decide (b = .scalar) || asg cfg sfh .str b.toTy || asg cfg sfh .numeric b.toTy || asg cfg sfh (.bool none) b.toTy ||
        asg cfg sfh (.regexp "") b.toTy || asg cfg sfh (.tspan Rng.all) b.toTy || asg cfg sfh (.tstamp tstampAll) b.toTy) := by
    rw [asg_plain_r _ _ _ _ (Key.toTy_plainR b), asgRecv.eq_def]
    cases b <;> rfl
  have hstr : asg cfg sfh .str b.toTy = Key.sub .str b := Key.asg_toTy_row cfg sfh .str b (by decide)
  have hnum : asg cfg sfh .numeric b.toTy = Key.sub .numeric b := Key.asg_toTy_row cfg sfh .numeric b (by decide)
  have hbool : asg cfg sfh (.bool none) b.toTy = Key.sub .bool b := Key.asg_toTy_row cfg sfh .bool b (by decide)
  have hrx : asg cfg sfh (.regexp "") b.toTy = Key.sub .regexp b := Key.asg_toTy_row cfg sfh .regexp b (by decide)
  rw [h, (Key.asg_tspan_toTy cfg sfh b).1, (Key.asg_tspan_toTy cfg sfh b).2, hstr, hnum, hbool, hrx]
  cases b <;> rfl

theorem Key.sub_eq_asg (a b : Key) : Key.sub a b = asg cfg sfh a.toTy b.toTy := by
  by_cases ha : a = .scalar
  · rw [ha]; exact (Key.asg_toTy_scalar cfg sfh b).symm
  · exact (Key.asg_toTy_row cfg sfh a b ha).symm

/-! ### Integer ranges as keys: what a witness map keyed by `Scalar`, `Integer`, `Integer[a, b]` needs -/

theorem asg_int_int (r r' : Rng) : asg cfg sfh (.int r) (.int r') = r.sub r' := by
  rw [asg_plain_r _ _ _ _ rfl, asgRecv.eq_def]; rfl

theorem asg_int_scalar (r : Rng) : asg cfg sfh (.int r) .scalar = false := by
  rw [asg_plain_r _ _ _ _ rfl, asgRecv.eq_def]; rfl

theorem asg_scalar_int (r : Rng) : asg cfg sfh .scalar (.int r) = true := by
  have h : asg cfg sfh .numeric (.int r) = true := by rw [asg_plain_r _ _ _ _ rfl, asgRecv.eq_def]; rfl
  rw [asg_plain_r _ _ _ _ rfl, asgRecv.eq_def]
  simp only [h, Bool.or_true, Bool.true_or]

theorem asg_scalar_scalar : asg cfg sfh .scalar .scalar = true := by
  rw [asg_plain_r _ _ _ _ rfl]; rfl

end Pcore.Format

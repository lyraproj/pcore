/-! Positional digits, most significant first.  The model prints numbers in several places (`Format.toDigits`, `Gid.digits`,
    `Ser.natDigits`, `Syntax.natDigits`, `Syntax.hexUpper`, `ValueEq.natStr`), each with its own fuel convention and digit type; every printer is
    `(digits b n).map d` (`map_digits_of_fuel`, `map_digits_of_rec`), and what is proved about a printer is a fact about `digits`;
    a reader that consumes a digit `d k` as `acc * b + k` reads the printed digits of `n` back as `n` (`foldl_map_digits`, `read_map_digits`). -/
namespace Pcore.Digits

def digits (b n : Nat) : List Nat :=
  if _h : n < b ∨ b < 2 then [n] else digits b (n / b) ++ [n % b]
termination_by n
decreasing_by
  have : n / b < n := Nat.div_lt_self (by omega) (by omega)
  omega

variable {b : Nat}

theorem digits_eq (hb : 2 ≤ b) (n : Nat) : digits b n = if n < b then [n] else digits b (n / b) ++ [n % b] := by
  rw [digits]
  by_cases h : n < b
  · rw [dif_pos (Or.inl h), if_pos h]
  · rw [dif_neg (by omega), if_neg h]

/-- a printer that recurses on a fuel prints `digits` as soon as the fuel is at least the number -/
theorem map_digits_of_fuel {δ : Type} (hb : 2 ≤ b) (d : Nat → δ) (F : Nat → Nat → List δ) (h0 : F 0 0 = [d 0])
    (hF : ∀ f n, F (f + 1) n = if n < b then [d n] else F f (n / b) ++ [d (n % b)]) :
    ∀ f n, n ≤ f → F f n = (digits b n).map d := by
  intro f
  induction f with
  | zero =>
    intro n h
    obtain rfl : n = 0 := by omega
    rw [h0, digits_eq hb, if_pos (by omega)]; rfl
  | succ f ih =>
    intro n h
    rw [hF, digits_eq hb]
    split
    · rfl
    · have : n / b < n := Nat.div_lt_self (by omega) (by omega)
      rw [ih (n / b) (by omega), List.map_append]; rfl

theorem digits_rec (hb : 2 ≤ b) {P : Nat → List Nat → Prop} (base : ∀ n, n < b → P n [n])
    (step : ∀ n, b ≤ n → P (n / b) (digits b (n / b)) → P n (digits b (n / b) ++ [n % b])) : ∀ n, P n (digits b n) := by
  intro n
  induction n using Nat.strongRecOn with
  | _ n ih =>
    rw [digits_eq hb]
    split
    · exact base n ‹_›
    · exact step n (by omega) (ih _ (Nat.div_lt_self (by omega) (by omega)))

theorem map_digits_of_rec {δ : Type} (hb : 2 ≤ b) (d : Nat → δ) (r : Nat → List δ)
    (hr : ∀ n, r n = if n < b then [d n] else r (n / b) ++ [d (n % b)]) (n : Nat) : r n = (digits b n).map d :=
  digits_rec hb (P := fun n l => r n = l.map d) (fun n h => by rw [hr, if_pos h]; rfl)
    (fun n h ih => by rw [hr, if_neg (by omega), ih, List.map_append]; rfl) n

theorem digits_ne_nil (hb : 2 ≤ b) (n : Nat) : digits b n ≠ [] :=
  digits_rec hb (P := fun _ l => l ≠ []) (fun _ _ => by simp) (fun _ _ _ => by simp) n

theorem digits_lt (hb : 2 ≤ b) (n : Nat) : ∀ d ∈ digits b n, d < b :=
  digits_rec hb (P := fun _ l => ∀ d ∈ l, d < b) (fun n h d hd => by simp at hd; omega)
    (fun n _ ih d hd => by
      rcases List.mem_append.1 hd with h | h
      · exact ih d h
      · simp at h; subst h; exact Nat.mod_lt _ (by omega)) n

theorem foldl_digits (hb : 2 ≤ b) (n : Nat) : (digits b n).foldl (fun a d => a * b + d) 0 = n :=
  digits_rec hb (P := fun n l => l.foldl (fun a d => a * b + d) 0 = n) (fun n _ => by simp)
    (fun n _ ih => by rw [List.foldl_append, ih]; simpa using Nat.div_add_mod' n b) n

theorem forall_map_digits {δ : Type} (hb : 2 ≤ b) (d : Nat → δ) {Q : δ → Prop} (hQ : ∀ k, k < b → Q (d k)) (n : Nat) :
    ∀ c ∈ (digits b n).map d, Q c := by
  intro c hc
  obtain ⟨k, hk, rfl⟩ := List.mem_map.1 hc
  exact hQ k (digits_lt hb n k hk)

theorem head_digits (hb : 2 ≤ b) {n : Nat} (hn : 0 < n) : ∃ d ds, digits b n = d :: ds ∧ 0 < d ∧ d < b := by
  revert hn
  refine digits_rec hb (P := fun n l => 0 < n → ∃ d ds, l = d :: ds ∧ 0 < d ∧ d < b) (fun n hnb h => ⟨n, [], rfl, h, hnb⟩)
    (fun n hbn ih _ => ?_) n
  obtain ⟨d, ds, e, hd⟩ := ih (Nat.div_pos hbn (by omega))
  exact ⟨d, ds ++ [n % b], by rw [e]; rfl, hd⟩

theorem length_digits_le (hb : 2 ≤ b) : ∀ (k n : Nat), n < b ^ (k + 1) → (digits b n).length ≤ k + 1 := by
  intro k
  induction k with
  | zero => intro n h; rw [digits_eq hb, if_pos (by simpa using h)]; simp
  | succ k ih =>
    intro n h
    rw [digits_eq hb]
    split
    · simp
    · have : n / b < b ^ (k + 1) := Nat.div_lt_of_lt_mul (by rw [Nat.pow_succ, Nat.mul_comm] at h; exact h)
      have := ih (n / b) this
      simp; omega

/-- reading back what a printer wrote, for a reader that folds: on `ds.map d` it is the Horner fold of `ds` -/
theorem foldl_map {δ : Type} (d : Nat → δ) (val : δ → Nat) (hv : ∀ x, x < b → val (d x) = x) :
    ∀ (ds : List Nat), (∀ x ∈ ds, x < b) → ∀ acc,
      (ds.map d).foldl (fun a c => a * b + val c) acc = ds.foldl (fun a x => a * b + x) acc
  | [], _, _ => rfl
  | x :: ds, h, acc => by
    rw [List.map_cons, List.foldl_cons, List.foldl_cons, hv x (h x List.mem_cons_self)]
    exact foldl_map d val hv ds (fun y hy => h y (List.mem_cons_of_mem _ hy)) _

/-- … and for a reader that checks every character, given by what it does on `[]` and on a digit below the base -/
theorem read_map {δ : Type} (d : Nat → δ) (R : List δ → Nat → Option Nat) (h0 : ∀ acc, R [] acc = some acc)
    (hc : ∀ x, x < b → ∀ cs acc, R (d x :: cs) acc = R cs (acc * b + x)) :
    ∀ (ds : List Nat), (∀ x ∈ ds, x < b) → ∀ acc, R (ds.map d) acc = some (ds.foldl (fun a x => a * b + x) acc)
  | [], _, acc => h0 acc
  | x :: ds, h, acc => by
    rw [List.map_cons, hc x (h x List.mem_cons_self), List.foldl_cons]
    exact read_map d R h0 hc ds (fun y hy => h y (List.mem_cons_of_mem _ hy)) _

theorem foldl_map_digits {δ : Type} (hb : 2 ≤ b) (d : Nat → δ) (val : δ → Nat) (hv : ∀ x, x < b → val (d x) = x) (n : Nat) :
    ((digits b n).map d).foldl (fun a c => a * b + val c) 0 = n := by
  rw [foldl_map d val hv _ (digits_lt hb n), foldl_digits hb]

theorem read_map_digits {δ : Type} (hb : 2 ≤ b) (d : Nat → δ) (R : List δ → Nat → Option Nat) (h0 : ∀ acc, R [] acc = some acc)
    (hc : ∀ x, x < b → ∀ cs acc, R (d x :: cs) acc = R cs (acc * b + x)) (n : Nat) : R ((digits b n).map d) 0 = some n := by
  rw [read_map d R h0 hc _ (digits_lt hb n), foldl_digits hb]

end Pcore.Digits

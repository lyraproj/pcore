import Pcore.Proofs.Json
import Pcore.Model.SerSpec
/-! C11 ← C10: the serializer's event tree read as the JSON transport's (`ofSer`), and the serializer's stream law for a consumer
    without binary and complex keys (`Ev.wf true true`) is the well-formedness `WF` the JSON theorems ask for. -/
namespace Pcore.Json

/-- a scalar of the serializer's stream as the JSON transport's scalar (Binary never reaches a consumer without binary
    support — hypothesis `nb` below; it is mapped to `null` only to keep the function total) -/
def ofSerSc : Pcore.Ser.Sc → Sc
  | .undef => .null | .bool b => .bool b | .int i => .int i | .flt f => .flt f | .str s => .str s | .bin _ => .null

mutual
def ofSer : Pcore.Ser.Ev → Ev
  | .add d => .sc (ofSerSc d)
  | .ref n => .ref n
  | .arr es => .arr (ofSers es)
  | .hsh es => .hsh (ofSers es)
def ofSers : List Pcore.Ser.Ev → List Ev
  | [] => []
  | e :: es => ofSer e :: ofSers es
end

theorem isStrKey_ofSer (k : Pcore.Ser.Ev) (h : k.isStr = true) : isStrKey (ofSer k) = true := by
  cases k with
  | add d => cases d <;> simp_all [Pcore.Ser.Ev.isStr, ofSer, ofSerSc, isStrKey]
  | _ => simp [Pcore.Ser.Ev.isStr] at h

mutual
theorem wf_ofSer : ∀ e : Pcore.Ser.Ev, e.wf true true = true → WF (ofSer e) = true
  | .add _, _ => by simp [ofSer, WF]
  | .ref _, _ => by simp [ofSer, WF]
  | .arr es, h => by
      simp only [Pcore.Ser.Ev.wf] at h
      simpa [ofSer, WF] using wfs_ofSers es h
  | .hsh es, h => by
      simp only [Pcore.Ser.Ev.wf, Bool.and_eq_true] at h
      simpa [ofSer, WF] using wfkv_ofSers es h.1 h.2
theorem wfs_ofSers : ∀ es : List Pcore.Ser.Ev, Pcore.Ser.wfList true true es = true → WFs (ofSers es) = true
  | [], _ => by simp [ofSers, WFs]
  | e :: es, h => by
      simp only [Pcore.Ser.wfList, Bool.and_eq_true] at h
      simp [ofSers, WFs, wf_ofSer e h.1, wfs_ofSers es h.2]
theorem wfkv_ofSers : ∀ es : List Pcore.Ser.Ev, Pcore.Ser.hkeys true es = true → Pcore.Ser.wfList true true es = true →
    WFkv (ofSers es) = true
  | [], _, _ => by simp [ofSers, WFkv]
  | [_], h, _ => by simp [Pcore.Ser.hkeys] at h
  | k :: v :: es, h, hw => by
      simp only [Pcore.Ser.hkeys, Bool.and_eq_true, Bool.not_true, Bool.false_or] at h
      simp only [Pcore.Ser.wfList, Bool.and_eq_true] at hw
      simp [ofSers, WFkv, isStrKey_ofSer k h.1, wf_ofSer v hw.2.1, wfkv_ofSers es h.2 hw.2.2]
end

end Pcore.Json

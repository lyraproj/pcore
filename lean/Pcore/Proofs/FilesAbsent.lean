import Pcore.Proofs.Files
/-!
C15, "a name without a file stays absent without side effects", for every context loader: when no loader has an origin
for the name or for any of its prefixes (and the module named by its first segment has no `init_typeset`), a lookup never
answers `found`, reads nothing, and changes the caches by nil placeholders only.  One induction on the fuel over the nine
functions that can be reached (`AllAbsent`; the instantiating ones cannot): the routing, caching and looping steps
(`loadEntry`, `fbLoadEntry`, `parentSearch`, the dependency loader) are `keeps_*` of `Proofs/Files` at `absent_stores`; here
`find` and `findTail` (`astep_*`).  Last: the route as a list (`routeOf`), to check the hypotheses on a concrete tree.
-/
namespace Pcore.Files

section
variable (cfg : Cfg) (name0 : Name) (s0 : St)

/-- the names on the search route of `name0`: its non-empty prefixes -/
def OnRoute (nm : Name) : Prop := nm ≠ [] ∧ nm <+: name0

/-- nothing to load anywhere on the route -/
structure AbsentRoute : Prop where
  noOrigin : ∀ l nm, OnRoute name0 nm → idx cfg l (keyOf nm) = []
  noInit : ∀ mod, (keyOf name0).head? = some mod → idx cfg (.m mod) ["init_typeset"] = []
  noStatic : ∀ nm, OnRoute name0 nm → sysLoad nm = none

/-- no cache holds a definition for a name on the route -/
def NoDef (s : St) : Prop := ∀ l nm d, OnRoute name0 nm → s.get l (keyOf nm) ≠ some (some d)

/-- `s` differs from `s0` by nil placeholders only -/
def Frame (s : St) : Prop := ∀ l k, s.get l k = s0.get l k ∨ (s0.get l k = none ∧ s.get l k = some none)

def InvA (s : St) : Prop := s.reads = s0.reads ∧ Frame s0 s

abbrev SpecA (x : M (Option Entry)) : Prop :=
  ∀ s, InvA s0 s → wp x (fun r s' => InvA s0 s' ∧ ∀ d, r ≠ some (some d)) (InvA s0) s

structure AllAbsent (n : Nat) : Prop where
  loadEntry : ∀ l nm, OnRoute name0 nm → SpecA s0 (loadEntry n cfg l nm)
  fbLoadEntry : ∀ l nm, OnRoute name0 nm → SpecA s0 (fbLoadEntry n cfg l nm)
  find : ∀ l nm, OnRoute name0 nm → SpecA s0 (find n cfg l nm)
  findTail : ∀ l nm, OnRoute name0 nm → SpecA s0 (findTail n cfg l nm)
  parentSearch : ∀ l nm ts, OnRoute name0 nm → (ts = [] ∨ OnRoute name0 ts) → SpecA s0 (parentSearch n cfg l nm ts)
  dLoadEntry : ∀ nm, OnRoute name0 nm → SpecA s0 (dLoadEntry n cfg nm)
  dFind : ∀ nm, OnRoute name0 nm → SpecA s0 (dFind n cfg nm)
  dMembers : ∀ nm, OnRoute name0 nm → SpecA s0 (dMembers n cfg nm)
  dLoop : ∀ mods nm, OnRoute name0 nm → SpecA s0 (dLoop n cfg mods nm)

variable {cfg name0 s0}

theorem onRoute_dropLast {nm : Name} (hr : OnRoute name0 nm) : nm.dropLast = [] ∨ OnRoute name0 nm.dropLast := by
  by_cases h : nm.dropLast = []
  · exact Or.inl h
  · exact Or.inr ⟨h, List.IsPrefix.trans (List.dropLast_prefix nm) hr.2⟩

theorem noDef_of_frame (h0 : NoDef name0 s0) {s : St} (hf : Frame s0 s) : NoDef name0 s := by
  intro l nm d hr hget
  cases hf l (keyOf nm) with
  | inl h => exact h0 l nm d hr (by rw [← h]; exact hget)
  | inr h => rw [h.2] at hget; cases hget

theorem frame_put_placeholder (h0 : NoDef name0 s0) {s : St} (hs : InvA s0 s) (l : Lid) (nm : Name)
    (hr : OnRoute name0 nm) : InvA s0 (s.put l (keyOf nm) none) := by
  refine ⟨hs.1, fun l' k' => get_put_cases (fun r => r = s0.get l' k' ∨ (s0.get l' k' = none ∧ r = some none)) ?_
    (fun _ => hs.2 l' k')⟩
  · rintro rfl rfl
    cases hs.2 l' (keyOf nm) with
    | inl h =>
      cases hg : s0.get l' (keyOf nm) with
      | none => exact Or.inr ⟨rfl, rfl⟩
      | some e =>
        cases e with
        | none => exact Or.inl rfl
        | some d => exact absurd hg (h0 l' nm d hr)
    | inr h => exact Or.inr ⟨h.1, rfl⟩

theorem absent_stores (h0 : NoDef name0 s0) {nm : Name} (hr : OnRoute name0 nm) : Stores (InvA s0) (fun _ => False) nm :=
  ⟨fun l _ d hs h => noDef_of_frame h0 hs.2 l nm d hr h, fun l e _ he hs => by
    cases e with
    | some d => exact (he d rfl).elim
    | none =>
      exact wp_setEntry (fun _ => ⟨frame_put_placeholder h0 hs l nm hr, nofun⟩)
        (fun old hg => absurd hg (noDef_of_frame h0 hs.2 l nm old hr))⟩

variable (ha : AbsentRoute cfg name0) (h0 : NoDef name0 s0)
include ha h0

omit h0 in
theorem astep_find {n : Nat} (ih : AllAbsent cfg name0 s0 n) (l : Lid) (nm : Name) (hr : OnRoute name0 nm) :
    SpecA s0 (find (n+1) cfg l nm) := by
  -- the module is the one named by the first segment of `name0`: it has no `init_typeset`
  have hno : ∀ o os, isGlobalMod l.moduleName = false → partsOf nm = some [l.moduleName] →
      idx cfg l ["init_typeset"] ≠ o :: os := by
    intro o os hg hp hi
    have hk := (partsOf_eq hp).symm
    have hhead : (keyOf name0).head? = some l.moduleName := by
      obtain ⟨_, t, rfl⟩ := hr
      rw [keyOf_append, hk]
      rfl
    rw [lid_of_moduleName hg, ha.noInit _ hhead] at hi
    cases hi
  exact find_cases (SpecA s0) (fun _ _ hs => ⟨hs, nofun⟩) (fun _ _ _ _ hs => hs) (fun _ => ih.findTail l nm hr)
    (fun o os _ _ hg hp hi => absurd hi (hno o os hg hp)) (fun o os _ _ hg hp hi => absurd hi (hno o os hg hp))

omit h0 in
theorem astep_findTail {n : Nat} (ih : AllAbsent cfg name0 s0 n) (l : Lid) (nm : Name) (hr : OnRoute name0 nm) :
    SpecA s0 (findTail (n+1) cfg l nm) :=
  findTail_cases (SpecA s0) (fun o os hi => by rw [ha.noOrigin l nm hr] at hi; cases hi)
    (fun _ _ => ih.parentSearch l nm _ hr (onRoute_dropLast hr)) (fun _ _ hs => ⟨hs, nofun⟩)

theorem astep_dLoadEntry {n : Nat} (ih : AllAbsent cfg name0 s0 n) (nm : Name) (hr : OnRoute name0 nm) :
    SpecA s0 (dLoadEntry (n+1) cfg nm) :=
  keeps_dLoadEntry (absent_stores h0 hr) (ih.dFind nm hr)

theorem allAbsent : ∀ n, AllAbsent cfg name0 s0 n
  | 0 => by
    constructor <;> intros <;> intro s hs <;> exact hs
  | n+1 =>
    have ih := allAbsent n
    { loadEntry := fun l nm hr => keeps_loadEntry (ih.dLoadEntry nm hr) (fun _ => ih.fbLoadEntry l nm hr)
      fbLoadEntry := fun l nm hr =>
        keeps_fbLoadEntry (absent_stores h0 hr) (fun d h => by rw [ha.noStatic nm hr] at h; cases h) (ih.fbLoadEntry .g nm hr)
          (ih.find l nm hr)
      find := astep_find ha ih
      findTail := astep_findTail ha ih
      parentSearch := fun l nm ts hr hts =>
        keeps_parentSearch (G' := fun _ _ => False) (absent_stores h0 hr) (fun hne => ih.find l ts (hts.resolve_left hne))
          (fun hne => ih.parentSearch l nm _ hr (onRoute_dropLast (hts.resolve_left hne)))
      dLoadEntry := astep_dLoadEntry ha h0 ih
      dFind := fun nm hr => keeps_dFind (fun h _ => ih.fbLoadEntry (.m h) nm hr) (ih.dMembers nm hr)
      dMembers := fun nm hr => keeps_dMembers (ih.fbLoadEntry .g nm hr) (ih.dLoop cfg.mods nm hr)
      dLoop := fun mods nm hr =>
        keeps_dLoop (absent_stores h0 hr) (fun m => ih.fbLoadEntry (.m m) nm hr) (fun ms => ih.dLoop ms nm hr) }

theorem absent_loadS (hne : name0 ≠ []) (fuel : Nat) :
    (∀ d, (loadS fuel cfg s0 name0).1 ≠ .found d) ∧ (loadS fuel cfg s0 name0).2.reads = s0.reads ∧
      Frame s0 (loadS fuel cfg s0 name0).2 := by
  have hr : OnRoute name0 name0 := ⟨hne, List.prefix_refl _⟩
  have h := keeps_loadS (absent_stores h0 hr) ((allAbsent ha h0 fuel).loadEntry cfg.via name0 hr)
    (s := s0) ⟨rfl, fun _ _ => Or.inl rfl⟩
  exact ⟨h.2, h.1.1, h.1.2⟩

end

/-- the route as a list (the non-empty prefixes of `name0`, shortest first): to check `AbsentRoute` on a concrete tree by
    enumeration -/
def routeOf (name0 : Name) : List Name := (List.range name0.length).map fun i => name0.take (i + 1)

theorem mem_routeOf {name0 nm : Name} (hr : OnRoute name0 nm) : nm ∈ routeOf name0 := by
  obtain ⟨hne, t, rfl⟩ := hr
  have hpos : nm.length > 0 := List.length_pos_iff.mpr hne
  refine List.mem_map.mpr ⟨nm.length - 1, List.mem_range.mpr (by rw [List.length_append]; omega), ?_⟩
  rw [Nat.sub_add_cancel hpos, List.take_left' rfl]

end Pcore.Files

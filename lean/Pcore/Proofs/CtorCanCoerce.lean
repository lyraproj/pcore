import Pcore.Proofs.CtorCoerce
import Pcore.Proofs.DispatchCtors
import Pcore.Model.CtorCanCoerce
/-!
What a successful `CoerceTo(T, v)` guarantees: the result is an instance of `T`, and `CanCoerce(T, v)` answered `true` (`CanCoerce` is
complete for `CoerceTo`) — the latter for types whose Struct types have distinct member names.  Core Lean only.
-/
namespace Pcore.Dispatch.Alpha

/-- nesting depth through Array, Hash and Optional only — Struct members are not counted (`Ty.sz2` below counts them and is what the
    induction runs over); the statement of `coerce_sound_aux` bounds it -/
def Ty.sz : Ty → Nat
  | .arr e _ _ => e.sz + 1
  | .hash k v _ _ => k.sz + v.sz + 1
  | .opt t => t.sz + 1
  | _ => 0

mutual
/-- nesting measure through every constructor `coerceTo` / `canCoerce` recurse into (Struct members included) -/
def Ty.sz2 : Ty → Nat
  | .arr e _ _ => e.sz2 + 1
  | .hash k v _ _ => k.sz2 + v.sz2 + 1
  | .opt t => t.sz2 + 1
  | .struct ms => szMs ms + 1
  | _ => 0
def szMs : List (String × Bool × Ty) → Nat
  | [] => 0
  | (_, _, t) :: ms => t.sz2 + szMs ms + 1
end

mutual
/-- every Struct type inside has distinct member names -/
def Ty.NodupNames : Ty → Prop
  | .arr e _ _ => e.NodupNames
  | .hash k v _ _ => k.NodupNames ∧ v.NodupNames
  | .opt t => t.NodupNames
  | .struct ms => (ms.map (·.1)).Nodup ∧ nodupMs ms
  | _ => True
def nodupMs : List (String × Bool × Ty) → Prop
  | [] => True
  | (_, _, t) :: ms => t.NodupNames ∧ nodupMs ms
end

theorem allOk_true (rs : List (Except String Bool)) (h : ∀ r ∈ rs, r = .ok true) : allOk rs = .ok true := by
  induction rs with
  | nil => rfl
  | cons r rs ih =>
    have hr := h r (by simp)
    subst hr
    simp only [allOk]
    exact ih (fun r' hr' => h r' (by simp [hr']))

section
variable (pf : List Char → Option Nat)

theorem newOne_canInit (t : Ty) (v r : Val) (h : newOne pf t v = .value r) : canInit pf t v = .ok true := by
  have hn := newOne_eq_value pf h
  cases hc : ctorOf pf t with
  | none => rw [(newModel_noCtor pf hc [] [v]).1] at hn; cases hn
  | some c =>
    rw [newModel_plain pf hc] at hn
    cases hcall : ctorCall c [v] with
    | value w =>
      have := ctorCall_value_callable c [v] w hcall
      simp [canInit, initIsInstance, hc, initInstTest, this]
    | reported code => rw [hcall] at hn; simp only [newOut] at hn; split at hn <;> cases hn
    | fault => rw [hcall] at hn; cases hn

/-- the member a declared key selects: both mappers go to the same member type -/
theorem entry_member (ms : List (String × Bool × Ty)) (s : String) (hs : s ∈ ms.map (·.1)) (x : Val) :
    ∃ t, t.sz2 < szMs ms ∧ (nodupMs ms → t.NodupNames) ∧
      coerceEntry pf ms (.str s) x = coerceTo pf t x ∧ canEntry pf ms (.str s) x = canCoerce pf t x := by
  induction ms with
  | nil => simp at hs
  | cons m ms ih =>
    obtain ⟨name, o, t⟩ := m
    by_cases hn : name = s
    · refine ⟨t, by simp [szMs]; omega, fun h => h.1, ?_, ?_⟩ <;> simp [coerceEntry, canEntry, hn]
    · have hs' : s ∈ ms.map (·.1) := by
        simp at hs
        rcases hs with h | h
        · exact absurd h.symm hn
        · simpa using h
      obtain ⟨t', hsz, hnd, h1, h2⟩ := ih hs'
      refine ⟨t', by simp [szMs]; omega, fun h => hnd h.2, ?_, ?_⟩
      · simp [coerceEntry, hn, h1]
      · simp [canEntry, hn, h2]

/-- `CanCoerce` as coerce.go writes it: the instance test, one `Optional` removed, the switch -/
theorem canCoerce_eq (t : Ty) (v : Val) :
    canCoerce pf t v = if inst t v then .ok true else canCore pf (unwrapOpt t) v := by
  cases t <;> simp [canCoerce, canCore, unwrapOpt]

/-- what a conversion that succeeds guarantees, for both entry points: the result is an instance of the requested type, and
    `CanCoerce` had answered yes (for distinct member names).  One induction over the nesting, Struct members included: the two
    claims walk the same switch -/
theorem coerce_spec_aux : ∀ n t, t.sz2 < n → ∀ v r,
    (coerceTo pf t v = .value r → inst t r = true ∧ (t.NodupNames → canCoerce pf t v = .ok true)) ∧
    (coerceCore pf t v = .value r → inst t r = true ∧ (t.NodupNames → canCore pf t v = .ok true)) := by
  intro n
  induction n with
  | zero => intro t h; omega
  | succ n ih =>
    intro t hsz v r
    have hcore : coerceCore pf t v = .value r → inst t r = true ∧ (t.NodupNames → canCore pf t v = .ok true) := by
      intro h
      cases t with
      | arr e lo hi =>
        have he : e.sz2 < n := by simp [Ty.sz2] at hsz; omega
        cases v <;> simp [coerceCore] at h
        rename_i vs
        obtain ⟨rs, hrs, rfl, hlen⟩ := finishArr_inv h
        obtain ⟨hback, hforth⟩ := seqResults_ok (fun x => coerceTo pf e x) vs rs hrs
        refine ⟨?_, fun hnd => allOk_true _ fun q hq => ?_⟩
        · simp only [inst, hlen, Bool.true_and, List.all_eq_true]
          intro y hy
          obtain ⟨x, _, hx⟩ := hback y hy
          exact ((ih e he x y).1 hx).1
        · obtain ⟨x, hx, rfl⟩ := List.mem_map.mp hq
          obtain ⟨rx, _, hrx⟩ := hforth x hx
          exact ((ih e he x rx).1 hrx).2 (by simpa [Ty.NodupNames] using hnd)
      | hash kt vt lo hi =>
        have hk : kt.sz2 < n := by simp [Ty.sz2] at hsz; omega
        have hv : vt.sz2 < n := by simp [Ty.sz2] at hsz; omega
        cases v <;> simp [coerceCore] at h
        rename_i es
        obtain ⟨es', hes, rfl, hlen⟩ := finishHash_inv h
        obtain ⟨hback, hforth⟩ := seqEntries_ok (fun x => coerceTo pf kt x.1) (fun x => coerceTo pf vt x.2) es es' hes
        refine ⟨?_, fun hnd => allOk_true _ fun q hq => ?_⟩
        · simp only [inst, hlen, Bool.true_and, List.all_eq_true, Bool.and_eq_true]
          intro e he
          obtain ⟨x, _, h1, h2⟩ := hback e he
          exact ⟨((ih kt hk _ _).1 h1).1, ((ih vt hv _ _).1 h2).1⟩
        · have hnk : kt.NodupNames ∧ vt.NodupNames := by simpa [Ty.NodupNames] using hnd
          obtain ⟨e, he, rfl⟩ := List.mem_map.mp hq
          obtain ⟨e', _, h1, h2⟩ := hforth e he
          simp [andOk, ((ih kt hk _ _).1 h1).2 hnk.1, ((ih vt hv _ _).1 h2).2 hnk.2]
      | struct ms =>
        cases v <;> simp [coerceCore] at h
        rename_i es
        obtain ⟨es', hs, rfl, hinst⟩ := finishStruct_inv h
        refine ⟨hinst, fun hnd => allOk_true _ fun q hq => ?_⟩
        have hnd' : (ms.map (·.1)).Nodup ∧ nodupMs ms := by simpa [Ty.NodupNames] using hnd
        -- the asserted result has only declared keys
        obtain ⟨es'', hes'', hkeys, _⟩ := inst_struct ms hnd'.1 _ hinst
        cases hes''
        obtain ⟨e, he, rfl⟩ := List.mem_map.mp hq
        obtain ⟨e', he', h1, h2⟩ :=
          (seqEntries_ok (fun e => NewOutcome.value e.1) (fun e => coerceEntry pf ms e.1 e.2) es es' hs).2 e he
        obtain ⟨m, hm, hkey⟩ := hkeys e' he'
        have hk : e.1 = .str m.1 := by
          have : e.1 = e'.1 := by simpa using h1
          rw [this, hkey]
        obtain ⟨t, htsz, htnd, hce, hca⟩ := entry_member pf ms m.1 (List.mem_map.mpr ⟨m, hm, rfl⟩) e.2
        have ht : t.sz2 < n := by simp [Ty.sz2] at hsz; omega
        rw [hk, hca]
        rw [hk, hce] at h2
        exact ((ih t ht _ _).1 h2).2 (htnd hnd'.2)
      | _ =>
        have h' := by simpa [coerceCore] using h
        exact ⟨newOne_value pf _ v r h', fun _ => newOne_canInit pf _ v r h'⟩
    refine ⟨?_, hcore⟩
    intro h
    rw [coerceTo_eq] at h
    rw [canCoerce_eq]
    by_cases hi : inst t v = true
    · simp [hi] at h; subst h; exact ⟨hi, fun _ => by simp [hi]⟩
    · simp only [hi] at h ⊢
      cases t with
      | opt t' =>
        have ht' : t'.sz2 < n := by simp [Ty.sz2] at hsz; omega
        obtain ⟨h1, h2⟩ := (ih t' ht' v r).2 (by simpa [unwrapOpt] using h)
        exact ⟨inst_opt_of t' r h1, fun hnd => by simpa [unwrapOpt] using h2 (by simpa [Ty.NodupNames] using hnd)⟩
      | _ => simpa [unwrapOpt] using hcore (by simpa [unwrapOpt] using h)

theorem coerce_sound_aux : ∀ n t, t.sz < n → ∀ v r,
    (coerceTo pf t v = .value r → inst t r = true) ∧ (coerceCore pf t v = .value r → inst t r = true) :=
  fun _ t _ v r => ⟨fun h => ((coerce_spec_aux pf _ t (Nat.lt_succ_self _) v r).1 h).1,
    fun h => ((coerce_spec_aux pf _ t (Nat.lt_succ_self _) v r).2 h).1⟩

end

end Pcore.Dispatch.Alpha

import Pcore.Proofs.SliceHeap
/-!
C08 helper lemmas, in this order: `stepHeap` outcome by outcome; under a safe table one step of the heap interpreter is the pure step
on the represented state and writes no cell of an array that exists (`step_refines`), hence whole runs (`run_refines`), and a new
sequence lives in an array the step allocates (`step_new_fresh`); both interpreters add one pool entry per step and retire at most
the receiver their common outcome names (`Out.kill?`), so pools only grow at their end (`runPure_prefix`, `pureResult_take`) and an
entry stays live and reads the same unless retired (`slice?_after`, `read_after`).
-/
namespace Pcore.Heap

theorem stepHeap_mark (P : Policy) (tbl : Table) {s : HState} {op : Op} {m : String} (h : opSem s.look op = .mark m) :
    stepHeap P tbl s op = s.push s.heap (.mark m) := by
  unfold stepHeap; rw [h]

theorem stepHeap_alloc (P : Policy) (tbl : Table) {s : HState} {op : Op} {site : CtorSite} {k : Kind} {cap : Nat} {res : List Val}
    (h : opSem s.look op = .alloc site k cap res) :
    stepHeap P tbl s op =
      let p := mkFresh s.heap res (max (cap - res.length) (P.spare site.key cap res.length))
      s.push p.1 (.val k p.2) := by
  unfold stepHeap; rw [h]

theorem stepHeap_same (P : Policy) (tbl : Table) {s : HState} {op : Op} {site : SameSite} {k : Kind} {r : Nat}
    (h : opSem s.look op = .same site k r) :
    stepHeap P tbl s op = match s.slice? r with
      | some (_, recv) =>
        let p := produce P s.heap (tbl.find site.key) site.key recv.len recv 0 recv.len (s.heap.read recv)
        s.push p.1 (.val k p.2)
      | none => s.push s.heap (.mark "~") := by
  unfold stepHeap; rw [h]; rfl

theorem stepHeap_window (P : Policy) (tbl : Table) {s : HState} {op : Op} {site : WinSite} {k : Kind} {r : Nat} {lo hi : Int}
    (h : opSem s.look op = .window site k r lo hi) :
    stepHeap P tbl s op = match s.slice? r with
      | some (_, recv) =>
        if winOK (s.heap.read recv).length lo hi then
          let p := produce P s.heap (tbl.find site.key) site.key recv.len recv lo.toNat hi.toNat (window (s.heap.read recv) lo hi)
          s.push p.1 (.val k p.2)
        else s.push s.heap (.mark "^")
      | none => s.push s.heap (.mark "~") := by
  unfold stepHeap; rw [h]; rfl

theorem stepHeap_new (P : Policy) (tbl : Table) {s : HState} {op : Op} {site : NewSite} {k : Kind} {r : Nat} {res : List Val}
    {kill : Bool} (h : opSem s.look op = .new site k r res kill) :
    stepHeap P tbl s op =
      let recv := match s.slice? r with
        | some (_, sl) => sl
        | none => ⟨0, 0, 0, 0⟩
      let h0 := if tbl.writesInPlace site.method then s.heap.write recv.arr recv.off (res.take recv.len) else s.heap
      let p := produce P h0 (tbl.find site.key) site.key recv.len recv 0 recv.len res
      { heap := p.1, pool := s.pool ++ [.val k p.2], dead := if kill then r :: s.dead else s.dead } := by
  unfold stepHeap; rw [h]; rfl

/-- a receiver as both layers see it: absent from both, or a live header (valid under `WF`) whose content the pure layer sees -/
theorem recv_cases {s : HState} (hw : s.WF) (r : Nat) :
    (s.slice? r = none ∧ s.look r = none) ∨
    ∃ k recv, s.slice? r = some (k, recv) ∧ s.look r = some (k, s.heap.read recv) ∧ recv.arr < s.heap.length := by
  unfold HState.look
  cases hs : s.slice? r with
  | none => exact .inl ⟨rfl, rfl⟩
  | some p => exact .inr ⟨p.1, p.2, rfl, rfl, hw.slice hs⟩

/-- SEALING, one step: under a safe table a step of the implementation layer (a) is the pure step on the represented
    state — in particular the content of every earlier value is untouched —, (b) keeps all slice headers valid and
    (c) never writes a cell of an existing backing array: the heap afterwards is the heap before plus (at most one)
    newly allocated array. -/
theorem step_refines (P : Policy) (tbl : Table) (ht : IdiomsSafe tbl) (s : HState) (hw : s.WF) (op : Op) :
    (stepHeap P tbl s op).abs = stepPure s.abs op ∧ (stepHeap P tbl s op).WF ∧ s.heap <+: (stepHeap P tbl s op).heap := by
  unfold stepPure
  rw [abs_look]
  cases hop : opSem s.look op with
  | mark m => rw [stepHeap_mark P tbl hop]; exact push_mark s hw m
  | alloc site k cap res => rw [stepHeap_alloc P tbl hop]; exact push_fresh s hw k res _ s.dead
  | same site k r =>
    rw [stepHeap_same P tbl hop]
    rcases recv_cases hw r with ⟨hs, hl⟩ | ⟨k', recv, hs, hl, hrecv⟩ <;> simp only [hs, hl]
    · exact push_mark s hw "~"
    · exact push_produce P s hw k _ _ _ recv 0 recv.len _ s.dead hrecv
        ((safe_same ht site).imp_right (Or.imp (⟨·, rfl⟩) (⟨·, read_sub_full _ _⟩)))
  | window site k r lo hi =>
    rw [stepHeap_window P tbl hop]
    rcases recv_cases hw r with ⟨hs, hl⟩ | ⟨k', recv, hs, hl, hrecv⟩ <;> simp only [hs, hl]
    · exact push_mark s hw "~"
    · cases hok : winOK (s.heap.read recv).length lo hi with
      | false => simp only [Bool.false_eq_true, if_false]; exact push_mark s hw "^"
      | true =>
        simp only [if_true]
        exact push_produce P s hw k _ _ _ recv _ _ _ s.dead hrecv
          ((safe_win ht site).imp_right fun h => .inr ⟨h, read_sub_window _ _ _ _ hok⟩)
  | new site k r res kill =>
    rw [stepHeap_new P tbl hop, safe_noWrite ht site.method]
    simp only [Bool.false_eq_true, if_false, produce, safe_new ht site]
    exact push_fresh s hw k res _ _

theorem foldl_refines (P : Policy) (tbl : Table) (ht : IdiomsSafe tbl) (ops : List Op) (s : HState) (hw : s.WF) :
    (ops.foldl (stepHeap P tbl) s).abs = ops.foldl stepPure s.abs ∧
      (ops.foldl (stepHeap P tbl) s).WF ∧ s.heap <+: (ops.foldl (stepHeap P tbl) s).heap :=
  ⟨foldl_sim (Inv := HState.WF) (fun s op h => (step_refines P tbl ht s h op).2.1) (fun s op h => (step_refines P tbl ht s h op).1)
      ops s hw,
    foldl_inv (Inv := fun s' : HState => s'.WF ∧ s.heap <+: s'.heap)
      (fun s' op h => ⟨(step_refines P tbl ht s' h.1 op).2.1, h.2.trans (step_refines P tbl ht s' h.1 op).2.2⟩) ops s
      ⟨hw, List.prefix_refl _⟩⟩

theorem run_refines (P : Policy) (tbl : Table) (ht : IdiomsSafe tbl) (ops : List Op) :
    (runHeap P tbl ops).abs = runPure ops :=
  (foldl_refines P tbl ht ops {} WF_empty).1

theorem run_WF (P : Policy) (tbl : Table) (ht : IdiomsSafe tbl) (ops : List Op) : (runHeap P tbl ops).WF :=
  (foldl_refines P tbl ht ops {} WF_empty).2.1

theorem step_new_fresh (P : Policy) (tbl : Table) (ht : IdiomsSafe tbl) (s : HState) (op : Op)
    {site : NewSite} {k : Kind} {r : Nat} {res : List Val} {kill : Bool}
    (h : opSem s.look op = .new site k r res kill) :
    ∃ sp, stepHeap P tbl s op =
      { heap := s.heap ++ [res ++ List.replicate sp .undef],
        pool := s.pool ++ [.val k ⟨s.heap.length, 0, res.length, res.length + sp⟩],
        dead := if kill then r :: s.dead else s.dead } := by
  rw [stepHeap_new P tbl h]
  simp only [safe_noWrite ht, Bool.false_eq_true, if_false, produce, safe_new ht site]
  exact ⟨_, rfl⟩

theorem runHeap_snoc (P : Policy) (tbl : Table) (ops : List Op) (op : Op) :
    runHeap P tbl (ops ++ [op]) = stepHeap P tbl (runHeap P tbl ops) op := by
  unfold runHeap
  rw [List.foldl_append]
  rfl

/-- the receiver a step retires, with the site and the kind of what supersedes it -/
def Out.kill? : Out → Option (NewSite × Kind × Nat)
  | .new site k r _ true => some (site, k, r)
  | _ => none

theorem stepPure_grows (s : PState) (op : Op) :
    (∃ e, (stepPure s op).pool = s.pool ++ [e]) ∧ (stepPure s op).dead = (match (opSem s.look op).kill? with
      | some (_, _, r) => r :: s.dead
      | none => s.dead) := by
  unfold stepPure
  cases opSem s.look op with
  | mark m => exact ⟨⟨_, rfl⟩, rfl⟩
  | alloc site k cap res => exact ⟨⟨_, rfl⟩, rfl⟩
  | same site k r =>
    simp only
    cases s.look r <;> exact ⟨⟨_, rfl⟩, rfl⟩
  | window site k r lo hi =>
    simp only
    cases s.look r with
    | none => exact ⟨⟨_, rfl⟩, rfl⟩
    | some p =>
      simp only
      split <;> exact ⟨⟨_, rfl⟩, rfl⟩
  | new site k r res kill => cases kill <;> exact ⟨⟨_, rfl⟩, rfl⟩

theorem stepHeap_grows (P : Policy) (tbl : Table) (s : HState) (op : Op) :
    (∃ e, (stepHeap P tbl s op).pool = s.pool ++ [e]) ∧ (stepHeap P tbl s op).dead = (match (opSem s.look op).kill? with
      | some (_, _, r) => r :: s.dead
      | none => s.dead) := by
  cases hop : opSem s.look op with
  | mark m => rw [stepHeap_mark P tbl hop]; exact ⟨⟨_, rfl⟩, rfl⟩
  | alloc site k cap res => rw [stepHeap_alloc P tbl hop]; exact ⟨⟨_, rfl⟩, rfl⟩
  | same site k r =>
    rw [stepHeap_same P tbl hop]
    cases s.slice? r <;> exact ⟨⟨_, rfl⟩, rfl⟩
  | window site k r lo hi =>
    rw [stepHeap_window P tbl hop]
    cases s.slice? r with
    | none => exact ⟨⟨_, rfl⟩, rfl⟩
    | some p =>
      simp only
      split <;> exact ⟨⟨_, rfl⟩, rfl⟩
  | new site k r res kill => rw [stepHeap_new P tbl hop]; cases kill <;> exact ⟨⟨_, rfl⟩, rfl⟩

theorem runPure_prefix (ops : List Op) (i j j' : Nat) (hij : i < j) (hjj : j ≤ j') (hj : j ≤ ops.length) :
    (runPure (ops.take j)).pool[i]? = (runPure (ops.take j')).pool[i]? :=
  foldl_take_pool (fun s op => (stepPure_grows s op).1) {} rfl ops i j j' hij hjj hj

theorem pureResult_take (ops : List Op) {i j : Nat} (hij : i < j) (hj : j ≤ ops.length) :
    pureResult (ops.take j) i = pureResult ops i := by
  unfold pureResult
  rw [runPure_prefix ops i j ops.length hij hj hj, List.take_length]

theorem slice?_after (P : Policy) (tbl : Table) (s : HState) (op : Op) (i : Nat) (k : Kind) (sl : Slice)
    (h : (stepHeap P tbl s op).slice? i = some (k, sl)) :
    (i < s.pool.length ∧ s.slice? i = some (k, sl)) ∨
    (i = s.pool.length ∧ (stepHeap P tbl s op).pool[s.pool.length]? = some (.val k sl)) := by
  obtain ⟨⟨e, he⟩, hdead⟩ := stepHeap_grows P tbl s op
  obtain ⟨hd, hp⟩ := slice?_eq_some.mp h
  rcases getElem?_snoc_eq_some (he ▸ hp) with hp' | ⟨rfl, _⟩
  · refine .inl ⟨(List.getElem?_eq_some_iff.mp hp').1, slice?_eq_some.mpr ⟨?_, hp'⟩⟩
    rw [hdead] at hd
    split at hd
    · rw [List.contains_cons, Bool.or_eq_false_iff] at hd
      exact hd.2
    · exact hd
  · exact .inr ⟨rfl, hp⟩

theorem read_after (P : Policy) (tbl : Table) (ht : IdiomsSafe tbl) (s : HState) (hw : s.WF) (op : Op) (i : Nat) (k : Kind)
    (sl : Slice) (h : s.slice? i = some (k, sl)) : (stepHeap P tbl s op).heap.read sl = s.heap.read sl :=
  read_prefix (step_refines P tbl ht s hw op).2.2 (hw.slice h)

end Pcore.Heap

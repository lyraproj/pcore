import Pcore.Model.OMap
import Pcore.Proofs.ListFacts
/-!
Laws of the specification `OMap`: it *is* an insertion-ordered map with unique keys.  The position `idx` of a
key is the library's `idxOf?` on the key list and `getEntry` is `find?`, so the facts about positions are the
library's; `put` / `delete` are then expressed through the position of the key — the form in which the indexed
implementations compute them.  Last, what a `merge` answers when the merged entries repeat a key (`getLast`,
`lidx`), and that with unique keys the last entry of a key is the first.

The other association lists of the model (`GoMap`, the loader's entry maps, the index of `Model/ValueEqCache`) are this one
at `key := id` resp. `key := kb`; their modules state that in one equation per definition and take their laws from here.
-/
namespace Pcore.Coll.OMap
variable {α β κ : Type} [DecidableEq κ]

theorem idx_eq_idxOf? (key : α → κ) (m : List (α × β)) (k : κ) : idx key m k = (keys key m).idxOf? k := by
  induction m with
  | nil => rfl
  | cons e es ih => simp only [idx, keys, List.map_cons, List.idxOf?_cons, beq_iff_eq, ih]

theorem getEntry_eq_find? (key : α → κ) (m : List (α × β)) (k : κ) :
    getEntry key m k = m.find? (fun e => key e.1 == k) := by
  induction m with
  | nil => rfl
  | cons e es ih => by_cases h : key e.1 = k <;> simp [getEntry, h, ih]

theorem idx_eq_none {key : α → κ} {m : List (α × β)} {k : κ} : idx key m k = none ↔ k ∉ keys key m := by
  rw [idx_eq_idxOf?, List.idxOf?_eq_none_iff]

theorem getElem?_idx {key : α → κ} {m : List (α × β)} {k : κ} {i : Nat} (h : idx key m k = some i) :
    ∃ e, m[i]? = some e ∧ key e.1 = k := by
  rw [idx_eq_idxOf?, List.idxOf?_eq_some_iff] at h
  obtain ⟨hi, hk, _⟩ := h
  simp only [keys, List.length_map, List.getElem_map] at hi hk
  exact ⟨m[i], List.getElem?_eq_getElem hi, hk⟩

theorem idx_lt {key : α → κ} {m : List (α × β)} {k : κ} {i : Nat} (h : idx key m k = some i) : i < m.length := by
  obtain ⟨e, he, _⟩ := getElem?_idx h
  exact (List.getElem?_eq_some_iff.mp he).1

theorem idx_iff {key : α → κ} {m : List (α × β)} (hn : (keys key m).Nodup) (k : κ) (i : Nat) :
    idx key m k = some i ↔ (m[i]?).map (fun e => key e.1) = some k := by
  rw [idx_eq_idxOf?, idxOf?_eq_some_of_nodup hn, keys, List.getElem?_map]

theorem getEntry_eq_idx (key : α → κ) (m : List (α × β)) (k : κ) :
    getEntry key m k = (idx key m k).bind (m[·]?) := by
  rw [getEntry_eq_find?, List.find?_eq_bind_findIdx?_getElem?, idx_eq_idxOf?, keys, List.idxOf?, List.findIdx?_map]
  rfl

theorem idx_cases (key : α → κ) (m : List (α × β)) (k : κ) :
    (idx key m k = none ∧ getEntry key m k = none) ∨
      ∃ p e, idx key m k = some p ∧ m[p]? = some e ∧ key e.1 = k ∧ getEntry key m k = some e := by
  rw [getEntry_eq_idx]
  cases h : idx key m k with
  | none => exact .inl ⟨rfl, rfl⟩
  | some p => obtain ⟨e, he, hk⟩ := getElem?_idx h; exact .inr ⟨p, e, rfl, he, hk, he⟩

theorem getEntry_of_not_mem {key : α → κ} {m : List (α × β)} {k : κ} (h : k ∉ keys key m) : getEntry key m k = none := by
  rw [getEntry_eq_idx, idx_eq_none.mpr h]; rfl

theorem mem_iff_getEntry {key : α → κ} {m : List (α × β)} (hn : (keys key m).Nodup) {e : α × β} :
    e ∈ m ↔ getEntry key m (key e.1) = some e := by
  rw [getEntry_eq_find?, find_key_iff (key := fun x : α × β => key x.1) hn]
  exact ⟨fun h => ⟨h, rfl⟩, And.left⟩

omit [DecidableEq κ] in
theorem mem_iff_get [DecidableEq α] {m : List (α × β)} (hn : (keys id m).Nodup) {k : α} {v : β} :
    (k, v) ∈ m ↔ get id m k = some v := by
  rw [mem_iff_getEntry hn, get]
  show getEntry id m k = some (k, v) ↔ _
  rcases idx_cases id m k with ⟨_, hg⟩ | ⟨p, x, _, _, hk, hg⟩
  · simp [hg]
  · rw [hg, Option.map_some, Option.some.injEq, Option.some.injEq]
    exact ⟨fun h => h ▸ rfl, fun h => Prod.ext hk h⟩

theorem get_of_mem {key : α → κ} {m : List (α × β)} (hn : (keys key m).Nodup) {e : α × β} (he : e ∈ m) :
    get key m (key e.1) = some e.2 := by
  rw [get, (mem_iff_getEntry hn).mp he]; rfl

theorem idx_congr {key : α → κ} {m m' : List (α × β)} (h : keys key m' = keys key m) (k : κ) :
    idx key m' k = idx key m k := by
  rw [idx_eq_idxOf?, idx_eq_idxOf?, h]

theorem idx_append (key : α → κ) (m : List (α × β)) (e : α × β) (k : κ) :
    idx key (m ++ [e]) k = (idx key m k).or (if key e.1 = k then some m.length else none) := by
  simp only [idx_eq_idxOf?, keys, List.map_append, List.idxOf?, List.findIdx?_append, List.length_map, List.map_cons,
    List.map_nil, List.findIdx?_singleton, beq_iff_eq]
  split <;> simp

theorem includes_iff (key : α → κ) (m : List (α × β)) (k : κ) : includes key m k = true ↔ k ∈ keys key m := by
  rw [includes, getEntry_eq_find?, List.find?_isSome]
  simp [keys]

theorem mem_keys_of_get {key : α → κ} {m : List (α × β)} {k : κ} {v : β} (h : get key m k = some v) : k ∈ keys key m := by
  rw [← includes_iff, includes, ← Option.isSome_map, ← get, h]; rfl

theorem put_eq (key : α → κ) (m : List (α × β)) (e : α × β) :
    put key m e = match idx key m (key e.1) with
      | some i => m.set i e
      | none => m ++ [e] := by
  induction m with
  | nil => rfl
  | cons x xs ih =>
    by_cases h : key x.1 = key e.1
    · simp [put, idx, h]
    · simp only [put, idx, h, if_false, ih]
      cases idx key xs (key e.1) <;> rfl

theorem keys_set {key : α → κ} {m : List (α × β)} {e : α × β} {i : Nat} (h : idx key m (key e.1) = some i) :
    keys key (m.set i e) = keys key m := by
  obtain ⟨x, hx, hk⟩ := getElem?_idx h
  rw [keys, List.map_set]
  exact set_of_getElem? (by rw [List.getElem?_map, hx, ← hk]; rfl)

theorem keys_put (key : α → κ) (m : List (α × β)) (e : α × β) :
    keys key (put key m e) = if key e.1 ∈ keys key m then keys key m else keys key m ++ [key e.1] := by
  rw [put_eq]
  cases h : idx key m (key e.1) with
  | none => rw [if_neg (idx_eq_none.mp h)]; simp [keys]
  | some i =>
    obtain ⟨x, hx, hk⟩ := getElem?_idx h
    rw [if_pos (hk ▸ List.mem_map_of_mem (List.mem_of_getElem? hx)), keys_set h]

theorem nodup_put {key : α → κ} {m : List (α × β)} (hn : (keys key m).Nodup) (e : α × β) :
    (keys key (put key m e)).Nodup := by
  rw [keys_put]
  split
  · exact hn
  · rename_i h
    rw [List.nodup_append]
    exact ⟨hn, by simp, fun a ha b hb hab => h (by simp_all)⟩

theorem getEntry_put (key : α → κ) (m : List (α × β)) (e : α × β) (k : κ) :
    getEntry key (put key m e) k = if key e.1 = k then some e else getEntry key m k := by
  induction m with
  | nil => rfl
  | cons x xs ih =>
    by_cases h : key x.1 = key e.1
    · by_cases hk : key e.1 = k <;> simp only [put, getEntry, h, hk, if_true, if_false]
    · simp only [put, getEntry, h, if_false, ih]
      by_cases hx : key x.1 = k
      · subst hx; simp only [Ne.symm h, if_true, if_false]
      · simp only [hx, if_false]

theorem put_put (key : α → κ) (m : List (α × β)) (e e' : α × β) (h : key e.1 = key e'.1) :
    put key (put key m e) e' = put key m e' := by
  induction m with
  | nil => simp [put, h]
  | cons x xs ih =>
    by_cases hx : key x.1 = key e.1
    · simp [put, hx, h]
    · simp [put, hx, h ▸ hx, ih]

theorem put_of_getEntry {key : α → κ} {m : List (α × β)} {e : α × β} (h : getEntry key m (key e.1) = some e) :
    put key m e = m := by
  rcases idx_cases key m (key e.1) with ⟨_, hg⟩ | ⟨p, x, hx, hp, _, hg⟩
  · rw [hg] at h; cases h
  · rw [put_eq, hx]; exact set_of_getElem? (hp.trans (hg.symm.trans h))

omit [DecidableEq κ] in
theorem put_of_get [DecidableEq α] {m : List (α × β)} {k : α} {v : β} (h : get id m k = some v) : put id m (k, v) = m := by
  rcases idx_cases id m k with ⟨_, hg⟩ | ⟨_, x, _, _, hk, hg⟩
  · rw [get, hg] at h; cases h
  · rw [get, hg] at h
    obtain rfl : x = (k, v) := Prod.ext hk (Option.some.inj h)
    exact put_of_getEntry hg

theorem idx_put_of_ne (key : α → κ) (m : List (α × β)) (e : α × β) {k : κ} (hk : key e.1 ≠ k) :
    idx key (put key m e) k = idx key m k := by
  rw [put_eq]
  cases h : idx key m (key e.1) with
  | none => rw [idx_append, if_neg hk, Option.or_none]
  | some i => exact idx_congr (keys_set h) k

theorem get_put (key : α → κ) (m : List (α × β)) (e : α × β) (k : κ) :
    get key (put key m e) k = if key e.1 = k then some e.2 else get key m k := by
  simp only [get, getEntry_put]; split <;> rfl

theorem getEntry_filter (key : α → κ) (m : List (α × β)) (p : κ → Bool) (k : κ) :
    getEntry key (m.filter fun e => p (key e.1)) k = if p k then getEntry key m k else none := by
  rw [getEntry_eq_find?, getEntry_eq_find?, List.find?_filter]
  split
  · rename_i h
    congr 1
    funext x
    by_cases hx : key x.1 = k <;> simp [hx, h]
  · rename_i h
    rw [List.find?_eq_none]
    intro x _
    by_cases hx : key x.1 = k <;> simp [hx, h]

theorem getEntry_delete (key : α → κ) (m : List (α × β)) (k k' : κ) :
    getEntry key (delete key m k) k' = if k' = k then none else getEntry key m k' := by
  rw [delete, getEntry_filter key m (fun x => !decide (x = k))]; by_cases h : k' = k <;> simp [h]

theorem get_delete (key : α → κ) (m : List (α × β)) (k k' : κ) :
    get key (delete key m k) k' = if k' = k then none else get key m k' := by
  simp only [get, getEntry_delete]; split <;> rfl

omit [DecidableEq κ] in
/-- `delete` and `deleteAll` filter by a condition on the key: on the key list they are that filter -/
theorem keys_filter (key : α → κ) (m : List (α × β)) (p : κ → Bool) :
    keys key (m.filter fun e => p (key e.1)) = (keys key m).filter p := by
  simp only [keys, List.filter_map]; rfl

omit [DecidableEq κ] in
theorem nodup_of_sublist {key : α → κ} {m m' : List (α × β)} (h : m'.Sublist m) (hn : (keys key m).Nodup) :
    (keys key m').Nodup := nodup_key_sublist h hn

omit [DecidableEq κ] in
theorem keys_eraseIdx (key : α → κ) (m : List (α × β)) (p : Nat) : keys key (m.eraseIdx p) = (keys key m).eraseIdx p := by
  induction m generalizing p with
  | nil => rfl
  | cons x xs ih => cases p <;> simp_all [keys]

theorem delete_eq {key : α → κ} {m : List (α × β)} (hn : (keys key m).Nodup) (k : κ) :
    delete key m k = match idx key m k with
      | some i => m.eraseIdx i
      | none => m := by
  induction m with
  | nil => rfl
  | cons x xs ih =>
    have hn' : key x.1 ∉ keys key xs ∧ (keys key xs).Nodup := List.nodup_cons.mp hn
    have ih := ih hn'.2
    simp only [delete] at ih
    by_cases hx : key x.1 = k
    · have : idx key xs k = none := idx_eq_none.mpr (hx ▸ hn'.1)
      rw [this] at ih
      simp [delete, idx, hx, ih]
    · simp only [delete, idx, hx, List.filter_cons, ih]
      cases idx key xs k <;> simp

theorem merge_cons (key : α → κ) (a : List (α × β)) (e : α × β) (es : List (α × β)) :
    merge key a (e :: es) = merge key (put key a e) es := rfl

theorem nodup_merge {key : α → κ} {a : List (α × β)} (hn : (keys key a).Nodup) (b : List (α × β)) :
    (keys key (merge key a b)).Nodup :=
  foldl_inv (Inv := fun m => (keys key m).Nodup) (fun _ e h => nodup_put h e) b a hn

theorem merge_of_nodup {key : α → κ} (a es : List (α × β)) (hn : (keys key (a ++ es)).Nodup) :
    merge key a es = a ++ es := by
  induction es generalizing a with
  | nil => simp [merge]
  | cons e es ih =>
    have hnot : key e.1 ∉ keys key a := by
      simp only [keys, List.map_append, List.map_cons, List.nodup_append] at hn
      exact fun hmem => hn.2.2 _ hmem _ (by simp) rfl
    rw [merge_cons, put_eq, idx_eq_none.mpr hnot, ih (a ++ [e]) (by simpa using hn)]
    simp

theorem lidx_lt {key : α → κ} {es : List (α × β)} {k : κ} {i : Nat} (h : lidx key es k = some i) : i < es.length := by
  induction es generalizing i with
  | nil => cases h
  | cons e es ih =>
    simp only [lidx] at h
    split at h
    · cases h; exact Nat.succ_lt_succ (ih ‹_›)
    · split at h <;> cases h; exact Nat.zero_lt_succ _

theorem getLast_eq_lidx (key : α → κ) (es : List (α × β)) (k : κ) : getLast key es k = (lidx key es k).bind (es[·]?) := by
  induction es with
  | nil => rfl
  | cons e es ih =>
    simp only [getLast, lidx, ih]
    cases h : lidx key es k with
    | some i => simp [lidx_lt h]
    | none => by_cases hk : key e.1 = k <;> simp [hk]

theorem lidx_eq_idx {key : α → κ} {es : List (α × β)} (hn : (keys key es).Nodup) (k : κ) : lidx key es k = idx key es k := by
  induction es with
  | nil => rfl
  | cons e es ih =>
    have hn' : key e.1 ∉ keys key es ∧ (keys key es).Nodup := List.nodup_cons.mp hn
    simp only [lidx, idx, ih hn'.2]
    by_cases hk : key e.1 = k
    · rw [idx_eq_none.mpr (hk ▸ hn'.1)]; simp [hk]
    · cases idx key es k <;> simp [hk]

theorem getLast_eq_getEntry {key : α → κ} {es : List (α × β)} (hn : (keys key es).Nodup) (k : κ) :
    getLast key es k = getEntry key es k := by
  rw [getLast_eq_lidx, getEntry_eq_idx, lidx_eq_idx hn]

/-- the last entry with a key is the first one from the other end, so the facts about `getLast` are the library's about `find?` -/
theorem getLast_eq_getEntry_reverse (key : α → κ) (es : List (α × β)) (k : κ) :
    getLast key es k = getEntry key es.reverse k := by
  induction es with
  | nil => rfl
  | cons e es ih =>
    rw [getLast, ih, getEntry_eq_find?, getEntry_eq_find?, List.reverse_cons, List.find?_append]
    cases es.reverse.find? (fun x => key x.1 == k) with
    | some x => rfl
    | none => by_cases h : key e.1 = k <;> simp [h]

theorem getLast_eq_some {key : α → κ} {es : List (α × β)} {k : κ} {e : α × β} (h : getLast key es k = some e) :
    e ∈ es ∧ key e.1 = k := by
  rw [getLast_eq_getEntry_reverse, getEntry_eq_find?] at h
  exact (find_key_some (key := fun x : α × β => key x.1) h).imp_left List.mem_reverse.mp

theorem getLast_eq_none {key : α → κ} {es : List (α × β)} {k : κ} : getLast key es k = none ↔ ∀ e ∈ es, key e.1 ≠ k := by
  rw [getLast_eq_getEntry_reverse, getEntry_eq_find?, List.find?_eq_none]; simp

theorem getEntry_merge (key : α → κ) (a es : List (α × β)) (k : κ) :
    getEntry key (merge key a es) k = (getLast key es k).or (getEntry key a k) := by
  induction es generalizing a with
  | nil => rfl
  | cons e es ih =>
    rw [merge_cons, ih, getLast, getEntry_put]
    cases getLast key es k with
    | some x => rfl
    | none => by_cases hk : key e.1 = k <;> simp [hk]

theorem getEntry_ofList (key : α → κ) (es : List (α × β)) (k : κ) : getEntry key (ofList key es) k = getLast key es k := by
  rw [ofList, getEntry_merge]; exact Option.or_none

end Pcore.Coll.OMap

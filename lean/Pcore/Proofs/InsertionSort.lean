/-! Insertion sort, proved once.  The model sorts by insertion in several places, each with its own comparison; the four
    about which something is proved (`LoaderSeq.sortKeys`, `ValueEq.sortB`, `Reflect.sortEntries`, `Format.insertionSort`) satisfy
    the four equations of `Is` by `rfl` (`sortEntries`, whose test is a proposition and not a `Bool`, up to `decide`), and are then
    permutations of their input and sorted.  (`Coll.isortBy` is a fifth; C08 only evaluates it.) -/
namespace Pcore.InsertionSort
variable {α : Type _} {le : α → α → Bool} {ins : α → List α → List α} {sort : List α → List α}

structure Is (le : α → α → Bool) (ins : α → List α → List α) (sort : List α → List α) : Prop where
  ins_nil : ∀ x, ins x [] = [x]
  ins_cons : ∀ x y ys, ins x (y :: ys) = if le x y then x :: y :: ys else y :: ins x ys
  sort_nil : sort [] = []
  sort_cons : ∀ x xs, sort (x :: xs) = ins x (sort xs)

theorem Is.ins_perm (h : Is le ins sort) (x : α) (l : List α) : (ins x l).Perm (x :: l) := by
  induction l with
  | nil => rw [h.ins_nil]
  | cons y ys ih =>
    rw [h.ins_cons]
    split
    · exact .refl _
    · exact (ih.cons y).trans (.swap x y ys)

theorem Is.perm (h : Is le ins sort) (l : List α) : (sort l).Perm l := by
  induction l with
  | nil => rw [h.sort_nil]
  | cons x xs ih => rw [h.sort_cons]; exact (h.ins_perm x _).trans (ih.cons x)

/-- `R` is the order the result is sorted by, and `le` decides it: accepted means related, refused means related the other
    way round (`R x y := le x y` for a total preorder, `R x y := less y x = false` for a strict weak order `less`) -/
theorem Is.ins_pairwise (h : Is le ins sort) {R : α → α → Prop} (h1 : ∀ x y, le x y = true → R x y)
    (h2 : ∀ x y, le x y = false → R y x) (h3 : ∀ x y z, R x y → R y z → R x z) (x : α) (l : List α)
    (hl : l.Pairwise R) : (ins x l).Pairwise R := by
  induction l with
  | nil => rw [h.ins_nil]; exact List.pairwise_singleton _ _
  | cons y ys ih =>
    have ⟨hy, hys⟩ := List.pairwise_cons.mp hl
    rw [h.ins_cons]
    split
    · rename_i hxy
      refine List.pairwise_cons.mpr ⟨fun z hz => ?_, hl⟩
      rcases List.mem_cons.mp hz with rfl | hz
      · exact h1 _ _ hxy
      · exact h3 _ _ _ (h1 _ _ hxy) (hy z hz)
    · rename_i hxy
      refine List.pairwise_cons.mpr ⟨fun z hz => ?_, ih hys⟩
      rcases List.mem_cons.mp ((h.ins_perm x ys).mem_iff.mp hz) with rfl | hz
      · exact h2 _ _ (by simpa using hxy)
      · exact hy z hz

theorem Is.pairwise (h : Is le ins sort) {R : α → α → Prop} (h1 : ∀ x y, le x y = true → R x y)
    (h2 : ∀ x y, le x y = false → R y x) (h3 : ∀ x y z, R x y → R y z → R x z) (l : List α) : (sort l).Pairwise R := by
  induction l with
  | nil => rw [h.sort_nil]; exact .nil
  | cons x xs ih => rw [h.sort_cons]; exact h.ins_pairwise h1 h2 h3 x _ ih

end Pcore.InsertionSort

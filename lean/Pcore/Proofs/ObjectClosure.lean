import Pcore.Proofs.ObjectDefine
import Mathlib.Logic.Relation
/-! C17: instance-of / assignability between types; on Proofs/ObjectDefine.  First, of any two types: an ancestor (a non-empty
    suffix of the level list) accepts, and a type accepts only types of at least as many levels (`isAssignable_suffix`,
    `isAssignable_length`).  Then, between the types of one loader (`GoodEnv`): two of them are Equal exactly when they are the
    same definition (`tyEq_env_iff`), and assignability is the reflexive-transitive closure of `parent`
    (`isAssignable_closure`). -/
namespace Pcore.Object

/-- of `objectType.Equals` level by level, what the proofs here use: the names are equal and the parents are Equal -/
theorem tyEqDeep_cons {l l' : Level} {p p' : OType} (h : tyEqDeep (l :: p) (l' :: p') = true) :
    l.id = l'.id ∧ tyEqDeep p p' = true := by
  simp only [tyEqDeep, Bool.and_eq_true, beq_iff_eq] at h
  obtain ⟨⟨⟨⟨⟨⟨⟨hid, -⟩, hp⟩, -⟩, -⟩, -⟩, -⟩, -⟩ := h
  exact ⟨hid, hp⟩

theorem tyEq_head_id {l l' : Level} {r r' : OType} (h : tyEq (l :: r) (l' :: r') = true) : l.id = l'.id := by
  rcases tyEq_iff.mp h with h | h
  · rw [(List.cons.inj h).1]
  · exact (tyEqDeep_cons h).1

theorem tyEqDeep_length {t o : OType} (h : tyEqDeep t o = true) : t.length = o.length := by
  induction t generalizing o with
  | nil => cases o <;> simp [tyEqDeep] at h ⊢
  | cons l p ih =>
    cases o with
    | nil => simp [tyEqDeep] at h
    | cons l' p' =>
      simp [ih (tyEqDeep_cons h).2]

theorem tyEq_length {t o : OType} (h : tyEq t o = true) : t.length = o.length := by
  rcases tyEq_iff.mp h with h | h
  · rw [h]
  · exact tyEqDeep_length h

theorem isAssignable_suffix {p t : OType} (hp : p ≠ []) (h : p <:+ t) : isAssignable p t = true := by
  induction t with
  | nil => simp at h; exact absurd h hp
  | cons l q ih =>
    unfold isAssignable
    rcases List.suffix_cons_iff.mp h with h | h
    · subst h; simp [tyEq_refl]
    · simp [ih h]

theorem isAssignable_length {t o : OType} (h : isAssignable t o = true) : t.length ≤ o.length := by
  induction o with
  | nil => simp [isAssignable] at h
  | cons l p ih =>
    unfold isAssignable at h
    simp only [Bool.or_eq_true] at h
    rcases h with h | h
    · rw [tyEq_length h]; exact Nat.le_refl _
    · have := ih h; simp; omega

/-- `p` is the declared parent of definition `j` (an EARLIER definition: a later or missing number resolves to no parent) -/
def parentRel (ds : List Def) (p j : Nat) : Prop := p < j ∧ ∃ d, ds[j]? = some d ∧ d.parent = some p

/-- the environment `defineAll` builds: type `j` is its own level (named `j`) on top of the type of its parent -/
def GoodEnv (ds : List Def) (env : List OType) : Prop :=
  env.length = ds.length ∧
    ∀ j d, ds[j]? = some d → ∃ l : Level, l.id = j ∧ env[j]? = some (l :: parentOf (env.take j) d)

theorem parentRel_iff {ds : List Def} {j : Nat} {d : Def} (hd : ds[j]? = some d) {p : Nat} :
    parentRel ds p j ↔ p < j ∧ d.parent = some p := by
  unfold parentRel
  rw [hd]
  simp

theorem defineAll_good {env0 env : List OType} {ds0 ds : List Def} (h0 : GoodEnv ds0 env0)
    (h : defineAll env0 ds = .ok env) : GoodEnv (ds0 ++ ds) env := by
  induction ds generalizing env0 ds0 with
  | nil =>
    simp only [defineAll, Except.ok.injEq] at h
    subst h
    simpa using h0
  | cons d ds ih =>
    obtain ⟨t, hd, h⟩ := defineAll_cons.mp h
    obtain ⟨l, hid, ht⟩ : ∃ l : Level, l.id = env0.length ∧ t = l :: parentOf env0 d :=
      let ⟨_, _, ht, _⟩ := define_ok hd
      ⟨_, rfl, ht⟩
    have hstep : GoodEnv (ds0 ++ [d]) (env0 ++ [t]) := by
      obtain ⟨hlen, hall⟩ := h0
      refine ⟨by simp [hlen], ?_⟩
      intro j d' hj
      rcases getElem?_snoc_eq_some hj with hj | ⟨rfl, rfl⟩
      · have hlt : j < ds0.length := (List.getElem?_eq_some_iff.mp hj).1
        obtain ⟨l', hl', he⟩ := hall j d' hj
        refine ⟨l', hl', ?_⟩
        rw [List.getElem?_append_left (by omega), he, List.take_append_of_le_length (by omega)]
      · refine ⟨l, by rw [hid, hlen], ?_⟩
        rw [← hlen, List.getElem?_append_right (Nat.le_refl _), Nat.sub_self, List.getElem?_cons_zero,
          List.take_left', ht]
        rfl
    have := ih hstep h
    simpa using this

theorem goodEnv_of_defineAll {ds : List Def} {env : List OType} (h : defineAll [] ds = .ok env) : GoodEnv ds env := by
  simpa using defineAll_good (ds0 := []) (env0 := []) ⟨rfl, by simp⟩ h

theorem good_parent {ds : List Def} {env : List OType} (hg : GoodEnv ds env) {j : Nat} {tj : OType}
    (hj : env[j]? = some tj) :
    ∃ l : Level, l.id = j ∧
      ((∃ p tp, parentRel ds p j ∧ env[p]? = some tp ∧ tj = l :: tp) ∨ ((∀ p, ¬ parentRel ds p j) ∧ tj = [l])) := by
  have hlt : j < ds.length := by rw [← hg.1]; exact (List.getElem?_eq_some_iff.mp hj).1
  have hdj : ds[j]? = some ds[j] := List.getElem?_eq_getElem hlt
  obtain ⟨l, hl, he⟩ := hg.2 j ds[j] hdj
  rw [he] at hj
  have htj := (Option.some.inj hj).symm
  refine ⟨l, hl, ?_⟩
  simp only [parentRel_iff hdj]
  unfold parentOf at htj
  cases hp : ds[j].parent with
  | none =>
    simp only [hp] at htj
    exact .inr ⟨fun p h => (nomatch h.2), htj⟩
  | some p =>
    simp only [hp] at htj
    rcases Nat.lt_or_ge p j with hpj | hpj
    · have hpl : p < env.length := by rw [hg.1]; omega
      rw [List.getElem?_take_of_lt hpj, List.getElem?_eq_getElem hpl] at htj
      exact .inl ⟨p, env[p], ⟨hpj, rfl⟩, List.getElem?_eq_getElem hpl, htj⟩
    · rw [List.getElem?_eq_none (by simp only [List.length_take]; omega)] at htj
      exact .inr ⟨fun q h => by have := Option.some.inj h.2; omega, htj⟩

theorem good_head {ds : List Def} {env : List OType} (hg : GoodEnv ds env) {j : Nat} {tj : OType}
    (hj : env[j]? = some tj) : ∃ l r, tj = l :: r ∧ l.id = j := by
  obtain ⟨l, hl, ⟨_, tp, _, _, ht⟩ | ⟨_, ht⟩⟩ := good_parent hg hj
  · exact ⟨l, tp, ht, hl⟩
  · exact ⟨l, [], ht, hl⟩

theorem tyEq_env_iff {ds : List Def} {env : List OType} (hg : GoodEnv ds env) {i j : Nat} {ti tj : OType}
    (hi : env[i]? = some ti) (hj : env[j]? = some tj) : tyEq ti tj = true ↔ i = j := by
  obtain ⟨li, ri, rfl, hli⟩ := good_head hg hi
  obtain ⟨lj, rj, rfl, hlj⟩ := good_head hg hj
  constructor
  · intro h
    have := tyEq_head_id h
    omega
  · rintro rfl
    rw [hi] at hj
    cases hj
    exact tyEq_refl _

theorem parentRel_unique {ds : List Def} {p q j : Nat} (hp : parentRel ds p j) (hq : parentRel ds q j) : p = q := by
  obtain ⟨_, d, hd, hdp⟩ := hp
  exact Option.some.inj (hdp.symm.trans ((parentRel_iff hd).mp hq).2)

theorem isAssignable_closure {ds : List Def} {env : List OType} (hg : GoodEnv ds env) {i : Nat} {ti : OType}
    (hi : env[i]? = some ti) :
    ∀ (j : Nat) (tj : OType), env[j]? = some tj →
      (isAssignable ti tj = true ↔ Relation.ReflTransGen (parentRel ds) i j) := by
  intro j
  induction j using Nat.strongRecOn with
  | _ j ih =>
    intro tj hj
    obtain ⟨l, hl, hcase⟩ := good_parent hg hj
    have hself : tyEq ti tj = true ↔ i = j := tyEq_env_iff hg hi hj
    rcases hcase with ⟨p, tp, hrel, hp, htj⟩ | ⟨hroot, htj⟩
    · have ihp := ih p hrel.1 tp hp
      rw [htj]
      unfold isAssignable
      rw [← htj, Bool.or_eq_true, hself, ihp]
      constructor
      · rintro (h | h)
        · rw [h]
        · exact h.tail hrel
      · intro h
        rcases Relation.ReflTransGen.cases_tail h with h | ⟨q, hq, hqj⟩
        · left; exact h.symm
        · right
          rw [parentRel_unique hrel hqj]
          exact hq
    · rw [htj]
      unfold isAssignable
      rw [← htj]
      simp only [isAssignable, Bool.or_false]
      rw [hself]
      constructor
      · intro h; rw [h]
      · intro h
        rcases Relation.ReflTransGen.cases_tail h with h | ⟨q, _, hqj⟩
        · exact h.symm
        · exact absurd hqj (hroot q)

end Pcore.Object

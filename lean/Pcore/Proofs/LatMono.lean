import Pcore.Proofs.LatWeaken
import Pcore.Proofs.LatInd
import Pcore.Proofs.ListFacts
set_option linter.unusedSimpArgs false
/-! C03: acceptance between two types of the same shape from acceptance between their parts — the string family, Runtime and Callable by their rules, Array / Hash with
    their size ranges, Tuples position by position, Structs member by member — and from it monotonicity of the constructors with one type parameter
    (`mono_*`; Optional through left-weakening, `wo_all`; the six together as `mono_cov`). -/
namespace Pcore.Lat
variable (cfg : Cfg) (sfh : Bool)

theorem str_accepts (x : Ty) (hx : isStringFamily x = true) (hp : x.plainR = true) : asg cfg sfh .str x = true :=
  asg_of_recv cfg sfh (.inl hp) (by unfold asgRecv; exact hx)

theorem enum_recv_enum (ws vs : List String) (cj ci : Bool) (hws : ws ≠ []) (hvs : vs ≠ []) (hc : cj = true ∨ ci = false)
    (h : ∀ s ∈ vs, (if cj then cfg.lower s else s) ∈ ws) : asg cfg sfh (.enum ws cj) (.enum vs ci) = true := by
  apply asg_of_recv cfg sfh (.inl rfl)
  unfold asgRecv
  have h1 : ws.isEmpty = false := by cases ws <;> simp_all
  have h2 : vs.isEmpty = false := by cases vs <;> simp_all
  simp only [h1, h2, Bool.false_eq_true, if_false, Bool.not_false, Bool.true_and, Bool.and_eq_true, Bool.or_eq_true,
    Bool.not_eq_true', List.all_eq_true]
  refine ⟨hc, fun s hs => ?_⟩
  simp only [enumInst, h1, Bool.false_or, List.elem_eq_mem, decide_eq_true_eq]
  exact h s hs

theorem enum_recv_strVal (ws : List String) (cj : Bool) (s : String) (hws : ws ≠ [])
    (h : (if cj then cfg.lower s else s) ∈ ws) : asg cfg sfh (.enum ws cj) (.strVal s) = true := by
  apply asg_of_recv cfg sfh (.inl rfl)
  unfold asgRecv
  have h1 : ws.isEmpty = false := by cases ws <;> simp_all
  simp only [h1, Bool.false_eq_true, if_false, enumInst, Bool.false_or, List.elem_eq_mem, decide_eq_true_eq]
  exact h

theorem enum_eq_asg (vs vs' : List String) (ci : Bool) (hwf : ci = true → ∀ x ∈ vs', cfg.lower x = x)
    (hlen : vs.length = vs'.length) (hsub : subsetStr vs' vs = true) : asg cfg sfh (.enum vs ci) (.enum vs' ci) = true := by
  by_cases he : vs = []
  · subst he; exact asg_of_recv cfg sfh (.inl rfl) (by unfold asgRecv; simp [isStringFamily])
  · have he' : vs' ≠ [] := fun e => he (List.length_eq_zero_iff.1 (by rw [hlen, e]; rfl))
    refine enum_recv_enum cfg sfh vs vs' ci ci he he' (by cases ci <;> simp) fun s hs => ?_
    simp only [subsetStr, List.all_eq_true, List.elem_eq_mem, decide_eq_true_eq] at hsub
    cases ci with
    | false => exact hsub s hs
    | true => simp only [if_true]; rw [hwf rfl s hs]; exact hsub s hs

theorem pattern_recv_pattern (rs xs : List String) (hne : rs ≠ [] → xs ≠ []) (hs : ∀ x ∈ xs, x ∈ rs) :
    asg cfg sfh (.pattern rs) (.pattern xs) = true := by
  apply asg_of_recv cfg sfh (.inl rfl)
  unfold asgRecv
  cases rs with
  | nil => rfl
  | cons r rs =>
    have : xs.isEmpty = false := by cases xs <;> simp_all
    simp only [List.isEmpty_cons, this, Bool.not_false, Bool.true_and, Bool.false_or, subsetStr, List.all_eq_true, List.elem_eq_mem,
      decide_eq_true_eq]
    exact hs

theorem asg_runtime_of {rt nm : String} {pt : Option String} {rt' nm' : String} {pt' : Option String}
    (h : rtAcc rt nm pt rt' nm' pt' = true) : asg cfg sfh (.runtime rt nm pt) (.runtime rt' nm' pt') = true :=
  asg_of_recv cfg sfh (.inl rfl) (by rw [recv_runtime_eq]; exact h)

theorem asg_callable_of {ps rt bl ps' rt' bl' : Option Ty} (h : callAcc cfg sfh ps rt bl ps' rt' bl' = true) :
    asg cfg sfh (.callable ps rt bl) (.callable ps' rt' bl') = true :=
  asg_of_recv cfg sfh (.inl rfl) (by rw [recv_callable_eq]; exact h)

theorem asg_array_of {e e' : Ty} {r r' : Rng} (hr : r'.sub r = true) (he : r.hi ≤ 0 ∨ asg cfg sfh e' e = true) :
    asg cfg sfh (.array e' r') (.array e r) = true := by
  rw [asg_array_array, hr, Bool.true_and, Bool.or_eq_true, decide_eq_true_eq]; exact he

theorem asg_hash_of {k k' v v' : Ty} {r r' : Rng} (hr : r'.sub r = true)
    (h : r.hi ≤ 0 ∨ (asg cfg sfh k' k = true ∧ asg cfg sfh v' v = true)) : asg cfg sfh (.hash k' v' r') (.hash k v r) = true := by
  rw [asg_hash_hash, hr, Bool.true_and, Bool.or_eq_true, Bool.and_eq_true, decide_eq_true_eq]; exact h

/-- Array ⊒ Tuple (`tupleAssignableTo`): the size range accepts the Tuple's, and the element type every declared type (Any for a Tuple
    that declares none) -/
theorem asg_array_tuple_of {c : Ty} {rr : Rng} (xs : List Ty) (gx : Option Rng) (hs : rr.sub (tupleSize xs gx) = true)
    (hemp : xs = [] → asg cfg sfh c .any = true) (hall : ∀ t ∈ xs, asg cfg sfh c t = true) :
    asg cfg sfh (.array c rr) (.tuple xs gx) = true := by
  apply asg_of_recv cfg sfh (.inl rfl)
  unfold asgRecv
  simp only [hs, Bool.true_and]
  split
  · rfl
  · split
    · rename_i he
      exact hemp (by simpa [List.isEmpty_iff] using he)
    · rename_i he
      have hne : xs ≠ [] := by intro h; subst h; simp at he
      rw [tupZipL_iff cfg sfh _ xs _ hne]
      exact fun j t _ hget => hall t (List.mem_of_getElem? hget)

theorem tuple_pointwise (xs ys : List Ty) (gx gy : Option Rng) (hl : xs.length = ys.length) (hs : tupleSize xs gx = tupleSize ys gy)
    (hp : ∀ (i : Nat) (x y : Ty), xs[i]? = some x → ys[i]? = some y → asg cfg sfh x y = true) :
    asg cfg sfh (.tuple xs gx) (.tuple ys gy) = true := by
  apply asg_of_recv cfg sfh (.inl rfl)
  unfold asgRecv
  simp only [hs, Rng.sub_refl, Bool.true_and, Bool.or_eq_true]
  by_cases hx : xs = []
  · left; simp [hx]
  · right
    have hy : ys ≠ [] := by intro hy; subst hy; simp at hl; exact hx hl
    have hne : ¬ (ys.isEmpty = true) := by simp [List.isEmpty_iff, hy]
    rw [if_neg hne, tupZip_iff cfg sfh xs ys _ hx hy]
    intro i x y _ _ hxi hyi
    rw [hl] at hxi
    exact hp _ x y hxi hyi

theorem struct_eq_asg (ms ms' : List Member) (hn : NamesNodup ms) (hn' : NamesNodup ms')
    (hnames : ms.map (·.1) = ms'.map (·.1))
    (hall : ∀ m ∈ ms, ∃ m' ∈ ms', m'.1 = m.1 ∧ m'.2.1 = m.2.1 ∧ asg cfg sfh m.2.2 m'.2.2 = true) :
    asg cfg sfh (.struct ms) (.struct ms') = true := by
  refine asg_of_recv cfg sfh (.inl rfl) ((struct_recv_iff cfg sfh ms ms' hn hn').2 ⟨fun m hm => ?_, fun m' hm' => ?_⟩)
  · obtain ⟨m₀, hm₀, h1, h2, h3⟩ := hall m hm
    refine ⟨fun m' hm' hk => ?_, fun hno => absurd h1 (hno m₀ hm₀)⟩
    -- names are pairwise different: the member of that name is the one `hall` gives
    cases nodup_key_inj hn' hm' hm₀ (hk.trans h1.symm)
    simp [h2, h3]
  · have : m'.1 ∈ ms.map (·.1) := by rw [hnames]; exact List.mem_map_of_mem hm'
    obtain ⟨m, hm, hmn⟩ := List.mem_map.1 this
    exact ⟨m, hm, hmn⟩

/-! ### monotonicity: a constructor applied to a type that accepts more accepts more — directly by the receiver rule, except NotUndef
    (`nu_accepts`, with the two facts on Undef it needs before it) and Optional (left-weakening) -/
theorem mono_array (a b : Ty) (r : Rng) (h : asg cfg sfh a b = true) : asg cfg sfh (.array a r) (.array b r) = true :=
  asg_array_of cfg sfh (Rng.sub_refl r) (.inr h)

theorem mono_hash (k k' v v' : Ty) (r : Rng) (hk : asg cfg sfh k k' = true) (hv : asg cfg sfh v v' = true) :
    asg cfg sfh (.hash k v r) (.hash k' v' r) = true := asg_hash_of cfg sfh (Rng.sub_refl r) (.inr ⟨hk, hv⟩)

theorem mono_typ (a b : Ty) (h : asg cfg sfh a b = true) : asg cfg sfh (.typ a) (.typ b) = true :=
  asg_of_recv cfg sfh (.inl rfl) (by unfold asgRecv; exact h)

theorem mono_sensitive (a b : Ty) (h : asg cfg sfh a b = true) : asg cfg sfh (.sensitive a) (.sensitive b) = true :=
  asg_of_recv cfg sfh (.inl rfl) (by unfold asgRecv; exact h)

theorem mono_iterator (a b : Ty) (h : asg cfg sfh a b = true) : asg cfg sfh (.iterator a) (.iterator b) = true :=
  asg_of_recv cfg sfh (.inl rfl) (by unfold asgRecv; exact h)

theorem mono_iterable (a b : Ty) (h : asg cfg sfh a b = true) : asg cfg sfh (.iterable a) (.iterable b) = true :=
  asg_of_recv cfg sfh (.inl rfl) (by unfold asgRecv; exact h)

theorem asg_optional_undef (a : Ty) : asg cfg sfh (.optional a) .undef = true :=
  asg_of_recv cfg sfh (.inl rfl) (by unfold asgRecv; simp [asg_undef_undef])

theorem asg_alias_undef : asg cfg sfh .data .undef = true ∧ asg cfg sfh .richData .undef = true :=
  ⟨asg_of_recv cfg sfh (.inl rfl) (by unfold asgRecv; simp [asg_undef_undef]), asg_of_recv cfg sfh (.inl rfl) (by unfold asgRecv; simp [asg_undef_undef])⟩

/-- `NotUndef[x]` accepts what `x` accepts and what itself rejects Undef: such a right-hand side decomposes (Variant, strict NotUndef)
    only into types that reject Undef too; Optional and the two aliases accept Undef -/
theorem nu_accepts (x b : Ty) (hu : asg cfg sfh b .undef = false) (h : asg cfg sfh x b = true) :
    asg cfg sfh (.notUndef x) b = true := by
  revert hu
  refine asg_rhs_ind cfg sfh x (P := fun b => asg cfg sfh b .undef = false → asg cfg sfh (.notUndef x) b = true)
    (fun _ => asg_unit_r cfg sfh _) ?_ ?_ ?_ ?_ ?_ ?_ b h
  · intro b hp h hu
    apply asg_of_recv cfg sfh hp
    rcases hp with hp | ⟨nt, rfl, _⟩
    · rw [recv_nu_plain cfg sfh hp, hu, h]; rfl
    · rw [recv_nu_nu, h, Bool.or_true]
  · intro _ hu; rw [(asg_alias_undef cfg sfh).1] at hu; cases hu
  · intro _ hu; rw [(asg_alias_undef cfg sfh).2] at hu; cases hu
  · intro ot _ _ _ _ hu; rw [asg_optional_undef] at hu; cases hu
  · intro bs hm hu
    refine asg_variant_of cfg sfh fun t ht => (hm t ht).2 ?_
    cases hh : asg cfg sfh t .undef with
    | false => rfl
    | true => rw [wv_all cfg sfh ht hh] at hu; cases hu
  · exact fun nt hc _ p _ => asg_nu_of_strict cfg sfh hc (p hc)

theorem mono_notUndef (a b : Ty) (h : asg cfg sfh a b = true) : asg cfg sfh (.notUndef a) (.notUndef b) = true := by
  cases hc : asg cfg sfh b .undef with
  | true => exact asg_of_recv cfg sfh (.inr ⟨b, rfl, hc⟩) (by rw [recv_nu_nu, h]; rfl)
  | false => exact asg_nu_of_strict cfg sfh hc (nu_accepts cfg sfh a b hc h)

theorem mono_optional (a b : Ty) (h : asg cfg sfh a b = true) : asg cfg sfh (.optional a) (.optional b) = true :=
  asg_optional_of cfg sfh (asg_optional_undef cfg sfh a) (wo_all cfg sfh h)

theorem mono_cov {c : Ty → Ty} (hc : Cov c) {a b : Ty} (h : asg cfg sfh a b = true) : asg cfg sfh (c a) (c b) = true := by
  cases hc
  · exact mono_optional cfg sfh a b h
  · exact mono_notUndef cfg sfh a b h
  · exact mono_typ cfg sfh a b h
  · exact mono_sensitive cfg sfh a b h
  · exact mono_iterator cfg sfh a b h
  · exact mono_iterable cfg sfh a b h

end Pcore.Lat

import Pcore.Model.ConcQueue
/-! The declare / resolve queue (C13_queue_…), first of three files (the invariant is in `ConcQueueInv.lean`, the induction over the
    steps in `ConcQueueStep.lean`).  First the accounts the invariant is stated with: what each thread has taken over, bound and
    resolved (`batch`, `bdone`, `rdone`), counted over all threads by `occ`.  Last, for the witnesses of Props/C13 only: what the
    deterministic scheduler executes is reachable (the `reachable_…` lemmas are those of `Proofs/LoaderConc.lean` over again: each
    model has its own `Reachable` and its own scheduler). -/
namespace Pcore.ConcQueue

/-- the items a thread has taken over and not yet finished with -/
def batch : PC → List Item
  | .idle => []
  | .bindRead _ b _ _ | .bindSet _ b _ _ _ | .resRead _ b _ _ | .resCall _ b _ _ _ => b

/-- … those of them it has bound -/
def bdone : PC → List Item
  | .idle => []
  | .bindRead _ b i _ | .bindSet _ b i _ _ => b.take i
  | .resRead _ b _ _ | .resCall _ b _ _ _ => b

/-- … and resolved -/
def rdone : PC → List Item
  | .idle | .bindRead _ _ _ _ | .bindSet _ _ _ _ _ => []
  | .resRead _ b i _ | .resCall _ b i _ _ => b.take i

def occ (f : PC → List Item) (x : Item) (ths : List Thread) : Nat := (ths.map fun t => (f t.pc).count x).sum

theorem occ_set (f : PC → List Item) (x : Item) (ths : List Thread) (i : Nat) (t t' : Thread) (h : ths[i]? = some t) :
    occ f x (ths.set i t') + (f t.pc).count x = occ f x ths + (f t'.pc).count x := by
  induction ths generalizing i with
  | nil => simp at h
  | cons hd tl ih =>
    cases i with
    | zero =>
      simp only [List.getElem?_cons_zero, Option.some.injEq] at h
      subst h
      simp only [occ, List.set_cons_zero, List.map_cons, List.sum_cons]
      omega
    | succ j =>
      simp only [List.getElem?_cons_succ] at h
      have := ih j h
      simp only [occ, List.set_cons_succ, List.map_cons, List.sum_cons] at this ⊢
      omega

theorem occ_ge (f : PC → List Item) (x : Item) (ths : List Thread) (t : Thread) (h : t ∈ ths) :
    (f t.pc).count x ≤ occ f x ths := by
  induction ths with
  | nil => cases h
  | cons hd tl ih =>
    simp only [occ, List.map_cons, List.sum_cons]
    rcases List.mem_cons.mp h with rfl | h'
    · omega
    · have := ih h'
      simp only [occ] at this
      omega

theorem occ_le_occ (f g : PC → List Item) (x : Item) (ths : List Thread) (h : ∀ pc, (f pc).count x ≤ (g pc).count x) :
    occ f x ths ≤ occ g x ths := by
  induction ths with
  | nil => simp [occ]
  | cons hd tl ih =>
    simp only [occ, List.map_cons, List.sum_cons] at ih ⊢
    have := h hd.pc
    omega

theorem occ_idle (f : PC → List Item) (hf : f .idle = []) (x : Item) (ths : List Thread) (h : ∀ t ∈ ths, t.pc = .idle) :
    occ f x ths = 0 := by
  unfold occ
  rw [List.sum_eq_zero_iff_forall_eq_nat]
  intro n hn
  obtain ⟨t, ht, rfl⟩ := List.mem_map.mp hn
  rw [h t ht, hf]; rfl

theorem reachable_runToYield (cfg : Cfg) (c0 : Config) (fuel : Nat) (c : Config) (i : Nat) (h : Reachable cfg c0 c) :
    Reachable cfg c0 (runToYield cfg fuel c i) := by
  induction fuel generalizing c with
  | zero => exact h
  | succ f ih =>
    simp only [runToYield]
    split
    · exact h
    · split
      · exact h
      · exact ih _ (Reachable.step i h)

theorem reachable_release (cfg : Cfg) (c0 c : Config) (i : Nat) (h : Reachable cfg c0 c) : Reachable cfg c0 (release cfg c i) := by
  unfold release
  split
  · exact h
  · split
    · exact h
    · exact reachable_runToYield cfg c0 _ _ i (Reachable.step i h)

theorem reachable_runSched (cfg : Cfg) (c0 c : Config) (sched : List Nat) (h : Reachable cfg c0 c) :
    Reachable cfg c0 (runSched cfg c sched) := by
  induction sched generalizing c with
  | nil => exact h
  | cons i rest ih => exact ih _ (reachable_release cfg c0 c i h)

theorem reachable_drainThread (cfg : Cfg) (c0 : Config) (fuel : Nat) (c : Config) (i : Nat) (h : Reachable cfg c0 c) :
    Reachable cfg c0 (drainThread cfg fuel c i) := by
  induction fuel generalizing c with
  | zero => exact h
  | succ f ih =>
    simp only [drainThread]
    split
    · exact h
    · split
      · exact h
      · exact ih _ (reachable_release cfg c0 c i h)

theorem reachable_drainAll (cfg : Cfg) (c0 c : Config) (h : Reachable cfg c0 c) : Reachable cfg c0 (drainAll cfg c) := by
  unfold drainAll
  generalize List.range c.th.length = is
  induction is generalizing c with
  | nil => exact h
  | cons i rest ih => exact ih _ (reachable_drainThread cfg c0 _ c i h)

theorem reachable_execute (cfg : Cfg) (pend : Nat) (progs : List (List QOp)) (sched : List Nat) :
    Reachable cfg (Config.init cfg pend progs) (execute cfg pend progs sched) :=
  reachable_drainAll _ _ _ (reachable_runSched _ _ _ sched Reachable.init)

end Pcore.ConcQueue

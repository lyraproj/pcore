import Pcore.Model.Object
import Pcore.Proofs.ListFacts
/-! C17, the instance side; on the model and Proofs/ListFacts only (core Lean).  The other Proofs/Object* modules build on it:
    ObjectDefine next, the rest on that one (ObjectAsg on this file alone; ObjectSchema stands apart, on ListFacts).
    In this order: what an instance denotes (`den`); positions by name (`nameToPos`); the layout invariant `WF` — declared here,
    established in Proofs/ObjectDefine (`define_wf`) — and `Get` as a reading of the denotation; `Equals` as a function of two
    denotations, and the names it compares (`eqAttrNames`); the dispatcher's test `allInst`; the two hashes written by name
    (`hashOf`); `trim`. -/
namespace Pcore.Object

/-! ### an optional attribute has an implicit value; with it an instance denotes one value per position (`den`) -/

/-- the attribute values an object denotes: the stored values, then the implicit value of every omitted position -/
def den (attrs : List Attr) (vs : List Val) : List Val := vs ++ (attrs.drop vs.length).map Attr.implicitT

theorem optional_cases {a : Attr} (h : a.optional = true) :
    (a.kind = .givenOrDerived ∧ a.implicitT = .undef) ∨ (a.kind ≠ .givenOrDerived ∧ a.value = some a.implicitT) := by
  unfold Attr.optional Attr.hasValue at h
  unfold Attr.implicitT
  by_cases hk : a.kind = .givenOrDerived
  · exact Or.inl ⟨hk, by simp [hk]⟩
  · cases hv : a.value with
    | none => simp [hk, hv] at h
    | some v => exact Or.inr ⟨hk, by simp [hk]⟩

theorem implicit_of_optional {a : Attr} (h : a.optional = true) : a.implicit = .ok a.implicitT := by
  unfold Attr.implicit
  rcases optional_cases h with ⟨hk, hi⟩ | ⟨hk, hv⟩
  · simp [hk, hi]
  · simp [hk, hv]

theorem fillOne_of_optional {a : Attr} (h : a.optional = true) : fillOne a = .ok a.implicitT := by
  unfold fillOne
  rcases optional_cases h with ⟨hk, hi⟩ | ⟨hk, hv⟩
  · simp [hk, hi]
  · simp [hk, hv]

theorem fillAll_eq {es : List (String × Val)} {attrs : List Attr}
    (h : ∀ a ∈ attrs, a.optional = true ∨ (es.lookup a.name).isSome = true) :
    fillAll es attrs = .ok (attrs.map (fun a => (es.lookup a.name).getD a.implicitT)) := by
  induction attrs with
  | nil => rfl
  | cons a as ih =>
    have ih' := ih (fun b hb => h b (by simp [hb]))
    unfold fillAll
    rw [ih']
    cases hl : List.lookup a.name es with
    | some v => simp [hl]
    | none =>
      have := h a (by simp)
      rw [hl] at this
      simp at this
      simp [fillOne_of_optional this, hl]

theorem den_length {attrs : List Attr} {vs : List Val} (h : vs.length ≤ attrs.length) :
    (den attrs vs).length = attrs.length := by
  simp [den]; omega

@[simp] theorem den_cons (a : Attr) (as : List Attr) (v : Val) (vs : List Val) :
    den (a :: as) (v :: vs) = v :: den as vs := by simp [den]

@[simp] theorem den_nil_cons (a : Attr) (as : List Attr) : den (a :: as) [] = a.implicitT :: den as [] := by simp [den]

theorem den_full {attrs : List Attr} {vs : List Val} (h : attrs.length ≤ vs.length) : den attrs vs = vs := by
  simp [den, List.drop_eq_nil_of_le h]

theorem den_get {attrs : List Attr} {vs : List Val} {i : Nat} {a : Attr} (ha : attrs[i]? = some a) :
    (den attrs vs)[i]? = some ((vs[i]?).getD a.implicitT) := by
  induction attrs generalizing vs i with
  | nil => cases ha
  | cons b bs ih =>
    cases i with
    | zero => cases ha; cases vs <;> rfl
    | succ j =>
      have ha' : bs[j]? = some a := ha
      cases vs with
      | nil => simpa using ih (vs := []) ha'
      | cons v vs => simpa using ih (vs := vs) ha'

/-! ### `nameToPos`: under distinct names, the position of an attribute is found by its name -/

/-- (`nameToPos` has the recursion of `Coll.OMap.lidx`, the last entry of a key, on a list that carries no values) -/
theorem nameToPos_get {attrs : List Attr} {n : String} {i : Nat} (h : nameToPos attrs n = some i) :
    ∃ a, attrs[i]? = some a ∧ a.name = n := by
  fun_induction nameToPos attrs n generalizing i with
  | case1 => cases h
  | case2 a as n j hr ih => cases h; exact ih hr
  | case3 a as n hr hn ih => cases h; exact ⟨a, rfl, eq_of_beq hn⟩
  | case4 => cases h

theorem nameToPos_lt {attrs : List Attr} {n : String} {i : Nat} (h : nameToPos attrs n = some i) : i < attrs.length :=
  let ⟨_, ha, _⟩ := nameToPos_get h
  (List.getElem?_eq_some_iff.mp ha).1

theorem nameToPos_inj {attrs : List Attr} {m n : String} {j : Nat} (hm : nameToPos attrs m = some j)
    (hn : nameToPos attrs n = some j) : m = n := by
  obtain ⟨b, hb, rfl⟩ := nameToPos_get hm
  obtain ⟨b', hb', rfl⟩ := nameToPos_get hn
  rw [hb] at hb'
  cases hb'
  rfl

theorem nameToPos_none {attrs : List Attr} {n : String} : nameToPos attrs n = none ↔ ∀ a ∈ attrs, a.name ≠ n := by
  fun_induction nameToPos attrs n with
  | case1 => simp
  | case2 a as n j hr ih =>
    obtain ⟨b, hb, hn⟩ := nameToPos_get hr
    exact ⟨(fun h => nomatch h), fun h => absurd hn (h b (List.mem_cons_of_mem _ (List.mem_of_getElem? hb)))⟩
  | case3 a as n hr hn ih => exact ⟨(fun h => nomatch h), fun h => absurd (eq_of_beq hn) (h a List.mem_cons_self)⟩
  | case4 a as n hr hn ih =>
    refine ⟨fun _ b hb => ?_, fun _ => rfl⟩
    rcases List.mem_cons.mp hb with rfl | hb
    · exact fun h => hn (beq_iff_eq.mpr h)
    · exact ih.mp hr b hb

theorem nameToPos_of_nodup {attrs : List Attr} (hnd : (attrs.map (·.name)).Nodup) {i : Nat} {a : Attr}
    (h : attrs[i]? = some a) : nameToPos attrs a.name = some i := by
  cases hp : nameToPos attrs a.name with
  | none => exact absurd rfl (nameToPos_none.mp hp a (List.mem_of_getElem? h))
  | some j =>
    obtain ⟨b, hb, hbn⟩ := nameToPos_get hp
    rw [nodup_key_idx_inj hnd hb h hbn]

/-! ### the layout invariant `WF` (established by `define_wf`, Proofs/ObjectDefine), and `Get` of an instance that holds the
    required positions: it reads the denotation -/

def TailOpt (attrs : List Attr) (k : Nat) : Prop := ∀ i a, attrs[i]? = some a → k ≤ i → a.optional = true

/-- a given_or_derived attribute has no declared value (its implicit one is `undef`) -/
def AttrGod (a : Attr) : Prop := a.kind = .givenOrDerived → ∀ v, a.value = some v → v = .undef

/-- a given_or_derived attribute never has a declared value (attribute.initialize rejects it) -/
def GodUndef (attrs : List Attr) : Prop := ∀ a ∈ attrs, a.kind = .givenOrDerived → ∀ v, a.value = some v → v = .undef

/-- what every accepted definition of the universe satisfies (`define_wf`) -/
structure WF (t : OType) : Prop where
  nodup : ((posAttrs t).map (·.name)).Nodup
  tailOpt : TailOpt (posAttrs t) (requiredCount t)
  god : GodUndef (posAttrs t)

theorem isDefault_iff {a : Attr} {v : Val} : a.isDefault v = true ↔ a.value = some v := by
  simp [Attr.isDefault]

theorem implicitT_of_isDefault {a : Attr} {v : Val} (hg : AttrGod a)
    (h : a.isDefault v = true) : a.implicitT = v := by
  have hv := isDefault_iff.mp h
  unfold Attr.implicitT
  by_cases hk : a.kind = .givenOrDerived
  · simp [hk, hg hk v hv]
  · simp [hk, hv]

theorem valueAt_den {t : OType} {vs : List Val} {i : Nat} (hw : WF t) (hreq : requiredCount t ≤ vs.length)
    (hi : i < (posAttrs t).length) :
    ∃ v, valueAt (posAttrs t) vs i = .ok v ∧ (den (posAttrs t) vs)[i]? = some v := by
  have ha : (posAttrs t)[i]? = some (posAttrs t)[i] := List.getElem?_eq_getElem hi
  refine ⟨_, ?_, den_get ha⟩
  unfold valueAt
  cases hv : vs[i]? with
  | some v => rfl
  | none =>
    simp only [ha, Option.getD_none]
    exact implicit_of_optional (hw.tailOpt i _ ha (Nat.le_trans hreq (List.getElem?_eq_none_iff.mp hv)))

@[simp] theorem attrInfo_attrs (t : OType) : (attrInfo t).attrs = posAttrs t := rfl

@[simp] theorem attrInfo_required (t : OType) : (attrInfo t).required = requiredCount t := rfl

theorem get_pos {t : OType} {vs : List Val} {i : Nat} {a : Attr} (hw : WF t) (hreq : requiredCount t ≤ vs.length)
    (ha : (posAttrs t)[i]? = some a) :
    get { typ := t, values := vs } a.name = .ok ((den (posAttrs t) vs)[i]?) := by
  obtain ⟨v, hv, hd⟩ := valueAt_den (vs := vs) hw hreq (List.getElem?_eq_some_iff.mp ha).1
  unfold get
  simp only [attrInfo_attrs, nameToPos_of_nodup hw.nodup ha, hv, hd]

theorem get_eq {t : OType} {vs : List Val} {i : Nat} {a : Attr} (hw : WF t) (hreq : requiredCount t ≤ vs.length)
    (ha : (posAttrs t)[i]? = some a) :
    get { typ := t, values := vs } a.name = .ok (some ((vs[i]?).getD a.implicitT)) := by
  rw [get_pos hw hreq ha, den_get ha]

/-! ### `Equals` as a function of the two denotations, for either answer of "the types are Equal"; the names it compares
    (`eqAttrNames`) -/

theorem allOk_eq {f : Nat → Except Code Bool} {g : Nat → Bool} {l : List Nat} (h : ∀ i ∈ l, f i = .ok (g i)) :
    allOk f l = .ok (l.all g) := by
  induction l with
  | nil => rfl
  | cons i is ih =>
    have hi := h i (by simp)
    have ih' := ih (fun j hj => h j (by simp [hj]))
    unfold allOk
    rw [hi]
    cases hg : g i <;> simp [ih', hg]

theorem tyEq_refl (t : OType) : tyEq t t = true := by simp [tyEq]

theorem tyEq_iff {t o : OType} : tyEq t o = true ↔ t = o ∨ tyEqDeep t o = true := by
  simp [tyEq]

theorem eqPositions_eq (t : OType) : eqPositions t =
    if equalityDeclared t then (dedup (equalityAttributes t)).filterMap (nameToPos (posAttrs t))
    else List.range (posAttrs t).length := by
  unfold eqPositions attrInfo
  cases equalityDeclared t <;> rfl

theorem eqPositions_lt {t : OType} {i : Nat} (h : i ∈ eqPositions t) : i < (posAttrs t).length := by
  rw [eqPositions_eq] at h
  split at h
  · obtain ⟨n, _, hn⟩ := List.mem_filterMap.mp h
    exact nameToPos_lt hn
  · exact List.mem_range.mp h

theorem cmpValues_ok (v v' : Val) : cmpValues (.ok v) (.ok v') = .ok (v == v') := rfl

theorem cmpValues_valueAt {t t' : OType} {vs vs' : List Val} (hw : WF t) (hw' : WF t') (hreq : requiredCount t ≤ vs.length)
    (hreq' : requiredCount t' ≤ vs'.length) {i j : Nat} (hi : i < (posAttrs t).length) (hj : j < (posAttrs t').length) :
    cmpValues (valueAt (posAttrs t) vs i) (valueAt (posAttrs t') vs' j) =
      .ok ((den (posAttrs t) vs)[i]? == (den (posAttrs t') vs')[j]?) := by
  obtain ⟨v, hv, hd⟩ := valueAt_den (vs := vs) hw hreq hi
  obtain ⟨v', hv', hd'⟩ := valueAt_den (vs := vs') hw' hreq' hj
  rw [hv, hv', hd, hd', cmpValues_ok]
  simp

theorem equalsWith_den {t t' : OType} {vs vs' : List Val} (hw : WF t) (hreq : requiredCount t ≤ vs.length)
    (hreq' : requiredCount t ≤ vs'.length) :
    equalsWith true { typ := t, values := vs } { typ := t', values := vs' } =
      .ok ((eqPositions t).all (fun i => (den (posAttrs t) vs)[i]? == (den (posAttrs t) vs')[i]?)) := by
  unfold equalsWith
  simp only [if_true]
  exact allOk_eq fun i hi => cmpValues_valueAt hw hw hreq hreq' (eqPositions_lt hi) (eqPositions_lt hi)

theorem equalsWith_of_den_eq {t t' : OType} {vs vs' : List Val} (hw : WF t) (hreq : requiredCount t ≤ vs.length)
    (hreq' : requiredCount t ≤ vs'.length) (hd : den (posAttrs t) vs = den (posAttrs t) vs') :
    equalsWith true { typ := t, values := vs } { typ := t', values := vs' } = .ok true := by
  rw [equalsWith_den hw hreq hreq', hd]
  simp

/-- what `Equals` computes for one compared position of the receiver when the types differ -/
def crossStep (t t' : OType) (vs vs' : List Val) (i : Nat) : Bool :=
  match (posAttrs t)[i]? with
  | none => false
  | some a =>
    match nameToPos (posAttrs t') a.name with
    | none => false
    | some j => (eqPositions t').contains j && ((den (posAttrs t) vs)[i]? == (den (posAttrs t') vs')[j]?)

theorem crossStep_iff {t t' : OType} {vs vs' : List Val} {i : Nat} :
    crossStep t t' vs vs' i = true ↔ ∃ a j, (posAttrs t)[i]? = some a ∧ nameToPos (posAttrs t') a.name = some j ∧
      j ∈ eqPositions t' ∧ (den (posAttrs t) vs)[i]? = (den (posAttrs t') vs')[j]? := by
  unfold crossStep
  cases ha : (posAttrs t)[i]? with
  | none => simp
  | some a =>
    cases hj : nameToPos (posAttrs t') a.name with
    | none => simp [hj]
    | some j => simp [hj]

theorem crossCmp_eq {t t' : OType} {vs vs' : List Val} (hw : WF t) (hw' : WF t') (hreq : requiredCount t ≤ vs.length)
    (hreq' : requiredCount t' ≤ vs'.length) {i : Nat} (hlt : i < (posAttrs t).length) :
    crossCmp (posAttrs t) (posAttrs t') (eqPositions t') vs vs' i = .ok (crossStep t t' vs vs' i) := by
  unfold crossCmp crossStep
  simp only [List.getElem?_eq_getElem hlt]
  cases hj : nameToPos (posAttrs t') (posAttrs t)[i].name with
  | none => rfl
  | some j =>
    simp only [cmpValues_valueAt hw hw' hreq hreq' hlt (nameToPos_lt hj)]
    cases (eqPositions t').contains j <;> rfl

theorem equalsWith_cross {t t' : OType} {vs vs' : List Val} (hw : WF t) (hw' : WF t')
    (hreq : requiredCount t ≤ vs.length) (hreq' : requiredCount t' ≤ vs'.length) :
    equalsWith false { typ := t, values := vs } { typ := t', values := vs' } =
      .ok (!(includesType t || includesType t') && (eqPositions t).length == (eqPositions t').length &&
        (eqPositions t).all (crossStep t t' vs vs')) := by
  unfold equalsWith
  simp only [Bool.false_eq_true, if_false]
  by_cases hi : (includesType t || includesType t') = true
  · simp [hi]
  · simp only [hi, Bool.false_eq_true, if_false]
    by_cases hl : (eqPositions t).length = (eqPositions t').length
    · simp only [hl, bne_self_eq_false, Bool.false_eq_true, if_false]
      rw [allOk_eq (g := crossStep t t' vs vs') (fun i hmem => crossCmp_eq hw hw' hreq hreq' (eqPositions_lt hmem))]
      simp
    · simp [hl]

theorem mem_dedup {l : List String} {n : String} : n ∈ dedup l ↔ n ∈ l := by
  induction l with
  | nil => simp [dedup]
  | cons x xs ih =>
    simp only [dedup, List.mem_cons, List.mem_filter, ih]
    constructor
    · rintro (h | ⟨h, _⟩)
      · exact Or.inl h
      · exact Or.inr h
    · rintro (h | h)
      · exact Or.inl h
      · by_cases hx : n = x
        · exact Or.inl hx
        · exact Or.inr ⟨h, by simpa using hx⟩

theorem dedup_nodup (l : List String) : (dedup l).Nodup := by
  induction l with
  | nil => simp [dedup]
  | cons x xs ih =>
    simp only [dedup, List.nodup_cons, List.mem_filter]
    exact ⟨by simp, ih.filter _⟩

/-- names of the attributes `Equals` compares: the declared equality attributes (each once) that have a position, or every
    positional attribute when no equality is declared anywhere in the chain -/
def eqAttrNames (t : OType) : List String :=
  if equalityDeclared t then (dedup (equalityAttributes t)).filter (fun n => (nameToPos (posAttrs t) n).isSome)
  else (posAttrs t).map (·.name)

theorem mem_eqPositions {t : OType} (hnd : ((posAttrs t).map (·.name)).Nodup) {i : Nat} :
    i ∈ eqPositions t ↔ ∃ n ∈ eqAttrNames t, nameToPos (posAttrs t) n = some i := by
  rw [eqPositions_eq, eqAttrNames]
  split
  · simp only [List.mem_filterMap, List.mem_filter]
    constructor
    · rintro ⟨n, hn, hi⟩; exact ⟨n, ⟨hn, by simp [hi]⟩, hi⟩
    · rintro ⟨n, ⟨hn, _⟩, hi⟩; exact ⟨n, hn, hi⟩
  · simp only [List.mem_range, List.mem_map]
    constructor
    · intro hi
      have ha : (posAttrs t)[i]? = some (posAttrs t)[i] := List.getElem?_eq_getElem hi
      exact ⟨(posAttrs t)[i].name, ⟨_, List.mem_of_getElem? ha, rfl⟩, nameToPos_of_nodup hnd ha⟩
    · rintro ⟨n, _, hi⟩; exact nameToPos_lt hi

theorem eqAttrNames_pos {t : OType} (hnd : ((posAttrs t).map (·.name)).Nodup) {n : String} (h : n ∈ eqAttrNames t) :
    ∃ i, nameToPos (posAttrs t) n = some i := by
  unfold eqAttrNames at h
  by_cases hd : equalityDeclared t = true
  · simp only [hd, if_true, List.mem_filter] at h
    exact Option.isSome_iff_exists.mp h.2
  · simp only [hd, Bool.false_eq_true, if_false, List.mem_map] at h
    obtain ⟨a, ha, rfl⟩ := h
    obtain ⟨i, hi⟩ := List.getElem?_of_mem ha
    exact ⟨i, nameToPos_of_nodup hnd hi⟩

theorem eqPositions_length (t : OType) : (eqPositions t).length = (eqAttrNames t).length := by
  rw [eqPositions_eq, eqAttrNames]
  split
  · rw [List.length_filterMap_eq_countP, List.countP_eq_length_filter]
  · simp

theorem eqAttrNames_nodup {t : OType} (hnd : ((posAttrs t).map (·.name)).Nodup) : (eqAttrNames t).Nodup := by
  unfold eqAttrNames
  by_cases hd : equalityDeclared t = true
  · simp only [hd, if_true]; exact (dedup_nodup _).filter _
  · simp only [hd, Bool.false_eq_true, if_false]; exact hnd

/-! ### the positional dispatcher's test `allInst`, pointwise; `tyInit` only widens a type -/

theorem allInst_iff {attrs : List Attr} {vs : List Val} : allInst attrs vs = true ↔
    vs.length ≤ attrs.length ∧ ∀ (i : Nat) (a : Attr) (v : Val), attrs[i]? = some a → vs[i]? = some v → inst a.ty v = true := by
  fun_induction allInst attrs vs with
  | case1 => simp
  | case2 => simp
  | case3 b bs w ws ih =>
    rw [Bool.and_eq_true, ih, List.length_cons, List.length_cons, Nat.succ_le_succ_iff]
    constructor
    · rintro ⟨h0, hl, hr⟩
      refine ⟨hl, fun i a v ha hv => ?_⟩
      cases i with
      | zero => cases ha; cases hv; exact h0
      | succ j => exact hr j a v ha hv
    · rintro ⟨hl, hr⟩
      exact ⟨hr 0 b w rfl rfl, hl, fun i a v ha hv => hr (i + 1) a v ha hv⟩

theorem allInst_get {attrs : List Attr} {vs : List Val} (h : allInst attrs vs = true) {i : Nat} {a : Attr} {v : Val}
    (ha : attrs[i]? = some a) (hv : vs[i]? = some v) : inst a.ty v = true := (allInst_iff.mp h).2 i a v ha hv

theorem allInst_length {attrs : List Attr} {vs : List Val} (h : allInst attrs vs = true) : vs.length ≤ attrs.length :=
  (allInst_iff.mp h).1

theorem allInst_prefix {attrs : List Attr} {p r : List Val} (h : allInst attrs (p ++ r) = true) : allInst attrs p = true := by
  rw [allInst_iff] at h ⊢
  refine ⟨by have := h.1; rw [List.length_append] at this; omega, fun i a v ha hv => h.2 i a v ha ?_⟩
  rw [List.getElem?_append_left (List.getElem?_eq_some_iff.mp hv).1]
  exact hv

theorem allElems_mono {p q : Val → Bool} (h : ∀ v, p v = true → q v = true) :
    ∀ v, allElems p v = true → allElems q v = true := by
  intro v
  induction v with
  | acons x t _ iht =>
    intro hv
    simp only [allElems, Bool.and_eq_true] at hv ⊢
    exact ⟨h x hv.1, iht hv.2⟩
  | anil => intro _; rfl
  | _ => intro hv; simp [allElems] at hv

/-- the type the named constructor's init Struct gives an attribute (`typeAndInit`) accepts whatever the attribute's own
    type accepts (and, for `NotUndef[T]`, undef besides) -/
theorem inst_tyInit (t : Ty) : ∀ v, inst t v = true → inst (tyInit t) v = true := by
  induction t with
  | opt t ih =>
    intro v h
    simp only [tyInit, inst, Bool.or_eq_true] at h ⊢
    rcases h with h | h
    · exact Or.inl h
    · exact Or.inr (ih v h)
  | notUndef t ih =>
    intro v h
    simp only [tyInit, inst, Bool.and_eq_true, Bool.or_eq_true] at h ⊢
    exact Or.inr (ih v h.2)
  | variant a b iha ihb =>
    intro v h
    simp only [tyInit, inst, Bool.or_eq_true] at h ⊢
    rcases h with h | h
    · exact Or.inl (iha v h)
    · exact Or.inr (ihb v h)
  | array t ih =>
    intro v h
    simp only [tyInit, inst] at h ⊢
    exact allElems_mono ih v h
  | _ => intro v h; exact h

/-! ### the values written by name: the argument hash (`toHash`) and the init-hash (`makeValueHash`) are both `hashOf`; what
    `makeValueHash` leaves out (`skips`) is implicit anyway -/

/-- makeValueHash leaves this value out -/
def skips (a : Attr) (v : Val) : Bool := (a.hasValue && a.value == some v) || (a.kind == .givenOrDerived && v == .undef)

theorem skips_implicitT {a : Attr} (h : a.optional = true) : skips a a.implicitT = true := by
  unfold skips Attr.hasValue
  rcases optional_cases h with ⟨hk, hi⟩ | ⟨hk, hv⟩
  · simp [hk, hi]
  · simp [hv]

theorem optional_of_skips {a : Attr} {v : Val} (h : skips a v = true) : a.optional = true := by
  unfold skips at h
  unfold Attr.optional
  simp only [Bool.or_eq_true, Bool.and_eq_true] at h ⊢
  exact h.elim (fun h => Or.inr h.1) (fun h => Or.inl h.1)

theorem mvh_cons (a : Attr) (as : List Attr) (v : Val) (vs : List Val) :
    makeValueHash (a :: as) (v :: vs) = if skips a v then makeValueHash as vs else (a.name, v) :: makeValueHash as vs :=
  rfl

theorem implicitT_of_skips {a : Attr} {v : Val} (hg : AttrGod a)
    (h : skips a v = true) : a.implicitT = v := by
  unfold skips at h
  simp only [Bool.or_eq_true, Bool.and_eq_true] at h
  rcases h with ⟨_, h⟩ | ⟨hk, hv⟩
  · exact implicitT_of_isDefault hg (isDefault_iff.mpr (eq_of_beq h))
  · have hk' : a.kind = .givenOrDerived := by simpa using hk
    have hv' : v = .undef := by simpa using hv
    simp [Attr.implicitT, hk', hv']

theorem mvh_nil (attrs : List Attr) : makeValueHash attrs [] = [] := by cases attrs <;> rfl

theorem skips_of_isDefault {a : Attr} {v : Val} (h : a.isDefault v = true) : skips a v = true := by
  simp [skips, Attr.hasValue, isDefault_iff.mp h]

/-- the hash a positional argument list stands for -/
def toHash : List Attr → List Val → List (String × Val)
  | a :: as, v :: vs => (a.name, v) :: toHash as vs
  | _, _ => []

/-- the hash of the values that `keep` says to write, each under its attribute's name: the argument of the named
    constructor (`toHash`: all of them) and the init-hash (`makeValueHash`: those that are not implicit anyway) -/
def hashOf (keep : Attr → Val → Bool) : List Attr → List Val → List (String × Val)
  | a :: as, v :: vs => if keep a v then (a.name, v) :: hashOf keep as vs else hashOf keep as vs
  | _, _ => []

theorem hashOf_nil (keep : Attr → Val → Bool) (attrs : List Attr) : hashOf keep attrs [] = [] := by
  cases attrs <;> rfl

theorem toHash_eq (attrs : List Attr) (vs : List Val) : toHash attrs vs = hashOf (fun _ _ => true) attrs vs := by
  induction attrs generalizing vs with
  | nil => rfl
  | cons a as ih =>
    cases vs with
    | nil => rfl
    | cons v vs => rw [toHash, hashOf, ih, if_pos rfl]

theorem mvh_eq (attrs : List Attr) (vs : List Val) :
    makeValueHash attrs vs = hashOf (fun a v => !skips a v) attrs vs := by
  induction attrs generalizing vs with
  | nil => rfl
  | cons a as ih =>
    cases vs with
    | nil => rfl
    | cons v vs =>
      rw [mvh_cons, hashOf, ih]
      cases skips a v <;> rfl

theorem mem_hashOf {keep : Attr → Val → Bool} {attrs : List Attr} {vs : List Val} {e : String × Val}
    (h : e ∈ hashOf keep attrs vs) : ∃ (i : Nat) (a : Attr), attrs[i]? = some a ∧ vs[i]? = some e.2 ∧ e.1 = a.name := by
  induction attrs generalizing vs with
  | nil => cases h
  | cons b bs ih =>
    cases vs with
    | nil => cases h
    | cons v vs =>
      rw [hashOf] at h
      have hrest : e ∈ hashOf keep bs vs →
          ∃ (i : Nat) (a : Attr), (b :: bs)[i]? = some a ∧ (v :: vs)[i]? = some e.2 ∧ e.1 = a.name := by
        intro h'
        obtain ⟨i, a, h1, h2, h3⟩ := ih h'
        exact ⟨i + 1, a, h1, h2, h3⟩
      split at h
      · rcases List.mem_cons.mp h with rfl | h
        · exact ⟨0, b, rfl, rfl, rfl⟩
        · exact hrest h
      · exact hrest h

theorem lookup_hashOf_none {keep : Attr → Val → Bool} {attrs : List Attr} {vs : List Val} {n : String}
    (h : ∀ a ∈ attrs, a.name ≠ n) : (hashOf keep attrs vs).lookup n = none := by
  rw [List.lookup_eq_none_iff]
  intro e he
  obtain ⟨i, a, ha, -, hn⟩ := mem_hashOf he
  simpa [hn] using (h a (List.mem_of_getElem? ha)).symm

theorem lookup_hashOf {keep : Attr → Val → Bool} {attrs : List Attr} (hnd : (attrs.map (·.name)).Nodup) {vs : List Val}
    {i : Nat} {a : Attr} (ha : attrs[i]? = some a) :
    (hashOf keep attrs vs).lookup a.name = (vs[i]?).bind (fun v => if keep a v then some v else none) := by
  induction attrs generalizing vs i with
  | nil => cases ha
  | cons b bs ih =>
    rw [List.map_cons, List.nodup_cons] at hnd
    cases vs with
    | nil => rfl
    | cons v vs =>
      rw [hashOf]
      cases i with
      | zero =>
        cases ha
        have hnone : (hashOf keep bs vs).lookup a.name = none :=
          lookup_hashOf_none (fun c hc hcn => hnd.1 (hcn ▸ List.mem_map_of_mem hc))
        cases hk : keep a v <;> simp [hnone, hk]
      | succ j =>
        have ha' : bs[j]? = some a := ha
        have hne : (a.name == b.name) = false := by
          simpa using fun he : a.name = b.name => hnd.1 (he ▸ List.mem_map_of_mem (List.mem_of_getElem? ha'))
        have ih' := ih (vs := vs) hnd.2 ha'
        split
        · rw [List.lookup_cons, hne]; exact ih'
        · exact ih'

theorem filled_hashOf {keep : Attr → Val → Bool} {attrs : List Attr} (hnd : (attrs.map (·.name)).Nodup)
    (hkeep : ∀ a ∈ attrs, ∀ v, keep a v = false → a.implicitT = v) {vs : List Val} (hl : vs.length ≤ attrs.length) :
    attrs.map (fun a => ((hashOf keep attrs vs).lookup a.name).getD a.implicitT) = den attrs vs := by
  apply List.ext_getElem?
  intro i
  cases ha : attrs[i]? with
  | none =>
    have hi : attrs.length ≤ i := List.getElem?_eq_none_iff.mp ha
    rw [List.getElem?_eq_none (by simpa using hi), List.getElem?_eq_none (by rw [den_length hl]; exact hi)]
  | some a =>
    rw [den_get ha, List.getElem?_map, ha, Option.map_some, lookup_hashOf hnd ha]
    cases hv : vs[i]? with
    | none => rfl
    | some v =>
      cases hk : keep a v with
      | true => simp [hk]
      | false => simp [hk, hkeep a (List.mem_of_getElem? ha) v hk]

/-- the implicit values of the positions that were not given are values `makeValueHash` leaves out -/
theorem mvh_den {attrs : List Attr} {vs : List Val}
    (h : ∀ i a, attrs[i]? = some a → vs.length ≤ i → a.optional = true) :
    makeValueHash attrs (den attrs vs) = makeValueHash attrs vs := by
  induction attrs generalizing vs with
  | nil => simp [den]
  | cons a as ih =>
    cases vs with
    | nil =>
      have hopt : a.optional = true := h 0 a rfl (by simp)
      have hs : skips a a.implicitT = true := skips_implicitT hopt
      simp only [den_nil_cons, mvh_cons, hs, if_true, mvh_nil]
      have := ih (vs := []) (fun i b hb _ => h (i + 1) b (by simpa using hb) (by simp))
      rw [mvh_nil] at this
      exact this
    | cons v vs' =>
      simp only [den_cons, mvh_cons]
      have := ih (vs := vs') (fun i b hb hle => h (i + 1) b (by simpa using hb) (by simp at hle ⊢; omega))
      rw [this]

/-! ### `trim`: what `PositionalFromHash` drops changes neither the denotation nor the init-hash -/

theorem den_trim {attrs : List Attr} (hg : GodUndef attrs) (req : Nat) (va : List Val) :
    den attrs (trim req attrs va) = den attrs va := by
  fun_induction trim req attrs va with
  | case1 => rfl
  | case2 => rfl
  | case3 req a as v vs hr hc ih =>
    have hd : a.isDefault v = true := (Bool.and_eq_true_iff.mp hc).2
    rw [den_nil_cons, den_cons, implicitT_of_isDefault (hg a List.mem_cons_self) hd,
      ← ih (fun b hb => hg b (List.mem_cons_of_mem _ hb)), hr]
  | case4 req a as v vs hr hc ih =>
    rw [den_cons, den_cons, ← ih (fun b hb => hg b (List.mem_cons_of_mem _ hb)), hr]
  | case5 req a as v vs hr ih => rw [den_cons, den_cons, ih (fun b hb => hg b (List.mem_cons_of_mem _ hb))]

theorem trim_prefix (req : Nat) (attrs : List Attr) (va : List Val) : ∃ r, va = trim req attrs va ++ r := by
  fun_induction trim req attrs va with
  | case1 => exact ⟨[], rfl⟩
  | case2 => exact ⟨[], (List.append_nil _).symm⟩
  | case3 req a as v vs hr hc ih => exact ⟨v :: vs, rfl⟩
  | case4 req a as v vs hr hc ih => exact ⟨vs, rfl⟩
  | case5 req a as v vs hr ih =>
    obtain ⟨r, hr'⟩ := ih
    exact ⟨r, congrArg (v :: ·) hr'⟩

theorem trim_length_le (req : Nat) (attrs : List Attr) (va : List Val) : (trim req attrs va).length ≤ va.length :=
  let ⟨r, h⟩ := trim_prefix req attrs va
  List.IsPrefix.length_le ⟨r, h.symm⟩

theorem trim_length_ge (req : Nat) (attrs : List Attr) (va : List Val) (h : req ≤ va.length) :
    req ≤ (trim req attrs va).length := by
  fun_induction trim req attrs va with
  | case1 => exact h
  | case2 => exact h
  | case3 req a as v vs hr hc ih => exact Nat.le_of_eq (eq_of_beq (Bool.and_eq_true_iff.mp hc).1)
  | case4 req a as v vs hr hc ih => exact Nat.le_add_of_sub_le (hr ▸ ih (Nat.sub_le_of_le_add h))
  | case5 req a as v vs hr ih => exact Nat.le_add_of_sub_le (ih (Nat.sub_le_of_le_add h))

/-- the values `PositionalFromHash` trims are values `makeValueHash` leaves out anyway -/
theorem mvh_trim (req : Nat) (attrs : List Attr) (va : List Val) :
    makeValueHash attrs (trim req attrs va) = makeValueHash attrs va := by
  fun_induction trim req attrs va with
  | case1 => rfl
  | case2 => rfl
  | case3 req a as v vs hr hc ih =>
    rw [mvh_nil, mvh_cons, if_pos (skips_of_isDefault (Bool.and_eq_true_iff.mp hc).2), ← ih, hr, mvh_nil]
  | case4 req a as v vs hr hc ih => rw [mvh_cons, mvh_cons, ← ih, hr]
  | case5 req a as v vs hr ih => rw [mvh_cons, mvh_cons, ih]

end Pcore.Object

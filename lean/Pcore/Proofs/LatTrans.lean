import Pcore.Proofs.LatRecv
import Pcore.Proofs.LatWF
/-! C03, transitivity of `asg`: the receiver rules that compose on all type terms, before any fragment is chosen — the leaf
    receivers (`tr_leaf`) and, over the positional normal form of Proofs/LatRecv, Array and Tuple (`tr_pos_open`); and what `tr_scalar_recv` needs of
    the members of ScalarData (`scalarDataMembers_facts`: well-formed, each accepted by a member of Scalar). -/
namespace Pcore.Lat
variable (cfg : Cfg) (sfh : Bool)

theorem tr_leaf (hl : ∀ s, (cfg.lower s).length = s.length) (a b c : Ty) (wb : Ty.WF cfg b)
    (hleaf : match a with
      | .undef | .dflt | .numeric | .str | .bin | .int _ | .float _ _ | .bool _ | .tspan _ | .tstamp _ | .strSz _ | .strVal _ | .enum _ _
      | .pattern _ | .regexp _ | .runtime _ _ _ | .object _ => True
      | _ => False)
    (h1 : asgRecv cfg sfh a b = true) (h2 : asgRecv cfg sfh b c = true) : asgRecv cfg sfh a c = true := by
  cases a with
  | undef | dflt | bin =>
    unfold asgRecv at h1; split at h1
    · exact h2
    · cases h1
  | numeric =>
    unfold asgRecv at h1; split at h1
    · unfold asgRecv at h2 ⊢; split at h2
      · rfl
      · cases h2
    · unfold asgRecv at h2 ⊢; split at h2
      · rfl
      · cases h2
    · cases h1
  | str =>
    unfold asgRecv at h1
    have := family_closed cfg sfh h1 h2
    unfold asgRecv; exact this
  | int r | tspan r | tstamp r =>
    unfold asgRecv at h1; split at h1
    · unfold asgRecv at h2 ⊢; split at h2
      · exact Rng.sub_trans h1 h2
      · cases h2
    · cases h1
  | float lo hi =>
    unfold asgRecv at h1; split at h1
    · unfold asgRecv at h2 ⊢; split at h2
      · simp only [Bool.and_eq_true, decide_eq_true_eq] at h1 h2 ⊢
        exact ⟨Int.le_trans h1.1 h2.1, Int.le_trans h2.2 h1.2⟩
      · cases h2
    · cases h1
  | bool v | regexp s =>
    unfold asgRecv at h1; split at h1
    · unfold asgRecv at h2 ⊢; split at h2
      · simp at h1 h2 ⊢
        rcases h1 with h1 | h1
        · left; exact h1
        · subst h1; exact h2
      · cases h2
    · cases h1
  | strSz r =>
    unfold asgRecv at h1; split at h1
    · -- b strVal
      unfold asgRecv at h2 ⊢; split at h2
      · simp at h2; subst h2; exact h1
      · cases h2
    · -- b strSz
      unfold asgRecv at h2 ⊢; split at h2
      · exact Rng.sub_contains h1 h2
      · exact Rng.sub_trans h1 h2
      · simp only [Bool.and_eq_true, List.all_eq_true] at h2 ⊢
        exact ⟨h2.1, fun s hs => Rng.sub_contains h1 (h2.2 s hs)⟩
      · cases h2
    · -- b enum
      rename_i vs ci
      simp only [Bool.and_eq_true, Bool.not_eq_true', List.all_eq_true] at h1
      have hne : vs.isEmpty = false := h1.1
      unfold asgRecv at h2
      simp only [hne, Bool.false_eq_true, if_false] at h2
      unfold asgRecv
      split at h2
      · -- c strVal
        rename_i s
        simp only [enumInst, hne, Bool.false_or, List.elem_eq_mem, decide_eq_true_eq] at h2
        have := h1.2 _ h2
        cases ci <;> simp [hl] at this <;> exact this
      · -- c enum
        rename_i vs' ci'
        simp only [Bool.and_eq_true, Bool.not_eq_true', List.all_eq_true] at h2 ⊢
        refine ⟨h2.1.1, fun s hs => ?_⟩
        have h3 := h2.2 s hs
        simp only [enumInst, hne, Bool.false_or, List.elem_eq_mem, decide_eq_true_eq] at h3
        have := h1.2 _ h3
        cases ci <;> simp [hl] at this <;> exact this
      · cases h2
    · cases h1
  | strVal s =>
    unfold asgRecv at h1; split at h1
    · simp at h1; subst h1; exact h2
    · cases h1
  | enum vs ci =>
    unfold asgRecv at h1 ⊢
    by_cases he : vs.isEmpty = true
    · simp only [he, if_true] at h1 ⊢
      exact family_closed cfg sfh h1 h2
    · simp only [he, Bool.false_eq_true, if_false] at h1 ⊢
      split at h1
      · -- b strVal
        unfold asgRecv at h2; split at h2
        · simp at h2; subst h2; exact h1
        · cases h2
      · -- b enum
        rename_i vs' ci'
        have wb := Ty.wf_enum.1 wb
        simp only [Bool.and_eq_true, Bool.not_eq_true', Bool.or_eq_true, List.all_eq_true] at h1
        have hne' : vs'.isEmpty = false := h1.1.1
        unfold asgRecv at h2
        simp only [hne', Bool.false_eq_true, if_false] at h2
        have key : ∀ s, enumInst cfg vs' ci' s = true → enumInst cfg vs ci s = true := by
          intro s hs
          simp only [enumInst, hne', Bool.false_or, List.elem_eq_mem, decide_eq_true_eq] at hs
          have h3 := h1.2 _ hs
          cases ci' with
          | false => simpa using h3
          | true =>
            have hci : ci = true := by rcases h1.1.2 with h | h <;> simp_all
            subst hci
            simp at hs
            have hfix := wb rfl _ hs
            simp only [enumInst, Bool.or_eq_true, if_true] at h3 ⊢
            rw [hfix] at h3; exact h3
        split at h2
        · exact key _ h2
        · rename_i vs'' ci''
          simp only [Bool.and_eq_true, Bool.not_eq_true', Bool.or_eq_true, List.all_eq_true] at h2 ⊢
          refine ⟨⟨h2.1.1, ?_⟩, fun s hs => key s (h2.2 s hs)⟩
          rcases h1.1.2 with h | h
          · left; exact h
          · rcases h2.1.2 with h' | h'
            · rw [h'] at h; cases h
            · right; exact h'
        · cases h2
      · cases h1
  | pattern rs =>
    unfold asgRecv at h1 ⊢
    by_cases he : rs.isEmpty = true
    · have hf := family_closed cfg sfh (b := b) (by split at h1 <;> first | rfl | cases h1) h2
      unfold isStringFamily at hf
      split at hf
      all_goals first | (simp [he]; done) | cases hf
    · have he' : rs.isEmpty = false := by simpa using he
      simp only [he', Bool.false_or] at h1
      split at h1 <;> (first | contradiction | skip)
      · -- b pattern
        rename_i rs'
        simp only [Bool.and_eq_true, Bool.not_eq_true'] at h1
        have hne' : rs'.isEmpty = false := h1.1
        unfold asgRecv at h2
        simp only [hne', Bool.false_or] at h2
        split at h2 <;> (first | contradiction | skip)
        · -- c pattern
          rename_i rs''
          simp only [he', Bool.false_or, Bool.and_eq_true, Bool.not_eq_true'] at h2 ⊢
          refine ⟨h2.1, ?_⟩
          simp [subsetStr] at h1 h2 ⊢
          exact fun x hx => h1.2 x (h2.2 x hx)
        · -- c strVal
          simp only [he', Bool.false_or]
          simp only [rxAny, List.any_eq_true] at h2 ⊢
          obtain ⟨r, hr, hm⟩ := h2
          simp [subsetStr] at h1
          exact ⟨r, h1.2 r hr, hm⟩
        · -- c enum
          rename_i vs ci
          simp only [he', Bool.false_or, Bool.and_eq_true, Bool.not_eq_true', List.all_eq_true] at h2 ⊢
          refine ⟨h2.1, fun s hs => ?_⟩
          have := h2.2 s hs
          simp only [rxAny, List.any_eq_true] at this ⊢
          obtain ⟨r, hr, hm⟩ := this
          simp [subsetStr] at h1
          exact ⟨r, h1.2 r hr, hm⟩
      · -- b strVal
        unfold asgRecv at h2; split at h2
        · simp at h2; subst h2; simp [he', h1]
        · cases h2
      · -- b enum
        rename_i vs ci
        simp only [Bool.and_eq_true, Bool.not_eq_true', List.all_eq_true] at h1
        have hne : vs.isEmpty = false := h1.1.1
        have hci : ci = false := h1.1.2
        subst hci
        unfold asgRecv at h2
        simp only [hne, Bool.false_eq_true, if_false] at h2
        split at h2
        · simp only [enumInst, hne, Bool.false_or, List.elem_eq_mem, decide_eq_true_eq, if_false, Bool.false_eq_true] at h2
          simp [he', h1.2 _ h2]
        · rename_i vs' ci'
          simp only [Bool.and_eq_true, Bool.not_eq_true', Bool.or_eq_true, List.all_eq_true, Bool.false_eq_true, false_or] at h2
          simp only [he', Bool.false_or, Bool.and_eq_true, Bool.not_eq_true', List.all_eq_true]
          refine ⟨⟨h2.1.1, h2.1.2⟩, fun s hs => ?_⟩
          have := h2.2 s hs
          simp only [enumInst, hne, Bool.false_or, List.elem_eq_mem, decide_eq_true_eq, if_false, Bool.false_eq_true] at this
          exact h1.2 _ this
        · cases h2
  | runtime rt nm pt =>
    obtain ⟨rt', nm', pt', rfl⟩ : ∃ rt' nm' pt', b = .runtime rt' nm' pt' := by
      unfold asgRecv at h1; split at h1
      · exact ⟨_, _, _, rfl⟩
      · cases h1
    obtain ⟨rt'', nm'', pt'', rfl⟩ : ∃ rt' nm' pt', c = .runtime rt' nm' pt' := by
      unfold asgRecv at h2; split at h2
      · exact ⟨_, _, _, rfl⟩
      · cases h2
    rw [recv_runtime_eq] at h1 h2 ⊢
    exact rtAcc_trans h1 h2
  | object p =>
    unfold asgRecv at h1; split at h1
    · rename_i q
      unfold asgRecv at h2 ⊢; split at h2
      · rename_i x
        cases p with
        | none => simp
        | some pp =>
          cases q with
          | none => simp at h1
          | some qq =>
            cases x with
            | none => simp at h2
            | some xx => simp at h1 h2 ⊢; exact isPrefix_trans _ _ _ h1 h2
      · cases h2
    · cases h1
  | _ => exact hleaf.elim

theorem tr_pos_open (a b c : Ty) (pa : a.isPos = true) (pb : b.isPos = true) (pc : c.isPos = true)
    (el : ∀ a' ∈ posTypes a, ∀ b' ∈ posTypes b, ∀ c' ∈ posTypes c, asg cfg sfh a' b' = true → asg cfg sfh b' c' = true →
      asg cfg sfh a' c' = true)
    (h1 : asgRecv cfg sfh a b = true) (h2 : asgRecv cfg sfh b c = true) : asgRecv cfg sfh a c = true := by
  rw [recv_pos cfg sfh a b pa pb, Bool.and_eq_true] at h1
  rw [recv_pos cfg sfh b c pb pc, Bool.and_eq_true] at h2
  rw [recv_pos cfg sfh a c pa pc, Bool.and_eq_true]
  refine ⟨Rng.sub_trans h1.1 h2.1, ?_⟩
  exact tupZip_trans cfg sfh _ _ _ _ _ (Rng.sub_hi_le h2.1) (posTypes_ne a pa) (posTypes_ne b pb) (posTypes_ne c pc) el h1.2 h2.2

theorem scalarDataMembers_facts {m : Ty} (h : m ∈ scalarDataMembers) :
    Ty.WF cfg m ∧ ∃ s ∈ scalarMembers, asg cfg sfh s m = true := by
  have plain : ∀ s m : Ty, m.plainR = true → asgRecv cfg sfh s m = true → asg cfg sfh s m = true :=
    fun s m hm hr => asg_of_recv cfg sfh (Or.inl hm) hr
  simp only [scalarDataMembers, List.mem_cons, List.not_mem_nil, or_false] at h
  rcases h with rfl | rfl | rfl | rfl
  · exact ⟨Ty.wf_of_fragLeaf rfl cfg, .str, by simp [scalarMembers], plain _ _ rfl (by unfold asgRecv; rfl)⟩
  · exact ⟨Ty.wf_of_fragLeaf rfl cfg, .numeric, by simp [scalarMembers], plain _ _ rfl (by unfold asgRecv; rfl)⟩
  · exact ⟨Ty.wf_of_fragLeaf rfl cfg, .bool none, by simp [scalarMembers], plain _ _ rfl (by unfold asgRecv; rfl)⟩
  · exact ⟨by unfold floatAll; exact Ty.wf_of_fragLeaf rfl cfg, .numeric, by simp [scalarMembers],
      plain _ _ rfl (by unfold floatAll asgRecv; rfl)⟩

end Pcore.Lat

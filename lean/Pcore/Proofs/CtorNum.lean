import Pcore.Proofs.DispatchCtors
import Pcore.Model.CtorNum
/-!
The Float and Numeric constructors (Model/CtorNum.lean): what the bodies return, that no fault arm is reachable, and that
the named-argument form is the positional form; before them `F64.abs_not_neg` (`floatValue.Abs` is never `< 0`), at the end
the printer the examples of Props/C16.lean compare with.  Core Lean only.  `pf` (strconv.ParseFloat) is arbitrary throughout.
-/
namespace Pcore.Dispatch.F64

def keyMag (b : Nat) : Int := if expOf b = 2047 then infKey else (mag b : Int)

theorem keyMag_nonneg (b : Nat) : 0 ≤ keyMag b := by
  unfold keyMag
  split
  · exact Int.natCast_nonneg _
  · exact Int.natCast_nonneg _

theorem key_eq (b : Nat) : key b = if isNaN b then none else some (if negOf b then -keyMag b else keyMag b) := rfl

theorem negOf_clear (b : Nat) (hb : b < 2 ^ 64) : negOf (b - 2 ^ 63) = false := by
  have : b - 9223372036854775808 < 9223372036854775808 := by omega
  simp [negOf, Nat.div_eq_of_lt this]

theorem ltZero_of_pos (c : Nat) (h : negOf c = false) : ltZero c = false := by
  unfold ltZero
  rw [key_eq, h]
  have := keyMag_nonneg c
  by_cases hn : isNaN c = true
  · simp [hn]
  · simp [hn]; omega

theorem abs_not_neg (b : Nat) (hb : b < 2 ^ 64) : ltZero (abs b) = false := by
  unfold abs
  by_cases h : ltZero b = true
  · simp only [h, if_true]
    exact ltZero_of_pos _ (negOf_clear b hb)
  · simp only [h]
    simpa using h

end Pcore.Dispatch.F64

namespace Pcore.Dispatch.Alpha

section
variable (pf : List Char → Option Nat)

def isNumber : Val → Bool
  | .int _ => true
  | .float _ => true
  | _ => false

def isFloat : Val → Bool
  | .float _ => true
  | _ => false

theorem fromConvertible_cases (c : Val) (allowInt : Bool) :
    (∃ v, fromConvertible pf c allowInt = .value v ∧ isNumber v = true ∧ (allowInt = false → isFloat v = true)) ∨
    fromConvertible pf c allowInt = .reported "ILLEGAL_ARGUMENTS" := by
  cases c with
  | int n => left; cases allowInt <;> simp [fromConvertible, isNumber, isFloat]
  | bool b => left; cases allowInt <;> simp [fromConvertible, isNumber, isFloat]
  | float b => left; simp [fromConvertible, isNumber, isFloat]
  | str s =>
    simp only [fromConvertible]
    cases allowInt with
    | false =>
      simp only [Bool.false_eq_true, if_false]
      cases pf s.toList with
      | some f => left; simp [isNumber, isFloat]
      | none => right; rfl
    | true =>
      simp only [if_true]
      cases Pcore.Syntax.parseInt s.toList with
      | some i => left; simp [isNumber]
      | none =>
        cases pf s.toList with
        | some f => left; simp [isNumber]
        | none =>
          cases binFallback s.toList with
          | some i => left; simp [isNumber]
          | none => right; rfl
  | binary bs => right; rfl
  | timespan n => left; simp [fromConvertible, isNumber, isFloat]
  | undef => right; rfl
  | default => right; rfl
  | arr vs => right; rfl
  | hash es => right; rfl

theorem numberBody_cases (from_ : Val) (abs : Option Val) (tryInt : Bool)
    (ha : abs = none ∨ ∃ b, abs = some (.bool b)) :
    (∃ v, numberBody pf from_ abs tryInt = .value v ∧ isNumber v = true ∧ (tryInt = false → isFloat v = true)) ∨
    numberBody pf from_ abs tryInt = .reported "ILLEGAL_ARGUMENTS" := by
  unfold numberBody
  rcases fromConvertible_cases pf from_ tryInt with ⟨v, hv, hn, hf⟩ | h
  · left
    rw [hv]
    rcases ha with rfl | ⟨b, rfl⟩
    · exact ⟨v, rfl, hn, hf⟩
    · cases b with
      | false => exact ⟨v, rfl, hn, hf⟩
      | true =>
        cases v <;> simp [isNumber] at hn
        · rename_i n
          refine ⟨.int (absInt true n), by simp [asBool], rfl, ?_⟩
          intro ht; have := hf ht; simp [isFloat] at this
        · rename_i f
          exact ⟨.float (F64.abs f), by simp [asBool], rfl, fun _ => rfl⟩
  · right; rw [h]

theorem numberBody_no_fault (from_ : Val) (abs : Option Val) (tryInt : Bool)
    (ha : abs = none ∨ ∃ b, abs = some (.bool b)) : numberBody pf from_ abs tryInt ≠ .fault := by
  rcases numberBody_cases pf from_ abs tryInt ha with ⟨v, hv, _⟩ | h
  · rw [hv]; simp
  · rw [h]; simp

/-! ### one function behind both constructors
The positional dispatch `(Convertible, Optional Boolean)` and the `NamedArgs` dispatch are disjoint (a hash is not
Convertible), so the order in which Float and Numeric try them does not matter: both are `numberCall`. -/

def numberCall (tryInt : Bool) (args : List Val) : CtorResult Val :=
  if tupleInst inst [convertibleF, .bool] 1 (some 2) args then numberPositional pf args tryInt
  else if tupleInst inst [namedArgsF] 1 (some 1) args then numberNamed pf args tryInt
  else .reported "ILLEGAL_ARGUMENTS"

theorem convertibleF_hash (es : List (Val × Val)) : inst convertibleF (.hash es) = false := by
  simp [convertibleF, anyTimespan, inst, instAny]

/-- what the positional dispatch guarantees its body -/
theorem positional_args {args : List Val} (h : tupleInst inst [convertibleF, .bool] 1 (some 2) args = true) :
    ∃ a0 rest, args = a0 :: rest ∧ (rest.head? = none ∨ ∃ b, rest.head? = some (.bool b)) := by
  match args, h with
  | [], h => simp [tupleInst, sizeOK] at h
  | [a0], _ => exact ⟨a0, [], rfl, .inl rfl⟩
  | [a0, a1], h =>
    refine ⟨a0, [a1], rfl, .inr ?_⟩
    cases a1 <;> simp [tupleInst, sizeOK, instLoop, leMax, inst] at h
    exact ⟨_, rfl⟩
  | _ :: _ :: _ :: _, h => simp [tupleInst, sizeOK, leMax] at h

/-- what the `NamedArgs` dispatch guarantees its body; the positional dispatch refuses what it accepts -/
theorem named_args {args : List Val} (h : tupleInst inst [namedArgsF] 1 (some 1) args = true) :
    (∃ es, args = [.hash es] ∧ (lookupKey "abs" es = none ∨ ∃ b, lookupKey "abs" es = some (.bool b))) ∧
    tupleInst inst [convertibleF, .bool] 1 (some 2) args = false := by
  match args, h with
  | [], h => simp [tupleInst, sizeOK] at h
  | [a0], h =>
    have h0 : inst namedArgsF a0 = true := by simpa [tupleInst, sizeOK, instLoop, leMax] using h
    obtain ⟨es, rfl, -, hm⟩ := inst_struct _ (by decide) a0 h0
    exact ⟨⟨es, rfl, named_abs hm (by simp)⟩, by simp [tupleInst, sizeOK, instLoop, leMax, convertibleF_hash]⟩
  | _ :: _ :: _, h => simp [tupleInst, sizeOK, leMax] at h

theorem float_call (args : List Val) : ctorCall (floatCtor pf) args = numberCall pf false args := by
  unfold ctorCall numberCall
  rw [run_built inst binst (cs := (floatCtor pf).creators)
    (ds := [⟨[convertibleF, .bool], 1, some 2, .none⟩, ⟨[namedArgsF], 1, some 1, .none⟩]) rfl rfl]
  by_cases h1 : tupleInst inst [convertibleF, .bool] 1 (some 2) args = true
  · simp [call, callFrom, callableWith_noBlock, h1, floatCtor]
  · by_cases h2 : tupleInst inst [namedArgsF] 1 (some 1) args = true <;>
      simp [call, callFrom, callableWith_noBlock, h1, h2, floatCtor]

theorem numeric_call (args : List Val) : ctorCall (numericCtor pf) args = numberCall pf true args := by
  unfold ctorCall numberCall
  rw [run_built inst binst (cs := (numericCtor pf).creators)
    (ds := [⟨[namedArgsF], 1, some 1, .none⟩, ⟨[convertibleF, .bool], 1, some 2, .none⟩]) rfl rfl]
  by_cases h2 : tupleInst inst [namedArgsF] 1 (some 1) args = true
  · simp [call, callFrom, callableWith_noBlock, h2, (named_args h2).2, numericCtor]
  · by_cases h1 : tupleInst inst [convertibleF, .bool] 1 (some 2) args = true <;>
      simp [call, callFrom, callableWith_noBlock, h1, h2, numericCtor]

theorem numberCall_cases (tryInt : Bool) (args : List Val) :
    (∃ v, numberCall pf tryInt args = .value v ∧ isNumber v = true ∧ (tryInt = false → isFloat v = true)) ∨
    numberCall pf tryInt args = .reported "ILLEGAL_ARGUMENTS" := by
  unfold numberCall
  split
  · rename_i h1
    obtain ⟨a0, rest, rfl, ha⟩ := positional_args h1
    exact numberBody_cases pf a0 rest.head? tryInt ha
  · split
    · rename_i h2
      obtain ⟨⟨es, rfl, ha⟩, -⟩ := named_args h2
      exact numberBody_cases pf _ (lookupKey "abs" es) tryInt ha
    · exact .inr rfl

theorem float_ctor_cases (args : List Val) :
    (∃ v, ctorCall (floatCtor pf) args = .value v ∧ isFloat v = true) ∨
    ctorCall (floatCtor pf) args = .reported "ILLEGAL_ARGUMENTS" := by
  rw [float_call]
  rcases numberCall_cases pf false args with ⟨v, hv, _, hf⟩ | h
  · exact .inl ⟨v, hv, hf rfl⟩
  · exact .inr h

theorem numeric_ctor_cases (args : List Val) :
    (∃ v, ctorCall (numericCtor pf) args = .value v ∧ isNumber v = true) ∨
    ctorCall (numericCtor pf) args = .reported "ILLEGAL_ARGUMENTS" := by
  rw [numeric_call]
  rcases numberCall_cases pf true args with ⟨v, hv, hn, _⟩ | h
  · exact .inl ⟨v, hv, hn⟩
  · exact .inr h

theorem numberCall_no_fault (tryInt : Bool) (args : List Val) : numberCall pf tryInt args ≠ .fault := by
  rcases numberCall_cases pf tryInt args with ⟨v, hv, _⟩ | h
  · rw [hv]; simp
  · rw [h]; simp

theorem inst_named2 (x a : Val) :
    inst namedArgsF (.hash [(.str "from", x), (.str "abs", a)]) = (inst convertibleF x && inst .bool a) := by
  cases a <;> cases h : inst convertibleF x <;> simp [namedArgsF, inst, instMembers, lookupKey, h]

theorem inst_named1 (x : Val) : inst namedArgsF (.hash [(.str "from", x)]) = inst convertibleF x := by
  cases h : inst convertibleF x <;> simp [namedArgsF, inst, instMembers, lookupKey, h]

theorem namedArgsF_not_hash (x : Val) (hx : ∀ es, x ≠ .hash es) : inst namedArgsF x = false := by
  cases x <;> simp [namedArgsF, inst]
  exact absurd rfl (hx _)

theorem numberCall_named2 (tryInt : Bool) (x a : Val) :
    numberCall pf tryInt [.hash [(.str "from", x), (.str "abs", a)]] = numberCall pf tryInt [x, a] := by
  cases h1 : inst convertibleF x <;> cases h2 : inst .bool a <;>
    simp [numberCall, tupleInst, sizeOK, instLoop, leMax, convertibleF_hash, inst_named2, h1, h2, numberNamed, numberPositional,
      lookupKey]

theorem numberCall_named1 (tryInt : Bool) (x : Val) (hx : ∀ es, x ≠ .hash es) :
    numberCall pf tryInt [.hash [(.str "from", x)]] = numberCall pf tryInt [x] := by
  cases h1 : inst convertibleF x <;>
    simp [numberCall, tupleInst, sizeOK, instLoop, leMax, convertibleF_hash, inst_named1, namedArgsF_not_hash x hx, h1, numberNamed,
      numberPositional, lookupKey]

/-- the value `abs` leaves behind is not negative — except the minimum integer, whose negation wraps; a NaN stays a NaN -/
def NonNegative : Val → Prop
  | .int n => 0 ≤ n ∨ n = minInt
  | .float b => F64.ltZero b = false
  | _ => False

/-- what a call with `abs = true` leaves behind: a non-negative integer (or the minimum integer, whose negation wraps), or
    `floatValue.Abs` of a float (which is never `< 0`: `F64.abs_not_neg`) -/
def AbsResult : Val → Prop
  | .int n => 0 ≤ n ∨ n = minInt
  | .float b => ∃ b0, b = F64.abs b0
  | _ => False

theorem absInt_nonneg (n : Int) : 0 ≤ absInt true n ∨ absInt true n = minInt := by
  unfold absInt
  by_cases h1 : n < 0
  · by_cases h2 : n = minInt
    · right; simp [h2]
    · left; simp [h1, h2]; omega
  · left; simp [h1]; omega

end

/-! a canonical text of values and outcomes, so that closed examples over the float reader (well-founded recursion, big
    powers of two) can be checked by `decide +kernel` on a `String` equation -/
mutual
def Val.text : Val → String
  | .int n => s!"(i {n})"
  | .str s => "(s " ++ s ++ ")"
  | .bool b => if b then "(b t)" else "(b f)"
  | .float b => s!"(f {b})"
  | .binary bs => s!"(bin {bs.map (·.toNat)})"
  | .timespan n => s!"(ts {n})"
  | .undef => "(u)"
  | .default => "(d)"
  | .arr vs => "(a" ++ Val.textL vs ++ ")"
  | .hash es => "(h" ++ Val.textE es ++ ")"
def Val.textL : List Val → String
  | [] => ""
  | v :: vs => " " ++ v.text ++ Val.textL vs
def Val.textE : List (Val × Val) → String
  | [] => ""
  | (k, v) :: es => " (" ++ k.text ++ " " ++ v.text ++ ")" ++ Val.textE es
end

def outText : Option (NewOutcome Val) → String
  | none => "unmodelled"
  | some (.value v) => "value " ++ v.text
  | some (.reported c) => "reported " ++ c
  | some .fault => "fault"

def resText : CtorResult Val → String
  | .value v => "value " ++ v.text
  | .reported c => "reported " ++ c
  | .fault => "fault"

end Pcore.Dispatch.Alpha

import Pcore.Proofs.CtorNew
import Pcore.Model.CtorCoerce
/-!
`types.CoerceTo` (Model/CtorCoerce.lean): the parts of the switch — sequencing of element results, the container arms inverted,
the leaf `new` — from which Proofs/CtorCanCoerce.lean proves what a successful conversion guarantees.  Core Lean only.
-/
namespace Pcore.Dispatch.Alpha

def unwrapOpt : Ty → Ty
  | .opt t => t
  | t => t

/-- both outcomes of the sequencing at once: the values, in order, or an outcome that is no value -/
theorem seqResults_spec (os : List (NewOutcome Val)) :
    match seqResults os with
    | .ok rs => os = rs.map .value
    | .error o => ∀ r, o ≠ .value r := by
  induction os with
  | nil => rfl
  | cons x xs ih =>
    cases x with
    | value v =>
      simp only [seqResults]
      cases hr : seqResults xs with
      | error e => rw [hr] at ih; exact ih
      | ok vs => rw [hr] at ih; simp [ih]
    | reported c => exact fun r => nofun
    | fault => exact fun r => nofun

theorem seqEntries_spec (os : List (NewOutcome Val × NewOutcome Val)) :
    match seqEntries os with
    | .ok es => os = es.map fun e => (.value e.1, .value e.2)
    | .error o => ∀ r, o ≠ .value r := by
  induction os with
  | nil => rfl
  | cons x xs ih =>
    obtain ⟨a, b⟩ := x
    cases a with
    | value k =>
      cases b with
      | value v =>
        simp only [seqEntries]
        cases hr : seqEntries xs with
        | error e => rw [hr] at ih; exact ih
        | ok vs => rw [hr] at ih; simp [ih]
      | reported c => exact fun r => nofun
      | fault => exact fun r => nofun
    | reported c => exact fun r => nofun
    | fault => exact fun r => nofun

theorem map_eq_map_mem {α β γ : Type} {f : α → γ} {g : β → γ} {xs : List α} {ys : List β} (h : xs.map f = ys.map g) :
    (∀ y ∈ ys, ∃ x ∈ xs, f x = g y) ∧ (∀ x ∈ xs, ∃ y ∈ ys, f x = g y) := by
  constructor
  · intro y hy
    have : g y ∈ xs.map f := h ▸ List.mem_map_of_mem hy
    exact List.mem_map.mp this
  · intro x hx
    have : f x ∈ ys.map g := h ▸ List.mem_map_of_mem hx
    obtain ⟨y, hy, e⟩ := List.mem_map.mp this
    exact ⟨y, hy, e.symm⟩

theorem seqResults_ok {α : Type} (f : α → NewOutcome Val) (xs : List α) (rs : List Val)
    (h : seqResults (xs.map f) = .ok rs) :
    (∀ r ∈ rs, ∃ x ∈ xs, f x = .value r) ∧ (∀ x ∈ xs, ∃ r ∈ rs, f x = .value r) := by
  have heq := seqResults_spec (xs.map f)
  rw [h] at heq
  exact map_eq_map_mem heq

theorem seqEntries_ok {α : Type} (f g : α → NewOutcome Val) (xs : List α) (es : List (Val × Val))
    (h : seqEntries (xs.map fun x => (f x, g x)) = .ok es) :
    (∀ e ∈ es, ∃ x ∈ xs, f x = .value e.1 ∧ g x = .value e.2) ∧ (∀ x ∈ xs, ∃ e ∈ es, f x = .value e.1 ∧ g x = .value e.2) := by
  have heq := seqEntries_spec (xs.map fun x => (f x, g x))
  rw [h] at heq
  obtain ⟨h1, h2⟩ := map_eq_map_mem heq
  exact ⟨fun e he => (h1 e he).imp fun x hx => ⟨hx.1, Prod.mk.inj hx.2⟩,
    fun x hx => (h2 x hx).imp fun e he => ⟨he.1, Prod.mk.inj he.2⟩⟩

section
variable (pf : List Char → Option Nat)

theorem newOne_eq_value {t : Ty} {v r : Val} (h : newOne pf t v = .value r) :
    newModel pf (.plain t) [v] = some (.value r) := by
  unfold newOne at h
  cases hn : newModel pf (.plain t) [v] with
  | none => simp [hn] at h
  | some o => simp only [hn] at h; rw [h]

theorem newOne_value (t : Ty) (v r : Val) (h : newOne pf t v = .value r) : inst t r = true :=
  newModel_plain_value pf (newOne_eq_value pf h)

/-- `coerceTo` as coerce.go writes it: the instance test, one `Optional` removed, the switch -/
theorem coerceTo_eq (t : Ty) (v : Val) :
    coerceTo pf t v = if inst t v then .value v else coerceCore pf (unwrapOpt t) v := by
  cases t <;> simp [coerceTo, coerceCore, unwrapOpt]

theorem finishArr_inv {lo : Nat} {hi : Option Nat} {os : List (NewOutcome Val)} {r : Val}
    (h : finishArr lo hi (seqResults os) = .value r) :
    ∃ rs, seqResults os = .ok rs ∧ r = .arr rs ∧ (decide (lo ≤ rs.length) && leMax rs.length hi) = true := by
  cases hs : seqResults os with
  | error o => have := seqResults_spec os; rw [hs] at this h; exact absurd h (this r)
  | ok rs =>
    simp only [hs, finishArr] at h
    split at h
    · cases h; exact ⟨rs, rfl, rfl, ‹_›⟩
    · cases h

theorem finishHash_inv {lo : Nat} {hi : Option Nat} {os : List (NewOutcome Val × NewOutcome Val)} {r : Val}
    (h : finishHash lo hi (seqEntries os) = .value r) :
    ∃ es, seqEntries os = .ok es ∧ r = .hash es ∧ (decide (lo ≤ es.length) && leMax es.length hi) = true := by
  cases hs : seqEntries os with
  | error o => have := seqEntries_spec os; rw [hs] at this h; exact absurd h (this r)
  | ok es =>
    simp only [hs, finishHash] at h
    split at h
    · cases h; exact ⟨es, rfl, rfl, ‹_›⟩
    · cases h

theorem finishStruct_inv {ms : List (String × Bool × Ty)} {os : List (NewOutcome Val × NewOutcome Val)} {r : Val}
    (h : finishStruct ms (seqEntries os) = .value r) :
    ∃ es, seqEntries os = .ok es ∧ r = .hash es ∧ inst (.struct ms) (.hash es) = true := by
  cases hs : seqEntries os with
  | error o => have := seqEntries_spec os; rw [hs] at this h; exact absurd h (this r)
  | ok es =>
    simp only [hs, finishStruct, assertInstance] at h
    split at h
    · cases h; exact ⟨es, rfl, rfl, ‹_›⟩
    · cases h

theorem inst_opt_of (t : Ty) (r : Val) (h : inst t r = true) : inst (.opt t) r = true := by
  cases r <;> simp [inst, h]

end

end Pcore.Dispatch.Alpha

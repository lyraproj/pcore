import Pcore.Model.Resolve
/-!
The model's tables of core type names (`allKinds`, `plainNames`, `spellings`, `coreOther` of `Model/Types.lean`): what
`kindOf` and `canonName` answer on them, decided once for every proof that resolves a core name; and the second tie of the
resolver model (C06): that hand-written classification against the table `coreTypes` of `types/zinit.go`, which
`extract/coretypes.go` regenerates into `Pcore/Generated/CoreTypes.lean` on every check.
-/
namespace Pcore.Syntax

/-- an upper-case letter followed by word characters (the text of a simple type name), decidably -/
def tyNameB (n : Str) : Bool :=
  match n with
  | [] => false
  | c :: w => isUpper c && w.all isWord

theorem allKinds_complete (k : TKind) : k ∈ allKinds := by
  cases k with
  | wrap w => cases w <;> decide
  | _ => decide

/-- the names of the kinds are simple type names, pairwise distinct, and none is a second spelling -/
theorem kind_table : ∀ k ∈ allKinds, tyNameB k.name = true ∧ kindOf k.name = some k ∧ canonName k.name = k.name := by
  decide +kernel

theorem kindOf_name (k : TKind) : kindOf k.name = some k := (kind_table k (allKinds_complete k)).2.1
theorem canon_kind (k : TKind) : canonName k.name = k.name := (kind_table k (allKinds_complete k)).2.2

/-- the parameterless names likewise; `String` is the one that is also the name of a kind -/
theorem plain_table : ∀ n ∈ plainNames,
    tyNameB n = true ∧ canonName n = n ∧ (kindOf n = none ∨ n = "String".toList) := by
  decide +kernel

/-- what the model makes of a type name that `coreTypes` holds -/
inductive NameClass where
  | kind (k : TKind)     -- a parameterized type of the fragment
  | plain                -- a parameterless name of the fragment (its parameters, if it takes any, are outside)
  | other                -- a core type outside the model
  deriving DecidableEq, Repr

def nameClass (n : Str) : Option NameClass :=
  let c := canonName n
  match kindOf c with
  | some k => some (.kind k)
  | none => if plainNames.contains c then some .plain else if coreOther.contains c then some .other else none

/-- the constructor of the default type of a canonical name: `Default<Name>Type` (`URI` is `DefaultUriType`) -/
def ctorOf (c : Str) : String :=
  "Default" ++ (if c = "URI".toList then "Uri" else String.ofList c) ++ "Type"

/-- every name the model classifies -/
def modelNames : List Str := allKinds.map TKind.name ++ plainNames ++ coreOther ++ spellings.map (·.1)

/-- the side condition on the regenerated table: every row's name is classified by the model and bound to the constructor
    of its canonical name (so a second spelling points at the type the model says it does), and every name the model
    classifies is in the table (so the model has no core name the code lacks) -/
def coreTableOK (tbl : List (String × String)) : Bool :=
  (tbl.all fun r => (nameClass r.1.toList).isSome && r.2 == ctorOf (canonName r.1.toList)) &&
  (modelNames.all fun n => tbl.any fun r => r.1.toList == n)

theorem notParam_table : ∀ m ∈ notParamNames,
    kindOf (canonName m) = none ∧ canonName m ∈ plainNames ∧ canonName m ∈ notParamNames := by
  decide +kernel

theorem coreTableOK_iff (tbl : List (String × String)) :
    coreTableOK tbl = true ↔
      (∀ r ∈ tbl, (nameClass r.1.toList).isSome = true ∧ r.2 = ctorOf (canonName r.1.toList)) ∧
      ∀ n ∈ modelNames, ∃ r ∈ tbl, r.1.toList = n := by
  simp [coreTableOK]

/-- a classified name never falls through to the loader: what it resolves to does not depend on which names the
    context knows (`Env.unknown`) -/
theorem classified_not_loaded (env : Env) (u : Str → Bool) (m : Str) (h : (nameClass m).isSome = true) :
    resolveName env m = resolveName { env with unknown := u } m := by
  unfold nameClass at h
  unfold resolveName
  simp only at h ⊢
  cases hk : kindOf (canonName m) with
  | some kd => rfl
  | none =>
    rw [hk] at h
    simp only at h ⊢
    by_cases hp : plainNames.contains (canonName m) = true
    · have hp' : canonName m ∈ plainNames := by simpa using hp
      simp [hp']
    · simp only [hp, Bool.false_eq_true, if_false] at h ⊢
      by_cases ho : coreOther.contains (canonName m) = true
      · have ho' : canonName m ∈ coreOther := by simpa using ho
        simp [ho']
      · simp only [ho, Bool.false_eq_true, if_false] at h
        simp at h

end Pcore.Syntax

import Pcore.Model.FormatSpan
import Pcore.Proofs.FormatUnparse
/-! `Timespan.Format` (`Pcore.Format.spanFormat`, Model/FormatSpan): the Go format strings handed to fmt are directives fmt
    understands when the width is within fmt's limit (`valueFmt_ok`, `fragFmt_ok`; through `goParse_pieces` and the decimal
    texts of FormatUnparse), so segments with such widths (`SegsOK`) are rendered without a fault (`spanFormat2_total`);
    every format the parser accepts has such segments (`spanParse_ok`, by the invariant `PS.ok` of the parser's state); a
    format without `%` is one literal; width of padded segments; the segments of the full format add up.  C10's round trip
    of the default format has a model of its own (`Pcore.Ser.printSpan`, Proofs/SpanCodec); no theorem relates the two. -/
namespace Pcore.Format

theorem goParse_spanFmt (zero left : Bool) (w : Nat) (h1 : 1 ≤ w) (h2 : w ≤ 1000000) :
    ∃ g, goParse (['%'] ++ (if zero then ['0'] else []) ++ (if left then ['-'] else []) ++ natStr 10 false w ++ ['d']) = some g ∧
      g.verb = 'd' ∧ g.wid = some w := by
  have h := goParse_pieces (fl := (if zero then ['0'] else []) ++ (if left then ['-'] else [])) (wd := natStr 10 false w)
    (pr := []) (c := 'd') (w := some w) (p := none)
    (by cases zero <;> cases left <;> decide) (natStr10_digits w) (natStr10_head_not_goFlag w h1)
    (by rw [List.isEmpty_eq_false_iff.mpr (natStr_ne_nil 10 false w), readNat_natStr]; rfl) (.inl ⟨rfl, rfl⟩)
    (fun n e => by cases e; omega) (fun _ e => nomatch e) (by decide)
  exact ⟨_, by simpa only [List.append_assoc, List.cons_append, List.nil_append] using h, rfl, rfl⟩

theorem fmtD_of_parse (fm : Str) (n : Int) (g : GoSpec) (hg : goParse fm = some g) (hv : g.verb = 'd') :
    fmtD fm n = some (goInteger g 10 false n) := by
  simp [fmtD, hg, goFmtInt, hv]

theorem fmtD_plain (n : Int) : ∃ s, fmtD "%d".toList n = some s := by
  have : goParse "%d".toList = some ⟨false, false, false, false, false, none, none, 'd'⟩ := by decide +kernel
  exact ⟨_, fmtD_of_parse _ n _ this rfl⟩

/-- width 0: `%0d`, `%00d`, `%-0d` are directives too (the `0` is read as a flag) -/
theorem fmtD_width0 (n : Int) : (∃ s, fmtD "%0d".toList n = some s) ∧ (∃ s, fmtD "%00d".toList n = some s) ∧
    (∃ s, fmtD "%-0d".toList n = some s) := by
  have h1 : goParse "%0d".toList = some ⟨false, true, false, false, false, none, none, 'd'⟩ := by decide +kernel
  have h2 : goParse "%00d".toList = some ⟨false, true, false, false, false, none, none, 'd'⟩ := by decide +kernel
  have h3 : goParse "%-0d".toList = some ⟨false, true, false, true, false, none, none, 'd'⟩ := by decide +kernel
  exact ⟨⟨_, fmtD_of_parse _ n _ h1 rfl⟩, ⟨_, fmtD_of_parse _ n _ h2 rfl⟩, ⟨_, fmtD_of_parse _ n _ h3 rfl⟩⟩

theorem valueFmt_padded (c : Char) (hc : c = '0' ∨ c = ' ') (w : Nat) (h1 : 1 ≤ w) (h2 : w ≤ 1000000) (n : Int) :
    ∃ g, g.wid = some w ∧ fmtD (valueFmt (some c) w) n = some (goInteger g 10 false n) := by
  rcases hc with rfl | rfl
  · obtain ⟨g, hg, hv, hw⟩ := goParse_spanFmt true false w h1 h2
    exact ⟨g, hw, fmtD_of_parse _ n g (by simpa [valueFmt] using hg) hv⟩
  · obtain ⟨g, hg, hv, hw⟩ := goParse_spanFmt false false w h1 h2
    exact ⟨g, hw, fmtD_of_parse _ n g (by simpa [valueFmt] using hg) hv⟩

theorem valueFmt_ok (pad : Option Char) (hp : pad = none ∨ pad = some '0' ∨ pad = some ' ') (w : Nat) (hw : w ≤ 1000000) (n : Int) :
    ∃ s, fmtD (valueFmt pad w) n = some s := by
  by_cases h0 : w = 0
  · subst h0
    rcases hp with rfl | rfl | rfl
    · exact fmtD_plain n
    · exact (fmtD_width0 n).2.1
    · exact (fmtD_width0 n).1
  · rcases hp with rfl | rfl | rfl
    · exact fmtD_plain n
    · exact (valueFmt_padded '0' (.inl rfl) w (by omega) hw n).elim fun _ h => ⟨_, h.2⟩
    · exact (valueFmt_padded ' ' (.inr rfl) w (by omega) hw n).elim fun _ h => ⟨_, h.2⟩

theorem fragFmt_ok (pad : Option Char) (w : Nat) (hw : w ≤ 1000000) (n : Int) : ∃ s, fmtD (fragFmt pad w) n = some s := by
  cases pad with
  | none => exact fmtD_plain n
  | some c =>
    by_cases h0 : w = 0
    · subst h0; simp only [fragFmt, natStr_zero]; exact (fmtD_width0 n).2.2
    · obtain ⟨g, hg, hv, _⟩ := goParse_spanFmt false true w (by omega) hw
      refine ⟨_, fmtD_of_parse _ n g ?_ hv⟩
      simpa [fragFmt] using hg

/-- a value segment as the (repaired) parser builds it: one of the three pad characters, a width within fmt's limit -/
def VSeg.ok (v : VSeg) : Prop :=
  (v.pad = none ∨ v.pad = some '0' ∨ v.pad = some ' ') ∧ v.width.getD v.kind.defaultWidth ≤ 1000000

def SegsOK : List Seg → Prop
  | [] => True
  | .lit _ :: rest => SegsOK rest
  | .val v :: rest => v.ok ∧ SegsOK rest

theorem defaultWidth_le (k : SegKind) : k.defaultWidth ≤ 1000000 := by cases k <;> decide

theorem int64Pow10_now_pos (e : Nat) : 0 < int64Pow10 .now e := by
  simp only [int64Pow10, SpanCode.now, Bool.not_true, Bool.and_false, Bool.false_eq_true, if_false]
  exact Int.pow_pos (by decide)

/-- after 03fcfad no segment divides by zero -/
theorem segValue_ok (v : VSeg) (ns : Int) : ∃ n, segValue .now v ns = some n := by
  unfold segValue
  cases v.kind with
  | day | hour | minute | second | milli => exact ⟨_, rfl⟩
  | nano =>
    simp only []
    refine iteInduction (motive := fun r => ∃ n, r = some n) (fun _ => ?_) fun _ => ⟨_, rfl⟩
    refine iteInduction (motive := fun r => ∃ n, r = some n) (fun _ => ⟨_, rfl⟩) fun _ => ?_
    -- the divisor is a power of ten
    exact iteInduction (motive := fun r => ∃ n, r = some n)
      (fun hz => absurd hz (Int.ne_of_gt (int64Pow10_now_pos _))) fun _ => ⟨_, rfl⟩

theorem fragAppend_ok (v : VSeg) (h : v.ok) (n : Int) : ∃ s, fragAppend v n = some s := by
  unfold fragAppend
  simp only
  split
  · have : ¬ v.width.getD v.kind.defaultWidth > 1000000 := by have := h.2; omega
    simp only [this, if_false]
    exact ⟨_, rfl⟩
  · exact fragFmt_ok v.pad _ h.2 n

theorem segText_val_ok (v : VSeg) (h : v.ok) (ns : Int) : ∃ t, segText .now (.val v) ns = some t := by
  obtain ⟨n, hn⟩ := segValue_ok v ns
  simp only [segText, hn]
  have h2 := h.2
  -- the fraction segments go through `fragAppend`, the others through `valueFmt`
  cases hk : v.kind <;> rw [hk] at h2 <;> simp only
  case milli | nano => exact fragAppend_ok v h n
  all_goals exact valueFmt_ok v.pad h.1 _ h2 n

theorem segsText_ok : ∀ (segs : List Seg), SegsOK segs → ∀ ns, ∃ t, segsText .now segs ns = some t
  | [], _, _ => ⟨[], rfl⟩
  | .lit l :: rest, h, ns => by
    obtain ⟨t, ht⟩ := segsText_ok rest h ns
    exact ⟨l ++ t, by simp [segsText, segText, ht]⟩
  | .val v :: rest, h, ns => by
    obtain ⟨t, ht⟩ := segsText_ok rest h.2 ns
    obtain ⟨a, ha⟩ := segText_val_ok v h.1 ns
    exact ⟨a ++ t, by simp [segsText, ha, ht]⟩

theorem spanFormat2_total (segs : List Seg) (h : SegsOK segs) (ns : Int) : ∃ s, spanFormat2 .now segs ns = .text s := by
  unfold spanFormat2
  simp only
  obtain ⟨t, ht⟩ := segsText_ok segs h (if (decide (ns < 0) && decide (ns ≠ -9223372036854775808)) = true then -ns else ns)
  rw [ht]
  exact ⟨_, rfl⟩

theorem segsOK_appendLiteral : ∀ (segs : List Seg) (c : Char), SegsOK segs → SegsOK (appendLiteral segs c)
  | [], c, _ => by simp [appendLiteral, SegsOK]
  | [.lit s], c, _ => by simp [appendLiteral, SegsOK]
  | [.val v], c, h => by simpa [appendLiteral, SegsOK] using h
  | .lit s :: y :: rest, c, h => by
    simp only [appendLiteral, SegsOK] at h ⊢
    exact segsOK_appendLiteral (y :: rest) c h
  | .val v :: y :: rest, c, h => by
    simp only [appendLiteral, SegsOK] at h ⊢
    exact ⟨h.1, segsOK_appendLiteral (y :: rest) c h.2⟩

theorem segsOK_snoc : ∀ (segs : List Seg) (v : VSeg), SegsOK segs → v.ok → SegsOK (segs ++ [.val v])
  | [], v, _, hv => by simp [SegsOK, hv]
  | .lit s :: rest, v, h, hv => by simp only [List.cons_append, SegsOK] at h ⊢; exact segsOK_snoc rest v h hv
  | .val x :: rest, v, h, hv => by simp only [List.cons_append, SegsOK] at h ⊢; exact ⟨h.1, segsOK_snoc rest v h.2 hv⟩

theorem segsOK_markTotal (n : Nat) : ∀ (segs : List Seg), SegsOK segs → SegsOK (markTotal n segs)
  | [], _ => trivial
  | .lit s :: rest, h => by simp only [markTotal, SegsOK] at h ⊢; exact segsOK_markTotal n rest h
  | .val v :: rest, h => by
    simp only [markTotal, SegsOK] at h ⊢
    refine ⟨?_, segsOK_markTotal n rest h.2⟩
    split <;> exact h.1

/-- the invariant of the parser's state -/
def PS.ok (ps : PS) : Prop :=
  SegsOK ps.segs ∧ (ps.pad = none ∨ ps.pad = some '0' ∨ ps.pad = some ' ') ∧ (∀ w, ps.width = some w → w ≤ 1000000)

theorem spanStep_ok (ps ps' : PS) (c : Char) (h : ps.ok) (hs : spanStep .now ps c = some ps') : ps'.ok := by
  obtain ⟨h1, h2, h3⟩ := h
  -- every state the step may answer keeps the invariant: `StepOK r`
  let StepOK (r : Option PS) : Prop := ∀ p, r = some p → p.ok
  have hnone : StepOK none := fun _ h => nomatch h
  have hsome : ∀ p : PS, p.ok → StepOK (some p) := fun p hp _ h => Option.some.inj h ▸ hp
  have hlit : SegsOK (appendLiteral ps.segs c) := segsOK_appendLiteral _ _ h1
  suffices H : StepOK (spanStep .now ps c) from H ps' hs
  unfold spanStep
  refine iteInduction (motive := StepOK) (fun _ => ?_) fun _ => ?_
  · exact iteInduction (motive := StepOK) (fun _ => hsome _ ⟨h1, .inr (.inl rfl), fun _ h => nomatch h⟩) fun _ => hsome _ ⟨hlit, h2, h3⟩
  refine iteInduction (motive := StepOK) (fun _ => hsome _ ⟨hlit, h2, h3⟩) fun _ => ?_
  refine iteInduction (motive := StepOK) (fun _ => iteInduction (motive := StepOK) (fun _ => hnone) fun _ => hsome _ ⟨h1, .inl rfl, h3⟩) fun _ => ?_
  refine iteInduction (motive := StepOK) (fun _ => iteInduction (motive := StepOK) (fun _ => hnone) fun _ => hsome _ ⟨h1, .inr (.inr rfl), h3⟩)
    fun _ => ?_
  cases letterKind c with
  | some k =>
    refine hsome _ ⟨segsOK_snoc _ _ h1 ⟨h2, ?_⟩, h2, h3⟩
    cases hw : ps.width with
    | none => exact defaultWidth_le k
    | some w => exact h3 w hw
  | none =>
    refine iteInduction (motive := StepOK) (fun _ => hnone) fun _ => ?_
    refine iteInduction (motive := StepOK) (fun _ => hsome _ ⟨h1, .inr (.inl rfl), h3⟩) fun _ => ?_
    -- fix 5257aa1: a width above fmt's limit is refused here
    refine iteInduction (motive := StepOK) (fun _ => hnone) fun hlim => hsome _ ⟨h1, h2, fun w hw => ?_⟩
    cases hw
    simpa [SpanCode.now, maxFormatNumber] using hlim

theorem spanSteps_ok : ∀ (l : Str) (ps ps' : PS), ps.ok → spanSteps .now ps l = some ps' → ps'.ok
  | [], ps, ps', h, hs => by simp [spanSteps] at hs; subst hs; exact h
  | c :: cs, ps, ps', h, hs => by
    simp only [spanSteps] at hs
    cases hc : spanStep .now ps c with
    | none => simp [hc] at hs
    | some p1 =>
      simp only [hc, Option.bind] at hs
      exact spanSteps_ok cs p1 ps' (spanStep_ok ps p1 c h hc) hs

/-- every format the repaired parser accepts has segments the formatter handles without a fault -/
theorem spanParse_ok (fm : Str) (segs : List Seg) (h : spanParse fm = some segs) : SegsOK segs := by
  unfold spanParse spanParseC at h
  cases hs : spanSteps .now ⟨[], none, .literal, some '0', none⟩ fm with
  | none => simp [hs] at h
  | some ps =>
    have hok := spanSteps_ok fm _ ps (by simp [PS.ok, SegsOK]) hs
    simp only [hs] at h
    split at h
    · cases h
    · split at h
      · cases h; exact hok.1
      · cases h; exact segsOK_markTotal _ _ hok.1

theorem spanSteps_literal : ∀ (l : Str), (∀ c ∈ l, c ≠ '%') → ∀ p : Str,
    spanSteps .now ⟨[.lit p], none, .literal, some '0', none⟩ l = some ⟨[.lit (p ++ l)], none, .literal, some '0', none⟩
  | [], _, p => by rw [List.append_nil]; rfl
  | c :: cs, hl, p => by
    have hc : c ≠ '%' := hl c List.mem_cons_self
    simp only [spanSteps, spanStep, if_true, hc, if_false, Option.bind, appendLiteral]
    rw [spanSteps_literal cs (fun x hx => hl x (List.mem_cons_of_mem _ hx)) (p ++ [c]), List.append_assoc]
    rfl

theorem spanParse_literal (fm : Str) (hfm : ∀ c ∈ fm, c ≠ '%') :
    spanParse fm = some (match fm with | [] => [] | _ => [.lit fm]) := by
  unfold spanParse spanParseC
  cases fm with
  | nil => rfl
  | cons c cs =>
    have hc : c ≠ '%' := hfm c List.mem_cons_self
    simp only [spanSteps, spanStep, if_true, hc, if_false, Option.bind, appendLiteral]
    rw [spanSteps_literal cs (fun x hx => hfm x (List.mem_cons_of_mem _ hx)) [c]]
    rfl

theorem valueFmt_width (c : Char) (hc : c = '0' ∨ c = ' ') (w : Nat) (h1 : 1 ≤ w) (h2 : w ≤ 1000000) (n : Int) (s : Str)
    (h : fmtD (valueFmt (some c) w) n = some s) : w ≤ s.length := by
  obtain ⟨g, hw, hg⟩ := valueFmt_padded c hc w h1 h2 n
  rw [hg] at h; cases h
  exact goInteger_width g 10 false n w hw

theorem span_sum (ns : Int) (h : 0 ≤ ns) :
    ns.tdiv nsPerDay * nsPerDay + (ns.tdiv nsPerHour).tmod 24 * nsPerHour + (ns.tdiv nsPerMin).tmod 60 * nsPerMin +
      (ns.tdiv nsPerSec).tmod 60 * nsPerSec + ns.tmod nsPerSec = ns := by
  have e1 : ∀ (a b : Int), 0 ≤ a → a.tdiv b = a / b := fun a b ha => Int.tdiv_eq_ediv_of_nonneg ha
  have e2 : ∀ (a b : Int), 0 ≤ a → a.tmod b = a % b := fun a b ha => Int.tmod_eq_emod_of_nonneg ha
  unfold nsPerDay nsPerHour nsPerMin nsPerSec
  rw [e1 ns _ h, e1 ns 3600000000000 h, e1 ns 60000000000 h, e1 ns 1000000000 h,
    e2 _ 24 (Int.ediv_nonneg h (by decide)), e2 _ 60 (Int.ediv_nonneg h (by decide)), e2 _ 60 (Int.ediv_nonneg h (by decide)),
    e2 ns _ h]
  omega

end Pcore.Format

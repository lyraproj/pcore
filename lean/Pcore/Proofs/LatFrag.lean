import Pcore.Proofs.LatWF
set_option linter.unusedSimpArgs false
/-! The fragments of the lattice theorems (transitivity: `Ty.TF`, `Ty.TA`; soundness: `Ty.Frag`; the reference fragment `Ty.Ref` of C02
    is in LatWF) and the side conditions of C01 on types (`Ty.US`; `Ty.Good` = fragment, well-formed, Unit-safe) and on values (`Val.TyOKS`,
    `Val.TyOK`).  After the definitions on types: `Ty.Frag` and `Ty.US` at the constructors (equations, parts by name), `Ty.Good` at Tuple and
    Struct, and every fragment at the types without a type inside. -/
namespace Pcore.Lat
variable (cfg : Cfg) (sfh : Bool)

/-- Fragment of transitivity: hereditarily none of Unit (two-way assignable by definition), Callable (its rule is not transitive), Struct (counting rule, and the
    Struct-from-Hash rule that breaks transitivity), Iterable, Data / RichData.  Tuples are inside (stage 2). -/
def Ty.TF (t : Ty) : Prop :=
  match t with
  | .unit | .data | .richData | .struct _ | .iterable _ | .callable _ _ _ => False
  | .tuple ts _ => ∀ t', ∀ (_ : t' ∈ ts), Ty.TF t'
  | .array e _ => Ty.TF e
  | .hash k v _ => Ty.TF k ∧ Ty.TF v
  | .variant ts => ∀ t', ∀ (_ : t' ∈ ts), Ty.TF t'
  | .optional t' | .notUndef t' | .sensitive t' | .iterator t' | .typ t' => Ty.TF t'
  | _ => True
termination_by t.w
decreasing_by
  all_goals simp_wf
  all_goals (try simp only [Ty.w, Ty.wl, Ty.wm] at *)
  all_goals first
    | omega
    | (have := Ty.w_lt_wl ‹_ ∈ _›; omega)

/-- The fragment of `C03_trans_alias_partial` (transitivity, stage 4), shape only: hereditarily no Unit and no Callable (its rule is not transitive); Struct (members of any nesting) only
    with the Struct-from-Hash rule off; the type list of a Tuple fits an int64 length (every Go slice does).  Everything else of the model is
    inside: the two built-in recursive aliases Data and RichData, Iterable, all scalar and collection types.  (Defined here, upstream of
    `Ty.Frag`, because C01's fragment asks it of the content of a `Type[T]`; transitivity on it is `transD`, Proofs/LatTransFrag.) -/
def Ty.TA (sfh : Bool) (t : Ty) : Prop :=
  match t with
  | .unit | .callable _ _ _ => False
  | .struct ms => sfh = false ∧ ∀ m, ∀ (_ : m ∈ ms), Ty.TA sfh m.2.2
  | .tuple ts _ => ((ts.length : Int) ≤ I64.max) ∧ ∀ t', ∀ (_ : t' ∈ ts), Ty.TA sfh t'
  | .array e _ => Ty.TA sfh e
  | .hash k v _ => Ty.TA sfh k ∧ Ty.TA sfh v
  | .variant ts => ∀ t', ∀ (_ : t' ∈ ts), Ty.TA sfh t'
  | .optional t' | .notUndef t' | .sensitive t' | .iterator t' | .typ t' | .iterable t' => Ty.TA sfh t'
  | _ => True
termination_by t.w
decreasing_by
  all_goals simp_wf
  all_goals (try simp only [Ty.w, Ty.wl, Ty.wm] at *)
  all_goals first
    | omega
    | (have := Ty.w_lt_wl ‹_ ∈ _›; omega)
    | (have := Ty.w_lt_wm ‹_ ∈ _›; omega)

/-- Fragment of `C01_sound_partial`: hereditarily no `Iterable[..]` (its instance rule is an assignability question about an inferred
    type, and is genuinely unsound); with the exempt rule switched on (`sfh = true`) also no `Struct` (the rule
    lets a Struct accept a Hash type on key type and size alone — the stated exclusion of C01).  `Type[T]` is allowed; its content `T` must lie in the fragment of
    transitivity, because soundness for `Type[..]` IS transitivity (C03) — that fragment is `Ty.TA sfh`: every type of
    the model but Unit and Callable (Struct only with the rule off), Iterable and the aliases included. -/
def Ty.Frag (t : Ty) (sfh : Bool) : Prop :=
  match t with
  | .iterable _ => False
  | .typ t' => Ty.TA sfh t'
  | .array e _ => Ty.Frag e sfh
  | .hash k v _ => Ty.Frag k sfh ∧ Ty.Frag v sfh
  | .tuple ts _ => ∀ t', ∀ (_ : t' ∈ ts), Ty.Frag t' sfh
  | .struct ms => sfh = false ∧ ∀ m, ∀ (_ : m ∈ ms), Ty.Frag m.2.2 sfh
  | .variant ts => ∀ t', ∀ (_ : t' ∈ ts), Ty.Frag t' sfh
  | .optional t' | .notUndef t' | .sensitive t' | .iterator t' => Ty.Frag t' sfh
  | _ => True
termination_by t.w
decreasing_by
  all_goals simp_wf
  all_goals (try simp only [Ty.w, Ty.wl, Ty.wm] at *)
  all_goals first
    | omega
    | (have := Ty.w_lt_wl ‹_ ∈ _›; omega)
    | (have := Ty.w_lt_wm ‹_ ∈ _›; omega)

/-- `UnitSafe`: Unit occurs only as element / key / value type of a collection whose maximal size is 0 (the shape inferred for
    empty arrays and hashes).  The property excludes Unit; inferred types contain it in exactly that shape. -/
def Ty.US (t : Ty) : Prop :=
  match t with
  | .unit => False
  | .array e r => r.hi ≤ 0 ∨ Ty.US e
  | .hash k v r => r.hi ≤ 0 ∨ (Ty.US k ∧ Ty.US v)
  | .tuple ts g => (tupleSize ts g).hi ≤ 0 ∨ ∀ t', ∀ (_ : t' ∈ ts), Ty.US t'
  | .struct ms => ∀ m, ∀ (_ : m ∈ ms), Ty.US m.2.2
  | .variant ts => ∀ t', ∀ (_ : t' ∈ ts), Ty.US t'
  | .optional t' | .notUndef t' | .sensitive t' | .iterator t' | .typ t' | .iterable t' => Ty.US t'
  | _ => True
termination_by t.w
decreasing_by
  all_goals simp_wf
  all_goals (try simp only [Ty.w, Ty.wl, Ty.wm] at *)
  all_goals first
    | omega
    | (have := Ty.w_lt_wl ‹_ ∈ _›; omega)
    | (have := Ty.w_lt_wm ‹_ ∈ _›; omega)

/-- side conditions of C01 on a type -/
def Ty.Good (cfg : Cfg) (sfh : Bool) (t : Ty) : Prop := t.Frag sfh ∧ Ty.WF cfg t ∧ t.US

/-! ### `Ty.Frag` and `Ty.US` at Tuple and Struct as equations, and the parts of a type of the fragment / of a Unit-safe type by name
    (for use instead of `unfold`) -/
theorem Ty.frag_tuple {sfh : Bool} {ts : List Ty} {g : Option Rng} : (Ty.tuple ts g).Frag sfh ↔ ∀ t ∈ ts, t.Frag sfh := by rw [Ty.Frag]
theorem Ty.frag_struct {sfh : Bool} {ms : List Member} : (Ty.struct ms).Frag sfh ↔ sfh = false ∧ ∀ m ∈ ms, m.2.2.Frag sfh := by rw [Ty.Frag]
theorem Ty.us_tuple {ts : List Ty} {g : Option Rng} : (Ty.tuple ts g).US ↔ (tupleSize ts g).hi ≤ 0 ∨ ∀ t ∈ ts, t.US := by rw [Ty.US]
theorem Ty.us_struct {ms : List Member} : (Ty.struct ms).US ↔ ∀ m ∈ ms, m.2.2.US := by rw [Ty.US]

section
variable {sfh : Bool}
theorem Ty.Frag.typ {x : Ty} (h : (Ty.typ x).Frag sfh) : x.TA sfh := by unfold Ty.Frag at h; exact h
theorem Ty.Frag.elem {e : Ty} {r : Rng} (h : (Ty.array e r).Frag sfh) : e.Frag sfh := by unfold Ty.Frag at h; exact h
theorem Ty.Frag.key {k v : Ty} {r : Rng} (h : (Ty.hash k v r).Frag sfh) : k.Frag sfh := by unfold Ty.Frag at h; exact h.1
theorem Ty.Frag.val {k v : Ty} {r : Rng} (h : (Ty.hash k v r).Frag sfh) : v.Frag sfh := by unfold Ty.Frag at h; exact h.2
theorem Ty.Frag.mem_tuple {ts : List Ty} {g : Option Rng} (h : (Ty.tuple ts g).Frag sfh) {t : Ty} (hm : t ∈ ts) : t.Frag sfh :=
  Ty.frag_tuple.1 h t hm
theorem Ty.Frag.ruleOff {ms : List Member} (h : (Ty.struct ms).Frag sfh) : sfh = false := (Ty.frag_struct.1 h).1
theorem Ty.Frag.member {ms : List Member} (h : (Ty.struct ms).Frag sfh) {m : Member} (hm : m ∈ ms) : m.2.2.Frag sfh :=
  (Ty.frag_struct.1 h).2 m hm
theorem Ty.Frag.mem_variant {ts : List Ty} (h : (Ty.variant ts).Frag sfh) {t : Ty} (hm : t ∈ ts) : t.Frag sfh := by
  unfold Ty.Frag at h; exact h t hm
theorem Ty.Frag.optional {x : Ty} (h : (Ty.optional x).Frag sfh) : x.Frag sfh := by unfold Ty.Frag at h; exact h
theorem Ty.Frag.notUndef {x : Ty} (h : (Ty.notUndef x).Frag sfh) : x.Frag sfh := by unfold Ty.Frag at h; exact h
theorem Ty.Frag.sensitive {x : Ty} (h : (Ty.sensitive x).Frag sfh) : x.Frag sfh := by unfold Ty.Frag at h; exact h
theorem Ty.Frag.not_iterable {x : Ty} : ¬ (Ty.iterable x).Frag sfh := by unfold Ty.Frag; exact id
end

/-- under a collection type Unit-safety passes to the element types when an instance can be non-empty (`hp`) -/
theorem Ty.US.elem {e : Ty} {r : Rng} (h : (Ty.array e r).US) (hp : ¬ r.hi ≤ 0) : e.US := by unfold Ty.US at h; exact h.resolve_left hp
theorem Ty.US.key {k v : Ty} {r : Rng} (h : (Ty.hash k v r).US) (hp : ¬ r.hi ≤ 0) : k.US := by
  unfold Ty.US at h; exact (h.resolve_left hp).1
theorem Ty.US.val {k v : Ty} {r : Rng} (h : (Ty.hash k v r).US) (hp : ¬ r.hi ≤ 0) : v.US := by
  unfold Ty.US at h; exact (h.resolve_left hp).2
theorem Ty.US.mem_tuple {ts : List Ty} {g : Option Rng} (h : (Ty.tuple ts g).US) (hp : ¬ (tupleSize ts g).hi ≤ 0) {t : Ty} (hm : t ∈ ts) :
    t.US := (Ty.us_tuple.1 h).resolve_left hp t hm
theorem Ty.US.member {ms : List Member} (h : (Ty.struct ms).US) {m : Member} (hm : m ∈ ms) : m.2.2.US := Ty.us_struct.1 h m hm
theorem Ty.US.mem_variant {ts : List Ty} (h : (Ty.variant ts).US) {t : Ty} (hm : t ∈ ts) : t.US := by unfold Ty.US at h; exact h t hm
theorem Ty.US.optional {x : Ty} (h : (Ty.optional x).US) : x.US := by unfold Ty.US at h; exact h
theorem Ty.US.notUndef {x : Ty} (h : (Ty.notUndef x).US) : x.US := by unfold Ty.US at h; exact h
theorem Ty.US.sensitive {x : Ty} (h : (Ty.sensitive x).US) : x.US := by unfold Ty.US at h; exact h
theorem Ty.US.not_unit : ¬ Ty.unit.US := by unfold Ty.US; exact id

theorem Ty.Good.tuple {cfg : Cfg} {sfh : Bool} {ts : List Ty} {g : Option Rng} (h : ∀ t ∈ ts, Ty.Good cfg sfh t) : Ty.Good cfg sfh (.tuple ts g) :=
  ⟨Ty.frag_tuple.2 fun t ht => (h t ht).1, Ty.wf_tuple.2 fun t ht => (h t ht).2.1, Ty.us_tuple.2 (Or.inr fun t ht => (h t ht).2.2)⟩
theorem Ty.Good.struct {cfg : Cfg} {sfh : Bool} {ms : List Member} (hs : sfh = false) (hn : (ms.map (·.1)).Nodup)
    (h : ∀ m ∈ ms, Ty.Good cfg sfh m.2.2) : Ty.Good cfg sfh (.struct ms) :=
  ⟨Ty.frag_struct.2 ⟨hs, fun m hm => (h m hm).1⟩, Ty.wf_struct.2 ⟨hn, fun m hm => (h m hm).2.1⟩, Ty.us_struct.2 fun m hm => (h m hm).2.2⟩

theorem Ty.frag_of_fragLeaf {c : Ty} (h : c.fragLeaf = true) (sfh : Bool) : c.Frag sfh := by
  cases c <;> first | (unfold Ty.Frag; trivial) | cases h
theorem Ty.us_of_fragLeaf {c : Ty} (h : c.fragLeaf = true) : c.US := by
  cases c <;> first | (unfold Ty.US; trivial) | cases h
theorem Ty.ta_of_fragLeaf {c : Ty} (h : c.fragLeaf = true) (sfh : Bool) : c.TA sfh := by
  cases c <;> first | (unfold Ty.TA; trivial) | cases h

/-- side conditions of C01 on values: every type used as a value inside `v` lies in the transitivity fragment (`Ty.TA sfh`: everything but
    Unit and Callable, Struct only with the rule off) and is well-formed, and container lengths are within int64 (Go's `len` is an `int`; the model's
    lists are unbounded) -/
inductive Val.TyOKS (cfg : Cfg) (sfh : Bool) : Val → Prop
  | undef : Val.TyOKS cfg sfh .undef
  | dflt : Val.TyOKS cfg sfh .dflt
  | bool (b) : Val.TyOKS cfg sfh (.bool b)
  | int (i) : Val.TyOKS cfg sfh (.int i)
  | float (f) : Val.TyOKS cfg sfh (.float f)
  | str (s) : Val.TyOKS cfg sfh (.str s)
  | regexp (s) : Val.TyOKS cfg sfh (.regexp s)
  | binary (b) : Val.TyOKS cfg sfh (.binary b)
  | tspan (n) : Val.TyOKS cfg sfh (.tspan n)
  | typ (t) : t.TA sfh → Ty.WF cfg t → Val.TyOKS cfg sfh (.typ t)
  | obj (p) : Val.TyOKS cfg sfh (.obj p)
  | sensitive (v) : Val.TyOKS cfg sfh v → Val.TyOKS cfg sfh (.sensitive v)
  | array (vs) : ((vs.length : Int) ≤ I64.max) → (∀ x ∈ vs, Val.TyOKS cfg sfh x) → Val.TyOKS cfg sfh (.array vs)
  | hash (es : List (Val × Val)) : ((es.length : Int) ≤ I64.max) → (∀ e ∈ es, Val.TyOKS cfg sfh e.1) → (∀ e ∈ es, Val.TyOKS cfg sfh e.2) →
      Val.TyOKS cfg sfh (.hash es)

theorem Val.TyOKS.elems {cfg : Cfg} {sfh : Bool} {vs : List Val} (h : Val.TyOKS cfg sfh (.array vs)) : ∀ x ∈ vs, Val.TyOKS cfg sfh x := by
  cases h with | array _ _ h => exact h
theorem Val.TyOKS.keys {cfg : Cfg} {sfh : Bool} {es : List (Val × Val)} (h : Val.TyOKS cfg sfh (.hash es)) : ∀ e ∈ es, Val.TyOKS cfg sfh e.1 := by
  cases h with | hash _ _ h _ => exact h
theorem Val.TyOKS.vals {cfg : Cfg} {sfh : Bool} {es : List (Val × Val)} (h : Val.TyOKS cfg sfh (.hash es)) : ∀ e ∈ es, Val.TyOKS cfg sfh e.2 := by
  cases h with | hash _ _ _ h => exact h
theorem Val.TyOKS.alen {cfg : Cfg} {sfh : Bool} {vs : List Val} (h : Val.TyOKS cfg sfh (.array vs)) : (vs.length : Int) ≤ I64.max := by
  cases h with | array _ h _ => exact h
theorem Val.TyOKS.hlen {cfg : Cfg} {sfh : Bool} {es : List (Val × Val)} (h : Val.TyOKS cfg sfh (.hash es)) : (es.length : Int) ≤ I64.max := by
  cases h with | hash _ h _ _ => exact h
theorem Val.TyOKS.inner {cfg : Cfg} {sfh : Bool} {v : Val} (h : Val.TyOKS cfg sfh (.sensitive v)) : Val.TyOKS cfg sfh v := by
  cases h with | sensitive _ h => exact h

/-- `Val.TyOKS` at `sfh = false` (C19) -/
abbrev Val.TyOK (cfg : Cfg) (v : Val) : Prop := Val.TyOKS cfg false v

end Pcore.Lat

import Pcore.Proofs.TlsLoaders
/-!
The induction behind C14: every execution (`exec .now`, any fuel, any program, any oracle) started by a goroutine whose
current context is the one its body was handed (`Pre`) is a `Run` — it keeps the world well-formed, logs only
observations of that context, writes no context object and no entry table but its own (`Full`), leaves the
goroutine-local tables exactly as they were, puts the body's loader chain back and keeps the loader-chain invariant.

`Eff xc x w w'` is what composes: the guarantee of any stretch of execution that leaves the tables alone.  The only places
where a table is written are entry and exit of `px.DoWithContext` (`doWithContext_eff`); the goroutine of `px.Fork` is
such a scope on a goroutine that has no table yet (`runTask_eq`).
-/
namespace Pcore.Tls

structure Eff (xc : Option CtxId) (x : Option LoaderId) (w w' : World) : Prop where
  full : Full xc x w w'
  tls : w'.tls = w.tls
  linv : LInv w → LInv w'

theorem Eff.refl {xc x w} (h : Inv w) (hx : ∀ t ∈ w.pending, some t.ctx ≠ xc) : Eff xc x w w :=
  ⟨Full.refl h hx, rfl, id⟩

/-- composition: an exception of the second stretch is one of the first, or was allocated after the start -/
theorem Eff.trans {xc yc x y w w1 w2} (e1 : Eff xc x w w1) (e2 : Eff yc y w1 w2)
    (hc : ∀ i, yc = some i → xc = some i ∨ w.nextCtx ≤ i) (hl : ∀ l, y = some l → x = some l ∨ w.nextLoader ≤ l) :
    Eff xc x w w2 where
  full := e1.full.trans e2.full
    (fun i hi hx hy => (hc i hy.symm).elim (fun h => hx h.symm) (fun h => Nat.lt_irrefl _ (Nat.lt_of_lt_of_le hi h)))
    (fun l hi hx _ hy => (hl l hy.symm).elim (fun h => hx h.symm) (fun h => Nat.lt_irrefl _ (Nat.lt_of_lt_of_le hi h)))
  tls := e2.tls.trans e1.tls
  linv := fun h => e2.linv (e1.linv h)

/-- the exception is the context (the loader) allocated next -/
theorem new_exc {n : Nat} {x : Option Nat} : ∀ i, some n = some i → x = some i ∨ n ≤ i :=
  fun _ h => Or.inr (Nat.le_of_eq (Option.some.inj h))

theorem Eff.seq {xc x w w1 w2} (e1 : Eff xc x w w1) (e2 : Eff xc x w1 w2) : Eff xc x w w2 :=
  e1.trans e2 (fun _ h => Or.inl h) (fun _ h => Or.inl h)

theorem Eff.andThen {xc x w w1 w2} (e1 : Eff xc x w w1) (e2 : Eff none none w1 w2) : Eff xc x w w2 :=
  e1.trans e2 (fun _ h => nomatch h) (fun _ h => nomatch h)

theorem Eff.weaken {xc x w w'} (e : Eff none none w w') (hx : ∀ t ∈ w.pending, some t.ctx ≠ xc) : Eff xc x w w' :=
  ⟨e.full.weaken hx, e.tls, e.linv⟩

theorem Eff.weakenC {xc x w w'} (e : Eff none x w w') (hx : ∀ t ∈ w.pending, some t.ctx ≠ xc) : Eff xc x w w' :=
  ⟨e.full.weakenC hx, e.tls, e.linv⟩

theorem Eff.weakenL {xc x w w'} (e : Eff xc none w w') : Eff xc x w w' := ⟨e.full.weakenL, e.tls, e.linv⟩

theorem Eff.pre {xc x w w'} {g c : Nat} (e : Eff xc x w w') (h : Pre g c w) : Pre g c w' := h.step e.full.s e.tls

/-- only the scheduling oracle or the out-of-fuel flag changes -/
theorem Eff.sched_oof {w : World} (h : Inv w) (s : List Nat) (b : Bool) : Eff none none w { w with sched := s, oof := b } :=
  ⟨Full.of_step (Step.of_same h rfl rfl rfl rfl rfl (logOK_same rfl rfl) (fun _ _ => rfl)) h rfl rfl rfl, rfl,
   fun hl => hl.of_same rfl rfl rfl rfl⟩

theorem emit_eff {g : Gid} {e : Ev} {w : World} (h : Inv w) (he : EvOK w (g, e)) : Eff none none w (emit g e w) :=
  ⟨Full.of_step (emit_step h he) h rfl rfl rfl, rfl, fun hl => hl.of_same rfl rfl rfl rfl⟩

theorem ctxUpd_full {c : CtxId} {f : Ctx → Ctx} {w : World} (h : Inv w) (hc : c ∉ pendCtxs w) :
    Full (some c) none w (ctxUpd c f w) :=
  ⟨ctxUpd_step h, DStep.of_same rfl rfl rfl, h, not_pend_ne hc⟩

theorem ctxUpd_eff {c : CtxId} {f : Ctx → Ctx} {w : World} (h : Inv w) (hc : c ∉ pendCtxs w)
    (hf : ∀ y, (f y).loader = y.loader) : Eff (some c) none w (ctxUpd c f w) :=
  ⟨ctxUpd_full h hc, rfl, fun hl => hl.ctxUpd_keep c f hf⟩

theorem newLoader_full {w : World} (h : Inv w) : Full none none w (newLoader w).2 := by
  refine ⟨newLoader_step h, ⟨Nat.le_succ _, fun l hl _ _ => ?_, fun _ h => Or.inl h⟩, h, none_ne_pend⟩
  have : l ≠ w.nextLoader := Nat.ne_of_lt hl
  simp [newLoader, this]

theorem forkCtx_eff {c : CtxId} {w : World} (h : Inv w) (hc : c < w.nextCtx) (hnp : c ∉ pendCtxs w) :
    Eff none none w (forkCtx c w).2 :=
  ⟨(newLoader_full h).trans (Full.of_step (newCtx_step (newLoader_step h).inv) (newLoader_step h).inv rfl rfl rfl)
      (fun _ _ h => h) (fun _ _ h _ => h),
   rfl, fun hl => hl.after_forkCtx h hc hnp⟩

/-- the root context of `pcore.Do`: a new context on the shared environment loader -/
theorem newRoot_eff {w : World} (h : Inv w) : Eff none none w (newCtx { loader := [0] } w).2 := by
  refine ⟨Full.of_step (newCtx_step h) h rfl rfl rfl, rfl, fun hl => hl.after_newCtx h _ ?_ ?_⟩
  · intro l hm; simp at hm; rw [hm]; exact hl.ldPos
  · intro t ht hd e hm
    simp at hm
    obtain ⟨hd', e2, p1, _⟩ := hl.pendHead t ht
    rw [e] at e2; cases e2
    rw [hm] at p1; exact absurd p1 (by decide)

theorem spawn_eff {c : CtxId} {p : Prog} {w : World} (h : Inv w) (hc : c < w.nextCtx) (hnp : c ∉ pendCtxs w) :
    Eff none none w (spawn .now c p w) := by
  refine ⟨⟨spawn_step h, ⟨?_, ?_, ?_⟩, h, none_ne_pend⟩, rfl, fun hl => hl.after_spawn h p hc hnp⟩
  · rw [spawn_now]; exact Nat.le_succ _
  · exact fun l hl _ _ => forkCtx_defs c w l (Nat.ne_of_lt hl)
  · rw [spawn_now]
    exact List.forall_mem_append.2 ⟨fun _ ht => Or.inl ht,
      List.forall_mem_singleton.2 (Or.inr ⟨w.nextLoader, headOf_forkCtx c w, Nat.le_refl _⟩)⟩

/-- what executing a body that was handed `c` guarantees: it may write `c` and `c`'s defining loader, and when it is over
    `c` has the loader chain it had -/
structure Run (c : CtxId) (w w' : World) : Prop where
  eff : Eff (some c) (headOf w c) w w'
  loader : (w'.ctxs c).loader = (w.ctxs c).loader

def ExecAll (ex : Prog → Gid → CtxId → World → Outcome × World) : Prop :=
  ∀ p g c w, Pre g c w → Run c w (ex p g c w).2

theorem Run.refl {g c : Nat} {w : World} (h : Pre g c w) : Run c w w := ⟨Eff.refl h.inv (lex_ne_pend h), rfl⟩

theorem Run.seq {c w w1 w2} (r1 : Run c w w1) (r2 : Run c w1 w2) : Run c w w2 := by
  have e2 := r2.eff
  rw [headOf_congr r1.loader] at e2
  exact ⟨r1.eff.seq e2, r2.loader.trans r1.loader⟩

theorem Run.emit {c w w1} (r : Run c w w1) {g : Gid} {e : Ev} (he : EvOK w1 (g, e)) : Run c w (emit g e w1) :=
  ⟨r.eff.andThen (emit_eff r.eff.full.s.inv he), r.loader⟩

theorem Eff.toRun {w w'} {g c : Nat} (e : Eff none none w w') (h : Pre g c w) : Run c w w' :=
  ⟨e.weaken (lex_ne_pend h), by rw [e.full.s.frame c h.clt (by simp) (Or.inl h.cnp)]⟩

theorem ctxUpd_run {g c : Nat} {f : Ctx → Ctx} {w : World} (h : Pre g c w) (hf : ∀ y, (f y).loader = y.loader) :
    Run c w (ctxUpd c f w) :=
  ⟨(ctxUpd_eff h.inv h.cnp hf).weakenL, by simp [ctxUpd, hf]⟩

theorem leafStep_run {g c : Nat} {l : Leaf} {w : World} (h : Pre g c w) : Run c w (leafStep g c l w).2 := by
  have e := leafStep_nf g c l w
  obtain ⟨s, ht⟩ := leafStep_step (l := l) h
  obtain ⟨cs, d, lg, hw⟩ := e.eq
  have hp : (leafStep g c l w).2.pending = w.pending := by rw [hw]
  have hn : (leafStep g c l w).2.nextLoader = w.nextLoader := by rw [hw]
  have hc : (leafStep g c l w).2.nextCtx = w.nextCtx := by rw [hw]
  exact ⟨⟨⟨s, ⟨Nat.le_of_eq hn.symm, fun l _ hne _ => e.defs l hne, by rw [hp]; exact fun _ h => Or.inl h⟩, h.inv, lex_ne_pend h⟩, ht,
    fun hl => hl.of_chains e.loader hp hc hn⟩, e.loader c⟩

/-- `px.DoWithContext(cx, body)` by a running goroutine, `cx` a context nobody has been given yet: the body runs with `cx` as
    its current context, afterwards the tables are what they were -/
theorem doWithContext_eff {g cx : Nat} {y : Option LoaderId} {body : World → Outcome × World} {w : World}
    (hinv : Inv w) (hg : g < w.nextGid) (hgp : g ∉ pendGids w) (hu : Unused cx w)
    (hb : ∀ w1, Pre g cx w1 → w1.ctxs = w.ctxs → Eff (some cx) y w1 (body w1).2) :
    Eff (some cx) y w (doWithContext .now g cx body w).2 := by
  obtain ⟨save, w2, he⟩ := dwcEnter_some g cx w
  have en := dwcEnter_spec he hinv hg hgp hu
  have hpre : Pre g cx w2 := ⟨en.s.inv, en.cur, by rw [en.ng]; exact hg, en.s.gid_not_pend hg hgp, en.est⟩
  have eb := hb w2 hpre en.ctxs
  rw [doWithContext_enter_exit, he]
  simp only
  generalize body w2 = r at eb
  have hpr := eb.pre hpre
  obtain ⟨w3, hx⟩ := dwcExit_some (save := save) (w := r.2) (by rw [hpr.cur]; rfl)
  have ex := dwcExit_spec hx hpr.inv hpr.glt hpr.gnp
  simp only [hx]
  have f1 : Full none none w w2 := Full.of_step en.s hinv en.defs en.nl en.l.pend
  have f3 : Full none none r.2 w3 := Full.of_step ex.s hpr.inv ex.defs ex.nl ex.l.pend
  exact {
    full := ((f1.weaken (not_pend_ne hu.np)).trans eb.full (fun _ _ h => h) (fun _ _ h _ => h)).trans f3
      (fun _ _ _ => by simp) (fun _ _ _ _ => by simp)
    tls := dwcExit_dwcEnter hinv he eb.tls hx
    linv := fun hl => (eb.linv (hl.of_same en.ctxs en.l.pend en.nc en.nl)).of_same ex.ctxs ex.l.pend ex.nc ex.nl }

/-- the deferred `recover()` of `TryWithParent` -/
theorem catch_eff {g : Gid} {ctch : Bool} {r : Outcome × World} {xc : Option CtxId} {x : Option LoaderId} {w : World}
    (base : Eff xc x w r.2) :
    Eff xc x w (if ctch = true ∧ r.1 = .panicked then (Outcome.normal, emit g .recovered r.2) else r).2 := by
  split
  · exact base.andThen (emit_eff base.full.s.inv EvOK.recovered)
  · exact base

/-- `DoWithParent` / `TryWithParent` with a `px.Context` parent -/
theorem doParent_eff {g : Nat} {id : Nat} {ctch : Bool} {body : CtxId → World → Outcome × World} {root : Nat} {w2 : World}
    (hp : Pre g root w2) (hb : ∀ cx w1, Pre g cx w1 → Run cx w1 (body cx w1).2) :
    Eff (some root) none w2 (doParent .now g id ctch body root w2).2 := by
  have eF := forkCtx_eff hp.inv hp.clt hp.cnp
  have hd := doWithContext_eff (g := g) (cx := w2.nextCtx) (y := some w2.nextLoader) (w := (forkCtx root w2).2)
    (body := fun w4 => body w2.nextCtx (setTag w2.nextCtx id w4))
    eF.full.s.inv hp.glt hp.gnp (Unused.new hp.inv rfl rfl rfl)
    (by
      intro w4 hp4 hc4
      have r4 := ctxUpd_run (f := fun y => { y with tag := some id }) hp4 (fun _ => rfl)
      have e := (r4.seq (hb w2.nextCtx _ (r4.eff.pre hp4))).eff
      rwa [headOf_congr (w := (forkCtx root w2).2) (w' := w4) (by rw [hc4]), headOf_forkCtx root w2] at e)
  simp only [doParent, forkCtx_fst]
  exact catch_eff ((eF.trans hd new_exc new_exc).weakenC (lex_ne_pend hp))

/-- `pcore.Do` / `pcore.Try`, called with or without a current context -/
theorem doDo_eff {g : Nat} {id : Nat} {ctch : Bool} {body : CtxId → World → Outcome × World} {w : World}
    (hinv : Inv w) (hg : g < w.nextGid) (hgp : g ∉ pendGids w)
    (hb : ∀ cx w1, Pre g cx w1 → Run cx w1 (body cx w1).2) :
    Eff none none w (doDo .now g id ctch body w).2 := by
  have e0 := newRoot_eff hinv
  have hd := doWithContext_eff (g := g) (cx := w.nextCtx) (y := none) (w := (newCtx { loader := [0] } w).2)
    (body := doParent .now g id ctch body w.nextCtx)
    e0.full.s.inv hg hgp (Unused.new hinv rfl rfl rfl)
    (fun w2 hp _ => doParent_eff hp hb)
  exact e0.trans hd new_exc (fun _ h => nomatch h)

/-- `go func() { defer Cleanup(); Init(); Set(key, cf); doer(cf) }()` is a `DoWithContext` scope on a goroutine without table -/
theorem runTask_eq (ex : Prog → Gid → CtxId → World → Outcome × World) (t : Task) (w : World) (h : w.tls t.gid = none) :
    runTask .now ex t w = (doWithContext .now t.gid t.ctx (taskBody ex t) w).2 := by
  rw [runTask_now, doWithContext_enter_exit, dwcEnter_of_no_table h]
  rfl

theorem taskBody_eff {ex : Prog → Gid → CtxId → World → Outcome × World} (ih : ExecAll ex) {t : Task} {w : World}
    (h : Pre t.gid t.ctx w) : Run t.ctx w (taskBody ex t w).2 := by
  have r1 := ctxUpd_run (f := fun y => { y with tag := some (1000 + t.gid) }) h (fun _ => rfl)
  have r2 := (r1.seq (ih t.prog t.gid t.ctx _ (r1.eff.pre h))).emit (g := t.gid)
    (e := .done (ex t.prog t.gid t.ctx (setTag t.ctx (1000 + t.gid) w)).1) EvOK.done
  exact ⟨r2.eff.andThen (Eff.sched_oof r2.eff.full.s.inv _ _), r2.loader⟩

/-- a waiting goroutine runs from start to end: only context objects and entry tables of goroutines that were waiting (its own,
    those of others that ran meanwhile) or fresh ones are written, and no table is left -/
theorem runTask_eff {ex : Prog → Gid → CtxId → World → Outcome × World} (ih : ExecAll ex) {w : World} {i : Nat} {t : Task}
    (hinv : Inv w) (ht : w.pending[i]? = some t) :
    Eff none none w (runTask .now ex t { w with pending := w.pending.eraseIdx i }) := by
  have htm : t ∈ w.pending := List.mem_of_getElem? ht
  have s0 := erase_step hinv i
  have hcn : t.ctx ∉ pendCtxs { w with pending := w.pending.eraseIdx i } :=
    key_not_mem_eraseIdx (fun x : Task => x.ctx) w.pending i t hinv.pendCtxNodup ht
  rw [runTask_eq ex t { w with pending := w.pending.eraseIdx i } (hinv.pendNone t htm)]
  have e := doWithContext_eff (g := t.gid) (cx := t.ctx) (y := headOf w t.ctx) (body := taskBody ex t) s0.inv
    (hinv.pendLt t htm) (key_not_mem_eraseIdx (fun x : Task => x.gid) w.pending i t hinv.pendNodup ht)
    ⟨hinv.pendCtxLt t htm, hcn, hinv.pendNotEstab t htm⟩
    (fun w1 hp hc => by
      have e := (taskBody_eff ih hp).eff
      rwa [headOf_congr (w := w) (w' := w1) (by rw [hc])] at e)
  generalize (doWithContext .now t.gid t.ctx (taskBody ex t) { w with pending := w.pending.eraseIdx i }).2 = r at e
  have hsub : ∀ t' ∈ w.pending.eraseIdx i, t' ∈ w.pending := fun _ h => List.mem_of_mem_eraseIdx h
  refine ⟨⟨?_, ⟨e.full.d.ldMono, ?_, ?_⟩, hinv, none_ne_pend⟩, e.tls, fun hl => e.linv (hl.after_erase i)⟩
  · -- the goroutine's own context is no exception: it was waiting and is not any more
    exact ((s0.weaken (x := some t.ctx)).seq e.full.s).drop
      (fun _ => ⟨ctx_mem_pend htm, e.full.s.ctx_not_pend (hinv.pendCtxLt t htm) hcn⟩)
  · intro l hl _ hp
    exact e.full.d.dframe l hl (hp t htm) (fun t' ht' => hp t' (hsub t' ht'))
  · intro t' ht'
    exact (e.full.d.newHeads t' ht').imp_left (hsub t')

theorem yield_eff {ex : Prog → Gid → CtxId → World → Outcome × World} (ih : ExecAll ex) {w : World} (hinv : Inv w) :
    Eff none none w (yield .now ex w) := by
  have e1 := fun s => Eff.sched_oof hinv s w.oof
  obtain ⟨s, e | ⟨n, t, ht, e⟩⟩ := yield_cases ex w <;> rw [e]
  · exact e1 s
  · exact (e1 s).andThen (runTask_eff ih (w := { w with sched := s }) (e1 s).full.s.inv ht)

theorem exec_all : ∀ f, ExecAll (exec .now f) := by
  intro f
  induction f with
  | zero => intro p g c w h; exact Run.refl h
  | succ f ih =>
    intro p g c w h
    cases p with
    | skip => exact Run.refl h
    | leaf l =>
      simp only [exec]
      have ry := (yield_eff ih h.inv).toRun h
      exact ry.seq (leafStep_run (ry.eff.pre h))
    | seq p q =>
      simp only [exec]
      have r1 := ih p g c w h
      split
      · exact r1.seq (ih q g c _ (r1.eff.pre h))
      · exact r1
    | recover p =>
      simp only [exec]
      have r1 := ih p g c w h
      split
      · exact r1.emit EvOK.recovered
      · exact r1
    | doctx id p =>
      simp only [exec, forkCtx_fst]
      have eF := forkCtx_eff h.inv h.clt h.cnp
      have eV : Eff (some w.nextCtx) none (forkCtx c w).2 (setTag w.nextCtx id (forkCtx c w).2) :=
        ctxUpd_eff eF.full.s.inv (ctx_fresh_not_pend h.inv) (fun _ => rfl)
      have hd := doWithContext_eff (g := g) (cx := w.nextCtx) (y := some w.nextLoader)
        (w := setTag w.nextCtx id (forkCtx c w).2) (body := fun w2 => exec .now f p g w.nextCtx w2)
        eV.full.s.inv h.glt h.gnp (Unused.new h.inv rfl rfl rfl)
        (fun w1 hp hc1 => by
          have e := (ih p g w.nextCtx w1 hp).eff
          rwa [(headOf_congr (by rw [hc1, setTag_loader])).trans (headOf_forkCtx c w)] at e)
      exact (eF.trans (eV.weakenL.seq hd) new_exc new_exc).toRun h
    | dodo id p =>
      simp only [exec]
      exact (doDo_eff h.inv h.glt h.gnp (fun cx w1 hp => ih p g cx w1 hp)).toRun h
    | dotry id p =>
      simp only [exec]
      exact (doDo_eff h.inv h.glt h.gnp (fun cx w1 hp => ih p g cx w1 hp)).toRun h
    | doloader p =>
      simp only [exec]
      -- entry: a fresh loader on top of the body's chain
      have e12 : Eff (some c) none w
          (ctxUpd c (fun y => { y with loader := (newLoader w).1 :: (w.ctxs c).loader }) (newLoader w).2) :=
        ⟨((newLoader_full h.inv).weakenC (lex_ne_pend h)).trans
            (ctxUpd_full (w := (newLoader w).2) (newLoader_step h.inv).inv h.cnp)
            (fun _ _ h => h) (fun _ _ h _ => h),
         rfl, fun hl => hl.after_newLoader.after_setLoader h.cnp _ (hl.wrapped_chain h.inv h.clt h.cnp).1
           (hl.wrapped_chain h.inv h.clt h.cnp).2⟩
      have h2 := e12.pre h
      have e3 := (ih p g c _ h2).eff
      rw [headOf_of_cons (l := w.nextLoader) (tl := (w.ctxs c).loader) (by simp [ctxUpd, newLoader])] at e3
      have h3 := e3.pre h2
      generalize exec .now f p g c
        (ctxUpd c (fun y => { y with loader := (newLoader w).1 :: (w.ctxs c).loader }) (newLoader w).2) = r at e3 h3
      have F := (e12.weakenL (x := headOf w c)).trans e3 (fun _ h => Or.inl h) new_exc
      exact ⟨⟨F.full.trans (ctxUpd_full h3.inv h3.cnp) (fun _ _ h => h)
        (fun _ _ _ _ => by simp), F.tls, fun hl => LInv.after_doloader h hl e3.full (F.linv hl) h3.cnp⟩, by simp [ctxUpd]⟩
    | fork p =>
      simp only [exec]
      exact (spawn_eff h.inv h.clt h.cnp).toRun h
    | go p =>
      simp only [exec, h.cur]
      exact (spawn_eff h.inv h.clt h.cnp).toRun h

/-- `pcore.Do` / `pcore.Try` by a goroutine that has no current context (or any other): no `Pre` needed -/
theorem exec_do_eff {f : Nat} {id : Nat} {p : Prog} {g c : Nat} {w : World} (ctch : Bool)
    (hinv : Inv w) (hg : g < w.nextGid) (hgp : g ∉ pendGids w) :
    Eff none none w (exec .now f (bif ctch then .dotry id p else .dodo id p) g c w).2 := by
  cases f with
  | zero => exact Eff.refl hinv none_ne_pend
  | succ f => cases ctch <;> exact doDo_eff hinv hg hgp (fun cx w1 hp => exec_all f p g cx w1 hp)

theorem drain_eff (fuel : Nat) : ∀ (n : Nat) (w : World), Inv w → Eff none none w (drain .now fuel n w) := by
  intro n
  induction n with
  | zero => intro w h; exact Eff.sched_oof h _ _
  | succ n ih =>
    intro w h
    rw [drain_succ]
    split
    · exact Eff.refl h none_ne_pend
    · rename_i t ht
      have e1 := runTask_eff (exec_all fuel) h ht
      exact e1.andThen (ih _ e1.full.s.inv)

theorem run_eff (sched : List Nat) (p : Prog) : Eff none none { sched := sched } (run .now sched p) := by
  simp only [run]
  have e1 : Eff none none _ (exec .now (fuelFor p) (.dodo 1000 p) 0 0 { sched := sched }).2 :=
    exec_do_eff false (inv_init sched) Nat.zero_lt_one (by simp [pendGids])
  generalize exec .now (fuelFor p) (.dodo 1000 p) 0 0 { sched := sched } = r at e1
  have e2 := e1.andThen (emit_eff (g := 0) (e := .done r.1) e1.full.s.inv EvOK.done)
  have e3 : Eff none none (emit 0 (.done r.1) r.2)
      { emit 0 (.done r.1) r.2 with oof := (emit 0 (.done r.1) r.2).oof || decide (r.1 = .fuel) } :=
    Eff.sched_oof e2.full.s.inv _ _
  exact (e2.andThen e3).andThen (drain_eff (fuelFor p) (fuelFor p) _ (e2.andThen e3).full.s.inv)

end Pcore.Tls

import Pcore.Proofs.LatTransD
import Pcore.Proofs.LatInd
set_option linter.unusedSimpArgs false
/-! C03, transitivity with the aliases.  First which alias, and which alias' key type, accepts which: among three aliases two coincide, so
    between aliases transitivity is immediate (`alias_triple`).  Then the specialised functions `asgToArr` / `asgToEntry` / `asgToHash` of
    the model (the alias' own members on the right-hand side, defined by recursion on the receiver so that the model terminates) ARE `asg`
    against the member written as a type term — `Array[al, 0, MaxInt64]`, `Tuple[key, al]`, `Hash[key, al, 0, MaxInt64]` — for every receiver
    in a fragment (`FragOK`) whose Tuple type lists fit an int64 length (`asgToArr_eq`, `asgToEntry_eq`, `asgToHash_eq`, all three by
    `fold_gen`).  Transitivity with an alias on the right or in the middle goes through them. -/
namespace Pcore.Lat
variable (cfg : Cfg) (sfh : Bool) {F : Ty → Prop}

theorem asg_data_data : asg cfg sfh .data .data = true := by simp [asg, sameNullary]
theorem asg_rich_rich : asg cfg sfh .richData .richData = true := by simp [asg, sameNullary]
theorem asg_data_rich : asg cfg sfh .data .richData = false := by simp [asg, asgRecv, sameNullary, isStringFamily, floatAll]
theorem asg_rich_data : asg cfg sfh .richData .data = true := by
  simp [asg, asgRecv, sameNullary, isStringFamily, floatAll, asgToArr, asgToHash]

theorem asg_alias_alias (x y : Alias) : asg cfg sfh x.ty y.ty = (match x, y with | .data, .rich => false | _, _ => true) := by
  cases x <;> cases y <;> simp only [Alias.ty]
  · exact asg_data_data cfg sfh
  · exact asg_data_rich cfg sfh
  · exact asg_rich_data cfg sfh
  · exact asg_rich_rich cfg sfh

/-- among three aliases two coincide: transitivity is immediate -/
theorem alias_triple (x y z : Alias) (h1 : asg cfg sfh x.ty y.ty = true) (h2 : asg cfg sfh y.ty z.ty = true) :
    asg cfg sfh x.ty z.ty = true := by
  rw [asg_alias_alias] at h1 h2 ⊢
  cases x <;> cases y <;> cases z <;> simp_all

theorem asg_alias_key (x y : Alias) : asg cfg sfh x.ty y.key = (match x, y with | .data, .rich => false | _, _ => true) := by
  cases x <;> cases y <;> simp [Alias.ty, Alias.key, asg, asgRecv, asgAllR, asgAnyL, sameNullary, isStringFamily, floatAll]

theorem asg_key_key (x y : Alias) : asg cfg sfh x.key y.key = (match x, y with | .data, .rich => false | _, _ => true) := by
  cases x <;> cases y <;> simp [Alias.key, asg, asgRecv, asgAllR, asgAnyL, sameNullary, isStringFamily, floatAll]

theorem pos_hi_pos : ¬ Rng.pos.hi ≤ 0 := by simp [Rng.pos, I64.max]

theorem tupZip_all (ts : List Ty) (e : Ty) (hne : ts ≠ []) (hlen : (ts.length : Int) ≤ I64.max) :
    tupZip cfg sfh ts [e] Rng.pos.hi = asgAllL cfg sfh ts e := by
  apply Bool.eq_iff_iff.2
  rw [tupZipR_iff cfg sfh ts e _ hne, asgAllL_iff]
  constructor
  · intro h t ht
    obtain ⟨j, hj, hget⟩ := List.getElem_of_mem ht
    exact h j t (by simp only [Rng.pos]; omega) (by rw [List.getElem?_eq_getElem hj, hget])
  · intro h j t _ hget
    exact h t (List.mem_of_getElem? hget)

/-- A function `g` of the receiver that answers like `asg · T` for every receiver but Variant / Optional / NotUndef, and passes through
    these three to their parts as `GuardedIsAssignable` does, IS `asg · T` on the whole fragment — for a right-hand side `T` of a form that Undef
    neither accepts nor is accepted by (so that Optional's and NotUndef's own tests on Undef do not fire).  The three specialised functions
    of the model are of this kind; they differ in the base cases only. -/
theorem fold_gen (hF : FragOK sfh F) (g : Ty → Bool) (gAny : List Ty → Bool) (T : Ty)
    (hT : match T with | .array _ _ | .hash _ _ _ | .tuple _ _ => True | _ => False)
    (hAny : ∀ as, gAny as = true ↔ ∃ a ∈ as, g a = true)
    (hv : ∀ as, g (.variant as) = gAny as) (ho : ∀ x, g (.optional x) = g x) (hn : ∀ x, g (.notUndef x) = g x)
    (hbase : ∀ a : Ty, (match a with | .unit | .variant _ | .optional _ | .notUndef _ => False | _ => True) → F a →
      g a = (a.isAny || sameNullary a T || asgRecv cfg sfh a T)) :
    ∀ a : Ty, F a → g a = asg cfg sfh a T := by
  have hT' : T.plainR = true ∧ asg cfg sfh .undef T = false ∧ asg cfg sfh T .undef = false := by
    split at hT <;> first
      | exact ⟨rfl, by rw [asg_plain_r cfg sfh _ _ rfl]; simp [Ty.isAny, sameNullary, asgRecv],
          by rw [asg_plain_r cfg sfh _ _ rfl]; simp [Ty.isAny, sameNullary, asgRecv]⟩
      | exact hT.elim
  obtain ⟨hT, hu, hu'⟩ := hT'
  intro a
  induction a using Ty.ind with
  | unit => intro fa; exact absurd fa hF.unit
  | variant as ih =>
    intro fa
    rw [asg_eq_recv_dec cfg sfh rfl hT, hv]
    apply Bool.eq_iff_iff.2
    rw [hAny, recv_variant_iff]
    exact exists_congr fun m => and_congr_right fun hm => by rw [ih m hm (hF.variant fa m hm)]
  | optional x ih =>
    intro fa
    rw [asg_eq_recv_dec cfg sfh rfl hT, ho, ih (hF.cov .optional fa)]
    apply Bool.eq_iff_iff.2
    rw [recv_optional_iff, hu]; simp
  | notUndef x ih =>
    intro fa
    rw [asg_eq_recv_dec cfg sfh rfl hT, hn, ih (hF.cov .notUndef fa), recv_nu_plain cfg sfh hT, hu']; rfl
  | _ => intro fa; rw [asg_plain_r cfg sfh _ _ hT]; exact hbase _ trivial fa

theorem asgToArr_eq (hF : FragOK sfh F) (hA : AliasOK F) (al : Alias) :
    ∀ a : Ty, F a → asgToArr cfg sfh al a = asg cfg sfh a al.arr := by
  apply fold_gen cfg sfh hF (asgToArr cfg sfh al) (asgToArrAny cfg sfh al) al.arr trivial (asgToArrAny_iff cfg sfh al)
    (fun as => by conv => lhs; unfold asgToArr) (fun x => by conv => lhs; unfold asgToArr) (fun x => by conv => lhs; unfold asgToArr)
  intro a ha fa
  have hp := pos_hi_pos
  unfold Alias.arr asgToArr
  cases a with
  | unit | variant _ | optional _ | notUndef _ => exact ha.elim
  | any => simp [Ty.isAny]
  | coll r => simp [Ty.isAny, sameNullary, asgRecv]
  | array e r => simp [Ty.isAny, sameNullary, asgRecv, hp]
  | tuple ts g =>
    simp only [Ty.isAny, sameNullary, Bool.false_or]
    unfold asgRecv
    simp only []
    congr 1
    by_cases hts : ts = []
    · subst hts; simp
    · have hne : ts.isEmpty = false := by simp [List.isEmpty_iff, hts]
      have hz : (Rng.pos.hi == 0) = false := by simp [Rng.pos, I64.max]
      rw [hne, hz, tupZip_all cfg sfh ts _ hts (hA.bound fa)]; simp
  | iterable x => simp [Ty.isAny, sameNullary, asgRecv, hp]
  | data =>
    cases al <;> simp [Alias.ty, Ty.isAny, asgRecv, sameNullary, isStringFamily, floatAll, Rng.sub, Rng.pos, I64.max,
      asg_plain_r cfg sfh _ (.array _ _) rfl, asg_data_data, asg_data_rich]
  | richData =>
    cases al <;> simp [Alias.ty, Ty.isAny, asgRecv, sameNullary, isStringFamily, floatAll, Rng.sub, Rng.pos, I64.max,
      asg_plain_r cfg sfh _ (.array _ _) rfl, asg_rich_rich, asg_rich_data]
  | enum vs ci => simp only [Ty.isAny, sameNullary, Bool.false_or]; unfold asgRecv; split <;> simp [isStringFamily]
  | scalar => simp [Ty.isAny, sameNullary, asgRecv, isStringFamily, asg_plain_r cfg sfh _ (.array _ _) rfl]
  | scalarData => simp [Ty.isAny, sameNullary, asgRecv, isStringFamily, floatAll, asg_plain_r cfg sfh _ (.array _ _) rfl]
  | _ => simp only [Ty.isAny, sameNullary, Bool.false_or]; unfold asgRecv; rfl

theorem tupZip_two (x k v : Ty) : tupZip cfg sfh [x] [k, v] 2 = (asg cfg sfh x k && asg cfg sfh x v) := by
  unfold tupZip; simp only []; unfold tupZip; simp

theorem asgToEntry_eq (hF : FragOK sfh F) (al : Alias) :
    ∀ a : Ty, F a → asgToEntry cfg sfh al a = asg cfg sfh a al.ent := by
  apply fold_gen cfg sfh hF (asgToEntry cfg sfh al) (asgToEntryAny cfg sfh al) al.ent trivial (asgToEntryAny_iff cfg sfh al)
    (fun as => by conv => lhs; unfold asgToEntry) (fun x => by conv => lhs; unfold asgToEntry) (fun x => by conv => lhs; unfold asgToEntry)
  intro a ha fa
  unfold Alias.ent asgToEntry
  cases a with
  | unit | variant _ | optional _ | notUndef _ => exact ha.elim
  | any => simp [Ty.isAny]
  | coll r => simp [Ty.isAny, sameNullary, asgRecv, tupleSize, Rng.exact]
  | array e r =>
    simp only [Ty.isAny, sameNullary, Bool.false_or]
    unfold asgRecv
    simp [tupleSize, Rng.exact, tupZip_two, Bool.and_assoc]
  | tuple ts g =>
    simp only [Ty.isAny, sameNullary, Bool.false_or]
    unfold asgRecv
    simp only [tupleSize, Rng.exact, List.length_cons, List.length_nil, List.isEmpty_cons, if_false, Bool.false_eq_true]
    congr 1
    cases ts with
    | nil => simp
    | cons t0 rest =>
      cases rest with
      | nil => simp [tupZip_two]
      | cons t1 rest' =>
        simp only [List.isEmpty_cons, Bool.false_or]
        unfold tupZip
        simp only []
        cases rest' with
        | nil => unfold tupZip; simp
        | cons r0 rs => unfold tupZip; simp only []; unfold tupZip; simp
  | iterable x =>
    simp only [Ty.isAny, sameNullary, Bool.false_or]
    unfold asgRecv
    simp [tupleSize, Rng.exact, tupZip_two]
  | data | richData =>
    cases al <;> simp [Alias.ty, Alias.key, Ty.isAny, asgRecv, asgAllR, asgAnyL, tupZip, tupleSize, Rng.exact, sameNullary,
      isStringFamily, floatAll, Rng.sub, Rng.pos, I64.max, asg_plain_r cfg sfh _ (.tuple _ _) rfl, asg_plain_r cfg sfh _ .str rfl, asg_plain_r cfg sfh _ .numeric rfl, asg_variant_r, asg_data_data, asg_data_rich, asg_rich_data, asg_rich_rich]
  | enum vs ci => simp only [Ty.isAny, sameNullary, Bool.false_or]; unfold asgRecv; split <;> simp [isStringFamily]
  | scalar => simp [Ty.isAny, sameNullary, asgRecv, isStringFamily, asg_plain_r cfg sfh _ (.tuple _ _) rfl]
  | scalarData => simp [Ty.isAny, sameNullary, asgRecv, isStringFamily, floatAll, asg_plain_r cfg sfh _ (.tuple _ _) rfl]
  | _ => simp only [Ty.isAny, sameNullary, Bool.false_or]; unfold asgRecv; rfl

theorem asgToHash_eq (hF : FragOK sfh F) (al : Alias) :
    ∀ a : Ty, F a → asgToHash cfg sfh al a = asg cfg sfh a al.hsh := by
  apply fold_gen cfg sfh hF (asgToHash cfg sfh al) (asgToHashAny cfg sfh al) al.hsh trivial (asgToHashAny_iff cfg sfh al)
    (fun as => by conv => lhs; unfold asgToHash) (fun x => by conv => lhs; unfold asgToHash) (fun x => by conv => lhs; unfold asgToHash)
  intro a ha fa
  have hp := pos_hi_pos
  unfold Alias.hsh asgToHash
  cases a with
  | unit | variant _ | optional _ | notUndef _ => exact ha.elim
  | any => simp [Ty.isAny]
  | coll r => simp [Ty.isAny, sameNullary, asgRecv]
  | hash k v r => simp [Ty.isAny, sameNullary, asgRecv, hp, Bool.and_assoc]
  | struct ms => simp only [Ty.isAny, sameNullary, Bool.false_or]; unfold asgRecv; rfl
  | iterable x =>
    simp only [Ty.isAny, sameNullary, Bool.false_or]
    unfold asgRecv
    simp only [hp, decide_false, Bool.false_or]
    rw [asgToEntry_eq cfg sfh hF al x (hF.cov .iterable fa)]; rfl
  | data | richData =>
    cases al <;> simp [Alias.ty, Alias.key, Ty.isAny, asgRecv, asgAllR, asgAnyL, sameNullary,
      isStringFamily, floatAll, Rng.sub, Rng.pos, I64.max, asg_plain_r cfg sfh _ (.hash _ _ _) rfl, asg_plain_r cfg sfh _ .str rfl, asg_plain_r cfg sfh _ .numeric rfl, asg_variant_r, asg_data_data, asg_data_rich, asg_rich_data, asg_rich_rich]
  | enum vs ci => simp only [Ty.isAny, sameNullary, Bool.false_or]; unfold asgRecv; split <;> simp [isStringFamily]
  | scalar => simp [Ty.isAny, sameNullary, asgRecv, isStringFamily, asg_plain_r cfg sfh _ (.hash _ _ _) rfl]
  | scalarData => simp [Ty.isAny, sameNullary, asgRecv, isStringFamily, floatAll, asg_plain_r cfg sfh _ (.hash _ _ _) rfl]
  | _ => simp only [Ty.isAny, sameNullary, Bool.false_or]; unfold asgRecv; rfl

end Pcore.Lat

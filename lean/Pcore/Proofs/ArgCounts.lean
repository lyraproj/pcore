import Pcore.Model.Resolve
/-!
Second tie of the resolver model (C06), arity: the argument counts each positional creator DECLARES to accept (the literal in
its `illegalArgumentCount(label, counts, n)` call, regenerated into `Pcore/Generated/ArgCounts.lean` by
`extract/argcounts.go`) against the count from which the model reports ILLEGAL_ARGUMENT_COUNT.
-/
namespace Pcore.Syntax

/-- the label under which the creator of a kind reports a wrong argument count (`none`: it never does — Enum, Pattern, Variant,
    Tuple, Callable take any number of arguments) -/
def countLabel : TKind → Option String
  | .integer => some "Integer[]"
  | .float => some "Float"
  | .string => some "String[]"
  | .boolean => some "Boolean[]"
  | .regexp => some "Regexp[]"
  | .array => some "Array[]"
  | .hash => some "Hash[]"
  | .collection => some "Collection[]"
  | .struct => some "Struct"
  | .runtime => some "Runtime[]"
  | .typeRef => some "TypeReference[]"
  | .wrap .optional => some "Optional[]"
  | .wrap .notUndef => some "NotUndef[]"
  | .wrap .type_ => some "Type[]"
  | .wrap .sensitive => some "Sensitive[]"
  | .wrap .iterable => some "Iterable[]"
  | .wrap .iterator => some "Iterator[]"
  | _ => none

/-- the largest argument count the MODEL's creator does not refuse for its count alone -/
def modelMax : TKind → Option Nat
  | .integer => some 2
  | .float => some 2
  | .string => some 2
  | .boolean => some 1
  | .regexp => some 1
  | .array => some 3
  | .hash => some 4           -- the code accepts key, value, min, max although its message says "0, 2, or 3"
  | .collection => some 2
  | .struct => some 1
  | .runtime => some 3
  | .typeRef => some 1
  | .wrap _ => some 1
  | _ => none

/-- the largest count a declaration like `0 - 2`, `0 or 1`, `0, 2, or 3`, `1` names: its last digit -/
def declaredMax (s : String) : Option Nat :=
  match s.toList.reverse.find? Char.isDigit with
  | some c => some (c.toNat - '0'.toNat)
  | none => none

/-- side condition on the regenerated table: every kind whose creator can refuse a count has a row under its label, and the
    declared maximum is the model's (Hash: the declaration says 3, the code — and the model — take 4) -/
def argCountsOK (tbl : List (String × String × String)) : Bool :=
  allKinds.all fun k =>
    match countLabel k, modelMax k with
    | some l, some n => tbl.any fun r => r.2.1 == l && declaredMax r.2.2 == some (if k == .hash then 3 else n)
    | none, none => true
    | _, _ => false

/-- Integer and Float look at the kind of their first argument before they count -/
def firstArgRefused : TKind → List Arg → Bool
  | .integer, a :: _ => !a.isIntOrD
  | .float, a :: _ => !a.isFloatOrD
  | _, _ => false

/-- above the model's maximum the creator reports ILLEGAL_ARGUMENT_COUNT, or — Integer, Float — ILLEGAL_ARGUMENT_TYPE for the first
    argument -/
theorem over_max_code (env : Env) (k : TKind) (n : Nat) (args : List Arg) (hk : modelMax k = some n) (hl : n < args.length) :
    createKR env k args = .reported (if firstArgRefused k args then .argType else .argCount) := by
  cases k with
  | integer =>
    cases hk
    match args, hl with
    | a :: b :: c :: rest, _ => cases h : a.isIntOrD <;> simp [createKR, createK, diagK, firstArgRefused, h]
  | float =>
    cases hk
    match args, hl with
    | a :: b :: c :: rest, _ => cases h : a.isFloatOrD <;> simp [createKR, createK, diagK, firstArgRefused, h]
  | string =>
    cases hk
    match args, hl with
    | a :: b :: c :: rest, _ => simp [createKR, createK, diagK, firstArgRefused]
  | boolean =>
    cases hk
    match args, hl with
    | a :: b :: rest, _ => simp [createKR, createK, diagK, firstArgRefused]
  | regexp =>
    cases hk
    match args, hl with
    | a :: b :: rest, _ => simp [createKR, createK, diagK, firstArgRefused]
  | collection =>
    cases hk
    match args, hl with
    | a :: b :: c :: rest, _ => simp [createKR, createK, diagK, firstArgRefused]
  | typeRef =>
    cases hk
    match args, hl with
    | a :: b :: rest, _ => simp [createKR, createK, typeRefCreate, diagK, firstArgRefused]
  | runtime =>
    cases hk
    match args, hl with
    | a :: b :: c :: d :: rest, _ => simp [createKR, createK, runtimeCreate, diagK, firstArgRefused]
  | wrap w =>
    cases hk
    match args, hl with
    | a :: b :: rest, _ => simp [createKR, createK, wrapOf, diagK, firstArgRefused]
  | hash =>
    cases hk
    match args, hl with
    | a :: b :: c :: d :: e :: rest, _ => simp [createKR, createK, diagK, firstArgRefused]
  | array =>
    cases hk
    match args, hl with
    | a :: b :: c :: d :: rest, _ => cases a <;> simp [createKR, createK, diagK, firstArgRefused]
  | struct =>
    cases hk
    match args, hl with
    | a :: b :: rest, _ => simp [createKR, createK, structArgs, diagK, diagK.structCode, firstArgRefused]
  | enum => cases hk
  | pattern => cases hk
  | variant => cases hk
  | tuple => cases hk
  | callable => cases hk

theorem over_max_refused (env : Env) (k : TKind) (n : Nat) (args : List Arg) (hk : modelMax k = some n) (hl : n < args.length) :
    createKR env k args = .reported .argCount ∨ createKR env k args = .reported .argType := by
  rw [over_max_code env k n args hk hl]
  cases firstArgRefused k args <;> simp

end Pcore.Syntax

import Pcore.Proofs.LatRecv
import Pcore.Proofs.LatFrag
import Pcore.Proofs.LatInst
/-! C01: the receiver rules (arms of `asgRecv`) that need an argument of their own are sound w.r.t. instance-of on the fragment
    `Ty.Frag sfh`.  Each proof sets one inversion of the rule (LatRecv) against one characterisation `inst_X_iff` of the instances
    (LatInst).  In order: the side conditions `Hyp`, with their passage to the parts of a type or a value, and the induction hypothesis
    `Sound n`; completeness of the Undef test; the rules that need no induction hypothesis; then, given `Sound n`, the rules of weight
    `n + 1` for Variant / Optional / NotUndef / Sensitive, Scalar / ScalarData, Array / Tuple, Hash, Struct.  Data / RichData are in
    LatSoundAlias; the remaining arms and the induction in LatSoundMain. -/
namespace Pcore.Lat
variable (cfg : Cfg) (sfh : Bool)

/-- the side conditions of C01 on a receiver `a`, a right-hand side `b` and a value `v` -/
structure Hyp (a b : Ty) (v : Val) : Prop where
  fa : a.Frag sfh
  fb : b.Frag sfh
  wa : Ty.WF cfg a
  wb : Ty.WF cfg b
  us : b.US
  ok : v.OK
  tv : Val.TyOKS cfg sfh v

theorem Hyp.mk' {a b : Ty} {v : Val} (fa : a.Frag sfh) (fb : b.Frag sfh) (wa : Ty.WF cfg a) (wb : Ty.WF cfg b) (us : b.US) (ok : v.OK) (tv : Val.TyOKS cfg sfh v) :
    Hyp cfg sfh a b v := ⟨fa, fb, wa, wb, us, ok, tv⟩

/-- soundness for every pair of summed weight ≤ `n`: what each rule is given for the parts of its two types -/
def Sound (n : Nat) : Prop :=
  ∀ a b v, a.w + b.w ≤ n → Hyp cfg sfh a b v → asg cfg sfh a b = true → inst cfg sfh b v = true → inst cfg sfh a v = true

theorem Hyp.recvPart {cfg : Cfg} {sfh : Bool} {a b : Ty} {v : Val} (H : Hyp cfg sfh a b v) {a' : Ty} (fa : a'.Frag sfh) (wa : Ty.WF cfg a') :
    Hyp cfg sfh a' b v := ⟨fa, H.fb, wa, H.wb, H.us, H.ok, H.tv⟩
theorem Hyp.rhsPart {cfg : Cfg} {sfh : Bool} {a b : Ty} {v : Val} (H : Hyp cfg sfh a b v) {b' : Ty} (fb : b'.Frag sfh) (wb : Ty.WF cfg b')
    (us : b'.US) : Hyp cfg sfh a b' v := ⟨H.fa, fb, H.wa, wb, us, H.ok, H.tv⟩
theorem Hyp.elem {cfg : Cfg} {sfh : Bool} {a b : Ty} {vs : List Val} (H : Hyp cfg sfh a b (.array vs)) {x : Val} (hx : x ∈ vs) :
    Hyp cfg sfh a b x := ⟨H.fa, H.fb, H.wa, H.wb, H.us, H.ok.elems x hx, H.tv.elems x hx⟩
theorem Hyp.entryKey {cfg : Cfg} {sfh : Bool} {a b : Ty} {es : List (Val × Val)} (H : Hyp cfg sfh a b (.hash es)) {e : Val × Val}
    (he : e ∈ es) : Hyp cfg sfh a b e.1 := ⟨H.fa, H.fb, H.wa, H.wb, H.us, H.ok.keys e he, H.tv.keys e he⟩
theorem Hyp.entryVal {cfg : Cfg} {sfh : Bool} {a b : Ty} {es : List (Val × Val)} (H : Hyp cfg sfh a b (.hash es)) {e : Val × Val}
    (he : e ∈ es) : Hyp cfg sfh a b e.2 := ⟨H.fa, H.fb, H.wa, H.wb, H.us, H.ok.vals e he, H.tv.vals e he⟩
theorem Hyp.inner {cfg : Cfg} {sfh : Bool} {a b : Ty} {x : Val} (H : Hyp cfg sfh a b (.sensitive x)) : Hyp cfg sfh a b x :=
  ⟨H.fa, H.fb, H.wa, H.wb, H.us, H.ok.inner, H.tv.inner⟩

theorem triv_frag_str : Ty.Frag .str sfh := Ty.frag_of_fragLeaf rfl sfh
theorem Hyp.leaf {cfg : Cfg} {sfh : Bool} {a b : Ty} {v : Val} (H : Hyp cfg sfh a b v) {c : Ty} (hc : c.fragLeaf = true) :
    Hyp cfg sfh c b v := ⟨Ty.frag_of_fragLeaf hc sfh, H.fb, Ty.wf_of_fragLeaf hc cfg, H.wb, H.us, H.ok, H.tv⟩
theorem Hyp.rhsLeaf {cfg : Cfg} {sfh : Bool} {a b : Ty} {v : Val} (H : Hyp cfg sfh a b v) {c : Ty} (hc : c.fragLeaf = true) :
    Hyp cfg sfh a c v := H.rhsPart (Ty.frag_of_fragLeaf hc sfh) (Ty.wf_of_fragLeaf hc cfg) (Ty.us_of_fragLeaf hc)

theorem Hyp.of_good {cfg : Cfg} {sfh : Bool} {a b : Ty} {v : Val} (ga : Ty.Good cfg sfh a) (gb : Ty.Good cfg sfh b) (ok : v.OK)
    (tv : Val.TyOKS cfg sfh v) : Hyp cfg sfh a b v := ⟨ga.1, gb.1, ga.2.1, gb.2.1, gb.2.2, ok, tv⟩

/-! ### Whatever has undef as an instance accepts Undef -/

/-- "accepts Undef" is complete w.r.t. "undef is an instance": the test the NotUndef and Struct rules rely on -/
theorem inst_undef_asg (b : Ty) : inst cfg sfh b .undef = true → asg cfg sfh b .undef = true := by
  -- Undef reaches the receiver's rule
  have recv : ∀ {a : Ty}, asgRecv cfg sfh a .undef = true → asg cfg sfh a .undef = true := asg_of_recv cfg sfh (Or.inl rfl)
  induction b using Ty.ind with
  | any => intro _; exact asg_any_l cfg sfh _
  | undef => intro _; exact asg_undef_undef cfg sfh
  | unit | data | richData => intro _; refine recv ?_; unfold asgRecv; simp [asg_undef_undef]
  | optional t _ => intro _; refine recv ?_; unfold asgRecv; rw [asg_undef_undef]; rfl
  | variant ts ih =>
    intro hi
    obtain ⟨t, hm, ht⟩ := (inst_variant_iff cfg sfh ts _).1 hi
    exact recv ((recv_variant_iff cfg sfh ts .undef).2 ⟨t, hm, ih t hm ht⟩)
  | iterable t _ => intro hi; unfold inst at hi; simp [elemType] at hi
  | _ => intro hi; unfold inst at hi; simp [isScalarVal] at hi

theorem inst_undef_complete : ∀ (n : Nat) (b : Ty), b.w ≤ n → inst cfg sfh b .undef = true → asg cfg sfh b .undef = true :=
  fun _ b _ => inst_undef_asg cfg sfh b

/-! ### Rules sound without an induction hypothesis: the parameters of the two sides are compared, or the right-hand side has no
    instance; `Type[x]` wherever assignability composes -/

theorem recv_tstamp (r : Rng) (b : Ty) (v : Val) (h : asgRecv cfg sfh (.tstamp r) b = true) (hi : inst cfg sfh b v = true) :
    inst cfg sfh (.tstamp r) v = true := by
  unfold asgRecv at h; split at h
  · unfold inst at hi ⊢; split at hi
    · exact Rng.sub_contains h hi
    · cases hi
  · cases h

theorem recv_float (lo hi' : Fl) (b : Ty) (v : Val) (h : asgRecv cfg sfh (.float lo hi') b = true) (hi : inst cfg sfh b v = true) :
    inst cfg sfh (.float lo hi') v = true := by
  unfold asgRecv at h; split at h
  · unfold inst at hi ⊢; split at hi
    · simp only [Bool.and_eq_true, decide_eq_true_eq] at h hi ⊢
      exact ⟨Int.le_trans h.1 hi.1, Int.le_trans hi.2 h.2⟩
    · cases hi
  · cases h

theorem recv_strSz (hl : LowerLen cfg) (r : Rng) (b : Ty) (v : Val) (h : asgRecv cfg sfh (.strSz r) b = true) (hi : inst cfg sfh b v = true) :
    inst cfg sfh (.strSz r) v = true := by
  unfold asgRecv at h; split at h
  · unfold inst at hi ⊢; split at hi
    · cases beq_iff_eq.1 hi; exact h
    · cases hi
  · unfold inst at hi ⊢; split at hi
    · exact Rng.sub_contains h hi
    · cases hi
  · rename_i vs ci
    unfold inst at hi ⊢; split at hi
    · -- a listed value has a length inside `r`; a case-insensitive Enum compares the lower-cased string, of the same length
      rename_i s
      simp only [Bool.and_eq_true, Bool.not_eq_true', List.all_eq_true] at h
      simp only [enumInst, h.1, Bool.false_or, List.contains_iff_mem] at hi
      have := h.2 _ hi
      cases ci
      · exact this
      · rwa [if_pos rfl, hl] at this
    · cases hi
  · cases h

theorem recv_enum (vs : List String) (ci : Bool) (b : Ty) (v : Val) (wb : Ty.WF cfg b)
    (h : asgRecv cfg sfh (.enum vs ci) b = true) (hi : inst cfg sfh b v = true) :
    inst cfg sfh (.enum vs ci) v = true := by
  unfold asgRecv at h
  split at h
  · rename_i he
    obtain ⟨s, rfl⟩ := inst_strfam cfg sfh h hi
    unfold inst; simp [enumInst, he]
  · split at h
    · unfold inst at hi ⊢; split at hi
      · cases beq_iff_eq.1 hi; exact h
      · cases hi
    · rename_i vs' ci'
      unfold inst at hi ⊢; split at hi
      · rename_i s
        simp at h
        obtain ⟨⟨hne, hc⟩, hall⟩ := h
        simp only [enumInst, Bool.or_eq_true, List.isEmpty_iff] at hi
        rcases hi with hi | hi
        · exact absurd hi hne
        · simp only [List.elem_eq_mem, decide_eq_true_eq] at hi
          have h1 := hall _ hi
          cases ci' with
          | false => simpa using h1
          | true =>
            -- a case-insensitive Enum on the right forces this one to be so; its values are stored lower-cased (`Ty.WF`)
            simp at hc; subst hc
            simp at hi
            have hfix := Ty.wf_enum.1 wb rfl _ hi
            simp only [enumInst, Bool.or_eq_true, List.isEmpty_iff, if_true] at h1 ⊢
            rw [hfix] at h1
            exact h1
      · cases hi
    · cases h

theorem recv_pattern (rs : List String) (b : Ty) (v : Val)
    (h : asgRecv cfg sfh (.pattern rs) b = true) (hi : inst cfg sfh b v = true) :
    inst cfg sfh (.pattern rs) v = true := by
  unfold asgRecv at h; split at h
  · rename_i rs'
    unfold inst at hi ⊢; split at hi
    · simp only [Bool.or_eq_true, Bool.and_eq_true, Bool.not_eq_true'] at h hi ⊢
      rcases h with h | ⟨hne, hsub⟩
      · exact Or.inl h
      · -- every source of the other Pattern is one of this Pattern's
        have hi' := hi.resolve_left (by rw [hne]; exact Bool.false_ne_true)
        simp only [rxAny, List.any_eq_true] at hi' ⊢
        obtain ⟨r, hr, hm⟩ := hi'
        simp only [subsetStr, List.all_eq_true, List.contains_iff_mem] at hsub
        exact Or.inr ⟨r, hsub r hr, hm⟩
    · cases hi
  · unfold inst at hi ⊢; split at hi
    · rw [h]; rfl
    · cases hi
  · unfold inst at hi ⊢; split at hi
    · rw [h]; rfl
    · cases hi
  · unfold inst at hi ⊢; split at hi
    · cases beq_iff_eq.1 hi; exact h
    · cases hi
  · rename_i vs ci
    unfold inst at hi ⊢; split at hi
    · simp only [Bool.or_eq_true, Bool.and_eq_true, Bool.not_eq_true', List.all_eq_true] at h ⊢
      rcases h with h | ⟨⟨hne, hci⟩, hall⟩
      · exact Or.inl h
      · subst hci
        simp only [enumInst, hne, Bool.false_or, Bool.false_eq_true, if_false, List.contains_iff_mem] at hi
        exact Or.inr (hall _ hi)
    · cases hi
  · cases h

theorem recv_coll (r : Rng) (b : Ty) (v : Val)
    (h : asgRecv cfg sfh (.coll r) b = true) (hi : inst cfg sfh b v = true) :
    inst cfg sfh (.coll r) v = true := by
  unfold asgRecv at h; split at h
  · unfold inst at hi ⊢; split at hi <;> first | exact Rng.sub_contains h hi | cases hi
  · obtain ⟨vs, rfl, hl, _⟩ := (inst_array_iff cfg sfh _ _ v).1 hi
    unfold inst; exact Rng.sub_contains h hl
  · obtain ⟨es, rfl, hl, _⟩ := (inst_hash_iff cfg sfh _ _ _ v).1 hi
    unfold inst; exact Rng.sub_contains h hl
  · obtain ⟨vs, rfl, hl, _⟩ := (inst_tuple_iff cfg sfh _ _ v).1 hi
    unfold inst; exact Rng.sub_contains h hl
  · obtain ⟨es, rfl, hst⟩ := (inst_struct_iff cfg sfh _ v).1 hi
    unfold inst; exact Rng.sub_contains h (instStruct_size cfg sfh _ _ hst)
  · cases h

theorem recv_object (p : Option (List Nat)) (b : Ty) (v : Val)
    (h : asgRecv cfg sfh (.object p) b = true) (hi : inst cfg sfh b v = true) :
    inst cfg sfh (.object p) v = true := by
  unfold asgRecv at h; split at h
  · split at h
    · unfold inst at hi ⊢; split at hi <;> first | rfl | cases hi
    · unfold inst at hi ⊢; split at hi
      · exact isPrefix_trans _ _ _ h hi
      · cases hi
      · cases hi
    · cases h
  · cases h

/-- a Callable type accepts only Callable types, which have no instance in the value language -/
theorem recv_callable (p r k : Option Ty) (b : Ty) (v : Val)
    (h : asgRecv cfg sfh (.callable p r k) b = true) (hi : inst cfg sfh b v = true) :
    inst cfg sfh (.callable p r k) v = true := by
  unfold asgRecv at h; split at h
  · unfold inst at hi; cases hi
  · cases h

/-- `Iterator[x]` accepts only Iterator types, which have no instance in the value language -/
theorem recv_iterator (x : Ty) (b : Ty) (v : Val) (h : asgRecv cfg sfh (.iterator x) b = true) (hi : inst cfg sfh b v = true) :
    inst cfg sfh (.iterator x) v = true := by
  obtain ⟨y, rfl, _⟩ := (recv_wrap_iff cfg sfh .iterator x b).1 h
  unfold inst at hi; cases hi

/-- The rule of `Type[x]` accepts only a `Type[y]` with `x ⊒ y`, and an instance of that is a type value `u` with `y ⊒ u`: sound
    wherever `x ⊒ y ⊒ u` composes (the caller says where: `recv_typ`, `typ_recv_sound_of`). -/
theorem typ_recv_core (x b : Ty) (v : Val) (h : asgRecv cfg sfh (.typ x) b = true) (hi : inst cfg sfh b v = true)
    (htr : ∀ y u, b = .typ y → v = .typ u → asg cfg sfh x y = true → asg cfg sfh y u = true → asg cfg sfh x u = true) :
    inst cfg sfh (.typ x) v = true := by
  obtain ⟨y, rfl, hxy⟩ := (recv_typ_iff cfg sfh x b).1 h
  unfold inst at hi ⊢
  split at hi
  · exact htr y _ rfl rfl hxy hi
  · cases hi

/-! ### Variant, Optional, NotUndef, Sensitive: the rule asks about the content, which is lighter -/

theorem recv_variant (n : Nat) (ih : Sound cfg sfh n) (as : List Ty) (b : Ty) (v : Val)
    (hw : (Ty.variant as).w + b.w ≤ n + 1) (H : Hyp cfg sfh (.variant as) b v)
    (h : asgRecv cfg sfh (.variant as) b = true) (hi : inst cfg sfh b v = true) :
    inst cfg sfh (.variant as) v = true := by
  obtain ⟨a, hm, ha⟩ := (recv_variant_iff cfg sfh as b).1 h
  simp only [Ty.w] at hw
  exact (inst_variant_iff cfg sfh as v).2
    ⟨a, hm, ih a b v (by have := Ty.w_lt_wl hm; omega) (H.recvPart (H.fa.mem_variant hm) (H.wa.mem_variant hm)) ha hi⟩

theorem recv_optional (n : Nat) (ih : Sound cfg sfh n) (x : Ty) (b : Ty) (v : Val)
    (hw : (Ty.optional x).w + b.w ≤ n + 1) (H : Hyp cfg sfh (.optional x) b v)
    (h : asgRecv cfg sfh (.optional x) b = true) (hi : inst cfg sfh b v = true) :
    inst cfg sfh (.optional x) v = true := by
  simp only [Ty.w] at hw
  refine (inst_optional_iff cfg sfh x v).2 ?_
  rcases (recv_optional_iff cfg sfh x b).1 h with h | h
  · exact Or.inl (inst_undef_eq cfg sfh (ih .undef b v (by simp only [Ty.w]; omega) (H.leaf rfl) h hi))
  · exact Or.inr (ih x b v (by omega) (H.recvPart H.fa.optional (H.wa.inner .optional)) h hi)

theorem recv_notUndef (n : Nat) (ih : Sound cfg sfh n) (x : Ty) (b : Ty) (v : Val)
    (hw : (Ty.notUndef x).w + b.w ≤ n + 1) (H : Hyp cfg sfh (.notUndef x) b v)
    (h : asgRecv cfg sfh (.notUndef x) b = true) (hi : inst cfg sfh b v = true) :
    inst cfg sfh (.notUndef x) v = true := by
  unfold asgRecv at h
  have Hx := H.recvPart H.fa.notUndef (H.wa.inner .notUndef)
  simp only [Ty.w] at hw
  split at h
  · rename_i y
    obtain ⟨hv, hy⟩ := (inst_notUndef_iff cfg sfh y v).1 hi
    simp only [Ty.w] at hw
    rw [Bool.or_eq_true] at h
    refine (inst_notUndef_iff cfg sfh x v).2 ⟨hv, ?_⟩
    rcases h with h | h
    · exact ih x y v (by omega) (Hx.rhsPart H.fb.notUndef (H.wb.inner .notUndef) H.us.notUndef) h hy
    · exact ih x (.notUndef y) v (by simp only [Ty.w]; omega) Hx h hi
  · -- `b` does not accept Undef, so (completeness of that test) `v` is not undef
    rw [Bool.and_eq_true, Bool.not_eq_true'] at h
    refine (inst_notUndef_iff cfg sfh x v).2 ⟨fun hv => ?_, ih x b v (by omega) Hx h.2 hi⟩
    subst hv
    rw [inst_undef_asg cfg sfh b hi] at h
    cases h.1

theorem recv_sensitive (n : Nat) (ih : Sound cfg sfh n) (x : Ty) (b : Ty) (v : Val)
    (hw : (Ty.sensitive x).w + b.w ≤ n + 1) (H : Hyp cfg sfh (.sensitive x) b v)
    (h : asgRecv cfg sfh (.sensitive x) b = true) (hi : inst cfg sfh b v = true) :
    inst cfg sfh (.sensitive x) v = true := by
  obtain ⟨y, rfl, hxy⟩ := (recv_wrap_iff cfg sfh .sensitive x b).1 h
  simp only [Ty.w] at hw
  obtain ⟨w, rfl, hw'⟩ := (inst_sensitive_iff cfg sfh y v).1 hi
  exact (inst_sensitive_iff cfg sfh x _).2 ⟨w, rfl, ih x y w (by omega)
    ((H.recvPart H.fa.sensitive (H.wa.inner .sensitive)).rhsPart H.fb.sensitive (H.wb.inner .sensitive) H.us.sensitive).inner hxy hw'⟩

/-! ### Scalar and ScalarData are the unions of their member types -/

theorem inst_of_scalarMember {m : Ty} (hm : m ∈ scalarMembers) {v : Val} (h : inst cfg sfh m v = true) : inst cfg sfh .scalar v = true := by
  simp only [scalarMembers, List.mem_cons, List.not_mem_nil, or_false] at hm
  rcases hm with rfl | rfl | rfl | rfl | rfl | rfl <;>
    (unfold inst at h ⊢; split at h <;> first | rfl | cases h)

theorem inst_of_scalarDataMember {m : Ty} (hm : m ∈ scalarDataMembers) {v : Val} (h : inst cfg sfh m v = true) :
    inst cfg sfh .scalarData v = true := by
  simp only [scalarDataMembers, floatAll, List.mem_cons, List.not_mem_nil, or_false] at hm
  rcases hm with rfl | rfl | rfl | rfl <;>
    (unfold inst at h ⊢; split at h <;> first | rfl | cases h)

/-- Scalar is the union of its member types (all of weight 1): whichever member accepts `b` has `v` as an instance -/
theorem recv_scalar (n : Nat) (ih : Sound cfg sfh n) (b : Ty) (v : Val)
    (hw : Ty.scalar.w + b.w ≤ n + 1) (H : Hyp cfg sfh .scalar b v)
    (h : asgRecv cfg sfh .scalar b = true) (hi : inst cfg sfh b v = true) :
    inst cfg sfh .scalar v = true := by
  rcases (recv_scalar_iff cfg sfh b).1 h with rfl | rfl | ⟨m, hm, hmb⟩
  · exact hi
  · unfold inst at hi ⊢; split at hi <;> first | rfl | cases hi
  · have hm' := List.mem_append_left scalarDataMembers hm
    exact inst_of_scalarMember cfg sfh hm
      (ih m b v (by rw [(members_leaf hm').2.1]; simp only [Ty.w] at hw; omega) (H.leaf (members_leaf hm').2.2.2) hmb hi)

theorem recv_scalarData (n : Nat) (ih : Sound cfg sfh n) (b : Ty) (v : Val)
    (hw : Ty.scalarData.w + b.w ≤ n + 1) (H : Hyp cfg sfh .scalarData b v)
    (h : asgRecv cfg sfh .scalarData b = true) (hi : inst cfg sfh b v = true) :
    inst cfg sfh .scalarData v = true := by
  rcases (recv_scalarData_iff cfg sfh b).1 h with rfl | ⟨m, hm, hmb⟩
  · exact hi
  · have hm' := List.mem_append_right scalarMembers hm
    exact inst_of_scalarDataMember cfg sfh hm
      (ih m b v (by rw [(members_leaf hm').2.1]; simp only [Ty.w] at hw; omega) (H.leaf (members_leaf hm').2.2.2) hmb hi)

/-! ### Array and Tuple, both read as a size and a declared type for each position -/

theorem inst_pos_iff (b : Ty) (pb : b.isPos = true) (v : Val) :
    inst cfg sfh b v = true ↔ ∃ vs, v = .array vs ∧ (posSize b).contains vs.length = true ∧
      ∀ (i : Nat) (t : Ty) (x : Val), (posTypes b)[min i ((posTypes b).length - 1)]? = some t → vs[i]? = some x →
        inst cfg sfh t x = true := by
  rcases isPos_cases pb with ⟨e, r, rfl⟩ | ⟨ts, g, rfl⟩
  · rw [inst_array_iff]
    refine exists_congr fun vs => and_congr_right fun _ => and_congr_right fun _ => ?_
    simp only [posTypes, clamp_single, Option.some.injEq]
    exact ⟨fun h i t x ht hx => ht ▸ h x (List.mem_of_getElem? hx),
      fun h x hx => by obtain ⟨i, hlt, rfl⟩ := List.getElem_of_mem hx; exact h i e _ rfl (List.getElem?_eq_getElem hlt)⟩
  · rw [inst_tuple_iff]
    refine exists_congr fun vs => and_congr_right fun _ => and_congr_right fun _ => ?_
    simp only [posTypes]
    cases ts with
    | nil =>
      simp only [List.isEmpty_nil, if_true, clamp_single, Option.some.injEq]
      exact ⟨fun _ i t x ht _ => ht ▸ by unfold inst; rfl, fun _ i t x ht _ => by simp at ht⟩
    | cons t0 ts0 => simp only [List.isEmpty_cons, Bool.false_eq_true, if_false]

/-- what soundness asks of a declared type of a positional `b`, from the same of `b` (Unit-safety: when an instance can be non-empty) -/
theorem pos_elem_sound (b : Ty) (pb : b.isPos = true) (t : Ty) (ht : t ∈ posTypes b) :
    t.w < b.w ∧ (b.Frag sfh → t.Frag sfh) ∧ (Ty.WF cfg b → Ty.WF cfg t) ∧ (b.US → ¬ (posSize b).hi ≤ 0 → t.US) := by
  rcases isPos_cases pb with ⟨e, r, rfl⟩ | ⟨ts, g, rfl⟩
  · simp only [posTypes, List.mem_singleton] at ht; subst ht
    exact ⟨by simp [Ty.w], Ty.Frag.elem, Ty.WF.elem, Ty.US.elem⟩
  · simp only [posTypes] at ht
    by_cases hts : ts.isEmpty = true
    · simp only [hts, if_true, List.mem_singleton] at ht; subst ht
      exact ⟨by simp only [Ty.w]; omega, fun _ => Ty.frag_of_fragLeaf rfl sfh, fun _ => Ty.wf_of_fragLeaf rfl cfg,
        fun _ _ => Ty.us_of_fragLeaf rfl⟩
    · have ht' : t ∈ ts := by simpa [hts] using ht
      exact ⟨by have := Ty.w_lt_wl ht'; simp only [Ty.w]; omega, fun h => h.mem_tuple ht', fun h => h.mem_tuple ht',
        fun h hp => h.mem_tuple hp ht'⟩

/-- Array / Tuple as receivers, all four pairings at once: sizes by inclusion, position `i` of the value by the two types declared for it.
    The hypotheses speak of the receiver's declared types alone, not of the receiver: the aliases Data and RichData accept what their
    member `Array[alias]` accepts, and that member is heavier than the alias (`recv_alias`). -/
theorem recv_pos_sound (n : Nat) (ih : Sound cfg sfh n) (a b : Ty) (v : Val) (pa : a.isPos = true)
    (hel : ∀ t ∈ posTypes a, t.w + b.w ≤ n + 1 ∧ t.Frag sfh ∧ Ty.WF cfg t)
    (fb : b.Frag sfh) (wb : Ty.WF cfg b) (us : b.US) (ok : v.OK) (tv : Val.TyOKS cfg sfh v)
    (h : asgRecv cfg sfh a b = true) (hi : inst cfg sfh b v = true) : inst cfg sfh a v = true := by
  have pb := pos_closed cfg sfh a b pa h
  rw [recv_pos cfg sfh a b pa pb, Bool.and_eq_true] at h
  obtain ⟨vs, rfl, hlen, hall⟩ := (inst_pos_iff cfg sfh b pb v).1 hi
  refine (inst_pos_iff cfg sfh a pa _).2 ⟨vs, rfl, Rng.sub_contains h.1 hlen, fun i t x ht hx => ?_⟩
  have hxm : x ∈ vs := List.mem_of_getElem? hx
  have hilt : i < vs.length := (List.getElem?_eq_some_iff.1 hx).1
  have hik : (i : Int) < (posSize b).hi := by
    simp only [Rng.contains, Bool.and_eq_true, decide_eq_true_eq] at hlen; omega
  -- the type the other side declares for position `i`
  have hl' : min i ((posTypes b).length - 1) < (posTypes b).length := by
    have := List.length_pos_iff.2 (posTypes_ne b pb); omega
  have ht' := List.getElem?_eq_getElem hl'
  obtain ⟨wlt, fr, wf, ust⟩ := pos_elem_sound cfg sfh b pb _ (List.getElem_mem hl')
  obtain ⟨hw, fa, wa⟩ := hel t (List.mem_of_getElem? ht)
  exact ih t _ x (by omega) ⟨fa, fr fb, wa, wf wb, ust us (by omega), ok.elems x hxm, tv.elems x hxm⟩
    ((tupZip_pos cfg sfh _ _ _ (posTypes_ne a pa) (posTypes_ne b pb)).1 h.2 i hik t _ ht ht') (hall i _ x ht' hx)

theorem recv_pos_sound_hyp (n : Nat) (ih : Sound cfg sfh n) (a b : Ty) (v : Val) (pa : a.isPos = true)
    (hw : a.w + b.w ≤ n + 1) (H : Hyp cfg sfh a b v)
    (h : asgRecv cfg sfh a b = true) (hi : inst cfg sfh b v = true) : inst cfg sfh a v = true :=
  recv_pos_sound cfg sfh n ih a b v pa
    (fun t ht => by
      obtain ⟨wlt, fr, wf, _⟩ := pos_elem_sound cfg sfh a pa t ht
      exact ⟨by omega, fr H.fa, wf H.wa⟩) H.fb H.wb H.us H.ok H.tv h hi

/-! ### Hash and Struct: entry by entry; a Struct's instances through `instStruct_den` -/

theorem hi_pos_of_mem {α : Type} {r : Rng} {l : List α} {x : α} (h : r.contains l.length = true) (hx : x ∈ l) : ¬ r.hi ≤ 0 := by
  have := List.length_pos_of_mem hx
  simp only [Rng.contains, Bool.and_eq_true, decide_eq_true_eq] at h
  omega

/-- the rule of a Hash receiver; the weights speak of the key and value types alone (see `recv_pos_sound`) -/
theorem recv_hash_of (n : Nat) (ih : Sound cfg sfh n) (k x : Ty) (r : Rng) (b : Ty) (v : Val)
    (hwk : k.w + b.w ≤ n + 1) (hwx : x.w + b.w ≤ n + 1) (Hk : Hyp cfg sfh k b v) (Hx : Hyp cfg sfh x b v)
    (h : asgRecv cfg sfh (.hash k x r) b = true) (hi : inst cfg sfh b v = true) :
    inst cfg sfh (.hash k x r) v = true := by
  have fb := Hk.fb; have wb := Hk.wb; have us := Hk.us
  rcases hash_closed cfg sfh h with ⟨k', x', r', rfl⟩ | ⟨ms', rfl⟩ <;> simp only [Ty.w] at hwk hwx
  · obtain ⟨hs, hkv⟩ := (recv_hash_hash_iff cfg sfh k x k' x' r r').1 h
    obtain ⟨es, rfl, hlen, hall⟩ := (inst_hash_iff cfg sfh k' x' r' v).1 hi
    refine (inst_hash_iff cfg sfh k x r _).2 ⟨es, rfl, Rng.sub_contains hs hlen, fun e he => ?_⟩
    have hpos := hi_pos_of_mem hlen he
    have hkv := hkv.resolve_left hpos
    exact ⟨ih k k' e.1 (by omega) ((Hk.rhsPart fb.key wb.key (us.key hpos)).entryKey he) hkv.1 (hall e he).1,
           ih x x' e.2 (by omega) ((Hx.rhsPart fb.val wb.val (us.val hpos)).entryVal he) hkv.2 (hall e he).2⟩
  · obtain ⟨hs, hmem⟩ := (recv_hash_struct_iff cfg sfh k x r ms').1 h
    obtain ⟨es, rfl, hst⟩ := (inst_struct_iff cfg sfh ms' v).1 hi
    refine (inst_hash_iff cfg sfh k x r _).2
      ⟨es, rfl, Rng.sub_contains hs (instStruct_size cfg sfh ms' es hst), fun e he => ?_⟩
    obtain ⟨m, hm, hk, hmi⟩ := ((instStruct_den cfg sfh ms' es Hk.ok.nodup wb.names).1 hst).1 e he
    have hwm := Ty.w_lt_wm hm
    exact ⟨ih k (.strVal m.1) e.1 (by simp only [Ty.w]; omega) ((Hk.rhsLeaf rfl).entryKey he)
        (hmem m hm).1 (by rw [hk]; unfold inst; simp),
      ih x m.2.2 e.2 (by omega) ((Hx.rhsPart (fb.member hm) (wb.member hm) (us.member hm)).entryVal he) (hmem m hm).2 hmi⟩

theorem recv_struct (n : Nat) (ih : Sound cfg sfh n) (ms : List Member) (b : Ty) (v : Val)
    (hw : (Ty.struct ms).w + b.w ≤ n + 1) (H : Hyp cfg sfh (.struct ms) b v)
    (h : asgRecv cfg sfh (.struct ms) b = true) (hi : inst cfg sfh b v = true) :
    inst cfg sfh (.struct ms) v = true := by
  -- the Hash arm is the exempt rule, switched off
  obtain ⟨ms', rfl⟩ := struct_closed cfg sfh ms b H.fa.ruleOff h
  simp only [Ty.w] at hw
  obtain ⟨hacc, hin⟩ := (struct_recv_iff cfg sfh ms ms' H.wa.names H.wb.names).1 h
  obtain ⟨es, rfl, hst⟩ := (inst_struct_iff cfg sfh ms' v).1 hi
  obtain ⟨hdecl, hreq⟩ := (instStruct_den cfg sfh ms' es H.ok.nodup H.wb.names).1 hst
  refine (inst_struct_iff cfg sfh ms _).2
    ⟨es, rfl, (instStruct_den cfg sfh ms es H.ok.nodup H.wa.names).2 ⟨fun e he => ?_, fun m hm hopt => ?_⟩⟩
  · -- a present key is a member of the other Struct, hence one of this Struct, which accepts the other's value type
    obtain ⟨m', hm', hk, hmi⟩ := hdecl e he
    obtain ⟨m, hm, hnm⟩ := hin m' hm'
    exact ⟨m, hm, by rw [hk, hnm], ih m.2.2 m'.2.2 e.2 (by have := Ty.w_lt_wm hm; have := Ty.w_lt_wm hm'; omega)
      (((H.recvPart (H.fa.member hm) (H.wa.member hm)).rhsPart (H.fb.member hm') (H.wb.member hm') (H.us.member hm')).entryVal he)
      ((hacc m hm).1 m' hm' hnm.symm).2 hmi⟩
  · -- a required member is one of the other Struct (else it would have to be optional), and required there
    obtain ⟨m', hm', hk, ho', _⟩ := struct_recv_required cfg sfh H.wa.names H.wb.names h hm hopt
    obtain ⟨e, he, hke⟩ := hreq m' hm' ho'
    exact ⟨e, he, by rw [hke, hk]⟩

end Pcore.Lat

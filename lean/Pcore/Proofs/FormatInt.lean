import Pcore.Proofs.FormatDigits
/-! Integer rendering: Go's fmt integer verbs (as modelled by `goInteger`) against an independently written printf
    reference `cRef`.  First the reference and its layout as a `field` (`cLayout_field`, `field_cLayout`), then fmt's side
    (`verbBase`: the four verbs pcore hands to fmt; `goAbs_field`), then the comparison: both are fields with the same
    sign and digits, what is compared is the prefix and the number of zeros (`goAbs_cAbs`, `goInteger_eq_cRef`) — outside
    the two known departures of fmt, `zeroClass` and `altZeroPad`. -/
namespace Pcore.Format

theorem natStr_ne_nil (b : Nat) (u : Bool) (n : Nat) : natStr b u n ≠ [] :=
  fun h => toDigits_ne_nil b n (List.map_eq_nil_iff.mp h)

theorem natStr_zero (b : Nat) (hb : 2 ≤ b) (u : Bool) : natStr b u 0 = ['0'] := by
  simp [natStr, toDigits_zero b, digitChar]

/-! ### the printf reference, and its last step as a `field` -/

def cBase (c : Char) : Nat := if c = 'x' ∨ c = 'X' then 16 else if c = 'o' then 8 else if c = 'b' ∨ c = 'B' then 2 else 10

/-- The printf reference for `d x X o` (and `b B`, C23), written from C99 7.19.6.1 with one convention: all four conversions are
    signed (sign and magnitude, as Ruby/Puppet print with an explicit sign).  The directive is given as the record
    of its flags, width, precision and letter. -/
def cRef (g : GoSpec) (i : Int) : Str :=
  let mag := i.natAbs
  -- "The result of converting a zero value with a precision of zero is no characters."
  let digits : Str := if mag = 0 ∧ g.prec = some 0 then [] else natStr (cBase g.verb) (g.verb = 'X') mag
  -- "The precision specifies the minimum number of digits to appear"
  let digits := match g.prec with
    | some p => zeros (p - digits.length) ++ digits
    | none => digits
  -- "#: for x (or X) conversion, a nonzero result has 0x (or 0X) prefixed to it" (likewise 0b, 0B: C23)
  let pfx : Str := if g.sharp ∧ (g.verb = 'x' ∨ g.verb = 'X' ∨ g.verb = 'b' ∨ g.verb = 'B') ∧ mag ≠ 0 then ['0', g.verb] else []
  -- "#: for o conversion, it increases the precision, if and only if necessary, to force the first digit of the
  --  result to be a zero (if the value and precision are both 0, a single 0 is printed)"
  let digits := if g.sharp ∧ g.verb = 'o' ∧ digits.head? ≠ some '0' then '0' :: digits else digits
  -- "+: always begins with a plus or minus sign; space: … if the space and + flags both appear, the space flag is ignored"
  let sign : Str := if i < 0 then ['-'] else if g.plus then ['+'] else if g.space then [' '] else []
  let n := sign.length + pfx.length + digits.length
  match g.wid with
  | none => sign ++ pfx ++ digits
  | some w =>
    if w ≤ n then sign ++ pfx ++ digits
    -- "-: left-justified within the field; if the 0 and - flags both appear, the 0 flag is ignored"
    else if g.minus then sign ++ pfx ++ digits ++ spaces (w - n)
    -- "0: leading zeros (following any indication of sign or base) are used to pad to the field width;
    --  if a precision is specified, the 0 flag is ignored"
    else if g.zero ∧ g.prec = none then sign ++ pfx ++ zeros (w - n) ++ digits
    else spaces (w - n) ++ sign ++ pfx ++ digits

/-- where Go's fmt departs from the reference for the value 0 (known finding C20-go-fmt-zero):
    `%#x` of 0 is "0x0", `%#.0o` of 0 is "", `%+.0d` of 0 has no sign -/
def zeroClass (g : GoSpec) (i : Int) : Prop := i = 0 ∧ (g.sharp = true ∨ (g.prec = some 0 ∧ (g.plus = true ∨ g.space = true)))

/-- where Go's fmt departs from the reference for `#` with zero padding (known finding C20-go-fmt-alt-zeropad):
    the zeros fill the whole width and the 0x prefix comes on top -/
def altZeroPad (g : GoSpec) : Prop :=
  g.sharp = true ∧ g.zero = true ∧ g.minus = false ∧ g.prec = none ∧ g.wid.isSome = true ∧ (g.verb = 'x' ∨ g.verb = 'X')

instance (g : GoSpec) (i : Int) : Decidable (zeroClass g i) := by unfold zeroClass; infer_instance
instance (g : GoSpec) : Decidable (altZeroPad g) := by unfold altZeroPad; infer_instance

/-- the last step of `cRef` (sign, prefix and digits laid out in the field), restated for the proofs (`cRef_eq`);
    `zeroEff` = the `0` flag is in effect -/
def cLayout (sign pfx digits : Str) (wid : Option Nat) (minus zeroEff : Bool) : Str :=
  let n := sign.length + pfx.length + digits.length
  match wid with
  | none => sign ++ pfx ++ digits
  | some w =>
    if w ≤ n then sign ++ pfx ++ digits
    else if minus then sign ++ pfx ++ digits ++ spaces (w - n)
    else if zeroEff then sign ++ pfx ++ zeros (w - n) ++ digits
    else spaces (w - n) ++ sign ++ pfx ++ digits

theorem cLayout_field (sign pfx ds : Str) (wid : Option Nat) (minus z : Bool) :
    cLayout sign pfx ds wid minus z =
      field minus wid sign pfx
        (if (z && !minus) = true then wid.getD 0 - (sign.length + pfx.length + ds.length) else 0) ds := by
  have hbody : sign ++ pfx ++ zeros 0 ++ ds = sign ++ pfx ++ ds := by rw [zeros, List.replicate_zero, List.append_nil]
  cases wid with
  | none => simp only [cLayout, field, goPad_none, Option.getD_none, Nat.zero_sub, ite_self, hbody]
  | some w =>
    unfold cLayout field
    simp only [Option.getD_some]
    by_cases hzm : (z && !minus) = true
    · -- the `0` flag in effect: the zeros reach the width, nothing is left for `pad`
      obtain ⟨rfl, rfl⟩ : z = true ∧ minus = false := by rwa [Bool.and_eq_true, Bool.not_eq_true'] at hzm
      simp only [Bool.not_false, Bool.and_self, Bool.false_eq_true, if_true, if_false]
      rw [goPad_of_le _ _ (by simp only [List.length_append, zeros_length]; omega)]
      by_cases hw : w ≤ sign.length + pfx.length + ds.length
      · rw [if_pos hw, Nat.sub_eq_zero_of_le hw, hbody]
      · rw [if_neg hw]
    · rw [if_neg hzm, hbody, goPad_some, List.length_append, List.length_append]
      cases minus
      · cases z
        · simp only [List.append_assoc, Bool.false_eq_true, if_false]
        · exact absurd rfl hzm
      · simp only [List.append_assoc, if_true]

/-- **a field against the reference**: with `p` the zeros the reference writes for the precision (and `#o`), a field is
    the reference's layout when its zeros are `p`, and what is left of the width on top while the `0` flag is in effect -/
theorem field_cLayout (minus z : Bool) (wid : Option Nat) (sign pfx ds : Str) (k p : Nat)
    (hk : k = if (z && !minus) = true then p + (wid.getD 0 - (sign.length + pfx.length + (p + ds.length))) else p) :
    field minus wid sign pfx k ds = cLayout sign pfx (zeros p ++ ds) wid minus z := by
  rw [cLayout_field, hk]
  unfold field
  split
  · simp only [List.length_append, zeros_length, List.append_assoc]
    rw [← List.append_assoc (zeros _) (zeros p), zeros_add, Nat.add_comm]
  · simp only [zeros, List.replicate_zero, List.append_nil, List.append_assoc]

/-- the reference's `#` prefix (`nz`: the value is not zero) -/
def cPfx (g : GoSpec) (nz : Bool) : Str :=
  if g.sharp ∧ (g.verb = 'x' ∨ g.verb = 'X' ∨ g.verb = 'b' ∨ g.verb = 'B') ∧ nz then ['0', g.verb] else []

def cOct (g : GoSpec) (ds : Str) : Str :=
  if g.sharp ∧ g.verb = 'o' ∧ ds.head? ≠ some '0' then '0' :: ds else ds

theorem cOct_of_ne {g : GoSpec} (h : g.verb ≠ 'o') (ds : Str) : cOct g ds = ds := if_neg fun hc => h hc.2.1

theorem cOct_zeros (g : GoSpec) (q : Nat) (ds0 : Str) :
    cOct g (zeros q ++ ds0) =
      zeros (if g.sharp = true ∧ g.verb = 'o' ∧ (zeros q ++ ds0).head? ≠ some '0' then q + 1 else q) ++ ds0 := by
  unfold cOct
  split <;> rfl

/-- the reference over an abstract digit string (`digits` = the magnitude's digits, [] for 0 with precision 0): the
    precision's zeros, the `#` prefix or octal zero, then the layout -/
def cAbs (g : GoSpec) (neg nz : Bool) (digits : Str) : Str :=
  cLayout (signStr neg g.plus g.space) (cPfx g nz) (cOct g (zeros (g.prec.getD 0 - digits.length) ++ digits))
    g.wid g.minus (g.zero && g.prec.isNone)

theorem cRef_eq (g : GoSpec) (i : Int) :
    cRef g i = cAbs g (decide (i < 0)) (decide (i.natAbs ≠ 0))
      (if i.natAbs = 0 ∧ g.prec = some 0 then [] else natStr (cBase g.verb) (g.verb = 'X') i.natAbs) := by
  unfold cRef cAbs cLayout signStr cPfx cOct
  cases g.prec <;> simp [zeros]

/-! ### fmt's side: the verbs pcore uses, and `fmtInteger` as a `field` -/

/-- the verbs pcore hands to fmt for an integer, with the base and digit case fmt uses for them -/
def verbBase (c : Char) : Option (Nat × Bool) :=
  if c = 'd' then some (10, false) else if c = 'x' then some (16, false) else if c = 'X' then some (16, true)
  else if c = 'o' then some (8, false) else none

theorem verbBase_cases {c : Char} {base : Nat} {upper : Bool} (h : verbBase c = some (base, upper)) :
    (c = 'd' ∧ base = 10 ∧ upper = false) ∨ (c = 'x' ∧ base = 16 ∧ upper = false) ∨
    (c = 'X' ∧ base = 16 ∧ upper = true) ∨ (c = 'o' ∧ base = 8 ∧ upper = false) := by
  unfold verbBase at h
  split at h
  · cases h; exact .inl ⟨‹_›, rfl, rfl⟩
  split at h
  · cases h; exact .inr (.inl ⟨‹_›, rfl, rfl⟩)
  split at h
  · cases h; exact .inr (.inr (.inl ⟨‹_›, rfl, rfl⟩))
  split at h
  · cases h; exact .inr (.inr (.inr ⟨‹_›, rfl, rfl⟩))
  · cases h

theorem verbBase_eq {c : Char} {base : Nat} {upper : Bool} (h : verbBase c = some (base, upper)) :
    cBase c = base ∧ decide (c = 'X') = upper ∧ (base = 8 ↔ c = 'o') := by
  rcases verbBase_cases h with ⟨rfl, rfl, rfl⟩ | ⟨rfl, rfl, rfl⟩ | ⟨rfl, rfl, rfl⟩ | ⟨rfl, rfl, rfl⟩ <;> decide

theorem goFmtInt_verbBase (g : GoSpec) (i : Int) (h : isIntLetter g.verb = true) :
    ∃ b u, verbBase g.verb = some (b, u) ∧ goFmtInt (some g) i = .text (goInteger g b u i) := by
  simp only [isIntLetter, Bool.or_eq_true, decide_eq_true_eq] at h
  rcases h with ((h | h) | h) | h
  · exact ⟨10, false, by simp [verbBase, h], by simp [goFmtInt, h]⟩
  · exact ⟨16, false, by simp [verbBase, h], by simp [goFmtInt, h]⟩
  · exact ⟨16, true, by simp [verbBase, h], by simp [goFmtInt, h]⟩
  · exact ⟨8, false, by simp [verbBase, h], by simp [goFmtInt, h]⟩

theorem signStr_length (neg plus space : Bool) :
    (signStr neg plus space).length = if neg || plus || space then 1 else 0 := by
  cases neg <;> cases plus <;> cases space <;> rfl

theorem goPrec_eq (g : GoSpec) (neg : Bool) :
    goPrec g neg = match g.prec with
      | some p => p
      | none => if g.zero && !g.minus then g.wid.getD 0 - (signStr neg g.plus g.space).length else 0 := by
  unfold goPrec
  cases g.prec with
  | some p => rfl
  | none =>
    cases g.wid with
    | none => simp
    | some w => rw [signStr_length]; cases (neg || g.plus || g.space) <;> rfl

/-- fmtInteger's `0x` / `0X` -/
def goPfx (g : GoSpec) (base : Nat) (upper : Bool) : Str :=
  if g.sharp = true ∧ base = 16 then ['0', if upper then 'X' else 'x'] else []

/-- fmtInteger's zeros: to `goPrec`, and one more for `#o` unless a zero leads already -/
def goFill (g : GoSpec) (base : Nat) (neg : Bool) (ds0 : Str) : Nat :=
  if g.sharp = true ∧ base = 8 ∧ (zeros (goPrec g neg - ds0.length) ++ ds0).head? ≠ some '0'
  then goPrec g neg - ds0.length + 1 else goPrec g neg - ds0.length

theorem goAbs_field (g : GoSpec) (base : Nat) (upper neg : Bool) (ds0 : Str) :
    goAbs g base upper neg ds0 =
      field g.minus g.wid (signStr neg g.plus g.space) (goPfx g base upper) (goFill g base neg ds0) ds0 := by
  unfold goAbs field goPfx goFill
  cases g.sharp
  · simp only [Bool.false_eq_true, false_and, if_false, List.append_nil, List.append_assoc]
  simp only [true_and, if_true]
  by_cases h8 : base = 8
  · subst h8
    by_cases hh : (zeros (goPrec g neg - ds0.length) ++ ds0).head? = some '0'
    · simp only [hh, if_true, if_false, ne_eq, not_true_eq_false, and_false, Nat.reduceEqDiff, List.append_nil,
        List.append_assoc]
    · simp only [hh, if_true, if_false, ne_eq, not_false_eq_true, and_true, Nat.reduceEqDiff, List.append_nil,
        List.append_assoc]
      simp only [zeros, List.replicate_succ, List.cons_append]
  · by_cases h16 : base = 16
    · subst h16
      simp only [if_true, if_false, false_and, Nat.reduceEqDiff, List.cons_append, List.nil_append, List.append_assoc]
    · simp only [h8, h16, if_false, false_and, List.append_nil, List.append_assoc]

/-! ### fmt against the reference: same sign and digits, compare prefix and zeros -/

theorem goPfx_eq {g : GoSpec} {base : Nat} {upper : Bool} (nz : Bool) (hv : verbBase g.verb = some (base, upper))
    (hnz : g.sharp = true → nz = true) : goPfx g base upper = cPfx g nz := by
  unfold goPfx cPfx
  cases hs : g.sharp
  · simp only [Bool.false_eq_true, false_and, if_false]
  · rw [hnz hs]
    rcases verbBase_cases hv with ⟨hc, rfl, rfl⟩ | ⟨hc, rfl, rfl⟩ | ⟨hc, rfl, rfl⟩ | ⟨hc, rfl, rfl⟩ <;> simp [hc]

theorem goFill_eq {g : GoSpec} {base : Nat} {upper : Bool} (neg : Bool) (ds0 : Str)
    (hv : verbBase g.verb = some (base, upper)) :
    goFill g base neg ds0 =
      if g.sharp = true ∧ g.verb = 'o' ∧ (zeros (goPrec g neg - ds0.length) ++ ds0).head? ≠ some '0'
      then goPrec g neg - ds0.length + 1 else goPrec g neg - ds0.length := by
  simp only [goFill, (verbBase_eq hv).2.2]

/-- **fmt's integer rendering is the reference's**, over an abstract digit string, outside the two known departures:
    `#` on a zero value (`hnz`) and `#` with zero padding for `x X` (`hx`). -/
theorem goAbs_cAbs (g : GoSpec) (base : Nat) (upper neg nz : Bool) (ds0 : Str)
    (hv : verbBase g.verb = some (base, upper)) (hnz : g.sharp = true → nz = true) (hx : ¬ altZeroPad g) :
    goAbs g base upper neg ds0 = cAbs g neg nz ds0 := by
  rw [goAbs_field, cAbs, cOct_zeros, goPfx_eq nz hv hnz, goFill_eq neg ds0 hv, goPrec_eq]
  refine field_cLayout _ _ _ _ _ _ _ _ ?_
  -- with the `0` flag in effect there is no prefix: `#` with `x X` is the departure `hx`, and fmt has no `b B`
  have hpf : g.prec = none → g.zero = true → g.minus = false → g.wid.isSome = true → (cPfx g nz).length = 0 := by
    intro hp hzero hm hw
    rw [cPfx, if_neg, List.length_nil]
    rintro ⟨hs, hc, _⟩
    rcases verbBase_cases hv with ⟨hd, _⟩ | ⟨hd, _⟩ | ⟨hd, _⟩ | ⟨hd, _⟩
    · rw [hd] at hc; revert hc; decide
    · exact hx ⟨hs, hzero, hm, hp, hw, .inl hd⟩
    · exact hx ⟨hs, hzero, hm, hp, hw, .inr hd⟩
    · rw [hd] at hc; revert hc; decide
  generalize (signStr neg g.plus g.space).length = sg
  cases hp : g.prec with
  | some p => simp only [Option.isNone_some, Bool.and_false, Bool.false_and, Bool.false_eq_true, if_false, Option.getD_some]
  | none =>
    simp only [Option.isNone_none, Bool.and_true, Option.getD_none, Nat.zero_sub]
    have hz0 : zeros 0 ++ ds0 = ds0 := rfl
    by_cases hzm : (g.zero && !g.minus) = true
    · rw [if_pos hzm, if_pos hzm, hz0]
      rw [Bool.and_eq_true, Bool.not_eq_true'] at hzm
      cases hw : g.wid with
      | none => simp only [Option.getD_none, Nat.zero_sub, Nat.add_zero, hz0]
      | some w =>
        have := hpf hp hzm.1 hzm.2 (by rw [hw]; rfl)
        simp only [Option.getD_some, this]
        -- a zero fill in front: fmt sees the `0` it asks for, the reference adds it and pads one less
        cases hq : w - sg - ds0.length with
        | zero => rw [hz0]; split <;> omega
        | succ n =>
          have : (zeros (n + 1) ++ ds0).head? = some '0' := rfl
          rw [this, if_neg (fun h => h.2.2 rfl)]
          split <;> omega
    · simp only [if_neg hzm, Nat.zero_sub, hz0]

/-- **Go's fmt integer rendering equals the printf reference**, for every operand, every flag combination, width and
    precision, outside the two classes where fmt departs from the reference (known findings) -/
theorem goInteger_eq_cRef (g : GoSpec) (i : Int) (base : Nat) (upper : Bool)
    (hv : verbBase g.verb = some (base, upper)) (h1 : ¬ zeroClass g i) (h2 : ¬ altZeroPad g) :
    goInteger g base upper i = cRef g i := by
  rw [cRef_eq]
  unfold goInteger
  have hnz : g.sharp = true → i.natAbs ≠ 0 := fun hs h0 => h1 ⟨by omega, .inl hs⟩
  by_cases hz : g.prec = some 0 ∧ i.natAbs = 0
  · -- nothing but padding on both sides
    rw [if_pos hz, if_pos ⟨hz.2, hz.1⟩]
    have hi : i = 0 := by omega
    have hsharp : g.sharp = false := Bool.eq_false_iff.mpr fun hs => hnz hs hz.2
    have hplus : g.plus = false := Bool.eq_false_iff.mpr fun hp => h1 ⟨hi, .inr ⟨hz.1, .inl hp⟩⟩
    have hspace : g.space = false := Bool.eq_false_iff.mpr fun hp => h1 ⟨hi, .inr ⟨hz.1, .inr hp⟩⟩
    rw [cAbs, cLayout_field]
    simp [field, hi, hz.1, hsharp, hplus, hspace, signStr, zeros, cPfx, cOct]
  · rw [if_neg hz, if_neg (fun h => hz ⟨h.2, h.1⟩)]
    obtain ⟨hb, hu, _⟩ := verbBase_eq hv
    rw [hb, hu]
    exact goAbs_cAbs g base upper _ _ _ hv (fun hs => decide_eq_true (hnz hs)) h2

end Pcore.Format

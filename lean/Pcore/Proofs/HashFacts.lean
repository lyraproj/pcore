import Pcore.Model.HashFacts
/-! For ANY fact table satisfying `HashOK`, the pool machine driven by the facts is `stepHImpl`. -/
namespace Pcore.Coll
variable {α β κ : Type} [DecidableEq κ]

/-- what the proofs use of the side condition -/
structure HashOKFacts (f : HashFacts) : Prop where
  mergeLoop : f.mergeLoop = .replaceOrAppend
  resets : f.putAllResetsIndex = true

theorem HashOK.facts {f : HashFacts} (h : HashOK f = true) : HashOKFacts f :=
  ⟨Decidable.byContradiction fun hne => by simp [HashOK, hne] at h,
   Decidable.byContradiction fun hne => by simp [HashOK, hne] at h⟩

theorem Hash.putAllT_eq {f : HashFacts} (hok : HashOK f = true) (key : α → κ) (h : Hash α β κ) (o : List (α × β)) :
    h.putAllT f key o = h.putAll key o := by
  simp only [Hash.putAllT, Hash.putAll, Hash.mergeEntriesT, Hash.mergeEntries, Hash.mergeLoopT, (HashOK.facts hok).mergeLoop,
    (HashOK.facts hok).resets, if_true]
  rfl

theorem stepHImplT_eq {f : HashFacts} (hok : HashOK f = true) (key : α → κ) (pool : List (Hash α β κ)) (op : HOp α β) :
    stepHImplT f key pool op = stepHImpl key pool op := by
  cases op <;> simp only [stepHImplT, Hash.mergeT, Hash.mergeEntriesT, Hash.mergeLoopT, (HashOK.facts hok).mergeLoop,
    Hash.putAllT_eq hok] <;> rfl

theorem runHImplT_eq {f : HashFacts} (hok : HashOK f = true) (key : α → κ) (pool : List (Hash α β κ)) (ops : List (HOp α β)) :
    runHImplT f key pool ops = runHImpl key pool ops := by
  induction ops generalizing pool with
  | nil => rfl
  | cons op ops ih => simp only [runHImplT, runHImpl, stepHImplT_eq hok, ih]

end Pcore.Coll

import Pcore.Proofs.Files
/-!
C15, "each file is parsed at most once": the read log never holds a path twice.  The invariant ties every path to the
one cache entry (`Guards`) whose placeholder `instantiate` installs before the file is read.  First the index: a file has one
key and lies below one loader (`idx_module_nil`: without a `modules` directory a module's loader indexes nothing), so a path
has one guard (`guards_unique`).  Then one induction on the fuel (`AllOnce`): the routing, caching and looping steps (`loadEntry`,
`fbLoadEntry`, `parentSearch`, the dependency loader) are `keeps_*` of `Proofs/Files` at `once_stores`; here the steps that
differ (`ostep_*`: `find`, `instantiate` and what it calls).
-/
namespace Pcore.Files

/-- `(l, key)` is the cache entry under which `instantiate` is asked to read `p` -/
def Guards (cfg : Cfg) (l : Lid) (key : Key) (p : Path) : Prop :=
  l ≠ .d ∧
  (((idx cfg l key).head? = some p ∧ (isGlobalMod l.moduleName = false → key.length ≥ 2)) ∨
   (isGlobalMod l.moduleName = false ∧ key = [l.moduleName] ∧ (idx cfg l ["init_typeset"]).head? = some p))

def InvOnce (cfg : Cfg) (s : St) : Prop :=
  (∀ p, readCount s p ≤ 1) ∧
  (∀ l key p, Guards cfg l key p → s.get l key = none → readCount s p = 0)

/-! ## the index: one key per file, one loader per path -/

theorem mem_fileKeys {sp : SmartPath} {p : Path} {k : Key} (h : k ∈ fileKeys sp p) :
    ∃ rel x, relOf sp.generic p = some rel ∧ typedNames sp rel = [x] ∧ k = keyOf x := by
  unfold fileKeys at h
  cases hr : relOf sp.generic p with
  | none => rw [hr] at h; cases h
  | some rel =>
    rw [hr] at h
    simp only [] at h
    have hx : ∃ x, typedNames sp rel = [x] := by
      unfold typedNames
      simp only []
      split <;> exact ⟨_, rfl⟩
    obtain ⟨x, hx⟩ := hx
    refine ⟨rel, x, rfl, hx, ?_⟩
    cases hl : rel.getLast? with
    | none => rw [hl] at h; cases h
    | some last =>
      rw [hl] at h
      simp only [] at h
      split at h
      · rw [hx] at h; exact List.mem_singleton.mp h
      · cases h

theorem fileKeys_single {sp : SmartPath} {p : Path} {k k' : Key}
    (h : k ∈ fileKeys sp p) (h' : k' ∈ fileKeys sp p) : k = k' := by
  obtain ⟨rel, x, hr, hx, rfl⟩ := mem_fileKeys h
  obtain ⟨rel', x', hr', hx', rfl⟩ := mem_fileKeys h'
  rw [hr] at hr'
  cases hr'
  rw [hx] at hx'
  cases hx'
  rfl

theorem generic_of_fileKeys {sp : SmartPath} {p : Path} {k : Key} (h : k ∈ fileKeys sp p) :
    sp.generic.isPrefixOf p = true := by
  obtain ⟨rel, _, hr, _⟩ := mem_fileKeys h
  unfold relOf at hr
  split at hr
  · next hc => exact (Bool.and_eq_true_iff.mp hc).1
  · cases hr

theorem key_of_head? {cfg : Cfg} {l : Lid} {k : Key} {p : Path} (h : (idx cfg l k).head? = some p) :
    k ∈ fileKeys (spOf l) p :=
  (mem_idx_iff.mp (List.mem_of_head? h)).2

theorem idx_module_nil {cfg : Cfg} (h : ∀ f ∈ cfg.tree, f.1.head? ≠ some "modules") (mod : String) (k : Key) :
    idx cfg (.m mod) k = [] := by
  refine List.eq_nil_iff_forall_not_mem.mpr (fun p hp => ?_)
  obtain ⟨⟨b, hb⟩, hk⟩ := mem_idx_iff.mp hp
  have hpre := generic_of_fileKeys hk
  apply h _ hb
  cases p with
  | nil => cases hpre
  | cons a r =>
    have : ("modules" == a) = true := (Bool.and_eq_true_iff.mp hpre).1
    rw [List.head?_cons, ← eq_of_beq this]

/-- the file loader a path lies below -/
def lidOf : Path → Lid
  | "modules" :: m :: _ => .m m
  | _ => .g

theorem lidOf_generic {l : Lid} {p : Path} (hl : l ≠ .d) (h : (spOf l).generic.isPrefixOf p = true) : l = lidOf p := by
  cases l with
  | d => exact absurd rfl hl
  | g =>
    cases p with
    | nil => cases h
    | cons a _ =>
      have ha : "env" = a := eq_of_beq (Bool.and_eq_true_iff.mp h).1
      subst ha
      rfl
  | m mod =>
    cases p with
    | nil => cases h
    | cons a p =>
      have h1 := Bool.and_eq_true_iff.mp h
      cases p with
      | nil => cases h1.2
      | cons b _ =>
        have ha : "modules" = a := eq_of_beq h1.1
        have hb : mod = b := eq_of_beq (Bool.and_eq_true_iff.mp h1.2).1
        subst ha hb
        rfl

theorem guards_loader {cfg : Cfg} {l : Lid} {key : Key} {p : Path} (h : Guards cfg l key p) : l = lidOf p := by
  obtain ⟨hl, h | h⟩ := h
  · exact lidOf_generic hl (generic_of_fileKeys (key_of_head? h.1))
  · exact lidOf_generic hl (generic_of_fileKeys (key_of_head? h.2.2))

theorem guards_unique {cfg : Cfg} {l l' : Lid} {key key' : Key} {p : Path}
    (h : Guards cfg l key p) (h' : Guards cfg l' key' p) : l = l' ∧ key = key' := by
  have hll : l = l' := (guards_loader h).trans (guards_loader h').symm
  subst hll
  obtain ⟨_, h⟩ := h
  obtain ⟨_, h'⟩ := h'
  refine ⟨rfl, ?_⟩
  cases h with
  | inl h =>
    cases h' with
    | inl h' => exact fileKeys_single (key_of_head? h.1) (key_of_head? h'.1)
    | inr h' =>
      have : key = ["init_typeset"] := fileKeys_single (key_of_head? h.1) (key_of_head? h'.2.2)
      have hlen := h.2 h'.1
      rw [this] at hlen; simp at hlen
  | inr h =>
    cases h' with
    | inl h' =>
      have : key' = ["init_typeset"] := fileKeys_single (key_of_head? h'.1) (key_of_head? h.2.2)
      have hlen := h'.2 h.1
      rw [this] at hlen; simp at hlen
    | inr h' => rw [h.2.1, h'.2.1]

/-! ## the invariant: kept by a write, by `setEntry`, and by every function (one induction on the fuel) -/

theorem readCount_addRead (s : St) (p p' : Path) :
    readCount (s.addRead p) p' = readCount s p' + (if p = p' then 1 else 0) := by
  unfold readCount
  simp only [reads_addRead, List.filter_append, List.length_append]
  by_cases h : p = p'
  · simp [h]
  · simp [h]

theorem readCount_put (s : St) (l : Lid) (k : Key) (e : Entry) (p : Path) :
    readCount (s.put l k e) p = readCount s p := rfl

theorem once_put {cfg : Cfg} {s : St} (h : InvOnce cfg s) (l : Lid) (k : Key) (e : Entry) :
    InvOnce cfg (s.put l k e) :=
  ⟨fun p => h.1 p, fun l' key' p hg =>
    get_put_cases (fun r => r = none → readCount s p = 0) (fun _ _ => nofun) (fun _ => h.2 l' key' p hg)⟩

theorem once_setEntry {cfg : Cfg} {s : St} (h : InvOnce cfg s) (l : Lid) (k : Key) (e : Entry) :
    wp (setEntry l k e) (fun _ s' => InvOnce cfg s') (InvOnce cfg) s :=
  wp_setEntry (fun _ => once_put h l k e) (fun _ _ => ⟨h, h⟩)

section
variable (cfg : Cfg)

abbrev SpecO {α : Type} (x : M α) : Prop :=
  ∀ s, InvOnce cfg s → wp x (fun _ s' => InvOnce cfg s') (InvOnce cfg) s

/-- the head of the origins has not been read yet and its guard entry is already in place -/
def HeadFresh (s : St) (origins : List Path) : Prop :=
  ∀ p, origins.head? = some p → readCount s p = 0 ∧ ∃ l key, Guards cfg l key p ∧ s.get l key ≠ none

structure AllOnce (n : Nat) : Prop where
  loadEntry : ∀ l name, SpecO cfg (loadEntry n cfg l name)
  fbLoadEntry : ∀ l name, l ≠ .d → SpecO cfg (fbLoadEntry n cfg l name)
  find : ∀ l name, l ≠ .d → SpecO cfg (find n cfg l name)
  findTail : ∀ l name, l ≠ .d → (isGlobalMod l.moduleName = false → qualified name = true) →
    SpecO cfg (findTail n cfg l name)
  parentSearch : ∀ l name ts, l ≠ .d → SpecO cfg (parentSearch n cfg l name ts)
  instantiate : ∀ l name origins, (∀ p, origins.head? = some p → Guards cfg l (keyOf name) p) →
    SpecO cfg (instantiate n cfg l name origins)
  instantiator : ∀ name origins s, InvOnce cfg s → HeadFresh cfg s origins →
    wp (instantiator n cfg name origins) (fun _ s' => InvOnce cfg s') (InvOnce cfg) s
  addTypes : ∀ d ts, SpecO cfg (addTypes n cfg d ts)
  resolveTS : ∀ tsName ts i, SpecO cfg (resolveTS n cfg tsName ts i)
  dLoadEntry : ∀ name, SpecO cfg (dLoadEntry n cfg name)
  dFind : ∀ name, SpecO cfg (dFind n cfg name)
  dMembers : ∀ name, SpecO cfg (dMembers n cfg name)
  dLoop : ∀ mods name, SpecO cfg (dLoop n cfg mods name)

variable {cfg}

theorem keepsO {x : M (Option Entry)} : SpecO cfg x ↔ Keeps (InvOnce cfg) (fun _ => True) x :=
  ⟨fun h s hs => wp_mono (h s hs) (fun _ _ h => ⟨h, fun _ _ => trivial⟩) (fun _ h => h),
    fun h s hs => wp_mono (h s hs) (fun _ _ h => h.1) (fun _ h => h)⟩

theorem once_stores (name : Name) : Stores (InvOnce cfg) (fun _ => True) name :=
  ⟨fun _ _ _ _ _ => trivial, fun l e _ _ hs =>
    wp_mono (once_setEntry hs l _ e) (fun _ _ h => ⟨h, fun _ _ => trivial⟩) (fun _ h => h)⟩

theorem ostep_find (hgi : cfg.guardInit = true) {n : Nat} (ih : AllOnce cfg n) (l : Lid) (name : Name) (hl : l ≠ .d) :
    SpecO cfg (find (n+1) cfg l name) := by
  refine find_cases (SpecO cfg) (fun _ _ hs => hs) (fun _ _ _ _ hs => hs) (fun hr => ih.findTail l name hl hr.qualified) ?_
    (fun _ _ h => by rw [hgi] at h; cases h)
  intro o os _ _ hg hp hi s hs
  have hk := (partsOf_eq hp).symm
  refine wp_seq (ih.instantiate l name _ (fun p hp => ⟨hl, Or.inr ⟨hg, hk, by rw [hi]; exact hp⟩⟩) s hs) ?_
  exact fun e s1 hs1 => expectTypeset_cases (fun x => wp x _ _ s1) hs1 hs1

theorem ostep_findTail {n : Nat} (ih : AllOnce cfg n) (l : Lid) (name : Name) (hl : l ≠ .d)
    (hq : isGlobalMod l.moduleName = false → qualified name = true) :
    SpecO cfg (findTail (n+1) cfg l name) :=
  findTail_cases (SpecO cfg)
    (fun o os hi => ih.instantiate l name _ (fun p hp => ⟨hl, Or.inl ⟨by rw [hi]; exact hp, fun hgm => by
      rw [keyOf_length]; exact qualified_iff.mp (hq hgm)⟩⟩))
    (fun _ _ => ih.parentSearch l name _ hl) (fun _ _ hs => hs)

theorem ostep_instantiate {n : Nat} (ih : AllOnce cfg n) (l : Lid) (name : Name) (origins : List Path)
    (hg : ∀ p, origins.head? = some p → Guards cfg l (keyOf name) p) :
    SpecO cfg (instantiate (n+1) cfg l name origins) := by
  intro s hs
  unfold wp
  cases hget : s.get l (keyOf name) with
  | some v => rw [instantiate_cached hget]; exact hs
  | none =>
    rw [instantiate_fresh hget]
    -- the placeholder is in place and the file it guards has not been read: the entry was absent
    have hfresh : HeadFresh cfg (s.put l (keyOf name) none) origins := fun p hp =>
      ⟨hs.2 l (keyOf name) p (hg p hp) hget, l, keyOf name, hg p hp, by rw [get_put_self]; exact fun h => by cases h⟩
    exact wp_seq (ih.instantiator name origins _ (once_put hs l _ none) hfresh) (fun _ _ hs2 => hs2)

theorem ostep_instantiator {n : Nat} (ih : AllOnce cfg n) (name : Name) (origins : List Path) (s : St)
    (hs : InvOnce cfg s) (hf : HeadFresh cfg s origins) :
    wp (instantiator (n+1) cfg name origins) (fun _ s' => InvOnce cfg s') (InvOnce cfg) s := by
  cases origins with
  | nil => exact hs
  | cons p rest =>
    obtain ⟨h0, l, key, hgd, hne⟩ := hf p rfl
    -- the read keeps the invariant: `p` was unread, and the one entry that guards `p` is no longer absent
    have hs1 : InvOnce cfg (s.addRead p) := by
      constructor
      · intro p'
        rw [readCount_addRead]
        by_cases hp : p = p'
        · subst hp; rw [h0]; simp
        · rw [if_neg hp]; exact hs.1 p'
      · intro l' key' p' hg' hget'
        rw [readCount_addRead]
        by_cases hp : p = p'
        · subst hp
          have := guards_unique hg' hgd
          rw [this.1, this.2] at hget'
          exact absurd hget' hne
        · rw [if_neg hp]; exact hs.2 l' key' p' hg' hget'
    rw [instantiator_cons, wp_bind, wp_modifySt]
    exact instBody_cases (SpecO cfg) (fun _ _ _ hs => hs) (fun _ _ _ _ _ => ih.addTypes _ _) (fun _ => ih.addTypes _ _) _ hs1

theorem ostep_addTypes {n : Nat} (ih : AllOnce cfg n) (d : Def) (ts : List String) :
    SpecO cfg (addTypes (n+1) cfg d ts) := by
  intro s hs
  rw [addTypes_succ]
  have hmembers : wp (if d.kind = .typeset then resolveTS n cfg d.name ts 0 else pure ()) (fun _ s' => InvOnce cfg s')
      (InvOnce cfg) s := by
    split
    · exact ih.resolveTS d.name ts 0 s hs
    · exact hs
  exact wp_seq hmembers (fun _ s1 hs1 => wp_seq (once_setEntry hs1 cfg.via _ (some d)) (fun _ _ h => h))

theorem ostep_resolveTS {n : Nat} (ih : AllOnce cfg n) (tsName : Name) (ts : List String) (i : Nat) :
    SpecO cfg (resolveTS (n+1) cfg tsName ts i) := by
  intro s hs
  cases ts with
  | nil => exact hs
  | cons t rest =>
    rw [resolveTS_cons]
    refine wp_seq (ih.loadEntry cfg.via (tsName ++ [t]) s hs) (fun le s1 hs1 => ?_)
    refine resolveMember_cases (fun x => wp x _ _ s1) (ih.resolveTS tsName rest (i + 1) s1 hs1) ?_
    exact wp_seq (once_setEntry hs1 cfg.via _ _) (fun _ s2 h => ih.resolveTS tsName rest (i + 1) s2 h)

theorem ostep_dLoadEntry {n : Nat} (ih : AllOnce cfg n) (name : Name) :
    SpecO cfg (dLoadEntry (n+1) cfg name) :=
  keepsO.mpr (keeps_dLoadEntry (once_stores name) (keepsO.mp (ih.dFind name)))

theorem allOnce (hgi : cfg.guardInit = true) : ∀ n, AllOnce cfg n
  | 0 => by
    -- at fuel 0 every operation panics and leaves the state as it is (`try`: the field `instantiator` has its state bound)
    constructor <;> intros <;> (try intro s hs) <;> assumption
  | n+1 =>
    have ih := allOnce hgi n
    have file : ∀ l name, l ≠ .d → Keeps (InvOnce cfg) (fun _ => True) (fbLoadEntry n cfg l name) :=
      fun l name hl => keepsO.mp (ih.fbLoadEntry l name hl)
    { loadEntry := fun l name => keepsO.mpr (keeps_loadEntry (keepsO.mp (ih.dLoadEntry name)) (file l name))
      fbLoadEntry := fun l name hl =>
        keepsO.mpr (keeps_fbLoadEntry (once_stores name) (fun _ _ => trivial) (file .g name nofun) (keepsO.mp (ih.find l name hl)))
      find := ostep_find hgi ih
      findTail := ostep_findTail ih
      parentSearch := fun l name ts hl =>
        keepsO.mpr (keeps_parentSearch (G' := fun _ _ => True) (once_stores name) (fun _ => keepsO.mp (ih.find l ts hl))
          (fun _ => keepsO.mp (ih.parentSearch l name _ hl)))
      instantiate := ostep_instantiate ih
      instantiator := ostep_instantiator ih
      addTypes := ostep_addTypes ih
      resolveTS := ostep_resolveTS ih
      dLoadEntry := ostep_dLoadEntry ih
      dFind := fun name => keepsO.mpr (keeps_dFind (fun h _ => file (.m h) name nofun) (keepsO.mp (ih.dMembers name)))
      dMembers := fun name => keepsO.mpr (keeps_dMembers (file .g name nofun) (keepsO.mp (ih.dLoop cfg.mods name)))
      dLoop := fun mods name =>
        keepsO.mpr (keeps_dLoop (once_stores name) (fun m => file (.m m) name nofun) (fun ms => keepsO.mp (ih.dLoop ms name))) }

theorem once_loadS (hgi : cfg.guardInit = true) (fuel : Nat) (s : St) (name : Name) (hs : InvOnce cfg s) :
    InvOnce cfg (loadS fuel cfg s name).2 :=
  (keeps_loadS (once_stores name) (keepsO.mp ((allOnce hgi fuel).loadEntry cfg.via name)) hs).1

theorem once_runLoads (hgi : cfg.guardInit = true) (fuel : Nat) :
    ∀ (names : List Name) (s : St), InvOnce cfg s → InvOnce cfg (runLoads fuel cfg s names).2
  | [], _, hs => hs
  | n :: ns, s, hs => once_runLoads hgi fuel ns _ (once_loadS hgi fuel s n hs)

theorem once_init : InvOnce cfg {} := ⟨fun _ => Nat.zero_le _, fun _ _ _ _ _ => rfl⟩

end

end Pcore.Files

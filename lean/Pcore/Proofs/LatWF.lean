import Pcore.Model.LatticeInst
import Pcore.Proofs.LatInd
set_option linter.unusedSimpArgs false
/-! What the lattice theorems assume of their inputs, and the reference fragment of C02.  `Ty.WF`: what the Go constructors / the
    harness generators guarantee of a type term, with its equations and the parts of a well-formed type by name; `LowerLen`, the
    assumption on `strings.ToLower` beside it; `Ty.Ref` (here and not with the other fragments in LatFrag, so that C02 does not import
    the fragments of C01 / C03); `Val.OK`: the string keys of every hash inside a value are pairwise different (`keyIs`, `KeysNodup` —
    the counterparts on values of `nameIs`, `NamesNodup` on Struct members, LatStruct). -/
namespace Pcore.Lat

/-- what the constructors guarantee, hereditarily: Struct member names pairwise different (hash literal keys), values of a
    case-insensitive Enum stored lower-cased (`NewEnumType`). -/
def Ty.WF (cfg : Cfg) (t : Ty) : Prop :=
  match t with
  | .enum vs ci => ci = true → ∀ x ∈ vs, cfg.lower x = x
  | .array e _ => Ty.WF cfg e
  | .hash k v _ => Ty.WF cfg k ∧ Ty.WF cfg v
  | .tuple ts _ => ∀ t', ∀ (_ : t' ∈ ts), Ty.WF cfg t'
  | .struct ms => (ms.map (·.1)).Nodup ∧ ∀ m, ∀ (_ : m ∈ ms), Ty.WF cfg m.2.2
  | .variant ts => ∀ t', ∀ (_ : t' ∈ ts), Ty.WF cfg t'
  | .optional t' | .notUndef t' | .typ t' | .sensitive t' | .iterator t' | .iterable t' => Ty.WF cfg t'
  | .callable p r k =>
      (match p with | none => True | some t' => Ty.WF cfg t') ∧ (match r with | none => True | some t' => Ty.WF cfg t') ∧
      (match k with | none => True | some t' => Ty.WF cfg t')
  | _ => True
termination_by t.w
decreasing_by
  all_goals simp_wf
  all_goals (try simp only [Ty.w, Ty.wl, Ty.wm, Ty.wo] at *)
  all_goals first
    | omega
    | (have := Ty.w_lt_wl ‹_ ∈ _›; omega)
    | (have := Ty.w_lt_wm ‹_ ∈ _›; omega)

/-! ### `Ty.WF` at the constructors with a condition: the equations of the definition, and the parts of a well-formed type by name
    (for use instead of `unfold Ty.WF`) -/
section
variable {cfg : Cfg}

theorem Ty.wf_enum {vs : List String} {ci : Bool} : Ty.WF cfg (.enum vs ci) ↔ (ci = true → ∀ x ∈ vs, cfg.lower x = x) := by rw [Ty.WF]
theorem Ty.wf_array {e : Ty} {r : Rng} : Ty.WF cfg (.array e r) ↔ Ty.WF cfg e := by rw [Ty.WF]
theorem Ty.wf_hash {k v : Ty} {r : Rng} : Ty.WF cfg (.hash k v r) ↔ Ty.WF cfg k ∧ Ty.WF cfg v := by rw [Ty.WF]
theorem Ty.wf_tuple {ts : List Ty} {g : Option Rng} : Ty.WF cfg (.tuple ts g) ↔ ∀ t ∈ ts, Ty.WF cfg t := by rw [Ty.WF]
theorem Ty.wf_struct {ms : List Member} : Ty.WF cfg (.struct ms) ↔ (ms.map (·.1)).Nodup ∧ ∀ m ∈ ms, Ty.WF cfg m.2.2 := by rw [Ty.WF]
theorem Ty.wf_variant {ts : List Ty} : Ty.WF cfg (.variant ts) ↔ ∀ t ∈ ts, Ty.WF cfg t := by rw [Ty.WF]
theorem Ty.wf_cov {c : Ty → Ty} (hc : Cov c) {x : Ty} : Ty.WF cfg (c x) ↔ Ty.WF cfg x := by cases hc <;> rw [Ty.WF]
theorem Ty.wf_callable {p r k : Option Ty} : Ty.WF cfg (.callable p r k) ↔
    (∀ t, p = some t → Ty.WF cfg t) ∧ (∀ t, r = some t → Ty.WF cfg t) ∧ (∀ t, k = some t → Ty.WF cfg t) := by
  conv => lhs; unfold Ty.WF
  cases p <;> cases r <;> cases k <;> simp

theorem Ty.WF.elem {e : Ty} {r : Rng} (h : Ty.WF cfg (.array e r)) : Ty.WF cfg e := Ty.wf_array.1 h
theorem Ty.WF.key {k v : Ty} {r : Rng} (h : Ty.WF cfg (.hash k v r)) : Ty.WF cfg k := (Ty.wf_hash.1 h).1
theorem Ty.WF.val {k v : Ty} {r : Rng} (h : Ty.WF cfg (.hash k v r)) : Ty.WF cfg v := (Ty.wf_hash.1 h).2
theorem Ty.WF.mem_tuple {ts : List Ty} {g : Option Rng} (h : Ty.WF cfg (.tuple ts g)) {t : Ty} (hm : t ∈ ts) : Ty.WF cfg t :=
  Ty.wf_tuple.1 h t hm
theorem Ty.WF.names {ms : List Member} (h : Ty.WF cfg (.struct ms)) : (ms.map (·.1)).Nodup := (Ty.wf_struct.1 h).1
theorem Ty.WF.member {ms : List Member} (h : Ty.WF cfg (.struct ms)) {m : Member} (hm : m ∈ ms) : Ty.WF cfg m.2.2 :=
  (Ty.wf_struct.1 h).2 m hm
theorem Ty.WF.mem_variant {ts : List Ty} (h : Ty.WF cfg (.variant ts)) {t : Ty} (hm : t ∈ ts) : Ty.WF cfg t := Ty.wf_variant.1 h t hm
theorem Ty.WF.inner {c : Ty → Ty} (hc : Cov c) {x : Ty} (h : Ty.WF cfg (c x)) : Ty.WF cfg x := (Ty.wf_cov hc).1 h
theorem Ty.WF.params {t : Ty} {r k : Option Ty} (h : Ty.WF cfg (.callable (some t) r k)) : Ty.WF cfg t := (Ty.wf_callable.mp h).1 _ rfl
theorem Ty.WF.ret {p k : Option Ty} {t : Ty} (h : Ty.WF cfg (.callable p (some t) k)) : Ty.WF cfg t := (Ty.wf_callable.mp h).2.1 _ rfl
theorem Ty.WF.block {p r : Option Ty} {t : Ty} (h : Ty.WF cfg (.callable p r (some t))) : Ty.WF cfg t := (Ty.wf_callable.mp h).2.2 _ rfl
end

theorem Ty.wf_of_fragLeaf {c : Ty} (h : c.fragLeaf = true) (cfg : Cfg) : Ty.WF cfg c := by
  cases c <;> first | (unfold Ty.WF; trivial) | cases h

/-- assumption on `strings.ToLower` used by `String[n] ⊒ Enum[…, true]`: it maps character by character -/
def LowerLen (cfg : Cfg) : Prop := ∀ s, (cfg.lower s).length = s.length

/-- the reference fragment of C02: no Iterable at any position the denotation descends into -/
def Ty.Ref (t : Ty) : Prop :=
  match t with
  | .iterable _ => False
  | .array e _ => Ty.Ref e
  | .hash k v _ => Ty.Ref k ∧ Ty.Ref v
  | .tuple ts _ => ∀ t', ∀ (_ : t' ∈ ts), Ty.Ref t'
  | .struct ms => ∀ m, ∀ (_ : m ∈ ms), Ty.Ref m.2.2
  | .variant ts => ∀ t', ∀ (_ : t' ∈ ts), Ty.Ref t'
  | .optional t' | .notUndef t' | .sensitive t' | .iterator t' => Ty.Ref t'
  | _ => True
termination_by t.w
decreasing_by
  all_goals simp_wf
  all_goals (try simp only [Ty.w, Ty.wl, Ty.wm] at *)
  all_goals first
    | omega
    | (have := Ty.w_lt_wl ‹_ ∈ _›; omega)
    | (have := Ty.w_lt_wm ‹_ ∈ _›; omega)

def keyIs (n : String) (e : Val × Val) : Bool := keyIsStr n e.1

theorem keyIs_iff (n : String) (e : Val × Val) : keyIs n e = true ↔ e.1 = .str n := by
  unfold keyIs keyIsStr; cases h : e.1 <;> simp

theorem keyIs_unique {n n' : String} {e : Val × Val} (h : keyIs n e = true) (h' : keyIs n' e = true) : n = n' := by
  rw [keyIs_iff] at h h'; rw [h] at h'; cases h'; rfl

/-- string keys of a hash value are pairwise different -/
def KeysNodup (es : List (Val × Val)) : Prop := ∀ n, es.countP (keyIs n) ≤ 1

/-- hereditarily: every hash inside the value has pairwise different string keys -/
inductive Val.OK : Val → Prop
  | undef : Val.OK .undef
  | dflt : Val.OK .dflt
  | bool (b) : Val.OK (.bool b)
  | int (i) : Val.OK (.int i)
  | float (f) : Val.OK (.float f)
  | str (s) : Val.OK (.str s)
  | regexp (s) : Val.OK (.regexp s)
  | binary (b) : Val.OK (.binary b)
  | tspan (n) : Val.OK (.tspan n)
  | typ (t) : Val.OK (.typ t)
  | obj (p) : Val.OK (.obj p)
  | sensitive (v) : Val.OK v → Val.OK (.sensitive v)
  | array (vs) : (∀ x ∈ vs, Val.OK x) → Val.OK (.array vs)
  | hash (es : List (Val × Val)) : KeysNodup es → (∀ e ∈ es, Val.OK e.1) → (∀ e ∈ es, Val.OK e.2) → Val.OK (.hash es)

theorem Val.OK.elems {vs : List Val} (h : Val.OK (.array vs)) : ∀ x ∈ vs, Val.OK x := by
  cases h with | array _ h => exact h
theorem Val.OK.keys {es : List (Val × Val)} (h : Val.OK (.hash es)) : ∀ e ∈ es, Val.OK e.1 := by
  cases h with | hash _ _ h _ => exact h
theorem Val.OK.vals {es : List (Val × Val)} (h : Val.OK (.hash es)) : ∀ e ∈ es, Val.OK e.2 := by
  cases h with | hash _ _ _ h => exact h
theorem Val.OK.nodup {es : List (Val × Val)} (h : Val.OK (.hash es)) : KeysNodup es := by
  cases h with | hash _ h _ _ => exact h
theorem Val.OK.inner {v : Val} (h : Val.OK (.sensitive v)) : Val.OK v := by
  cases h with | sensitive _ h => exact h

end Pcore.Lat

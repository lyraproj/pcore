import Pcore.Proofs.FilesSteps
/-!
C15, the flat topology (the global loader is the first member of the dependency loader): an unqualified name is offered
to the global loader first, the modules after it answer nil placeholders without reading anything (unless the module of
that name has an `init_typeset`), and the answer is the one the global loader's first origin yields.
-/
namespace Pcore.Files

/-- the loop over the modules after the global loader: each is top-level and refuses the name (`dLoop_refuse`) — nothing is
    read, the dependency loader's own cache decides -/
theorem dLoop_miss (cfg : Cfg) (hflat : cfg.flat = true) (a x : String)
    (hparts : partsOf [a] = some [x]) (hsys : sysLoad [a] = none) (mods : List String)
    (hmods : ∀ m ∈ mods, isGlobalMod m = false ∧ (m = x → idx cfg (.m m) ["init_typeset"] = []))
    (fuel : Nat) (s : St) (hf : fuel ≥ mods.length + 4) (hmd : ∀ m d, s.get (.m m) (keyOf [a]) ≠ some (some d)) :
    ∃ s', dLoop fuel cfg mods [a] s = .ok (s'.get .d (keyOf [a])) s' ∧ s'.reads = s.reads ∧
      s'.get .d (keyOf [a]) = s.get .d (keyOf [a]) := by
  have h := dLoop_refuse (c := 0) (fun _ => True) hparts (fun _ _ _ => trivial)
    (fun m _ _ => Below.top (Or.inr ⟨⟨m, rfl⟩, hflat⟩) hsys) mods [] s fuel (by omega) trivial hmods (fun m _ => hmd m)
  obtain ⟨k, hk⟩ : ∃ k, fuel - mods.length = k + 1 := ⟨fuel - mods.length - 1, by omega⟩
  rw [List.append_nil, hk, dLoop_nil] at h
  exact ⟨_, h, skipMods_reads .., skipMods_get_other _ _ _ _ _ (fun _ _ => nofun)⟩

theorem flat_unqualified (cfg : Cfg) (hv : cfg.via = .d) (hflat : cfg.flat = true) (a x : String) (s : St) (n : Nat)
    (hparts : partsOf [a] = some [x]) (hsys : sysLoad [a] = none)
    (hd : s.get .d (keyOf [a]) = none) (hg : s.get .g (keyOf [a]) = none)
    (hmd : ∀ m d, s.get (.m m) (keyOf [a]) ≠ some (some d))
    (hmods : ∀ m ∈ cfg.mods, isGlobalMod m = false ∧ (m = x → idx cfg (.m m) ["init_typeset"] = []))
    (hnt : ∀ p ps nm ts, idx cfg .g (keyOf [a]) = p :: ps → bodyAt cfg.tree p ≠ some (.typ .typeset nm ts)) :
    (loadS (n + cfg.mods.length + 10) cfg s [a]).1 = plainOutcomeAt cfg .g [a] ∧
    (loadS (n + cfg.mods.length + 10) cfg s [a]).2.reads = s.reads ++ (idx cfg .g (keyOf [a])).head?.toList := by
  have hq : qualified [a] = false := rfl
  have hd' : ∀ d, s.get .d (keyOf [a]) ≠ some (some d) := by rw [hd]; intro d h; cases h
  have hle : loadEntry (n + cfg.mods.length + 10) cfg cfg.via [a] = dLoadEntry (n + cfg.mods.length + 9) cfg [a] := by
    rw [hv, loadEntry_d]
  -- the global loader has answered a placeholder and left `σ`; the modules after it answer placeholders, the dependency
  -- loader's own cache decides
  have hrest : ∀ σ, fbLoadEntry (n + cfg.mods.length + 6) cfg .g [a] s = .ok (some none) σ →
      (∀ m d, σ.get (.m m) (keyOf [a]) ≠ some (some d)) →
      ∃ s2, s2.reads = σ.reads ∧ s2.get .d (keyOf [a]) = σ.get .d (keyOf [a]) ∧
        dLoadEntry (n + cfg.mods.length + 9) cfg [a] s =
          match s2.get .d (keyOf [a]) with
          | some (some d) => .ok (some (some d)) s2
          | _ => .ok (some none) (s2.put .d (keyOf [a]) none) := by
    intro σ hσ hmdσ
    obtain ⟨s2, h2, hr2, hd2⟩ := dLoop_miss cfg hflat a x hparts hsys cfg.mods hmods (n + cfg.mods.length + 6) σ
      (by omega) hmdσ
    refine ⟨s2, hr2, hd2, dLoadEntry_fresh hd ?_ (Or.inr rfl)⟩
    rw [dFind_unqualified _ _ _ hq, dMembers_flat hflat hσ, h2]
  cases hi : idx cfg .g (keyOf [a]) with
  | nil =>
    obtain ⟨s2, hr2, hd2, hdl⟩ := hrest _ ((Below.top (Or.inl rfl) hsys).absent (Nat.zero_le _) (routed_g _) hq hi hg) (by
      intro m d; rw [get_put_lid (by intro h; cases h)]; exact hmd m d)
    rw [get_put_lid (by intro h; cases h), hd] at hd2
    rw [hd2] at hdl
    rw [loadS_notfound (hle ▸ hdl), (plainOutcomeAt_notfound cfg .g [a]).mpr hi]
    exact ⟨rfl, by simp [hr2]⟩
  | cons p ps =>
    obtain ⟨σ, hr, hframe, ⟨e, ho, hfb⟩ | ⟨d, ho, hvd, hfb⟩⟩ := (Below.top (s := s) (Or.inl rfl) hsys).plain
      (n := n + cfg.mods.length) (Nat.zero_le _) (routed_g [a]) hg hi (hnt p ps · · hi) (by rw [hv]; exact hd')
    · have hfail := dLoadEntry_failed hd' (by
        rw [dFind_unqualified _ _ _ hq]; exact dMembers_flat_failed hflat hfb)
      rw [loadS_failed (hle ▸ hfail), ho]
      exact ⟨rfl, hr⟩
    · -- a definition: it lands in the dependency loader, the modules are asked in vain, the cache answers
      rw [hv, if_neg (by intro h; cases h)] at hfb
      obtain ⟨s2, hr2, hd2, hdl⟩ := hrest _ hfb (fun m d' => by
        rw [hframe _ _ (by nofun) (by rw [hv]; nofun)]; exact hmd m d')
      rw [hv] at hvd
      rw [hd2, hvd] at hdl
      rw [loadS_found (hle ▸ hdl), ho]
      exact ⟨rfl, by rw [hr2, hr]; rfl⟩

end Pcore.Files

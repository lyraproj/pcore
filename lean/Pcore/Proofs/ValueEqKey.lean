import Pcore.Proofs.ValueEq
import Pcore.Proofs.ValueEqTyKey
/-! Helper lemmas for C07: the key of a container element (`mk`, the marked key) is equal for two comparable values
    exactly when they are equal (`mk_eq_iff_veq`) — by structural induction, decoding the length-prefixed frames, after the kinds
    (the two leading bytes) have separated values of different constructors; the hypothesis about types that `C07_key_iff`
    carries besides (`TypeKeysAgree`) holds by itself; the same at top level (`kb_eq_iff_veq`, under `TopSafe`, defined here);
    `Hash.Get` and `Unique` in terms of key bytes. -/
namespace Pcore.ValueEq

/-- the marked key: what `appendElementKey` frames -/
def mk (v : Val) : Bytes := mark v ++ kb v

/-- the key of an entry inside `Hash.ToKey` (before framing): the key of the array `[k, v]` -/
def ekey (e : Val × Val) : Bytes := [0, 0x41] ++ (frame (mk e.1) ++ (frame (mk e.2) ++ []))

theorem kbL_eq : ∀ vs : List Val, kbL vs = flat ((vs.map mk).map frame)
  | [] => rfl
  | v :: vs => by simp [kbL, flat, mk, kbL_eq vs]

theorem kbE_eq : ∀ es : List (Val × Val), kbE es = es.map (fun e => frame (ekey e))
  | [] => rfl
  | (k, v) :: es => by simp [kbE, ekey, mk, kbE_eq es]

theorem mk_elems {x : Val} {vs : List Val} (hx : elems x = some vs) : mk x = [0, 0x41] ++ kbL vs := by
  rcases elems_some hx with rfl | ⟨k, v, rfl, rfl⟩ <;> rfl

/-! ### kinds: the two leading bytes of a marked key -/

def kind : Val → Nat
  | .undef => 0 | .dflt => 1 | .bool _ => 2 | .int _ => 3 | .float _ => 4 | .str _ => 5 | .regexp _ => 6
  | .binary _ => 7 | .array _ => 8 | .entry _ _ => 8 | .hash _ => 9 | .typ _ => 10 | .timespan _ => 11
  | .timestamp _ _ => 12 | .uri _ => 13 | .semver _ => 14 | .vrange _ _ => 15
  | .sensitive _ => 16 | .tname _ _ _ => 16 | .deferred _ _ => 16 | .param _ _ _ _ _ => 16 | .obj _ _ => 16

def kindHead : Nat → Bytes
  | 0 => [1, 0x75] | 1 => [1, 0x64] | 2 => [1, 0x62] | 3 => [1, 0x69] | 4 => [1, 0x66] | 5 => [1, 0x73]
  | 6 => [1, 0x72] | 7 => [0, 0x42] | 8 => [0, 0x41] | 9 => [0, 0x48] | 10 => [1, 0x74] | 11 => [1, 0x44]
  | 12 => [1, 0x54] | 13 => [1, 0x55] | 14 => [1, 0x76] | 15 => [1, 0x52] | _ => []

theorem mk_head (x : Val) : ∃ r, mk x = kindHead (kind x) ++ r := by
  cases x with
  | typ t => exact tyKey_hd t
  | _ => exact ⟨_, rfl⟩

theorem kind_of_veq {x y : Val} (h : veq x y = true) : kind x = kind y := by
  cases x <;> unfold veq at h <;> first | cases h | (split at h <;> first | rfl | cases h)

theorem kindHead_inj : ∀ a, a < 16 → ∀ b, b < 16 → kindHead a = kindHead b → a = b := by decide

theorem kindHead_length : ∀ a, a < 16 → (kindHead a).length = 2 := by decide

theorem kind_lt {x : Val} (cx : cmp x = true) : kind x < 16 := by
  cases x <;> simp [kind] <;> simp [cmp] at cx

theorem mk_kind {x y : Val} (cx : cmp x = true) (cy : cmp y = true) (h : kind x ≠ kind y) : mk x ≠ mk y := by
  obtain ⟨r, hr⟩ := mk_head x
  obtain ⟨r', hr'⟩ := mk_head y
  rw [hr, hr']
  intro he
  have := List.append_inj he (by rw [kindHead_length _ (kind_lt cx), kindHead_length _ (kind_lt cy)])
  exact h (kindHead_inj _ (kind_lt cx) _ (kind_lt cy) this.1)

theorem mark_eq (x : Val) : mark x = if kind x = 5 then strMark else [] := by
  cases x <;> rfl

/-- a marked key determines the raw key: the marker cannot be confused with the head of another kind -/
theorem kb_of_mk {x y : Val} (cx : cmp x = true) (cy : cmp y = true) (h : mk x = mk y) : kb x = kb y := by
  have hk : kind x = kind y := Classical.byContradiction fun hk => mk_kind cx cy hk h
  unfold mk at h
  rw [mark_eq, mark_eq, hk] at h
  exact List.append_cancel_left h

theorem intOk_of_cmp {i : Int} (h : cmp (.int i) = true) : IntOk i := by
  simpa [cmp, IntOk] using h

theorem fltOk_of_cmp {a : Nat} (h : cmp (.float a) = true) : FltOk a := by
  simpa [cmp, FltOk] using h

theorem tsSecs_range {n : Int} (h : IntOk n) : IntOk (tsSecs n) := by
  obtain ⟨h1, h2⟩ := h
  unfold IntOk tsSecs minInt maxInt at *
  by_cases h : 0 ≤ n
  · rw [Int.tdiv_eq_ediv_of_nonneg h]; omega
  · have e : n = -(-n) := by omega
    rw [e, Int.neg_tdiv, Int.tdiv_eq_ediv_of_nonneg (by omega)]
    omega

theorem timespanKey_iff {a b : Int} (ha : IntOk a) (hb : IntOk b) : timespanKey a = timespanKey b ↔ tsSecs a = tsSecs b := by
  simp only [timespanKey, List.append_cancel_left_eq, be64_u64_inj (tsSecs_range ha) (tsSecs_range hb)]

theorem timestampKey_iff {a b a' b' : Int} (ha : IntOk a) (hb : IntOk b) (ha' : IntOk a') (hb' : IntOk b') :
    timestampKey a b = timestampKey a' b' ↔ a = a' ∧ b = b' := by
  simp only [timestampKey, List.append_cancel_left_eq]
  rw [← be64_u64_inj ha ha', ← be64_u64_inj hb hb']
  exact ⟨fun h => List.append_inj h (by simp [be64_length]), fun h => by rw [h.1, h.2]⟩

theorem map_mk_iff : ∀ {vs ws : List Val},
    (∀ v ∈ vs, ∀ w ∈ ws, (mk v = mk w ↔ veq v w = true)) →
    (vs.map mk = ws.map mk ↔ vs.length = ws.length ∧ veqL vs ws = true)
  | [], [], _ => by simp [veqL]
  | [], _ :: _, _ => by simp
  | _ :: _, [], _ => by simp
  | v :: vs, w :: ws, ih => by
      simp only [List.map_cons, List.cons.injEq, List.length_cons, veqL, Bool.and_eq_true,
        ih v List.mem_cons_self w List.mem_cons_self,
        map_mk_iff (fun v' hv w' hw => ih v' (List.mem_cons_of_mem _ hv) w' (List.mem_cons_of_mem _ hw))]
      constructor
      · rintro ⟨h1, h2, h3⟩; exact ⟨by omega, h1, h3⟩
      · rintro ⟨h1, h2, h3⟩; exact ⟨h2, by omega, h3⟩

theorem kind_elems {x : Val} {vs : List Val} (hx : elems x = some vs) : kind x = 8 := by
  rcases elems_some hx with rfl | ⟨k, v, rfl, rfl⟩ <;> rfl

theorem kind_elems_inv {y : Val} (h : 8 = kind y) : ∃ ws, elems y = some ws := by
  cases y <;> first | exact ⟨_, rfl⟩ | exact absurd h (of_decide_eq_false rfl)

theorem kind_hash_inv {es : List (Val × Val)} {y : Val} (h : kind (.hash es) = kind y) : ∃ fs, y = .hash fs := by
  cases y <;> first | exact ⟨_, rfl⟩ | exact absurd h (of_decide_eq_false rfl)

theorem kind_typ_inv {t : Ty} {y : Val} (h : kind (.typ t) = kind y) : ∃ t', y = .typ t' := by
  cases y <;> first | exact ⟨_, rfl⟩ | exact absurd h (of_decide_eq_false rfl)

theorem ekey_inj {e e' : Val × Val} (h : ekey e = ekey e') : mk e.1 = mk e'.1 ∧ mk e.2 = mk e'.2 := by
  simp only [ekey, List.append_cancel_left_eq] at h
  have h1 := frame_decode h
  have h2 := frame_decode h1.2
  exact ⟨h1.1, h2.1⟩

theorem kbE_nodup {es : List (Val × Val)} (hc : ∀ e ∈ es, cmp e.1 = true ∧ cmp e.2 = true) (hd : (keysOf es).Nodup) : (kbE es).Nodup := by
  rw [kbE_eq]
  refine List.Nodup.map_on ?_ (List.Nodup.of_map _ hd)
  intro e he e' he' h
  have h1 := (ekey_inj (frame_inj h)).1
  have h2 := kb_of_mk (hc e he).1 (hc e' he').1 h1
  exact nodup_key_inj hd he he' h2

theorem mk_hash_iff (es fs : List (Val × Val)) : mk (.hash es) = mk (.hash fs) ↔ (kbE es).Perm (kbE fs) := by
  have frames : ∀ gs : List (Val × Val), ∀ a ∈ sortB (kbE gs), ∃ x, a = frame x := by
    intro gs a ha
    have := (sortB_perm _).subset ha
    rw [kbE_eq] at this
    obtain ⟨e, _, rfl⟩ := List.mem_map.mp this
    exact ⟨_, rfl⟩
  simp only [mk, mark, kb, List.nil_append, List.append_cancel_left_eq]
  rw [← sortB_eq_iff]
  exact ⟨flat_inj_of_frames _ _ (frames es) (frames fs), fun h => by rw [h]⟩

theorem veq_hash_of_perm {es fs : List (Val × Val)} (hc : ∀ e ∈ es, cmp e.1 = true ∧ cmp e.2 = true)
    (hc' : ∀ e ∈ fs, cmp e.1 = true ∧ cmp e.2 = true)
    (hd : (keysOf es).Nodup) (hd' : (keysOf fs).Nodup)
    (ih : ∀ e ∈ es, ∀ e' ∈ fs, (mk e.1 = mk e'.1 → veq e.1 e'.1 = true) ∧ (mk e.2 = mk e'.2 → veq e.2 e'.2 = true))
    (hp : (kbE es).Perm (kbE fs)) : veq (.hash es) (.hash fs) = true := by
  simp only [veq, Bool.and_eq_true, beq_iff_eq]
  rw [veqE_iff hd]
  have hl : es.length = fs.length := by
    have := hp.length_eq
    simpa [kbE_eq] using this
  refine ⟨hl, fun e he => ?_⟩
  have : frame (ekey e) ∈ kbE fs := hp.subset (by rw [kbE_eq]; exact List.mem_map.mpr ⟨e, he, rfl⟩)
  rw [kbE_eq] at this
  obtain ⟨e', he', h⟩ := List.mem_map.mp this
  have hm := ekey_inj (frame_inj h.symm)
  refine ⟨e', ?_, (ih e he e' he').1 hm.1, (ih e he e' he').2 hm.2⟩
  rw [kb_of_mk (hc e he).1 (hc' e' he').1 hm.1]
  exact lookupLast_mem hd' he'

theorem mk_iff_off {x y : Val} (cx : cmp x = true) (cy : cmp y = true) (hk : kind x ≠ kind y) : mk x = mk y ↔ veq x y = true :=
  ⟨fun e => absurd e (mk_kind cx cy hk), fun e => absurd (kind_of_veq e) hk⟩

theorem mk_iff_of_kind {x y : Val} (cx : cmp x = true) (cy : cmp y = true)
    (h : kind x = kind y → (mk x = mk y ↔ veq x y = true)) : mk x = mk y ↔ veq x y = true := by
  by_cases hk : kind x = kind y
  · exact h hk
  · exact mk_iff_off cx cy hk

theorem mk_eq_iff_veq : ∀ x y : Val, cmp x = true → cmp y = true → (mk x = mk y ↔ veq x y = true) := by
  have seq : ∀ (x : Val) (vs : List Val), elems x = some vs →
      (∀ v ∈ vs, ∀ y, cmp v = true → cmp y = true → (mk v = mk y ↔ veq v y = true)) →
      ∀ y, cmp x = true → cmp y = true → (mk x = mk y ↔ veq x y = true) := by
    intro x vs hx ih y cx cy
    refine mk_iff_of_kind cx cy fun hk => ?_
    rw [kind_elems hx] at hk
    obtain ⟨ws, hy⟩ := kind_elems_inv hk
    rw [mk_elems hx, mk_elems hy, veq_elems hx hy, List.append_cancel_left_eq, kbL_eq, kbL_eq]
    rw [cmp_elems hx] at cx
    rw [cmp_elems hy] at cy
    have := map_mk_iff (vs := vs) (ws := ws)
      (fun v hv w hw => ih v hv w (cmpL_iff.mp cx v hv) (cmpL_iff.mp cy w hw))
    simp only [Bool.and_eq_true, beq_iff_eq, ← this]
    exact ⟨flat_frames_inj _ _, fun h => by rw [h]⟩
  intro x
  induction x using Val.ind with
  | hundef =>
    intro y cx cy
    cases y with
    | undef => simp [veq]
    | _ => exact mk_iff_off cx cy (of_decide_eq_false rfl)
  | hdflt =>
    intro y cx cy
    cases y with
    | dflt => simp [veq]
    | _ => exact mk_iff_off cx cy (of_decide_eq_false rfl)
  | hbool b =>
    intro y cx cy
    cases y with
    | bool b' => cases b <;> cases b' <;> simp [mk, mark, kb, boolKey, veq]
    | _ => exact mk_iff_off cx cy (of_decide_eq_false rfl)
  | hint i =>
    intro y cx cy
    cases y with
    | int j => simp [mk, mark, kb, veq, intKey_inj (intOk_of_cmp cx) (intOk_of_cmp cy)]
    | _ => exact mk_iff_off cx cy (of_decide_eq_false rfl)
  | hfloat b =>
    intro y cx cy
    cases y with
    | float b' => simp [mk, mark, kb, veq, floatKey_inj (fltOk_of_cmp cx) (fltOk_of_cmp cy)]
    | _ => exact mk_iff_off cx cy (of_decide_eq_false rfl)
  | hstr s =>
    intro y cx cy
    cases y with
    | str s' => simp [mk, mark, kb, veq]
    | _ => exact mk_iff_off cx cy (of_decide_eq_false rfl)
  | hregexp s =>
    intro y cx cy
    cases y with
    | regexp s' => simp [mk, mark, kb, veq]
    | _ => exact mk_iff_off cx cy (of_decide_eq_false rfl)
  | hbinary s =>
    intro y cx cy
    cases y with
    | binary s' => simp [mk, mark, kb, veq]
    | _ => exact mk_iff_off cx cy (of_decide_eq_false rfl)
  | harray vs ih =>
    exact seq (.array vs) vs rfl ih
  | hhash es ih =>
    intro y cx cy
    refine mk_iff_of_kind cx cy fun hk => ?_
    obtain ⟨fs, rfl⟩ := kind_hash_inv hk
    obtain ⟨hc, hd⟩ := cmp_hash cx
    obtain ⟨hc', hd'⟩ := cmp_hash cy
    have ihe : ∀ e ∈ es, ∀ e' ∈ fs, (mk e.1 = mk e'.1 ↔ veq e.1 e'.1 = true) ∧ (mk e.2 = mk e'.2 ↔ veq e.2 e'.2 = true) :=
      fun e he e' he' =>
        ⟨(ih e he).1 e'.1 (hc e he).1 (hc' e' he').1,
         (ih e he).2 e'.2 (hc e he).2 (hc' e' he').2⟩
    rw [mk_hash_iff]
    constructor
    · exact veq_hash_of_perm hc hc' hd hd' fun e he e' he' => ⟨(ihe e he e' he').1.mp, (ihe e he e' he').2.mp⟩
    · intro hv
      simp only [veq, Bool.and_eq_true, beq_iff_eq] at hv
      rw [veqE_iff hd] at hv
      obtain ⟨hl, h⟩ := hv
      have sub : kbE es ⊆ kbE fs := by
        intro a ha
        rw [kbE_eq] at ha ⊢
        obtain ⟨e, he, rfl⟩ := List.mem_map.mp ha
        obtain ⟨e', h1, h2, h3⟩ := h e he
        have he' := (lookupLast_some h1).1
        refine List.mem_map.mpr ⟨e', he', ?_⟩
        simp only [ekey, (ihe e he e' he').1.mpr h2, (ihe e he e' he').2.mpr h3]
      exact (List.subperm_of_subset (kbE_nodup hc hd) sub).perm_of_length_le (by simp [kbE_eq, hl])
  | hentry k v ihk ihv =>
    exact seq (.entry k v) [k, v] rfl (forall_mem_pair ihk ihv)
  | htyp t =>
    intro y cx cy
    refine mk_iff_of_kind cx cy fun hk => ?_
    obtain ⟨t', rfl⟩ := kind_typ_inv hk
    exact tyKey_iff t t' cx cy
  | htspan n =>
    intro y cx cy
    cases y with
    | timespan m =>
      simp only [cmp, Bool.and_eq_true, decide_eq_true_eq] at cx cy
      simp [mk, mark, kb, veq, timespanKey_iff cx cy]
    | _ => exact mk_iff_off cx cy (of_decide_eq_false rfl)
  | htstamp a b =>
    intro y cx cy
    cases y with
    | timestamp a' b' =>
      simp only [cmp, Bool.and_eq_true, decide_eq_true_eq] at cx cy
      simp [mk, mark, kb, veq, timestampKey_iff cx.1 cx.2 cy.1 cy.2]
    | _ => exact mk_iff_off cx cy (of_decide_eq_false rfl)
  | huri s =>
    intro y cx cy
    cases y with
    | uri s' => simp [mk, mark, kb, veq]
    | _ => exact mk_iff_off cx cy (of_decide_eq_false rfl)
  | hsemver v =>
    intro y cx cy
    cases y with
    | semver w =>
      simp only [cmp] at cx cy
      simp [mk, mark, kb, veq, verStr_iff cx cy]
    | _ => exact mk_iff_off cx cy (of_decide_eq_false rfl)
  | hvrange o rs =>
    intro y cx cy
    cases y with
    | vrange o' rs' =>
      simp only [cmp, List.all_eq_true] at cx cy
      simp [mk, mark, kb, veq, normStr_iff cx cy]
    | _ => exact mk_iff_off cx cy (of_decide_eq_false rfl)
  | hsens | htname | hdeferred | hparam | hobj => intro y cx; simp [cmp] at cx

/-! ### the hypothesis about types that `C07_key_iff` states (`TypeKeysAgree`) holds for comparable values -/

mutual
def typesIn : Val → List Ty
  | .typ t => [t]
  | .array vs => typesInL vs
  | .hash es => typesInE es
  | .entry k v => typesIn k ++ typesIn v
  | .sensitive v => typesIn v
  | .deferred _ as => typesInL as
  | .param _ t _ v _ => t :: typesIn v
  | .obj _ vs => typesInL vs
  | _ => []
def typesInL : List Val → List Ty
  | [] => []
  | v :: vs => typesIn v ++ typesInL vs
def typesInE : List (Val × Val) → List Ty
  | [] => []
  | (k, v) :: es => typesIn k ++ typesIn v ++ typesInE es
end

/-- any type inside `x` and any type inside `y` that are equal have the same key: the hypothesis `C07_key_iff` states.  It holds
    for all comparable values (`TypeKeysAgree_of_comparable`: since the /repo fix of finding C07-type-member-order the key of a
    `Variant`/`Enum`/`Pattern` ignores member order as their equality does), so no proof below needs it. -/
def TypeKeysAgree (x y : Val) : Prop := ∀ a ∈ typesIn x, ∀ b ∈ typesIn y, tyEq a b = true → tyKey a = tyKey b

set_option linter.unusedVariables false in
/-- `mk_eq_iff_veq` under the two further hypotheses that `C07_key_iff` states (`hT` is `tyKey_iff`, and `TypeKeysAgree` holds for all
    comparable values: `TypeKeysAgree_of_comparable`) -/
theorem mk_iff (hT : ∀ a b, TyWF a = true → TyWF b = true → tyKey a = tyKey b → tyEq a b = true) :
    ∀ x y : Val, cmp x = true → cmp y = true → TypeKeysAgree x y → (mk x = mk y ↔ veq x y = true) :=
  fun x y cx cy _ => mk_eq_iff_veq x y cx cy

theorem mem_typesInL {a : Ty} : ∀ {vs : List Val}, a ∈ typesInL vs ↔ ∃ v ∈ vs, a ∈ typesIn v
  | [] => by simp [typesInL]
  | v :: vs => by simp [typesInL, mem_typesInL (vs := vs)]

theorem mem_typesInE {a : Ty} : ∀ {es : List (Val × Val)}, a ∈ typesInE es ↔ ∃ e ∈ es, a ∈ typesIn e.1 ∨ a ∈ typesIn e.2
  | [] => by simp [typesInE]
  | (k, v) :: es => by simp [typesInE, mem_typesInE (es := es), or_assoc]

theorem typesIn_wf : ∀ x : Val, cmp x = true → ∀ a ∈ typesIn x, TyWF a = true := by
  apply Val.ind
  case harray =>
    intro vs ih hc a ha
    obtain ⟨v, hv, hav⟩ := mem_typesInL.mp ha
    exact ih v hv (cmpL_iff.mp hc v hv) a hav
  case hhash =>
    intro es ih hc a ha
    obtain ⟨e, he, hae⟩ := mem_typesInE.mp ha
    have hce := (cmp_hash hc).1 e he
    exact hae.elim ((ih e he).1 hce.1 a) ((ih e he).2 hce.2 a)
  case hentry =>
    intro k v ihk ihv hc a ha
    simp only [cmp, Bool.and_eq_true] at hc
    exact (List.mem_append.mp ha).elim (ihk hc.1 a) (ihv hc.2 a)
  case htyp =>
    intro t hc a ha
    rw [List.mem_singleton.mp ha]; exact hc
  -- the other kinds hold no type (`a ∈ []`) or are not comparable (`false = true`)
  all_goals intros; contradiction

theorem TypeKeysAgree_of_comparable {x y : Val} (hx : Comparable x) (hy : Comparable y) : TypeKeysAgree x y :=
  fun a ha b hb => (tyKey_iff a b (typesIn_wf x hx a ha) (typesIn_wf y hy b hb)).mpr

/-! ### top level: `px.ToKey` -/

def isStr : Val → Bool
  | .str _ => true
  | _ => false

/-- `TopSafe x y` excludes exactly the known finding C07-raw-string-key: one of the two is a string (keyed, at top level,
    by its raw bytes) and the other is not a string but has exactly those bytes as its key -/
def TopSafe (x y : Val) : Prop :=
  (∀ s, x = .str s → isStr y = false → kb y ≠ s) ∧ (∀ s, y = .str s → isStr x = false → kb x ≠ s)

theorem isStr_inv {x : Val} (h : isStr x = true) : ∃ s, x = .str s := by
  cases x <;> first | exact ⟨_, rfl⟩ | cases h

theorem mk_of_not_str {x : Val} (h : isStr x = false) : mk x = kb x := by
  cases x <;> simp [isStr] at h <;> simp [mk, mark]

theorem veq_str_other {s : Bytes} {y : Val} (h : isStr y = false) : veq (.str s) y = false ∧ veq y (.str s) = false := by
  cases y <;> simp [isStr] at h <;> simp [veq]

theorem kb_eq_iff_veq (x y : Val) (cx : cmp x = true) (cy : cmp y = true) (ts : TopSafe x y) : kb x = kb y ↔ veq x y = true := by
  cases hx : isStr x <;> cases hy : isStr y
  · rw [← mk_of_not_str hx, ← mk_of_not_str hy]; exact mk_eq_iff_veq x y cx cy
  · obtain ⟨s, rfl⟩ := isStr_inv hy
    rw [(veq_str_other hx).2]
    simp only [kb, Bool.false_eq_true, iff_false]
    exact ts.2 s rfl hx
  · obtain ⟨s, rfl⟩ := isStr_inv hx
    rw [(veq_str_other hy).1]
    simp only [kb, Bool.false_eq_true, iff_false]
    exact fun h => ts.1 s rfl hy h.symm
  · obtain ⟨s, rfl⟩ := isStr_inv hx
    obtain ⟨s', rfl⟩ := isStr_inv hy
    simp [kb, veq]

theorem key_of_cmp {x : Val} (cx : cmp x = true) : key x = some (kb x) := by
  simp [key, keyable_of_cmp x cx]

/-! ### `Hash.Get` and `Unique` in terms of key bytes -/

theorem hashGet_isSome (es : List (Val × Val)) (k : Val) :
    (hashGet es k).isSome = true ↔ ∃ e ∈ es, kb e.1 = kb k := by
  unfold hashGet
  cases h : lookupLast (kb k) es with
  | none =>
    simp only [Option.map_none, Option.isSome_none, Bool.false_eq_true, false_iff, not_exists, not_and]
    exact fun e he => lookupLast_none h e he
  | some r =>
    simp only [Option.map_some, Option.isSome_some, true_iff]
    exact ⟨r, (lookupLast_some h).1, (lookupLast_some h).2⟩

theorem hashGet_some {es : List (Val × Val)} {k v : Val} (h : hashGet es k = some v) :
    ∃ e ∈ es, kb e.1 = kb k ∧ e.2 = v := by
  unfold hashGet at h
  cases h' : lookupLast (kb k) es with
  | none => rw [h'] at h; cases h
  | some r =>
    rw [h'] at h
    simp only [Option.map_some, Option.some.injEq] at h
    exact ⟨r, (lookupLast_some h').1, (lookupLast_some h').2, h⟩

theorem uniqueAux_sublist : ∀ (seen : List Bytes) (vs : List Val), (uniqueAux seen vs).Sublist vs
  | _, [] => List.Sublist.slnil
  | seen, v :: vs => by
      simp only [uniqueAux]
      split
      · exact (uniqueAux_sublist seen vs).cons _
      · exact (uniqueAux_sublist _ vs).cons_cons _

theorem uniqueAux_cover : ∀ (seen : List Bytes) (vs : List Val), ∀ v ∈ vs,
    kb v ∈ seen ∨ ∃ u ∈ uniqueAux seen vs, kb u = kb v
  | _, [], _, h => by simp at h
  | seen, w :: ws, v, hv => by
      simp only [uniqueAux]
      rcases List.mem_cons.mp hv with e | hv
      · subst e
        split
        · rename_i h; left; simpa using h
        · right; exact ⟨v, List.mem_cons_self, rfl⟩
      · split
        · exact uniqueAux_cover seen ws v hv
        · rcases uniqueAux_cover (kb w :: seen) ws v hv with h | ⟨u, hu, h⟩
          · rcases List.mem_cons.mp h with e | h
            · right; exact ⟨w, List.mem_cons_self, e.symm⟩
            · left; exact h
          · right; exact ⟨u, List.mem_cons_of_mem _ hu, h⟩

theorem uniqueAux_distinct : ∀ (seen : List Bytes) (vs : List Val),
    (uniqueAux seen vs).Pairwise (fun a b => kb a ≠ kb b) ∧ ∀ u ∈ uniqueAux seen vs, kb u ∉ seen
  | _, [] => by simp [uniqueAux]
  | seen, w :: ws => by
      simp only [uniqueAux]
      split
      · exact uniqueAux_distinct seen ws
      · rename_i h
        have ih := uniqueAux_distinct (kb w :: seen) ws
        refine ⟨List.Pairwise.cons ?_ ih.1, ?_⟩
        · intro u hu e
          exact ih.2 u hu (by rw [← e]; exact List.mem_cons_self)
        · intro u hu
          rcases List.mem_cons.mp hu with e | hu
          · rw [e]; simpa using h
          · exact fun hm => ih.2 u hu (List.mem_cons_of_mem _ hm)

end Pcore.ValueEq

/-! List facts used by several properties: lists whose elements carry distinct keys, first-match search, counting under an
    implication, positions after `set` and after appending one element, scanning a prefix (`takeWhile` / `dropWhile`), a list that only
    grows at its end said position by position, runs of a machine as `List.foldl` of its step.
    Nothing here depends on the model. -/
namespace Pcore
variable {α β κ : Type _}

theorem nodup_idx_inj {l : List α} (h : l.Nodup) {i j : Nat} {a : α} (hi : l[i]? = some a) (hj : l[j]? = some a) : i = j :=
  (List.getElem?_inj (List.getElem?_eq_some_iff.1 hi).1 h).1 (hi.trans hj.symm)

theorem idxOf?_eq_some_of_nodup [BEq α] [LawfulBEq α] {l : List α} (hn : l.Nodup) {a : α} {i : Nat} :
    l.idxOf? a = some i ↔ l[i]? = some a := by
  rw [List.idxOf?_eq_some_iff, List.getElem?_eq_some_iff]
  refine exists_congr fun h => and_iff_left_of_imp ?_
  rintro rfl j hj hji
  exact absurd (nodup_idx_inj hn (List.getElem?_eq_getElem (Nat.lt_trans hj h)) (hji ▸ List.getElem?_eq_getElem h)) (Nat.ne_of_lt hj)

theorem nodup_key_idx_inj {key : α → κ} {l : List α} (h : (l.map key).Nodup) {i j : Nat} {a b : α}
    (hi : l[i]? = some a) (hj : l[j]? = some b) (e : key a = key b) : i = j :=
  nodup_idx_inj h (a := key a) (by rw [List.getElem?_map, hi]; rfl) (by rw [List.getElem?_map, hj, e]; rfl)

theorem nodup_key_inj {key : α → κ} {l : List α} (h : (l.map key).Nodup) {a b : α} (ha : a ∈ l) (hb : b ∈ l)
    (e : key a = key b) : a = b := by
  obtain ⟨i, hi⟩ := List.mem_iff_getElem?.1 ha
  obtain ⟨j, hj⟩ := List.mem_iff_getElem?.1 hb
  obtain rfl := nodup_key_idx_inj h hi hj e
  exact Option.some.inj (hi.symm.trans hj)

theorem nodup_key_sublist {key : α → κ} {l' l : List α} (h : l'.Sublist l) (hn : (l.map key).Nodup) : (l'.map key).Nodup :=
  hn.sublist (h.map key)

/-- the Boolean test "no element occurs again later", for any function with that equation -/
theorem nodup_of_distinct_test [BEq α] [LawfulBEq α] {t : List α → Bool}
    (ht : ∀ x xs, t (x :: xs) = (!xs.contains x && t xs)) : ∀ {l : List α}, t l = true → l.Nodup
  | [], _ => List.nodup_nil
  | x :: xs, h => by
      simp only [ht, Bool.and_eq_true, Bool.not_eq_true', List.contains_eq_mem, decide_eq_false_iff_not] at h
      exact List.nodup_cons.mpr ⟨h.1, nodup_of_distinct_test ht h.2⟩

theorem nodup_key_snd {l : List (κ × β)} (h : (l.map (·.1)).Nodup) {k : κ} {v w : β} (hv : (k, v) ∈ l) (hw : (k, w) ∈ l) :
    v = w :=
  congrArg Prod.snd (nodup_key_inj h hv hw rfl)

theorem find_key_some [BEq κ] [LawfulBEq κ] {key : α → κ} {l : List α} {k : κ} {a : α}
    (h : l.find? (fun a => key a == k) = some a) : a ∈ l ∧ key a = k :=
  ⟨List.mem_of_find?_eq_some h, by simpa using List.find?_some h⟩

/-- `find_key_some` for a search that tests the key with `=` -/
theorem find_key_eq_some [DecidableEq κ] {key : α → κ} {l : List α} {k : κ} {a : α}
    (h : l.find? (fun a => decide (key a = k)) = some a) : a ∈ l ∧ key a = k :=
  find_key_some (key := key) h

theorem find_key_iff [BEq κ] [LawfulBEq κ] {key : α → κ} {l : List α} (hnd : (l.map key).Nodup) {k : κ} {a : α} :
    l.find? (fun a => key a == k) = some a ↔ a ∈ l ∧ key a = k := by
  refine ⟨find_key_some, fun ⟨ha, hk⟩ => ?_⟩
  cases hf : l.find? (fun a => key a == k) with
  | none => simpa [hk] using List.find?_eq_none.mp hf a ha
  | some b =>
    obtain ⟨hb, hbk⟩ := find_key_some hf
    rw [nodup_key_inj hnd hb ha (hbk.trans hk.symm)]

theorem mem_of_lookup [BEq κ] [LawfulBEq κ] {es : List (κ × β)} {k : κ} {v : β} (h : es.lookup k = some v) : (k, v) ∈ es :=
  let ⟨_, _, he, _⟩ := List.lookup_eq_some_iff.mp h
  he ▸ List.mem_append_right _ List.mem_cons_self

theorem find?_filter_of_imp {p q : α → Bool} (h : ∀ a, p a = true → q a = true) (l : List α) :
    (l.filter q).find? p = l.find? p := by
  induction l with
  | nil => rfl
  | cons a l ih =>
    by_cases hq : q a = true
    · rw [List.filter_cons_of_pos hq, List.find?_cons, List.find?_cons, ih]
    · rw [List.filter_cons_of_neg hq, ih, List.find?_cons_of_neg (fun hp => hq (h a hp))]

/-- `List.countP_mono_left`, strict: some element passes `q` and not `p` -/
theorem countP_lt_of_imp {p q : α → Bool} {l : List α} (h : ∀ x ∈ l, p x = true → q x = true) {a : α} (ha : a ∈ l)
    (hq : q a = true) (hp : p a = false) : l.countP p < l.countP q := by
  induction l with
  | nil => cases ha
  | cons x xs ih =>
    have h' : ∀ z ∈ xs, p z = true → q z = true := fun z hz => h z (List.mem_cons_of_mem _ hz)
    simp only [List.countP_cons]
    rcases List.mem_cons.1 ha with rfl | ha'
    · have := List.countP_mono_left (l := xs) (p := p) (q := q) (by simpa using h')
      simp only [hq, hp, if_true]; simp; omega
    · have := ih h' ha'
      have hx := h x (List.mem_cons_self ..)
      cases hpx : p x
      · cases hqx : q x <;> simp <;> omega
      · simp [hx hpx]; omega

theorem set_of_getElem? {l : List α} {i : Nat} {a : α} (h : l[i]? = some a) : l.set i a = l := by
  obtain ⟨hi, rfl⟩ := List.getElem?_eq_some_iff.mp h
  exact List.set_getElem_self hi

theorem getElem?_set_cases {l : List α} {i j : Nat} {a t : α} (h : (l.set i a)[j]? = some t) :
    (j = i ∧ t = a) ∨ (j ≠ i ∧ l[j]? = some t) := by
  rw [List.getElem?_set] at h
  by_cases hji : i = j
  · subst hji
    rw [if_pos rfl] at h
    split at h
    · exact Or.inl ⟨rfl, (Option.some.inj h).symm⟩
    · cases h
  · rw [if_neg hji] at h
    exact Or.inr ⟨fun e => hji e.symm, h⟩

theorem getElem?_snoc_of_some {l : List α} {p : Nat} {y : α} (h : l[p]? = some y) (x : α) : (l ++ [x])[p]? = some y := by
  rw [List.getElem?_append_left (List.getElem?_eq_some_iff.mp h).1]; exact h

theorem getElem?_snoc_eq_some {l : List α} {x y : α} {p : Nat} (h : (l ++ [x])[p]? = some y) :
    l[p]? = some y ∨ (p = l.length ∧ x = y) := by
  rcases Nat.lt_trichotomy p l.length with hlt | heq | hgt
  · rw [List.getElem?_append_left hlt] at h; exact .inl h
  · subst heq; rw [List.getElem?_concat_length] at h; cases h; exact .inr ⟨rfl, rfl⟩
  · rw [List.getElem?_eq_none (by simp; omega)] at h; cases h

theorem head_dropWhile {p : α → Bool} (l : List α) (c : α) (h : (l.dropWhile p).head? = some c) : p c = false := by
  have := List.head?_dropWhile_not p l
  rw [h] at this
  exact this

theorem takeWhile_append_stop {p : α → Bool} (a b : List α) (ha : ∀ c ∈ a, p c = true)
    (hb : ∀ c, b.head? = some c → p c = false) : (a ++ b).takeWhile p = a ∧ (a ++ b).dropWhile p = b := by
  rw [List.takeWhile_append_of_pos ha, List.dropWhile_append_of_pos ha]
  cases b with
  | nil => simp
  | cons c cs =>
    have := hb c rfl
    simp [List.takeWhile_cons_of_neg, List.dropWhile_cons_of_neg, this]

theorem mem_takeWhile {p : α → Bool} (l : List α) (c : α) (h : c ∈ l.takeWhile p) : p c = true :=
  List.all_eq_true.mp List.all_takeWhile c h

theorem head_takeWhile {p : α → Bool} (l : List α) (c : α) (h : (l.takeWhile p).head? = some c) : l.head? = some c := by
  rw [List.head?_takeWhile] at h
  exact (Option.filter_eq_some_iff.mp h).1

/-- "`b` has `a` as a prefix", said position by position: the form in which `Ser.Ext` and `Ser.Keep` say that a table
    only grows at its end -/
theorem grows_iff_prefix {a b : List α} :
    (a.length ≤ b.length ∧ ∀ p, p < a.length → b[p]? = a[p]?) ↔ a <+: b := by
  refine ⟨fun h => List.prefix_iff_getElem?.2 fun i hi => by rw [h.2 i hi, List.getElem?_eq_getElem hi], fun h =>
    ⟨h.length_le, fun p hp => ?_⟩⟩
  rw [List.prefix_iff_getElem?.1 h p hp, List.getElem?_eq_getElem hp]

theorem grows_close {a b : List α} {o : α}
    (h : (a ++ [o]).length ≤ b.length ∧ ∀ p, p < (a ++ [o]).length → b[p]? = (a ++ [o])[p]?) (x : α) :
    b[a.length]? = some o ∧ (b.set a.length x)[a.length]? = some x ∧
      (a.length ≤ (b.set a.length x).length ∧ ∀ p, p < a.length → (b.set a.length x)[p]? = a[p]?) := by
  have hlen : a.length < b.length := by have := h.1; simp at this; omega
  refine ⟨by rw [h.2 _ (by simp)]; simp, List.getElem?_set_self hlen, by simp; omega, fun p hp => ?_⟩
  rw [List.getElem?_set_ne (by omega), h.2 p (by simp; omega), List.getElem?_append_left hp]

/-! Runs of a machine (`ops.foldl step s`): invariants of steps are invariants of runs; when every step appends one entry to a
pool, the entries made by the first `j` steps are the first `j` entries ever after. -/

theorem foldl_inv {σ α : Type _} {step : σ → α → σ} {Inv : σ → Prop} (hstep : ∀ s a, Inv s → Inv (step s a))
    (ops : List α) : ∀ s, Inv s → Inv (ops.foldl step s) := by
  induction ops with
  | nil => intro s h; exact h
  | cons op ops ih => intro s h; exact ih _ (hstep s op h)

theorem foldl_sim {σ τ α : Type _} {step : σ → α → σ} {step' : τ → α → τ} {f : σ → τ} {Inv : σ → Prop}
    (hinv : ∀ s a, Inv s → Inv (step s a)) (hf : ∀ s a, Inv s → f (step s a) = step' (f s) a) (ops : List α) :
    ∀ s, Inv s → f (ops.foldl step s) = ops.foldl step' (f s) := by
  induction ops with
  | nil => intro s _; rfl
  | cons op ops ih => intro s h; rw [List.foldl_cons, List.foldl_cons, ih _ (hinv s op h), hf s op h]

theorem foldl_pool {σ α ε : Type _} {step : σ → α → σ} {pool : σ → List ε}
    (hstep : ∀ s a, ∃ e, pool (step s a) = pool s ++ [e]) (ops : List α) :
    ∀ s, pool s <+: pool (ops.foldl step s) ∧ (pool (ops.foldl step s)).length = (pool s).length + ops.length := by
  induction ops with
  | nil => intro s; exact ⟨List.prefix_refl _, rfl⟩
  | cons op ops ih =>
    intro s
    obtain ⟨e, he⟩ := hstep s op
    obtain ⟨hp, hl⟩ := ih (step s op)
    rw [he] at hp hl
    exact ⟨(List.prefix_append _ _).trans hp, by rw [List.foldl_cons, hl, List.length_append, List.length_cons, List.length_cons, List.length_nil]; omega⟩

theorem foldl_take_pool {σ α ε : Type _} {step : σ → α → σ} {pool : σ → List ε}
    (hstep : ∀ s a, ∃ e, pool (step s a) = pool s ++ [e]) (s : σ) (hs : pool s = []) (ops : List α) (i j j' : Nat)
    (hij : i < j) (hjj : j ≤ j') (hj : j ≤ ops.length) :
    (pool ((ops.take j).foldl step s))[i]? = (pool ((ops.take j').foldl step s))[i]? := by
  have hl := (foldl_pool hstep (ops.take j) s).2
  obtain ⟨⟨es, hes⟩, _⟩ := foldl_pool hstep ((ops.take j').drop j) ((ops.take j).foldl step s)
  have ht : ops.take j = (ops.take j').take j := by rw [List.take_take, Nat.min_eq_left hjj]
  rw [← List.foldl_append] at hes
  rw [ht] at hes hl ⊢
  rw [List.take_append_drop] at hes
  rw [← hes, List.getElem?_append_left]
  rw [hl, hs, List.length_nil, Nat.zero_add, ← ht, List.length_take, Nat.min_eq_left hj]
  exact hij

end Pcore

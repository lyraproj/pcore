import Pcore.Proofs.SerWf
import Pcore.Proofs.ListFacts
/-! C10, back-references: every reference points to an earlier, completed position that holds the reference-free form
    of the value it stands for.  After the sharing hypothesis `Coh`: `Inv` ties the serializer's map to the resolved
    positions; `Step` is the specification of one emitter call (its event resolves to a given reference-free event, `Inv`
    is kept, and if the call consumed a position then that position now holds the resolved event — which is what
    `process` records).  One rule per emit primitive; the arms of `toData` are compositions of these. -/
namespace Pcore.Ser

/-! ### sharing hypothesis: equal identities denote equal values

`F` assigns to every identity the reference-free event of the value carrying it; `Coh c F v` says every node of `v`
agrees with it.  A value built from the op syntax (one definition per id, `(= id)` copies) satisfies it with
`F` = "the plain event of the node defined with that id".  (`Shared`: Props/C10; decidable check: Model/SerSpec, sound by
SerShared.) -/

mutual
def Coh (c : Cfg) (F : Key → Ev) : V → Prop
  | .hash id es => F (.ptr id) = plain c (.hash id es) ∧ CohPairs c F es
  | .arr id vs => F (.ptr id) = plain c (.arr id vs) ∧ CohList c F vs
  | .sens id v => F (.ptr id) = plain c (.sens id v) ∧ Coh c F v
  | .bin id bs => F (.ptr id) = plain c (.bin id bs)
  | .leaf id k enc disp => F (leafKey id k enc) = plain c (.leaf id k enc disp)
  | .obj id tn disp as => F (.ptr id) = plain c (.obj id tn disp as) ∧ CohAttrs c F as
  | _ => True
def CohList (c : Cfg) (F : Key → Ev) : List V → Prop
  | [] => True | v :: vs => Coh c F v ∧ CohList c F vs
def CohPairs (c : Cfg) (F : Key → Ev) : List (V × V) → Prop
  | [] => True | (k, v) :: es => Coh c F k ∧ Coh c F v ∧ CohPairs c F es
def CohAttrs (c : Cfg) (F : Key → Ev) : List (String × V) → Prop
  | [] => True | (_, v) :: as => Coh c F v ∧ CohAttrs c F as
end

/-- strings are identified by content, so their entry is forced -/
def FStr (F : Key → Ev) : Prop := ∀ s, F (.str s) = .add (.str s)

/-! ### the invariant: the serializer's map names completed positions of the resolved stream -/

structure Inv (F : Key → Ev) (st : St) (env : List (Option Ev)) : Prop where
  len : st.ref = env.length
  ok : ∀ k p, st.vals.lookup k = some p → env[p]? = some (some (F k))

theorem Inv.init (F : Key → Ev) : Inv F St.init [] := ⟨rfl, fun k p h => by simp [St.init] at h⟩

def Ext (env env' : List (Option Ev)) : Prop :=
  env.length ≤ env'.length ∧ ∀ p, p < env.length → env'[p]? = env[p]?

theorem Ext.refl (env : List (Option Ev)) : Ext env env := grows_iff_prefix.2 (List.prefix_refl _)

theorem Ext.trans {a b c : List (Option Ev)} (h1 : Ext a b) (h2 : Ext b c) : Ext a c :=
  grows_iff_prefix.2 ((grows_iff_prefix.1 h1).trans (grows_iff_prefix.1 h2))

theorem Ext.push (env : List (Option Ev)) (x : Option Ev) : Ext env (env ++ [x]) :=
  grows_iff_prefix.2 (List.prefix_append _ _)

theorem Inv.snoc {F : Key → Ev} {st : St} {env : List (Option Ev)} (h : Inv F st env) (x : Option Ev) :
    Inv F (bump st) (env ++ [x]) :=
  ⟨by simp [h.len], fun k p hk => getElem?_snoc_of_some (h.ok k p hk) x⟩

theorem Inv.close {F : Key → Ev} {st1 : St} {env env1 : List (Option Ev)} (x : Ev)
    (h : Inv F st1 env1) (hx : Ext (env ++ [none]) env1) :
    Inv F st1 (env1.set env.length (some x)) ∧ Ext env (env1.set env.length (some x)) ∧
      (env1.set env.length (some x))[env.length]? = some (some x) := by
  obtain ⟨hopen, hself, hext⟩ := grows_close hx (some x)
  refine ⟨⟨by simp [h.len], fun k p hk => ?_⟩, hext, hself⟩
  have := h.ok k p hk
  -- a position the map names is completed, so it is not the one still open
  rw [List.getElem?_set_ne fun he => by rw [← he, hopen] at this; cases this]; exact this

theorem Inv.record {F : Key → Ev} {env' : List (Option Ev)} (c : Cfg) (k : Key) (pos : Nat) (r : Ev × St)
    (h : Inv F r.2 env') (hp : r.2.ref > pos → env'[pos]? = some (some (F k))) :
    Inv F (record c k pos r).2 env' := by
  rcases record_cases c k pos r with h' | ⟨hgt, h'⟩
  · rw [h']; exact h
  · rw [h']
    refine ⟨h.len, fun k' p hk' => ?_⟩
    rw [List.lookup_cons] at hk'
    split at hk'
    · rename_i heq
      cases hk'; rw [eq_of_beq heq]; exact hp hgt
    · exact h.ok k' p hk'

/-! ### one emitter call: its specification `Step`, and one rule per emit primitive -/

def Step (F : Key → Ev) (st : St) (env : List (Option Ev)) (r : Ev × St) (x : Ev) : Prop :=
  ∃ env', expand r.1 env = some (x, env') ∧ Inv F r.2 env' ∧ Ext env env' ∧
    (st.ref < r.2.ref → env'[env.length]? = some (some x))

def StepL (F : Key → Ev) (env : List (Option Ev)) (r : List Ev × St) (xs : List Ev) : Prop :=
  ∃ env', expandList r.1 env = some (xs, env') ∧ Inv F r.2 env' ∧ Ext env env'

section
variable {F : Key → Ev} {st : St} {env : List (Option Ev)}

theorem step_add (hI : Inv F st env) (d : Sc) : Step F st env (addData d st) (.add d) :=
  ⟨env ++ [some (.add d)], rfl, hI.snoc _, Ext.push .., fun _ => by simp⟩

theorem step_seen {c : Cfg} {k : Key} {r : Nat} {x : Ev} (hI : Inv F st env) (h : seen c k st = some r) (hk : F k = x) :
    Step F st env (.ref r, st) x :=
  ⟨env, by simp only [expand, hI.ok k r (seen_eq_some.1 h).2, hk], hI, Ext.refl _, fun h => absurd h (Nat.lt_irrefl _)⟩

theorem step_record (c : Cfg) (k : Key) {e : Ev} {st1 : St} {x : Ev} (hI : Inv F st env) (hk : F k = x)
    (h : Step F st env (e, st1) x) : Step F st env (record c k st.ref (e, st1)) x := by
  obtain ⟨env', he, hI', hx, hp⟩ := h
  refine ⟨env', by rw [record_fst]; exact he, Inv.record _ _ _ _ hI' fun hgt => ?_, hx, fun hgt => hp (by simpa using hgt)⟩
  rw [hk, hI.len]; exact hp hgt

theorem step_strData (hF : FStr F) (c : Cfg) (level : Nat) (s : String) (hI : Inv F st env) :
    Step F st env (strData c level s st) (.add (.str s)) := by
  unfold strData
  split
  · split
    · rename_i r hs; exact step_seen hI hs (hF s)
    · exact step_record c _ hI (hF s) (step_add hI _)
  · exact step_add hI _

theorem step_node {e x : Ev} {es xs : List Ev} {st1 : St}
    (hexp : ∀ env1, expandList es (env ++ [none]) = some (xs, env1) →
      expand e env = some (x, env1.set env.length (some x)))
    (h : StepL F (env ++ [none]) (es, st1) xs) : Step F st env (e, st1) x := by
  obtain ⟨env1, he, hI, hx⟩ := h
  obtain ⟨h1, h2, h3⟩ := hI.close x hx
  exact ⟨_, hexp env1 he, h1, h2, fun _ => h3⟩

theorem step_arr {es : List Ev} {st1 : St} {xs : List Ev} (h : StepL F (env ++ [none]) (es, st1) xs) :
    Step F st env (.arr es, st1) (.arr xs) := step_node (fun _ he => by simp only [expand, he]) h

theorem step_hsh {es : List Ev} {st1 : St} {xs : List Ev} (h : StepL F (env ++ [none]) (es, st1) xs) :
    Step F st env (.hsh es, st1) (.hsh xs) := step_node (fun _ he => by simp only [expand, he]) h

theorem stepL_nil (hI : Inv F st env) : StepL F env ([], st) [] := ⟨env, rfl, hI, Ext.refl _⟩

theorem stepL_cons {r1 : Ev × St} {x : Ev} (h1 : Step F st env r1 x) {es : List Ev} {st2 : St} {xs : List Ev}
    (h2 : ∀ env1, Inv F r1.2 env1 → StepL F env1 (es, st2) xs) : StepL F env (r1.1 :: es, st2) (x :: xs) := by
  obtain ⟨env1, he1, hI1, hx1, _⟩ := h1
  obtain ⟨env2, he2, hI2, hx2⟩ := h2 env1 hI1
  replace he2 : expandList es env1 = some (xs, env2) := he2
  exact ⟨env2, by simp only [expandList, he1, he2], hI2, hx1.trans hx2⟩

theorem step_typed (hF : FStr F) (c : Cfg) (k : Key) (tl : Nat) (tn : String) (hI : Inv F st env) {e : Ev} {st1 : St}
    {x : Ev} (hk : F k = typed tn x)
    (h : ∀ env1, Inv F (head3 c tl tn (bump st)).2 env1 → Step F (head3 c tl tn (bump st)).2 env1 (e, st1) x) :
    Step F st env (record c k st.ref (.hsh ((head3 c tl tn (bump st)).1 ++ [e]), st1)) (typed tn x) := by
  refine step_record c k hI hk (step_hsh ?_)
  simp only [head3, List.cons_append, List.nil_append] at h ⊢
  exact stepL_cons (step_strData hF c 2 "__ptype" (hI.snoc none)) fun _ hI1 =>
    stepL_cons (step_strData hF c tl tn hI1) fun _ hI2 =>
      stepL_cons (step_strData hF c 2 "__pvalue" hI2) fun env3 hI3 =>
        stepL_cons (r1 := (e, st1)) (h env3 hI3) fun _ hI4 => stepL_nil hI4

end

/-! ### every arm of `toData` is a composition of the rules -/

mutual
theorem toData_step (c : Cfg) (F : Key → Ev) (hF : FStr F) :
    ∀ (level : Nat) (v : V) (st : St) (env : List (Option Ev)), Inv F st env → Coh c F v →
      Step F st env (toData c level v st) (plain c v)
  | _, .undef, st, env, hI, _ | _, .bool _, st, env, hI, _ | _, .int _, st, env, hI, _ | _, .flt _, st, env, hI, _ =>
      step_add hI _
  | level, .str s, st, env, hI, _ => by simp only [toData, plain]; exact step_strData hF c level s hI
  | _, .dflt, st, env, hI, _ => by
      simp only [toData, plain]
      split
      · exact step_hsh (stepL_cons (step_strData hF c 2 "__ptype" (hI.snoc none)) fun _ hI1 =>
          stepL_cons (step_strData hF c 1 "Default" hI1) fun _ hI2 => stepL_nil hI2)
      · exact step_strData hF c 1 "default" hI
  | _, .hash id es, st, env, hI, hC => by
      simp only [toData]
      split
      · rename_i r hs; exact step_seen hI hs hC.1
      · simp only [Coh, plain] at hC ⊢
        split
        · rename_i hc
          exact step_record c _ hI (by rw [hC.1, if_pos hc])
            (step_hsh (pairsData_step c F hF es _ _ (hI.snoc none) hC.2))
        · rename_i hc
          split
          · rename_i hr
            refine step_typed hF c _ 1 "Hash" hI (by rw [hC.1, if_neg hc, if_pos hr]) fun _ hI1 => ?_
            exact step_arr (flatData_step c F hF es _ _ (hI1.snoc none) hC.2)
          · rename_i hr
            exact step_record c _ hI (by rw [hC.1, if_neg hc, if_neg hr])
              (step_hsh (skeyData_step c F hF es _ _ (hI.snoc none) hC.2))
  | _, .arr id vs, st, env, hI, hC => by
      simp only [toData]
      split
      · rename_i r hs; exact step_seen hI hs hC.1
      · exact step_record c _ hI hC.1 (step_arr (listData_step c F hF vs _ _ (hI.snoc none) hC.2))
  | level, .sens id v, st, env, hI, hC => by
      simp only [toData]
      split
      · rename_i r hs; exact step_seen hI hs hC.1
      · simp only [Coh, plain] at hC ⊢
        split
        · rename_i hr
          exact step_typed hF c _ 1 "Sensitive" hI (by rw [hC.1, if_pos hr]) fun env1 hI1 =>
            toData_step c F hF 1 v _ env1 hI1 hC.2
        · rename_i hr
          exact step_record c _ hI (by rw [hC.1, if_neg hr]) (step_strData hF c level sensitiveText hI)
  | level, .bin id bs, st, env, hI, hC => by
      simp only [toData]
      split
      · rename_i r hs; exact step_seen hI hs hC
      · simp only [Coh, plain] at hC ⊢
        split
        · rename_i hb
          exact step_record c _ hI (by rw [hC, if_pos hb]) (step_add hI _)
        · rename_i hb
          split
          · rename_i hr
            exact step_typed hF c _ 1 "Binary" hI (by rw [hC, if_neg hb, if_pos hr]) fun _ hI1 =>
              step_strData hF c 1 (b64 bs) hI1
          · rename_i hr
            exact step_record c _ hI (by rw [hC, if_neg hb, if_neg hr]) (step_strData hF c level (b64 bs) hI)
  | _, .leaf id k enc disp, st, env, hI, hC => by
      simp only [Coh, plain] at hC
      simp only [toData, plain]
      split
      · rename_i hr
        rw [if_pos hr] at hC
        split
        · rename_i r hs; exact step_seen hI hs hC
        · exact step_typed hF c _ k.typeLevel k.typeName hI hC fun _ hI1 => step_strData hF c 1 enc hI1
      · exact step_strData hF c 1 disp hI
  | _, .obj id tn disp attrs, st, env, hI, hC => by
      simp only [Coh, plain] at hC
      simp only [toData, plain]
      split
      · rename_i hr
        rw [if_pos hr] at hC
        split
        · rename_i r hs; exact step_seen hI hs hC.1
        · exact step_record c _ hI hC.1 (step_hsh
            (stepL_cons (step_strData hF c 2 "__ptype" (hI.snoc none)) fun _ hI1 =>
              stepL_cons (step_strData hF c 1 tn hI1) fun env2 hI2 => attrsData_step c F hF attrs _ env2 hI2 hC.2))
      · exact step_strData hF c 1 disp hI

theorem listData_step (c : Cfg) (F : Key → Ev) (hF : FStr F) :
    ∀ (vs : List V) (st : St) (env : List (Option Ev)), Inv F st env → CohList c F vs →
      StepL F env (listData c vs st) (plainList c vs)
  | [], st, env, hI, _ => stepL_nil hI
  | v :: vs, st, env, hI, hC => by
      simp only [listData, plainList]
      exact stepL_cons (toData_step c F hF 1 v st env hI hC.1)
        (fun env1 hI1 => listData_step c F hF vs _ env1 hI1 hC.2)

theorem pairsData_step (c : Cfg) (F : Key → Ev) (hF : FStr F) :
    ∀ (es : List (V × V)) (st : St) (env : List (Option Ev)), Inv F st env → CohPairs c F es →
      StepL F env (pairsData c es st) (plainPairs c es)
  | [], st, env, hI, _ => stepL_nil hI
  | (k, v) :: es, st, env, hI, hC => by
      simp only [pairsData, plainPairs]
      exact stepL_cons (toData_step c F hF 2 k st env hI hC.1) fun env1 hI1 =>
        stepL_cons (toData_step c F hF 1 v _ env1 hI1 hC.2.1)
          (fun env2 hI2 => pairsData_step c F hF es _ env2 hI2 hC.2.2)

theorem flatData_step (c : Cfg) (F : Key → Ev) (hF : FStr F) :
    ∀ (es : List (V × V)) (st : St) (env : List (Option Ev)), Inv F st env → CohPairs c F es →
      StepL F env (flatData c es st) (plainPairs c es)
  | [], st, env, hI, _ => stepL_nil hI
  | (k, v) :: es, st, env, hI, hC => by
      simp only [flatData, plainPairs]
      exact stepL_cons (toData_step c F hF 1 k st env hI hC.1) fun env1 hI1 =>
        stepL_cons (toData_step c F hF 1 v _ env1 hI1 hC.2.1)
          (fun env2 hI2 => flatData_step c F hF es _ env2 hI2 hC.2.2)

theorem skeyData_step (c : Cfg) (F : Key → Ev) (hF : FStr F) :
    ∀ (es : List (V × V)) (st : St) (env : List (Option Ev)), Inv F st env → CohPairs c F es →
      StepL F env (skeyData c es st) (plainSKeys c es)
  | [], st, env, hI, _ => stepL_nil hI
  | (k, v) :: es, st, env, hI, hC => by
      simp only [skeyData, plainSKeys]
      exact stepL_cons (step_strData hF c 2 k.disp hI) fun env1 hI1 =>
        stepL_cons (toData_step c F hF 1 v _ env1 hI1 hC.2.1)
          (fun env2 hI2 => skeyData_step c F hF es _ env2 hI2 hC.2.2)

theorem attrsData_step (c : Cfg) (F : Key → Ev) (hF : FStr F) :
    ∀ (as : List (String × V)) (st : St) (env : List (Option Ev)), Inv F st env → CohAttrs c F as →
      StepL F env (attrsData c as st) (plainAttrs c as)
  | [], st, env, hI, _ => stepL_nil hI
  | (k, v) :: as, st, env, hI, hC => by
      simp only [attrsData, plainAttrs]
      exact stepL_cons (step_strData hF c 2 k hI) fun env1 hI1 =>
        stepL_cons (toData_step c F hF 1 v _ env1 hI1 hC.1)
          (fun env2 hI2 => attrsData_step c F hF as _ env2 hI2 hC.2)
end

end Pcore.Ser

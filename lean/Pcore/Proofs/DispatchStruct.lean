import Pcore.Model.Dispatch
import Pcore.Proofs.ListLoops
/-!
`StructType.IsInstance` (the count `matched == Len()`) read declaratively: every key of the hash is the name of a declared
member, every member is present with a value of its type or is optional and absent; before it, `inst` at the leaf types.  On the
driver's alphabet `Alpha`.  Core Lean only.
-/
namespace Pcore.Dispatch.Alpha

/-! ### what `inst` says of a value at the leaf types (the constructor proofs read the shape of an argument off these) -/

theorem inst_bool {v : Val} : inst .bool v = true ↔ ∃ b, v = .bool b := by
  constructor
  · intro h
    cases v with
    | bool b => exact ⟨b, rfl⟩
    | _ => cases h
  · rintro ⟨b, rfl⟩; rfl

theorem inst_int {lo hi : Option Int} {v : Val} : inst (.int lo hi) v = true ↔ ∃ n, v = .int n ∧ inRange lo hi n = true := by
  constructor
  · intro h
    cases v with
    | int n => exact ⟨n, rfl, h⟩
    | _ => cases h
  · rintro ⟨n, rfl, h⟩; exact h

theorem inst_str {lo : Nat} {hi : Option Nat} {v : Val} :
    inst (.str lo hi) v = true ↔ ∃ s, v = .str s ∧ (decide (lo ≤ s.length) && leMax s.length hi) = true := by
  constructor
  · intro h
    cases v with
    | str s => exact ⟨s, rfl, h⟩
    | _ => cases h
  · rintro ⟨s, rfl, h⟩; exact h

theorem inst_enum {vs : List String} {v : Val} :
    inst (.enum vs) v = true ↔ ∃ s, v = .str s ∧ (vs.isEmpty || vs.contains s) = true := by
  constructor
  · intro h
    cases v with
    | str s => exact ⟨s, rfl, h⟩
    | _ => cases h
  · rintro ⟨s, rfl, h⟩; exact h

theorem inst_float {lo hi : Int} {v : Val} : inst (.float lo hi) v = true ↔ ∃ b, v = .float b ∧ F64.inRange lo hi b = true := by
  constructor
  · intro h
    cases v with
    | float b => exact ⟨b, rfl, h⟩
    | _ => cases h
  · rintro ⟨b, rfl, h⟩; exact h

theorem inst_timespan {lo hi : Int} {v : Val} :
    inst (.timespan lo hi) v = true ↔ ∃ n, v = .timespan n ∧ (decide (lo ≤ n) && decide (n ≤ hi)) = true := by
  constructor
  · intro h
    cases v with
    | timespan n => exact ⟨n, rfl, h⟩
    | _ => cases h
  · rintro ⟨n, rfl, h⟩; exact h

def keyIs (name : String) : Val × Val → Bool
  | (.str s, _) => s == name
  | _ => false

theorem lookupKey_eq_find (name : String) (es : List (Val × Val)) :
    lookupKey name es = (es.find? (keyIs name)).map (·.2) := by
  induction es with
  | nil => rfl
  | cons e es ih =>
    obtain ⟨k, y⟩ := e
    cases k <;> simp only [lookupKey, List.find?_cons, keyIs, ih]
    rename_i s
    by_cases hs : s = name <;> simp [hs, beq_eq_false_iff_ne.mpr]

theorem keyIs_uniq (k k' : String) (e : Val × Val) (h : keyIs k e = true) (h' : keyIs k' e = true) : k = k' := by
  obtain ⟨key, _⟩ := e
  cases key <;> simp [keyIs] at h h'
  exact h.symm.trans h'

theorem instMembers_eq (ms : List (String × Bool × Ty)) (es : List (Val × Val)) :
    instMembers ms es = matchCount (fun m => (lookupKey m.1 es).map (inst m.2.2)) (·.2.1) ms := by
  induction ms with
  | nil => rfl
  | cons m ms ih =>
    obtain ⟨name, o, t⟩ := m
    simp only [instMembers, matchCount, ih]
    cases lookupKey name es <;> rfl

theorem inst_struct (ms : List (String × Bool × Ty)) (hnd : (ms.map (·.1)).Nodup) (v : Val)
    (h : inst (.struct ms) v = true) :
    ∃ es, v = .hash es ∧ (∀ e ∈ es, ∃ m ∈ ms, e.1 = .str m.1) ∧
      ∀ m ∈ ms, (∃ x, lookupKey m.1 es = some x ∧ inst m.2.2 x = true) ∨ (m.2.1 = true ∧ lookupKey m.1 es = none) := by
  cases v <;> simp [inst] at h
  rename_i es
  cases hm : instMembers ms es with
  | none => simp [hm] at h
  | some n =>
    simp [hm] at h
    rw [instMembers_eq] at hm
    -- an entry is counted once per member found, and a hash may repeat a key: `matched` is at most the number of entries
    -- with a declared key
    obtain ⟨hok, hle⟩ := matchCount_le _ _ (fun m => es.countP (keyIs m.1)) (fun m b hb => by
      rw [lookupKey_eq_find, Option.map_map, Option.map_eq_some_iff] at hb
      obtain ⟨e, he, -⟩ := hb
      exact List.countP_pos_iff.2 ⟨e, List.mem_of_find?_eq_some he, List.find?_some he⟩) ms n hm
    rw [sum_countP_of_nodup (·.1) keyIs keyIs_uniq ms es hnd, h] at hle
    refine ⟨es, rfl, fun e he => ?_, fun m hm' => ?_⟩
    · -- `matched = Len()`: every entry has a declared key
      have hall := List.countP_eq_length.mp (Nat.le_antisymm List.countP_le_length hle) e he
      obtain ⟨m, hm', hk⟩ := List.any_eq_true.mp hall
      obtain ⟨k, y⟩ := e
      cases k <;> simp [keyIs] at hk
      exact ⟨m, hm', by simp [hk]⟩
    · have := hok m hm'
      simp only [MatchOK] at this
      cases hl : lookupKey m.1 es with
      | none => simp only [hl, Option.map_none] at this; exact .inr ⟨this, rfl⟩
      | some x => simp only [hl, Option.map_some] at this; exact .inl ⟨x, rfl, this⟩

/-- model-free, and not used above: the proof of `inst_struct` counts with `List.countP` -/
theorem filter_len_mono {α : Type} (p q : α → Bool) (l : List α) (h : ∀ a, p a = true → q a = true) :
    (l.filter p).length ≤ (l.filter q).length := by
  rw [← List.countP_eq_length_filter, ← List.countP_eq_length_filter]
  exact List.countP_mono_left fun a _ => h a

end Pcore.Dispatch.Alpha

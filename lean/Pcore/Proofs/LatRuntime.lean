import Pcore.Model.LatticeAsg
/-! The rule of `RuntimeType.IsAssignable` (runtimetype.go, types without a Go type): reflexive and transitive; what equal Runtime
    types, the generalisation and the common type of two Runtime types satisfy. -/
namespace Pcore.Lat
variable (cfg : Cfg) (sfh : Bool)

def rtAcc (rt nm : String) (pt : Option String) (rt' nm' : String) (pt' : Option String) : Bool :=
  if rt == "" then true else if rt != rt' then false else if nm == "" then true else
  (match pt with
   | some p => nm == nm' && pt' == some p
   | none => nm == nm')

theorem recv_runtime_eq (rt nm : String) (pt : Option String) (rt' nm' : String) (pt' : Option String) :
    asgRecv cfg sfh (.runtime rt nm pt) (.runtime rt' nm' pt') = rtAcc rt nm pt rt' nm' pt' := by
  unfold asgRecv rtAcc; rfl

theorem rtAcc_refl (rt nm : String) (pt : Option String) : rtAcc rt nm pt rt nm pt = true := by
  unfold rtAcc; cases pt <;> simp

theorem rtAcc_iff (rt nm : String) (pt : Option String) (rt' nm' : String) (pt' : Option String) :
    rtAcc rt nm pt rt' nm' pt' = true ↔
      rt = "" ∨ (rt = rt' ∧ (nm = "" ∨ (nm = nm' ∧ (pt = none ∨ pt' = pt)))) := by
  unfold rtAcc
  by_cases e1 : rt = "" <;> by_cases e2 : rt = rt' <;> by_cases e3 : nm = "" <;> cases pt <;> simp [e1, e2, e3]

theorem rtAcc_trans {r1 n1 : String} {p1 : Option String} {r2 n2 : String} {p2 : Option String} {r3 n3 : String} {p3 : Option String}
    (h1 : rtAcc r1 n1 p1 r2 n2 p2 = true) (h2 : rtAcc r2 n2 p2 r3 n3 p3 = true) : rtAcc r1 n1 p1 r3 n3 p3 = true := by
  rw [rtAcc_iff] at *
  rcases h1 with h1 | ⟨rfl, h1⟩
  · exact .inl h1
  by_cases e : r1 = ""
  · exact .inl e
  rcases h2 with h2 | ⟨rfl, h2⟩
  · exact absurd h2 e
  refine .inr ⟨rfl, ?_⟩
  rcases h1 with h1 | ⟨rfl, h1⟩
  · exact .inl h1
  by_cases en : n1 = ""
  · exact .inl en
  rcases h2 with h2 | ⟨rfl, h2⟩
  · exact absurd h2 en
  refine .inr ⟨rfl, ?_⟩
  rcases h1 with h1 | rfl
  · exact .inl h1
  rcases h2 with rfl | rfl
  · exact .inl rfl
  · exact .inr rfl

theorem rtAcc_of_eq {r n : String} {p : Option String} {r' n' : String} {p' : Option String}
    (h : (r == r' && n == n' && p == p') = true) : rtAcc r n p r' n' p' = true ∧ rtAcc r' n' p' r n p = true := by
  simp only [Bool.and_eq_true, beq_iff_eq] at h
  obtain ⟨⟨h1, h2⟩, h3⟩ := h
  subst h1; subst h2; subst h3
  exact ⟨rtAcc_refl _ _ _, rtAcc_refl _ _ _⟩

theorem rtAcc_default (r n : String) (p : Option String) : rtAcc "" "" none r n p = true := by unfold rtAcc; rfl
theorem rtAcc_runtime (r n : String) (p : Option String) : rtAcc r "" none r n p = true := by
  unfold rtAcc; by_cases h : r = "" <;> simp [h]

end Pcore.Lat

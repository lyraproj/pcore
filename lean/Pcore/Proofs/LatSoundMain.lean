import Pcore.Proofs.LatSoundAlias
import Pcore.Proofs.LatTransFrag
/-! C01 main lemma.  `recv_sound`: every receiver rule is sound given soundness at smaller summed weight (`Sound n`) — the arms with an
    argument of their own from LatSound / LatSoundAlias, `Type[x]` by transitivity on `Ty.TA` (`recv_typ`, `transD`), the others here.
    `sound_all`: induction on the summed weight; the right-hand side is first taken apart along `asg_rhs_ind` (LatRecv), as
    `GuardedIsAssignable` does, and only what reaches a rule goes to `recv_sound`.  `sound`, the form without a weight, is the
    entrance that the other files call. -/
namespace Pcore.Lat
variable (cfg : Cfg) (sfh : Bool)

/-- `Type[X] ⊒ Type[Y]` and `u ∈ Type[Y]`: soundness is transitivity `X ⊒ Y ⊒ u` (`transD`, on the fragment `Ty.TA`) -/
theorem recv_typ (hl : ∀ s, (cfg.lower s).length = s.length) (x b : Ty) (v : Val) (H : Hyp cfg sfh (.typ x) b v)
    (h : asgRecv cfg sfh (.typ x) b = true) (hi : inst cfg sfh b v = true) : inst cfg sfh (.typ x) v = true := by
  refine typ_recv_core cfg sfh x b v h hi fun y u hb hv hxy hyu => ?_
  subst hb hv
  cases H.tv with
  | typ _ hu hwu => exact transD cfg sfh hl x y u H.fa.typ H.fb.typ hu (H.wa.inner .typ) (H.wb.inner .typ) hwu hxy hyu

theorem recv_sound (hl : LowerLen cfg) (n : Nat) (ih : Sound cfg sfh n) (a b : Ty) (v : Val)
    (hw : a.w + b.w ≤ n + 1) (H : Hyp cfg sfh a b v)
    (h : asgRecv cfg sfh a b = true) (hi : inst cfg sfh b v = true) : inst cfg sfh a v = true := by
  cases a with
  | any | unit => unfold inst; rfl
  -- accepted only by itself / by the same constant
  | undef | dflt | bin =>
    unfold asgRecv at h; split at h
    · exact hi
    · cases h
  | strVal s =>
    unfold asgRecv at h; split at h
    · cases beq_iff_eq.1 h; exact hi
    · cases h
  -- a range accepts the same constructor with an included range
  | int r | tspan r =>
    unfold asgRecv at h; split at h
    · unfold inst at hi ⊢; split at hi
      · exact Rng.sub_contains h hi
      · cases hi
    · cases h
  -- absent parameter, or the same one
  | bool x | regexp x =>
    unfold asgRecv at h; split at h
    · unfold inst at hi ⊢; split at hi
      · simp only [Bool.or_eq_true, beq_iff_eq] at h hi ⊢
        rcases h with h | h
        · exact Or.inl h
        · subst h; exact hi
      · cases hi
    · cases h
  | numeric =>
    unfold asgRecv at h; split at h
    · unfold inst at hi ⊢; split at hi <;> first | rfl | cases hi
    · unfold inst at hi ⊢; split at hi <;> first | rfl | cases hi
    · cases h
  | str =>
    unfold asgRecv at h
    obtain ⟨s, rfl⟩ := inst_strfam cfg sfh h hi
    unfold inst; rfl
  | runtime rt nm pt =>
    unfold asgRecv at h; split at h
    · unfold inst at hi; cases hi
    · cases h
  | callable p r k => exact recv_callable cfg sfh p r k b v h hi
  | scalar => exact recv_scalar cfg sfh n ih b v hw H h hi
  | scalarData => exact recv_scalarData cfg sfh n ih b v hw H h hi
  | data => exact recv_alias cfg sfh .data n ih b v hw H h hi
  | richData => exact recv_alias cfg sfh .rich n ih b v hw H h hi
  | tstamp r => exact recv_tstamp cfg sfh r b v h hi
  | float lo hi' => exact recv_float cfg sfh lo hi' b v h hi
  | strSz r => exact recv_strSz cfg sfh hl r b v h hi
  | enum vs ci => exact recv_enum cfg sfh vs ci b v H.wb h hi
  | pattern rs => exact recv_pattern cfg sfh rs b v h hi
  | coll r => exact recv_coll cfg sfh r b v h hi
  | array e r | tuple ts g => exact recv_pos_sound_hyp cfg sfh n ih _ b v rfl hw H h hi
  | hash k x r =>
    simp only [Ty.w] at hw
    exact recv_hash_of cfg sfh n ih k x r b v (by omega) (by omega) (H.recvPart H.fa.key H.wa.key) (H.recvPart H.fa.val H.wa.val) h hi
  | struct ms => exact recv_struct cfg sfh n ih ms b v hw H h hi
  | variant as => exact recv_variant cfg sfh n ih as b v hw H h hi
  | optional x => exact recv_optional cfg sfh n ih x b v hw H h hi
  | notUndef x => exact recv_notUndef cfg sfh n ih x b v hw H h hi
  | typ x => exact recv_typ cfg sfh hl x b v H h hi
  | sensitive x => exact recv_sensitive cfg sfh n ih x b v hw H h hi
  | iterator x => exact recv_iterator cfg sfh x b v h hi
  | iterable x => exact absurd H.fa Ty.Frag.not_iterable
  | object p => exact recv_object cfg sfh p b v h hi

theorem sound_all (hl : LowerLen cfg) : ∀ n, Sound cfg sfh n := by
  intro n
  induction n with
  | zero => intro a b v hw; have := Ty.w_pos a; omega
  | succ n ih =>
    intro a b v hw H ha hb
    -- along the right-hand decomposition; the motive: soundness of `a ⊒ b` within the budget (the parts of `b` are lighter)
    refine asg_rhs_ind cfg sfh a
      (P := fun b => a.w + b.w ≤ n + 1 → ∀ v, Hyp cfg sfh a b v → inst cfg sfh b v = true → inst cfg sfh a v = true)
      ?_ ?_ ?_ ?_ ?_ ?_ ?_ b ha hw v H hb
    · exact fun _ v H _ => absurd H.us Ty.US.not_unit
    · intro b pb ha hw v H hb
      rcases recvPos_cases cfg sfh pb ha with h | h | h
      · exact inst_of_isAny cfg sfh h v
      · cases eq_of_sameNullary h; exact hb
      · exact recv_sound cfg sfh hl n ih a b v hw H h hb
    · exact fun ha hw v H hb => sound_alias_r cfg sfh .data n ih a v hw H ha hb
    · exact fun ha hw v H hb => sound_alias_r cfg sfh .rich n ih a v hw H ha hb
    · intro ot _ _ pu po hw v H hb
      simp only [Ty.w] at hw
      rcases (inst_optional_iff cfg sfh ot v).1 hb with rfl | hb
      · exact pu (by simp only [Ty.w]; omega) _ (H.rhsLeaf rfl) (by unfold inst; rfl)
      · exact po (by omega) v (H.rhsPart H.fb.optional (H.wb.inner .optional) H.us.optional) hb
    · intro bs pm hw v H hb
      simp only [Ty.w] at hw
      obtain ⟨t, hm, ht⟩ := (inst_variant_iff cfg sfh bs v).1 hb
      exact (pm t hm).2 (by have := Ty.w_lt_wl hm; omega) v
        (H.rhsPart (H.fb.mem_variant hm) (H.wb.mem_variant hm) (H.us.mem_variant hm)) ht
    · intro nt _ _ pn hw v H hb
      simp only [Ty.w] at hw
      exact pn (by omega) v (H.rhsPart H.fb.notUndef (H.wb.inner .notUndef) H.us.notUndef) ((inst_notUndef_iff cfg sfh nt v).1 hb).2

theorem sound (hl : LowerLen cfg) {a b : Ty} {v : Val} (H : Hyp cfg sfh a b v) (h : asg cfg sfh a b = true)
    (hi : inst cfg sfh b v = true) : inst cfg sfh a v = true :=
  sound_all cfg sfh hl _ a b v (Nat.le_refl _) H h hi

end Pcore.Lat

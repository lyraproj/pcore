import Pcore.Model.LoaderKey
import Pcore.Proofs.LoaderCase
/-! `Child()` / `Parent()` BEFORE fix 50062c5 cut the cached key of the derived name out of the receiver's key at byte
    offsets measured on the unfolded strings.  The pre-fix definitions, and the proof that they were right exactly when
    lower-casing keeps the UTF-8 length of every letter involved (C12_key_derived_lenstable_before_fix); beside them what the
    repaired methods hand back (`TN.child_spec`, `TN.parent_spec`: no cached key) and what `MapKey()` answers (`TN.mapKey_snd`). -/
namespace Pcore.LoaderSeq

/-- `child(stripCount)` before the fix -/
def TN.childNBeforeFix (t : TN) (k : Nat) : Derived :=
  match stripN k t.name with
  | none => .nil
  | some name' =>
    let pfxLen := blen t.auth + blen t.ns + 2
    let diff := blen t.name - blen name'
    let parts' := t.parts.map (·.drop k)
    if t.canonical = [] then .ok { ns := t.ns, auth := t.auth, name := name', canonical := [], parts := parts' }
    else if pfxLen + diff ≤ t.canonical.length then
      .ok { ns := t.ns, auth := t.auth, name := name',
            canonical := t.canonical.take pfxLen ++ t.canonical.drop (pfxLen + diff), parts := parts' }
    else .fault

def TN.childBeforeFix (t : TN) : Derived := if t.isQualified then t.childNBeforeFix 1 else .nil

/-- `Parent()` before the fix -/
def TN.parentBeforeFix (t : TN) : Derived :=
  match lastIndexColons t.name with
  | none => .nil
  | some i =>
    let name' := t.name.take i
    let lx := blen name'
    let pfxLen := blen t.auth + blen t.ns + 2
    let parts' := t.parts.map (·.dropLast)
    if t.canonical = [] then .ok { ns := t.ns, auth := t.auth, name := name', canonical := [], parts := parts' }
    else if pfxLen + lx ≤ t.canonical.length then
      .ok { ns := t.ns, auth := t.auth, name := name', canonical := t.canonical.take (pfxLen + lx), parts := parts' }
    else .fault

theorem enc_append (a b : List Char) : enc (a ++ b) = enc a ++ enc b := by simp [enc]

theorem enc_cons (c : Char) (r : List Char) : enc (c :: r) = encChar c ++ enc r := by simp [enc]

theorem lowerL_append (a b : List Char) : lowerL (a ++ b) = lowerL a ++ lowerL b := by simp [lowerL]

theorem lowerL_cons (c : Char) (r : List Char) : lowerL (c :: r) = lowerChar c :: lowerL r := rfl

/-- lower-casing keeps the UTF-8 length of every letter of the string -/
def LenStable (cs : List Char) : Prop := ∀ c ∈ cs, (encChar (lowerChar c)).length = (encChar c).length

instance (cs : List Char) : Decidable (LenStable cs) := by unfold LenStable; infer_instance

theorem LenStable.append_left {a b : List Char} (h : LenStable (a ++ b)) : LenStable a :=
  fun c hc => h c (List.mem_append_left _ hc)

theorem LenStable.append_right {a b : List Char} (h : LenStable (a ++ b)) : LenStable b :=
  fun c hc => h c (List.mem_append_right _ hc)

theorem blen_lowerL (cs : List Char) (h : LenStable cs) : (enc (lowerL cs)).length = blen cs := by
  induction cs with
  | nil => rfl
  | cons c r ih =>
    have hr : LenStable r := fun x hx => h x (List.mem_cons_of_mem _ hx)
    simp only [lowerL_cons, enc_cons, blen, List.length_append, h c (by simp)]
    have := ih hr
    simp only [blen] at this
    rw [this]

theorem blen_append (a b : List Char) : blen (a ++ b) = blen a + blen b := by
  simp [blen, enc_append]

theorem lowerChar_slash : lowerChar '/' = '/' := by decide
theorem encChar_slash : encChar '/' = [47] := by decide

theorem freshKey_eq (ns auth name : List Char) (cn : List UInt8) (ps : Option (List (List Char))) :
    TN.freshKey { ns := ns, auth := auth, name := name, canonical := cn, parts := ps } =
      enc (lowerL auth) ++ 47 :: enc (lowerL ns) ++ 47 :: enc (lowerL name) := by
  simp only [TN.freshKey, lowerL_append, lowerL_cons, enc_append, enc_cons, lowerChar_slash, encChar_slash,
    List.cons_append, List.nil_append, List.append_assoc]

theorem freshKey_length (ns auth name : List Char) (cn : List UInt8) (ps : Option (List (List Char)))
    (hs : LenStable (auth ++ ns ++ name)) :
    (TN.freshKey { ns := ns, auth := auth, name := name, canonical := cn, parts := ps }).length =
      blen auth + blen ns + 2 + blen name := by
  rw [freshKey_eq]
  simp only [List.length_append, List.length_cons, blen_lowerL auth hs.append_left.append_left,
    blen_lowerL ns hs.append_left.append_right, blen_lowerL name hs.append_right]
  omega

theorem stripN_suffix (k : Nat) (cs name' : List Char) (h : stripN k cs = some name') : ∃ p, cs = p ++ name' := by
  induction k generalizing cs with
  | zero => simp only [stripN, Option.some.injEq] at h; exact ⟨[], by simp [h]⟩
  | succ k ih =>
    simp only [stripN] at h
    cases hi : indexColons cs with
    | none => rw [hi] at h; cases h
    | some i =>
      rw [hi] at h
      obtain ⟨p, hp⟩ := ih _ h
      refine ⟨cs.take (i + 2) ++ p, ?_⟩
      rw [List.append_assoc, ← hp, List.take_append_drop]

/-- The key of `auth/ns/(x ++ y)` over length-stable strings, cut at the byte lengths of the strings as given: up to the end of
    `x` it is the key of `auth/ns/x`; without the bytes of `x` it is the key of `auth/ns/y`.  (`freshKey` looks at the three
    strings only, so the other two fields are arbitrary.) -/
theorem freshKey_split (ns auth x y : List Char) (cn cn' : List UInt8) (ps ps' : Option (List (List Char)))
    (hs : LenStable (auth ++ ns ++ (x ++ y))) :
    (TN.freshKey ⟨ns, auth, x ++ y, cn, ps⟩).take (blen auth + blen ns + 2 + blen x) = TN.freshKey ⟨ns, auth, x, cn', ps'⟩ ∧
    (TN.freshKey ⟨ns, auth, x ++ y, cn, ps⟩).take (blen auth + blen ns + 2) ++
      (TN.freshKey ⟨ns, auth, x ++ y, cn, ps⟩).drop (blen auth + blen ns + 2 + blen x) = TN.freshKey ⟨ns, auth, y, cn', ps'⟩ := by
  have hsx : LenStable x := hs.append_right.append_left
  have hK : TN.freshKey ⟨ns, auth, x ++ y, cn, ps⟩ =
      (enc (lowerL auth) ++ 47 :: enc (lowerL ns) ++ [47] ++ enc (lowerL x)) ++ enc (lowerL y) := by
    rw [freshKey_eq, lowerL_append, enc_append]
    simp only [List.append_assoc, List.cons_append, List.nil_append]
  have h1 : blen auth + blen ns + 2 = (enc (lowerL auth) ++ 47 :: enc (lowerL ns) ++ [47]).length := by
    simp only [List.length_append, List.length_cons, List.length_nil, blen_lowerL auth hs.append_left.append_left,
      blen_lowerL ns hs.append_left.append_right]
    omega
  have h2 : blen auth + blen ns + 2 + blen x =
      (enc (lowerL auth) ++ 47 :: enc (lowerL ns) ++ [47] ++ enc (lowerL x)).length := by
    rw [List.length_append, ← h1, blen_lowerL x hsx]
  rw [hK, freshKey_eq, freshKey_eq]
  constructor
  · rw [List.take_left' h2.symm]
    simp only [List.append_assoc, List.cons_append, List.nil_append]
  · rw [List.drop_left' h2.symm, List.append_assoc (enc (lowerL auth) ++ 47 :: enc (lowerL ns) ++ [47]),
      List.take_left' h1.symm]
    simp only [List.append_assoc, List.cons_append, List.nil_append]

theorem TN.child_spec (t : TN) : t.child ≠ .fault ∧ ∀ x, t.child = .ok x → x.canonical = [] := by
  unfold TN.child TN.childN
  split
  · split
    · exact ⟨by simp, by simp⟩
    · exact ⟨by simp, fun x hx => by simp only [Derived.ok.injEq] at hx; rw [← hx]⟩
  · exact ⟨by simp, by simp⟩

theorem TN.parent_spec (t : TN) : t.parent ≠ .fault ∧ ∀ x, t.parent = .ok x → x.canonical = [] := by
  unfold TN.parent
  split
  · exact ⟨by simp, by simp⟩
  · exact ⟨by simp, fun x hx => by simp only [Derived.ok.injEq] at hx; rw [← hx]⟩

theorem TN.mapKey_snd (x : TN) (hx : x.canonical = [] ∨ x.canonical = x.freshKey) : x.mapKey.2 = x.freshKey := by
  unfold TN.mapKey
  by_cases he : x.canonical = []
  · simp [he]
  · simp only [he, if_false]; exact hx.resolve_left he

/-- With `name = p ++ name'` the guard of the slice expression is
    `pfxLen + blen p ≤ len(key)`, and the key without the bytes of `p` is the key of `name'` (`freshKey_split`). -/
theorem childNBeforeFix_spec (t : TN) (k : Nat) (hkey : t.canonical = [] ∨ t.canonical = t.freshKey)
    (hs : LenStable (t.auth ++ t.ns ++ t.name)) :
    t.childNBeforeFix k ≠ .fault ∧ ∀ t', t.childNBeforeFix k = .ok t' → t'.canonical = [] ∨ t'.canonical = t'.freshKey := by
  obtain ⟨ns, auth, name, cn, ps⟩ := t
  simp only at hkey hs
  unfold TN.childNBeforeFix
  simp only
  cases hst : stripN k name with
  | none => exact ⟨by simp, by simp⟩
  | some name' =>
    simp only
    obtain ⟨p, rfl⟩ := stripN_suffix k name name' hst
    by_cases hc : cn = []
    · simp only [hc, if_true]
      exact ⟨by simp, fun t' h => by simp only [Derived.ok.injEq] at h; left; rw [← h]⟩
    · have hk := hkey.resolve_left hc
      have hdiff : blen (p ++ name') - blen name' = blen p := by rw [blen_append]; omega
      have hlen : cn.length = blen auth + blen ns + 2 + blen (p ++ name') := by
        rw [hk]; exact freshKey_length ns auth (p ++ name') cn ps hs
      have hle : blen auth + blen ns + 2 + blen p ≤ cn.length := by rw [hlen, blen_append]; omega
      simp only [hc, if_false, hdiff, hle, if_true]
      refine ⟨by simp, fun t' h => ?_⟩
      simp only [Derived.ok.injEq] at h
      right
      rw [← h, hk]
      exact (freshKey_split ns auth p name' cn _ ps _ hs).2

/-- the same for `Parent()`: with `name = x ++ y` the key up to the end of `x` is the key of `x` -/
theorem parentBeforeFix_spec (t : TN) (hkey : t.canonical = [] ∨ t.canonical = t.freshKey)
    (hs : LenStable (t.auth ++ t.ns ++ t.name)) :
    t.parentBeforeFix ≠ .fault ∧ ∀ t', t.parentBeforeFix = .ok t' → t'.canonical = [] ∨ t'.canonical = t'.freshKey := by
  obtain ⟨ns, auth, name, cn, ps⟩ := t
  simp only at hkey hs
  unfold TN.parentBeforeFix
  simp only
  cases hli : lastIndexColons name with
  | none => exact ⟨by simp, by simp⟩
  | some i =>
    simp only
    by_cases hc : cn = []
    · simp only [hc, if_true]
      exact ⟨by simp, fun t' h => by simp only [Derived.ok.injEq] at h; left; rw [← h]⟩
    · have hk := hkey.resolve_left hc
      have hlen : cn.length = blen auth + blen ns + 2 + blen name := by
        rw [hk]; exact freshKey_length ns auth name cn ps hs
      have hle : blen auth + blen ns + 2 + blen (name.take i) ≤ cn.length := by
        have : blen name = blen (name.take i) + blen (name.drop i) := by rw [← blen_append, List.take_append_drop]
        omega
      simp only [hc, if_false, hle, if_true]
      refine ⟨by simp, fun t' h => ?_⟩
      simp only [Derived.ok.injEq] at h
      right
      rw [← List.take_append_drop i name] at hs hk
      rw [← h, hk]
      exact (freshKey_split ns auth (name.take i) (name.drop i) cn _ ps _ hs).1

theorem childBeforeFix_spec (t : TN) (hkey : t.canonical = [] ∨ t.canonical = t.freshKey)
    (hs : LenStable (t.auth ++ t.ns ++ t.name)) :
    t.childBeforeFix ≠ .fault ∧ ∀ t', t.childBeforeFix = .ok t' → t'.canonical = [] ∨ t'.canonical = t'.freshKey := by
  unfold TN.childBeforeFix
  split
  · exact childNBeforeFix_spec t 1 hkey hs
  · exact ⟨by simp, by simp⟩

theorem lenStable_ascii (cs : List Char) (h : ∀ c ∈ cs, c.toNat < 128) : LenStable cs := by
  intro c hc
  have hlt := h c hc
  have h1 : (encChar c).length = 1 := by unfold encChar; simp [hlt]
  have h2 : (lowerChar c).toNat < 128 := by
    unfold lowerChar Pcore.UnicodeCase.toLower
    have hle : c.toNat ≤ 127 := by omega
    simp only [hle, if_true]
    split
    · rename_i hu
      have hA : 'A'.toNat = 65 := rfl
      have hZ : 'Z'.toNat = 90 := rfl
      rw [hA, hZ] at hu
      have hv : (c.toNat + 32).isValidChar := by left; omega
      rw [Pcore.UnicodeCase.toNat_ofNat_valid _ hv]; omega
    · exact hlt
  have h3 : (encChar (lowerChar c)).length = 1 := by unfold encChar; simp [h2]
  rw [h1, h3]

end Pcore.LoaderSeq

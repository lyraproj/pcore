import Pcore.Model.Json
/-! C11: the side condition on the regenerated streamer table, what a table satisfying it writes (`wEv_ref`), and the JSON
    grammar over tokens with the proof that the reference printer stays inside it (`valid_ev`); with the two hypotheses on
    event trees, `WF` (used here) and `NoPref` (for `JsonRead`). -/
namespace Pcore.Json

def goodArm : St → List Act
  | .firstInArray => [.doer, .set .afterElement]
  | .firstInObject => [.doer, .set .afterKey]
  | .afterKey => [.write ':', .doer, .set .afterValue]
  | .afterValue => [.write ',', .doer, .set .afterKey]
  | .afterElement => [.write ',', .doer, .set .afterElement]

/-- Side condition on the regenerated table: every state's arm writes the separator, runs the body once and
    then moves to the successor state; the container bodies write their brackets around the body and enter it
    in the matching first-state (the position of the state assignment before the body is free). -/
def TblOK (t : Tbl) : Prop :=
  (∀ st : St, t.arm st = goodArm st) ∧
  (t.addArray = [.set .firstInArray, .write '[', .doer, .write ']'] ∨
   t.addArray = [.write '[', .set .firstInArray, .doer, .write ']']) ∧
  (t.addHash = [.write '{', .set .firstInObject, .doer, .write '}'] ∨
   t.addHash = [.set .firstInObject, .write '{', .doer, .write '}']) ∧
  t.add = [.scalar] ∧ t.addRef = [.refObj] ∧ t.init = .firstInArray

section
variable {t : Tbl} (h : TblOK t)
include h
theorem TblOK.arm (st : St) : t.arm st = goodArm st := h.1 st
theorem TblOK.addArray : t.addArray = [.set .firstInArray, .write '[', .doer, .write ']'] ∨
    t.addArray = [.write '[', .set .firstInArray, .doer, .write ']'] := h.2.1
theorem TblOK.addHash : t.addHash = [.write '{', .set .firstInObject, .doer, .write '}'] ∨
    t.addHash = [.set .firstInObject, .write '{', .doer, .write '}'] := h.2.2.1
theorem TblOK.add : t.add = [.scalar] := h.2.2.2.1
theorem TblOK.addRef : t.addRef = [.refObj] := h.2.2.2.2.1
theorem TblOK.init : t.init = .firstInArray := h.2.2.2.2.2
end

def allSt : List St := [.firstInArray, .firstInObject, .afterElement, .afterValue, .afterKey]

def tblOKb (t : Tbl) : Bool :=
  allSt.all (fun st => t.arm st == goodArm st) &&
  (t.addArray == [.set .firstInArray, .write '[', .doer, .write ']'] ||
   t.addArray == [.write '[', .set .firstInArray, .doer, .write ']']) &&
  (t.addHash == [.write '{', .set .firstInObject, .doer, .write '}'] ||
   t.addHash == [.set .firstInObject, .write '{', .doer, .write '}']) &&
  t.add == [.scalar] && t.addRef == [.refObj] && t.init == .firstInArray

theorem tblOKb_sound (t : Tbl) (h : tblOKb t = true) : TblOK t := by
  simp only [tblOKb, Bool.and_eq_true, Bool.or_eq_true, beq_iff_eq, List.all_eq_true] at h
  obtain ⟨⟨⟨⟨⟨h1, h2⟩, h3⟩, h4⟩, h5⟩, h6⟩ := h
  exact ⟨fun st => h1 st (by cases st <;> simp [allSt]), h2, h3, h4, h5, h6⟩

theorem delimit_ok (t : Tbl) (h : TblOK t) (st : St) (inner : St → List Tok × St) :
    delimit t st inner = (sepOf st ++ (inner st).1, succOf st) := by
  have ha := h.arm st
  cases st <;> simp [delimit, ha, goodArm, runActs, sepOf, succOf, charTok]

theorem addArray_ok (t : Tbl) (h : TblOK t) (s1 : St) (body : St → List Tok × St) :
    (runActs body [] t.addArray s1).1 = .lb :: (body .firstInArray).1 ++ [.rb] := by
  rcases h.addArray with h' | h' <;> simp [h', runActs, charTok]

theorem addHash_ok (t : Tbl) (h : TblOK t) (s1 : St) (body : St → List Tok × St) :
    (runActs body [] t.addHash s1).1 = .lc :: (body .firstInObject).1 ++ [.rc] := by
  rcases h.addHash with h' | h' <;> simp [h', runActs, charTok]

mutual
theorem wEv_ref (t : Tbl) (h : TblOK t) (st : St) :
    ∀ e : Ev, wEv t st e = (sepOf st ++ ref1 e, succOf st)
  | .sc s => by simp [wEv, ref1, delimit_ok t h, h.add, runActs]
  | .ref n => by simp [wEv, ref1, delimit_ok t h, h.addRef, runActs]
  | .arr es => by
      simp only [wEv, ref1, delimit_ok t h, addArray_ok t h]
      rw [wEvs_ref t h .firstInArray es]
  | .hsh es => by
      simp only [wEv, ref1, delimit_ok t h, addHash_ok t h]
      rw [wEvs_ref t h .firstInObject es]
theorem wEvs_ref (t : Tbl) (h : TblOK t) (st : St) :
    ∀ es : List Ev, (wEvs t st es).1 = refs st es
  | [] => by simp [wEvs, refs]
  | e :: es => by simp [wEvs, refs, wEv_ref t h st e, wEvs_ref t h (succOf st) es]
end

def isStrKey : Ev → Bool
  | .sc (.str _) => true
  | _ => false

mutual
/-- hashes receive alternating keys and values, keys are strings (the JSON streamer cannot do complex keys) -/
def WF : Ev → Bool
  | .sc _ => true
  | .ref _ => true
  | .arr es => WFs es
  | .hsh es => WFkv es
def WFs : List Ev → Bool
  | [] => true
  | e :: es => WF e && WFs es
def WFkv : List Ev → Bool
  | [] => true
  | [_] => false
  | k :: v :: es => isStrKey k && WF v && WFkv es
end

def isPrefEv : Ev → Bool
  | .sc (.str s) => s == "__pref"
  | _ => false

mutual
/-- no hash uses the reserved key `__pref` as its first key (the reader would take it for a back-reference) -/
def NoPref : Ev → Bool
  | .sc _ => true
  | .ref _ => true
  | .arr es => NoPrefs es
  | .hsh es => (match es with | k :: _ => !isPrefEv k | [] => true) && NoPrefs es
def NoPrefs : List Ev → Bool
  | [] => true
  | e :: es => NoPref e && NoPrefs es
end

/- the JSON value grammar over tokens (RFC 8259 §2–§5 at token level) -/
mutual
inductive JVal : List Tok → Prop
  | sc (s : Sc) : JVal [.sc s]
  | arr0 : JVal [.lb, .rb]
  | arr {ts : List Tok} : JElems ts → JVal (.lb :: ts ++ [.rb])
  | obj0 : JVal [.lc, .rc]
  | obj {ts : List Tok} : JMembers ts → JVal (.lc :: ts ++ [.rc])
inductive JElems : List Tok → Prop
  | one {ts : List Tok} : JVal ts → JElems ts
  | cons {ts us : List Tok} : JVal ts → JElems us → JElems (ts ++ .comma :: us)
inductive JMembers : List Tok → Prop
  | one {s : String} {ts : List Tok} : JVal ts → JMembers (.sc (.str s) :: .colon :: ts)
  | cons {s : String} {ts us : List Tok} : JVal ts → JMembers us →
      JMembers (.sc (.str s) :: .colon :: ts ++ .comma :: us)
end

theorem isStrKey_str {k : Ev} (h : isStrKey k = true) : ∃ s, k = .sc (.str s) := by
  unfold isStrKey at h
  split at h
  · exact ⟨_, rfl⟩
  · cases h

/- The list lemmas speak of ALL children of a container (`refs .firstInArray es`, `refs .firstInObject es`), so that the
   three statements recurse structurally; `valid_elems` / `valid_members` restate them with the first child split off. -/
mutual
theorem valid_ev : ∀ e : Ev, WF e = true → JVal (ref1 e)
  | .sc s, _ => JVal.sc s
  | .ref n, _ => JVal.obj (JMembers.one (s := "__pref") (JVal.sc (.int n)))
  | .arr [], _ => JVal.arr0
  | .arr (e :: es), h => JVal.arr (valid_elems_all (e :: es) (List.cons_ne_nil _ _) h)
  | .hsh [], _ => JVal.obj0
  | .hsh (k :: es), h => JVal.obj (valid_members_all (k :: es) (List.cons_ne_nil _ _) h)
theorem valid_elems_all : ∀ es : List Ev, es ≠ [] → WFs es = true → JElems (refs .firstInArray es)
  | [], h, _ => absurd rfl h
  | [e], _, hw => by
      simpa [refs, sepOf] using JElems.one (valid_ev e (by simpa [WFs] using hw))
  | e :: e' :: es, _, hw => by
      have hw' : WF e = true ∧ WFs (e' :: es) = true := by simpa [WFs] using hw
      have := JElems.cons (valid_ev e hw'.1) (valid_elems_all (e' :: es) (List.cons_ne_nil _ _) hw'.2)
      simpa [refs, sepOf, succOf] using this
theorem valid_members_all : ∀ es : List Ev, es ≠ [] → WFkv es = true → JMembers (refs .firstInObject es)
  | [], h, _ => absurd rfl h
  | [_], _, hw => by cases hw
  | [k, v], _, hw => by
      have hw' : isStrKey k = true ∧ WF v = true := by simpa [WFkv] using hw
      obtain ⟨s, rfl⟩ := isStrKey_str hw'.1
      simpa [refs, ref1, sepOf, succOf] using JMembers.one (s := s) (valid_ev v hw'.2)
  | k :: v :: k' :: es, _, hw => by
      have hw' : (isStrKey k = true ∧ WF v = true) ∧ WFkv (k' :: es) = true := by
        simpa only [WFkv, Bool.and_eq_true] using hw
      obtain ⟨s, rfl⟩ := isStrKey_str hw'.1.1
      have := JMembers.cons (s := s) (valid_ev v hw'.1.2) (valid_members_all (k' :: es) (List.cons_ne_nil _ _) hw'.2)
      simpa [refs, ref1, sepOf, succOf] using this
end

theorem valid_elems : ∀ (e : Ev) (es : List Ev), WF e = true → WFs es = true →
    JElems (ref1 e ++ refs .afterElement es) := by
  intro e es he hes
  simpa [refs, sepOf, succOf, WFs, he, hes] using valid_elems_all (e :: es) (List.cons_ne_nil _ _)

theorem valid_members : ∀ (k v : Ev) (es : List Ev), isStrKey k = true → WF v = true → WFkv es = true →
    JMembers (ref1 k ++ .colon :: ref1 v ++ refs .afterValue es) := by
  intro k v es hk hv hes
  simpa [refs, sepOf, succOf, WFkv, hk, hv, hes] using valid_members_all (k :: v :: es) (List.cons_ne_nil _ _)

end Pcore.Json

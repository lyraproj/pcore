import Pcore.Proofs.LatReflAll
set_option linter.unusedSimpArgs false
/-! C04: the generalisation of a type accepts that type (`gen_asg`), on the fragment `Ty.GenOK` defined first: ranges as the constructors allow
    (`Rng.inI64`, `Rng.isSize`, Float bounds that are doubles) and no Variant.  The proof is `gen_leaf` for the constructors without type
    parameters and one step lemma per compound constructor (`gen_array` … `gen_struct`), each from acceptance between types of the same
    shape (LatMono); the steps are lemmas of their own because the law with Variant (LatGenVar) runs the same induction over them. -/
namespace Pcore.Lat
variable (cfg : Cfg) (sfh : Bool)

def Rng.inI64 (r : Rng) : Prop := I64.min ≤ r.lo ∧ r.hi ≤ I64.max
def Rng.isSize (r : Rng) : Prop := 0 ≤ r.lo ∧ r.hi ≤ I64.max

/-- fragment of `C04_generalize_partial`: ranges within what the constructors allow (int64 bounds, sizes ≥ 0, float bounds that are
    doubles, the infinities included: the default Float has no bounds, /repo fix of finding C04-float-infinity) and hereditarily no Variant (its `Generic()` removes
    members that became `Equals`; the remaining member accepts the removed one's original only by transitivity) -/
def Ty.GenOK (t : Ty) : Prop :=
  match t with
  | .variant _ => False
  | .int r | .tspan r => r.inI64
  | .tstamp r => tstampAll.sub r = true
  | .float lo hi => -Fl.inf ≤ lo ∧ hi ≤ Fl.inf
  | .coll r => r.isSize
  | .array e r => r.isSize ∧ Ty.GenOK e
  | .hash k v r => r.isSize ∧ Ty.GenOK k ∧ Ty.GenOK v
  | .tuple ts _ => ∀ t', ∀ (_ : t' ∈ ts), Ty.GenOK t'
  | .struct ms => ∀ m, ∀ (_ : m ∈ ms), Ty.GenOK m.2.2
  | .optional t' | .notUndef t' | .sensitive t' | .iterator t' | .typ t' | .iterable t' => Ty.GenOK t'
  | _ => True
termination_by t.w
decreasing_by
  all_goals simp_wf
  all_goals (try simp only [Ty.w, Ty.wl, Ty.wm] at *)
  all_goals first
    | omega
    | (have := Ty.w_lt_wl ‹_ ∈ _›; omega)
    | (have := Ty.w_lt_wm ‹_ ∈ _›; omega)

theorem pos_sub_size {r : Rng} (h : r.isSize) : Rng.pos.sub r = true := by
  simp only [Rng.sub, Rng.pos, Bool.and_eq_true]
  exact ⟨decide_eq_true h.1, decide_eq_true h.2⟩
theorem all_sub_i64 {r : Rng} (h : r.inI64) : Rng.all.sub r = true := by
  simp only [Rng.sub, Rng.all, Bool.and_eq_true]
  exact ⟨decide_eq_true h.1, decide_eq_true h.2⟩

theorem generalizeL_eq_map (ts : List Ty) : generalizeL ts = ts.map generalize := by
  induction ts with
  | nil => rfl
  | cons t ts ih => simp only [generalizeL, List.map_cons, ih]

theorem genericM_eq_map (ms : List Member) : genericM ms = ms.map fun m => (m.1, m.2.1, genericType m.2.2) := by
  induction ms with
  | nil => rfl
  | cons m ms ih => simp only [genericM, List.map_cons, ih]

theorem genericM_names (ms : List Member) : (genericM ms).map (·.1) = ms.map (·.1) := by
  rw [genericM_eq_map, List.map_map]; rfl

theorem Cov.gen {c : Ty → Ty} (hc : Cov c) (x : Ty) : generalize (c x) = c (genericType x) ∧ genericType (c x) = c (genericType x) := by
  cases hc <;> exact ⟨rfl, rfl⟩

theorem Cov.genOK {c : Ty → Ty} (hc : Cov c) (x : Ty) : (c x).GenOK ↔ x.GenOK := by
  cases hc <;> (conv => lhs; unfold Ty.GenOK)

theorem gen_leaf (t : Ty)
    (gt : match t with
      | .int r | .tspan r => r.inI64
      | .tstamp r => tstampAll.sub r = true
      | .float lo hi => -Fl.inf ≤ lo ∧ hi ≤ Fl.inf
      | .coll r => r.isSize
      | .array _ _ | .hash _ _ _ | .tuple _ _ | .struct _ | .variant _ | .optional _ | .notUndef _ | .sensitive _ | .iterator _ | .typ _
      | .iterable _ => False
      | _ => True)
    (self : asg cfg sfh t t = true) : asg cfg sfh (generalize t) t = true ∧ asg cfg sfh (genericType t) t = true := by
  cases t with
  | array _ _ | hash _ _ _ | tuple _ _ | struct _ | variant _ | optional _ | notUndef _ | sensitive _ | iterator _ | typ _ | iterable _ =>
    exact absurd gt id
  | any | unit | undef | dflt | scalar | scalarData | numeric | data | richData | str | bin => exact ⟨self, self⟩
  | callable p r k =>
    have := asg_callable_of cfg sfh (callAcc_default cfg sfh p r k)
    exact ⟨this, this⟩
  | runtime rt nm pt =>
    have := asg_runtime_of cfg sfh (rtAcc_default rt nm pt)
    exact ⟨this, this⟩
  | int r =>
    have : asg cfg sfh (.int Rng.all) (.int r) = true := asg_of_recv cfg sfh (.inl rfl) (by unfold asgRecv; exact all_sub_i64 gt)
    exact ⟨this, this⟩
  | float lo hi =>
    have : asg cfg sfh floatAll (.float lo hi) = true :=
      asg_of_recv cfg sfh (.inl rfl) (by
        unfold floatAll asgRecv; simp only [Bool.and_eq_true]
        exact ⟨decide_eq_true (Fl.effLo_default_le gt.1), decide_eq_true (Fl.effHi_le_default gt.2)⟩)
    exact ⟨this, this⟩
  | bool b =>
    have : asg cfg sfh (.bool none) (.bool b) = true := asg_of_recv cfg sfh (.inl rfl) (by unfold asgRecv; simp)
    exact ⟨this, this⟩
  | enum vs ci =>
    have : asg cfg sfh (.enum [] false) (.enum vs ci) = true := asg_of_recv cfg sfh (.inl rfl) (by unfold asgRecv; simp [isStringFamily])
    exact ⟨this, this⟩
  | coll r =>
    have : asg cfg sfh (.coll Rng.pos) (.coll r) = true := asg_of_recv cfg sfh (.inl rfl) (by unfold asgRecv; exact pos_sub_size gt)
    exact ⟨this, this⟩
  | tspan r => exact ⟨asg_of_recv cfg sfh (.inl rfl) (by unfold asgRecv; exact all_sub_i64 gt), self⟩
  | tstamp r => exact ⟨asg_of_recv cfg sfh (.inl rfl) (by unfold asgRecv; exact gt), self⟩
  | strSz r | strVal r => exact ⟨asg_of_recv cfg sfh (.inl rfl) (by unfold asgRecv; rfl), self⟩
  | pattern r | regexp r | object r =>
    simp only [generalize, genericType]; exact ⟨asg_of_recv cfg sfh (.inl rfl) (by unfold asgRecv; simp), self⟩

theorem gen_array (e : Ty) (r : Rng) (hr : r.isSize) (h : asg cfg sfh (generalize e) e = true) :
    asg cfg sfh (generalize (.array e r)) (.array e r) = true ∧ asg cfg sfh (genericType (.array e r)) (.array e r) = true := by
  have key : asg cfg sfh (if e.isAny then .array .any Rng.pos else .array (generalize e) Rng.pos) (.array e r) = true := by
    split
    · exact asg_array_of cfg sfh (pos_sub_size hr) (.inr (asg_any_l cfg sfh e))
    · exact asg_array_of cfg sfh (pos_sub_size hr) (.inr h)
  exact ⟨key, key⟩

theorem gen_hash (k v : Ty) (r : Rng) (hr : r.isSize) (hk : asg cfg sfh (genericType k) k = true)
    (hv : asg cfg sfh (genericType v) v = true) :
    asg cfg sfh (generalize (.hash k v r)) (.hash k v r) = true ∧ asg cfg sfh (genericType (.hash k v r)) (.hash k v r) = true := by
  have key : asg cfg sfh (.hash (genericType k) (genericType v) Rng.pos) (.hash k v r) = true :=
    asg_hash_of cfg sfh (pos_sub_size hr) (.inr ⟨hk, hv⟩)
  exact ⟨key, key⟩

theorem gen_tuple (ts : List Ty) (g : Option Rng) (h : ∀ t ∈ ts, asg cfg sfh (generalize t) t = true) :
    asg cfg sfh (generalize (.tuple ts g)) (.tuple ts g) = true ∧ asg cfg sfh (genericType (.tuple ts g)) (.tuple ts g) = true := by
  have key : asg cfg sfh (.tuple (generalizeL ts) g) (.tuple ts g) = true := by
    rw [generalizeL_eq_map]
    apply tuple_pointwise cfg sfh _ _ g g (List.length_map _) (by cases g <;> simp [tupleSize])
    intro i x y hx hy
    rw [List.getElem?_map, hy] at hx; cases hx
    exact h y (List.mem_of_getElem? hy)
  exact ⟨key, key⟩

theorem gen_struct (ms : List Member) (hn : NamesNodup ms) (h : ∀ m ∈ ms, asg cfg sfh (genericType m.2.2) m.2.2 = true) :
    asg cfg sfh (generalize (.struct ms)) (.struct ms) = true ∧ asg cfg sfh (genericType (.struct ms)) (.struct ms) = true := by
  have key : asg cfg sfh (.struct (genericM ms)) (.struct ms) = true := by
    have hn' : NamesNodup (genericM ms) := by unfold NamesNodup; rw [genericM_names]; exact hn
    apply struct_eq_asg cfg sfh (genericM ms) ms hn' hn (genericM_names ms)
    intro m' hm'
    rw [genericM_eq_map] at hm'
    obtain ⟨m, hm, rfl⟩ := List.mem_map.1 hm'
    exact ⟨m, hm, rfl, rfl, h m hm⟩
  exact ⟨key, key⟩

theorem gen_asg (t : Ty) : Ty.WF cfg t → t.GenOK → asg cfg sfh (generalize t) t = true ∧ asg cfg sfh (genericType t) t = true := by
  induction t using Ty.indCov with
  | cov c hc x ih =>
    intro wt gt
    rw [hc.genOK] at gt; rw [(hc.gen x).1, (hc.gen x).2]
    exact ⟨mono_cov cfg sfh hc (ih (wt.inner hc) gt).2, mono_cov cfg sfh hc (ih (wt.inner hc) gt).2⟩
  | variant ts => intro _ gt; unfold Ty.GenOK at gt; exact absurd gt id
  | array e r ih => intro wt gt; unfold Ty.GenOK at gt; exact gen_array cfg sfh e r gt.1 (ih wt.elem gt.2).1
  | hash k v r ihk ihv =>
    intro wt gt; unfold Ty.GenOK at gt
    exact gen_hash cfg sfh k v r gt.1 (ihk wt.key gt.2.1).2 (ihv wt.val gt.2.2).2
  | tuple ts g ih =>
    intro wt gt; unfold Ty.GenOK at gt
    exact gen_tuple cfg sfh ts g (fun y hm => (ih y hm (wt.mem_tuple hm) (gt y hm)).1)
  | struct ms ih =>
    intro wt gt; unfold Ty.GenOK at gt
    exact gen_struct cfg sfh ms wt.names (fun m hm => (ih m hm (wt.member hm) (gt m hm)).2)
  | _ => intro wt gt; unfold Ty.GenOK at gt; exact gen_leaf cfg sfh _ gt (asg_self cfg sfh _ wt)

end Pcore.Lat

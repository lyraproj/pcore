/-! Two list loops that several models run, without the models.  First the positions of a list whose last element repeats
    (`l[min i (l.length - 1)]?`: the Tuple loops `tupZip` and `instZip` of the lattice, the parameter lists of dispatch), with the two
    bits of logic (`forall_lt_succ`, `forall₂_eq`) that peel one position off a quantifier.  Then counting facts that no loop owns (`countP`
    against sums of per-element counts; `find?` where at most one element matches).  Last the member-counting loop of Struct types
    (`matchCount`: `structAll`, `instStruct` in the lattice, `instMembers` in dispatch) and its counting argument (`matchCount_full`). -/
namespace Pcore

/-! ### the position `min i (l.length - 1)` at a one-element list, at 0 and at a successor; a quantifier over positions split the same way -/

theorem clamp_single {α : Type} (x : α) (i : Nat) : [x][min i ([x].length - 1)]? = some x := by simp
theorem clamp_zero {α : Type} (x : α) (l : List α) : (x :: l)[min 0 ((x :: l).length - 1)]? = some x := by simp
theorem clamp_succ {α : Type} (x y : α) (l : List α) (j : Nat) :
    (x :: y :: l)[min (j + 1) ((x :: y :: l).length - 1)]? = (y :: l)[min j ((y :: l).length - 1)]? := by
  have : min (j + 1) ((x :: y :: l).length - 1) = min j ((y :: l).length - 1) + 1 := by simp
  rw [this]; rfl

theorem forall_lt_succ {k : Int} (hk : 0 < k) (F : Nat → Prop) :
    (∀ i : Nat, (i : Int) < k → F i) ↔ F 0 ∧ ∀ j : Nat, (j : Int) < k - 1 → F (j + 1) := by
  constructor
  · exact fun h => ⟨h 0 (by omega), fun j hj => h (j + 1) (by omega)⟩
  · rintro ⟨h0, hs⟩ i hi
    cases i with
    | zero => exact h0
    | succ j => exact hs j (by omega)

theorem forall₂_eq {α β : Sort _} {x : α} {y : β} {P : α → β → Prop} : (∀ a b, x = a → y = b → P a b) ↔ P x y :=
  ⟨fun h => h _ _ rfl rfl, fun h _ _ ha hb => ha ▸ hb ▸ h⟩

/-! ### counting: `countP` against sums of per-element counts, and `find?` where at most one element matches -/

theorem countP_le_sum {α : Type} {p : α → Bool} {f : α → Nat} (h : ∀ m, p m = true → 1 ≤ f m) (ms : List α) :
    ms.countP p ≤ (ms.map f).sum := by
  induction ms with
  | nil => simp
  | cons m ms ih =>
    simp only [List.countP_cons, List.map_cons, List.sum_cons]
    cases hp : p m with
    | false => simp; omega
    | true => have := h m hp; simp; omega

theorem sum_eq_countP {α : Type} {p : α → Bool} {f : α → Nat} (h0 : ∀ m, p m = false → f m = 0) (h1 : ∀ m, p m = true → f m = 1)
    (ms : List α) : (ms.map f).sum = ms.countP p := by
  induction ms with
  | nil => rfl
  | cons m ms ih =>
    rw [List.map_cons, List.sum_cons, List.countP_cons, ih]
    cases hp : p m with
    | false => simp [h0 m hp]
    | true => simp [h1 m hp]; omega

theorem sum_map_le_length {α : Type} {f : α → Nat} (h : ∀ m, f m ≤ 1) (ms : List α) : (ms.map f).sum ≤ ms.length := by
  induction ms with
  | nil => simp
  | cons m ms ih => simp only [List.map_cons, List.sum_cons, List.length_cons]; have := h m; omega

theorem countP_add_of_disjoint {α : Type} (p q : α → Bool) (l : List α) (h : ∀ x, p x = true → q x = false) :
    l.countP p + l.countP q = l.countP (fun x => p x || q x) := by
  induction l with
  | nil => rfl
  | cons x l ih =>
    simp only [List.countP_cons]
    cases hp : p x with
    | true => simp [h x hp]; omega
    | false => simp; omega

theorem sum_countP_of_nodup {α β κ : Type} (key : α → κ) (is : κ → β → Bool)
    (uniq : ∀ k k' x, is k x = true → is k' x = true → k = k') (ms : List α) (xs : List β) (hnd : (ms.map key).Nodup) :
    (ms.map fun m => xs.countP (is (key m))).sum = xs.countP (fun x => ms.any fun m => is (key m) x) := by
  induction ms with
  | nil => simp
  | cons m ms ih =>
    simp only [List.map_cons, List.nodup_cons] at hnd
    rw [List.map_cons, List.sum_cons, ih hnd.2]
    simp only [List.any_cons]
    refine countP_add_of_disjoint _ _ xs fun x h1 => ?_
    cases h2 : ms.any (fun m' => is (key m') x) with
    | false => rfl
    | true =>
      obtain ⟨m', hm', hk'⟩ := List.any_eq_true.1 h2
      exact absurd (List.mem_map_of_mem hm') (uniq _ _ x h1 hk' ▸ hnd.1)

/-- where at most one element satisfies `p`, `find?` returns any element that does -/
theorem find?_eq_some_of_countP_le_one {α : Type} {p : α → Bool} {l : List α} (h : l.countP p ≤ 1) {a : α} (ha : a ∈ l)
    (hp : p a = true) : l.find? p = some a := by
  induction l with
  | nil => cases ha
  | cons x l ih =>
    rw [List.countP_cons] at h
    cases ha with
    | head => simp [hp]
    | tail _ ha' =>
      have hpos : 0 < l.countP p := List.countP_pos_iff.2 ⟨a, ha', hp⟩
      have hx : p x = false := Bool.eq_false_iff.2 fun hx => by rw [hx, if_pos rfl] at h; omega
      rw [List.find?_cons, hx]; exact ih (by rw [hx] at h; simpa using h) ha'

/-! ### the Struct counting argument

The member loops of `StructType.IsInstance` (`instStruct`, over the entries of a hash) and of `StructType.IsAssignable(Struct)`
(`structAll`, over the members of the other Struct, Proofs/LatStruct) are one loop over two lookups; `Alpha.instMembers` of
dispatch (Proofs/DispatchStruct) is the first of them over its own values, where a hash may repeat a key (`matchCount_le`). -/

/-- look every member up; one that is not found must be optional, one that is found must be accepted and is counted -/
def matchCount {α : Type} (look : α → Option Bool) (opt : α → Bool) : List α → Option Nat
  | [] => some 0
  | m :: ms =>
    match look m with
    | none => if opt m then matchCount look opt ms else none
    | some ok => if ok then (matchCount look opt ms).map (· + 1) else none

def MatchOK {α : Type} (look : α → Option Bool) (opt : α → Bool) (m : α) : Prop :=
  match look m with
  | none => opt m = true
  | some b => b = true

theorem MatchOK_none {α : Type} {look : α → Option Bool} {opt : α → Bool} {m : α} (h : look m = none) :
    MatchOK look opt m ↔ opt m = true := by simp only [MatchOK, h]
theorem MatchOK_some {α : Type} {look : α → Option Bool} {opt : α → Bool} {m : α} {b : Bool} (h : look m = some b) :
    MatchOK look opt m ↔ b = true := by simp only [MatchOK, h]

/-- what the loop computes: all conditions hold, and the count is the number of members found -/
theorem matchCount_eq_some {α : Type} (look : α → Option Bool) (opt : α → Bool) (ms : List α) (k : Nat) :
    matchCount look opt ms = some k ↔ (∀ m ∈ ms, MatchOK look opt m) ∧ k = ms.countP (fun m => (look m).isSome) := by
  induction ms generalizing k with
  | nil => simp [matchCount]; exact eq_comm
  | cons m ms ih =>
    rw [List.forall_mem_cons, List.countP_cons]
    unfold matchCount
    cases hg : look m with
    | none =>
      rw [MatchOK_none hg]
      cases opt m <;> simp [ih]
    | some b =>
      rw [MatchOK_some hg]
      cases b with
      | false => simp
      | true =>
        simp only [if_true, Option.map_eq_some_iff, true_and, Option.isSome_some]
        exact ⟨fun ⟨k', hk', e⟩ => ⟨((ih k').1 hk').1, by have := ((ih k').1 hk').2; omega⟩,
          fun ⟨h2, h3⟩ => ⟨_, (ih _).2 ⟨h2, rfl⟩, by omega⟩⟩

/-- the count lies between the number of required members and the number of members, whatever the lookup -/
theorem matchCount_bounds {α : Type} {look : α → Option Bool} {opt : α → Bool} {ms : List α} {k : Nat}
    (h : matchCount look opt ms = some k) : (ms.filter fun m => !opt m).length ≤ k ∧ k ≤ ms.length := by
  obtain ⟨hok, rfl⟩ := (matchCount_eq_some look opt ms k).1 h
  refine ⟨?_, List.countP_le_length⟩
  rw [← List.countP_eq_length_filter]
  refine List.countP_mono_left fun m hm ho => ?_
  cases hg : look m with
  | some b => rfl
  | none => rw [(MatchOK_none hg).1 (hok m hm)] at ho; cases ho

/-- `cnt m`: how many candidates carry the key of `m` — none exactly where the lookup fails, never more than one (keys pairwise
    different), hence one where it succeeds -/
theorem matchCount_iff {α : Type} (look : α → Option Bool) (opt : α → Bool) (cnt : α → Nat)
    (hnone : ∀ m, look m = none ↔ cnt m = 0) (hle : ∀ m, cnt m ≤ 1) (ms : List α) (k : Nat) :
    matchCount look opt ms = some k ↔ (∀ m ∈ ms, MatchOK look opt m) ∧ k = (ms.map cnt).sum := by
  rw [sum_eq_countP (p := fun m => (look m).isSome) (fun m hm => (hnone m).1 (by simpa using hm)) (fun m hm => by
    have := hle m; have : cnt m ≠ 0 := fun h0 => by rw [(hnone m).2 h0] at hm; cases hm
    omega) ms]
  exact matchCount_eq_some look opt ms k

/-- `matchCount_eq_some` read for candidates among which a key may occur more than once (`1 ≤ cnt m` where the lookup succeeds) -/
theorem matchCount_le {α : Type} (look : α → Option Bool) (opt : α → Bool) (cnt : α → Nat)
    (h1 : ∀ m b, look m = some b → 1 ≤ cnt m) (ms : List α) (k : Nat) (h : matchCount look opt ms = some k) :
    (∀ m ∈ ms, MatchOK look opt m) ∧ k ≤ (ms.map cnt).sum := by
  obtain ⟨h2, rfl⟩ := (matchCount_eq_some look opt ms k).1 h
  exact ⟨h2, countP_le_sum (fun m hm => by obtain ⟨b, hb⟩ := Option.isSome_iff_exists.1 hm; exact h1 m b hb) ms⟩

/-- the per-member condition of the loop, read off the candidates -/
theorem MatchOK_iff_of_lookup {α β : Type} {look : α → Option Bool} {opt : α → Bool} {xs : List β} {is : α → β → Bool}
    {val : α → β → Bool} (hnone : ∀ m, look m = none ↔ xs.countP (is m) = 0)
    (hmem : ∀ m, ∀ x ∈ xs, is m x = true → look m = some (val m x)) (m : α) :
    MatchOK look opt m ↔ (∀ x ∈ xs, is m x = true → val m x = true) ∧ ((∀ x ∈ xs, is m x = false) → opt m = true) := by
  by_cases hex : ∃ x ∈ xs, is m x = true
  · obtain ⟨x0, hx0, h0⟩ := hex
    have hno : ¬ ∀ x ∈ xs, is m x = false := fun h => by rw [h x0 hx0] at h0; cases h0
    constructor
    · exact fun h => ⟨fun x hx hi => (MatchOK_some (hmem m x hx hi)).1 h, fun h' => absurd h' hno⟩
    · exact fun h => (MatchOK_some (hmem m x0 hx0 h0)).2 (h.1 x0 hx0 h0)
  · have hno : ∀ x ∈ xs, is m x = false := fun x hx => by
      cases h : is m x with
      | false => rfl
      | true => exact absurd ⟨x, hx, h⟩ hex
    have hl : look m = none := (hnone m).2 (List.countP_eq_zero.2 fun x hx hc => by rw [hno x hx] at hc; cases hc)
    rw [MatchOK_none hl]
    exact ⟨fun h => ⟨fun x hx hi => (by rw [hno x hx] at hi; cases hi), fun _ => h⟩, fun h => h.2 hno⟩

/-- the counting argument: the loop counts every candidate iff every member's condition holds and every candidate carries a member's key -/
theorem matchCount_full {α β κ : Type} (look : α → Option Bool) (opt : α → Bool) (key : α → κ) (is : κ → β → Bool)
    (val : α → β → Bool) (ms : List α) (xs : List β)
    (uniq : ∀ k k' x, is k x = true → is k' x = true → k = k') (hnd : (ms.map key).Nodup)
    (hle : ∀ m, xs.countP (is (key m)) ≤ 1) (hnone : ∀ m, look m = none ↔ xs.countP (is (key m)) = 0)
    (hmem : ∀ m, ∀ x ∈ xs, is (key m) x = true → look m = some (val m x)) :
    matchCount look opt ms = some xs.length ↔
      (∀ m ∈ ms, (∀ x ∈ xs, is (key m) x = true → val m x = true) ∧ ((∀ x ∈ xs, is (key m) x = false) → opt m = true)) ∧
      (∀ x ∈ xs, ∃ m ∈ ms, is (key m) x = true) := by
  rw [matchCount_iff look opt (fun m => xs.countP (is (key m))) hnone hle, sum_countP_of_nodup key is uniq ms xs hnd, eq_comm,
    List.countP_eq_length]
  exact and_congr (forall₂_congr fun m _ => MatchOK_iff_of_lookup (is := fun m => is (key m)) hnone hmem m)
    (forall₂_congr fun x _ => List.any_eq_true)

end Pcore

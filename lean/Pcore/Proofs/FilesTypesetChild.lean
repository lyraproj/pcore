import Pcore.Proofs.FilesTypeset
/-!
C15, type sets through a module's loader in the DEFAULT topology (the module loader is a child of the global loader and
is the context's loader): every lookup asks the parent first, so each member costs a complete miss of the global loader
(a placeholder there), a complete miss of the module loader (a placeholder there) and the definition over the latter.
-/
namespace Pcore.Files

/-- the state after the members `ts` have been defined through the module loader `m mod` below the global loader -/
def defineMembers2 (mod : String) (nm : Name) : List String → Nat → St → St
  | [], _, σ => σ
  | t :: rest, i, σ =>
    defineMembers2 mod nm rest (i+1)
      ((σ.put .g (keyOf (nm ++ [t])) none).put (.m mod) (keyOf (nm ++ [t])) (some ⟨kindAt i, nm ++ [t]⟩))

theorem defineMembers2_eq (mod : String) (nm : Name) : ∀ (ts : List String) (i : Nat) (σ : St),
    defineMembers2 mod nm ts i σ = membersBy [.g] (.m mod) nm ts i σ
  | [], _, _ => rfl
  | _ :: rest, i, _ => defineMembers2_eq mod nm rest (i+1) _

theorem resolveTS_child (cfg : Cfg) (mod : String) (hv : cfg.via = .m mod) (hflat : cfg.flat = false) (nm : Name)
    (s1 : St) :
    ∀ (ts : List String) (i : Nat) (σ : St) (k : Nat), 3 * (nm.length + 1) + ts.length ≤ k →
      MemHyp cfg .g nm s1 ts → MemHyp cfg (.m mod) nm s1 ts → MemInv .g nm s1 σ ts → MemInv (.m mod) nm s1 σ ts →
      resolveTS (k+4) cfg nm ts i σ = .ok () (defineMembers2 mod nm ts i σ) ∧
      (defineMembers2 mod nm ts i σ).get (.m mod) (keyOf nm) = some none := by
  intro ts i σ k hk hhg hhm hig him
  have h := resolveTS_route cfg nm s1 [.g] [.g, .m mod] false (3 * (nm.length + 1) + 3)
    (by simp [hv])
    (fun t σ n hn hsys hq _ => by
      obtain ⟨f, rfl⟩ : ∃ f, n = f + 3 := ⟨n - 3, by omega⟩
      obtain ⟨hqg, hidxg⟩ := hq .g (by simp)
      obtain ⟨hqm, hidxm⟩ := hq (.m mod) (by simp)
      rw [hv, loadEntry_file (by nofun)]
      exact fbLoadEntry_child_miss cfg mod hflat σ _ (by simp) hsys hqg hidxg hqm hidxm f (by simp; omega))
    ts i σ (k+3) (by omega) hhg.nodup hhg.noStatic
    (by simp only [List.mem_cons, List.not_mem_nil, or_false, forall_eq_or_imp, forall_eq]; exact ⟨hhg, hhm⟩)
    (by simp only [List.mem_cons, List.not_mem_nil, or_false, forall_eq_or_imp, forall_eq]; exact ⟨hig, him⟩)
    (fun h => by cases h)
  rw [defineMembers2_eq, ← hv]
  exact ⟨h.1, hv ▸ (h.2 (.m mod) (by simp)).holder⟩

/-- the state a type-set load through a module loader below the global loader leaves behind (from the state in which the
    module loader's `instantiate` starts) -/
def typesetState2 (mod : String) (name nm : Name) (ts : List String) (p : Path) (s : St) : St :=
  (defineMembers2 mod nm ts 0 ((s.put (.m mod) (keyOf name) none).addRead p)).put (.m mod) (keyOf name)
    (some ⟨.typeset, nm⟩)

theorem typesetState2_reads (mod : String) (name nm : Name) (ts : List String) (p : Path) (s : St) :
    (typesetState2 mod name nm ts p s).reads = s.reads ++ [p] := by
  rw [typesetState2, reads_put, defineMembers2_eq, membersBy_reads]
  rfl

theorem typesetState2_member (mod : String) (name nm : Name) (ts : List String) (p : Path) (s : St)
    (hkey : keyOf nm = keyOf name) (hnd : (ts.map lowerS).Nodup) (j : Nat) (t : String) (ht : ts[j]? = some t) :
    (typesetState2 mod name nm ts p s).get (.m mod) (keyOf (nm ++ [t])) = some (some ⟨kindAt j, nm ++ [t]⟩) ∧
    (typesetState2 mod name nm ts p s).get .g (keyOf (nm ++ [t])) = some none := by
  have hne := memberKey_ne_name hkey t
  refine ⟨?_, ?_⟩
  · rw [typesetState2, get_put_key hne, defineMembers2_eq,
      membersBy_get_member _ _ nm _ ts 0 _ j t hnd ht, if_pos rfl, Nat.zero_add]
  · rw [typesetState2, get_put_lid (by intro h; cases h), defineMembers2_eq,
      membersBy_get_member _ _ nm _ ts 0 _ j t hnd ht, if_neg (by intro h; cases h), if_pos (by simp)]

/-- `instantiate` of a type-set file by a module loader below the global loader (the global loader holds the placeholder
    of the requested name: it has been asked first) -/
theorem instantiate_typeset_child (cfg : Cfg) (mod : String) (hv : cfg.via = .m mod) (hflat : cfg.flat = false)
    (name nm : Name) (ts : List String) (p : Path) (ps : List Path) (s : St) (k : Nat)
    (hk : 3 * (nm.length + 1) + ts.length ≤ k)
    (hb : bodyAt cfg.tree p = some (.typ .typeset nm ts)) (hkey : keyOf nm = keyOf name)
    (hget : s.get (.m mod) (keyOf name) = none) (hgetg : s.get .g (keyOf name) = some none)
    (hhg : MemHyp cfg .g nm ((s.put (.m mod) (keyOf name) none).addRead p) ts)
    (hhm : MemHyp cfg (.m mod) nm ((s.put (.m mod) (keyOf name) none).addRead p) ts)
    (hfreshg : ∀ t ∈ ts, s.get .g (keyOf (nm ++ [t])) = none)
    (hfreshm : ∀ t ∈ ts, s.get (.m mod) (keyOf (nm ++ [t])) = none) :
    instantiate (k+7) cfg (.m mod) name (p :: ps) s =
      .ok (some (some ⟨.typeset, nm⟩)) (typesetState2 mod name nm ts p s) := by
  obtain ⟨hres, hholder⟩ := resolveTS_child cfg mod hv hflat nm _ ts 0 _ k hk hhg hhm
    (memInv_start hkey (Or.inr hgetg) hfreshg) (memInv_start hkey (Or.inl rfl) hfreshm)
  rw [hkey] at hholder
  rw [instantiate_typeset_of cfg (.m mod) name nm ts p ps s _ (k+4) hb hkey hget hres
    (by rw [hv, hholder]; intro d h; cases h), hv, get_put_self]
  rfl

/-- the module loader's part of both lookups (`C15_typeset_module`, `C15_init_typeset_module`): the global loader has
    recorded its miss in `s`, the module loader's `instantiate` of the type-set file runs from there -/
theorem instantiate_typeset_child_from (cfg : Cfg) (mod : String) (hv : cfg.via = .m mod) (hflat : cfg.flat = false)
    (name nm : Name) (ts : List String) (p : Path) (ps : List Path) (s : St) (k : Nat)
    (hk : 3 * (nm.length + 1) + ts.length ≤ k)
    (hb : bodyAt cfg.tree p = some (.typ .typeset nm ts)) (hkey : keyOf nm = keyOf name)
    (hget : s.get (.m mod) (keyOf name) = none)
    (hhg : MemHyp cfg .g nm (((s.put .g (keyOf name) none).put (.m mod) (keyOf name) none).addRead p) ts)
    (hhm : MemHyp cfg (.m mod) nm (((s.put .g (keyOf name) none).put (.m mod) (keyOf name) none).addRead p) ts)
    (hfreshg : ∀ t ∈ ts, s.get .g (keyOf (nm ++ [t])) = none)
    (hfreshm : ∀ t ∈ ts, s.get (.m mod) (keyOf (nm ++ [t])) = none) :
    instantiate (k+7) cfg (.m mod) name (p :: ps) (s.put .g (keyOf name) none) =
      .ok (some (some ⟨.typeset, nm⟩)) (typesetState2 mod name nm ts p (s.put .g (keyOf name) none)) :=
  instantiate_typeset_child cfg mod hv hflat name nm ts p ps _ k hk hb hkey
    ((get_put_lid (by nofun) ..).trans hget) (get_put_self ..) hhg hhm
    (fun t ht => (get_put_key (memberKey_ne_name hkey t) ..).trans (hfreshg t ht))
    (fun t ht => (get_put_lid (by nofun) ..).trans (hfreshm t ht))

end Pcore.Files

import Pcore.Proofs.LatEq
import Pcore.Proofs.LatMono
import Pcore.Proofs.LatFrag
/-! C03: reflexivity, and acceptance between `Equals` types, for EVERY well-formed type — the built-in aliases Data / RichData nested
    anywhere (a Variant or Optional accepts what one of its parts accepts whatever stands on the right: `wv_all` / `wo_all`).  The
    versions restricted to alias-free types (`asg_refl`, `eq_asg`) are special cases; their side condition `Ty.NoAlias` is defined here,
    with what the fragments of LatFrag imply for it and for UnitSafe (`Ty.TF` is alias-free; `Ty.TF`, `Ty.TA` are UnitSafe).  The suffix
    `_all` of a name, here and in Props/C03, says: without the side condition `Ty.NoAlias` / `Ty.NoAliasR`. -/
namespace Pcore.Lat
variable (cfg : Cfg) (sfh : Bool)

theorem asg_self (a : Ty) : Ty.WF cfg a → asg cfg sfh a a = true := by
  induction a using Ty.indCov with
  | cov c hc x ih => intro hwf; exact mono_cov cfg sfh hc (ih (hwf.inner hc))
  | any => intro _; exact asg_any_l cfg sfh _
  | unit => intro _; exact asg_unit_r cfg sfh _
  | undef | dflt | scalar | scalarData | numeric | str | bin => intro _; rw [asg_plain_r cfg sfh _ _ rfl]; simp [sameNullary]
  | data => intro _; rw [asg_data_r]; simp [sameNullary]
  | richData => intro _; rw [asg_rich_r]; simp [sameNullary]
  | int r | tspan r | tstamp r | strSz r | coll r =>
    intro _; exact asg_of_recv cfg sfh (.inl rfl) (by unfold asgRecv; exact Rng.sub_refl r)
  | float lo hi => intro _; exact asg_of_recv cfg sfh (.inl rfl) (by unfold asgRecv; simp)
  | bool b => intro _; exact asg_of_recv cfg sfh (.inl rfl) (by unfold asgRecv; cases b <;> simp)
  | strVal s | regexp s => intro _; exact asg_of_recv cfg sfh (.inl rfl) (by unfold asgRecv; simp)
  | object p => intro _; exact asg_of_recv cfg sfh (.inl rfl) (by unfold asgRecv; cases p <;> simp [isPrefix_refl])
  | runtime rt nm pt => intro _; exact asg_runtime_of cfg sfh (rtAcc_refl rt nm pt)
  | enum vs ci =>
    intro hwf
    exact enum_eq_asg cfg sfh vs vs ci (Ty.wf_enum.1 hwf) rfl (by simp [subsetStr])
  | pattern rs => intro _; exact pattern_recv_pattern cfg sfh rs rs id fun _ h => h
  | callable p r k ihp ihr ihk =>
    intro hwf; rw [Ty.wf_callable] at hwf
    refine asg_callable_of cfg sfh (callAcc_refl cfg sfh p r k (fun t ht => ihp t ht (hwf.1 t ht)) (fun t ht => ihr t ht (hwf.2.1 t ht)) (fun t ht => ihk t ht (hwf.2.2 t ht)))
  | array e r ih => intro hwf; exact mono_array cfg sfh e e r (ih hwf.elem)
  | hash k v r ihk ihv => intro hwf; exact mono_hash cfg sfh k k v v r (ihk hwf.key) (ihv hwf.val)
  | tuple ts g ih =>
    intro hwf
    apply tuple_pointwise cfg sfh ts ts g g rfl rfl
    intro i a b ha hb
    rw [ha] at hb; cases hb
    have hm : a ∈ ts := List.mem_of_getElem? ha
    exact ih a hm (hwf.mem_tuple hm)
  | struct ms ih =>
    intro hwf
    exact struct_eq_asg cfg sfh ms ms hwf.names hwf.names rfl (fun m hm => ⟨m, hm, rfl, rfl, ih m hm (hwf.member hm)⟩)
  | variant ts ih =>
    intro hwf
    exact asg_variant_of cfg sfh fun t hm => wv_all cfg sfh hm (ih t hm (hwf.mem_variant hm))

theorem asg_refl_all : ∀ (n : Nat) (a : Ty), a.w ≤ n → Ty.WF cfg a → asg cfg sfh a a = true :=
  fun _ a _ => asg_self cfg sfh a

theorem eq_asg_cov {c : Ty → Ty} (hc : Cov c) {n : Nat} {x b : Ty}
    (ih : ∀ a b : Ty, a.w + b.w ≤ n → Ty.WF cfg a → Ty.WF cfg b → tyEq a b = true → asg cfg sfh a b = true ∧ asg cfg sfh b a = true)
    (hw : (c x).w + b.w ≤ n + 1) (wa : Ty.WF cfg (c x)) (wb : Ty.WF cfg b) (h : tyEq (c x) b = true) :
    asg cfg sfh (c x) b = true ∧ asg cfg sfh b (c x) = true := by
  obtain ⟨y, rfl, he⟩ := hc.tyEq h
  rw [hc.w, hc.w] at hw
  obtain ⟨h1, h2⟩ := ih x y (by omega) (wa.inner hc) (wb.inner hc) he
  exact ⟨mono_cov cfg sfh hc h1, mono_cov cfg sfh hc h2⟩

/-- equal types accept each other — every well-formed pair, aliases nested anywhere.  `Equals` compares constructor by constructor:
    types without type parameters are then the same type (reflexivity); otherwise the parts are `Equals` (induction) and the law of
    monotonicity of that constructor applies in both directions. -/
theorem eq_asg_all : ∀ (n : Nat) (a b : Ty), a.w + b.w ≤ n → Ty.WF cfg a → Ty.WF cfg b →
    tyEq a b = true → asg cfg sfh a b = true ∧ asg cfg sfh b a = true := by
  intro n
  induction n with
  | zero => intro a b h; have := Ty.w_pos a; omega
  | succ n ih =>
    intro a b hw wa wb h
    have same : a = b → asg cfg sfh a b = true ∧ asg cfg sfh b a = true := by
      intro hab; subst hab
      have := asg_self cfg sfh a wa
      exact ⟨this, this⟩
    cases a with
    | any | unit | undef | dflt | scalar | scalarData | numeric | data | richData | str | bin =>
      unfold tyEq at h; split at h
      · exact same rfl
      · cases h
    | int r | bool r | tspan r | tstamp r | strSz r | strVal r | regexp r | coll r | object r =>
      unfold tyEq at h; split at h
      · cases eq_of_beq h; exact same rfl
      · cases h
    | float lo hi =>
      unfold tyEq at h; split at h
      · simp only [Bool.and_eq_true, beq_iff_eq] at h
        obtain ⟨rfl, rfl⟩ := h; exact same rfl
      · cases h
    | runtime rt nm pt =>
      unfold tyEq at h; split at h
      · have := rtAcc_of_eq h
        exact ⟨asg_runtime_of cfg sfh this.1, asg_runtime_of cfg sfh this.2⟩
      · cases h
    | enum vs ci =>
      unfold tyEq at h; split at h
      · rename_i vs' ci'
        simp only [Bool.and_eq_true, beq_iff_eq] at h
        obtain ⟨⟨⟨rfl, hlen⟩, h1⟩, h2⟩ := h
        rw [Ty.wf_enum] at wa wb
        exact ⟨enum_eq_asg cfg sfh vs vs' ci wb hlen h1, enum_eq_asg cfg sfh vs' vs ci wa hlen.symm h2⟩
      · cases h
    | pattern rs =>
      unfold tyEq at h; split at h
      · rename_i rs'
        simp only [Bool.and_eq_true, beq_iff_eq] at h
        obtain ⟨⟨hlen, h1⟩, h2⟩ := h
        simp only [subsetStr, List.all_eq_true, List.elem_eq_mem, decide_eq_true_eq] at h1 h2
        exact ⟨pattern_recv_pattern cfg sfh rs rs' (fun hr e => hr (List.length_eq_zero_iff.1 (by rw [hlen, e]; rfl))) h2,
               pattern_recv_pattern cfg sfh rs' rs (fun hr e => hr (List.length_eq_zero_iff.1 (by rw [← hlen, e]; rfl))) h1⟩
      · cases h
    | callable p r k =>
      unfold tyEq at h; split at h
      · rename_i p' r' k'
        rw [Ty.wf_callable] at wa wb; simp only [Ty.w] at hw
        simp only [Bool.and_eq_true] at h
        obtain ⟨⟨h1, h2⟩, h3⟩ := h
        have part : ∀ (x y : Option Ty), (match x, y with | none, none => true | some a, some b => tyEq a b | _, _ => false) = true →
            Ty.wo x + Ty.wo y ≤ n → (∀ t, x = some t → Ty.WF cfg t) → (∀ t, y = some t → Ty.WF cfg t) →
            (x = none ∧ y = none) ∨ ∃ a b, x = some a ∧ y = some b ∧ asg cfg sfh a b = true ∧ asg cfg sfh b a = true := by
          intro x y hxy hwxy wx wy
          cases x <;> cases y <;> simp only [] at hxy <;> (first | contradiction | skip)
          · left; exact ⟨rfl, rfl⟩
          · rename_i a b; right; simp only [Ty.wo] at hwxy
            exact ⟨a, b, rfl, rfl, ih a b (by omega) (wx a rfl) (wy b rfl) hxy⟩
        have := callAcc_of_parts cfg sfh p r k p' r' k' (part p p' h1 (by omega) wa.1 wb.1)
          (part r r' h2 (by omega) wa.2.1 wb.2.1) (part k k' h3 (by omega) wa.2.2 wb.2.2)
        exact ⟨asg_callable_of cfg sfh this.1, asg_callable_of cfg sfh this.2⟩
      · cases h
    | array e r =>
      obtain ⟨e', rfl, he⟩ := tyEq_array h
      simp only [Ty.w] at hw
      obtain ⟨h1, h2⟩ := ih e e' (by omega) wa.elem wb.elem he
      exact ⟨mono_array cfg sfh e e' r h1, mono_array cfg sfh e' e r h2⟩
    | hash k v r =>
      obtain ⟨k', v', rfl, hk, hv⟩ := tyEq_hash h
      simp only [Ty.w] at hw
      obtain ⟨k1, k2⟩ := ih k k' (by omega) wa.key wb.key hk
      obtain ⟨v1, v2⟩ := ih v v' (by omega) wa.val wb.val hv
      exact ⟨mono_hash cfg sfh k k' v v' r k1 v1, mono_hash cfg sfh k' k v' v r k2 v2⟩
    | optional t | notUndef t | typ t | sensitive t | iterator t | iterable t =>
      exact eq_asg_cov cfg sfh (by constructor) ih hw wa wb h
    | variant ts =>
      obtain ⟨ts', rfl, h1, h2⟩ := tyEq_variant h
      simp only [Ty.w] at hw
      -- every member of the one is `Equals` to, hence accepted by, a member of the other
      constructor
      · refine asg_variant_of cfg sfh fun t' hm' => ?_
        obtain ⟨t, hm, he⟩ := h2 t' hm'
        have hwt := Ty.w_lt_wl hm; have hwt' := Ty.w_lt_wl hm'
        exact wv_all cfg sfh hm (ih t t' (by omega) (wa.mem_variant hm) (wb.mem_variant hm') he).1
      · refine asg_variant_of cfg sfh fun t hm => ?_
        obtain ⟨t', hm', he⟩ := h1 t hm
        have hwt := Ty.w_lt_wl hm; have hwt' := Ty.w_lt_wl hm'
        exact wv_all cfg sfh hm' (ih t' t (by omega) (wb.mem_variant hm') (wa.mem_variant hm) he).1
    | tuple ts g =>
      obtain ⟨ts', g', rfl, hlen, hsz, hl⟩ := tyEq_tuple h
      simp only [Ty.w] at hw
      have hget : ∀ (i : Nat) (x y : Ty), ts[i]? = some x → ts'[i]? = some y →
          asg cfg sfh x y = true ∧ asg cfg sfh y x = true := by
        intro i x y hx hy
        have hmx := List.mem_of_getElem? hx; have hmy := List.mem_of_getElem? hy
        have := Ty.w_lt_wl hmx; have := Ty.w_lt_wl hmy
        exact ih x y (by omega) (wa.mem_tuple hmx) (wb.mem_tuple hmy) (hl i x y hx hy)
      exact ⟨tuple_pointwise cfg sfh ts ts' g g' hlen hsz (fun i x y hx hy => (hget i x y hx hy).1),
             tuple_pointwise cfg sfh ts' ts g' g hlen.symm hsz.symm (fun i y x hy hx => (hget i x y hx hy).2)⟩
    | struct ms =>
      obtain ⟨ms', rfl, hnames, hall⟩ := tyEq_struct h
      simp only [Ty.w] at hw
      constructor
      · refine struct_eq_asg cfg sfh ms ms' wa.names wb.names hnames fun m hmm => ?_
        obtain ⟨m', hm', h1, h2, h3⟩ := hall m hmm
        have := Ty.w_lt_wm hmm; have := Ty.w_lt_wm hm'
        exact ⟨m', hm', h1, h2, (ih m.2.2 m'.2.2 (by omega) (wa.member hmm) (wb.member hm') h3).1⟩
      · refine struct_eq_asg cfg sfh ms' ms wb.names wa.names hnames.symm fun m' hm' => ?_
        -- the partner of m' : by names (pairwise different on both sides)
        obtain ⟨m, hmm, hmn⟩ := List.mem_map.1 (show m'.1 ∈ ms.map (·.1) by rw [hnames]; exact List.mem_map_of_mem hm')
        obtain ⟨m2, hm2, h1, h2, h3⟩ := hall m hmm
        cases nodup_key_inj wb.names hm2 hm' (Eq.symm (by rw [h1, hmn]))
        have := Ty.w_lt_wm hmm; have := Ty.w_lt_wm hm'
        exact ⟨m, hmm, h1.symm, h2.symm, (ih m.2.2 m'.2.2 (by omega) (wa.member hmm) (wb.member hm') h3).2⟩

theorem asg_of_tyEq {a b : Ty} (wa : Ty.WF cfg a) (wb : Ty.WF cfg b) (h : tyEq a b = true) :
    asg cfg sfh a b = true ∧ asg cfg sfh b a = true := eq_asg_all cfg sfh _ a b (Nat.le_refl _) wa wb h

/-! ### the two statements restricted to alias-free types, with their side condition `Ty.NoAlias`: special cases of the above -/
set_option linter.unusedSimpArgs false in
/-- no `Data` / `RichData` anywhere inside the term -/
def Ty.NoAlias (t : Ty) : Prop :=
  match t with
  | .data | .richData => False
  | .array e _ => Ty.NoAlias e
  | .hash k v _ => Ty.NoAlias k ∧ Ty.NoAlias v
  | .tuple ts _ => ∀ t', ∀ (_ : t' ∈ ts), Ty.NoAlias t'
  | .struct ms => ∀ m, ∀ (_ : m ∈ ms), Ty.NoAlias m.2.2
  | .variant ts => ∀ t', ∀ (_ : t' ∈ ts), Ty.NoAlias t'
  | .optional t' | .notUndef t' | .sensitive t' | .iterator t' | .typ t' | .iterable t' => Ty.NoAlias t'
  | .callable p r k =>
      (match p with | none => True | some t' => Ty.NoAlias t') ∧ (match r with | none => True | some t' => Ty.NoAlias t') ∧
      (match k with | none => True | some t' => Ty.NoAlias t')
  | _ => True
termination_by t.w
decreasing_by
  all_goals simp_wf
  all_goals (try simp only [Ty.w, Ty.wl, Ty.wm, Ty.wo] at *)
  all_goals first
    | omega
    | (have := Ty.w_lt_wl ‹_ ∈ _›; omega)
    | (have := Ty.w_lt_wm ‹_ ∈ _›; omega)

theorem asg_refl : ∀ (n : Nat) (a : Ty), a.w ≤ n → Ty.WF cfg a → a.NoAlias → asg cfg sfh a a = true :=
  fun _ a _ hwf _ => asg_self cfg sfh a hwf

theorem eq_asg : ∀ (n : Nat) (a b : Ty), a.w + b.w ≤ n → Ty.WF cfg a → Ty.WF cfg b → a.NoAlias → b.NoAlias →
    tyEq a b = true → asg cfg sfh a b = true ∧ asg cfg sfh b a = true :=
  fun n a b hw wa wb _ _ h => eq_asg_all cfg sfh n a b hw wa wb h

/-! ### what the fragments of LatFrag imply: `Ty.TF` is alias-free; `Ty.TF` and `Ty.TA` are UnitSafe -/
theorem Ty.noAlias_of_tf (t : Ty) : t.TF → t.NoAlias := by
  induction t using Ty.ind with
  | unit | data | richData | struct _ | iterable _ | callable _ _ _ => intro h; unfold Ty.TF at h; exact absurd h id
  | array e r ih => intro h; unfold Ty.TF at h; unfold Ty.NoAlias; exact ih h
  | hash k v r ihk ihv => intro h; unfold Ty.TF at h; unfold Ty.NoAlias; exact ⟨ihk h.1, ihv h.2⟩
  | tuple ts g ih => intro h; unfold Ty.TF at h; unfold Ty.NoAlias; exact fun t' hm => ih t' hm (h t' hm)
  | variant ts ih => intro h; unfold Ty.TF at h; unfold Ty.NoAlias; exact fun t' hm => ih t' hm (h t' hm)
  | optional x ih | notUndef x ih | sensitive x ih | iterator x ih | typ x ih =>
    intro h; unfold Ty.TF at h; unfold Ty.NoAlias; exact ih h
  | _ => intro _; unfold Ty.NoAlias; trivial

theorem Ty.TF.noAlias : ∀ (n : Nat) (t : Ty), t.w ≤ n → t.TF → t.NoAlias := fun _ t _ => Ty.noAlias_of_tf t

theorem Ty.us_of_tf (t : Ty) : t.TF → t.US := by
  induction t using Ty.ind with
  | unit | data | richData | struct _ | iterable _ | callable _ _ _ => intro h; unfold Ty.TF at h; exact absurd h id
  | array e r ih => intro h; unfold Ty.TF at h; unfold Ty.US; exact Or.inr (ih h)
  | hash k v r ihk ihv => intro h; unfold Ty.TF at h; unfold Ty.US; exact Or.inr ⟨ihk h.1, ihv h.2⟩
  | tuple ts g ih => intro h; unfold Ty.TF at h; unfold Ty.US; exact Or.inr fun t' hm => ih t' hm (h t' hm)
  | variant ts ih => intro h; unfold Ty.TF at h; unfold Ty.US; exact fun t' hm => ih t' hm (h t' hm)
  | optional x ih | notUndef x ih | sensitive x ih | iterator x ih | typ x ih => intro h; unfold Ty.TF at h; unfold Ty.US; exact ih h
  | _ => intro _; unfold Ty.US; trivial

theorem Ty.TF.us : ∀ (n : Nat) (t : Ty), t.w ≤ n → t.TF → t.US := fun _ t _ => Ty.us_of_tf t

theorem Ty.us_of_ta (t : Ty) : t.TA sfh → t.US := by
  induction t using Ty.ind with
  | unit | callable _ _ _ => intro h; unfold Ty.TA at h; exact absurd h id
  | array e r ih => intro h; unfold Ty.TA at h; unfold Ty.US; exact Or.inr (ih h)
  | hash k v r ihk ihv => intro h; unfold Ty.TA at h; unfold Ty.US; exact Or.inr ⟨ihk h.1, ihv h.2⟩
  | tuple ts g ih => intro h; unfold Ty.TA at h; unfold Ty.US; exact Or.inr fun t' hm => ih t' hm (h.2 t' hm)
  | struct ms ih => intro h; unfold Ty.TA at h; unfold Ty.US; exact fun m hm => ih m hm (h.2 m hm)
  | variant ts ih => intro h; unfold Ty.TA at h; unfold Ty.US; exact fun t' hm => ih t' hm (h t' hm)
  | optional x ih | notUndef x ih | sensitive x ih | iterator x ih | typ x ih | iterable x ih =>
    intro h; unfold Ty.TA at h; unfold Ty.US; exact ih h
  | _ => intro _; unfold Ty.US; trivial

theorem Ty.TA.us : ∀ (n : Nat) (t : Ty), t.w ≤ n → t.TA sfh → t.US := fun _ t _ => Ty.us_of_ta sfh t

end Pcore.Lat

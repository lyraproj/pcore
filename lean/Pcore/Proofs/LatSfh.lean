import Pcore.Proofs.LatDenMain
import Pcore.Proofs.LatFrag
set_option linter.unusedSimpArgs false
/-! C01: the instance relation does not depend on the exempt Struct-from-Hash rule (for types without `Type[..]` / `Iterable[..]`),
    hence every unsound acceptance of the code is an acceptance that the rule-off relation does not grant. -/
namespace Pcore.Lat
variable (cfg : Cfg)

/-- hereditarily no `Type[..]` and no `Iterable[..]`: the two places where the instance relation asks an assignability question -/
def Ty.Plain (t : Ty) : Prop :=
  match t with
  | .iterable _ | .typ _ => False
  | .array e _ => Ty.Plain e
  | .hash k v _ => Ty.Plain k ∧ Ty.Plain v
  | .tuple ts _ => ∀ t', ∀ (_ : t' ∈ ts), Ty.Plain t'
  | .struct ms => ∀ m, ∀ (_ : m ∈ ms), Ty.Plain m.2.2
  | .variant ts => ∀ t', ∀ (_ : t' ∈ ts), Ty.Plain t'
  | .optional t' | .notUndef t' | .sensitive t' | .iterator t' => Ty.Plain t'
  | _ => True
termination_by t.w
decreasing_by
  all_goals simp_wf
  all_goals (try simp only [Ty.w, Ty.wl, Ty.wm] at *)
  all_goals first
    | omega
    | (have := Ty.w_lt_wl ‹_ ∈ _›; omega)
    | (have := Ty.w_lt_wm ‹_ ∈ _›; omega)

theorem den_sfh (t : Ty) : ∀ v : Val, t.Plain → (Den cfg true t v ↔ Den cfg false t v) := by
  induction t using Ty.ind with
  | array e r ih =>
    intro v hp; unfold Ty.Plain at hp; unfold Den
    exact exists_congr fun vs => and_congr_right fun _ => and_congr_right fun _ => forall₂_congr fun x _ => ih x hp
  | hash k x r ihk ihx =>
    intro v hp; unfold Ty.Plain at hp; unfold Den
    exact exists_congr fun es => and_congr_right fun _ => and_congr_right fun _ =>
      forall₂_congr fun e _ => and_congr (ihk e.1 hp.1) (ihx e.2 hp.2)
  | tuple ts g ih =>
    intro v hp; unfold Ty.Plain at hp; unfold Den
    exact exists_congr fun vs => and_congr_right fun _ => and_congr_right fun _ =>
      forall₃_congr fun i t' x => forall₂_congr fun ht _ => ih t' (List.mem_of_getElem? ht) x (hp t' (List.mem_of_getElem? ht))
  | struct ms ih =>
    intro v hp; unfold Ty.Plain at hp; unfold Den
    exact exists_congr fun es => and_congr_right fun _ => and_congr_left' (forall₂_congr fun e _ =>
      exists₂_congr fun m hm => and_congr_right fun _ => ih m hm e.2 (hp m hm))
  | variant ts ih =>
    intro v hp; unfold Ty.Plain at hp; unfold Den
    exact exists₂_congr fun t' hm => ih t' hm v (hp t' hm)
  | optional t' ih => intro v hp; unfold Ty.Plain at hp; unfold Den; exact or_congr_right (ih v hp)
  | notUndef t' ih => intro v hp; unfold Ty.Plain at hp; unfold Den; exact and_congr_right' (ih v hp)
  | sensitive t' ih =>
    intro v hp; unfold Ty.Plain at hp; unfold Den
    exact exists_congr fun x => and_congr_right fun _ => ih x hp
  | typ _ _ | iterable _ _ => intro v hp; unfold Ty.Plain at hp; exact absurd hp id
  -- `Den` splits `Bool[..]` and `Object[..]` on their parameter
  | bool r | object r => intro v _; cases r <;> (unfold Den; exact Iff.rfl)
  | _ => intro v _; unfold Den; exact Iff.rfl

theorem Ty.Plain.ref_frag (t : Ty) : t.Plain → t.Ref ∧ t.Frag false := by
  induction t using Ty.ind with
  | array e r ih => intro hp; unfold Ty.Plain at hp; unfold Ty.Ref Ty.Frag; exact ih hp
  | hash k x r ihk ihx =>
    intro hp; unfold Ty.Plain at hp; unfold Ty.Ref Ty.Frag
    exact ⟨⟨(ihk hp.1).1, (ihx hp.2).1⟩, (ihk hp.1).2, (ihx hp.2).2⟩
  | tuple ts g ih | variant ts ih =>
    intro hp; unfold Ty.Plain at hp; unfold Ty.Ref Ty.Frag
    exact ⟨fun t' hm => (ih t' hm (hp t' hm)).1, fun t' hm => (ih t' hm (hp t' hm)).2⟩
  | struct ms ih =>
    intro hp; unfold Ty.Plain at hp; unfold Ty.Ref Ty.Frag
    exact ⟨fun m hm => (ih m hm (hp m hm)).1, rfl, fun m hm => (ih m hm (hp m hm)).2⟩
  | optional t' ih | notUndef t' ih | sensitive t' ih | iterator t' ih =>
    intro hp; unfold Ty.Plain at hp; unfold Ty.Ref Ty.Frag; exact ih hp
  | typ _ _ | iterable _ _ => intro hp; unfold Ty.Plain at hp; exact absurd hp id
  | _ => intro _; unfold Ty.Ref Ty.Frag; exact ⟨trivial, trivial⟩

theorem Ty.Plain.ref (t : Ty) (h : t.Plain) : t.Ref := (Ty.Plain.ref_frag t h).1
theorem Ty.Plain.frag (t : Ty) (h : t.Plain) : t.Frag false := (Ty.Plain.ref_frag t h).2

/-- the instance relation of a plain type is the same for both settings of the rule -/
theorem inst_sfh (t : Ty) (v : Val) (wt : Ty.WF cfg t) (pt : t.Plain) (ok : v.OK) :
    inst cfg true t v = inst cfg false t v := by
  have r := Ty.Plain.ref t pt
  exact Bool.eq_iff_iff.2 ((inst_iff_den cfg true t v wt r ok).trans
    ((den_sfh cfg t v pt).trans (inst_iff_den cfg false t v wt r ok).symm))

end Pcore.Lat

import Pcore.Proofs.Tokens
/-!
`Proofs/Tokens.lean` for float texts: every text of the shapes that `floatGFormat` (`%g` post-processed) produces —
`[-] D+ . D+`, `[-] D+ . D+ e ± D+`, `[-] D+ e ± D+` — followed by a continuation the printer produces, is read back by
the lexer as ONE float token with exactly that text.  This is the lexing half of the float parameter `FloatIO` (C05); what
remains assumed of decimal float conversion is only that the reader maps the formatter's text back to the same bits.

The exponent path of `consumeUnsignedInteger` asks `unicode.IsLetter` about the character that follows the digits; the lemma
therefore needs the oracle to answer `false` for the five characters that can follow a value (`,` `]` `}` `)` blank) — true of
`unicode.IsLetter`, and of the table the driver uses.
-/
namespace Pcore.Syntax

theorem lexNum_exp_digits (il : Char → Bool) (hil : StopNotLetter il) (ds acc : Str) (k : List Sym)
    (hd : ∀ c ∈ ds, isDigit c = true) (hk : stopOK k = true) :
    lexNum il .expDigits acc (syms ds ++ k) = floatTok (ds.reverse ++ acc) k :=
  lexNum_run il _ (.inr (.inr rfl)) ds acc k hd hk (fun _ => hil)

/-- the exponent part: `e`, a sign, at least one digit -/
def expText (sg : Char) (e0 : Char) (eds : Str) : Str := 'e' :: sg :: e0 :: eds

theorem lexNum_exp (il : Char → Bool) (hil : StopNotLetter il) (m : NMode) (hm : m = .fracPart ∨ ∃ fz, m = .intPart fz)
    (sg e0 : Char) (eds acc : Str) (k : List Sym) (hsg : sg = '+' ∨ sg = '-') (he0 : isDigit e0 = true)
    (heds : ∀ c ∈ eds, isDigit c = true) (hk : stopOK k = true) :
    lexNum il m acc (syms (expText sg e0 eds) ++ k) = floatTok (eds.reverse ++ e0 :: sg :: 'e' :: acc) k := by
  have hE : (Sym.chr 'e').rune = some 'e' := by decide
  have e0' : ('e' = '\x00') = False := by decide
  have e1 : isDigit 'e' = false := by decide
  obtain ⟨hr0, h00, _⟩ := digit_facts e0 he0
  have hsgr : (Sym.chr sg).rune = some sg := by rcases hsg with rfl | rfl <;> decide
  have hsg0 : sg ≠ '\x00' := by rcases hsg with rfl | rfl <;> decide
  simp only [expText, syms_cons, List.cons_append]
  have step2 : lexNum il .expStart ('e' :: acc) (.chr sg :: .chr e0 :: (syms eds ++ k)) =
      floatTok (eds.reverse ++ e0 :: sg :: 'e' :: acc) k := by
    simp only [lexNum, hsgr, hsg0, hsg, if_false, if_true, hr0, he0]
    rw [lexNum_exp_digits il hil eds _ k heds hk]
  -- both modes take the `e` the same way
  rcases hm with rfl | ⟨fz, rfl⟩ <;>
  · rw [lexNum, hE]; simp only [e0', e1, if_false, Bool.false_eq_true, true_or, if_true]
    exact step2

theorem lexNum_frac_then_exp (il : Char → Bool) (hil : StopNotLetter il) (ds acc : Str) (sg e0 : Char) (eds : Str)
    (k : List Sym) (hd : ∀ c ∈ ds, isDigit c = true) (hsg : sg = '+' ∨ sg = '-') (he0 : isDigit e0 = true)
    (heds : ∀ c ∈ eds, isDigit c = true) (hk : stopOK k = true) :
    lexNum il .fracPart acc (syms (ds ++ expText sg e0 eds) ++ k) =
      floatTok (eds.reverse ++ e0 :: sg :: 'e' :: (ds.reverse ++ acc)) k := by
  rw [syms_append, List.append_assoc, lexNum_digits_prefix il _ (.inr (.inl rfl)) ds acc _ hd]
  exact lexNum_exp il hil .fracPart (Or.inl rfl) sg e0 eds _ k hsg he0 heds hk

/-- the three shapes after the first digit of the integer part -/
inductive FTail where
  | frac (ds1 : Str) (d : Char) (ds2 : Str)                                   -- D* . D+
  | fracExp (ds1 : Str) (d : Char) (ds2 : Str) (sg e0 : Char) (eds : Str)     -- D* . D+ e ± D+
  | exp (ds1 : Str) (sg e0 : Char) (eds : Str)                                -- D* e ± D+

def FTail.text : FTail → Str
  | .frac ds1 d ds2 => ds1 ++ '.' :: d :: ds2
  | .fracExp ds1 d ds2 sg e0 eds => ds1 ++ '.' :: d :: (ds2 ++ expText sg e0 eds)
  | .exp ds1 sg e0 eds => ds1 ++ expText sg e0 eds

def FTail.OK : FTail → Prop
  | .frac ds1 d ds2 => (∀ c ∈ ds1, isDigit c = true) ∧ isDigit d = true ∧ ∀ c ∈ ds2, isDigit c = true
  | .fracExp ds1 d ds2 sg e0 eds =>
    (∀ c ∈ ds1, isDigit c = true) ∧ isDigit d = true ∧ (∀ c ∈ ds2, isDigit c = true) ∧ (sg = '+' ∨ sg = '-') ∧
      isDigit e0 = true ∧ ∀ c ∈ eds, isDigit c = true
  | .exp ds1 sg e0 eds =>
    (∀ c ∈ ds1, isDigit c = true) ∧ (sg = '+' ∨ sg = '-') ∧ isDigit e0 = true ∧ ∀ c ∈ eds, isDigit c = true

theorem lexNum_int_digits_prefix (il : Char → Bool) (fz : Bool) (ds acc : Str) (r : List Sym)
    (hd : ∀ c ∈ ds, isDigit c = true) :
    lexNum il (.intPart fz) acc (syms ds ++ r) = lexNum il (.intPart fz) (ds.reverse ++ acc) r :=
  lexNum_digits_prefix il _ (.inl ⟨fz, rfl⟩) ds acc r hd

theorem lexNum_ftail (il : Char → Bool) (hil : StopNotLetter il) (fz : Bool) (t : FTail) (ht : t.OK) (acc : Str)
    (k : List Sym) (hk : stopOK k = true) :
    lexNum il (.intPart fz) acc (syms t.text ++ k) = floatTok (t.text.reverse ++ acc) k := by
  cases t with
  | frac ds1 d ds2 =>
    obtain ⟨h1, hd, h2⟩ := ht
    simpa [FTail.text] using lexNum_int_dot_frac il fz ds1 d ds2 acc k h1 hd h2 hk
  | fracExp ds1 d ds2 sg e0 eds =>
    obtain ⟨h1, hd, h2, hsg, he0, heds⟩ := ht
    simp only [FTail.text, syms_append, syms_cons, List.append_assoc, List.cons_append]
    rw [lexNum_int_dot il fz ds1 d acc _ h1 hd]
    have := lexNum_frac_then_exp il hil ds2 (d :: '.' :: (ds1.reverse ++ acc)) sg e0 eds k h2 hsg he0 heds hk
    simp only [syms_append, List.append_assoc] at this
    rw [this]
    simp [expText]
  | exp ds1 sg e0 eds =>
    obtain ⟨h1, hsg, he0, heds⟩ := ht
    simp only [FTail.text, syms_append, List.append_assoc]
    rw [lexNum_int_digits_prefix il fz ds1 acc _ h1]
    have := lexNum_exp il hil (.intPart fz) (Or.inr ⟨fz, rfl⟩) sg e0 eds (ds1.reverse ++ acc) k hsg he0 heds hk
    rw [this]
    simp [expText]

theorem nextToken_float_pos (il : Char → Bool) (hil : StopNotLetter il) (c : Char) (t : FTail) (hc : isDigit c = true)
    (ht : t.OK) (k : List Sym) (hk : stopOK k = true) :
    nextToken il (syms (c :: t.text) ++ k) = .tok ⟨.float, c :: t.text⟩ k false := by
  rw [syms_cons, List.cons_append, nextToken_digit il c _ hc, lexNum_ftail il hil (decide (c = '0')) t ht [c] k hk]
  simp [floatTok]

theorem nextToken_float_neg (il : Char → Bool) (hil : StopNotLetter il) (c : Char) (t : FTail) (hc : isDigit c = true)
    (ht : t.OK) (k : List Sym) (hk : stopOK k = true) :
    nextToken il (syms ('-' :: c :: t.text) ++ k) = .tok ⟨.float, '-' :: c :: t.text⟩ k false := by
  rw [syms_cons, syms_cons, List.cons_append, List.cons_append, nextToken_minus_digit il c _ hc,
    lexNum_ftail il hil (decide (c = '0')) t ht [c, '-'] k hk]
  simp [floatTok]

end Pcore.Syntax

import Pcore.Proofs.LatAsgEq
import Pcore.Proofs.ListLoops
/-! What `asg` is made of besides its two main steps (those are in LatAsgEq, LatRecv), each in the form proofs use: the order on ranges
    (`Rng.sub`) and on ancestor paths (`isPrefix`); the list loops of `asg`, each as a quantifier over its list; the Tuple position loop
    `tupZip` as a statement about positions. -/
namespace Pcore.Lat
variable (cfg : Cfg) (sfh : Bool)

/-! ### `Rng.sub` and `isPrefix` are reflexive and transitive; what `Rng.sub` says of bounds, members and the hull -/

theorem Rng.sub_refl (r : Rng) : r.sub r = true := by simp [Rng.sub]

theorem Rng.sub_trans {r r' r'' : Rng} (h : r'.sub r = true) (h' : r.sub r'' = true) : r'.sub r'' = true := by
  simp [Rng.sub] at *; omega
theorem Rng.sub_contains {r r' : Rng} {i : Int} (h : r.sub r' = true) (h' : r'.contains i = true) : r.contains i = true := by
  simp [Rng.sub, Rng.contains] at *; omega
theorem Rng.sub_hi_le {r r' : Rng} (h : r.sub r' = true) : r'.hi ≤ r.hi := by
  simp [Rng.sub] at h; omega
theorem Rng.sub_hi_pos {r r' : Rng} (h : r.sub r' = true) (hz : ¬ r'.hi ≤ 0) : ¬ r.hi ≤ 0 := by
  have := Rng.sub_hi_le h; omega

theorem hull_sub_l (r r' : Rng) : (r.hull r').sub r = true := by
  simp only [Rng.hull, Rng.sub, Bool.and_eq_true]
  exact ⟨decide_eq_true (Int.min_le_left _ _), decide_eq_true (Int.le_max_left _ _)⟩
theorem hull_sub_r (r r' : Rng) : (r.hull r').sub r' = true := by
  simp only [Rng.hull, Rng.sub, Bool.and_eq_true]
  exact ⟨decide_eq_true (Int.min_le_right _ _), decide_eq_true (Int.le_max_right _ _)⟩

theorem isPrefix_refl (p : List Nat) : isPrefix p p = true := by
  induction p with
  | nil => rfl
  | cons a as ih => simp [isPrefix, ih]

theorem isPrefix_trans : ∀ (p q x : List Nat), isPrefix p q = true → isPrefix q x = true → isPrefix p x = true := by
  intro p
  induction p with
  | nil => intro q x _ _; simp [isPrefix]
  | cons a as ih =>
    intro q x h1 h2
    cases q with
    | nil => simp [isPrefix] at h1
    | cons b bs =>
      cases x with
      | nil => simp [isPrefix] at h2
      | cons c cs =>
        simp [isPrefix] at h1 h2 ⊢
        exact ⟨h1.1.trans h2.1, ih bs cs h1.2 h2.2⟩

/-! ### the list loops of `asg`, each as a quantifier over its list -/

theorem asgAllR_iff (a : Ty) (bs : List Ty) :
    asgAllR cfg sfh a bs = true ↔ ∀ b ∈ bs, asg cfg sfh a b = true := by
  induction bs with
  | nil => unfold asgAllR; simp
  | cons b bs ih => unfold asgAllR; simp [ih]

theorem asgAllL_iff (as : List Ty) (b : Ty) :
    asgAllL cfg sfh as b = true ↔ ∀ a ∈ as, asg cfg sfh a b = true := by
  induction as with
  | nil => unfold asgAllL; simp
  | cons a as ih => unfold asgAllL; simp [ih]

theorem asgAnyL_iff (as : List Ty) (b : Ty) :
    asgAnyL cfg sfh as b = true ↔ ∃ a ∈ as, asg cfg sfh a b = true := by
  induction as with
  | nil => unfold asgAnyL; simp
  | cons a as ih => unfold asgAnyL; simp [ih]

theorem asgMembers_iff (k v : Ty) (ms : List Member) :
    asgMembers cfg sfh k v ms = true ↔
      ∀ m ∈ ms, asg cfg sfh k (.strVal m.1) = true ∧ asg cfg sfh v m.2.2 = true := by
  induction ms with
  | nil => unfold asgMembers; simp
  | cons m ms ih => obtain ⟨n, o, t⟩ := m; unfold asgMembers; simp [ih, and_assoc]

theorem structReq_iff (ms : List Member) (v' : Ty) :
    structReq cfg sfh ms v' = true ↔ ∀ m ∈ ms, m.2.1 = false → asg cfg sfh m.2.2 v' = true := by
  induction ms with
  | nil => unfold structReq; simp
  | cons m ms ih =>
    obtain ⟨n, o, t⟩ := m; unfold structReq
    cases o <;> simp [ih]

theorem iterMembers_iff (x : Ty) (ms : List Member) :
    iterMembers cfg sfh x ms = true ↔ ∀ m ∈ ms, asg cfg sfh x (.tuple [.strVal m.1, m.2.2] none) = true := by
  induction ms with
  | nil => unfold iterMembers; simp
  | cons m ms ih => obtain ⟨n, o, t⟩ := m; unfold iterMembers; simp [ih]

theorem asgMembersRichKey_iff (ms : List Member) :
    asgMembersRichKey cfg sfh ms = true ↔ ∀ m ∈ ms, asg cfg sfh .richData m.2.2 = true := by
  induction ms with
  | nil => unfold asgMembersRichKey; simp
  | cons m ms ih => obtain ⟨n, o, t⟩ := m; unfold asgMembersRichKey; simp [ih]

theorem asgToArrAny_iff (al : Alias) (as : List Ty) :
    asgToArrAny cfg sfh al as = true ↔ ∃ a ∈ as, asgToArr cfg sfh al a = true := by
  induction as with
  | nil => unfold asgToArrAny; simp
  | cons a as ih => unfold asgToArrAny; simp [ih]

theorem asgToHashAny_iff (al : Alias) (as : List Ty) :
    asgToHashAny cfg sfh al as = true ↔ ∃ a ∈ as, asgToHash cfg sfh al a = true := by
  induction as with
  | nil => unfold asgToHashAny; simp
  | cons a as ih => unfold asgToHashAny; simp [ih]

theorem asgToEntryAny_iff (al : Alias) (as : List Ty) :
    asgToEntryAny cfg sfh al as = true ↔ ∃ a ∈ as, asgToEntry cfg sfh al a = true := by
  induction as with
  | nil => unfold asgToEntryAny; simp
  | cons a as ih => unfold asgToEntryAny; simp [ih]

theorem accTypeSet_accL_iff (ts : List Ty) : accTypeSet.accL ts = true ↔ ∃ t ∈ ts, accTypeSet t = true := by
  induction ts with
  | nil => simp [accTypeSet.accL]
  | cons t ts ih => simp [accTypeSet.accL, ih]

theorem accDeferred_accL_iff (ts : List Ty) : accDeferred.accL ts = true ↔ ∃ t ∈ ts, accDeferred t = true := by
  induction ts with
  | nil => simp [accDeferred.accL]
  | cons t ts ih => simp [accDeferred.accL, ih]

/-! ### `tupZip as bs k`: the types at positions `i < k` are assignable, the last type of either list standing for all further
    positions (`tupZip_pos`); positions beyond both lists can be left out (`tupZip_iff`), a one-element list gives a plain quantifier -/

theorem tupZip_nonpos (as bs : List Ty) (k : Int) (hk : k ≤ 0) : tupZip cfg sfh as bs k = true := by
  unfold tupZip; simp [hk]

theorem tupZip_single (a b : Ty) (k : Int) : tupZip cfg sfh [a] [b] k = (decide (k ≤ 0) || asg cfg sfh a b) := by
  unfold tupZip
  by_cases hk : k ≤ 0 <;> simp [hk]

theorem tupZip_pos (as bs : List Ty) (k : Int) (has : as ≠ []) (hbs : bs ≠ []) :
    tupZip cfg sfh as bs k = true ↔
      ∀ i : Nat, (i : Int) < k → ∀ a b : Ty, as[min i (as.length - 1)]? = some a → bs[min i (bs.length - 1)]? = some b →
        asg cfg sfh a b = true := by
  induction h : as.length + bs.length using Nat.strongRecOn generalizing as bs k with
  | ind n ih =>
  match as, bs, has, hbs with
  | a0 :: as, b0 :: bs, _, _ =>
    unfold tupZip
    by_cases hk : k ≤ 0
    · simp only [hk, if_true, true_iff]
      intro i hi; omega
    · simp only [hk, if_false]
      rw [forall_lt_succ (by omega)]
      simp only [clamp_zero, Option.some.injEq, forall₂_eq]
      match as, bs with
      | [], [] =>
        simp only [clamp_single, Option.some.injEq, forall₂_eq]
        exact ⟨fun h => ⟨h, fun _ _ => h⟩, And.left⟩
      | [], b1 :: bs' =>
        rw [Bool.and_eq_true, ih _ (by subst h; simp) [a0] (b1 :: bs') (k - 1) (by simp) (by simp) rfl]
        simp only [clamp_succ, clamp_single]
      | a1 :: as', [] =>
        rw [Bool.and_eq_true, ih _ (by subst h; simp) (a1 :: as') [b0] (k - 1) (by simp) (by simp) rfl]
        simp only [clamp_succ, clamp_single]
      | a1 :: as', b1 :: bs' =>
        rw [Bool.and_eq_true, ih _ (by subst h; simp; omega) (a1 :: as') (b1 :: bs') (k - 1) (by simp) (by simp) rfl]
        simp only [clamp_succ]

/-- positions beyond both type lists compare the two last types again and can be left out -/
theorem tupZip_iff (as bs : List Ty) (k : Int) (has : as ≠ []) (hbs : bs ≠ []) :
    tupZip cfg sfh as bs k = true ↔
      ∀ (i : Nat) (a b : Ty), (i : Int) < k → i < max as.length bs.length →
        as[min i (as.length - 1)]? = some a → bs[min i (bs.length - 1)]? = some b → asg cfg sfh a b = true := by
  rw [tupZip_pos cfg sfh as bs k has hbs]
  refine ⟨fun H i a b hi _ ha hb => H i hi a b ha hb, fun H i hi a b ha hb => ?_⟩
  by_cases hmax : i < max as.length bs.length
  · exact H i a b hi hmax ha hb
  · -- beyond both lists: the pair compared at the last position below `max`
    have hpa : 0 < as.length := List.length_pos_iff.2 has
    have hla := Nat.le_max_left as.length bs.length
    have hlb := Nat.le_max_right as.length bs.length
    generalize max as.length bs.length = m at hmax hla hlb H
    rw [Nat.min_eq_right (by omega)] at ha hb
    exact H (m - 1) a b (by omega) (by omega) (by rw [Nat.min_eq_right (by omega)]; exact ha)
      (by rw [Nat.min_eq_right (by omega)]; exact hb)

/-- `tupleAssignableTo` after the repair: the declared types at positions an instance can have -/
theorem tupZipL_iff (e : Ty) (ts : List Ty) (k : Int) (hne : ts ≠ []) :
    tupZip cfg sfh [e] ts k = true ↔ ∀ (j : Nat) (t : Ty), (j : Int) < k → ts[j]? = some t → asg cfg sfh e t = true := by
  rw [tupZip_pos cfg sfh [e] ts k (List.cons_ne_nil _ _) hne]
  simp only [clamp_single, Option.some.injEq]
  constructor
  · intro H j t hj hget
    have hjl := (List.getElem?_eq_some_iff.1 hget).1
    exact H j hj e t rfl (by rw [Nat.min_eq_left (by omega)]; exact hget)
  · rintro H i hi a b rfl hb
    exact H _ b (by omega) hb

/-- `TupleType.IsAssignable(Array)` after the repair: the declared types at positions the array can fill -/
theorem tupZipR_iff (ts : List Ty) (e : Ty) (k : Int) (hne : ts ≠ []) :
    tupZip cfg sfh ts [e] k = true ↔ ∀ (j : Nat) (t : Ty), (j : Int) < k → ts[j]? = some t → asg cfg sfh t e = true := by
  rw [tupZip_pos cfg sfh ts [e] k hne (List.cons_ne_nil _ _)]
  simp only [clamp_single, Option.some.injEq]
  constructor
  · intro H j t hj hget
    have hjl := (List.getElem?_eq_some_iff.1 hget).1
    exact H j hj t e (by rw [Nat.min_eq_left (by omega)]; exact hget) rfl
  · rintro H i hi a b ha rfl
    exact H _ a (by omega) ha

theorem tupZip_any_l (bs : List Ty) (k : Int) (hbs : bs ≠ []) : tupZip cfg sfh [.any] bs k = true := by
  rw [tupZipL_iff cfg sfh .any bs k hbs]
  intro j t _ _; exact asg_any_l cfg sfh t

theorem tupZip_trans (as bs cs : List Ty) (k1 k2 : Int) (hk : k2 ≤ k1) (has : as ≠ []) (hbs : bs ≠ []) (hcs : cs ≠ [])
    (el : ∀ a ∈ as, ∀ b ∈ bs, ∀ c ∈ cs, asg cfg sfh a b = true → asg cfg sfh b c = true → asg cfg sfh a c = true)
    (h1 : tupZip cfg sfh as bs k1 = true) (h2 : tupZip cfg sfh bs cs k2 = true) : tupZip cfg sfh as cs k2 = true := by
  rw [tupZip_pos cfg sfh as cs k2 has hcs]
  intro i hi a c ha hc
  have hbl : min i (bs.length - 1) < bs.length := by have := List.length_pos_iff.2 hbs; omega
  have hb := List.getElem?_eq_getElem hbl
  exact el a (List.mem_of_getElem? ha) _ (List.getElem_mem hbl) c (List.mem_of_getElem? hc)
    ((tupZip_pos cfg sfh as bs k1 has hbs).1 h1 i (by omega) a _ ha hb) ((tupZip_pos cfg sfh bs cs k2 hbs hcs).1 h2 i hi _ c hb hc)

end Pcore.Lat

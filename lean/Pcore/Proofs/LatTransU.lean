import Pcore.Proofs.LatMono
import Pcore.Proofs.LatTransCall
import Pcore.Proofs.LatTransDAlias
set_option linter.unusedSimpArgs false
/-! C03: THE transitivity theorem (`transU_all`, `transU`).  `asg` is transitive on the fragment `Ty.TV`: every type but Unit; a Struct only
    with the Struct-from-Hash rule off; a Callable only if it is the default one or has a parameter list — the three shapes of
    `C03_unit`, `C03_trans_fails_sfh`, `C03_trans_fails_callable` — and, where the aliases Data / RichData are admitted, Tuple type lists of
    int64 length.  First one step, on any fragment (`trans_step`): over the receiver rules of Proofs/LatTransStep, the alias cases of
    Proofs/LatTransDAlias and the Callable rule `tr_callable_gen` (Proofs/LatTransCall); its NotUndef and fall-through arms turn on
    `nu_accepts` (Proofs/LatMono) and `wv_all` / `wo_all` (Proofs/LatWeaken).  Then `Ty.TV` and the induction, lexicographic: the nesting
    level of Callables, then the weight of the left type, then the rank `vw` of the middle and right type.  The fragments of the property
    theorems, `Ty.TF`, `Ty.TS`, `Ty.TSK`, `Ty.TA`, lie inside (Proofs/LatTransFrag), and the theorems about them follow by inclusion. -/
namespace Pcore.Lat
variable (cfg : Cfg) (sfh : Bool)

section
variable {F : Ty → Prop}

/-! ### one step, on any fragment: the right type is decomposed first, then the middle type, then the receiver's rule decides.
    `hAl`: a fragment that contains an alias satisfies `AliasOK`; `call`: the rule of a Callable receiver (it needs transitivity one level of
    Callables down, which only the induction below can supply). -/

theorem tr_recv (hl : LowerLen cfg) (hF : FragOK sfh F) (a b c : Ty) (ih : IHL cfg sfh F a b c) (ihR : IHR cfg sfh F a b c)
    (hAl : ∀ x : Alias, F x.ty → AliasOK F)
    (call : ∀ p r k, a = .callable p r k → asgRecv cfg sfh a b = true → asgRecv cfg sfh b c = true → asgRecv cfg sfh a c = true)
    (H : FHyp cfg F a b c) (hb : b.plainR = true) (hc : c.plainR = true)
    (h1 : asgRecv cfg sfh a b = true) (h2 : asg cfg sfh b c = true) : asg cfg sfh a c = true := by
  have h2' : asgRecv cfg sfh b c = true ∨ b = c := by
    rcases recvPos_cases cfg sfh (Or.inl hc) h2 with h | h | h
    · left; cases Ty.isAny_eq h; unfold asgRecv; rfl
    · right; exact eq_of_sameNullary h
    · left; exact h
  rcases h2' with h2' | rfl
  case inr => exact asg_of_recv cfg sfh (Or.inl hb) h1
  apply asg_of_recv cfg sfh (Or.inl hc)
  cases a with
  | any => unfold asgRecv; rfl
  | unit => exact absurd H.fa hF.unit
  | callable p r k => exact call p r k rfl h1 h2'
  | data => exact tr_alias_recv cfg sfh hF (hAl .data H.fa) .data b c ih ihR H h1 h2 h2'
  | richData => exact tr_alias_recv cfg sfh hF (hAl .rich H.fa) .rich b c ih ihR H h1 h2 h2'
  | tuple ts g => exact tr_pos_recv cfg sfh hF _ b c rfl ih H h1 h2'
  | array e r => exact tr_pos_recv cfg sfh hF _ b c rfl ih H h1 h2'
  | struct ms => exact tr_struct_recv cfg sfh hF ms b c ih H h1 h2'
  | iterable x => exact tr_iterable_recv cfg sfh hF x b c ih H h1 h2'
  | scalar => exact tr_scalar_recv cfg sfh hF b c hc ih H h1 h2
  | scalarData => exact tr_scalarData_recv cfg sfh hF b c hc ih H h1 h2
  | coll r => exact tr_coll_recv cfg sfh hF r b c H.fb H.fc h1 h2'
  | hash k v r => exact tr_hash_recv cfg sfh hF k v r b c ih H h1 h2'
  | typ x => exact tr_wrap_recv cfg sfh .typ (hF.cov .typ) x b c ih H h1 h2'
  | sensitive x => exact tr_wrap_recv cfg sfh .sensitive (hF.cov .sensitive) x b c ih H h1 h2'
  | iterator x => exact tr_wrap_recv cfg sfh .iterator (hF.cov .iterator) x b c ih H h1 h2'
  | variant as =>
    obtain ⟨x, hx, hxb⟩ := (recv_variant_iff cfg sfh as b).1 h1
    exact (recv_variant_iff cfg sfh as c).2 ⟨x, hx, ih.left H (Ty.w_lt_variant hx) (hF.variant H.fa x hx) hxb h2⟩
  | optional x =>
    rw [recv_optional_iff] at h1 ⊢
    rcases h1 with h1 | h1
    · -- b is Undef, so c is Undef
      cases undef_accepts_plain cfg sfh hb h1
      cases (recv_undef_iff cfg sfh c).1 h2'
      exact Or.inl (asg_undef_undef cfg sfh)
    · exact Or.inr (ih.left H (Ty.w_lt_cov .optional x) (hF.cov .optional H.fa) h1 h2)
  | notUndef x =>
    have h1' : asg cfg sfh b .undef = false ∧ asg cfg sfh x b = true := by
      rw [recv_nu_plain cfg sfh hb] at h1; simpa using h1
    have hxc := ih.left H (Ty.w_lt_cov .notUndef x) (hF.cov .notUndef H.fa) h1'.2 h2
    have hcu : asg cfg sfh c .undef = false := by
      cases hh : asg cfg sfh c .undef with
      | false => rfl
      | true =>
        have := trans_undef_gen cfg sfh hF b c H.fb H.fc h2 hh
        rw [this] at h1'; exact absurd h1'.1 (by simp)
    have := nu_accepts cfg sfh x c hcu hxc
    exact recv_of_decomposed cfg sfh rfl hc this
  | _ => exact tr_leaf cfg sfh hl _ b c H.wb trivial h1 h2'

/-- `a ⊒ NotUndef[nb] ⊒ c` where `nb` accepts Undef, so that `a`'s own rule decided: `a` is a Variant or an Optional with a part that
    accepts `NotUndef[nb]` (the part is lighter; it accepts `c`, hence so does `a`), or a NotUndef (left to the caller) -/
theorem tr_nu_mid (hF : FragOK sfh F) (a nb c : Ty) (ihL : IHL cfg sfh F a (.notUndef nb) c) (H : FHyp cfg F a (.notUndef nb) c)
    (hA : a.isAny = false) (hnb : asg cfg sfh nb .undef = true)
    (h1 : asg cfg sfh a (.notUndef nb) = true) (h2 : asg cfg sfh (.notUndef nb) c = true)
    (hnu : ∀ x, a = .notUndef x → (asg cfg sfh x nb = true ∨ asg cfg sfh x (.notUndef nb) = true) → asg cfg sfh a c = true) :
    asg cfg sfh a c = true := by
  have hr := asg_nu_fall cfg sfh hA hnb h1
  have hu : a ≠ .unit := fun h => hF.unit (h ▸ H.fa)
  rcases recvNU_cases cfg sfh a nb hu hnb hr with h | ⟨as, x, rfl, hx, hxb⟩ | ⟨x, rfl, hx⟩ | ⟨x, rfl, hx⟩
  · subst h; simp [Ty.isAny] at hA
  · exact wv_all cfg sfh hx (ihL.left H (Ty.w_lt_variant hx) (hF.variant H.fa x hx) hxb h2)
  · exact wo_all cfg sfh (ihL.left H (Ty.w_lt_cov .optional x) (hF.cov .optional H.fa) hx h2)
  · exact hnu x rfl hx

theorem tr_mid (hl : LowerLen cfg) (hF : FragOK sfh F) (a b c : Ty)
    (ihL : IHL cfg sfh F a b c) (ihR : IHR cfg sfh F a b c) (hAl : ∀ x : Alias, F x.ty → AliasOK F)
    (call : ∀ p r k, a = .callable p r k → asgRecv cfg sfh a b = true → asgRecv cfg sfh b c = true → asgRecv cfg sfh a c = true)
    (H : FHyp cfg F a b c) (hA : a.isAny = false) (hc : c.plainR = true)
    (h1 : asg cfg sfh a b = true) (h2 : asg cfg sfh b c = true) : asg cfg sfh a c = true := by
  cases b with
  | unit => exact absurd H.fb hF.unit
  | data => exact tr_alias_mid cfg sfh hF (hAl .data H.fb) .data a c ihR H hc h1 h2
  | richData => exact tr_alias_mid cfg sfh hF (hAl .rich H.fb) .rich a c ihR H hc h1 h2
  | optional ob =>
    obtain ⟨hau, hao⟩ := asg_optional_parts cfg sfh h1
    rcases (recv_optional_iff cfg sfh ob c).1 (recv_of_decomposed cfg sfh rfl hc h2) with h2 | h2
    · exact ihR.mid hF .optU H hau h2
    · exact ihR.mid hF .opt H hao h2
  | variant bs =>
    obtain ⟨x, hx, hxc⟩ := (recv_variant_iff cfg sfh bs c).1 (recv_of_decomposed cfg sfh rfl hc h2)
    exact ihR.mid hF (.var hx) H (asg_variant_parts cfg sfh h1 x hx) hxc
  | notUndef nb =>
    have fb := hF.cov .notUndef H.fb
    have wb := H.wb.inner .notUndef
    have hnbw := Nat.le_of_lt (Ty.w_lt_cov .notUndef nb)
    -- NotUndef[nb]'s rule on the plain c
    have h2' : asg cfg sfh c .undef = false ∧ asg cfg sfh nb c = true := by
      have := recv_of_decomposed cfg sfh rfl hc h2
      rw [recv_nu_plain cfg sfh hc] at this; simpa using this
    by_cases hnb : asg cfg sfh nb .undef = true
    · refine tr_nu_mid cfg sfh hF a nb c ihL H hA hnb h1 h2 (fun x e hx => ?_)
      subst e
      have fa := hF.cov .notUndef H.fa
      have hxc : asg cfg sfh x c = true := by
        rcases hx with hx | hx
        · exact ihL x nb c (Ty.w_lt_cov .notUndef x) hnbw (Nat.le_refl _) ⟨fa, fb, H.fc, wb, H.wc⟩ hx h2'.2
        · exact ihL.left H (Ty.w_lt_cov .notUndef x) fa hx h2
      exact nu_accepts cfg sfh x c h2'.1 hxc
    · exact ihR.mid hF .nu H (asg_nu_strict cfg sfh (eq_false_of_ne_true hnb) h1) h2'.2
  | _ =>
    rcases asg_plain_cases cfg sfh hA rfl h1 with rfl | h1
    · exact h2
    · exact tr_recv cfg sfh hl hF a _ c ihL ihR hAl call H rfl hc h1 h2

/-- right-hand side is `NotUndef[nc]` with `nc` accepting Undef (the receiver's own NotUndef arm decides) -/
theorem tr_right_nu (hF : FragOK sfh F) (a b nc : Ty)
    (ihL : IHL cfg sfh F a b (.notUndef nc)) (ihR : IHR cfg sfh F a b (.notUndef nc))
    (H : FHyp cfg F a b (.notUndef nc)) (hA : a.isAny = false) (hnc : asg cfg sfh nc .undef = true)
    (h1 : asg cfg sfh a b = true) (h2 : asg cfg sfh b (.notUndef nc) = true) : asg cfg sfh a (.notUndef nc) = true := by
  have fc := hF.cov .notUndef H.fc
  have wc := H.wc.inner .notUndef
  have hncw := Nat.le_of_lt (Ty.w_lt_cov .notUndef nc)
  by_cases hB : b.isAny = true
  · cases Ty.isAny_eq hB
    exact accepts_any cfg sfh hF a H.fa h1 _
  have hB' := eq_false_of_ne_true hB
  have hr := asg_nu_fall cfg sfh hB' hnc h2
  have hub : b ≠ .unit := fun h => hF.unit (h ▸ H.fb)
  rcases recvNU_cases cfg sfh b nc hub hnc hr with h | ⟨bs, x, rfl, hx, hxc⟩ | ⟨ob, rfl, hoc⟩ | ⟨nb, rfl, hnbc⟩
  · subst h; simp [Ty.isAny] at hB
  · exact ihR.mid hF (.var hx) H (asg_variant_parts cfg sfh h1 x hx) hxc
  · exact ihR.mid hF .opt H (asg_optional_parts cfg sfh h1).2 hoc
  · have fb := hF.cov .notUndef H.fb
    have wb := H.wb.inner .notUndef
    have hnbw := Nat.le_of_lt (Ty.w_lt_cov .notUndef nb)
    by_cases hnb : asg cfg sfh nb .undef = true
    · refine tr_nu_mid cfg sfh hF a nb _ ihL H hA hnb h1 h2 (fun x e hx => ?_)
      subst e
      have fa := hF.cov .notUndef H.fa
      have hxw := Ty.w_lt_cov .notUndef x
      apply asg_of_recv cfg sfh (Or.inr ⟨nc, rfl, hnc⟩)
      rw [recv_nu_nu]
      simp only [Bool.or_eq_true]
      rcases hx with hx | hx
      · rcases hnbc with h | h
        · left; exact ihL x nb nc hxw hnbw hncw ⟨fa, fb, fc, wb, wc⟩ hx h
        · right; exact ihL x nb (.notUndef nc) hxw hnbw (Nat.le_refl _) ⟨fa, fb, H.fc, wb, H.wc⟩ hx h
      · right; exact ihL.left H hxw fa hx h2
    · have hnb' := eq_false_of_ne_true hnb
      have hanb := asg_nu_strict cfg sfh hnb' h1
      rcases hnbc with h | h
      · exfalso
        have := trans_undef_gen cfg sfh hF nb nc fb fc h hnc
        rw [this] at hnb'; cases hnb'
      · exact ihR.mid hF .nu H hanb h

theorem trans_step (hl : LowerLen cfg) (hF : FragOK sfh F) (a b c : Ty)
    (ihL : IHL cfg sfh F a b c) (ihR : IHR cfg sfh F a b c) (hAl : ∀ x : Alias, F x.ty → AliasOK F)
    (call : ∀ p r k, a = .callable p r k → asgRecv cfg sfh a b = true → asgRecv cfg sfh b c = true → asgRecv cfg sfh a c = true) :
    Tr cfg sfh F a b c := by
  intro H h1 h2
  by_cases hA : a.isAny = true
  · exact asg_of_isAny cfg sfh hA c
  have hA' := eq_false_of_ne_true hA
  cases c with
  | unit => exact absurd H.fc hF.unit
  | data => exact tr_alias_right cfg sfh hF (hAl .data H.fc) .data a b ihR H h1 h2
  | richData => exact tr_alias_right cfg sfh hF (hAl .rich H.fc) .rich a b ihR H h1 h2
  | optional oc =>
    obtain ⟨hbu, hbo⟩ := asg_optional_parts cfg sfh h2
    exact asg_optional_of cfg sfh (ihR.right hF .optU H h1 hbu) (ihR.right hF .opt H h1 hbo)
  | variant cs =>
    exact asg_variant_of cfg sfh fun t ht => ihR.right hF (.var ht) H h1 (asg_variant_parts cfg sfh h2 t ht)
  | notUndef nc =>
    by_cases hnc : asg cfg sfh nc .undef = true
    · exact tr_right_nu cfg sfh hF a b nc ihL ihR H hA' hnc h1 h2
    · have hnc' := eq_false_of_ne_true hnc
      exact asg_nu_of_strict cfg sfh hnc' (ihR.right hF .nu H h1 (asg_nu_strict cfg sfh hnc' h2))
  | _ => exact tr_mid cfg sfh hl hF a b _ ihL ihR hAl call H hA' rfl h1 h2

end

/-! ### the fragment `Ty.TV` meets `FragOK` and `AliasOK`, and the induction closes the step over it: by the level of Callables, then the
    weight of the left type, then the joint rank of the other two -/

/-- The fragment of the transitivity theorem.  `al` admits the two aliases and with them asks the int64 bound of Tuple lists (`AliasOK`);
    `k` bounds the nesting of Callables.  The level is part of the FRAGMENT, not of a measure on triples: a Callable of level `k + 1` has its
    parts in level `k`, where transitivity is known for all triples, so the reversed parameter and block tests (which swap the sides)
    need no measure of their own. -/
def Ty.TV (cfg : Cfg) (sfh al : Bool) (k : Nat) (t : Ty) : Prop :=
  match t with
  | .unit => False
  | .data | .richData => al = true
  | .callable p r b =>
      (match k with
       | 0 => False
       | k + 1 =>
        (p.isSome = true ∨ (r = none ∧ b = none)) ∧
        (match p with | none => True | some t' => Ty.TV cfg sfh al k t' ∧ Ty.WF cfg t') ∧
        (match r with | none => True | some t' => Ty.TV cfg sfh al k t' ∧ Ty.WF cfg t') ∧
        (match b with | none => True | some t' => Ty.TV cfg sfh al k t' ∧ Ty.WF cfg t'))
  | .struct ms => sfh = false ∧ NamesNodup ms ∧ ∀ m, ∀ (_ : m ∈ ms), Ty.TV cfg sfh al k m.2.2
  | .tuple ts _ => (al = true → (ts.length : Int) ≤ I64.max) ∧ ∀ t', ∀ (_ : t' ∈ ts), Ty.TV cfg sfh al k t'
  | .array e _ => Ty.TV cfg sfh al k e
  | .hash k' v _ => Ty.TV cfg sfh al k k' ∧ Ty.TV cfg sfh al k v
  | .variant ts => ∀ t', ∀ (_ : t' ∈ ts), Ty.TV cfg sfh al k t'
  | .optional t' | .notUndef t' | .sensitive t' | .iterator t' | .typ t' | .iterable t' => Ty.TV cfg sfh al k t'
  | _ => True
termination_by t.w
decreasing_by
  all_goals simp_wf
  all_goals (try simp only [Ty.w, Ty.wl, Ty.wm, Ty.wo] at *)
  all_goals first
    | omega
    | (have := Ty.w_lt_wl ‹_ ∈ _›; omega)
    | (have := Ty.w_lt_wm ‹_ ∈ _›; omega)

variable (al : Bool) (k : Nat)

theorem fragOK_TV : FragOK sfh (Ty.TV cfg sfh al k) where
  unit := fun h => by unfold Ty.TV at h; exact h
  leaf := fun t h => by cases t <;> simp only [Ty.isLeaf] at h <;> (first | contradiction | (unfold Ty.TV; trivial))
  array := fun h => by unfold Ty.TV at h; exact h
  hash := fun h => by unfold Ty.TV at h; exact h
  tuple := fun h => by unfold Ty.TV at h; exact h.2
  entry := fun hk hv => by
    unfold Ty.TV
    refine ⟨fun _ => by simp [I64.max], ?_⟩
    intro t ht
    simp only [List.mem_cons, List.not_mem_nil, or_false] at ht
    rcases ht with rfl | rfl <;> assumption
  struct := fun h => by unfold Ty.TV at h; exact h
  variant := fun h => by unfold Ty.TV at h; exact h
  cov := fun hc h => by cases hc <;> (unfold Ty.TV at h; exact h)

theorem aliasOK_TV : AliasOK (Ty.TV cfg sfh true k) where
  bound := fun h => by unfold Ty.TV at h; exact h.1 rfl
  mem := fun x => by cases x <;> simp [Alias.ty, Alias.key, Alias.arr, Alias.hsh, Ty.TV]
  typAny := by simp [Ty.TV]

theorem cp_of_tv {p r b : Option Ty} (h : (Ty.callable p r b).TV cfg sfh al (k + 1)) : CP cfg (Ty.TV cfg sfh al k) p r b := by
  unfold Ty.TV at h; exact h

theorem tv_alias (x : Alias) (h : x.ty.TV cfg sfh al k) : al = true := by
  cases x <;> (simp only [Alias.ty] at h; unfold Ty.TV at h; exact h)

theorem transU_all (hl : LowerLen cfg) : ∀ k a b c, Tr cfg sfh (Ty.TV cfg sfh al k) a b c := by
  intro k
  induction k using Nat.strongRecOn with
  | ind k ihk =>
    have main : ∀ n a b c, a.w ≤ n → Tr cfg sfh (Ty.TV cfg sfh al k) a b c := by
      intro n
      induction n with
      | zero => intro a b c hw; have := Ty.w_pos a; omega
      | succ n ih =>
        intro a b c hw
        have level : ∀ m b c, vw b + vw c = m → Tr cfg sfh (Ty.TV cfg sfh al k) a b c := by
          intro m
          induction m using Nat.strongRecOn with
          | ind m ihm =>
            intro b c hm H h1 h2
            have ihL : IHL cfg sfh (Ty.TV cfg sfh al k) a b c := fun a' b' c' h _ _ => ih a' b' c' (by omega)
            have ihR : IHR cfg sfh (Ty.TV cfg sfh al k) a b c := fun b' c' h => ihm _ (hm ▸ h) b' c' rfl
            refine trans_step cfg sfh hl (fragOK_TV cfg sfh al k) a b c ihL ihR
              (fun x fx => by cases tv_alias cfg sfh al k x fx; exact aliasOK_TV cfg sfh k) (fun p r b0 e h1 h2 => ?_) H h1 h2
            -- a Callable receiver: its parts, and those of the other two, lie one level down, where the order of the three is free
            subst e
            cases k with
            | zero => have := H.fa; unfold Ty.TV at this; exact this.elim
            | succ k0 =>
              exact tr_callable_gen cfg sfh (fragOK_TV cfg sfh al k0) p r b0 b c
                (fun x y z _ fx fy fz wy wz => ihk k0 (Nat.lt_succ_self _) x y z ⟨fx, fy, fz, wy, wz⟩)
                (cp_of_tv cfg sfh al k0 H.fa) (fun _ _ _ e => cp_of_tv cfg sfh al k0 (e ▸ H.fb))
                (fun _ _ _ e => cp_of_tv cfg sfh al k0 (e ▸ H.fc)) h1 h2
        exact level _ b c rfl
    exact fun a b c => main a.w a b c (Nat.le_refl _)

theorem transU (hl : LowerLen cfg) {a b c : Ty}
    (fa : a.TV cfg sfh al k) (fb : b.TV cfg sfh al k) (fc : c.TV cfg sfh al k) (wb : Ty.WF cfg b) (wc : Ty.WF cfg c)
    (h1 : asg cfg sfh a b = true) (h2 : asg cfg sfh b c = true) : asg cfg sfh a c = true :=
  transU_all cfg sfh al hl k a b c ⟨fa, fb, fc, wb, wc⟩ h1 h2

end Pcore.Lat

import Pcore.Proofs.LatTransU
import Pcore.Proofs.LatFrag
import Pcore.Proofs.LatInd
set_option linter.unusedSimpArgs false
/-! C03: the fragments of the property theorems.  The theorem is `transU` on `Ty.TV` (Proofs/LatTransU); the property theorems speak of smaller
    fragments, each with a hypothesis record and the statement of an induction over it: `Ty.TF` (`THyp`, `Trans`), `Ty.TG` / its shape `Ty.TS`
    (`GHyp`, `TransG`), `Ty.TGK` / its shape `Ty.TSK` (`GHypK`, `TransGK`: with Callable), `Ty.TD` / its shape `Ty.TA` (`DHyp`, `TransA`: with the
    aliases).  Fragment by fragment, each is shown to satisfy `FragOK` (and `AliasOK`), the general lemmas are instantiated at it, and it is
    related to the earlier ones by inclusion; the last part has the inclusions into `Ty.TV` and, through them, transitivity on each
    fragment from `transU` (`trans_all`, `transGK`, `transD_all`, `transD`).  Nothing in the general theory depends on this module. -/
namespace Pcore.Lat
variable (cfg : Cfg) (sfh : Bool)

/-! ### `Ty.TF` (Proofs/LatFrag): hereditarily no Unit, Struct, Iterable, Callable, Data / RichData -/

structure THyp (a b c : Ty) : Prop where
  fa : a.TF
  fb : b.TF
  fc : c.TF
  wb : Ty.WF cfg b
  wc : Ty.WF cfg c

def Trans (n : Nat) : Prop :=
  ∀ a b c, a.w + b.w + c.w ≤ n → THyp cfg a b c → asg cfg sfh a b = true → asg cfg sfh b c = true → asg cfg sfh a c = true

theorem fragOK_TF : FragOK sfh Ty.TF where
  unit := fun h => by unfold Ty.TF at h; exact h
  leaf := fun t h => by cases t <;> simp only [Ty.isLeaf] at h <;> (first | contradiction | (unfold Ty.TF; trivial))
  array := fun h => by unfold Ty.TF at h; exact h
  hash := fun h => by unfold Ty.TF at h; exact h
  tuple := fun h => by unfold Ty.TF at h; exact h
  entry := fun hk hv => by
    unfold Ty.TF; intro t ht
    simp only [List.mem_cons, List.not_mem_nil, or_false] at ht
    rcases ht with rfl | rfl <;> assumption
  struct := fun h => by unfold Ty.TF at h; exact h.elim
  variant := fun h => by unfold Ty.TF at h; exact h
  cov := fun hc h => by cases hc <;> (unfold Ty.TF at h; first | exact h | exact h.elim)

/-- about `Ty.WF` alone, not about the fragment; nothing below uses it -/
theorem wf_any : Ty.WF cfg .any := Ty.wf_of_fragLeaf rfl cfg

theorem tf_any : Ty.TF .any := by unfold Ty.TF; trivial

theorem THyp.gen {a b c : Ty} (H : THyp cfg a b c) : FHyp cfg Ty.TF a b c := ⟨H.fa, H.fb, H.fc, H.wb, H.wc⟩

theorem Trans.ihl {n : Nat} (ih : Trans cfg sfh n) {a b c : Ty} (hw : a.w + b.w + c.w ≤ n + 1) : IHL cfg sfh Ty.TF a b c :=
  fun a' b' c' _ _ _ H => ih a' b' c' (by omega) ⟨H.fa, H.fb, H.fc, H.wb, H.wc⟩

theorem tr_scalar (n : Nat) (ih : Trans cfg sfh n) (b c : Ty) (hw : Ty.scalar.w + b.w + c.w ≤ n + 1)
    (H : THyp cfg .scalar b c) (hc : c.plainR = true)
    (h1 : asgRecv cfg sfh .scalar b = true) (h2 : asg cfg sfh b c = true) : asg cfg sfh .scalar c = true :=
  asg_of_recv cfg sfh (Or.inl hc) (tr_scalar_recv cfg sfh (fragOK_TF sfh) b c hc (ih.ihl cfg sfh hw) H.gen h1 h2)

set_option linter.unusedVariables false in
theorem tr_pos (n : Nat) (ih : Trans cfg sfh n) (a b c : Ty) (pa : a.isPos = true) (pb : b.isPos = true) (pc : c.isPos = true)
    (hw : a.w + b.w + c.w ≤ n + 1) (H : THyp cfg a b c)
    (h1 : asgRecv cfg sfh a b = true) (h2 : asgRecv cfg sfh b c = true) : asgRecv cfg sfh a c = true :=
  tr_pos_recv cfg sfh (fragOK_TF sfh) a b c pa (ih.ihl cfg sfh hw) H.gen h1 h2

/-! ### `Ty.TG`, `Ty.TS`: with Iterable, and Struct when the Struct-from-Hash rule is off.  `Ty.TS` reaches `Ty.TV` through `Ty.TSK`
    (`Ty.TS.tsK`); `Ty.TG` is spoken of by `Ty.TF.tg`, `tg_any` and `trG_iterable` only. -/

/-- Fragment of transitivity: hereditarily none of Unit, Callable, Data / RichData; a Struct only with the Struct-from-Hash rule
    off, its member names pairwise different (what `Ty.WF` states; kept inside the fragment so that the induction carries it for the
    left-hand type too). -/
def Ty.TG (sfh : Bool) (t : Ty) : Prop :=
  match t with
  | .unit | .data | .richData | .callable _ _ _ => False
  | .struct ms => sfh = false ∧ NamesNodup ms ∧ ∀ m, ∀ (_ : m ∈ ms), Ty.TG sfh m.2.2
  | .tuple ts _ => ∀ t', ∀ (_ : t' ∈ ts), Ty.TG sfh t'
  | .array e _ => Ty.TG sfh e
  | .hash k v _ => Ty.TG sfh k ∧ Ty.TG sfh v
  | .variant ts => ∀ t', ∀ (_ : t' ∈ ts), Ty.TG sfh t'
  | .optional t' | .notUndef t' | .sensitive t' | .iterator t' | .typ t' | .iterable t' => Ty.TG sfh t'
  | _ => True
termination_by t.w
decreasing_by
  all_goals simp_wf
  all_goals (try simp only [Ty.w, Ty.wl, Ty.wm] at *)
  all_goals first
    | omega
    | (have := Ty.w_lt_wl ‹_ ∈ _›; omega)
    | (have := Ty.w_lt_wm ‹_ ∈ _›; omega)

theorem Ty.TF.tg : ∀ (n : Nat) (t : Ty), t.w ≤ n → t.TF → t.TG sfh := by
  intro _ t hw; clear hw
  induction t using Ty.ind with
  | array e r ih => intro h; unfold Ty.TF at h; unfold Ty.TG; exact ih h
  | hash x v r ihx ihv => intro h; unfold Ty.TF at h; unfold Ty.TG; exact ⟨ihx h.1, ihv h.2⟩
  | tuple ts g ih => intro h; unfold Ty.TF at h; unfold Ty.TG; exact fun t' ht => ih t' ht (h t' ht)
  | variant ts ih => intro h; unfold Ty.TF at h; unfold Ty.TG; exact fun t' ht => ih t' ht (h t' ht)
  | optional x ih | notUndef x ih | typ x ih | sensitive x ih | iterator x ih => intro h; unfold Ty.TF at h; unfold Ty.TG; exact ih h
  | unit | data | richData => intro h; unfold Ty.TF at h; exact h.elim
  | struct ms => intro h; unfold Ty.TF at h; exact h.elim
  | iterable x => intro h; unfold Ty.TF at h; exact h.elim
  | callable p r b => intro h; unfold Ty.TF at h; exact h.elim
  | _ => intro _; unfold Ty.TG; trivial

structure GHyp (a b c : Ty) : Prop where
  fa : a.TG sfh
  fb : b.TG sfh
  fc : c.TG sfh
  wb : Ty.WF cfg b
  wc : Ty.WF cfg c

def TransG (n : Nat) : Prop :=
  ∀ a b c, a.w + b.w + c.w ≤ n → GHyp cfg sfh a b c → asg cfg sfh a b = true → asg cfg sfh b c = true → asg cfg sfh a c = true

theorem fragOK_TG : FragOK sfh (Ty.TG sfh) where
  unit := fun h => by unfold Ty.TG at h; exact h
  leaf := fun t h => by cases t <;> simp only [Ty.isLeaf] at h <;> (first | contradiction | (unfold Ty.TG; trivial))
  array := fun h => by unfold Ty.TG at h; exact h
  hash := fun h => by unfold Ty.TG at h; exact h
  tuple := fun h => by unfold Ty.TG at h; exact h
  entry := fun hk hv => by
    unfold Ty.TG; intro t ht
    simp only [List.mem_cons, List.not_mem_nil, or_false] at ht
    rcases ht with rfl | rfl <;> assumption
  struct := fun h => by unfold Ty.TG at h; exact h
  variant := fun h => by unfold Ty.TG at h; exact h
  cov := fun hc h => by cases hc <;> (unfold Ty.TG at h; exact h)

theorem tg_any : Ty.TG sfh .any := by unfold Ty.TG; trivial

theorem GHyp.gen {a b c : Ty} (H : GHyp cfg sfh a b c) : FHyp cfg (Ty.TG sfh) a b c := ⟨H.fa, H.fb, H.fc, H.wb, H.wc⟩

theorem TransG.ihl {n : Nat} (ih : TransG cfg sfh n) {a b c : Ty} (hw : a.w + b.w + c.w ≤ n + 1) : IHL cfg sfh (Ty.TG sfh) a b c :=
  fun a' b' c' _ _ _ H => ih a' b' c' (by omega) ⟨H.fa, H.fb, H.fc, H.wb, H.wc⟩

theorem trG_iterable (n : Nat) (ih : TransG cfg sfh n) (x : Ty) (b c : Ty) (hw : (Ty.iterable x).w + b.w + c.w ≤ n + 1)
    (H : GHyp cfg sfh (.iterable x) b c)
    (h1 : asgRecv cfg sfh (.iterable x) b = true) (h2 : asgRecv cfg sfh b c = true) : asgRecv cfg sfh (.iterable x) c = true :=
  tr_iterable_recv cfg sfh (fragOK_TG sfh) x b c (ih.ihl cfg sfh hw) H.gen h1 h2

/-- The fragment of `C03_trans_struct_partial`, shape only: hereditarily none of Unit, Data / RichData; Struct (members of any
    nesting) only with the Struct-from-Hash rule off.  `Ty.TS true` is `Ty.TF` plus Iterable. -/
def Ty.TS (sfh : Bool) (t : Ty) : Prop :=
  match t with
  | .unit | .data | .richData | .callable _ _ _ => False
  | .struct ms => sfh = false ∧ ∀ m, ∀ (_ : m ∈ ms), Ty.TS sfh m.2.2
  | .tuple ts _ => ∀ t', ∀ (_ : t' ∈ ts), Ty.TS sfh t'
  | .array e _ => Ty.TS sfh e
  | .hash k v _ => Ty.TS sfh k ∧ Ty.TS sfh v
  | .variant ts => ∀ t', ∀ (_ : t' ∈ ts), Ty.TS sfh t'
  | .optional t' | .notUndef t' | .sensitive t' | .iterator t' | .typ t' | .iterable t' => Ty.TS sfh t'
  | _ => True
termination_by t.w
decreasing_by
  all_goals simp_wf
  all_goals (try simp only [Ty.w, Ty.wl, Ty.wm] at *)
  all_goals first
    | omega
    | (have := Ty.w_lt_wl ‹_ ∈ _›; omega)
    | (have := Ty.w_lt_wm ‹_ ∈ _›; omega)

/-! ### `Ty.TGK`, `Ty.TSK`: with Callable -/

/-- `Ty.TG` plus Callable: hereditarily none of Unit, Data / RichData; a Struct only with the Struct-from-Hash rule off, its member names
    pairwise different (what `Ty.WF` states; kept inside the fragment so that the induction carries it for the left-hand type too). -/
def Ty.TGK (cfg : Cfg) (sfh : Bool) (t : Ty) : Prop :=
  match t with
  | .unit | .data | .richData => False
  | .callable p r k =>
      -- a Callable is the default one or says something about its parameters (the excluded shape is the left type of the known finding
      -- C03-trans-callable-top); the parts lie in the fragment and are well-formed (they change sides in the reversed tests)
      (p.isSome = true ∨ (r = none ∧ k = none)) ∧
      (match p with | none => True | some t' => Ty.TGK cfg sfh t' ∧ Ty.WF cfg t') ∧
      (match r with | none => True | some t' => Ty.TGK cfg sfh t' ∧ Ty.WF cfg t') ∧
      (match k with | none => True | some t' => Ty.TGK cfg sfh t' ∧ Ty.WF cfg t')
  | .struct ms => sfh = false ∧ NamesNodup ms ∧ ∀ m, ∀ (_ : m ∈ ms), Ty.TGK cfg sfh m.2.2
  | .tuple ts _ => ∀ t', ∀ (_ : t' ∈ ts), Ty.TGK cfg sfh t'
  | .array e _ => Ty.TGK cfg sfh e
  | .hash k v _ => Ty.TGK cfg sfh k ∧ Ty.TGK cfg sfh v
  | .variant ts => ∀ t', ∀ (_ : t' ∈ ts), Ty.TGK cfg sfh t'
  | .optional t' | .notUndef t' | .sensitive t' | .iterator t' | .typ t' | .iterable t' => Ty.TGK cfg sfh t'
  | _ => True
termination_by t.w
decreasing_by
  all_goals simp_wf
  all_goals (try simp only [Ty.w, Ty.wl, Ty.wm, Ty.wo] at *)
  all_goals first
    | omega
    | (have := Ty.w_lt_wl ‹_ ∈ _›; omega)
    | (have := Ty.w_lt_wm ‹_ ∈ _›; omega)

theorem Ty.TF.tgK : ∀ (n : Nat) (t : Ty), t.w ≤ n → t.TF → t.TGK cfg sfh := by
  intro _ t hw; clear hw
  induction t using Ty.ind with
  | array e r ih => intro h; unfold Ty.TF at h; unfold Ty.TGK; exact ih h
  | hash x v r ihx ihv => intro h; unfold Ty.TF at h; unfold Ty.TGK; exact ⟨ihx h.1, ihv h.2⟩
  | tuple ts g ih => intro h; unfold Ty.TF at h; unfold Ty.TGK; exact fun t' ht => ih t' ht (h t' ht)
  | variant ts ih => intro h; unfold Ty.TF at h; unfold Ty.TGK; exact fun t' ht => ih t' ht (h t' ht)
  | optional x ih | notUndef x ih | typ x ih | sensitive x ih | iterator x ih => intro h; unfold Ty.TF at h; unfold Ty.TGK; exact ih h
  | unit | data | richData => intro h; unfold Ty.TF at h; exact h.elim
  | struct ms => intro h; unfold Ty.TF at h; exact h.elim
  | iterable x => intro h; unfold Ty.TF at h; exact h.elim
  | callable p r b => intro h; unfold Ty.TF at h; exact h.elim
  | _ => intro _; unfold Ty.TGK; trivial

structure GHypK (a b c : Ty) : Prop where
  fa : a.TGK cfg sfh
  fb : b.TGK cfg sfh
  fc : c.TGK cfg sfh
  wb : Ty.WF cfg b
  wc : Ty.WF cfg c

def TransGK (n : Nat) : Prop :=
  ∀ a b c, a.w + b.w + c.w ≤ n → GHypK cfg sfh a b c → asg cfg sfh a b = true → asg cfg sfh b c = true → asg cfg sfh a c = true

theorem fragOK_TGK : FragOK sfh (Ty.TGK cfg sfh) where
  unit := fun h => by unfold Ty.TGK at h; exact h
  leaf := fun t h => by cases t <;> simp only [Ty.isLeaf] at h <;> (first | contradiction | (unfold Ty.TGK; trivial))
  array := fun h => by unfold Ty.TGK at h; exact h
  hash := fun h => by unfold Ty.TGK at h; exact h
  tuple := fun h => by unfold Ty.TGK at h; exact h
  entry := fun hk hv => by
    unfold Ty.TGK; intro t ht
    simp only [List.mem_cons, List.not_mem_nil, or_false] at ht
    rcases ht with rfl | rfl <;> assumption
  struct := fun h => by unfold Ty.TGK at h; exact h
  variant := fun h => by unfold Ty.TGK at h; exact h
  cov := fun hc h => by cases hc <;> (unfold Ty.TGK at h; exact h)

theorem tg_anyK : Ty.TGK cfg sfh .any := by unfold Ty.TGK; trivial

/-- about `isStringFamily` alone, not about the fragment (one fact under two names); nothing below uses it -/
theorem family_not_others {b : Ty} (hb : isStringFamily b = true) : b.isPos = false := by
  unfold isStringFamily at hb
  split at hb <;> first | rfl | cases hb

theorem family_not_othersK {b : Ty} (hb : isStringFamily b = true) : b.isPos = false := family_not_others hb

/-- `accepts_any` at `Ty.TGK`, with a side condition on `c` that it does not need -/
theorem acceptsG_anyK : ∀ (n : Nat) (a : Ty), a.w ≤ n → a.TGK cfg sfh → asg cfg sfh a .any = true →
    ∀ c, c.NoAliasR → asg cfg sfh a c = true :=
  fun _ a _ fa h c _ => accepts_any cfg sfh (fragOK_TGK cfg sfh) a fa h c

theorem trK_callable (n : Nat) (ih : TransGK cfg sfh n) (p r k : Option Ty) (b c : Ty)
    (hw : (Ty.callable p r k).w + b.w + c.w ≤ n + 1) (H : GHypK cfg sfh (.callable p r k) b c)
    (h1 : asgRecv cfg sfh (.callable p r k) b = true) (h2 : asgRecv cfg sfh b c = true) :
    asgRecv cfg sfh (.callable p r k) c = true :=
  tr_callable_gen cfg sfh (fragOK_TGK cfg sfh) p r k b c
    (fun x y z hlt fx fy fz wy wz => ih x y z (by omega) ⟨fx, fy, fz, wy, wz⟩)
    (by have := H.fa; unfold Ty.TGK at this; exact this)
    (fun _ _ _ e => by have := H.fb; rw [e] at this; unfold Ty.TGK at this; exact this)
    (fun _ _ _ e => by have := H.fc; rw [e] at this; unfold Ty.TGK at this; exact this) h1 h2

/-- The fragment of `C03_trans_callable_partial`, shape only: `Ty.TS` plus every Callable that is the default one or has a parameter list. -/
def Ty.TSK (cfg : Cfg) (sfh : Bool) (t : Ty) : Prop :=
  match t with
  | .unit | .data | .richData => False
  | .callable p r k =>
      (p.isSome = true ∨ (r = none ∧ k = none)) ∧
      (match p with | none => True | some t' => Ty.TSK cfg sfh t') ∧ (match r with | none => True | some t' => Ty.TSK cfg sfh t') ∧
      (match k with | none => True | some t' => Ty.TSK cfg sfh t')
  | .struct ms => sfh = false ∧ ∀ m, ∀ (_ : m ∈ ms), Ty.TSK cfg sfh m.2.2
  | .tuple ts _ => ∀ t', ∀ (_ : t' ∈ ts), Ty.TSK cfg sfh t'
  | .array e _ => Ty.TSK cfg sfh e
  | .hash k v _ => Ty.TSK cfg sfh k ∧ Ty.TSK cfg sfh v
  | .variant ts => ∀ t', ∀ (_ : t' ∈ ts), Ty.TSK cfg sfh t'
  | .optional t' | .notUndef t' | .sensitive t' | .iterator t' | .typ t' | .iterable t' => Ty.TSK cfg sfh t'
  | _ => True
termination_by t.w
decreasing_by
  all_goals simp_wf
  all_goals (try simp only [Ty.w, Ty.wl, Ty.wm, Ty.wo] at *)
  all_goals first
    | omega
    | (have := Ty.w_lt_wl ‹_ ∈ _›; omega)
    | (have := Ty.w_lt_wm ‹_ ∈ _›; omega)

theorem Ty.TSK.tgK (t : Ty) : t.TSK cfg sfh → Ty.WF cfg t → t.TGK cfg sfh := by
  induction t using Ty.indCov with
  | cov c hc x ih => intro h wf; have wx := wf.inner hc; cases hc <;> (unfold Ty.TSK at h; unfold Ty.TGK; exact ih h wx)
  | array e r ih => intro h wf; unfold Ty.TSK at h; unfold Ty.TGK; exact ih h wf.elem
  | hash x v r ihx ihv => intro h wf; unfold Ty.TSK at h; unfold Ty.TGK; exact ⟨ihx h.1 wf.key, ihv h.2 wf.val⟩
  | tuple ts g ih => intro h wf; unfold Ty.TSK at h; unfold Ty.TGK; exact fun t' ht => ih t' ht (h t' ht) (wf.mem_tuple ht)
  | struct ms ih =>
    intro h wf; unfold Ty.TSK at h; unfold Ty.TGK
    exact ⟨h.1, wf.names, fun m hm => ih m hm (h.2 m hm) (wf.member hm)⟩
  | variant ts ih => intro h wf; unfold Ty.TSK at h; unfold Ty.TGK; exact fun t' ht => ih t' ht (h t' ht) (wf.mem_variant ht)
  | callable p r b ihp ihr ihb =>
    -- the parts change sides in the reversed tests, so `Ty.TGK` keeps their well-formedness
    intro h wf; unfold Ty.TSK at h; unfold Ty.TGK
    obtain ⟨wp, wr, wb⟩ := Ty.wf_callable.1 wf
    refine ⟨h.1, ?_, ?_, ?_⟩
    · cases p with
      | none => trivial
      | some t' => exact ⟨ihp t' rfl h.2.1 (wp t' rfl), wp t' rfl⟩
    · cases r with
      | none => trivial
      | some t' => exact ⟨ihr t' rfl h.2.2.1 (wr t' rfl), wr t' rfl⟩
    · cases b with
      | none => trivial
      | some t' => exact ⟨ihb t' rfl h.2.2.2 (wb t' rfl), wb t' rfl⟩
  | unit | data | richData => intro h _; unfold Ty.TSK at h; exact h.elim
  | _ => intro _ _; unfold Ty.TGK; trivial

theorem Ty.TS.tsK (t : Ty) : t.TS sfh → t.TSK cfg sfh := by
  induction t using Ty.ind with
  | array e r ih => intro h; unfold Ty.TS at h; unfold Ty.TSK; exact ih h
  | hash x v r ihx ihv => intro h; unfold Ty.TS at h; unfold Ty.TSK; exact ⟨ihx h.1, ihv h.2⟩
  | tuple ts g ih => intro h; unfold Ty.TS at h; unfold Ty.TSK; exact fun t' ht => ih t' ht (h t' ht)
  | struct ms ih => intro h; unfold Ty.TS at h; unfold Ty.TSK; exact ⟨h.1, fun m hm => ih m hm (h.2 m hm)⟩
  | variant ts ih => intro h; unfold Ty.TS at h; unfold Ty.TSK; exact fun t' ht => ih t' ht (h t' ht)
  | optional x ih | notUndef x ih | typ x ih | sensitive x ih | iterable x ih | iterator x ih =>
    intro h; unfold Ty.TS at h; unfold Ty.TSK; exact ih h
  | unit | data | richData => intro h; unfold Ty.TS at h; exact h.elim
  | callable p r b => intro h; unfold Ty.TS at h; exact h.elim
  | _ => intro _; unfold Ty.TSK; trivial

/-! ### `Ty.TD` (and its shape `Ty.TA`, Proofs/LatFrag): with the two aliases -/

/-- Fragment of transitivity with the aliases: hereditarily no Unit; a Struct only with the Struct-from-Hash rule off (member names pairwise
    different); a Tuple's type list fits an int64 length, as a Go slice does (the alias' Array member `Array[al, 0, MaxInt64]` is compared
    with the declared types at positions below MaxInt64 only). -/
def Ty.TD (sfh : Bool) (t : Ty) : Prop :=
  match t with
  | .unit | .callable _ _ _ => False
  | .struct ms => sfh = false ∧ NamesNodup ms ∧ ∀ m, ∀ (_ : m ∈ ms), Ty.TD sfh m.2.2
  | .tuple ts _ => ((ts.length : Int) ≤ I64.max) ∧ ∀ t', ∀ (_ : t' ∈ ts), Ty.TD sfh t'
  | .array e _ => Ty.TD sfh e
  | .hash k v _ => Ty.TD sfh k ∧ Ty.TD sfh v
  | .variant ts => ∀ t', ∀ (_ : t' ∈ ts), Ty.TD sfh t'
  | .optional t' | .notUndef t' | .sensitive t' | .iterator t' | .typ t' | .iterable t' => Ty.TD sfh t'
  | _ => True
termination_by t.w
decreasing_by
  all_goals simp_wf
  all_goals (try simp only [Ty.w, Ty.wl, Ty.wm] at *)
  all_goals first
    | omega
    | (have := Ty.w_lt_wl ‹_ ∈ _›; omega)
    | (have := Ty.w_lt_wm ‹_ ∈ _›; omega)

structure DHyp (a b c : Ty) : Prop where
  fa : a.TD sfh
  fb : b.TD sfh
  fc : c.TD sfh
  wb : Ty.WF cfg b
  wc : Ty.WF cfg c

def TransA (n : Nat) : Prop :=
  ∀ a b c, a.w ≤ n → DHyp cfg sfh a b c → asg cfg sfh a b = true → asg cfg sfh b c = true → asg cfg sfh a c = true

theorem fragOK_TD : FragOK sfh (Ty.TD sfh) where
  unit := fun h => by unfold Ty.TD at h; exact h
  leaf := fun t h => by cases t <;> simp only [Ty.isLeaf] at h <;> (first | contradiction | (unfold Ty.TD; trivial))
  array := fun h => by unfold Ty.TD at h; exact h
  hash := fun h => by unfold Ty.TD at h; exact h
  tuple := fun h => by unfold Ty.TD at h; exact h.2
  entry := fun hk hv => by
    unfold Ty.TD
    refine ⟨by simp [I64.max], ?_⟩
    intro t ht
    simp only [List.mem_cons, List.not_mem_nil, or_false] at ht
    rcases ht with rfl | rfl <;> assumption
  struct := fun h => by unfold Ty.TD at h; exact h
  variant := fun h => by unfold Ty.TD at h; exact h
  cov := fun hc h => by cases hc <;> (unfold Ty.TD at h; exact h)

theorem aliasOK_TD : AliasOK (Ty.TD sfh) where
  bound := fun h => by unfold Ty.TD at h; exact h.1
  mem := fun al => by cases al <;> simp [Alias.ty, Alias.key, Alias.arr, Alias.hsh, Ty.TD]
  typAny := by simp [Ty.TD]

theorem td_any : Ty.TD sfh .any := by unfold Ty.TD; trivial

theorem DHyp.gen {a b c : Ty} (H : DHyp cfg sfh a b c) : FHyp cfg (Ty.TD sfh) a b c := ⟨H.fa, H.fb, H.fc, H.wb, H.wc⟩

theorem TransA.ihl {n : Nat} (ih : TransA cfg sfh n) {a : Ty} (hw : a.w ≤ n + 1) (b c : Ty) : IHL cfg sfh (Ty.TD sfh) a b c :=
  fun a' b' c' _ _ _ H => ih a' b' c' (by omega) ⟨H.fa, H.fb, H.fc, H.wb, H.wc⟩

theorem tr_hash_open (k v : Ty) (r : Rng) (b c : Ty) (fb : b.TD sfh) (fc : c.TD sfh) (wb : Ty.WF cfg b) (wc : Ty.WF cfg c)
    (elK : ∀ k' c', k'.TD sfh → c'.TD sfh → Ty.WF cfg k' → Ty.WF cfg c' → asg cfg sfh k k' = true → asg cfg sfh k' c' = true →
      asg cfg sfh k c' = true)
    (elV : ∀ v' c', IsVal b v' → IsVal c c' → v'.TD sfh → c'.TD sfh → Ty.WF cfg v' → Ty.WF cfg c' → asg cfg sfh v v' = true →
      asg cfg sfh v' c' = true → asg cfg sfh v c' = true)
    (h1 : asgRecv cfg sfh (.hash k v r) b = true) (h2 : asgRecv cfg sfh b c = true) : asgRecv cfg sfh (.hash k v r) c = true :=
  tr_hash_gen cfg sfh (fragOK_TD sfh) k v r b c fb fc wb wc (fun k' c' _ _ => elK k' c') elV h1 h2

theorem trD_iterator (n : Nat) (ihA : TransA cfg sfh n) (x : Ty) (b c : Ty) (hw : (Ty.iterator x).w ≤ n + 1)
    (H : DHyp cfg sfh (.iterator x) b c)
    (h1 : asgRecv cfg sfh (.iterator x) b = true) (h2 : asgRecv cfg sfh b c = true) : asgRecv cfg sfh (.iterator x) c = true :=
  tr_wrap_recv cfg sfh .iterator ((fragOK_TD sfh).cov .iterator) x b c (ihA.ihl cfg sfh hw b c) H.gen h1 h2

theorem recvNUD_cases (a nb : Ty) (fa : a.TD sfh) (hnb : asg cfg sfh nb .undef = true)
    (h : asgRecv cfg sfh a (.notUndef nb) = true) :
    a = .any ∨ (∃ as m, a = .variant as ∧ m ∈ as ∧ asg cfg sfh m (.notUndef nb) = true) ∨
    (∃ x, a = .optional x ∧ asg cfg sfh x (.notUndef nb) = true) ∨
    (∃ x, a = .notUndef x ∧ (asg cfg sfh x nb = true ∨ asg cfg sfh x (.notUndef nb) = true)) :=
  recvNU_cases cfg sfh a nb (fun h => (fragOK_TD sfh).unit (h ▸ fa)) hnb h

theorem acceptsD_any : ∀ (n : Nat) (a : Ty), a.w ≤ n → a.TD sfh → asg cfg sfh a .any = true → ∀ c, asg cfg sfh a c = true :=
  fun _ a _ fa h c => accepts_any cfg sfh (fragOK_TD sfh) a fa h c

theorem trans_undef : ∀ (n : Nat) (c : Ty), c.w ≤ n → c.TD sfh → ∀ b : Ty, b.TD sfh → asg cfg sfh b c = true →
    asg cfg sfh c .undef = true → asg cfg sfh b .undef = true :=
  fun _ c _ fc b fb h1 h2 => trans_undef_gen cfg sfh (fragOK_TD sfh) b c fb fc h1 h2

theorem fold_arr (al : Alias) : ∀ (n : Nat) (a : Ty), a.w ≤ n → a.TD sfh → asgToArr cfg sfh al a = asg cfg sfh a al.arr :=
  fun _ a _ => asgToArr_eq cfg sfh (fragOK_TD sfh) (aliasOK_TD sfh) al a

theorem fold_entry (al : Alias) : ∀ (n : Nat) (a : Ty), a.w ≤ n → a.TD sfh → asgToEntry cfg sfh al a = asg cfg sfh a al.ent :=
  fun _ a _ => asgToEntry_eq cfg sfh (fragOK_TD sfh) al a

theorem fold_hash (al : Alias) : ∀ (n : Nat) (a : Ty), a.w ≤ n → a.TD sfh → asgToHash cfg sfh al a = asg cfg sfh a al.hsh :=
  fun _ a _ => asgToHash_eq cfg sfh (fragOK_TD sfh) al a

theorem acc_mono {P : Ty → Bool} (hP : AccLike cfg sfh P) : ∀ (n : Nat) (a b : Ty), a.w + b.w ≤ n → a.TD sfh → b.TD sfh →
    asg cfg sfh a b = true → P b = true → P a = true :=
  fun _ a b _ => acc_of_asg cfg sfh (fragOK_TD sfh) hP a b

theorem Ty.TA.toTD (t : Ty) : t.TA sfh → Ty.WF cfg t → t.TD sfh := by
  induction t using Ty.indCov with
  | cov c hc x ih => intro h wf; have wx := wf.inner hc; cases hc <;> (unfold Ty.TA at h; unfold Ty.TD; exact ih h wx)
  | array e r ih => intro h wf; unfold Ty.TA at h; unfold Ty.TD; exact ih h wf.elem
  | hash x v r ihx ihv => intro h wf; unfold Ty.TA at h; unfold Ty.TD; exact ⟨ihx h.1 wf.key, ihv h.2 wf.val⟩
  | tuple ts g ih => intro h wf; unfold Ty.TA at h; unfold Ty.TD; exact ⟨h.1, fun t' ht => ih t' ht (h.2 t' ht) (wf.mem_tuple ht)⟩
  | struct ms ih =>
    intro h wf; unfold Ty.TA at h; unfold Ty.TD
    exact ⟨h.1, wf.names, fun m hm => ih m hm (h.2 m hm) (wf.member hm)⟩
  | variant ts ih => intro h wf; unfold Ty.TA at h; unfold Ty.TD; exact fun t' ht => ih t' ht (h t' ht) (wf.mem_variant ht)
  | unit => intro h _; unfold Ty.TA at h; exact h.elim
  | callable p r b => intro h _; unfold Ty.TA at h; exact h.elim
  | _ => intro _ _; unfold Ty.TD; trivial

theorem Ty.TA.td : ∀ (n : Nat) (t : Ty), t.w ≤ n → t.TA sfh → Ty.WF cfg t → t.TD sfh :=
  fun _ t _ => Ty.TA.toTD cfg sfh t

/-! ### into `Ty.TV`: `Ty.TGK` with the level of Callables bounded by the weight, `Ty.TD` at any level; transitivity on each fragment is
    `transU` through these inclusions and those between the fragments -/

theorem Ty.TGK.tv (t : Ty) : ∀ k, t.w ≤ k → t.TGK cfg sfh → t.TV cfg sfh false k := by
  induction t using Ty.ind with
  | array e r ih => intro k hk h; unfold Ty.TGK at h; unfold Ty.TV; simp only [Ty.w] at hk; exact ih k (by omega) h
  | hash x v r ihx ihv =>
    intro k hk h; unfold Ty.TGK at h; unfold Ty.TV; simp only [Ty.w] at hk
    exact ⟨ihx k (by omega) h.1, ihv k (by omega) h.2⟩
  | tuple ts g ih =>
    intro k hk h; unfold Ty.TGK at h; unfold Ty.TV; simp only [Ty.w] at hk
    exact ⟨fun e => Bool.noConfusion e, fun t' ht => ih t' ht k (by have := Ty.w_lt_wl ht; omega) (h t' ht)⟩
  | struct ms ih =>
    intro k hk h; unfold Ty.TGK at h; unfold Ty.TV; simp only [Ty.w] at hk
    exact ⟨h.1, h.2.1, fun m hm => ih m hm k (by have := Ty.w_lt_wm hm; omega) (h.2.2 m hm)⟩
  | variant ts ih =>
    intro k hk h; unfold Ty.TGK at h; unfold Ty.TV; simp only [Ty.w] at hk
    exact fun t' ht => ih t' ht k (by have := Ty.w_lt_wl ht; omega) (h t' ht)
  | optional x ih | notUndef x ih | typ x ih | sensitive x ih | iterable x ih | iterator x ih =>
    intro k hk h; unfold Ty.TGK at h; unfold Ty.TV; simp only [Ty.w] at hk; exact ih k (by omega) h
  | callable p r b ihp ihr ihb =>
    -- the parts weigh less than the Callable, so they fit one level down
    intro k hk h; unfold Ty.TGK at h; simp only [Ty.w] at hk
    cases k with
    | zero => omega
    | succ k =>
      unfold Ty.TV
      refine ⟨h.1, ?_, ?_, ?_⟩
      · cases p with
        | none => trivial
        | some t' => simp only [Ty.wo] at hk; exact ⟨ihp t' rfl k (by omega) h.2.1.1, h.2.1.2⟩
      · cases r with
        | none => trivial
        | some t' => simp only [Ty.wo] at hk; exact ⟨ihr t' rfl k (by omega) h.2.2.1.1, h.2.2.1.2⟩
      · cases b with
        | none => trivial
        | some t' => simp only [Ty.wo] at hk; exact ⟨ihb t' rfl k (by omega) h.2.2.2.1, h.2.2.2.2⟩
  | unit | data | richData => intro k _ h; unfold Ty.TGK at h; exact h.elim
  | _ => intro k _ _; unfold Ty.TV; trivial

theorem Ty.TD.tv (k : Nat) (t : Ty) : t.TD sfh → t.TV cfg sfh true k := by
  induction t using Ty.ind with
  | array e r ih => intro h; unfold Ty.TD at h; unfold Ty.TV; exact ih h
  | hash x v r ihx ihv => intro h; unfold Ty.TD at h; unfold Ty.TV; exact ⟨ihx h.1, ihv h.2⟩
  | tuple ts g ih => intro h; unfold Ty.TD at h; unfold Ty.TV; exact ⟨fun _ => h.1, fun t' ht => ih t' ht (h.2 t' ht)⟩
  | struct ms ih => intro h; unfold Ty.TD at h; unfold Ty.TV; exact ⟨h.1, h.2.1, fun m hm => ih m hm (h.2.2 m hm)⟩
  | variant ts ih => intro h; unfold Ty.TD at h; unfold Ty.TV; exact fun t' ht => ih t' ht (h t' ht)
  | optional x ih | notUndef x ih | typ x ih | sensitive x ih | iterable x ih | iterator x ih =>
    intro h; unfold Ty.TD at h; unfold Ty.TV; exact ih h
  | unit => intro h; unfold Ty.TD at h; exact h.elim
  | callable p r b => intro h; unfold Ty.TD at h; exact h.elim
  | data | richData => intro _; unfold Ty.TV; rfl
  | _ => intro _; unfold Ty.TV; trivial

theorem trans_tgK (hl : LowerLen cfg) {a b c : Ty}
    (fa : a.TGK cfg sfh) (fb : b.TGK cfg sfh) (fc : c.TGK cfg sfh) (wb : Ty.WF cfg b) (wc : Ty.WF cfg c)
    (h1 : asg cfg sfh a b = true) (h2 : asg cfg sfh b c = true) : asg cfg sfh a c = true :=
  transU cfg sfh false (a.w + b.w + c.w) hl (Ty.TGK.tv cfg sfh a _ (by omega) fa)
    (Ty.TGK.tv cfg sfh b _ (by omega) fb) (Ty.TGK.tv cfg sfh c _ (by omega) fc) wb wc h1 h2

theorem trans_all (hl : ∀ s, (cfg.lower s).length = s.length) : ∀ n, Trans cfg sfh n :=
  fun _ a b c _ H =>
    trans_tgK cfg sfh hl (Ty.TF.tgK cfg sfh _ a (Nat.le_refl _) H.fa) (Ty.TF.tgK cfg sfh _ b (Nat.le_refl _) H.fb)
      (Ty.TF.tgK cfg sfh _ c (Nat.le_refl _) H.fc) H.wb H.wc

theorem transGK (hl : ∀ s, (cfg.lower s).length = s.length) (a b c : Ty)
    (fa : a.TSK cfg sfh) (fb : b.TSK cfg sfh) (fc : c.TSK cfg sfh) (wa : Ty.WF cfg a) (wb : Ty.WF cfg b) (wc : Ty.WF cfg c)
    (h1 : asg cfg sfh a b = true) (h2 : asg cfg sfh b c = true) : asg cfg sfh a c = true :=
  trans_tgK cfg sfh hl (Ty.TSK.tgK cfg sfh a fa wa) (Ty.TSK.tgK cfg sfh b fb wb) (Ty.TSK.tgK cfg sfh c fc wc) wb wc h1 h2

theorem transD_all (hl : ∀ s, (cfg.lower s).length = s.length) : ∀ n, TransA cfg sfh n :=
  fun _ a b c _ H =>
    transU cfg sfh true 0 hl (Ty.TD.tv cfg sfh 0 a H.fa) (Ty.TD.tv cfg sfh 0 b H.fb)
      (Ty.TD.tv cfg sfh 0 c H.fc) H.wb H.wc

theorem transD (hl : ∀ s, (cfg.lower s).length = s.length) (a b c : Ty)
    (fa : a.TA sfh) (fb : b.TA sfh) (fc : c.TA sfh) (wa : Ty.WF cfg a) (wb : Ty.WF cfg b) (wc : Ty.WF cfg c)
    (h1 : asg cfg sfh a b = true) (h2 : asg cfg sfh b c = true) : asg cfg sfh a c = true :=
  transD_all cfg sfh hl a.w a b c (Nat.le_refl _)
    ⟨Ty.TA.toTD cfg sfh a fa wa, Ty.TA.toTD cfg sfh b fb wb, Ty.TA.toTD cfg sfh c fc wc, wb, wc⟩ h1 h2

end Pcore.Lat

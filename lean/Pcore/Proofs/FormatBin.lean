import Pcore.Proofs.FormatInt
/-! The hand-written `p b B` branch of `integerValue.ToString`: it is fmt's `pad` around sign, prefix, fill and digits
    (`intPbB_eq_pad`), for `b B` a `field` (`intPbB_field`), and as such the printf reference (`intPbB_eq_cRef`). -/
namespace Pcore.Format

/-- the sign flag of a Format record is absent, `+` or a blank -/
def PlusOK (f : Fmt) : Prop := f.plus = none ∨ f.plus = some '+' ∨ f.plus = some ' '

theorem pbbSign_eq (f : Fmt) (i : Int) (hp : f.letter ≠ 'p') (hplus : PlusOK f) :
    pbbSign f i = signStr (decide (i < 0)) (decide (f.plus = some '+')) (decide (f.plus = some ' ')) := by
  unfold pbbSign signStr
  rw [if_neg hp]
  by_cases hn : i < 0
  · simp [hn]
  · rcases hplus with h | h | h <;> simp [hn, h]

theorem pbbDigits_bin (f : Fmt) (i : Int) (hb : f.letter = 'b' ∨ f.letter = 'B') :
    pbbDigits f i = natStr 2 false i.natAbs := by
  unfold pbbDigits
  rcases hb with h | h <;> simp [h]

/-- the one place `intPbB` is unfolded: a fill (blanks for `p`) between prefix and digits, then fmt's `pad` -/
theorem intPbB_eq_pad (f : Fmt) (i : Int) :
    intPbB f i = goPad f.left false f.width (pbbSign f i ++ pbbPrefix f i ++
      (if f.letter = 'p' then spaces (pbbZeroPad f i) else zeros (pbbZeroPad f i)) ++ pbbDigits f i) := by
  have hfill : (if f.letter = 'p' then spaces (pbbZeroPad f i) else zeros (pbbZeroPad f i)).length = pbbZeroPad f i :=
    iteInduction (motive := fun l : Str => l.length = _) (fun _ => spaces_length _) fun _ => zeros_length _
  have hl : (pbbSign f i ++ pbbPrefix f i ++ (if f.letter = 'p' then spaces (pbbZeroPad f i) else zeros (pbbZeroPad f i)) ++
      pbbDigits f i).length = (pbbSign f i).length + (pbbPrefix f i).length + (pbbDigits f i).length + pbbZeroPad f i := by
    simp only [List.length_append, hfill]; omega
  rw [goPad_eq, hl]
  unfold intPbB
  cases f.left <;> simp only [List.append_assoc, List.nil_append, List.append_nil, Bool.false_eq_true, if_false, if_true]

theorem intPbB_field (f : Fmt) (i : Int) (hp : f.letter ≠ 'p') :
    intPbB f i = field f.left f.width (pbbSign f i) (pbbPrefix f i) (pbbZeroPad f i) (pbbDigits f i) := by
  rw [intPbB_eq_pad, if_neg hp]; rfl

/-- the directive of a Format record as printf reads it (the sign flag: `+` overrides the blank) -/
def pbbSpec (f : Fmt) : GoSpec :=
  { sharp := f.alt, zero := f.zeroPad, plus := decide (f.plus = some '+'), minus := f.left,
    space := decide (f.plus = some ' '), wid := f.width, prec := f.prec, verb := f.letter }

/-- **`b B` = the printf reference**, for every integer and every combination of flags, width and precision; the one
    point left out is the value 0 with precision 0, where the branch prints the digit 0 (as Ruby does; it reads back) -/
theorem intPbB_eq_cRef (f : Fmt) (i : Int) (hb : f.letter = 'b' ∨ f.letter = 'B') (hplus : PlusOK f)
    (hne : ¬ (i = 0 ∧ f.prec = some 0)) : intPbB f i = cRef (pbbSpec f) i := by
  have hp : f.letter ≠ 'p' := by rcases hb with h | h <;> rw [h] <;> decide
  have ho : (pbbSpec f).verb ≠ 'o' := fun h => by
    rcases hb with h' | h' <;> exact absurd (h'.symm.trans h) (by decide)
  have hpf : cPfx (pbbSpec f) (decide (i.natAbs ≠ 0)) = pbbPrefix f i := by
    show (if f.alt = true ∧ (f.letter = 'x' ∨ f.letter = 'X' ∨ f.letter = 'b' ∨ f.letter = 'B') ∧
      decide (i.natAbs ≠ 0) = true then ['0', f.letter] else []) = pbbPrefix f i
    unfold pbbPrefix
    have h0 : i.natAbs ≠ 0 ↔ i ≠ 0 := by omega
    rcases hb with h | h <;> simp [h, h0]
  have hdig : (if i.natAbs = 0 ∧ (pbbSpec f).prec = some 0 then ([] : Str)
      else natStr (cBase (pbbSpec f).verb) (decide ((pbbSpec f).verb = 'X')) i.natAbs) = pbbDigits f i := by
    rw [if_neg (fun h => hne ⟨by omega, h.2⟩), pbbDigits_bin f i hb]
    show natStr (cBase f.letter) (decide (f.letter = 'X')) i.natAbs = _
    rcases hb with h | h <;> rw [h] <;> rfl
  rw [cRef_eq, hdig, cAbs, cOct_of_ne ho, hpf, intPbB_field f i hp, pbbSign_eq f i hp hplus]
  refine field_cLayout _ _ _ _ _ _ _ _ ?_
  show pbbZeroPad f i = if ((f.zeroPad && f.prec.isNone) && !f.left) = true then _ else _
  unfold pbbZeroPad
  rw [← pbbSign_eq f i hp hplus, decide_eq_true hp, Bool.and_true]
  cases hprec : f.prec with
  | some p => simp only [pbbSpec, hprec, Option.isNone_some, Bool.and_false, Bool.false_and, Bool.false_eq_true, if_false]
  | none =>
    simp only [pbbSpec, hprec, Option.isNone_none, Bool.and_true, Option.getD_none, Nat.zero_sub, Nat.zero_add, Nat.add_assoc]
    cases f.zeroPad <;> cases f.left <;> simp only [Bool.not_true, Bool.not_false, Bool.and_self, Bool.and_false,
      Bool.false_and, Bool.false_eq_true, if_true, if_false, Nat.sub_sub, Nat.add_assoc]

end Pcore.Format

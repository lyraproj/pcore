import Pcore.Model.FormatX
import Pcore.Proofs.FormatContainer
/-! The extended model (`Model/FormatX.lean`): every value kind, format maps over any key system; on Proofs/FormatContainer.lean for the
    scalars and for `Res.bind` / `ResL.cons`.  In order: the letter sets and the letters under which the string flags apply; how SemVer /
    URI / SemVerRange / Types end; the side condition on the regenerated table `formatLettersX` (`XLettersOK`); what `GetFormat` answers;
    no Go fault for any value (`noFaultX`) under a map all of whose formats fmt understands (`AllGoOKG`). -/
namespace Pcore.Format

/-- the letters the model's function of a kind formats (`none`: the kind ignores the letter) -/
def modelLettersX : XKind → Option (List Char)
  | .int => modelLetters .int | .float => modelLetters .float | .str => modelLetters .str | .bool => modelLetters .bool
  | .bin => modelLetters .bin | .dflt => modelLetters .dflt | .arr => modelLetters .arr | .hash => modelLetters .hash
  | .undef => none | .regexp => none
  | .semver => some ['s', 'p']
  | .semverRange => some ['p', 's']
  | .uri => some ['s', 'p']
  | .tspan => none | .tstamp => none | .sensitive => none
  | .typ => some ['s', 'p']
  | .obj => some ['a', 'h', 's', 'p']
  | .talias => none
  | .otype => some ['s', 'p']

def acceptsX (k : XKind) (c : Char) : Bool :=
  match modelLettersX k with
  | some ls => ls.contains c
  | none => true

theorem acceptsX_old (k : Kind) (c : Char) : acceptsX k.x c = accepts k c := by
  cases k <;> rfl

theorem acceptsX_arr (c : Char) : acceptsX .arr c = isArrayLetter c := (acceptsX_old .arr c).trans (accepts_arr c)

theorem acceptsX_hash (c : Char) : acceptsX .hash c = (decide (c = 'a') || isHashLetter c) :=
  (acceptsX_old .hash c).trans (accepts_hash c)

/-- an object instance has the letters of a Hash: it is written as its init hash -/
theorem acceptsX_obj (c : Char) : acceptsX .obj c = (decide (c = 'a') || isHashLetter c) := accepts_hash c

theorem acceptsX_typ (c : Char) : acceptsX .typ c = isTypeLetter c := by
  simp [acceptsX, modelLettersX, isTypeLetter]

theorem acceptsX_otype (c : Char) : acceptsX .otype c = isTypeLetter c := by
  simp [acceptsX, modelLettersX, isTypeLetter]

/-- the letters under which the model's function of a kind applies the string flags (`ApplyStringFlags`: width, precision,
    `-`); `[]` for the kinds without a switch (those are `modelFlagsAlways`) -/
def modelFlagged : XKind → List Char
  | .int => ['c', 's'] | .float => ['p', 's'] | .str => ['s', 'p', 'c', 'C', 'u', 'd', 't']
  | .bool => ['t', 'T', 'y', 'Y', 's', 'p'] | .bin => ['s', 'p', 'b', 'B', 'u', 't', 'T'] | .dflt => ['d', 's', 'p', 'D']
  | .semver => ['s', 'p'] | .uri => ['s', 'p'] | .semverRange => ['p', 's'] | .typ => ['s', 'p'] | .otype => ['s', 'p']
  | _ => []

/-- kinds whose function applies the string flags whatever the letter -/
def modelFlagsAlways : XKind → Bool
  | .undef | .regexp => true
  | _ => false

/-- does the model apply width / precision / `-` to the rendering of kind `k` under letter `c` through `ApplyStringFlags`? -/
def honoursFlags (k : XKind) (c : Char) : Bool := modelFlagsAlways k || (modelFlagged k).contains c

/-! ### SemVer, URI, SemVerRange and parameterless Types end as the scalar kinds of `Format.lean` do (`Flagged`) -/

/-- the `switch` of SemVer, URI and SemVerRange: two letters format, any other letter is unsupported -/
theorem switch2_flagged (f : Fmt) (l c1 c2 : Char) (a b : Str) (qa qb : Bool) :
    Flagged f ([c1, c2].contains l)
      (if l = c1 then .text (applyStringFlags f a qa) else if l = c2 then .text (applyStringFlags f b qb) else .reported .unsupported) := by
  by_cases h1 : l = c1
  · rw [if_pos h1, show [c1, c2].contains l = true by simp [h1]]; exact .text _ _
  · by_cases h2 : l = c2
    · rw [if_neg h1, if_pos h2, show [c1, c2].contains l = true by simp [h2]]; exact .text _ _
    · rw [if_neg h1, if_neg h2, show [c1, c2].contains l = false by simp [h1, h2]]; exact .unsupported

theorem fmtSemVer_flagged (f : Fmt) (t : Str) : Flagged f (acceptsX .semver f.letter) (fmtSemVer f t) :=
  switch2_flagged f _ _ _ _ _ _ _

theorem fmtUri_flagged (f : Fmt) (t : Str) : Flagged f (acceptsX .uri f.letter) (fmtUri f t) :=
  switch2_flagged f _ _ _ _ _ _ _

theorem fmtSemVerRange_flagged (f : Fmt) (t n : Str) : Flagged f (acceptsX .semverRange f.letter) (fmtSemVerRange f t n) :=
  switch2_flagged f _ _ _ _ _ _ _

/-- `TypeToString` on a rendered parameter list: `ApplyStringFlags` of the whole text (without flags and `#s` it changes nothing) -/
theorem typeFinish_flagged (f : Fmt) (name ps : Str) : Flagged f true (typeFinish f name (.text ps)) := by
  unfold typeFinish
  simp only [Res.bind]
  split
  · exact .text _ _
  · rename_i h
    simp only [Bool.or_eq_true, not_or, Bool.not_eq_true] at h
    have := Flagged.text (f := f) (name ++ ps) false
    rwa [show applyStringFlags f (name ++ ps) false = name ++ ps by simp [applyStringFlags, h.2]] at this

/-! ### The side condition on the regenerated table: under `XLettersOK` its documented letters and its flag-applying letters are the model's -/

def allXKinds : List XKind := [.int, .float, .str, .bool, .undef, .dflt, .bin, .regexp, .arr, .hash,
  .semver, .semverRange, .uri, .tspan, .tstamp, .sensitive, .typ, .obj, .talias, .otype]

theorem allXKinds_complete (k : XKind) : k ∈ allXKinds := by cases k <;> decide

def rowOfX (tbl : List XLetterRow) (k : XKind) : Option XLetterRow := tbl.find? (fun r => r.kind == k)

/-- a row agrees with the model: the letters whose arm formats are exactly the documented literal and exactly the letters the
    model formats; the letters under which ApplyStringFlags is called are exactly those under which the model applies it -/
def rowCoreOKXb (r : XLetterRow) (k : XKind) : Bool :=
  (match modelLettersX k with
   | none => r.noSwitch && r.documented.isEmpty && r.handled.isEmpty && (r.flagsAll == modelFlagsAlways k) && r.flagged.isEmpty
   | some ls => !r.noSwitch && sameLetters r.handled r.documented && sameLetters r.documented ls &&
       !modelFlagsAlways k && sameLetters (if r.flagsAll then r.handled else r.flagged) (modelFlagged k))

def rowOKXb (tbl : List XLetterRow) (k : XKind) : Bool :=
  match rowOfX tbl k with
  | none => false
  | some r =>
    rowCoreOKXb r k && r.unknown.isEmpty &&
    (match rowOfX tbl .float with
     | some fr => r.toFloat.all fr.handled.contains
     | none => r.toFloat.isEmpty) &&
    (match rowOfX tbl .int with
     | some ir => r.toInt.all ir.handled.contains
     | none => r.toInt.isEmpty)

def lettersOKXb (tbl : List XLetterRow) : Bool := allXKinds.all (rowOKXb tbl)

/-- `XLettersOK`: for every value kind, handled = documented = what the model formats, string flags where the model applies them -/
def XLettersOK (tbl : List XLetterRow) : Prop := ∀ k : XKind, rowOKXb tbl k = true

theorem lettersOKXb_sound (tbl : List XLetterRow) (h : lettersOKXb tbl = true) : XLettersOK tbl := by
  intro k
  exact List.all_eq_true.mp h k (allXKinds_complete k)

/-- the documented set of a kind according to the table (every letter for a kind without a switch) -/
def documentedInX (tbl : List XLetterRow) (k : XKind) (c : Char) : Bool :=
  match rowOfX tbl k with
  | some r => r.noSwitch || r.documented.contains c
  | none => false

/-- the letters under which the code calls ApplyStringFlags, according to the table -/
def flaggedInX (tbl : List XLetterRow) (k : XKind) (c : Char) : Bool :=
  match rowOfX tbl k with
  | some r => if r.noSwitch then r.flagsAll else (if r.flagsAll then r.handled.contains c else r.flagged.contains c)
  | none => false

theorem XLettersOK.row {tbl : List XLetterRow} (h : XLettersOK tbl) (k : XKind) :
    ∃ r, rowOfX tbl k = some r ∧ rowCoreOKXb r k = true := by
  have hk := h k
  unfold rowOKXb at hk
  cases hr : rowOfX tbl k with
  | none => simp [hr] at hk
  | some r => simp only [hr, Bool.and_eq_true] at hk; exact ⟨r, rfl, hk.1.1.1⟩

theorem documentedInX_eq_acceptsX (tbl : List XLetterRow) (h : XLettersOK tbl) (k : XKind) (c : Char) :
    documentedInX tbl k c = acceptsX k c := by
  obtain ⟨r, hr, hcore⟩ := h.row k
  unfold rowCoreOKXb at hcore
  unfold documentedInX acceptsX
  rw [hr]
  cases hm : modelLettersX k with
  | none => simp [hm] at hcore ⊢; simp [hcore.1.1.1.1]
  | some ls =>
    simp only [hm, Bool.and_eq_true] at hcore ⊢
    have hn : r.noSwitch = false := by simpa using hcore.1.1.1.1
    rw [hn, sameLetters_contains hcore.1.1.2 c]; simp

theorem flaggedInX_eq_honours (tbl : List XLetterRow) (h : XLettersOK tbl) (k : XKind) (c : Char)
    (hacc : acceptsX k c = true) : flaggedInX tbl k c = honoursFlags k c := by
  obtain ⟨r, hr, hcore⟩ := h.row k
  unfold rowCoreOKXb at hcore
  unfold flaggedInX honoursFlags
  rw [hr]
  cases hm : modelLettersX k with
  | none =>
    simp [hm] at hcore
    have hfl : modelFlagged k = [] := by
      cases k <;> simp [modelLettersX, modelLetters] at hm <;> rfl
    simp [hcore.1.1.1.1, hcore.1.2, hfl]
  | some ls =>
    simp only [hm, Bool.and_eq_true] at hcore
    have hn : r.noSwitch = false := by simpa using hcore.1.1.1.1
    have hna : modelFlagsAlways k = false := by simpa using hcore.1.2
    simp only [hn, hna, ← sameLetters_contains hcore.2 c, Bool.false_eq_true, if_false, Bool.false_or]
    cases r.flagsAll <;> simp

/-! ### What `GetFormat` answers: the default tree, or the tree of an entry of the map -/

theorem getG_cases {κ : Type} (ks : KeySys κ) (m : GMap κ) (v : XVal) :
    getG ks m v = defaultTreeG ∨ ∃ k, (k, getG ks m v) ∈ m := by
  unfold getG
  cases hf : m.find? (fun e => ks.acc e.1 v) with
  | none => exact .inl rfl
  | some e => exact .inr ⟨e.1, List.mem_of_find?_eq_some hf⟩

theorem getG_cons {κ : Type} (ks : KeySys κ) (k : κ) (t : GTree κ) (m : GMap κ) (v : XVal) :
    getG ks ((k, t) :: m) v = if ks.acc k v then t else getG ks m v := by
  unfold getG; rw [List.find?_cons]; cases ks.acc k v <;> rfl

theorem getG_single (f : Fmt) (v : XVal) : getG kindKeys [(XKey.base .any, GTree.mk f none)] v = .mk f none := by
  rw [getG_cons]; rfl

theorem formatDirectiveX_eq_fmtX (io : FloatIO) (f : Fmt) (v : XVal) (d : Str) (h : newFormat d = .ok f) :
    formatDirectiveX io d v = fmtX kindKeys io [(.base .any, .mk f none)] Ind.default v := by
  unfold formatDirectiveX formatX; rw [h]

/-! ### What no Go fault asks of a map (`AllGoOKG`), and that a looked-up format and the container formats under it inherit it -/

mutual
inductive InTreeG {κ : Type} : Fmt → GTree κ → Prop
  | here (f : Fmt) (cf : Option (GMap κ)) : InTreeG f (.mk f cf)
  | deeper (g f : Fmt) (m : GMap κ) : InMapG g m → InTreeG g (.mk f (some m))
inductive InMapG {κ : Type} : Fmt → GMap κ → Prop
  | mk (g : Fmt) (k : κ) (t : GTree κ) (m : GMap κ) : (k, t) ∈ m → InTreeG g t → InMapG g m
end

/-- every format of the map, at any depth, is one fmt understands -/
def AllGoOKG {κ : Type} (m : GMap κ) : Prop := ∀ g, InMapG g m → GoOK g

theorem allGoOKG_defaultCF {κ : Type} (d : Key → κ) : AllGoOKG (defaultCFG d) := by
  intro g hg
  cases hg
  rename_i k t ht hmem
  simp [defaultCFG] at hmem
  rcases hmem with h | h | h | h | h | h | h | h <;> obtain ⟨rfl, rfl⟩ := h <;>
    (cases ht; decide)

theorem InTreeG.self {κ : Type} (t : GTree κ) : InTreeG t.f t := by cases t; exact .here _ _

theorem getG_goOK {κ : Type} (ks : KeySys κ) (m : GMap κ) (h : AllGoOKG m) (v : XVal) : GoOK (getG ks m v).f := by
  rcases getG_cases ks m v with hd | ⟨k, hk⟩
  · rw [hd]; exact goOK_simple 's' (by decide)
  · exact h _ (.mk _ k _ m hk (.self _))

theorem cfOfG_goOK {κ : Type} (ks : KeySys κ) (m : GMap κ) (h : AllGoOKG m) (v : XVal) : AllGoOKG (cfOfG ks (getG ks m v)) := by
  unfold cfOfG
  cases hc : (getG ks m v).cf with
  | none => exact allGoOKG_defaultCF _
  | some m' =>
    rcases getG_cases ks m v with hd | ⟨k, hk⟩
    · rw [hd] at hc; cases hc
    · intro g hg
      refine h g (.mk g k _ m hk ?_)
      cases ht : getG ks m v with
      | mk f cf => rw [ht] at hc; cases hc; exact .deeper g f m' hg

theorem allGoOKG_single {κ : Type} (f : Fmt) (h : GoOK f) (k : κ) : AllGoOKG [(k, GTree.mk f none)] := by
  intro g hg
  cases hg
  rename_i k' t ht hmem
  simp at hmem
  obtain ⟨rfl, rfl⟩ := hmem
  cases ht
  exact h

theorem allGoOKG_ite {κ : Type} (c : Prop) [Decidable c] {m cf : GMap κ} (hm : AllGoOKG m) (hcf : AllGoOKG cf) :
    AllGoOKG (if c then m else cf) := by
  split <;> assumption

/-! ### No Go fault, every kind: each arm of `fmtX` is `if`, `Res.bind` and an assembler over results that carry no fault -/

theorem text_no_fault (s : Str) (k : FaultKind) : Res.text s ≠ .fault k := Res.noConfusion

theorem reported_no_fault (c : Code) (k : FaultKind) : Res.reported c ≠ .fault k := Res.noConfusion

theorem ite_no_fault (c : Prop) [Decidable c] (a b : Res) (ha : ∀ k, a ≠ .fault k) (hb : ∀ k, b ≠ .fault k) (k : FaultKind) :
    (if c then a else b) ≠ .fault k := by
  split
  · exact ha k
  · exact hb k

theorem arrayOf_no_fault (f : Fmt) (ind : Ind) (r : ResL (Str × Bool)) (h : NoFaultL r) (k : FaultKind) :
    arrayOf f ind r ≠ .fault k := by
  unfold arrayOf
  cases r with
  | ok parts => simp
  | err e => exact h e rfl k

theorem hashOf_no_fault (f : Fmt) (ind : Ind) (p : Bool) (r : ResL (Str × Str)) (h : NoFaultL r) (k : FaultKind) :
    hashOf f ind p r ≠ .fault k := by
  unfold hashOf
  cases r with
  | ok parts => simp
  | err e => exact h e rfl k

/-- `Hash.ToString2` after the letter checks: the Array of entries under `a`, else the Hash form -/
theorem hashBody_no_fault (c : Prop) [Decidable c] (ca ch : Bool) (fa fh : Fmt) (ind : Ind) (p : Bool) (ra : ResL (Str × Bool))
    (rh : ResL (Str × Str)) (ha : NoFaultL ra) (hh : NoFaultL rh) (k : FaultKind) :
    (if c then (if ca then Res.reported .unsupported else arrayOf fa ind ra)
     else if ch then Res.reported .unsupported else hashOf fh ind p rh) ≠ .fault k :=
  ite_no_fault _ _ _ (ite_no_fault _ _ _ (reported_no_fault _) (arrayOf_no_fault _ _ _ ha))
    (ite_no_fault _ _ _ (reported_no_fault _) (hashOf_no_fault _ _ _ _ hh)) k

theorem bind_no_fault (r : Res) (g : Str → Res) (h1 : ∀ k, r ≠ .fault k) (h2 : ∀ s k, g s ≠ .fault k) (k : FaultKind) :
    r.bind g ≠ .fault k := by
  cases r with
  | text s => exact h2 s k
  | reported c => exact Res.noConfusion
  | fault e => exact absurd rfl (h1 e)

theorem typeFinish_no_fault (f : Fmt) (name : Str) (r : Res) (h : ∀ k, r ≠ .fault k) (k : FaultKind) :
    typeFinish f name r ≠ .fault k :=
  bind_no_fault r _ h (fun ps => (typeFinish_flagged f name ps).no_fault) k

/-- where the model spells `Res.bind` as a `match` (stated here: only in the file of its user is this `match` the user's) -/
theorem Res.match_eq_bind (r : Res) (g : Str → Res) : (match r with | .text s => g s | e => e) = r.bind g := by
  cases r <;> rfl

theorem text_or_pass_no_fault (r : Res) (g : Str → Res) (hr : ∀ k, r ≠ .fault k) (hg : ∀ s k, g s ≠ .fault k) (k : FaultKind) :
    (match r with | .text s => g s | e => e) ≠ .fault k :=
  Res.match_eq_bind r g ▸ bind_no_fault r g hr hg k

theorem bind_text_no_fault (r : Res) (g : Str → Str) (h : ∀ k, r ≠ .fault k) (k : FaultKind) :
    r.bind (fun s => .text (g s)) ≠ .fault k :=
  bind_no_fault r _ h (fun _ => text_no_fault _) k

mutual
theorem noFaultX {κ : Type} (ks : KeySys κ) (io : FloatIO) :
    ∀ (v : XVal) (m : GMap κ) (ind : Ind), AllGoOKG m → ∀ k, fmtX ks io m ind v ≠ .fault k
  | .undef, m, ind, _, k => by simp [fmtX, fmtUndef]
  | .dflt, m, ind, _, k => by simp only [fmtX]; exact (fmtDefault_flagged _).no_fault k
  | .bool b, m, ind, h, k => by simp only [fmtX]; exact (fmtBool_ends io _ b).no_fault (getG_goOK ks m h _) k
  | .int i, m, ind, h, k => by simp only [fmtX]; exact (fmtInt_ends io _ i).no_fault (getG_goOK ks m h _) k
  | .float bits, m, ind, h, k => by simp only [fmtX]; exact (fmtFloat_ends io _ bits).no_fault (getG_goOK ks m h _) k
  | .str s, m, ind, _, k => by simp only [fmtX]; exact (fmtStr_flagged _ s).no_fault k
  | .regexp src, m, ind, _, k => by simp [fmtX, fmtRegexp]
  | .binary bs u, m, ind, _, k => by simp only [fmtX]; exact fmtBinary_no_fault _ bs u k
  | .semver t, m, ind, _, k => by simp only [fmtX]; exact (fmtSemVer_flagged _ t).no_fault k
  | .semverRange t n, m, ind, _, k => by simp only [fmtX]; exact (fmtSemVerRange_flagged _ t n).no_fault k
  | .uri t, m, ind, _, k => by simp only [fmtX]; exact (fmtUri_flagged _ t).no_fault k
  | .tspan ns, m, ind, _, k => by simp [fmtX, fmtTspan]
  | .tstamp t, m, ind, _, k => by simp [fmtX, fmtTstamp]
  | .sensitive v, m, ind, _, k => by simp [fmtX, fmtSensitive]
  | .typ name [], m, ind, h, k => by
    simp only [fmtX]
    exact ite_no_fault _ _ _ (reported_no_fault _) (typeFinish_no_fault _ _ _ (text_no_fault _)) k
  | .typ name (p :: ps), m, ind, h, k => by
    simp only [fmtX]
    exact ite_no_fault _ _ _ (reported_no_fault _) (typeFinish_no_fault _ _ _ (ite_no_fault _ _ _ (reported_no_fault _)
      (arrayOf_no_fault _ _ _ (noFaultX_elems ks io (p :: ps) m _ _ h (cfOfG_goOK ks m h _))))) k
  | .talias name r, m, ind, h, k => by
    simp only [fmtX]
    exact ite_no_fault _ _ _ (text_no_fault _) (ite_no_fault _ _ _ (text_no_fault _)
      (bind_text_no_fault _ _ (noFaultX ks io r m ind h))) k
  | .otype name ih, m, ind, h, k => by
    simp only [fmtX]
    exact ite_no_fault _ _ _ (reported_no_fault _) (typeFinish_no_fault _ _ _ (ite_no_fault _ _ _ (text_no_fault _)
      (bind_text_no_fault _ _ (noFaultX_otypeEntries ks io ih m _ _ _ _ _ h (cfOfG_goOK ks m h _))))) k
  | .otypeX d ih, m, ind, h, k => by
    simp only [fmtX]
    exact ite_no_fault _ _ _ (reported_no_fault _) (typeFinish_no_fault _ _ _ (ite_no_fault _ _ _ (text_no_fault _)
      (bind_text_no_fault _ _ (noFaultX_otypeEntries ks io ih m _ _ _ _ _ h (cfOfG_goOK ks m h _))))) k
  | .obj name es, m, ind, h, k => by
    simp only [fmtX]
    exact bind_text_no_fault _ _ (ite_no_fault _ _ _
      (hashBody_no_fault _ _ _ _ _ _ _ _ _ (noFaultX_entryArrs ks io es _ _ (cfOfG_goOK ks m h _))
        (noFaultX_pairs ks io es m _ _ h (cfOfG_goOK ks m h _)))
      (hashBody_no_fault _ _ _ _ _ _ _ _ _ (noFaultX_entryArrs ks io es _ _ (cfOfG_goOK ks m h _))
        (noFaultX_pairs ks io es m _ _ h (cfOfG_goOK ks m h _)))) k
  | .array vs, m, ind, h, k => by
    simp only [fmtX]
    exact ite_no_fault _ _ _ (reported_no_fault _) (arrayOf_no_fault _ _ _ (noFaultX_elems ks io vs m _ _ h (cfOfG_goOK ks m h _))) k
  | .hash es, m, ind, h, k => by
    simp only [fmtX]
    exact hashBody_no_fault _ _ _ _ _ _ _ _ _ (noFaultX_entryArrs ks io es _ _ (cfOfG_goOK ks m h _))
      (noFaultX_pairs ks io es m _ _ h (cfOfG_goOK ks m h _)) k

theorem noFaultX_otypeEntries {κ : Type} (ks : KeySys κ) (io : FloatIO) :
    ∀ (es : List OEntry) (m cf : GMap κ) (f : Fmt) (i2 i3 : Ind) (first : Bool), AllGoOKG m → AllGoOKG cf →
      ∀ k, otypeEntries ks io m cf f i2 i3 first es ≠ .fault k
  | [], m, cf, f, i2, i3, first, _, _, k => by simp [otypeEntries]
  | .plain key v :: rest, m, cf, f, i2, i3, first, hm, hcf, k => by
    simp only [otypeEntries]
    exact bind_no_fault _ _ (noFaultX ks io v _ i2 (allGoOKG_ite _ hm hcf))
      (fun _ => bind_text_no_fault _ _ (noFaultX_otypeEntries ks io rest m cf f i2 i3 false hm hcf)) k
  | .members key ms :: rest, m, cf, f, i2, i3, first, hm, hcf, k => by
    simp only [otypeEntries]
    exact bind_no_fault _ _ (noFaultX_otypeMembers ks io ms m f i3 true hm)
      (fun _ => bind_text_no_fault _ _ (noFaultX_otypeEntries ks io rest m cf f i2 i3 false hm hcf)) k

theorem noFaultX_otypeMembers {κ : Type} (ks : KeySys κ) (io : FloatIO) :
    ∀ (es : List XEntry) (m : GMap κ) (f : Fmt) (i3 : Ind) (first : Bool), AllGoOKG m →
      ∀ k, otypeMembers ks io m f i3 first es ≠ .fault k
  | [], m, f, i3, first, _, k => by simp [otypeMembers]
  | .mk kk v :: rest, m, f, i3, first, hm, k => by
    simp only [otypeMembers]
    exact bind_no_fault _ _ (noFaultX ks io v m i3 hm)
      (fun _ => bind_text_no_fault _ _ (noFaultX_otypeMembers ks io rest m f i3 false hm)) k

theorem noFaultX_elems {κ : Type} (ks : KeySys κ) (io : FloatIO) :
    ∀ (vs : List XVal) (m cf : GMap κ) (ci : Ind), AllGoOKG m → AllGoOKG cf → NoFaultL (fmtElemsX ks io m cf ci vs)
  | [], m, cf, ci, _, _ => by intro e he; simp [fmtElemsX] at he
  | v :: vs, m, cf, ci, hm, hcf => by
    simp only [fmtElemsX]
    exact noFaultL_cons _ _ _ (noFaultX ks io v _ ci (allGoOKG_ite _ hm hcf)) (noFaultX_elems ks io vs m cf ci hm hcf)

theorem noFaultX_pairs {κ : Type} (ks : KeySys κ) (io : FloatIO) :
    ∀ (es : List XEntry) (m cf : GMap κ) (ci : Ind), AllGoOKG m → AllGoOKG cf → NoFaultL (fmtPairsX ks io m cf ci es)
  | [], m, cf, ci, _, _ => by intro e he; simp [fmtPairsX] at he
  | .mk kk v :: es, m, cf, ci, hm, hcf => by
    simp only [fmtPairsX]
    have hk := noFaultX ks io kk _ ci (allGoOKG_ite (kk.isContainer = true) hm hcf)
    split
    · exact noFaultL_cons _ _ _ (noFaultX ks io v _ ci (allGoOKG_ite _ hm hcf)) (noFaultX_pairs ks io es m cf ci hm hcf)
    · rename_i e hne
      intro e' he' k
      cases he'
      exact hk k

theorem noFaultX_entryArrs {κ : Type} (ks : KeySys κ) (io : FloatIO) :
    ∀ (es : List XEntry) (m : GMap κ) (ind : Ind), AllGoOKG m → NoFaultL (fmtEntryArrsX ks io m ind es)
  | [], m, ind, _ => by intro e he; simp [fmtEntryArrsX] at he
  | .mk kk v :: es, m, ind, hm => by
    simp only [fmtEntryArrsX]
    have hcf := cfOfG_goOK ks m hm (.array [kk, v])
    exact noFaultL_cons _ _ _ (ite_no_fault _ _ _ (reported_no_fault _)
      (text_or_pass_no_fault _ _ (noFaultX ks io kk _ _ (allGoOKG_ite _ hm hcf)) fun _ =>
        text_or_pass_no_fault _ _ (noFaultX ks io v _ _ (allGoOKG_ite _ hm hcf)) fun _ => text_no_fault _))
      (noFaultX_entryArrs ks io es m ind hm)
end

end Pcore.Format

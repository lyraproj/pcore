import Pcore.Proofs.FormatRef
/-! Alt-mode (`#`) container layout.  First a pretty-printer written directly (`refPP`, over the layouts `ppArray` / `ppHash`): nesting
    level, "an enclosing format indents", "not the first thing on its level" as plain parameters; line breaks decided by looking at the
    previous element.  Then: the assemblers ARE the layouts, and the model of `ToString2` (its `Indentation` objects, the first-element
    state of the element loop) computes exactly `refPP`, at any depth and any mixture of alt and non-alt formats (`fmtVal_pp`).  `refPP`,
    the reference `C20_container_alt` names, has no branch for a Hash formatted with `a`: hence the hypothesis on the map, which
    `fmtX_pp` (FormatXPP.lean, all kinds, the same induction) does not have.  Last: `ErrOK`, also FormatXPP.lean's tool, and `refPP_lead`. -/
namespace Pcore.Format

/-- a line break followed by the indentation of level `L` -/
def newLine (L : Nat) : Str := '\n' :: spaces (2 * L)

/-- what precedes an element that is not the first: the separator, then a line break at the elements' level when the
    element is not a container and (the array is broken by size, or the previous element is a container in alt mode);
    a blank otherwise — except that in alt mode nothing precedes a container (it brings its own line break) -/
def ppGlue (f : Fmt) (L : Nat) (szBreak : Bool) (prev : Bool) (e : Str × Bool) : Str :=
  f.sep.getD [','] ++
  (if !e.2 && (szBreak || (f.alt && prev)) then newLine L else if !(f.alt && e.2) then [' '] else []) ++ e.1

/-- the elements of an array at level `L` -/
def ppElems (f : Fmt) (L : Nat) (parts : List (Str × Bool)) : Str :=
  match parts with
  | [] => []
  | e :: rest =>
    (if szBreakOf f parts && !e.2 then [' '] else []) ++ e.1 ++
    (List.zipWith (ppGlue f L (szBreakOf f parts)) ((e :: rest).map (·.2)) rest).flatten

/-- an array at level `L`: it starts on a new line when it (or an enclosing format) indents, it is nested and not the
    first thing on its level -/
def ppArray (f : Fmt) (L : Nat) (inh nested : Bool) (parts : List (Str × Bool)) : Str :=
  (if (f.alt || inh) && decide (L > 0) && nested then newLine L else []) ++
  (delimPair f.ldelim '[').1 ++ ppElems f (L + 1) parts ++ (delimPair f.ldelim '[').2

/-- a hash at level `L`: in alt mode one entry per line at level `L + 1`, the closing delimiter on its own line -/
def ppHash (f : Fmt) (L : Nat) (inh nested : Bool) (parts : List (Str × Str)) : Str :=
  (if (f.alt || inh) && decide (L > 0) && nested then newLine L else []) ++
  (delimPair f.ldelim '{').1 ++ (if f.alt then ['\n'] else []) ++
  (f.sep.getD [','] ++ (if f.alt then ['\n'] else [' '])).intercalate
    (parts.map (fun p => (if f.alt then spaces (2 * (L + 1)) else []) ++ p.1 ++ f.sep2.getD " => ".toList ++ p.2)) ++
  (if f.alt then newLine L else []) ++ (delimPair f.ldelim '{').2

mutual
/-- the pretty-printer: `L` nesting level, `inh` the enclosing container format is alt, `nested` not the first on its level -/
def refPP (io : FloatIO) (m : FMap) (L : Nat) (inh nested : Bool) : Val → Res
  | .array vs =>
    let f := (getFormat m .arr).f
    if !isArrayLetter f.letter then .reported .unsupported
    else match refPPElems io m (cfOf (getFormat m .arr)) (L + 1) f.alt vs with
      | .ok parts => .text (ppArray f L inh nested parts)
      | .err e => e
  | .hash es =>
    let f := (getFormat m .hash).f
    if !isHashLetter f.letter then .reported .unsupported
    else match refPPPairs io m (cfOf (getFormat m .hash)) (L + 1) f.alt es with
      | .ok parts => .text (ppHash f L inh nested parts)
      | .err e => e
  | .undef => fmtUndef (getFormat m .undef).f
  | .dflt => fmtDefault (getFormat m .dflt).f
  | .bool b => fmtBool io (getFormat m .bool).f b
  | .int i => fmtInt io (getFormat m .int).f i
  | .float bits => fmtFloat io (getFormat m .float).f bits
  | .str s => fmtStr (getFormat m .str).f s
  | .regexp src => fmtRegexp (getFormat m .regexp).f src
  | .binary bs u => fmtBinary (getFormat m .bin).f bs u
/-- the elements of an array: each is "nested" (the element loop has seen the first position) -/
def refPPElems (io : FloatIO) (m cf : FMap) (L : Nat) (inh : Bool) : List Val → ResL (Str × Bool)
  | [] => .ok []
  | v :: vs => ResL.cons (refPP io (if v.isContainer then m else cf) L inh true v) (fun s => (s, v.isContainer))
      (fun _ => refPPElems io m cf L inh vs)
/-- the keys and values of a hash: each is the first thing after its indentation -/
def refPPPairs (io : FloatIO) (m cf : FMap) (L : Nat) (inh : Bool) : List Entry → ResL (Str × Str)
  | [] => .ok []
  | .mk k v :: es =>
    match refPP io (if k.isContainer then m else cf) L inh false k with
    | .text sk => ResL.cons (refPP io (if v.isContainer then m else cf) L inh false v) (fun sv => (sk, sv))
        (fun _ => refPPPairs io m cf L inh es)
    | e => .err e
end

theorem arrayRest_zip (f : Fmt) (L : Nat) (szBreak : Bool) :
    ∀ (rest : List (Str × Bool)) (prev : Bool),
      arrayRest f (f.sep.getD [',']) (spaces (2 * L)) szBreak rest prev =
        (List.zipWith (ppGlue f L szBreak) (prev :: rest.map (·.2)) rest).flatten
  | [], _ => by simp [arrayRest]
  | (s, ah) :: rest, prev => by
    simp only [arrayRest, List.map_cons, List.zipWith_cons_cons, List.flatten_cons, arrayRest_zip f L szBreak rest ah]
    simp [ppGlue, newLine, List.append_assoc]

theorem arrayAssemble_pp (f : Fmt) (L : Nat) (inh nested : Bool) (parts : List (Str × Bool)) :
    arrayAssemble f ⟨!nested, inh, L⟩ parts = ppArray f L inh nested parts := by
  unfold arrayAssemble ppArray ppElems
  simp only [Ind.withIndenting, Ind.breaks, Ind.increase, Ind.padding, Bool.not_not]
  cases parts with
  | nil => simp [newLine]
  | cons e rest =>
    obtain ⟨s, ah⟩ := e
    simp only [arrayRest_zip, newLine, List.map_cons]
    simp [List.append_assoc]

theorem hashAssemble_pp (f : Fmt) (L : Nat) (inh nested : Bool) (parts : List (Str × Str)) :
    hashAssemble f ⟨!nested, inh, L⟩ parts = ppHash f L inh nested parts := by
  unfold hashAssemble ppHash
  simp only [Ind.withIndenting, Ind.breaks, Ind.increase, Ind.padding, Bool.not_not, hashEntries_pad, newLine]
  cases f.alt <;> simp [List.append_assoc]

/- `!true`, `!false` are left unevaluated here, in `hashChildInd_eq`, `increase_eq` and `ind_eta`: the right sides are then literally
   instances of `⟨!nested, inh, L⟩`, the form the statements of `fmtVal_pp_of` and `fmtX_pp` (and so their induction hypotheses) have. -/
theorem arrayChildInd_eq (f : Fmt) (a b : Bool) (L : Nat) : arrayChildInd f ⟨a, b, L⟩ = ⟨!true, f.alt, L + 1⟩ := by
  simp [arrayChildInd, Ind.increase, Ind.subsequent, Ind.withIndenting]

theorem hashChildInd_eq (f : Fmt) (a b : Bool) (L : Nat) : hashChildInd f ⟨a, b, L⟩ = ⟨!false, f.alt, L + 1⟩ := by
  simp [hashChildInd, Ind.increase, Ind.withIndenting]

mutual
theorem fmtVal_pp_of (io : FloatIO) : ∀ (v : Val) (m : FMap) (L : Nat) (inh nested : Bool),
    (v.isContainer = true → (getFormat m .hash).f.letter ≠ 'a') → fmtVal io m ⟨!nested, inh, L⟩ v = refPP io m L inh nested v
  | .undef, _, _, _, _, _ => rfl
  | .dflt, _, _, _, _, _ => rfl
  | .bool _, _, _, _, _, _ => rfl
  | .int _, _, _, _, _, _ => rfl
  | .float _, _, _, _, _, _ => rfl
  | .str _, _, _, _, _, _ => rfl
  | .regexp _, _, _, _, _, _ => rfl
  | .binary _ _, _, _, _, _, _ => rfl
  | .array vs, m, L, inh, nested, hp => by
    have ih := fmtElems_pp io vs m (cfOf (getFormat m .arr)) (L + 1) (getFormat m .arr).f.alt (hp rfl)
    simp only [fmtVal, refPP, arrayChildInd_eq, ih, arrayAssemble_pp]
    rfl
  | .hash es, m, L, inh, nested, hp => by
    have ih := fmtPairs_pp io es m (cfOf (getFormat m .hash)) (L + 1) (getFormat m .hash).f.alt (hp rfl)
    simp only [fmtVal, refPP, if_neg (hp rfl), hashChildInd_eq, ih, hashAssemble_pp]
    rfl

theorem fmtElems_pp (io : FloatIO) : ∀ (vs : List Val) (m cf : FMap) (L : Nat) (inh : Bool),
    (getFormat m .hash).f.letter ≠ 'a' → fmtElems io m cf ⟨!true, inh, L⟩ vs = refPPElems io m cf L inh vs
  | [], _, _, _, _, _ => by simp [fmtElems, refPPElems]
  | v :: vs, m, cf, L, inh, hp => by
    have ih := fmtElems_pp io vs m cf L inh hp
    have hv := fmtVal_pp_of io v (if v.isContainer then m else cf) L inh true fun hc => by rw [if_pos hc]; exact hp
    simp only [fmtElems, refPPElems, hv, ih]

theorem fmtPairs_pp (io : FloatIO) : ∀ (es : List Entry) (m cf : FMap) (L : Nat) (inh : Bool),
    (getFormat m .hash).f.letter ≠ 'a' → fmtPairs io m cf ⟨!false, inh, L⟩ es = refPPPairs io m cf L inh es
  | [], _, _, _, _, _ => by simp [fmtPairs, refPPPairs]
  | .mk k v :: es, m, cf, L, inh, hp => by
    have ih := fmtPairs_pp io es m cf L inh hp
    have hk := fmtVal_pp_of io k (if k.isContainer then m else cf) L inh false fun hc => by rw [if_pos hc]; exact hp
    have hv := fmtVal_pp_of io v (if v.isContainer then m else cf) L inh false fun hc => by rw [if_pos hc]; exact hp
    simp only [fmtPairs, refPPPairs, hk, hv, ih]
    cases refPP io (if k.isContainer = true then m else cf) L inh false k <;> rfl
end

theorem fmtVal_pp (io : FloatIO) (v : Val) (m : FMap) (L : Nat) (inh nested : Bool)
    (h : (getFormat m .hash).f.letter ≠ 'a') : fmtVal io m ⟨!nested, inh, L⟩ v = refPP io m L inh nested v :=
  fmtVal_pp_of io v m L inh nested fun _ => h

/-! ### The error of a list of renderings is never a text (`ErrOK`), so a `Res.bind` around the list passes it on unchanged: a nested
    container under an indenting context is its first-position rendering behind a line break (`refPP_lead`) -/

/-- an error result never carries a text -/
def ErrOK {α : Type} (r : ResL α) : Prop := ∀ e, r = .err e → ∀ s, e ≠ .text s

theorem errOK_cons {α : Type} (r : Res) (mk : Str → α) (rest : Unit → ResL α) (h : ErrOK (rest ())) :
    ErrOK (ResL.cons r mk rest) := by
  intro e he s
  rcases (ResL.cons_eq_err r mk rest e).1 he with ⟨_, _, hr⟩ | ⟨hn, rfl⟩
  · exact h e hr s
  · exact hn s

theorem errOK_err {α : Type} {e : Res} (h : ∀ s, e ≠ .text s) : ErrOK (.err e : ResL α) := by
  intro e' he'; cases he'; exact h

theorem refPPElems_errOK (io : FloatIO) (m cf : FMap) (L : Nat) (inh : Bool) : ∀ vs, ErrOK (refPPElems io m cf L inh vs)
  | [] => by intro e he; simp [refPPElems] at he
  | v :: vs => by simp only [refPPElems]; exact errOK_cons _ _ _ (refPPElems_errOK io m cf L inh vs)

theorem refPPPairs_errOK (io : FloatIO) (m cf : FMap) (L : Nat) (inh : Bool) : ∀ es, ErrOK (refPPPairs io m cf L inh es)
  | [] => by intro e he; simp [refPPPairs] at he
  | .mk k v :: es => by
    simp only [refPPPairs]
    split
    · exact errOK_cons _ _ _ (refPPPairs_errOK io m cf L inh es)
    · rename_i e hne
      exact errOK_err fun s h => hne s h

theorem refPP_lead (io : FloatIO) (m : FMap) (L : Nat) (inh : Bool) (v : Val) (hL : 0 < L) (hv : v.isContainer = true)
    (hind : ((getFormat m v.kind).f.alt || inh) = true) :
    refPP io m L inh true v = (refPP io m L inh false v).bind (fun s => .text (newLine L ++ s)) := by
  cases v with
  | array vs =>
    simp only [refPP]
    split
    · rfl
    · cases hr : refPPElems io m (cfOf (getFormat m .arr)) (L + 1) (getFormat m .arr).f.alt vs with
      | ok parts => simp [Res.bind, ppArray, show ((getFormat m .arr).f.alt || inh) = true from hind, hL, List.append_assoc]
      | err e => exact (Res.bind_of_not_text (refPPElems_errOK _ _ _ _ _ _ e hr) _).symm
  | hash es =>
    simp only [refPP]
    split
    · rfl
    · cases hr : refPPPairs io m (cfOf (getFormat m .hash)) (L + 1) (getFormat m .hash).f.alt es with
      | ok parts => simp [Res.bind, ppHash, show ((getFormat m .hash).f.alt || inh) = true from hind, hL, List.append_assoc]
      | err e => exact (Res.bind_of_not_text (refPPPairs_errOK _ _ _ _ _ _ e hr) _).symm
  | _ => cases hv

end Pcore.Format

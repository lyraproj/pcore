import Pcore.Proofs.LatTransStep
/-! C03, transitivity with the aliases: the two unmodelled members of RichData, the `TypeSet` type and the `Deferred` meta type, exist in the
    model only as the acceptance predicates `accTypeSet a` / `accDeferred a` ("a accepts TypeSet / Deferred").  Transitivity with them
    on the right: if `a ⊒ b` and `b` accepts the member, so does `a` (`acc_of_asg`, for both through what they have in common, `AccLike`). -/
namespace Pcore.Lat
variable (cfg : Cfg) (sfh : Bool) {F : Ty → Prop}

structure AccLike (P : Ty → Bool) : Prop where
  any : P .any = true
  ofRich : ∀ a : Ty, asg cfg sfh a .richData = true → P a = true
  data : P .data = false
  var : ∀ ts, P (.variant ts) = true ↔ ∃ m ∈ ts, P m = true
  opt : ∀ x, P (.optional x) = P x
  nu : ∀ x, P (.notUndef x) = P x
  base : ∀ b : Ty, b.plainR = true → P b = true → b = .any ∨ b = .object none
  obj : P (.object none) = true → ∀ a : Ty, asg cfg sfh a (.object none) = true → P a = true

theorem accLike_typeSet : AccLike cfg sfh accTypeSet where
  any := rfl
  ofRich := fun a h => (asg_rich_comps cfg sfh h).ts
  data := rfl
  var := fun ts => by
    rw [← accTypeSet_accL_iff ts]; conv => lhs; unfold accTypeSet
  opt := fun x => by conv => lhs; unfold accTypeSet
  nu := fun x => by conv => lhs; unfold accTypeSet
  base := fun b hp h => by cases b <;> simp [Ty.plainR] at hp <;> simp [accTypeSet] at h; left; rfl
  obj := fun h => by simp [accTypeSet] at h

/-- what accepts the default Object type accepts the Deferred meta type (an object type) -/
theorem accDeferred_of_object (a : Ty) (h : asg cfg sfh a (.object none) = true) : accDeferred a = true := by
  induction hn : a.w using Nat.strongRecOn generalizing a with
  | ind n ih =>
    subst hn
    rcases recvPos_cases cfg sfh (Or.inl rfl) h with h | h | h
    · cases Ty.isAny_eq h; rfl
    · have := eq_of_sameNullary h; subst this; rfl
    · rcases recv_object_cases cfg sfh a h with rfl | rfl | rfl | rfl | ⟨as, m, rfl, hm, hm'⟩ | ⟨x, rfl, hx⟩ | ⟨x, rfl, hx⟩
      · rfl
      · rfl
      · rfl
      · rfl
      · unfold accDeferred; rw [accDeferred_accL_iff]
        exact ⟨m, hm, ih m.w (Ty.w_lt_variant hm) m hm' rfl⟩
      · unfold accDeferred; exact ih x.w (Ty.w_lt_cov .optional x) x hx rfl
      · unfold accDeferred; exact ih x.w (Ty.w_lt_cov .notUndef x) x hx rfl

theorem accDeferred_of_obj : ∀ (n : Nat) (a : Ty), a.w ≤ n → asg cfg sfh a (.object none) = true → accDeferred a = true :=
  fun _ a _ => accDeferred_of_object cfg sfh a

theorem accLike_deferred : AccLike cfg sfh accDeferred where
  any := rfl
  ofRich := fun a h => (asg_rich_comps cfg sfh h).de
  data := rfl
  var := fun ts => by
    rw [← accDeferred_accL_iff ts]; conv => lhs; unfold accDeferred
  opt := fun x => by conv => lhs; unfold accDeferred
  nu := fun x => by conv => lhs; unfold accDeferred
  base := fun b hp h => by
    cases b <;> simp [Ty.plainR] at hp <;> (try (simp [accDeferred] at h; done))
    · left; rfl
    · rename_i p; cases p
      · right; rfl
      · simp [accDeferred] at h
  obj := fun _ a h => accDeferred_of_object cfg sfh a h

theorem acc_of_asg {P : Ty → Bool} (hF : FragOK sfh F) (hP : AccLike cfg sfh P) (a b : Ty) : F a → F b →
    asg cfg sfh a b = true → P b = true → P a = true := by
  suffices main : ∀ (n : Nat) (a b : Ty), a.w + b.w ≤ n → F a → F b → asg cfg sfh a b = true → P b = true → P a = true from
    main _ a b (Nat.le_refl _)
  intro n
  induction n with
  | zero => intro a b h; have := Ty.w_pos a; omega
  | succ n ih =>
    intro a b hw fa fb h hb
    have plain : b.plainR = true → P a = true := by
      intro hp
      rcases hP.base b hp hb with rfl | rfl
      · exact hP.ofRich a (accepts_any cfg sfh hF a fa h _)
      · exact hP.obj hb a h
    cases b with
    | unit => exact absurd fb hF.unit
    | data => rw [hP.data] at hb; cases hb
    | richData => exact hP.ofRich a h
    | optional x =>
      simp only [Ty.w] at hw
      rw [hP.opt] at hb
      exact ih a x (by omega) fa (hF.cov .optional fb) (asg_optional_parts cfg sfh h).2 hb
    | variant bs =>
      simp only [Ty.w] at hw
      obtain ⟨x, hx, hpx⟩ := (hP.var bs).1 hb
      exact ih a x (by have := Ty.w_lt_wl hx; omega) fa (hF.variant fb x hx) (asg_variant_parts cfg sfh h x hx) hpx
    | notUndef x =>
      have fb' := hF.cov .notUndef fb; simp only [Ty.w] at hw
      have hb' := hb; rw [hP.nu] at hb'
      by_cases hx : asg cfg sfh x .undef = true
      · by_cases hA : a.isAny = true
        · cases Ty.isAny_eq hA; exact hP.any
        have hr := asg_nu_fall cfg sfh (eq_false_of_ne_true hA) hx h
        rcases recvNU_cases cfg sfh a x (fun e => hF.unit (e ▸ fa)) hx hr with h' | ⟨as, y, rfl, hy, hyb⟩ | ⟨y, rfl, hy⟩ | ⟨y, rfl, hy⟩
        · subst h'; exact hP.any
        · simp only [Ty.w] at hw
          exact (hP.var as).2 ⟨y, hy, ih y _ (by have := Ty.w_lt_wl hy; simp only [Ty.w]; omega) (hF.variant fa y hy) fb hyb hb⟩
        · simp only [Ty.w] at hw
          rw [hP.opt]; exact ih y _ (by simp only [Ty.w]; omega) (hF.cov .optional fa) fb hy hb
        · simp only [Ty.w] at hw
          rw [hP.nu]
          rcases hy with hy | hy
          · exact ih y x (by omega) (hF.cov .notUndef fa) fb' hy hb'
          · exact ih y _ (by simp only [Ty.w]; omega) (hF.cov .notUndef fa) fb hy hb
      · exact ih a x (by omega) fa fb' (asg_nu_strict cfg sfh (eq_false_of_ne_true hx) h) hb'
    | _ => exact plain rfl

end Pcore.Lat

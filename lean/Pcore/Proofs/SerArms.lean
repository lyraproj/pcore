import Pcore.Model.Ser
/-! C10: the table-driven serializer `toDataE` with the standard emit discipline IS `toData` (the definition all other
    lemmas are about), and a table satisfying `SerArmsOK` denotes the standard discipline. -/
namespace Pcore.Ser

theorem bumpN_zero (st : St) : bumpN 0 st = st := by cases st; rfl
theorem bumpN_one (st : St) : bumpN 1 st = bump st := rfl

theorem addDataE_std (d : Sc) (st : St) : addDataE Emit.std d st = addData d st := rfl
theorem enterE_std (c : Cfg) (k : Key) (st : St) : enterE Emit.std c k st = st := by simp [enterE, Emit.std]
theorem recordE_std (c : Cfg) (k : Key) (pos : Nat) (r : Ev × St) : recordE Emit.std c k pos r = record c k pos r := rfl

theorem strDataE_std (c : Cfg) (level : Nat) (s : String) (st : St) : strDataE Emit.std c level s st = strData c level s st := by
  simp [strDataE, strData, addDataE_std, enterE_std, recordE_std]

theorem head3E_std (c : Cfg) (tl : Nat) (tn : String) (st : St) : head3E Emit.std c tl tn st = head3 c tl tn st := by
  simp [head3E, head3, strDataE_std]

@[simp] theorem std_hashPre : Emit.std.hashPre = 1 := rfl
@[simp] theorem std_hashPost : Emit.std.hashPost = 0 := rfl
@[simp] theorem std_arrPre : Emit.std.arrPre = 1 := rfl
@[simp] theorem std_arrPost : Emit.std.arrPost = 0 := rfl

attribute [local simp] bumpN_zero bumpN_one addDataE_std enterE_std recordE_std strDataE_std head3E_std

mutual
theorem toDataE_std (c : Cfg) : ∀ (level : Nat) (v : V) (st : St), toDataE Emit.std c level v st = toData c level v st
  | _, .undef, st | _, .bool _, st | _, .int _, st | _, .flt _, st | _, .str _, st | _, .dflt, st | _, .bin _ _, st
  | _, .leaf _ _ _ _, st => by simp [toDataE, toData]
  | _, .hash id es, st => by simp [toDataE, toData, pairsDataE_std c es, flatDataE_std c es, skeyDataE_std c es]
  | _, .arr id vs, st => by simp [toDataE, toData, listDataE_std c vs]
  | _, .sens id v, st => by simp [toDataE, toData, toDataE_std c 1 v]
  | _, .obj id tn disp attrs, st => by simp [toDataE, toData, attrsDataE_std c attrs]
theorem listDataE_std (c : Cfg) : ∀ (vs : List V) (st : St), listDataE Emit.std c vs st = listData c vs st
  | [], _ => by simp [listDataE, listData]
  | v :: vs, st => by simp [listDataE, listData, toDataE_std c 1 v, listDataE_std c vs]
theorem pairsDataE_std (c : Cfg) : ∀ (es : List (V × V)) (st : St), pairsDataE Emit.std c es st = pairsData c es st
  | [], _ => by simp [pairsDataE, pairsData]
  | (k, v) :: es, st => by simp [pairsDataE, pairsData, toDataE_std c 2 k, toDataE_std c 1 v, pairsDataE_std c es]
theorem flatDataE_std (c : Cfg) : ∀ (es : List (V × V)) (st : St), flatDataE Emit.std c es st = flatData c es st
  | [], _ => by simp [flatDataE, flatData]
  | (k, v) :: es, st => by simp [flatDataE, flatData, toDataE_std c 1 k, toDataE_std c 1 v, flatDataE_std c es]
theorem skeyDataE_std (c : Cfg) : ∀ (es : List (V × V)) (st : St), skeyDataE Emit.std c es st = skeyData c es st
  | [], _ => by simp [skeyDataE, skeyData]
  | (k, v) :: es, st => by simp [skeyDataE, skeyData, strDataE_std, toDataE_std c 1 v, skeyDataE_std c es]
theorem attrsDataE_std (c : Cfg) : ∀ (as : List (String × V)) (st : St), attrsDataE Emit.std c as st = attrsData c as st
  | [], _ => by simp [attrsDataE, attrsData]
  | (k, v) :: as, st => by simp [attrsDataE, attrsData, strDataE_std, toDataE_std c 1 v, attrsDataE_std c as]
end

theorem emitOf_ok (a : SerArms) (h : SerArmsOK a = true) : emitOf a = Emit.std := by
  simp only [SerArmsOK, Bool.and_eq_true, beq_iff_eq] at h
  obtain ⟨⟨⟨⟨⟨⟨⟨⟨h1, h2⟩, h3⟩, h4⟩, _⟩, _⟩, _⟩, _⟩, _⟩ := h
  simp [emitOf, h1, h2, h3, h4, incrsBefore, incrsAfter, Emit.std]

theorem serializeE_ok (a : SerArms) (h : SerArmsOK a = true) (o : Opts) (cp : Caps) (v : V) :
    serializeE (emitOf a) o cp v = serialize o cp v := by
  simp [serializeE, serialize, emitOf_ok a h, toDataE_std]

end Pcore.Ser

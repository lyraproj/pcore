import Pcore.Proofs.LatGenVar
import Pcore.Proofs.LatFam
/-! C04, corollary of `C03_trans_alias_partial`: `commonType` is an upper bound of its two arguments on the whole fragment of transitivity
    (`Ty.TA`: every type but Unit and Callable; Struct only with the rule off) — every structural merge of `commonality.go` (Enum / String / Pattern /
    Integer / Float / Array / Tuple / Variant / Type / Iterable / Iterator / Runtime / NotUndef) and the tail.  The Tuple merge folds `commonType` over the
    declared types: the accumulator accepts the earlier ones only by TRANSITIVITY; the Variant merge keeps one of two `Equals` members,
    which accepts the other (`eq_asg_all`). -/
namespace Pcore.Lat
variable (cfg : Cfg) (sfh : Bool)

/-- what the induction carries: well-formed and inside the fragment of transitivity (the predicate `GenGood` of LatGenVar under the name
    used for `commonType`; its unfolding lemmas `gg_*` apply as they stand) -/
def CG (t : Ty) : Prop := Ty.WF cfg t ∧ t.TA sfh

def CU (a b c : Ty) : Prop := CG cfg sfh c ∧ asg cfg sfh c a = true ∧ asg cfg sfh c b = true

theorem cg_not_unit {t : Ty} (h : CG cfg sfh t) : t.isUnit = false := by
  cases t <;> simp [Ty.isUnit]
  have := h.2; unfold Ty.TA at this; exact this

theorem cg_refl {t : Ty} (h : CG cfg sfh t) : asg cfg sfh t t = true := asg_self cfg sfh t h.1

theorem cg_trans (hl : LowerLen cfg) {a b c : Ty} (ha : CG cfg sfh a) (hb : CG cfg sfh b) (hc : CG cfg sfh c)
    (h1 : asg cfg sfh a b = true) (h2 : asg cfg sfh b c = true) : asg cfg sfh a c = true :=
  transD cfg sfh hl a b c ha.2 hb.2 hc.2 ha.1 hb.1 hc.1 h1 h2

/-- the element fold of `TupleType.CommonElementType`: the accumulator accepts every type folded in, given an upper-bound `c` closed on `CG` -/
theorem foldl_ub (hl : LowerLen cfg) (c : Ty → Ty → Ty)
    (hc : ∀ a b, CG cfg sfh a → CG cfg sfh b → CU cfg sfh a b (c a b)) :
    ∀ (ts : List Ty) (acc : Ty), CG cfg sfh acc → (∀ t ∈ ts, CG cfg sfh t) →
      CG cfg sfh (ts.foldl c acc) ∧ asg cfg sfh (ts.foldl c acc) acc = true ∧ ∀ t ∈ ts, asg cfg sfh (ts.foldl c acc) t = true := by
  intro ts
  induction ts with
  | nil => intro acc ha _; exact ⟨ha, cg_refl cfg sfh ha, fun t ht => by cases ht⟩
  | cons t ts ih =>
    intro acc ha hts
    simp only [List.foldl_cons]
    have ht := hts t (by simp)
    obtain ⟨g1, u1, u2⟩ := hc acc t ha ht
    obtain ⟨g2, v1, v2⟩ := ih (c acc t) g1 (fun x hx => hts x (by simp [hx]))
    refine ⟨g2, cg_trans cfg sfh hl g2 g1 ha v1 u1, fun x hx => ?_⟩
    simp only [List.mem_cons] at hx
    rcases hx with rfl | hx
    · exact cg_trans cfg sfh hl g2 g1 ht v1 u2
    · exact v2 x hx

theorem foldCet_ub (hl : ∀ s, (cfg.lower s).length = s.length) (c : Ty → Ty → Ty)
    (hc : ∀ a b, CG cfg sfh a → CG cfg sfh b → CU cfg sfh a b (c a b)) (ts : List Ty) (hts : ∀ t ∈ ts, CG cfg sfh t) :
    CG cfg sfh (foldCet c ts) ∧ ∀ t ∈ ts, asg cfg sfh (foldCet c ts) t = true := by
  cases ts with
  | nil => exact ⟨gg_leaf cfg sfh rfl, fun t ht => by cases ht⟩
  | cons t ts =>
    simp only [foldCet]
    obtain ⟨g, u, v⟩ := foldl_ub cfg sfh hl c hc ts t (hts t (by simp)) (fun x hx => hts x (by simp [hx]))
    refine ⟨g, fun x hx => ?_⟩
    simp only [List.mem_cons] at hx
    rcases hx with rfl | hx
    · exact u
    · exact v x hx

theorem cg_iterator {e : Ty} : CG cfg sfh (.iterator e) ↔ CG cfg sfh e := gg_iterator cfg sfh e

theorem cg_mkEnum (hidem : ∀ s, cfg.lower (cfg.lower s) = cfg.lower s) (us : List String) (cj : Bool) : CG cfg sfh (mkEnum cfg us cj) := by
  unfold mkEnum
  split
  · exact gg_enum cfg sfh []
  · refine ⟨?_, by simp [Ty.TA]⟩
    unfold Ty.WF
    intro hcj x hx
    subst hcj
    simp only [if_true, List.mem_map] at hx
    obtain ⟨y, _, rfl⟩ := hx
    exact hidem y

theorem cu_str (a b : Ty) (ha : isStringFamily a = true) (hb : isStringFamily b = true) (pa : a.plainR = true) (pb : b.plainR = true) :
    CU cfg sfh a b .str :=
  ⟨gg_leaf cfg sfh rfl, str_accepts cfg sfh a ha pa, str_accepts cfg sfh b hb pb⟩

theorem cu_cov {c : Ty → Ty} (hc : Cov c) {x y z : Ty} (ha : CG cfg sfh (c x)) (hb : CG cfg sfh (c y))
    (h : CG cfg sfh x → CG cfg sfh y → CU cfg sfh x y z) : CU cfg sfh (c x) (c y) (c z) := by
  obtain ⟨g, u1, u2⟩ := h ((hc.gg cfg sfh x).1 ha) ((hc.gg cfg sfh y).1 hb)
  exact ⟨(hc.gg cfg sfh z).2 g, mono_cov cfg sfh hc u1, mono_cov cfg sfh hc u2⟩

theorem common_all (hl : ∀ s, (cfg.lower s).length = s.length) (hidem : ∀ s, cfg.lower (cfg.lower s) = cfg.lower s) :
    ∀ (n : Nat) (a b : Ty), CG cfg sfh a → CG cfg sfh b → CU cfg sfh a b (commonF cfg sfh n a b) := by
  intro n
  induction n with
  | zero => intro a b _ _; unfold commonF; exact ⟨gg_leaf cfg sfh rfl, asg_any_l cfg sfh a, asg_any_l cfg sfh b⟩
  | succ n ih =>
    intro a b ha hb
    have ua := cg_not_unit cfg sfh ha
    have ub := cg_not_unit cfg sfh hb
    have ra := cg_refl cfg sfh ha
    have rb := cg_refl cfg sfh hb
    by_cases h1 : asg cfg sfh a b = true
    · rw [commonF_left cfg sfh ua ub h1]; exact ⟨ha, ra, h1⟩
    have h1' := eq_false_of_ne_true h1
    by_cases h2 : asg cfg sfh b a = true
    · rw [commonF_right cfg sfh ua ub h1' h2]; exact ⟨hb, h2, rb⟩
    have h2' := eq_false_of_ne_true h2
    have tl : CU cfg sfh a b (commonTail cfg sfh a b) :=
      commonTail_cases cfg sfh a b _ (gg_leaf cfg sfh rfl) (gg_leaf cfg sfh rfl) (gg_leaf cfg sfh rfl)
        (gg_leaf cfg sfh rfl) (gg_leaf cfg sfh rfl) (gg_leaf cfg sfh rfl)
    unfold commonF
    simp only [ua, ub, h1', h2', Bool.false_eq_true, if_false]
    -- the merges in the order of `commonality.go`: Enum, String with a size, String literal, Array, Float, Integer, Iterable, Iterator,
    -- Runtime, NotUndef, Pattern, Tuple, Type, Variant; then the tail
    split
    · split
      · exact ⟨cg_mkEnum cfg sfh hidem _ _, common_enum_strVal cfg sfh _ _ _ (enum_vals_ne cfg sfh rfl rfl h1')⟩
      · exact cu_str cfg sfh _ _ rfl rfl rfl rfl
      · exact cu_str cfg sfh _ _ rfl rfl rfl rfl
      · exact ⟨cg_mkEnum cfg sfh hidem _ _,
          common_enum_enum cfg sfh _ _ _ _ (enum_vals_ne cfg sfh rfl rfl h1') (enum_vals_ne cfg sfh rfl rfl h2')⟩
      · exact tl
    · rename_i r
      split
      · rename_i r'
        unfold mkStr
        split
        · exact cu_str cfg sfh _ _ rfl rfl rfl rfl
        · exact ⟨gg_leaf cfg sfh rfl, asg_of_recv cfg sfh (.inl rfl) (by unfold asgRecv; exact hull_sub_l r r'),
            asg_of_recv cfg sfh (.inl rfl) (by unfold asgRecv; exact hull_sub_r r r')⟩
      · exact cu_str cfg sfh _ _ rfl rfl rfl rfl
      · exact cu_str cfg sfh _ _ rfl rfl rfl rfl
      · exact cu_str cfg sfh _ _ rfl rfl rfl rfl
      · exact tl
    · rename_i s
      split
      · exact ⟨gg_enum cfg sfh _, enum_recv_strVal cfg sfh _ false s (by simp) (by simp),
          enum_recv_strVal cfg sfh _ false _ (by simp) (by simp)⟩
      · exact cu_str cfg sfh _ _ rfl rfl rfl rfl
      · exact cu_str cfg sfh _ _ rfl rfl rfl rfl
      · obtain ⟨g, l, r⟩ := ih _ _ hb ha
        exact ⟨g, r, l⟩
      · exact tl
    · rename_i e r
      split
      · rename_i e' r'
        obtain ⟨g, u1, u2⟩ := ih e e' ((gg_array cfg sfh ..).1 ha) ((gg_array cfg sfh ..).1 hb)
        exact ⟨(gg_array cfg sfh ..).2 g, asg_array_of cfg sfh (hull_sub_l r r') (.inr u1), asg_array_of cfg sfh (hull_sub_r r r') (.inr u2)⟩
      · exact tl
    · split
      · exact ⟨gg_leaf cfg sfh rfl, common_float cfg sfh _ _ _ _⟩
      · exact tl
    · split
      · exact ⟨gg_leaf cfg sfh rfl, common_int cfg sfh _ _⟩
      · exact tl
    · split
      · exact cu_cov cfg sfh .iterable ha hb (ih _ _)
      · exact tl
    · split
      · exact cu_cov cfg sfh .iterator ha hb (ih _ _)
      · exact tl
    · -- Runtime: `Runtime[rt]` when the runtimes agree, else the default Runtime
      rename_i rt nm pt
      split
      · rename_i rt' nm' pt'
        by_cases e : rt = rt'
        · subst e
          simp only [beq_self_eq_true, if_true]
          exact ⟨gg_leaf cfg sfh rfl, asg_runtime_of cfg sfh (rtAcc_runtime rt nm pt), asg_runtime_of cfg sfh (rtAcc_runtime rt nm' pt')⟩
        · have hne : (rt == rt') = false := by simpa using e
          simp only [hne, Bool.false_eq_true, if_false]
          exact ⟨gg_leaf cfg sfh rfl, asg_runtime_of cfg sfh (rtAcc_default rt nm pt), asg_runtime_of cfg sfh (rtAcc_default rt' nm' pt')⟩
      · exact tl
    · split
      · exact cu_cov cfg sfh .notUndef ha hb (ih _ _)
      · exact tl
    · -- Pattern: neither is the default Pattern (which accepts every Pattern)
      rename_i rs
      split
      · rename_i rs'
        have hr : rs ≠ [] := by
          intro h; subst h
          rw [asg_of_recv cfg sfh (.inl rfl) (by unfold asgRecv; simp)] at h1'; cases h1'
        have hr' : rs' ≠ [] := by
          intro h; subst h
          rw [asg_of_recv cfg sfh (.inl rfl) (by unfold asgRecv; simp)] at h2'; cases h2'
        exact ⟨gg_leaf cfg sfh rfl,
          pattern_recv_pattern cfg sfh _ rs (fun _ => hr) fun x hx => List.mem_eraseDups.2 (by simp [hx]),
          pattern_recv_pattern cfg sfh _ rs' (fun _ => hr') fun x hx => List.mem_eraseDups.2 (by simp [hx])⟩
      · exact tl
    · -- Tuple: an Array of the common type of the two element folds; it accepts each declared type through its fold, by transitivity
      rename_i ts g
      split
      · rename_i ts' g'
        obtain ⟨la, hts⟩ := (gg_tuple cfg sfh ..).1 ha
        obtain ⟨lb, hts'⟩ := (gg_tuple cfg sfh ..).1 hb
        obtain ⟨gf, uf⟩ := foldCet_ub cfg sfh hl (commonF cfg sfh n) ih ts hts
        obtain ⟨gf', uf'⟩ := foldCet_ub cfg sfh hl (commonF cfg sfh n) ih ts' hts'
        obtain ⟨gc, c1, c2⟩ := ih _ _ gf gf'
        refine ⟨(gg_array cfg sfh ..).2 gc, ?_, ?_⟩
        · exact asg_array_tuple_of cfg sfh ts g (hull_sub_l _ _) (fun h => by subst h; exact c1)
            fun t ht => cg_trans cfg sfh hl gc gf (hts t ht) c1 (uf t ht)
        · exact asg_array_tuple_of cfg sfh ts' g' (hull_sub_r _ _) (fun h => by subst h; exact c2)
            fun t ht => cg_trans cfg sfh hl gc gf' (hts' t ht) c2 (uf' t ht)
      · exact tl
    · split
      · exact cu_cov cfg sfh .typ ha hb (ih _ _)
      · exact tl
    · -- Variant: `UniqueTypes` keeps one of two `Equals` members, which accepts the other
      rename_i ts
      split
      · rename_i ts'
        have hts := (gg_variant cfg sfh ..).1 ha
        have hts' := (gg_variant cfg sfh ..).1 hb
        have hall : ∀ t ∈ ts ++ ts', CG cfg sfh t := by
          intro t ht; simp only [List.mem_append] at ht
          rcases ht with ht | ht
          · exact hts t ht
          · exact hts' t ht
        have gres : CG cfg sfh (mkVariant (uniqueTy (ts ++ ts'))) :=
          gg_mkVariant cfg sfh _ (fun u hu => hall u (uniqueTy_sub _ u hu))
        have acc : ∀ t ∈ ts ++ ts', asg cfg sfh (mkVariant (uniqueTy (ts ++ ts'))) t = true := by
          intro t ht
          rcases uniqueTy_cover (ts ++ ts') t ht with hk | ⟨s, hs, hse⟩
          · exact mkVariant_accepts cfg sfh _ _ hk t (cg_refl cfg sfh (hall t ht))
          · have hs' := hall s (uniqueTy_sub _ s hs)
            exact mkVariant_accepts cfg sfh _ _ hs t (asg_of_tyEq cfg sfh hs'.1 (hall t ht).1 hse).1
        exact ⟨gres, asg_variant_of cfg sfh fun t ht => acc t (by simp [ht]), asg_variant_of cfg sfh fun t ht => acc t (by simp [ht])⟩
      · exact tl
    · exact tl

end Pcore.Lat

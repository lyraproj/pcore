import Pcore.Proofs.FormatXEmbed
/-!
# The laws of the ten-kind model, read off the extended model

`fmtX_embed`: on a map re-keyed by `XKey.base`, the extended formatter computes what `fmtVal` computes.  Every map has such a copy
(`exRel`), and what is asked of the map carries over to the copy (`allGoOK_rel`, `getG_x`).  So a law of `fmtX` (no Go fault, which
errors a scalar reports, the width) is a law of `fmtVal`: take the copy, rewrite with `fmtX_embed`, apply the law.
-/
namespace Pcore.Format

mutual
theorem exTree : ∀ t : FTree, ∃ t', TreeRel t t'
  | .mk f none => ⟨_, .leaf f⟩
  | .mk f (some m) => by
    obtain ⟨m', h⟩ := exRel m
    exact ⟨_, .node f m m' h⟩
theorem exRel : ∀ m : FMap, ∃ m', MapRel m m'
  | [] => ⟨[], .nil⟩
  | (k, t) :: m => by
    obtain ⟨t', ht⟩ := exTree t
    obtain ⟨m', hm⟩ := exRel m
    exact ⟨_, .cons k t t' m m' ht hm⟩
end

/-! A format reachable in the copy is reachable in the map, or is one of the default container formats (which `MapRel.dflt` relates
    to the six of `Format.lean`, and which fmt understands). -/
mutual
theorem inTree_of_rel {g : Fmt} : ∀ {t : FTree} {t' : GTree XKey}, TreeRel t t' → InTreeG g t' → InTree g t ∨ GoOK g
  | _, _, .leaf _, h => by cases h; exact .inl (.here _ none)
  | _, _, .node f m m' hm, h => by
    cases h with
    | here => exact .inl (.here _ (some m))
    | deeper _ _ h => exact (inMap_of_rel hm h).imp_left (.deeper g f m)
theorem inMap_of_rel {g : Fmt} : ∀ {m : FMap} {m' : GMap XKey}, MapRel m m' → InMapG g m' → InMap g m ∨ GoOK g
  | _, _, .nil, h => by cases h with | mk _ _ _ hmem _ => cases hmem
  | _, _, .dflt, h => .inr (allGoOKG_defaultCF _ g h)
  | _, _, .cons k t t' m m' ht hm, h => by
    cases h with
    | mk k' t'' _ hmem hin =>
      rcases List.mem_cons.1 hmem with he | hmem
      · cases he; exact (inTree_of_rel ht hin).imp_left (.mk g k t _ (List.mem_cons_self ..))
      · refine (inMap_of_rel hm (.mk g k' t'' m' hmem hin)).imp_left fun h => ?_
        cases h with
        | mk k0 t0 _ h0 hi => exact .mk g k0 t0 _ (List.mem_cons_of_mem _ h0) hi
end

theorem allGoOK_rel {m : FMap} {m' : GMap XKey} (h : AllGoOK m) (hr : MapRel m m') : AllGoOKG m' :=
  fun g hg => (inMap_of_rel hr hg).elim (h g) id

theorem getG_x {m : FMap} {m' : GMap XKey} (hr : MapRel m m') (v : Val) : (getG kindKeys m' v.x).f = (getFormat m v.kind).f :=
  (getRel m m' hr v.kind v.x (Val.x_kind v)).f_eq

theorem Val.x_isLeaf (v : Val) (hv : v.isContainer = false) : v.x.isLeaf = true := by
  cases v with
  | array vs => cases hv
  | hash es => cases hv
  | _ => rfl

/-- none of the ten kinds is one of the four whose ToString never looks at the width -/
theorem Kind.x_ne_widthless (k : Kind) : k.x ≠ .tspan ∧ k.x ≠ .tstamp ∧ k.x ≠ .sensitive ∧ k.x ≠ .talias := by cases k <;> decide

theorem noFault_val (io : FloatIO) : ∀ (v : Val) (m : FMap) (ind : Ind), AllGoOK m → ∀ k, fmtVal io m ind v ≠ .fault k := by
  intro v m ind h k
  obtain ⟨m', hr⟩ := exRel m
  rw [← fmtX_embed io v m m' ind hr]
  exact noFaultX kindKeys io v.x m' ind (allGoOK_rel h hr) k

theorem noFault_elems (io : FloatIO) : ∀ (vs : List Val) (m cf : FMap) (ci : Ind), AllGoOK m → AllGoOK cf →
    NoFaultL (fmtElems io m cf ci vs) := by
  intro vs m cf ci hm hcf
  obtain ⟨m', hr⟩ := exRel m
  obtain ⟨cf', hc⟩ := exRel cf
  rw [← fmtX_embed_elems io vs m m' cf cf' ci hr hc]
  exact noFaultX_elems kindKeys io _ m' cf' ci (allGoOK_rel hm hr) (allGoOK_rel hcf hc)

theorem noFault_pairs (io : FloatIO) : ∀ (es : List Entry) (m cf : FMap) (ci : Ind), AllGoOK m → AllGoOK cf →
    NoFaultL (fmtPairs io m cf ci es) := by
  intro es m cf ci hm hcf
  obtain ⟨m', hr⟩ := exRel m
  obtain ⟨cf', hc⟩ := exRel cf
  rw [← fmtX_embed_pairs io es m m' cf cf' ci hr hc]
  exact noFaultX_pairs kindKeys io _ m' cf' ci (allGoOK_rel hm hr) (allGoOK_rel hcf hc)

theorem noFault_entryArrs (io : FloatIO) : ∀ (es : List Entry) (m : FMap) (ind : Ind), AllGoOK m →
    NoFaultL (fmtEntryArrs io m ind es) := by
  intro es m ind hm
  obtain ⟨m', hr⟩ := exRel m
  rw [← fmtX_embed_entryArrs io es m m' ind hr]
  exact noFaultX_entryArrs kindKeys io _ m' ind (allGoOK_rel hm hr)

theorem fmtVal_reported_scalar (io : FloatIO) (m : FMap) (ind : Ind) (v : Val) (hv : v.isContainer = false) (c : Code)
    (h : fmtVal io m ind v = .reported c) :
    (c = .unsupported ∧ accepts v.kind (getFormat m v.kind).f.letter = false) ∨
    (c = .failure ∧ (getFormat m v.kind).f.letter = 's' ∧ ∃ bs, v = .binary bs none) := by
  obtain ⟨m', hr⟩ := exRel m
  have := fmtX_reported_leaf kindKeys io m' ind v.x (Val.x_isLeaf v hv) c (fmtX_embed io v m m' ind hr ▸ h)
  rw [Val.x_kind, acceptsX_old, getG_x hr v] at this
  refine this.imp_right fun ⟨h1, h2, bs, h3⟩ => ⟨h1, h2, bs, ?_⟩
  cases v <;> cases h3; rfl

theorem fmtVal_unsupported_iff (io : FloatIO) (m : FMap) (ind : Ind) (v : Val) (hv : v.isContainer = false) :
    fmtVal io m ind v = .reported .unsupported ↔ accepts v.kind (getFormat m v.kind).f.letter = false := by
  obtain ⟨m', hr⟩ := exRel m
  rw [← fmtX_embed io v m m' ind hr, fmtX_unsupported_iff kindKeys io m' ind v.x (Val.x_isLeaf v hv), Val.x_kind, acceptsX_old,
    getG_x hr v]

/-- **width**: a scalar rendered under a format with width `w` is at least `w` runes wide (float digits excluded) -/
theorem fmtVal_width (io : FloatIO) (m : FMap) (ind : Ind) (v : Val) (f : Fmt) (hf : (getFormat m v.kind).f = f)
    (hv : v.isContainer = false) (w : Nat) (hw : f.width = some w) (hgo : GoOK f)
    (hfl : isFloatLetter f.letter = false ∨ v.kind = .str ∨ v.kind = .bin ∨ v.kind = .dflt ∨ v.kind = .undef ∨ v.kind = .regexp)
    (s : Str) (h : fmtVal io m ind v = .text s) : w ≤ s.length := by
  obtain ⟨m', hr⟩ := exRel m
  refine fmtX_width kindKeys io m' ind v.x f ((getG_x hr v).trans hf) ((Val.x_isContainer v).trans hv)
    (Val.x_kind v ▸ Kind.x_ne_widthless v.kind) w hw hgo ?_ s (fmtX_embed io v m m' ind hr ▸ h)
  -- a kind that `hfl` lists is none of the three numeric kinds
  rw [Val.x_kind]
  refine hfl.imp_right fun hk => ?_
  rcases hk with hk | hk | hk | hk | hk <;> rw [hk] <;> decide

end Pcore.Format

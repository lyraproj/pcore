import Pcore.Proofs.DispatchRun
import Pcore.Proofs.DispatchStruct
import Pcore.Model.DispatchCtors
/-!
The constructors on the driver's alphabet `Alpha`.  First the interface every constructor file uses: a constructor's answer
is the body of the first creator that accepts the arguments (`ctorCall_of_run` from a table lemma, `ctorCall_spec` in general),
so a body only runs with arguments its declaration accepts (`ctorCall_no_fault`; the declaration is then read from the left
with `DeclAccepts.req` / `.opt` / `.cons`).  Then, by that reading: the modelled constructors of Integer, Boolean, Array/Tuple
and Hash/Struct never reach a fault arm of their bodies.  Core Lean only.
-/
namespace Pcore.Dispatch.Alpha

/-! ### The interface: what `ctorCall` and `anyCallable` answer, by the creator that accepts -/

/-- a constructor's answer and its callability test, given the outcome of the run over its table (which is what a table lemma
    such as `binary_run` states) -/
theorem ctorCall_of_run {c : Ctor} {args : List Val} {o : Outcome}
    (h : run inst binst c.creators args (none : Option Blk) = .called o) :
    ctorCall c args = (match (generalizing := false) o with | .ran i => c.body i args | .reported => .reported "ILLEGAL_ARGUMENTS") ∧
    anyCallable c args = (match (generalizing := false) o with | .ran _ => true | .reported => false) := by
  unfold ctorCall anyCallable; rw [h]; cases o <;> exact ⟨rfl, rfl⟩

theorem ctorCall_ran {c : Ctor} {args : List Val} {i : Nat}
    (h : run inst binst c.creators args (none : Option Blk) = .called (.ran i)) : ctorCall c args = c.body i args :=
  (ctorCall_of_run h).1

theorem ctorCall_spec (c : Ctor) (hb : ∃ bs, buildAll c.creators = .ok bs) (args : List Val) :
    (anyCallable c args = false ∧ ctorCall c args = .reported "ILLEGAL_ARGUMENTS" ∧
      ∀ cr ∈ c.creators, ¬ CreatorAccepts inst binst cr args (none : Option Blk)) ∨
    ∃ i cr, c.creators[i]? = some cr ∧ CreatorAccepts inst binst cr args (none : Option Blk) ∧
      (∀ j, j < i → ∀ cr', c.creators[j]? = some cr' → ¬ CreatorAccepts inst binst cr' args (none : Option Blk)) ∧
      anyCallable c args = true ∧ ctorCall c args = c.body i args := by
  obtain ⟨bs, hbs⟩ := hb
  cases hr : run inst binst c.creators args (none : Option Blk) with
  | builderRejected p => simp [run, hbs] at hr; split at hr <;> cases hr
  | resolveFailed e => exact absurd hr (run_no_fault inst binst _ args none e)
  | called o =>
    cases o with
    | reported =>
      exact .inl ⟨(ctorCall_of_run hr).2, (ctorCall_of_run hr).1, (run_nomatch inst binst hbs args none).mp hr⟩
    | ran i =>
      obtain ⟨cr, hcr, hacc, hfirst⟩ := (run_ran_iff inst binst hbs args none i).mp hr
      exact .inr ⟨i, cr, hcr, hacc, hfirst, (ctorCall_of_run hr).2, ctorCall_ran hr⟩

theorem anyCallable_false (c : Ctor) (hb : ∃ bs, buildAll c.creators = .ok bs) (args : List Val)
    (h : anyCallable c args = false) : ctorCall c args = .reported "ILLEGAL_ARGUMENTS" := by
  rcases ctorCall_spec c hb args with ⟨-, hc, -⟩ | ⟨_, _, _, _, _, ht, _⟩
  · exact hc
  · rw [h] at ht; cases ht

theorem anyCallable_true (c : Ctor) (hb : ∃ bs, buildAll c.creators = .ok bs) (args : List Val)
    (h : anyCallable c args = true) :
    ∃ i cr, c.creators[i]? = some cr ∧ CreatorAccepts inst binst cr args (none : Option Blk) ∧ ctorCall c args = c.body i args := by
  rcases ctorCall_spec c hb args with ⟨hf, -, -⟩ | ⟨i, cr, hcr, hacc, -, -, hc⟩
  · rw [h] at hf; cases hf
  · exact ⟨i, cr, hcr, hacc, hc⟩

theorem ctorCall_value_callable (c : Ctor) (args : List Val) (r : Val) (h : ctorCall c args = .value r) :
    anyCallable c args = true := by
  unfold ctorCall at h
  unfold anyCallable
  cases hr : run inst binst c.creators args (none : Option Blk) with
  | builderRejected p => simp [hr] at h
  | resolveFailed e => simp [hr] at h
  | called o =>
    cases o with
    | reported => simp [hr] at h
    | ran i => rfl

theorem ctorCall_no_fault (c : Ctor) (hb : ∃ bs, buildAll c.creators = .ok bs) (args : List Val)
    (h : ∀ i cr, c.creators[i]? = some cr → DeclAccepts inst (paramsOf cr.ops) args → c.body i args ≠ .fault) :
    ctorCall c args ≠ .fault := by
  rcases ctorCall_spec c hb args with ⟨-, hc, -⟩ | ⟨i, cr, hcr, hacc, -, -, hc⟩
  · rw [hc]; exact fun h => nomatch h
  · rw [hc]; exact h i cr hcr hacc.1

theorem initCall_no_fault (c : Ctor) (h : ∀ args, ctorCall c args ≠ .fault) (ia args : List Val) :
    initCall c ia args ≠ .fault := by
  unfold initCall
  split
  · exact h _
  · split
    · exact h args
    · split <;> exact h _

/-! ### Integer, Boolean, Array: under its declaration each body computes (`named_value` and `named_abs`, which read a hash of
    named arguments, also serve Float/Numeric, Timespan and Binary) -/

theorem intFromConvertible_no_fault (v : Val) (r : Nat) (h : inst convertible v = true) :
    intFromConvertible v r ≠ .fault := by
  cases v <;> simp [convertible, anyTimespan, inst, instAny] at h <;> simp [intFromConvertible]
  split <;> simp

theorem asBool_of_inst (v : Val) (h : inst .bool v = true) : ∃ b, asBool v = some b := by
  obtain ⟨b, rfl⟩ := inst_bool.mp h
  exact ⟨b, rfl⟩

theorem applyAbs_no_fault (abs : Bool) (r : CtorResult Val) (h : r ≠ .fault) : applyAbs abs r ≠ .fault := by
  unfold applyAbs
  split
  · simp
  · exact h

/-- what the `NamedArgs` bodies need from `StructType.IsInstance`: a member that is not optional is there with a value of
    its type (`from`), and the optional boolean member `abs` is absent or a boolean -/
theorem named_value {ms : List (String × Bool × Ty)} {es : List (Val × Val)} {name : String} {t : Ty}
    (hm : ∀ m ∈ ms, (∃ x, lookupKey m.1 es = some x ∧ inst m.2.2 x = true) ∨ (m.2.1 = true ∧ lookupKey m.1 es = none))
    (hin : (name, false, t) ∈ ms) : ∃ x, lookupKey name es = some x ∧ inst t x = true :=
  (hm _ hin).resolve_right fun h => nomatch h.1

theorem named_from {ms : List (String × Bool × Ty)} {es : List (Val × Val)} {t : Ty}
    (hm : ∀ m ∈ ms, (∃ x, lookupKey m.1 es = some x ∧ inst m.2.2 x = true) ∨ (m.2.1 = true ∧ lookupKey m.1 es = none))
    (hin : ("from", false, t) ∈ ms) : ∃ x, lookupKey "from" es = some x ∧ inst t x = true :=
  named_value hm hin

theorem named_abs {ms : List (String × Bool × Ty)} {es : List (Val × Val)}
    (hm : ∀ m ∈ ms, (∃ x, lookupKey m.1 es = some x ∧ inst m.2.2 x = true) ∨ (m.2.1 = true ∧ lookupKey m.1 es = none))
    (hin : ("abs", true, Ty.bool) ∈ ms) :
    lookupKey "abs" es = none ∨ ∃ b, lookupKey "abs" es = some (.bool b) := by
  rcases hm _ hin with ⟨x, hl, hi⟩ | ⟨_, h⟩
  · obtain ⟨b, rfl⟩ := inst_bool.mp hi
    exact .inr ⟨b, hl⟩
  · exact Or.inl h

theorem integerBody1_no_fault (es : List (Val × Val))
    (hm : ∀ m ∈ [("from", false, convertible), ("radix", true, radixTy), ("abs", true, Ty.bool)],
      (∃ x, lookupKey m.1 es = some x ∧ inst m.2.2 x = true) ∨ (m.2.1 = true ∧ lookupKey m.1 es = none)) :
    integerBody1 es ≠ .fault := by
  obtain ⟨x, hl, hi⟩ := named_from (t := convertible) hm (by simp)
  have hx := intFromConvertible_no_fault x (namedRadix es) hi
  unfold integerBody1
  simp only [hl, Option.getD_some]
  rcases named_abs hm (by simp) with ha | ⟨b, ha⟩ <;> simp only [ha, asBool] <;> exact applyAbs_no_fault _ _ hx

theorem integer_no_fault (args : List Val) : ctorCall integerCtor args ≠ .fault := by
  refine ctorCall_no_fault _ ⟨_, rfl⟩ args fun i cr hcr h => ?_
  match i, hcr with
  | 0, hcr =>
    cases hcr
    obtain ⟨a0, rest, rfl, h0, hr⟩ := h.req
    have habs : ∃ b, absOf rest = some b := by
      rcases hr.opt with rfl | ⟨_, rest1, rfl, -, hr1⟩
      · exact ⟨_, rfl⟩
      · rcases hr1.opt with rfl | ⟨a2, _, rfl, h2, -⟩
        · exact ⟨_, rfl⟩
        · exact asBool_of_inst a2 h2
    obtain ⟨b, hb⟩ := habs
    simp only [integerCtor, integerBody0, hb]
    exact applyAbs_no_fault _ _ (intFromConvertible_no_fault a0 (radixOf rest) h0)
  | 1, hcr =>
    cases hcr
    obtain ⟨a0, rest, rfl, h0, -⟩ := h.req
    obtain ⟨es, rfl, -, hm⟩ := inst_struct _ (by decide) a0 h0
    exact integerBody1_no_fault es hm
  | n + 2, hcr => cases hcr

theorem boolean_no_fault (args : List Val) : ctorCall booleanCtor args ≠ .fault := by
  refine ctorCall_no_fault _ ⟨_, rfl⟩ args fun i cr hcr h => ?_
  match i, hcr with
  | 0, hcr =>
    cases hcr
    obtain ⟨a0, rest, rfl, h0, -⟩ := h.req
    -- on an integer, a float, a boolean or a string the body computes to a value
    cases a0 <;> simp [boolParam, inst, instAny] at h0 <;> exact fun hf => nomatch hf
  | n + 1, hcr => cases hcr

/-- `Variant[Array,Hash,Binary,Iterable]` on the alphabet -/
theorem arrayParam_cases (v : Val) (h : inst arrayParam v = true) :
    (∃ vs, v = .arr vs) ∨ (∃ es, v = .hash es) ∨ (∃ bs, v = .binary bs) ∨ ∃ s, v = .str s := by
  cases v <;> simp [arrayParam, inst, instAny] at h ⊢

theorem stringElements_no_fault (s : String) : stringElements s ≠ .fault := by
  unfold stringElements; split <;> simp

theorem array_no_fault (args : List Val) : ctorCall arrayCtor args ≠ .fault := by
  refine ctorCall_no_fault _ ⟨_, rfl⟩ args fun i cr hcr h => ?_
  match i, hcr with
  | 0, hcr =>
    cases hcr
    obtain ⟨a0, rest, rfl, h0, hr⟩ := h.req
    rcases arrayParam_cases a0 h0 with ⟨vs, rfl⟩ | ⟨es, rfl⟩ | ⟨bs, rfl⟩ | ⟨s, rfl⟩
    · rcases hr.opt with rfl | ⟨a1, _, rfl, h1, -⟩
      · simp [arrayCtor]
      · obtain ⟨b, hb⟩ := asBool_of_inst a1 h1
        cases b <;> simp [arrayCtor, hb]
    · simp [arrayCtor]
    · simp [arrayCtor]
    · exact stringElements_no_fault s
  | n + 1, hcr => cases hcr

/-! ### Hash: the tree walk meets no fault arm on the `[path, value]` pairs its dispatch lets through (what it answers is in
    Proofs/CtorHash.lean) -/

theorem hashFromArray_no_fault (vs : List Val) : hashFromArray vs ≠ .fault := by
  unfold hashFromArray
  split
  · split <;> simp
  · split <;> simp

/-- an entry of the tree walk as the dispatch lets it through: a `[path-array, value]` pair, so no assertion on it fails -/
def treePair (e : Val) : Prop := ∃ p x, e = .arr [.arr p, x]

theorem treePair_of_inst (e : Val) (h : inst (.tuple [.arr .any 0 none, .any]) e = true) : treePair e := by
  cases e <;> simp [inst] at h
  rename_i vs
  match vs, h with
  | [a, b], h =>
    simp [instZip, inst] at h
    cases a <;> simp at h
    exact ⟨_, _, rfl⟩
  | [], h => simp [instZip] at h
  | [_], h => simp [instZip] at h
  | _ :: _ :: _ :: _, h => simp [instZip] at h

theorem treeEntry_no_fault (allHashes : Bool) (root : List (Val × Node)) (e : Val) (h : treePair e) :
    treeEntry allHashes root e ≠ .fault := by
  obtain ⟨p, x, rfl⟩ := h
  simp only [treeEntry]
  split
  · simp
  · split
    · split
      · simp
      · split <;> simp
      · simp
    · simp

theorem treeLoop_no_fault (allHashes : Bool) (es : List Val) (h : ∀ e ∈ es, treePair e) (root : List (Val × Node)) :
    treeLoop allHashes root es ≠ .fault := by
  induction es generalizing root with
  | nil => simp [treeLoop]
  | cons e es ih =>
    simp only [treeLoop]
    have h1 := treeEntry_no_fault allHashes root e (h e (by simp))
    cases hs : treeEntry allHashes root e with
    | ok root' => exact ih (fun e' he' => h e' (by simp [he'])) root'
    | unmodelled => simp
    | fault => exact absurd hs h1

theorem iterable_cases (v : Val) (h : inst iterableTy v = true) :
    (∃ vs, v = .arr vs) ∨ (∃ es, v = .hash es) ∨ ∃ s, v = .str s := by
  cases v <;> simp [iterableTy, inst, instAny] at h ⊢

theorem hash_no_fault (args : List Val) : ctorCall hashCtor args ≠ .fault := by
  refine ctorCall_no_fault _ ⟨_, rfl⟩ args fun i cr hcr h => ?_
  match i, hcr with
  | 0, hcr =>
    cases hcr
    obtain ⟨a0, rest, rfl, h0, hr⟩ := h.req
    cases a0 <;> simp [treeArray, inst] at h0
    rename_i vs
    rcases hr.opt with rfl | ⟨a1, _, rfl, h1, -⟩
    · exact hashFromArray_no_fault vs
    · obtain ⟨s, rfl, -⟩ := inst_enum.mp h1
      exact treeLoop_no_fault _ vs (fun e he => treePair_of_inst e (h0.2 e he)) []
  | 1, hcr =>
    cases hcr
    obtain ⟨a0, rest, rfl, h0, -⟩ := h.req
    cases a0 <;> simp [keyValueArray, inst] at h0
    exact hashFromArray_no_fault _
  | 2, hcr =>
    cases hcr
    obtain ⟨a0, rest, rfl, h0, -⟩ := h.req
    rcases iterable_cases a0 h0 with ⟨vs, rfl⟩ | ⟨es, rfl⟩ | ⟨s, rfl⟩
    · exact hashFromArray_no_fault vs
    · simp [hashCtor]
    · simp only [hashCtor]
      cases hres : stringElements s with
      | fault => exact absurd hres (stringElements_no_fault s)
      | reported c => simp
      | value v => cases v <;> simp; exact hashFromArray_no_fault _
  | n + 3, hcr => cases hcr

end Pcore.Dispatch.Alpha

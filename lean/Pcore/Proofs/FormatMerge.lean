import Pcore.Proofs.FormatMergeG
/-!
# The per-type format maps of `Format.lean` (`mergeFormats`, types/format.go after fix 77ca16d)

The 16 keys of `Format.lean` are the keys `XKey.base _` among the 22 parameterless default types, with the same assignability, rank,
name and acceptance.  What is about keys alone is that of `Proofs/FormatMergeG.lean`, transferred along `XKey.base`: the ORDER of the merged
map and the lookup law by `entryLess_eq_G`, the keys of the merged map by `dedup_eq`.  Which entries the merged map holds
(`lookupKey_some_mem`, `mergedEntries_*`) is proved on this table directly, as it is there: the entries carry an `FTree`, which is not a
`GTree Key`, and the relation between the two (`MapEq`, Proofs/FormatMergeRefine.lean) costs more per lemma than the lemma.
-/
namespace Pcore.Format

theorem xkeyOrd_sub_base (a b : Key) : xkeyOrd.sub (.base a) (.base b) = Key.sub a b := rfl
theorem xkeyOrd_rank_base (a : Key) : xkeyOrd.rank (.base a) = a.rank := rfl
theorem xkeyOrd_name_base (a : Key) : xkeyOrd.name (.base a) = a.name := rfl

theorem XKey.accepts_base (k : Key) (kk : Kind) : XKey.accepts (.base k) kk.x = k.accepts kk := by
  cases k <;> cases kk <;> rfl

theorem acceptors_eq (keys : List Key) (k : Key) : acceptorsG xkeyOrd (keys.map XKey.base) (.base k) = acceptors keys k := by
  unfold acceptorsG acceptors
  rw [List.filter_map, List.length_map]
  rfl

theorem entryLess_eq_G (keys : List Key) (a b : Key) :
    entryLessG xkeyOrd (keys.map XKey.base) (.base a) (.base b) = entryLess keys a b := by
  unfold entryLessG entryLess
  simp only [acceptors_eq, xkeyOrd_rank_base, xkeyOrd_name_base]
  rfl

theorem Key.accepts_mono (a b : Key) (k : Kind) : Key.sub a b = true → b.accepts k = true → a.accepts k = true := by
  rw [← XKey.accepts_base, ← XKey.accepts_base]
  exact XKey.accepts_mono (.base a) (.base b) k.x

theorem Key.accepts_sub_exact (a : Key) (k : Kind) (h : a.accepts k = true) : Key.sub a k.key = true := by
  rw [← XKey.accepts_base] at h
  have := XKey.accepts_sub_exact (.base a) k.x h
  rwa [show k.x.key = .base k.key by cases k <;> rfl] at this

theorem Kind.key_accepts (k : Kind) : k.key.accepts k = true := by cases k <;> decide

/-- the position of `Key.name` in the alphabet of the 16 names -/
def Key.nameIdx : Key → Nat
  | .any => 0 | .arr => 1 | .bin => 2 | .bool => 3 | .coll => 4 | .dflt => 5 | .float => 6 | .hash => 7 | .int => 8
  | .numeric => 9 | .obj => 10 | .regexp => 11 | .scalar => 12 | .str => 13 | .typ => 14 | .undef => 15

theorem Key.nameIdx_inj (a b : Key) : a.nameIdx = b.nameIdx → a = b := by cases a <;> cases b <;> decide

theorem sortEntries_mem (m : List (Key × FTree)) (e : Key × FTree) : e ∈ sortEntries m ↔ e ∈ m :=
  mem_insertionSort _ e m

theorem sortEntries_sorted (m : List (Key × FTree)) :
    Sorted (fun (x y : Key × FTree) => entryLess (m.map (·.1)) x.1 y.1) (sortEntries m) := by
  refine insertionSort_fst_sorted _ (fun a b => ?_) (fun a b c => ?_) m
  · rw [← entryLess_eq_G, ← entryLess_eq_G]; exact entryLessG_asymm _ _ _ _
  · rw [← entryLess_eq_G, ← entryLess_eq_G, ← entryLess_eq_G]; exact entryLessG_negtrans _ _ _ _ _

/-- THE LOOKUP LAW of a merged map: the format applied to a kind is the entry of the most specific key that accepts the kind -/
theorem getFormat_sortEntries_least (m : List (Key × FTree)) (hn : (m.map (·.1)).Nodup)
    (K : Key) (t : FTree) (k : Kind) (hm : (K, t) ∈ m) (hacc : K.accepts k = true)
    (hleast : ∀ e ∈ m, e.1.accepts k = true → Key.sub e.1 K = true) :
    getFormat (sortEntries m) k = t := by
  have hmem := sortEntries_mem m
  unfold getFormat
  rw [find?_sorted_first _ (fun a => a.accepts k) _ (sortEntries_sorted m) K t ((hmem _).2 hm) hacc]
  intro e he hacce
  have he := (hmem e).1 he
  by_cases hek : e.1 = K
  · exact Or.inl (nodup_key_inj hn he hm hek)
  · -- `K` is strictly below `e.1`: more acceptors, so earlier in the order
    rw [← entryLess_eq_G]
    exact Or.inr (entryLessG_of_sub xkeyOrd _ (xkeyOrd_lawful _) _ _ (List.mem_map_of_mem (List.mem_map_of_mem hm))
      (List.mem_map_of_mem (List.mem_map_of_mem he)) (hleast e he hacce) (fun h => hek (XKey.base.inj h).symm))

theorem xkeyOrd_eqv_base (a b : Key) : xkeyOrd.eqv (.base a) (.base b) = (a == b) := by
  simp only [xkeyOrd]
  cases h : (a == b) with
  | true => have : a = b := by simpa using h
            subst this; simp
  | false => have : a ≠ b := by simpa using h
             simp [this]

theorem filter_ne_base (k : Key) (l : List Key) :
    (l.map XKey.base).filter (fun o => !xkeyOrd.eqv o (.base k)) = (l.filter (fun o => o != k)).map XKey.base := by
  induction l with
  | nil => rfl
  | cons x xs ih =>
    simp only [List.map_cons, List.filter_cons, xkeyOrd_eqv_base, ih]
    cases h : (x == k) <;> simp [h, bne]

theorem dedup_eq (l : List Key) : dedupG xkeyOrd (l.map XKey.base) = (dedupKeys l).map XKey.base := by
  induction l with
  | nil => rfl
  | cons x xs ih => simp only [List.map_cons, dedupG, dedupKeys, ih, filter_ne_base]

theorem XKey.base_injective : Function.Injective XKey.base := fun _ _ => XKey.base.inj

theorem mem_dedupKeys (k : Key) (l : List Key) : k ∈ dedupKeys l ↔ k ∈ l := by
  rw [← List.mem_map_of_injective XKey.base_injective, ← dedup_eq, mem_dedupG xkeyOrd xkeyOrd_eqv,
    List.mem_map_of_injective XKey.base_injective]

theorem nodup_dedupKeys (l : List Key) : (dedupKeys l).Nodup :=
  List.Pairwise.of_map XKey.base (fun _ _ h e => h (congrArg _ e)) (dedup_eq l ▸ nodup_dedupG xkeyOrd xkeyOrd_eqv _)

theorem lookupKey_some_mem (m : List (Key × FTree)) (k : Key) (t : FTree) (h : lookupKey m k = some t) : (k, t) ∈ m := by
  unfold lookupKey at h
  obtain ⟨e, hf, rfl⟩ := Option.map_eq_some_iff.1 h
  obtain ⟨hm, rfl⟩ := find_key_some (key := Prod.fst) hf
  exact hm

theorem mergedEntries_fst (mt : FTree → FTree → FTree) (lo hi : List (Key × FTree)) (k : Key) (e : Key × FTree)
    (h : (match lookupKey (normLowerOf lo hi) k, lookupKey hi k with
      | some l, some h => some (k, mt l h)
      | some l, none => some (k, l)
      | none, some h => some (k, h)
      | none, none => none) = some e) : e.1 = k := by
  split at h <;> simp only [Option.some.injEq, reduceCtorEq] at h <;> rw [← h]

theorem mergedEntries_keys_nodup (mt : FTree → FTree → FTree) (lo hi : List (Key × FTree)) :
    ((mergedEntries mt lo hi).map (·.1)).Nodup :=
  filterMap_keys_nodup _ (mergedEntries_fst mt lo hi) _ (nodup_dedupKeys _)

theorem mem_mergedKeys_of_user (lo hi : List (Key × FTree)) (K : Key) (h : FTree) (hh : lookupKey hi K = some h) :
    K ∈ mergedKeys lo hi := by
  unfold mergedKeys
  rw [mem_dedupKeys]
  exact List.mem_append_right _ (List.mem_map.2 ⟨(K, h), lookupKey_some_mem hi K h hh, rfl⟩)

/-- a default entry whose key the user maps too — and that no OTHER user key accepts — is merged with the user's entry:
    the user's directive, the default's separators where the user gives none, the container formats merged -/
theorem mergedEntries_both (mt : FTree → FTree → FTree) (lo hi : List (Key × FTree)) (K : Key) (l h : FTree)
    (hl : lookupKey lo K = some l) (hh : lookupKey hi K = some h)
    (hno : ∀ K' ∈ hi.map (·.1), K' ≠ K → Key.sub K' K = false) :
    (K, mt l h) ∈ mergedEntries mt lo hi := by
  have hnl : lookupKey (normLowerOf lo hi) K = some l := by
    unfold normLowerOf lookupKey
    rw [find?_filter_of_imp, ← lookupKey, hl]
    intro e hek
    simp only [decide_eq_true_eq] at hek
    simp only [Bool.not_eq_true', List.any_eq_false, Bool.and_eq_true, bne_iff_ne, ne_eq, not_and, Bool.not_eq_true]
    intro K' hK' hne
    rw [hek] at hne ⊢
    exact hno K' hK' hne
  unfold mergedEntries
  exact List.mem_filterMap.2 ⟨K, mem_mergedKeys_of_user lo hi K h hh, by simp only [hnl, hh]⟩

theorem mergedEntries_user_only (mt : FTree → FTree → FTree) (lo hi : List (Key × FTree)) (K : Key) (h : FTree)
    (hl : lookupKey (normLowerOf lo hi) K = none) (hh : lookupKey hi K = some h) :
    (K, h) ∈ mergedEntries mt lo hi := by
  unfold mergedEntries
  exact List.mem_filterMap.2 ⟨K, mem_mergedKeys_of_user lo hi K h hh, by simp only [hl, hh]⟩

theorem mergeMaps_both (fuel : Nat) (x : Key × FTree) (xs : List (Key × FTree)) (y : Key × FTree) (ys : List (Key × FTree)) :
    mergeMaps (fuel + 1) (some (x :: xs)) (some (y :: ys)) =
      some (sortEntries (mergedEntries (mergeTree fuel) (x :: xs) (y :: ys))) := by
  simp only [mergeMaps]

theorem mergeMaps_nil_right (fuel : Nat) (x : Key × FTree) (xs : List (Key × FTree)) :
    mergeMaps (fuel + 1) (some (x :: xs)) none = some (x :: xs) := by
  simp only [mergeMaps]

theorem mergeTree_letter (fuel : Nat) (l h : FTree) : (mergeTree fuel l h).f.letter = h.f.letter := by
  cases fuel <;> simp only [mergeTree, FTree.f]

theorem mergeTree_cf (fuel : Nat) (l h : FTree) : (mergeTree (fuel + 1) l h).cf = mergeMaps fuel l.cf h.cf := by
  simp only [mergeTree, FTree.cf]

end Pcore.Format

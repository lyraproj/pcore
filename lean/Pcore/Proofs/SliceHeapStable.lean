import Pcore.Proofs.SliceHeapRefine
/-!
C08 helper lemmas: only mutable hashes are ever retired (`opSem_kill`), hence what a reference to an immutable
pool value denotes is the same at all times (`look_stable`).
-/
namespace Pcore.Heap

theorem ctor_kill? (a b : CtorSite) (cap : Val → Nat) (v : Val) : (ctor a b cap v).kill? = none := by
  unfold ctor inapplicable
  repeat' split
  -- every arm is a marker or an `.alloc`
  all_goals rfl

theorem arrSem_kill? (look : Look) (r : Nat) (xs : List Val) (op : Op) : (arrSem look r xs op).kill? = none := by
  unfold arrSem inapplicable
  repeat' split
  -- no arm of `arrSem` answers `.new … true`
  all_goals rfl

theorem hashSem_kill? (look : Look) (r : Nat) (isMut : Bool) (es : List Val) (op : Op) :
    ∀ x ∈ (hashSem look r isMut es op).kill?, isMut = true ∧ x = (.mutPutAll, .mut, r) := by
  unfold hashSem inapplicable
  dsimp only
  repeat' split
  all_goals (intro x hx; cases hx)
  -- what is left are the arms of `mput` and `mputAll`, behind their test of `isMut`
  all_goals exact ⟨by simp_all, rfl⟩

theorem opSem_kill (look : Look) (op : Op) (site : NewSite) (k : Kind) (r : Nat)
    (hk : (opSem look op).kill? = some (site, k, r)) : (∃ es, look r = some (.mut, es)) ∧ site = .mutPutAll ∧ k = .mut := by
  unfold opSem at hk
  split at hk
  · rw [ctor_kill?] at hk; cases hk
  · split at hk
    · rw [ctor_kill?] at hk; cases hk
    · cases hk
  · split at hk
    · cases hk
    · rw [ctor_kill?] at hk; cases hk
  · cases hk
  · split at hk
    · split at hk <;> cases hk
    · cases hk
  · split at hk
    · cases hk
    · split at hk
      · cases hk
      · rw [arrSem_kill?] at hk; cases hk
      · cases (hashSem_kill? _ _ _ _ _ _ hk).1
      · rename_i es hl
        obtain ⟨_, hx⟩ := hashSem_kill? _ _ _ _ _ _ hk
        cases hx
        exact ⟨⟨es, hl⟩, rfl, rfl⟩

def DeadMut (s : PState) : Prop := ∀ d, s.dead.contains d = true → ∃ es, s.pool[d]? = some (.val .mut es)

theorem DeadMut.step {s : PState} (h : DeadMut s) (op : Op) : DeadMut (stepPure s op) := by
  obtain ⟨⟨e, he⟩, hdead⟩ := stepPure_grows s op
  have old : ∀ (d : Nat) (es : List Val), s.pool[d]? = some (PEntry.val .mut es) →
      ∃ es, (stepPure s op).pool[d]? = some (PEntry.val .mut es) := by
    intro d es hd
    exact ⟨es, he ▸ getElem?_snoc_of_some hd e⟩
  intro d hd
  rw [hdead] at hd
  cases hk : (opSem s.look op).kill? with
  | none =>
    rw [hk] at hd
    obtain ⟨es, hes⟩ := h d hd
    exact old d es hes
  | some x =>
    obtain ⟨site, k, r⟩ := x
    rw [hk, List.contains_cons, Bool.or_eq_true, beq_iff_eq] at hd
    rcases hd with rfl | hd
    · obtain ⟨⟨es, hl⟩, _⟩ := opSem_kill _ _ _ _ _ hk
      exact old d es (look_pool hl)
    · obtain ⟨es, hes⟩ := h d hd
      exact old d es hes

theorem DeadMut.run (ops : List Op) : DeadMut (runPure ops) :=
  foldl_inv (Inv := DeadMut) (step := stepPure) (fun _ op h => h.step op) ops {} (by intro d hd; cases hd)

theorem look_stable (ops : List Op) (n j j' : Nat) (hn : n < j) (hjj : j ≤ j') (hj : j' ≤ ops.length) (k : Kind)
    (xs : List Val) (hk : k ≠ .mut) (h : (runPure (ops.take j)).look n = some (k, xs)) :
    (runPure (ops.take j')).look n = some (k, xs) := by
  have hp' : (runPure (ops.take j')).pool[n]? = some (.val k xs) := by
    rw [← runPure_prefix ops n j j' hn hjj (by omega)]
    exact look_pool h
  refine look_eq_some.mpr ⟨?_, hp'⟩
  cases hd : (runPure (ops.take j')).dead.contains n with
  | false => rfl
  | true =>
    obtain ⟨es, he⟩ := DeadMut.run (ops.take j') n hd
    rw [hp'] at he
    cases he
    exact absurd rfl hk

end Pcore.Heap

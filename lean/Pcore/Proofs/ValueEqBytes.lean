import Pcore.Model.ValueEq
/-! Helper lemmas for C07, byte level.  The file defines `IntOk` (an int64) and `FltOk` (a 64-bit pattern that is not a NaN), the two
    range predicates in which the files after it state their hypotheses.  In order: the fixed-width payload `be64` is injective
    below 2^64, hence the key of an integer under `IntOk`; float equality `feq` is symmetric and transitive, reflexive off NaN, and
    under `FltOk` it is what the key of a float decides; `uvarint` is a prefix code, so a frame, and a concatenation of frames,
    can be read back in one way only. -/
namespace Pcore.ValueEq

theorem ofNat_inj_of_lt {a b : Nat} (ha : a < 256) (hb : b < 256) (h : UInt8.ofNat a = UInt8.ofNat b) : a = b := by
  have := congrArg UInt8.toNat h
  simp at this
  omega

theorem div_eq_of_byte {n m : Nat} (c : Nat) (h : n / (c * 256) = m / (c * 256))
    (e : UInt8.ofNat (n / c % 256) = UInt8.ofNat (m / c % 256)) : n / c = m / c := by
  have e' := ofNat_inj_of_lt (Nat.mod_lt _ (by decide)) (Nat.mod_lt _ (by decide)) e
  rw [← Nat.div_add_mod (n / c) 256, ← Nat.div_add_mod (m / c) 256, Nat.div_div_eq_div_mul, Nat.div_div_eq_div_mul, h, e']

theorem be64_inj {n m : Nat} (hn : n < 18446744073709551616) (hm : m < 18446744073709551616)
    (h : be64 n = be64 m) : n = m := by
  simp only [be64, List.cons.injEq, and_true] at h
  obtain ⟨h0, h1, h2, h3, h4, h5, h6, h7⟩ := h
  have s : n / (72057594037927936 * 256) = m / (72057594037927936 * 256) := by
    rw [Nat.div_eq_of_lt hn, Nat.div_eq_of_lt hm]
  have s := div_eq_of_byte 72057594037927936 s h0
  have s := div_eq_of_byte 281474976710656 s h1
  have s := div_eq_of_byte 1099511627776 s h2
  have s := div_eq_of_byte 4294967296 s h3
  have s := div_eq_of_byte 16777216 s h4
  have s := div_eq_of_byte 65536 s h5
  have s := div_eq_of_byte 256 s h6
  have s := div_eq_of_byte 1 s (by simpa using h7)
  simpa using s

theorem be64_length (n : Nat) : (be64 n).length = 8 := rfl

theorem u64OfInt_lt (i : Int) : u64OfInt i < 18446744073709551616 := by
  unfold u64OfInt; omega

def IntOk (i : Int) : Prop := minInt ≤ i ∧ i ≤ maxInt
def FltOk (b : Nat) : Prop := b < 18446744073709551616 ∧ fIsNaN b = false

theorem u64OfInt_inj {i j : Int} (hi : IntOk i) (hj : IntOk j) (h : u64OfInt i = u64OfInt j) : i = j := by
  unfold u64OfInt at h; unfold IntOk minInt maxInt at hi hj; omega

theorem be64_u64_inj {i j : Int} (hi : IntOk i) (hj : IntOk j) : be64 (u64OfInt i) = be64 (u64OfInt j) ↔ i = j :=
  ⟨fun h => u64OfInt_inj hi hj (be64_inj (u64OfInt_lt i) (u64OfInt_lt j) h), fun h => by rw [h]⟩

theorem intKey_inj {i j : Int} (hi : IntOk i) (hj : IntOk j) : intKey i = intKey j ↔ i = j := by
  simp only [intKey, List.append_cancel_left_eq, be64_u64_inj hi hj]

theorem feq_comm (a b : Nat) : feq a b = feq b a := by
  unfold feq
  rw [BEq.comm (a := a)]
  cases fIsNaN a <;> cases fIsNaN b <;> simp [Bool.and_comm]

theorem feq_refl {a : Nat} (h : fIsNaN a = false) : feq a a = true := by simp [feq, h]

theorem feq_trans {a b c : Nat} (h1 : feq a b = true) (h2 : feq b c = true) : feq a c = true := by
  simp only [feq, Bool.and_eq_true, Bool.not_eq_true', Bool.or_eq_true, beq_iff_eq] at *
  obtain ⟨⟨ha, hb⟩, h1⟩ := h1
  obtain ⟨⟨_, hc⟩, h2⟩ := h2
  refine ⟨⟨ha, hc⟩, ?_⟩
  rcases h1 with h1 | h1 <;> rcases h2 with h2 | h2
  · left; omega
  · right; subst h1; exact h2
  · right; subst h2; exact h1
  · right; exact ⟨h1.1, h2.2⟩

theorem feq_iff_fnorm {a b : Nat} (ha : FltOk a) (hb : FltOk b) : feq a b = true ↔ fnorm a = fnorm b := by
  simp only [feq, fnorm, fIsZero, ha.2, hb.2, Bool.not_false, Bool.true_and, Bool.or_eq_true, beq_iff_eq,
    Bool.and_eq_true]
  split <;> split <;> omega

theorem fnorm_lt {a : Nat} (ha : FltOk a) : fnorm a < 18446744073709551616 := by
  have := ha.1
  simp only [fnorm]; split <;> omega

theorem floatKey_inj {a b : Nat} (ha : FltOk a) (hb : FltOk b) : floatKey a = floatKey b ↔ feq a b = true := by
  rw [feq_iff_fnorm ha hb]
  constructor
  · intro h
    simp only [floatKey, List.append_cancel_left_eq] at h
    exact be64_inj (fnorm_lt ha) (fnorm_lt hb) h
  · intro h; simp [floatKey, h]

/-! ### uvarint is a prefix code -/

/-- with enough fuel the fuel does not matter: one step of `PutUvarint` -/
theorem uvarintAux_step {f n : Nat} (h : n ≤ f) :
    uvarintAux f n = if n < 128 then [UInt8.ofNat n] else UInt8.ofNat (n % 128 + 128) :: uvarintAux (f - 1) (n / 128) := by
  cases f with
  | zero => rw [Nat.le_zero.mp h]; rfl
  | succ f => rfl

theorem uvarintAux_decode : ∀ (n f g m : Nat) (x y : Bytes), n ≤ f → m ≤ g →
    uvarintAux f n ++ x = uvarintAux g m ++ y → n = m ∧ x = y := by
  intro n
  induction n using Nat.strongRecOn with
  | _ n ih =>
    intro f g m x y hn hm h
    rw [uvarintAux_step hn, uvarintAux_step hm] at h
    -- both short, short against long, long against short (the first bytes differ in the high bit), both long
    split at h <;> split at h
    · exact ⟨ofNat_inj_of_lt (by omega) (by omega) (List.cons.inj h).1, (List.cons.inj h).2⟩
    · have := ofNat_inj_of_lt (by omega) (by omega) (List.cons.inj h).1
      omega
    · have := ofNat_inj_of_lt (by omega) (by omega) (List.cons.inj h).1
      omega
    · have h1 := ofNat_inj_of_lt (by omega) (by omega) (List.cons.inj h).1
      have h2 := ih (n / 128) (by omega) (f - 1) (g - 1) (m / 128) x y (by omega) (by omega) (List.cons.inj h).2
      exact ⟨by omega, h2.2⟩

theorem uvarint_decode {n m : Nat} {x y : Bytes} (h : uvarint n ++ x = uvarint m ++ y) : n = m ∧ x = y :=
  uvarintAux_decode n n m m x y (Nat.le_refl _) (Nat.le_refl _) h

theorem frame_decode {a b x y : Bytes} (h : frame a ++ x = frame b ++ y) : a = b ∧ x = y := by
  unfold frame at h
  rw [List.append_assoc, List.append_assoc] at h
  have h1 := uvarint_decode h
  exact List.append_inj h1.2 h1.1

theorem frame_inj {a b : Bytes} (h : frame a = frame b) : a = b := by
  have := @frame_decode a b [] [] (by simpa using h)
  exact this.1

theorem uvarintAux_ne_nil (f n : Nat) : uvarintAux f n ≠ [] := by
  cases f <;> simp [uvarintAux]
  split <;> simp

theorem frame_ne_nil (a : Bytes) : frame a ≠ [] := by
  unfold frame uvarint
  intro h
  exact uvarintAux_ne_nil _ _ (List.append_eq_nil_iff.mp h).1

theorem flat_inj_of_frames : ∀ (as bs : List Bytes), (∀ a ∈ as, ∃ x, a = frame x) → (∀ b ∈ bs, ∃ y, b = frame y) →
    flat as = flat bs → as = bs
  | [], [], _, _, _ => rfl
  | [], b :: bs, _, hb, h => by
      obtain ⟨y, rfl⟩ := hb b List.mem_cons_self
      simp only [flat] at h
      exact absurd (List.append_eq_nil_iff.mp h.symm).1 (frame_ne_nil y)
  | a :: as, [], ha, _, h => by
      obtain ⟨x, rfl⟩ := ha a List.mem_cons_self
      simp only [flat] at h
      exact absurd (List.append_eq_nil_iff.mp h).1 (frame_ne_nil x)
  | a :: as, b :: bs, ha, hb, h => by
      obtain ⟨x, rfl⟩ := ha a List.mem_cons_self
      obtain ⟨y, rfl⟩ := hb b List.mem_cons_self
      simp only [flat] at h
      have h1 := frame_decode h
      rw [h1.1, flat_inj_of_frames as bs (fun a h => ha a (List.mem_cons_of_mem _ h))
        (fun b h => hb b (List.mem_cons_of_mem _ h)) h1.2]

theorem flat_frames_inj (as bs : List Bytes) (h : flat (as.map frame) = flat (bs.map frame)) : as = bs :=
  (List.map_inj_right fun _ _ => frame_inj).mp
    (flat_inj_of_frames _ _ (fun _ ha => (List.mem_map.mp ha).imp fun _ e => e.2.symm)
      (fun _ hb => (List.mem_map.mp hb).imp fun _ e => e.2.symm) h)

end Pcore.ValueEq

import Pcore.Proofs.TlsRefine
/-!
# The fuel of the harness op is always enough (property C14)

`Model/Tls.lean` recurses on an explicit fuel; `run` gives `fuelFor p = 2·size p + 8`.  A goroutine that is run inside another
goroutine's scheduling point gets the fuel LEFT at that leaf, so a chain of nested runs shares one budget.  The budget suffices
because no node of the program is executed twice: with `phi w` = the total size of the programs of the waiting goroutines,

    size p + phi w < f   ⟹   `exec .now f p g c w` does not run out of fuel, leaves `oof` as it was,
                            and `phi (result) + 1 ≤ phi w + size p`

(`exec_fuel`, induction on `f`): a waiting goroutine that is run takes its own size out of `phi` and puts back less than that.
Hence `run_oof : (run .now sched p).oof = false` for every program and oracle, and the refinement theorem `run_refines` holds
without its hypothesis (`run_refines_all`).
-/
namespace Pcore.Tls

/-- total size of the programs of the goroutines that wait to be started -/
def phi (w : World) : Nat := (w.pending.map fun t => t.prog.size).sum

theorem phi_of_pending {w w' : World} (h : w'.pending = w.pending) : phi w' = phi w := by simp [phi, h]

theorem phi_eraseIdx {w : World} {n : Nat} {t : Task} (ht : w.pending[n]? = some t) :
    phi { w with pending := w.pending.eraseIdx n } + t.prog.size = phi w := by
  simp only [phi]
  generalize w.pending = l at ht
  induction l generalizing n with
  | nil => simp at ht
  | cons a r ih =>
    cases n with
    | zero => simp at ht; subst ht; simp; omega
    | succ n => simp at ht; have := ih ht; simp; omega

theorem phi_spawn (c : CtxId) (p : Prog) (w : World) : phi (spawn .now c p w) = phi w + p.size := by
  rw [spawn_now]
  simp [phi]

theorem size_pos (p : Prog) : 1 ≤ p.size := by
  cases p <;> simp only [Prog.size] <;> omega

theorem phi_zero_pending {w : World} (h : phi w = 0) : w.pending = [] := by
  cases hp : w.pending with
  | nil => rfl
  | cons t r =>
    have : 1 ≤ phi w := by
      simp only [phi, hp, List.map_cons, List.sum_cons]
      have := size_pos t.prog
      omega
    omega

/-- the result of an execution of a program of size `s` started with waiting programs of total size `n` and flag `o` -/
def Good (n : Nat) (o : Bool) (s : Nat) (r : Outcome × World) : Prop :=
  r.1 ≠ .fuel ∧ r.2.oof = o ∧ phi r.2 + 1 ≤ n + s

theorem Good.of_sameFuel {n : Nat} {o : Bool} {s : Nat} {r r' : Outcome × World} (h : Good n o s r) (hs : SameFuel r r') :
    Good n o s r' :=
  ⟨fun e => h.1 (hs.2.2.1 e), hs.2.1.trans h.2.1, by rw [phi_of_pending hs.1]; exact h.2.2⟩

theorem Good.mono {n : Nat} {o : Bool} {s s' : Nat} {r : Outcome × World} (h : Good n o s r) (hs : s ≤ s') : Good n o s' r :=
  ⟨h.1, h.2.1, Nat.le_trans h.2.2 (Nat.add_le_add_left hs _)⟩

/-- what the induction hypothesis says about executing with the smaller fuel -/
def FuelOK (f : Nat) : Prop :=
  ∀ p g c w, p.size + phi w < f → Good (phi w) w.oof p.size (exec .now f p g c w)

theorem FuelOK.at {f : Nat} (ih : FuelOK f) {p : Prog} {g : Gid} {c : CtxId} {w w1 : World} (h1 : w1.pending = w.pending)
    (h2 : w1.oof = w.oof) (hf : p.size + phi w < f) : Good (phi w) w.oof p.size (exec .now f p g c w1) := by
  have := ih p g c w1 (by rw [phi_of_pending h1]; exact hf)
  rwa [phi_of_pending h1, h2] at this

/-- a waiting goroutine runs from start to end: it takes its size out of `phi` and puts back less -/
theorem runTask_fuel {f : Nat} (ih : FuelOK f) {w : World} {n : Nat} {t : Task} (ht : w.pending[n]? = some t) (hf : phi w < f) :
    (runTask .now (exec .now f) t { w with pending := w.pending.eraseIdx n }).oof = w.oof ∧
    phi (runTask .now (exec .now f) t { w with pending := w.pending.eraseIdx n }) + 1 ≤ phi w := by
  have he := phi_eraseIdx ht
  generalize hw0 : ({ w with pending := w.pending.eraseIdx n } : World) = w0 at he
  have ho : w0.oof = w.oof := by rw [← hw0]
  rw [runTask_now]
  simp only [taskBody]
  obtain ⟨h1, h2, h3⟩ := ih.at (p := t.prog) (g := t.gid) (c := t.ctx) (w := w0)
    (w1 := setTag t.ctx (1000 + t.gid) (note t.gid t.ctx (tlFresh t.gid t.ctx w0))) rfl rfl (by omega)
  generalize exec .now f t.prog t.gid t.ctx (setTag t.ctx (1000 + t.gid) (note t.gid t.ctx (tlFresh t.gid t.ctx w0))) = r at h1 h2 h3
  refine ⟨?_, ?_⟩
  · show (r.2.oof || decide (r.1 = .fuel)) = w.oof
    simp [h1, h2, ho]
  · show phi r.2 + 1 ≤ phi w
    omega

theorem yield_fuel {f : Nat} (ih : FuelOK f) {w : World} (hf : phi w < f) :
    (yield .now (exec .now f) w).oof = w.oof ∧ phi (yield .now (exec .now f) w) ≤ phi w := by
  obtain ⟨s, e | ⟨n, t, ht, e⟩⟩ := yield_cases (exec .now f) w <;> rw [e]
  · exact ⟨rfl, Nat.le_refl _⟩
  · have := runTask_fuel ih (w := { w with sched := s }) ht hf
    exact ⟨this.1, Nat.le_of_succ_le this.2⟩

theorem exec_fuel : ∀ f, FuelOK f := by
  intro f
  induction f with
  | zero => intro p g c w h; omega
  | succ f ih =>
    intro p g c w hf
    -- `pcore.Do` and `pcore.Try` differ only in the deferred `recover()`
    have hdo : ∀ (ctch : Bool) (id : Nat) (p : Prog), p.size + 1 + phi w < f + 1 →
        Good (phi w) w.oof (p.size + 1) (doDo .now g id ctch (fun cx w1 => exec .now f p g cx w1) w) := by
      intro ctch id p hf
      obtain ⟨cx, w2, hp, ho, hs⟩ := doDo_sameFuel g id ctch (fun cx w1 => exec .now f p g cx w1) w
      exact ((ih.at hp ho (by omega)).of_sameFuel hs).mono (Nat.le_succ _)
    cases p with
    | skip => exact ⟨by simp [exec], rfl, by simp [exec, Prog.size]⟩
    | leaf l =>
      simp only [exec, Prog.size] at hf ⊢
      obtain ⟨y1, y2⟩ := yield_fuel ih (w := w) (by omega)
      have hp := leafStep_pending g c l (yield .now (exec .now f) w)
      refine ⟨?_, by rw [hp.2]; exact y1, by rw [phi_of_pending hp.1]; omega⟩
      rcases leafStep_outcome g c l (yield .now (exec .now f) w) with h | h <;> simp [h]
    | seq p q =>
      simp only [exec, Prog.size] at hf ⊢
      obtain ⟨a1, a2, a3⟩ := ih p g c w (by omega)
      generalize exec .now f p g c w = r1 at a1 a2 a3
      rcases r1 with ⟨o1, w1⟩
      cases o1 with
      | fuel => exact absurd rfl a1
      | normal =>
        simp only at a2 a3 ⊢
        obtain ⟨b1, b2, b3⟩ := ih q g c w1 (by omega)
        exact ⟨b1, by rw [b2]; exact a2, by omega⟩
      | panicked => exact ⟨by simp, a2, by simp only at a3 ⊢; omega⟩
    | recover p =>
      simp only [Prog.size] at hf ⊢
      exact ((ih p g c w (by omega)).of_sameFuel (exec_recover_sameFuel f p g c w)).mono (Nat.le_succ _)
    | doctx id p =>
      simp only [exec, Prog.size] at hf ⊢
      obtain ⟨w2, hp, ho, hs⟩ := doWithContext_sameFuel g (forkCtx c w).1 (fun w2 => exec .now f p g (forkCtx c w).1 w2)
        (setTag (forkCtx c w).1 id (forkCtx c w).2)
      exact ((ih.at (w := w) hp ho (by omega)).of_sameFuel hs).mono (Nat.le_succ _)
    | dodo id p => exact hdo false id p hf
    | dotry id p => exact hdo true id p hf
    | doloader p =>
      simp only [exec, Prog.size] at hf ⊢
      exact (ih.at (p := p) (g := g) (c := c) (w := w)
        (w1 := ctxUpd c (fun y => { y with loader := (newLoader w).1 :: (w.ctxs c).loader }) (newLoader w).2) rfl rfl
        (by omega)).mono (Nat.le_succ _)
    | fork p =>
      simp only [exec, Prog.size] at hf ⊢
      exact ⟨by simp, rfl, by rw [phi_spawn]; omega⟩
    | go p =>
      simp only [exec, Prog.size] at hf ⊢
      split
      · exact ⟨by simp, rfl, by show phi w + 1 ≤ _; omega⟩
      · exact ⟨by simp, rfl, by rw [phi_spawn]; omega⟩

theorem drain_fuel (fuel : Nat) : ∀ (n : Nat) (w : World), phi w < fuel → phi w ≤ n →
    (drain .now fuel n w).oof = w.oof := by
  intro n
  induction n with
  | zero =>
    intro w _ h0
    have : w.pending = [] := phi_zero_pending (Nat.le_zero.1 h0)
    simp [drain, this]
  | succ n ih =>
    intro w hf hn
    rw [drain_succ]
    split
    · rfl
    · rename_i t ht
      obtain ⟨h1, h2⟩ := runTask_fuel (exec_fuel fuel) ht hf
      rw [ih _ (by omega) (by omega), h1]

/-- **the op never runs out of fuel** -/
theorem run_oof (sched : List Nat) (p : Prog) : (run .now sched p).oof = false := by
  simp only [run]
  have h0 : phi ({ sched := sched } : World) = 0 := rfl
  obtain ⟨h1, h2, h3⟩ := exec_fuel (fuelFor p) (.dodo 1000 p) 0 0 { sched := sched }
    (by rw [h0]; simp [Prog.size, fuelFor]; omega)
  generalize exec .now (fuelFor p) (.dodo 1000 p) 0 0 { sched := sched } = r at h1 h2 h3
  rw [oof_or_fuel _ h1]
  have hphi : phi (emit 0 (.done r.1) r.2) = phi r.2 := rfl
  rw [h0] at h3
  simp only [Prog.size] at h3
  rw [drain_fuel (fuelFor p) (fuelFor p) _ (by rw [hphi]; simp [fuelFor]; omega) (by rw [hphi]; simp [fuelFor]; omega)]
  exact h2

/-- **Refinement, unconditionally**: every big-step run of the harness op is a complete execution of the small-step model with
the same shared state -/
theorem run_refines_all (sched : List Nat) (p : Prog) :
    ∃ steps, (Cfg.steps steps (Cfg.init p)).w = strip (run .now sched p) ∧
      (∀ g ∈ (Cfg.steps steps (Cfg.init p)).gs, g.done = true) ∧ (run .now sched p).pending = [] :=
  run_refines sched p (run_oof sched p)

/-- … hence the result of a big-step run is the shared state of a reachable final configuration of the small-step model: what
holds in every reachable configuration holds of big-step runs -/
theorem run_reachable (sched : List Nat) (p : Prog) :
    ∃ c : Cfg, Reachable p c ∧ c.w = strip (run .now sched p) ∧ (∀ g ∈ c.gs, g.done = true) :=
  let ⟨steps, h1, h2, _⟩ := run_refines_all sched p
  ⟨_, reachable_steps steps Reachable.init, h1, h2⟩

end Pcore.Tls

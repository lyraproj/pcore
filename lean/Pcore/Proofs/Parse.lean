import Pcore.Proofs.Lex
import Pcore.Model.Parse
/-!
Helper lemmas about the parser model: the mutual induction over the fuel that shows, for `parseItem`, `arrayLoop`
and `hashLoop` at once, that (1) the `fault` results are unreachable, (2) the fuel `parseFile` supplies is never
exhausted, (3) every state and every error position is a suffix of the input (so it can be located inside it).
`PR.Fine` says (1)–(3) of one result; `FuelOK` is the induction statement, `fuelOK_succ` its step, `parseFile_fine` the
conclusion for a whole file.  Then the positions: `advance_bound` and `pos_bound` place the line and column computed for a
suffix of the input within the number of lines and the width of that line (`lineCount`, `lineWidth`).
-/
namespace Pcore.Syntax

/-- a result that is neither a fault nor out of fuel, whose value satisfies `p` and whose error (if any) stands at a
    suffix of `r0` -/
def PR.Fine {α : Type} (p : α → Prop) (r0 : List Sym) : PR α → Prop
  | .ok a => p a
  | .err e => e.rest <:+ r0
  | .fault _ => False
  | .nofuel => False

theorem PR.Fine.bind {α β : Type} {p : α → Prop} {p' : β → Prop} {r0 : List Sym} {x : PR α} {f : α → PR β}
    (hx : x.Fine p r0) (hf : ∀ a, p a → (f a).Fine p' r0) : (x.bind f).Fine p' r0 := by
  cases x with
  | ok a => exact hf a hx
  | err e => exact hx
  | fault k => exact hx
  | nofuel => exact hx

theorem PR.Fine.mono {α : Type} {p p' : α → Prop} {r1 r0 : List Sym} {x : PR α}
    (hx : x.Fine p r1) (hs : r1 <:+ r0) (hp : ∀ a, p a → p' a) : x.Fine p' r0 := by
  cases x with
  | ok a => exact hp a hx
  | err e => exact List.IsSuffix.trans hx hs
  | fault k => exact hx
  | nofuel => exact hx

theorem PR.Fine.weaken {α : Type} {p : α → Prop} {r1 r0 : List Sym} {x : PR α} (hx : x.Fine p r1) (hs : r1 <:+ r0) :
    x.Fine p r0 :=
  hx.mono hs fun _ h => h

/-- what `readTok` guarantees -/
def TokP (rest : List Sym) (r : Tok × PS) : Prop :=
  r.2.rest <:+ rest ∧ (r.1.k ≠ .eoi → r.2.rest.length < rest.length)

theorem readTok_fine (env : Env) (rest : List Sym) : (readTok env rest).Fine (TokP rest) rest := by
  unfold readTok nextToken
  have hs := nextTok_suffix env.isLetter false rest
  split
  · rename_i r b h; rw [h] at hs; exact hs
  · rename_i t r b h
    rw [h] at hs
    refine ⟨hs, fun hne => ?_⟩
    rcases nextTok_progress _ _ _ _ _ _ h with hlt | he
    · exact hlt
    · exact absurd he hne

theorem PR.Fine.readTok {env : Env} {β : Type} {p : β → Prop} {rest r0 : List Sym} (hs : rest <:+ r0)
    {g : Tok × PS → PR β} (hg : ∀ r, TokP rest r → r.2.rest <:+ r0 → r.2.rest.length ≤ rest.length → (g r).Fine p r0) :
    ((Pcore.Syntax.readTok env rest).bind g).Fine p r0 :=
  ((readTok_fine env rest).weaken hs).bind fun r hr => hg r hr (hr.1.trans hs) hr.1.length_le

/-- what an item guarantees: the state after its look-ahead token is a suffix -/
def ItemP (t : Tok) (r0 : List Sym) : Option (Expr × Tok × PS) → Prop
  | none => True
  | some (_, _, st) => t.k ≠ .eoi ∧ st.rest <:+ r0

def ArrP (r0 : List Sym) (r : Expr × PS) : Prop := (∃ es, r.1 = .arr es) ∧ r.2.rest <:+ r0
def HashP (r0 : List Sym) (r : List (Expr × Expr) × PS) : Prop := r.2.rest <:+ r0

theorem after_fine (env : Env) (t : Tok) (ht : t.k ≠ .eoi) {v : Expr} {st : PS} {r0 : List Sym} (h : st.rest <:+ r0) :
    (after env v st).Fine (ItemP t r0) r0 := by
  unfold after
  exact PR.Fine.readTok h fun a _ hs _ => ⟨ht, hs⟩

theorem synErr_rest (st : PS) : (synErr st).rest = st.rest := rfl

theorem asArray_fine (r0 : List Sym) (e : Expr) (h : ∃ es, e = .arr es) :
    (asArray e).Fine (fun _ => True) r0 := by
  rcases h with ⟨es, rfl⟩
  simp [asArray, PR.Fine]

/-- the statement proved by induction on the fuel -/
structure FuelOK (env : Env) (f : Nat) : Prop where
  item : ∀ t st, (t.k ≠ .eoi → 2 * st.rest.length + 2 ≤ f) → (parseItem env f t st).Fine (ItemP t st.rest) st.rest
  arr : ∀ close st items rock, 2 * st.rest.length + 1 ≤ f →
    (arrayLoop env f close st items rock).Fine (ArrP st.rest) st.rest
  hash : ∀ st items, 2 * st.rest.length + 1 ≤ f → (hashLoop env f st items).Fine (HashP st.rest) st.rest

/-- the item that starts with a token just read: a token other than `end` has consumed a symbol, which pays for the item's fuel -/
theorem FuelOK.item_after {env : Env} {f : Nat} (ih : FuelOK env f) {rest : List Sym} {r : Tok × PS} (hr : TokP rest r)
    (h : 2 * rest.length ≤ f) : (parseItem env f r.1 r.2).Fine (ItemP r.1 r.2.rest) r.2.rest := by
  apply ih.item
  intro hne
  have := hr.2 hne
  omega

theorem FuelOK.read_item {env : Env} {f : Nat} (ih : FuelOK env f) {β : Type} {p : β → Prop} {rest r0 : List Sym}
    (hs : rest <:+ r0) (hf : 2 * rest.length ≤ f) {g : Tok × PS → Option (Expr × Tok × PS) → PR β}
    (hg : ∀ r o, TokP rest r → ItemP r.1 r.2.rest o → (g r o).Fine p r0) :
    ((readTok env rest).bind fun r => (parseItem env f r.1 r.2).bind (g r)).Fine p r0 :=
  PR.Fine.readTok hs fun r hr hs' _ => ((ih.item_after hr hf).weaken hs').bind fun o ho => hg r o hr ho

theorem len_le_of_suffix {a b : List Sym} (h : a <:+ b) : a.length ≤ b.length := h.length_le

theorem fuelOK_zero (env : Env) : FuelOK env 0 := by
  refine ⟨?_, ?_, ?_⟩
  · intro t st h
    have hk : t.k = .eoi := by
      by_cases hk : t.k = .eoi
      · exact hk
      · have := h hk; omega
    unfold parseItem
    simp [hk, PR.Fine, ItemP]
  · intro close st items rock h; omega
  · intro st items h; omega

theorem fuelOK_succ (env : Env) (f : Nat) (ih : FuelOK env f) : FuelOK env (f + 1) := by
  refine ⟨?_, ?_, ?_⟩
  · intro t st h
    unfold parseItem
    by_cases hk : t.k = .eoi
    · simp [hk, PR.Fine, ItemP]
    · have hf : 2 * st.rest.length + 2 ≤ f + 1 := h hk
      split
      · -- int
        split
        · exact List.suffix_refl _
        · exact after_fine env t hk (List.suffix_refl _)
      · -- float
        split
        · exact List.suffix_refl _
        · exact after_fine env t hk (List.suffix_refl _)
      · exact after_fine env t hk (List.suffix_refl _)
      · exact after_fine env t hk (List.suffix_refl _)
      · -- regexp
        split
        · exact after_fine env t hk (List.suffix_refl _)
        · exact List.suffix_refl _
      · -- [
        refine (ih.arr _ st [] none (by omega)).bind ?_
        intro r hr
        exact after_fine env t hk hr.2
      · -- (
        refine (ih.arr _ st [] none (by omega)).bind ?_
        intro r hr
        exact after_fine env t hk hr.2
      · -- {
        refine (ih.hash st [] (by omega)).bind ?_
        intro r hr
        exact after_fine env t hk hr
      · -- name
        refine (readTok_fine env st.rest).bind ?_
        intro r hr
        have hlen : r.2.rest.length ≤ st.rest.length := hr.1.length_le
        simp only
        split
        · -- Name[
          refine ((ih.arr _ r.2 [] none (by omega)).weaken hr.1).bind ?_
          intro r2 hr2
          refine (asArray_fine st.rest r2.1 hr2.1).bind ?_
          intro es _
          split
          · exact hr2.2.trans hr.1
          · exact after_fine env t hk (hr2.2.trans hr.1)
        · -- Name{
          refine ((ih.hash r.2 [] (by omega)).weaken hr.1).bind ?_
          intro r2 hr2
          exact after_fine env t hk (List.IsSuffix.trans hr2 hr.1)
        · -- Name(
          refine ((ih.arr _ r.2 [] none (by omega)).weaken hr.1).bind ?_
          intro r2 hr2
          refine (asArray_fine st.rest r2.1 hr2.1).bind ?_
          intro es _
          split
          · exact after_fine env t hk (hr2.2.trans hr.1)
          · split
            · exact hr2.2.trans hr.1
            · exact after_fine env t hk (hr2.2.trans hr.1)
        · -- bare name
          exact ⟨hk, hr.1⟩
      · simp [PR.Fine, ItemP]
  · intro close st items rock h
    unfold arrayLoop
    refine ih.read_item (List.suffix_refl _) (by omega) fun r o hr ho => ?_
    cases o with
    | none =>
      simp only
      split
      · exact ⟨⟨_, rfl⟩, hr.1⟩
      · exact hr.1
    | some x =>
      obtain ⟨v, tk, st2⟩ := x
      -- an item was parsed, so the token that started it was not `end` and has consumed a symbol
      have hs2 : st2.rest <:+ st.rest := ho.2.trans hr.1
      have hlt := hr.2 ho.1
      have hlen2 := ho.2.length_le
      simp only
      split
      · exact ⟨⟨_, rfl⟩, hs2⟩
      · split
        · exact (ih.arr _ st2 _ _ (by omega)).mono hs2 (fun a ha => ⟨ha.1, ha.2.trans hs2⟩)
        · split
          · exact (ih.arr _ st2 _ _ (by omega)).mono hs2 (fun a ha => ⟨ha.1, ha.2.trans hs2⟩)
          · exact hs2
  · intro st items h
    unfold hashLoop
    refine ih.read_item (List.suffix_refl _) (by omega) fun r o hr ho => ?_
    cases o with
    | none =>
      simp only
      split
      · exact hr.1
      · exact hr.1
    | some x =>
      obtain ⟨k, tk, st2⟩ := x
      have hs2 : st2.rest <:+ st.rest := ho.2.trans hr.1
      have hlt := hr.2 ho.1
      have hlen2 := ho.2.length_le
      simp only
      split
      · exact hs2
      · refine ih.read_item hs2 (by omega) fun r2 o2 hr2 ho2 => ?_
        cases o2 with
        | none => exact hr2.1.trans hs2
        | some y =>
          obtain ⟨v, tk2, st4⟩ := y
          have hs4 : st4.rest <:+ st.rest := (ho2.2.trans hr2.1).trans hs2
          have hlen3 := hr2.1.length_le
          have hlen4 := ho2.2.length_le
          simp only
          split
          · exact hs4
          · split
            · exact (ih.hash st4 _ (by omega)).mono hs4 (fun a ha => List.IsSuffix.trans ha hs4)
            · exact hs4

theorem fuelOK (env : Env) : ∀ f, FuelOK env f
  | 0 => fuelOK_zero env
  | f + 1 => fuelOK_succ env f (fuelOK env f)

theorem parseTop_fine (env : Env) (fuel : Nat) (t : Tok) (st : PS) (h : 2 * st.rest.length + 2 ≤ fuel) :
    (parseTop env fuel t st).Fine (fun r => r.2.rest <:+ st.rest) st.rest := by
  unfold parseTop
  refine ((fuelOK env fuel).item t st (fun _ => h)).bind ?_
  intro o ho
  cases o with
  | none =>
    simp only
    split
    · exact List.suffix_refl _
    · exact List.suffix_refl _
  | some x =>
    obtain ⟨v, tk, st1⟩ := x
    have hs1 : st1.rest <:+ st.rest := ho.2
    have hl1 := hs1.length_le
    simp only
    split
    · refine (fuelOK env fuel).read_item hs1 (by omega) fun r o2 hr ho2 => ?_
      have hs2 : r.2.rest <:+ st.rest := hr.1.trans hs1
      cases o2 with
      | none => exact hs2
      | some y =>
        obtain ⟨v2, tk2, st3⟩ := y
        have hs3 : st3.rest <:+ st.rest := List.IsSuffix.trans ho2.2 hs2
        simp only
        split
        · exact hs3
        · exact hs3
    · split
      · exact hs1
      · exact hs1

theorem namedType_fine (name : Str) (v : Expr) (st : PS) (r0 : List Sym) (h : st.rest <:+ r0) :
    (namedType name v st).Fine (fun _ => True) r0 := by
  unfold namedType
  -- a fixed tree of `match`es and `if`s whose leaves are `.err (synErr st)` or `.ok _`
  repeat' first
    | exact h
    | trivial
    | split

theorem parseFile_fine (env : Env) (inp : List Sym) : (parseFile env inp).Fine (fun _ => True) inp := by
  unfold parseFile fuelFor
  refine PR.Fine.readTok (List.suffix_refl _) fun r _ hs hl => ?_
  simp only
  split
  · refine PR.Fine.readTok hs fun r2 _ hs2 hl2 => ?_
    split
    · refine PR.Fine.readTok hs2 fun r3 _ hs3 hl3 => ?_
      split
      · exact hs3
      · refine PR.Fine.readTok hs3 fun r4 _ hs4 hl4 => ?_
        refine ((parseTop_fine env _ r4.1 r4.2 (by omega)).weaken hs4).bind fun r5 hr5 => ?_
        exact namedType_fine _ _ _ _ (List.IsSuffix.trans hr5 hs4)
    · refine PR.Fine.readTok hs2 fun r3 _ hs3 hl3 => ?_
      exact ((parseTop_fine env _ r3.1 r3.2 (by omega)).weaken hs3).bind fun _ _ => trivial
    · exact hs2
  · exact ((parseTop_fine env _ r.1 r.2 (by omega)).weaken hs).bind fun _ _ => trivial

def lineCount : List Sym → Nat
  | [] => 1
  | s :: tl => if s = .chr '\n' then 1 + lineCount tl else lineCount tl

/-- number of symbols on line `i` (0-based) of the input -/
def lineWidth : List Sym → Nat → Nat
  | [], _ => 0
  | s :: tl, i =>
    if s = .chr '\n' then (match i with | 0 => 0 | i + 1 => lineWidth tl i)
    else (match i with | 0 => 1 + lineWidth tl 0 | i + 1 => lineWidth tl (i + 1))

theorem advance_bound (pre rest : List Sym) (l0 c0 : Nat) :
    l0 ≤ (advance l0 c0 pre).1 ∧ (advance l0 c0 pre).1 - l0 < lineCount (pre ++ rest) ∧
    (advance l0 c0 pre).2 ≤ (if (advance l0 c0 pre).1 = l0 then c0 else 1) +
      lineWidth (pre ++ rest) ((advance l0 c0 pre).1 - l0) := by
  induction pre generalizing l0 c0 with
  | nil =>
    have hpos : ∀ l : List Sym, 0 < lineCount l := by
      intro l; induction l with
      | nil => simp [lineCount]
      | cons s tl ih => simp only [lineCount]; split <;> omega
    simp [advance]
    exact hpos rest
  | cons s tl ih =>
    simp only [advance, List.cons_append]
    by_cases hs : s = .chr '\n'
    · simp only [hs, if_true, lineCount, lineWidth]
      obtain ⟨h1, h2, h3⟩ := ih (l0 + 1) 1
      have hne : (advance (l0 + 1) 1 tl).1 ≠ l0 := by omega
      refine ⟨by omega, by omega, ?_⟩
      rw [if_neg hne]
      have : (advance (l0 + 1) 1 tl).1 - l0 = ((advance (l0 + 1) 1 tl).1 - (l0 + 1)) + 1 := by omega
      rw [this]
      simp only
      split at h3 <;> omega
    · simp only [hs, if_false, lineCount, lineWidth]
      obtain ⟨h1, h2, h3⟩ := ih l0 (c0 + 1)
      refine ⟨h1, h2, ?_⟩
      by_cases he : (advance l0 (c0 + 1) tl).1 = l0
      · rw [if_pos he] at h3 ⊢
        have : (advance l0 (c0 + 1) tl).1 - l0 = 0 := by omega
        rw [this] at h3 ⊢
        simp only
        omega
      · rw [if_neg he] at h3 ⊢
        obtain ⟨k, hk⟩ : ∃ k, (advance l0 (c0 + 1) tl).1 - l0 = k + 1 := ⟨(advance l0 (c0 + 1) tl).1 - l0 - 1, by omega⟩
        rw [hk] at h3 ⊢
        simp only
        exact h3

theorem take_of_suffix {rest inp : List Sym} (h : rest <:+ inp) :
    inp.take (inp.length - rest.length) ++ rest = inp := by
  obtain ⟨pre, rfl⟩ := h
  simp

theorem pos_bound (inp rest : List Sym) (b : Bool) (h : rest <:+ inp) :
    1 ≤ (pos inp rest b).1 ∧ (pos inp rest b).1 ≤ lineCount inp ∧
    (pos inp rest b).2 ≤ lineWidth inp ((pos inp rest b).1 - 1) + 2 := by
  unfold pos
  have hb := advance_bound (inp.take (inp.length - rest.length)) rest 1 0
  rw [take_of_suffix h] at hb
  obtain ⟨h1, h2, h3⟩ := hb
  simp only
  refine ⟨h1, by omega, ?_⟩
  split at h3 <;> split <;> omega

end Pcore.Syntax

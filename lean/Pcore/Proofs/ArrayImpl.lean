import Pcore.Model.ArrayPool
/-!
`types.Array`: what the sequence functions of the specification are (`ASpec.slice`, `chunks`, `firsts`), that the
loops of the implementation model compute them, for every history over a pool of arrays, that nothing in the
pool ever changes, and what `Flatten` (`AVal.flats`) leaves.
-/
namespace Pcore.Coll.ASpec
variable {α κ : Type} [DecidableEq κ]

theorem range_filterMap_getElem (l : List α) (m : Nat) : (List.range m).filterMap (fun n => l[n]?) = l.take m := by
  induction m with
  | zero => rfl
  | succ m ih =>
    rw [List.range_succ, List.filterMap_append, ih, List.take_add_one]
    cases h : l[m]? <;> simp [h]

theorem slice_eq (a : List α) (i j : Nat) : slice a i j = (a.drop i).take (j - i) := by
  rw [← range_filterMap_getElem]; simp only [slice, List.getElem?_drop]

theorem slice_spec (a : List α) (i j : Nat) (h : j ≤ a.length) :
    (slice a i j).length = j - i ∧ ∀ n, n < j - i → (slice a i j)[n]? = a[i + n]? := by
  rw [slice_eq]
  exact ⟨by rw [List.length_take, List.length_drop]; omega,
    fun n hn => by rw [List.getElem?_take, if_pos hn, List.getElem?_drop]⟩

theorem chunks_nil (n : Nat) : chunks n ([] : List α) = [] := by rw [chunks]

theorem chunks_of_ne_nil {n : Nat} (hn : 0 < n) {a : List α} (ha : a ≠ []) :
    chunks n a = a.take n :: chunks n (a.drop n) := by
  cases a with
  | nil => exact absurd rfl ha
  | cons v vs => rw [chunks, if_neg (Nat.ne_of_gt hn)]

theorem chunks_spec (n : Nat) (hn : 0 < n) (a : List α) :
    (chunks n a).flatten = a ∧ ∀ c ∈ chunks n a, 0 < c.length ∧ c.length ≤ n := by
  fun_induction chunks n a with
  | case1 => exact ⟨rfl, fun _ h => nomatch h⟩
  | case2 => omega
  | case3 v vs _ ih =>
    refine ⟨by rw [List.flatten_cons, ih.1, List.take_append_drop], fun c hc => ?_⟩
    rcases List.mem_cons.mp hc with rfl | hc
    · rw [List.length_take, List.length_cons]; omega
    · exact ih.2 c hc

theorem chunks_at (n : Nat) (hn : 0 < n) (a : List α) (i : Nat) :
    (chunks n a)[i]? = if i * n < a.length then some ((a.drop (i * n)).take n) else none := by
  induction i generalizing a with
  | zero =>
    cases a with
    | nil => simp [chunks_nil]
    | cons v vs => simp [chunks_of_ne_nil hn]
  | succ i ih =>
    cases a with
    | nil => simp [chunks_nil]
    | cons v vs =>
      rw [chunks_of_ne_nil hn (List.cons_ne_nil _ _), List.getElem?_cons_succ, ih, List.length_drop, List.drop_drop,
        Nat.add_mul, Nat.one_mul, Nat.add_comm (i * n)]
      congr 1
      exact propext (by omega)

theorem firsts_spec (key : α → κ) (a : List α) :
    ((firsts key a).map key).Nodup ∧ (firsts key a).Sublist a ∧ (∀ e ∈ a, key e ∈ (firsts key a).map key) ∧
      ∀ e ∈ firsts key a, a.find? (fun x => decide (key x = key e)) = some e := by
  generalize hl : a.length = m
  induction m using Nat.strongRecOn generalizing a with
  | _ m ih =>
  cases a with
  | nil => simp [firsts]
  | cons v vs =>
    obtain ⟨h1, h2, h3, h4⟩ := ih _ (by
      have := List.length_filter_le (fun e => !decide (key e = key v)) vs
      rw [← hl, List.length_cons]; omega) (vs.filter fun e => !decide (key e = key v)) rfl
    rw [firsts]
    -- what the recursive call returns lies in the filtered rest: its keys differ from `key v`
    have hne : ∀ e ∈ firsts key (vs.filter fun e => !decide (key e = key v)), key e ≠ key v := fun e he => by
      simpa using (List.mem_filter.mp (h2.subset he)).2
    refine ⟨?_, (h2.trans List.filter_sublist).cons_cons v, ?_, ?_⟩
    · rw [List.map_cons, List.nodup_cons]
      exact ⟨fun hm => by obtain ⟨e, he, hk⟩ := List.mem_map.mp hm; exact hne e he hk, h1⟩
    · intro e he
      by_cases hk : key e = key v
      · simp [hk]
      · rcases List.mem_cons.mp he with rfl | he
        · exact absurd rfl hk
        · exact List.mem_cons_of_mem _ (h3 e (List.mem_filter.mpr ⟨he, by simpa using hk⟩))
    · intro e he
      rcases List.mem_cons.mp he with rfl | he
      · simp
      · rw [List.find?_cons_of_neg (by simpa using Ne.symm (hne e he)), ← h4 e he, List.find?_filter]
        congr 1
        funext x
        by_cases hx : key x = key e <;> simp [hx, hne e he]
end Pcore.Coll.ASpec

namespace Pcore.Coll.Arr
variable {α κ : Type} [DecidableEq κ]

omit [DecidableEq κ] in
theorem rejectLoop_eq (p : α → Bool) (a acc : List α) : rejectLoop p a acc = acc ++ a.filter (fun e => !p e) := by
  induction a generalizing acc with
  | nil => simp [rejectLoop]
  | cons e es ih => by_cases h : p e = true <;> simp [rejectLoop, h, ih]

theorem delete_eq (key : α → κ) (a : List α) (v : α) :
    delete key a v = a.filter (fun e => !decide (key e = key v)) := by
  simp [delete, rejectLoop_eq]

theorem deleteAll_eq (key : α → κ) (a b : List α) :
    deleteAll key a b = a.filter (fun e => !(b.map key).contains (key e)) := by
  simp only [deleteAll, rejectLoop_eq, List.nil_append]
  congr 1
  funext e
  congr 1
  rw [Bool.eq_iff_iff]
  simp only [List.any_eq_true, decide_eq_true_eq, List.contains_iff_mem, List.mem_map]
  exact exists_congr fun o => and_congr_right fun _ => eq_comm

omit [DecidableEq κ] in
theorem addAll_eq (a b : List α) : addAll a b = a ++ b := by
  rw [addAll, ASpec.range_filterMap_getElem, List.take_length]

omit [DecidableEq κ] in
theorem slice_eq (a : List α) (i j : Nat) (h : i ≤ j ∧ j ≤ a.length) : slice a i j = some (ASpec.slice a i j) := by
  rw [slice, if_pos h, ASpec.slice_eq]

theorem uniqueFrom_eq (key : α → κ) (a : List α) (seen : List κ) :
    uniqueFrom key a seen = ASpec.firsts key (a.filter (fun e => !seen.contains (key e))) := by
  induction a generalizing seen with
  | nil => simp [uniqueFrom, ASpec.firsts]
  | cons v vs ih =>
    by_cases h : seen.contains (key v) = true
    · rw [uniqueFrom, if_pos h, ih, List.filter_cons, if_neg (by rw [h]; decide)]
    · rw [uniqueFrom, if_neg h, ih, List.filter_cons, if_pos (by simpa using h), ASpec.firsts, List.filter_filter]
      congr 2
      apply List.filter_congr
      intro e _
      by_cases he : key e = key v <;> simp [he]

theorem unique_eq (key : α → κ) (a : List α) : unique key a = ASpec.firsts key a := by
  rw [unique, uniqueFrom_eq]; congr 1; simp

omit [DecidableEq κ] in
theorem eachSliceLoop_eq (n : Nat) (hn : 0 < n) (a : List α) (i fuel : Nat) (hf : a.length ≤ i + fuel) :
    eachSliceLoop n a i fuel = ASpec.chunks n (a.drop i) := by
  induction fuel generalizing i with
  | zero => rw [List.drop_eq_nil_of_le (i := i) hf, ASpec.chunks_nil, eachSliceLoop]
  | succ fuel ih =>
    rw [eachSliceLoop]
    split
    · rename_i hi
      -- the piece `elements[i : min(i+n, top)]` is `take n` of the rest
      have htake : min (i + n) a.length - i = min n (a.drop i).length := by
        obtain ⟨d, hd⟩ := Nat.exists_eq_add_of_le (Nat.le_of_lt hi)
        rw [List.length_drop, hd, Nat.add_min_add_left, Nat.add_sub_cancel_left, Nat.add_sub_cancel_left]
      rw [ASpec.chunks_of_ne_nil hn (mt List.drop_eq_nil_iff.mp (Nat.not_le.mpr hi)), List.drop_drop, ih _ (by omega),
        List.take_eq_take_min (i := n), htake]
    · rw [List.drop_eq_nil_of_le (Nat.not_lt.mp ‹_›), ASpec.chunks_nil]

omit [DecidableEq κ] in
theorem eachSlice_eq (n : Int) (hn : ¬ n < 1) (a : List α) : eachSlice n a = some (ASpec.chunks n.toNat a) := by
  rw [eachSlice, if_neg hn, eachSliceLoop_eq n.toNat (by omega) a 0 a.length (Nat.zero_add _ ▸ Nat.le_refl _)]; rfl

end Pcore.Coll.Arr

namespace Pcore.Coll
variable {α κ : Type} [DecidableEq κ]

theorem stepAImpl_eq (key : α → κ) (le : α → α → Bool) (pool : List (List α)) (op : AOp α) :
    stepAImpl key le pool op = stepASpec key le pool op := by
  cases op with
  | slice i x y =>
    simp only [stepAImpl, stepASpec]
    cases pool[i]? with
    | none => rfl
    | some a =>
      by_cases h : x ≤ y ∧ y ≤ a.length
      · simp [Arr.slice_eq a x y h, h]
      · simp [Arr.slice, h]
  | eachSlice i n =>
    simp only [stepAImpl, stepASpec]
    cases pool[i]? with
    | none => rfl
    | some a =>
      by_cases h : n < 1
      · simp [Arr.eachSlice, h]
      · simp [Arr.eachSlice_eq n h, h]
  | _ =>
    simp only [stepAImpl, stepASpec, Arr.add, Arr.addAll_eq, Arr.delete_eq, Arr.deleteAll_eq, Arr.unique_eq, Arr.sort,
      Arr.atInt, Arr.find] <;> rfl

theorem runASpec_prefix (key : α → κ) (le : α → α → Bool) (pool : List (List α)) (ops : List (AOp α)) :
    pool <+: (runASpec key le pool ops).2 := by
  have step : ∀ pool op, pool <+: (stepASpec key le pool op).1 := by
    intro pool op
    -- every arm of `stepASpec` answers the pool itself or the pool with one array appended
    cases op <;> simp only [stepASpec] <;> (repeat' split) <;> simp
  induction ops generalizing pool with
  | nil => exact List.prefix_refl _
  | cons op ops ih => exact (step pool op).trans (ih _)

mutual
theorem AVal.flat_noArr : ∀ v : AVal, ∀ x ∈ v.flat, x.isArr = false
  | .leaf s, x, hx => by simp [AVal.flat] at hx; subst hx; rfl
  | .arr vs, x, hx => AVal.flats_noArr vs x (by simpa [AVal.flat] using hx)
theorem AVal.flats_noArr : ∀ vs : List AVal, ∀ x ∈ AVal.flats vs, x.isArr = false
  | [], x, hx => by simp [AVal.flats] at hx
  | v :: vs, x, hx => by
    simp only [AVal.flats, List.mem_append] at hx
    rcases hx with h | h
    · exact AVal.flat_noArr v x h
    · exact AVal.flats_noArr vs x h
end

theorem AVal.flats_of_noArr : ∀ vs : List AVal, (∀ x ∈ vs, x.isArr = false) → AVal.flats vs = vs
  | [], _ => rfl
  | v :: vs, h => by
    have hv := h v (by simp)
    have ih := AVal.flats_of_noArr vs (fun x hx => h x (by simp [hx]))
    cases v with
    | leaf s => simp [AVal.flats, AVal.flat, ih]
    | arr ws => simp [AVal.isArr] at hv

end Pcore.Coll

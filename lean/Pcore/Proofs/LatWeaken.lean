import Pcore.Proofs.LatRecv
set_option linter.unusedSimpArgs false
/-! Left-weakening for `asg`: the right-hand decomposition of `GuardedIsAssignable` is the same for every receiver, so a receiver `a'` that
    accepts whatever `a` accepts among the right-hand sides that reach the receiver rule, and each of the two built-in aliases when `a`
    does (`a ⊒ Data`, `a ⊒ RichData` are not questions to the receiver rule), accepts everything `a` accepts: `left_weaken`.  Its
    instances: Variant / Optional accept whatever a part accepts (`weaken_of_part`, `wv_all`, `wo_all`; the members of the two aliases its
    hypotheses speak of, `asg_data_comps`, `asg_rich_comps`, are in Proofs/LatRecv); for a receiver that rejects Undef the alias hypotheses are vacuous
    (`left_weaken_nu`) — the case of every range-carrying receiver (`widen_of_recv`, `Wider.accepts`: the widening laws of C03).
    Timestamp, whose receiver rule is that of Timespan, has no widening law of its own here.  At the end the side condition `Ty.NoAliasR` (no
    alias where the right-hand side is decomposed) under which C03 states these laws a second time; they hold without it.
    Here and in the files that import this one, a statement `∀ (n : Nat) (t : Ty), t.w ≤ n → …` directly under a theorem is that theorem with a bound on
    the size of the term which the proof does not use: the form under which DESIGN.md names it. -/
namespace Pcore.Lat
variable (cfg : Cfg) (sfh : Bool)

theorem left_weaken (a a' : Ty)
    (hR : ∀ b, RecvPos cfg sfh b → asg cfg sfh a b = true → asg cfg sfh a' b = true)
    (hD : asg cfg sfh a .data = true → asg cfg sfh a' .data = true)
    (hRD : asg cfg sfh a .richData = true → asg cfg sfh a' .richData = true) (c : Ty) :
    asg cfg sfh a c = true → asg cfg sfh a' c = true :=
  asg_rhs_ind cfg sfh a (asg_unit_r cfg sfh a') hR hD hRD (fun _ _ _ p1 p2 => asg_optional_of cfg sfh p1 p2)
    (fun _ h => asg_variant_of cfg sfh fun t ht => (h t ht).2) (fun _ hc _ p => asg_nu_of_strict cfg sfh hc p) c

theorem left_weaken_all (a a' : Ty)
    (hR : ∀ b, RecvPos cfg sfh b → asg cfg sfh a b = true → asg cfg sfh a' b = true)
    (hD : asg cfg sfh a .data = true → asg cfg sfh a' .data = true)
    (hRD : asg cfg sfh a .richData = true → asg cfg sfh a' .richData = true) :
    ∀ (n : Nat) (b : Ty), b.w ≤ n → asg cfg sfh a b = true → asg cfg sfh a' b = true :=
  fun _ b _ => left_weaken cfg sfh a a' hR hD hRD b

/-- a receiver with the rule "what a part accepts" (Variant, Optional) accepts what the part accepts: the plain right-hand sides and the
    plain members of the two aliases through the rule, the alias' own Array / Hash member and the unmodelled TypeSet / Deferred through
    the specialised functions -/
theorem weaken_of_part (x a' : Ty) (hR : ∀ b, RecvPos cfg sfh b → asg cfg sfh x b = true → asg cfg sfh a' b = true)
    (hArr : ∀ al, asgToArr cfg sfh al x = true → asgToArr cfg sfh al a' = true)
    (hHash : ∀ al, asgToHash cfg sfh al x = true → asgToHash cfg sfh al a' = true)
    (hTS : accTypeSet x = true → accTypeSet a' = true) (hDe : accDeferred x = true → accDeferred a' = true) (c : Ty) :
    asg cfg sfh x c = true → asg cfg sfh a' c = true := by
  refine left_weaken cfg sfh x a' hR (fun h => ?_) (fun h => ?_) c
  · obtain ⟨h1, h2, h3, h4⟩ := asg_data_comps cfg sfh h
    exact asg_data_of_comps cfg sfh (hR _ (Or.inl rfl) h1) (hR _ (Or.inl rfl) h2) (hArr _ h3) (hHash _ h4)
  · have hc := asg_rich_comps cfg sfh h
    exact asg_rich_of_comps cfg sfh ⟨hR _ (Or.inl rfl) hc.sc, hR _ (Or.inl rfl) hc.bi, hR _ (Or.inl rfl) hc.df, hR _ (Or.inl rfl) hc.ob,
      hR _ (Or.inl rfl) hc.ty, hTS hc.ts, hDe hc.de, hR _ (Or.inl rfl) hc.un, hArr _ hc.ar, hHash _ hc.ha⟩

theorem wv_all {m : Ty} {as : List Ty} (hm : m ∈ as) {c : Ty} : asg cfg sfh m c = true → asg cfg sfh (.variant as) c = true :=
  weaken_of_part cfg sfh m (.variant as)
    (fun b hb h => asg_of_recv cfg sfh hb (by unfold asgRecv; rw [asgAnyL_iff]; exact ⟨m, hm, h⟩))
    (fun al h => by unfold asgToArr; rw [asgToArrAny_iff]; exact ⟨m, hm, h⟩)
    (fun al h => by unfold asgToHash; rw [asgToHashAny_iff]; exact ⟨m, hm, h⟩)
    (fun h => by unfold accTypeSet; rw [accTypeSet_accL_iff]; exact ⟨m, hm, h⟩)
    (fun h => by unfold accDeferred; rw [accDeferred_accL_iff]; exact ⟨m, hm, h⟩) c

theorem wo_all {x c : Ty} : asg cfg sfh x c = true → asg cfg sfh (.optional x) c = true :=
  weaken_of_part cfg sfh x (.optional x) (fun b hb h => asg_of_recv cfg sfh hb (by unfold asgRecv; simp [h]))
    (fun al h => by unfold asgToArr; exact h) (fun al h => by unfold asgToHash; exact h)
    (fun h => by unfold accTypeSet; exact h) (fun h => by unfold accDeferred; exact h) c

theorem weaken_variant_all (m : Ty) (as : List Ty) (hm : m ∈ as) :
    ∀ (n : Nat) (c : Ty), c.w ≤ n → asg cfg sfh m c = true → asg cfg sfh (.variant as) c = true :=
  fun _ _ _ => wv_all cfg sfh hm

theorem weaken_optional_all (x : Ty) :
    ∀ (n : Nat) (c : Ty), c.w ≤ n → asg cfg sfh x c = true → asg cfg sfh (.optional x) c = true :=
  fun _ _ _ => wo_all cfg sfh

theorem left_weaken_nu (a a' : Ty)
    (hR : ∀ b, RecvPos cfg sfh b → asg cfg sfh a b = true → asg cfg sfh a' b = true)
    (hu : asg cfg sfh a .undef = false) (b : Ty) (h : asg cfg sfh a b = true) : asg cfg sfh a' b = true := by
  apply left_weaken cfg sfh a a' hR _ _ b h
  · intro hd; have := (asg_data_comps cfg sfh hd).2.1; rw [hu] at this; cases this
  · intro hd; have := (asg_rich_comps cfg sfh hd).un; rw [hu] at this; cases this

/-- A receiver `a` whose own rule decides every question put to it (it is not Any, has no nullary twin, rejects Undef) and a receiver
    `a'` whose rule answers true wherever that of `a` does: `a'` accepts whatever `a` accepts.  The shape of every widening law. -/
theorem widen_of_recv (a a' : Ty) (hany : a.isAny = false) (hnul : sameNullary a a = false)
    (hu : asgRecv cfg sfh a .undef = false)
    (hrecv : ∀ b, asgRecv cfg sfh a b = true → asgRecv cfg sfh a' b = true) (b : Ty) (h : asg cfg sfh a b = true) :
    asg cfg sfh a' b = true := by
  have hnul : ∀ b, sameNullary a b = false := by
    intro b
    cases hs : sameNullary a b
    · rfl
    · cases eq_of_sameNullary hs; rw [hnul] at hs; cases hs
  have hu' : asg cfg sfh a .undef = false := by rw [asg_plain_r cfg sfh _ _ rfl, hany, hnul, hu]; rfl
  apply left_weaken_nu cfg sfh a a' _ hu' b h
  intro b hp h
  rcases recvPos_cases cfg sfh hp h with h | h | h
  · rw [hany] at h; cases h
  · rw [hnul] at h; cases h
  · exact asg_of_recv cfg sfh hp (hrecv b h)

/-- `Wider a a'`: `a'` is `a` with its size or numeric range widened — the range positions of the widening laws.  Every use a receiver
    rule makes of its range is `sub` / `contains` with that range on the left, so the rule of `a'` answers true wherever that of `a` does
    (`Wider.recv`), and `widen_of_recv` turns that into acceptance of every right-hand side (`Wider.accepts`). -/
inductive Wider : Ty → Ty → Prop
  | int {r r'} : r'.sub r = true → Wider (.int r) (.int r')
  | float {lo hi lo' hi' : Fl} : lo' ≤ lo → hi ≤ hi' → Wider (.float lo hi) (.float lo' hi')
  | tspan {r r'} : r'.sub r = true → Wider (.tspan r) (.tspan r')
  | strSz {r r'} : r'.sub r = true → Wider (.strSz r) (.strSz r')
  | coll {r r'} : r'.sub r = true → Wider (.coll r) (.coll r')
  | array {r r'} (e) : r'.sub r = true → Wider (.array e r) (.array e r')
  | hash {r r'} (k v) : r'.sub r = true → Wider (.hash k v r) (.hash k v r')
  | tuple {r r'} (ts) : r'.sub r = true → Wider (.tuple ts (some r)) (.tuple ts (some r'))

theorem Wider.recv {a a' : Ty} (hw : Wider a a') (b : Ty) (h : asgRecv cfg sfh a b = true) : asgRecv cfg sfh a' b = true := by
  cases hw with
  | float hlo hhi =>
    unfold asgRecv at h ⊢
    split at h
    · simp only [Bool.and_eq_true, decide_eq_true_eq] at h ⊢
      exact ⟨Int.le_trans (Fl.effLo_mono hlo) h.1, Int.le_trans h.2 (Fl.effHi_mono hhi)⟩
    · cases h
  | strSz hr =>
    unfold asgRecv at h ⊢
    split at h
    · exact Rng.sub_contains hr h
    · exact Rng.sub_trans hr h
    · simp only [Bool.and_eq_true, List.all_eq_true] at h ⊢
      exact ⟨h.1, fun s hs => Rng.sub_contains hr (h.2 s hs)⟩
    · cases h
  | int hr | tspan hr | coll hr =>
    unfold asgRecv at h ⊢
    split at h <;> first | exact Rng.sub_trans hr h | cases h
  | array _ hr | hash _ _ hr | tuple _ hr =>
    unfold asgRecv at h ⊢
    split at h <;> first | (rw [Bool.and_eq_true] at h ⊢; exact ⟨Rng.sub_trans hr h.1, h.2⟩) | cases h

theorem Wider.accepts {a a' : Ty} (hw : Wider a a') (b : Ty) (h : asg cfg sfh a b = true) : asg cfg sfh a' b = true :=
  widen_of_recv cfg sfh a a' (by cases hw <;> rfl) (by cases hw <;> rfl) (by cases hw <;> (unfold asgRecv; rfl)) (hw.recv cfg sfh) b h

/-! ### the side condition `Ty.NoAliasR`, under which C03 states the laws a second time: the laws above hold without it -/
/-- the right-hand side never shows one of the two built-in recursive aliases where `GuardedIsAssignable` decomposes it -/
def Ty.NoAliasR (t : Ty) : Prop :=
  match t with
  | .data | .richData => False
  | .variant ts => ∀ t', ∀ (_ : t' ∈ ts), Ty.NoAliasR t'
  | .optional t' | .notUndef t' => Ty.NoAliasR t'
  | _ => True
termination_by t.w
decreasing_by
  all_goals simp_wf
  all_goals (try simp only [Ty.w, Ty.wl, Ty.wm] at *)
  all_goals first
    | omega
    | (have := Ty.w_lt_wl ‹_ ∈ _›; omega)

theorem hR_of_noAliasR (a a' : Ty) (hw : ∀ b, b.NoAliasR → asg cfg sfh a b = true → asg cfg sfh a' b = true)
    (hnu : ∀ nt, asgRecv cfg sfh a (.notUndef nt) = false) :
    ∀ b, RecvPos cfg sfh b → asg cfg sfh a b = true → asg cfg sfh a' b = true := by
  intro b hp h
  rcases hp with hp | ⟨nt, rfl, hnt⟩
  · exact hw b (by cases b <;> first | (unfold Ty.NoAliasR; trivial) | cases hp) h
  · exfalso
    rw [asg_notUndef_r, hnt] at h
    have ha : a.isAny = false := by
      cases a <;> simp [Ty.isAny]
      have := hnu nt; unfold asgRecv at this; simp at this
    simp [ha, hnu nt] at h

set_option linter.unusedVariables false in
theorem widen_float (lo hi lo' hi' : Fl) (hlo : lo' ≤ lo) (hhi : hi ≤ hi') (b : Ty) (hb : b.NoAliasR)
    (h : asg cfg sfh (.float lo hi) b = true) : asg cfg sfh (.float lo' hi') b = true :=
  (Wider.float hlo hhi).accepts cfg sfh b h

end Pcore.Lat

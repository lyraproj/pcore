import Pcore.Proofs.FormatBasic
import Pcore.Proofs.Digits
/-! Digit lists: `toDigits` is `Digits.digits` (`toDigits_eq_digits`; what else is said of it is read off `Proofs/Digits`
    through this): it is inverted by `ofDigits`, has digits below the base and no leading zero. -/
namespace Pcore.Format

/-- value of a big-endian digit list -/
def ofDigits (b : Nat) (ds : List Nat) : Nat := ds.foldl (fun acc d => acc * b + d) 0

theorem ofDigits_append (b : Nat) (xs ys : List Nat) :
    ofDigits b (xs ++ ys) = ys.foldl (fun acc d => acc * b + d) (ofDigits b xs) := by
  simp [ofDigits, List.foldl_append]

theorem ofDigits_snoc (b : Nat) (xs : List Nat) (d : Nat) : ofDigits b (xs ++ [d]) = ofDigits b xs * b + d := by
  simp [ofDigits_append]

theorem digitsAux_acc (b : Nat) : ∀ fuel n acc, digitsAux b fuel n acc = digitsAux b fuel n [] ++ acc := by
  intro fuel
  induction fuel with
  | zero => intro n acc; simp [digitsAux]
  | succ k ih =>
    intro n acc
    simp only [digitsAux]
    split
    · simp
    · rw [ih (n / b) (n % b :: acc), ih (n / b) [n % b]]; simp

theorem digitsAux_step (b k n : Nat) (h : ¬ n < b) :
    digitsAux b (k + 1) n [] = digitsAux b k (n / b) [] ++ [n % b] := by
  simp only [digitsAux, if_neg h]; rw [digitsAux_acc]

theorem toDigits_eq_digits {b : Nat} (hb : 2 ≤ b) (n : Nat) : toDigits b n = Digits.digits b n := by
  have := Digits.map_digits_of_fuel hb id (fun f n => digitsAux b (f + 1) n []) (by simp [digitsAux]) (fun f n => by
    by_cases h : n < b
    · simp [digitsAux, h]
    · rw [if_neg h]; exact digitsAux_step b (f + 1) n h) n n (Nat.le_refl _)
  simpa [toDigits] using this

theorem ofDigits_toDigits (b : Nat) (hb : 2 ≤ b) (n : Nat) : ofDigits b (toDigits b n) = n := by
  rw [toDigits_eq_digits hb]; exact Digits.foldl_digits hb n

theorem toDigits_lt (b : Nat) (hb : 2 ≤ b) (n : Nat) : ∀ d ∈ toDigits b n, d < b := by
  rw [toDigits_eq_digits hb]; exact Digits.digits_lt hb n

theorem toDigits_ne_nil (b n : Nat) : toDigits b n ≠ [] := by
  rw [toDigits, digitsAux]
  split
  · simp
  · rw [digitsAux_acc]; simp

theorem toDigits_head (b : Nat) (hb : 2 ≤ b) (n : Nat) (hn : 0 < n) : (toDigits b n).head? ≠ some 0 := by
  obtain ⟨d, ds, e, hd⟩ := Digits.head_digits hb hn
  rw [toDigits_eq_digits hb, e]; simp; omega

theorem toDigits_zero (b : Nat) : toDigits b 0 = [0] := by
  simp [toDigits, digitsAux]

end Pcore.Format

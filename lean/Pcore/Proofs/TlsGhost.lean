import Pcore.Proofs.TlsReach
/-!
# Loader-entry isolation under ARBITRARY interleavings (small-step model, property C14)

"Definitions made in a forked context are invisible to its parent and siblings": in the small-step semantics a goroutine
defines names in the defining loader (head of the chain) of the context its body was handed.  To say WHO may see such a
definition the execution is decorated with two ghost maps that the semantics never reads (`Ghost`, threaded by `ghStep` beside
`Cfg.step`, like `World.estab`):

* `own l` — the goroutine the loader `l` was allocated for: the stepping goroutine (`DoWithContext`'s fork, `DoWithParent`'s
  fork, the fresh loader of a `DoWithLoader` scope), or — for the loader `pxContext.Fork` makes inside `px.Fork`/`px.Go` — the
  goroutine that is being started;
* `par b` — the goroutine that started `b`.

`GInv` (invariant of every reachable decorated configuration, `ginv_step`):
every loader on the chain of a context of goroutine `b` (installed for `b`, or made for `b` which waits) is the shared
environment loader `0` or is owned by an ancestor-or-self of `b` (`Anc par (own l) b`); the defining loader of every body context
of `g` is owned by `g` and is not `0`; likewise for the chains saved by `DoWithLoader` frames.

Between the decoration and `GInv` stands a second description of a micro-step: `GSpec` (`Proofs/TlsSmall.lean`) says nothing
of loaders, so what a step does to the loader chains is described by `ChSpec` (`stepG_chspec`), through five descriptors read off
the top frame that are the projections of one classification of the step, `ChainEff` (`chainAfter_split`).

Consequences (`Props/C14.lean`): a micro-step of `g` writes only loaders owned by `g` (`defs_owned`), hence the `Load` answers of a
context of `b` are unchanged whenever `g` is not an ancestor-or-self of `b` (`loads_isolated`) — in particular for every `b` older
than `g` (`b < g`: its parent, its older siblings, their ancestors).
-/
namespace Pcore.Tls

structure Ghost where
  own : LoaderId → Gid := fun _ => 0
  par : Gid → Gid := fun _ => 0

/-- `a` is `b` or started `b` or started the goroutine that started `b` … -/
inductive Anc (par : Gid → Gid) : Gid → Gid → Prop
  | refl (a : Gid) : Anc par a a
  | up {a b : Gid} : Anc par a (par b) → Anc par a b

theorem Anc.le {par : Gid → Gid} (hp : ∀ x, par x ≤ x) {a b : Gid} (h : Anc par a b) : a ≤ b := by
  induction h with
  | refl => exact Nat.le_refl _
  | up _ ih => exact Nat.le_trans ih (hp _)

theorem Anc.update {par : Gid → Gid} {n v : Gid} (hn : ∀ x, par x ≠ n) {a b : Gid} (h : Anc par a b) (hb : b ≠ n) :
    Anc (fun x => if x = n then v else par x) a b := by
  induction h with
  | refl => exact Anc.refl _
  | @up b _ ih =>
    refine Anc.up ?_
    simp only [hb, if_false]
    exact ih (hn b)

/-- the loader `l` may occur on a chain of goroutine `b` -/
def OkFor (gh : Ghost) (b : Gid) (l : LoaderId) : Prop := l = 0 ∨ Anc gh.par (gh.own l) b

/-- the decoration after a step of goroutine `a` that allocates the loader `nl` for `o` and hands out the goroutine id `ng` -/
def Ghost.step (gh : Ghost) (nl : LoaderId) (o ng a : Gid) : Ghost :=
  { own := fun l => if l = nl then o else gh.own l, par := fun b => if b = ng then a else gh.par b }

/-- every loader of the chain `l` may occur on a chain of goroutine `b` -/
def ChainOK (gh : Ghost) (b : Gid) (l : List LoaderId) : Prop := ∀ x ∈ l, OkFor gh b x

/-- the defining loader of the chain `l`, if it has one, was allocated for `b` and is not the environment loader -/
def HeadOK (gh : Ghost) (b : Gid) (l : List LoaderId) : Prop := ∀ h, l.head? = some h → gh.own h = b ∧ 1 ≤ h

theorem ChainOK.step {gh : Ghost} {nl : LoaderId} {o ng a b : Gid} {l : List LoaderId} (hp : ∀ x, gh.par x ≠ ng) (hb : b ≠ ng)
    (hl : ∀ x ∈ l, x ≠ nl) (h : ChainOK gh b l) : ChainOK (gh.step nl o ng a) b l := by
  intro x hx
  refine (h x hx).imp_right fun ha => ?_
  show Anc _ (if x = nl then o else gh.own x) b
  rw [if_neg (hl x hx)]
  exact Anc.update hp ha hb

theorem HeadOK.step {gh : Ghost} {nl : LoaderId} {o ng a b : Gid} {l : List LoaderId} (hl : ∀ x ∈ l, x ≠ nl) (h : HeadOK gh b l) :
    HeadOK (gh.step nl o ng a) b l := by
  intro x hx
  show (if x = nl then o else gh.own x) = b ∧ 1 ≤ x
  rw [if_neg (hl x (List.mem_of_mem_head? hx))]
  exact h x hx

theorem ChainOK.cons_new {gh : Ghost} {nl : LoaderId} {o ng a : Gid} {l : List LoaderId} (h : ChainOK (gh.step nl o ng a) o l) :
    ChainOK (gh.step nl o ng a) o (nl :: l) := by
  intro x hx
  rcases List.mem_cons.1 hx with rfl | hx
  · exact Or.inr (by show Anc _ (if x = x then o else _) o; rw [if_pos rfl]; exact Anc.refl _)
  · exact h x hx

theorem HeadOK.cons_new {gh : Ghost} {nl : LoaderId} {o ng a : Gid} {l : List LoaderId} (hnl : 1 ≤ nl) :
    HeadOK (gh.step nl o ng a) o (nl :: l) := by
  intro x hx
  cases hx
  exact ⟨if_pos rfl, hnl⟩

theorem ChainOK.child {gh : Ghost} {nl : LoaderId} {o ng a : Gid} {l : List LoaderId} (h : ChainOK (gh.step nl o ng a) a l) :
    ChainOK (gh.step nl o ng a) ng l := by
  intro x hx
  refine (h x hx).imp_right fun ha => Anc.up ?_
  show Anc _ _ (if ng = ng then a else _)
  rw [if_pos rfl]
  exact ha

/-- the decoration after goroutine number `i` took a micro-step -/
def ghStep (c : Cfg) (i : Nat) (gh : Ghost) : Ghost :=
  match c.gs[i]? with
  | none => gh
  | some g =>
    { own := fun l => if l = c.w.nextLoader then
          (match (stepG g c.w).spawned with | some n => n.gid | none => g.gid) else gh.own l
      par := fun b => if b = c.w.nextGid then g.gid else gh.par b }

inductive ReachG (p : Prog) : Cfg → Ghost → Prop
  | init : ReachG p (Cfg.init p) {}
  | step {c : Cfg} {gh : Ghost} (i : Nat) : ReachG p c gh → ReachG p (c.step i) (ghStep c i gh)

theorem ReachG.reachable {p : Prog} {c : Cfg} {gh : Ghost} (h : ReachG p c gh) : Reachable p c := by
  induction h with
  | init => exact Reachable.init
  | step i _ ih => exact Reachable.step i ih

theorem reachable_ghost {p : Prog} {c : Cfg} (h : Reachable p c) : ∃ gh, ReachG p c gh := by
  induction h with
  | init => exact ⟨{}, ReachG.init⟩
  | step i _ ih => obtain ⟨gh, hg⟩ := ih; exact ⟨_, ReachG.step i hg⟩

/-! ## what a micro-step does to loader chains, read off the stepping goroutine's top frame: `GSpec` says nothing of loaders, so
`ChSpec` describes the step a second time — every chain afterwards (`chainAfter`), the loader counter, where the contexts of the
new frames come from -/

/-- the existing context whose chain this step replaces, with the new chain (`DoWithLoader` entry / its deferred function) -/
def chainWrite (g : GS) (w : World) : Option (CtxId × List LoaderId) :=
  if g.started then
    match g.k with
    | .restoreLoader c l :: _ => some (c, l)
    | .run (.doloader _) c :: _ => if g.panicking then none else some (c, w.nextLoader :: (w.ctxs c).loader)
    | _ => none
  else none

/-- the context this step forks (`pxContext.Fork`): the new context `w.nextCtx` gets the fresh loader `w.nextLoader` on top -/
def forkSrc (g : GS) (w : World) : Option CtxId :=
  if g.started && !g.panicking then
    match g.k with
    | .run (.doctx _ _) c :: _ => some c
    | .run (.fork _) c :: _ => some c
    | .run (.go _) _ :: _ => tlGet g.gid ctxKey w
    | .parent _ _ _ root :: _ => some root
    | _ => none
  else none

/-- `pcore.Do` / `pcore.Try`: a new root context on the environment loader -/
def makesRoot (g : GS) : Bool :=
  g.started && !g.panicking &&
    match g.k with
    | .run (.dodo _ _) _ :: _ => true
    | .run (.dotry _ _) _ :: _ => true
    | _ => false

def chainAfter (g : GS) (w : World) (i : CtxId) : List LoaderId :=
  match chainWrite g w with
  | some (c, l) => if i = c then l else (w.ctxs i).loader
  | none =>
    match forkSrc g w with
    | some cx => if i = w.nextCtx then w.nextLoader :: (w.ctxs cx).loader else (w.ctxs i).loader
    | none => if makesRoot g = true ∧ i = w.nextCtx then [0] else (w.ctxs i).loader

/-- a fresh loader is allocated -/
def allocs (g : GS) (w : World) : Bool :=
  (forkSrc g w).isSome || (g.started && !g.panicking && match g.k with | .run (.doloader _) _ :: _ => true | _ => false)

/-- what one micro-step does to loader chains, the loader counter and the goroutine's frames -/
structure ChSpec (g : GS) (w : World) (r : StepR) : Prop where
  chains : ∀ i, (r.w.ctxs i).loader = chainAfter g w i
  nl : r.w.nextLoader = w.nextLoader + (if allocs g w = true then 1 else 0)
  /-- a body frame afterwards works on a context of a frame that was there, or on the context just forked (not a spawn) -/
  runs : ∀ p cx, Frame.run p cx ∈ r.g.k → (∃ p', Frame.run p' cx ∈ g.k) ∨
    (cx = w.nextCtx ∧ (forkSrc g w).isSome = true ∧ r.spawned = none)
  /-- a saved chain afterwards was saved before, or is the chain `DoWithLoader` has just replaced -/
  rest : ∀ cx l, Frame.restoreLoader cx l ∈ r.g.k → Frame.restoreLoader cx l ∈ g.k ∨
    (∃ p k, g.k = .run (.doloader p) cx :: k ∧ g.started = true ∧ g.panicking = false ∧ l = (w.ctxs cx).loader)
  /-- the context made for a goroutine that is being started -/
  spawn : ∀ n, r.spawned = some n → (forkSrc g w).isSome = true ∧ n.k = [.run (match n.k with | .run p _ :: _ => p | _ => .skip) w.nextCtx, .endG]

/-- a step only looks at the top frame `f` and leaves the frames `k` below it where they are: the frame clauses of `ChSpec` need
only be checked against `f` -/
theorem ChSpec.of_top {g : GS} {w : World} {r : StepR} {f : Frame} {k : List Frame} (hk : g.k = f :: k)
    (chains : ∀ i, (r.w.ctxs i).loader = chainAfter g w i)
    (nl : r.w.nextLoader = w.nextLoader + (if allocs g w = true then 1 else 0))
    (runs : ∀ p cx, Frame.run p cx ∈ r.g.k → Frame.run p cx ∈ k ∨ (∃ p', f = .run p' cx) ∨
      (cx = w.nextCtx ∧ (forkSrc g w).isSome = true ∧ r.spawned = none))
    (rest : ∀ cx l, Frame.restoreLoader cx l ∈ r.g.k → Frame.restoreLoader cx l ∈ k ∨
      (∃ p, f = .run (.doloader p) cx) ∧ g.started = true ∧ g.panicking = false ∧ l = (w.ctxs cx).loader)
    (spawn : ∀ n, r.spawned = some n → (forkSrc g w).isSome = true ∧
      n.k = [.run (match n.k with | .run p _ :: _ => p | _ => .skip) w.nextCtx, .endG]) : ChSpec g w r := by
  refine ⟨chains, nl, fun p cx h => ?_, fun cx l h => ?_, spawn⟩
  · rcases runs p cx h with h | ⟨p', h⟩ | h
    · exact Or.inl ⟨p, hk ▸ List.mem_cons_of_mem _ h⟩
    · exact Or.inl ⟨p', hk ▸ h ▸ List.mem_cons_self ..⟩
    · exact Or.inr h
  · rcases rest cx l h with h | ⟨⟨p, h⟩, h'⟩
    · exact Or.inl (hk ▸ List.mem_cons_of_mem _ h)
    · exact Or.inr ⟨p, k, hk ▸ h ▸ rfl, h'⟩

/-! ## the effect of a micro-step on the loader chains

The descriptors `chainWrite`, `forkSrc`, `makesRoot`, `allocs` and `chainAfter` are the projections of ONE classification of a
micro-step, `ChainEff` (the five alternatives of `chainAfter_split`): it leaves the chains alone, forks `src` into the new context,
makes a new root, pushes a fresh loader on the chain of `c` (`DoWithLoader` entry), or puts the chain `l` back on `c` (its deferred
function).  `Desc g w e` ties the descriptors to the effect `e`; `ChSpec`'s world clauses and everything that reads the
descriptors follow from it by cases on `e`. -/

inductive ChainEff where
  | same
  | fork (src : CtxId)
  | root
  | push (c : CtxId)
  | put (c : CtxId) (l : List LoaderId)

/-- the chain of context `i` after the effect -/
def ChainEff.chain (w : World) : ChainEff → CtxId → List LoaderId
  | .same, i => (w.ctxs i).loader
  | .fork s, i => if i = w.nextCtx then w.nextLoader :: (w.ctxs s).loader else (w.ctxs i).loader
  | .root, i => if i = w.nextCtx then [0] else (w.ctxs i).loader
  | .push c, i => if i = c then w.nextLoader :: (w.ctxs c).loader else (w.ctxs i).loader
  | .put c l, i => if i = c then l else (w.ctxs i).loader

def ChainEff.nl : ChainEff → Nat
  | .fork _ => 1 | .push _ => 1 | _ => 0

def ChainEff.nc : ChainEff → Nat
  | .fork _ => 1 | .root => 1 | _ => 0

structure ChainEff.Holds (e : ChainEff) (w w' : World) : Prop where
  chain : ∀ i, (w'.ctxs i).loader = e.chain w i
  nl : w'.nextLoader = w.nextLoader + e.nl
  nc : w'.nextCtx = w.nextCtx + e.nc

structure Desc (g : GS) (w : World) (e : ChainEff) : Prop where
  cw : chainWrite g w = (match e with | .push c => some (c, w.nextLoader :: (w.ctxs c).loader) | .put c l => some (c, l) | _ => none)
  fs : forkSrc g w = (match e with | .fork s => some s | _ => none)
  mr : makesRoot g = (match e with | .root => true | _ => false)
  al : allocs g w = (match e with | .fork _ => true | .push _ => true | _ => false)

theorem Desc.chain_eq {g : GS} {w : World} {e : ChainEff} (d : Desc g w e) (i : CtxId) : chainAfter g w i = e.chain w i := by
  obtain ⟨cw, fs, mr, al⟩ := d
  cases e <;> simp only [Pcore.Tls.chainAfter, cw, fs, mr, ChainEff.chain] <;> simp

theorem Desc.world {g : GS} {w w' : World} {e : ChainEff} (d : Desc g w e) (h : e.Holds w w') :
    (∀ i, (w'.ctxs i).loader = chainAfter g w i) ∧
    w'.nextLoader = w.nextLoader + (if allocs g w = true then 1 else 0) ∧
    w'.nextCtx = w.nextCtx + (if ((forkSrc g w).isSome || makesRoot g) = true then 1 else 0) := by
  refine ⟨fun i => by rw [d.chain_eq, h.chain], ?_, ?_⟩
  · rw [h.nl, d.al]; cases e <;> rfl
  · rw [h.nc, d.fs, d.mr]; cases e <;> rfl

/-- where the contexts an effect names come from: they are installed for the stepping goroutine, and its top frame is the one
    that asks for the effect -/
def ChainEff.Src (g : GS) (w : World) : ChainEff → Prop
  | .fork s => (g.gid, s) ∈ w.estab
  | .push c => (g.gid, c) ∈ w.estab ∧ ∃ p k, g.k = .run (.doloader p) c :: k
  | .put c l => (g.gid, c) ∈ w.estab ∧ g.started = true ∧ ∃ k, g.k = .restoreLoader c l :: k
  | _ => True

theorem Micro.chainEff {g : GS} {w : World} {r : StepR} (h : Micro g w r) :
    ∃ e, Desc g w e ∧ e.Holds w r.w ∧ (GOK w g → e.Src g w) := by
  have same : ∀ {w' : World}, (∀ i, (w'.ctxs i).loader = (w.ctxs i).loader) → w'.nextLoader = w.nextLoader → w'.nextCtx = w.nextCtx →
      ChainEff.same.Holds w w' := fun a b c => ⟨a, b, c⟩
  have t : ∀ {g : GS}, GOK w g → ChainEff.same.Src g w := fun _ => trivial
  -- `Desc`: the descriptors compute on the top frame (`rfl`); where the flag or the program of that frame is a variable it is split first
  cases h with
  | start gid ctx0 pn k => exact ⟨.same, ⟨rfl, rfl, rfl, rfl⟩, same (fun i => setTag_loader ..) rfl rfl, t⟩
  | move gid ctx0 _ hS =>
    cases hS with
    | nil => rename_i pn; exact ⟨.same, by cases pn <;> exact ⟨rfl, rfl, rfl, rfl⟩, same (fun _ => rfl) rfl rfl, t⟩
    | unwindRun p c => exact ⟨.same, by cases p <;> exact ⟨rfl, rfl, rfl, rfl⟩, same (fun _ => rfl) rfl rfl, t⟩
    | _ => exact ⟨.same, ⟨rfl, rfl, rfl, rfl⟩, same (fun _ => rfl) rfl rfl, t⟩
  | goNone gid ctx0 p c k _ h =>
    exact ⟨.same, ⟨rfl, by simp [forkSrc, h], rfl, by simp [allocs, forkSrc, h]⟩, same (fun _ => rfl) rfl rfl, t⟩
  | exitFail gid ctx0 pn => exact ⟨.same, by cases pn <;> exact ⟨rfl, rfl, rfl, rfl⟩, same (fun _ => rfl) rfl rfl, t⟩
  | leaf gid ctx0 lf c k =>
    obtain ⟨a, b, c'⟩ := leafStep_chain gid c lf w
    exact ⟨.same, ⟨rfl, rfl, rfl, rfl⟩, same a b c', t⟩
  | exit gid ctx0 pn _ _ _ _ h =>
    obtain ⟨t', rfl⟩ := dwcExit_fields h
    exact ⟨.same, by cases pn <;> exact ⟨rfl, rfl, rfl, rfl⟩, same (fun _ => rfl) rfl rfl, t⟩
  | recovered => exact ⟨.same, ⟨rfl, rfl, rfl, rfl⟩, same (fun _ => rfl) rfl rfl, t⟩
  | endG gid ctx0 pn => exact ⟨.same, by cases pn <;> exact ⟨rfl, rfl, rfl, rfl⟩, same (fun _ => rfl) rfl rfl, t⟩
  | endRoot gid ctx0 pn => exact ⟨.same, by cases pn <;> exact ⟨rfl, rfl, rfl, rfl⟩, same (fun _ => rfl) rfl rfl, t⟩
  | loaderOut gid ctx0 pn c l k =>
    exact ⟨.put c l, by cases pn <;> exact ⟨rfl, rfl, rfl, rfl⟩,
      ⟨fun i => by by_cases hi : i = c <;> simp [ChainEff.chain, ctxUpd, hi], rfl, rfl⟩, fun hg => ⟨(hg.st rfl).1, rfl, k, rfl⟩⟩
  | loaderIn gid ctx0 p c k =>
    exact ⟨.push c, ⟨rfl, rfl, rfl, rfl⟩,
      ⟨fun i => by by_cases hi : i = c <;> simp [ChainEff.chain, ctxUpd, newLoader, hi], rfl, rfl⟩, fun hg => ⟨(hg.st rfl).2.1, p, k, rfl⟩⟩
  | doctx gid ctx0 id p c k _ save w2 h =>
    obtain ⟨t', rfl⟩ := dwcEnter_fields h
    exact ⟨.fork c, ⟨rfl, rfl, rfl, rfl⟩, ⟨fun i => (setTag_loader ..).trans (forkCtx_loader ..), rfl, rfl⟩, fun hg => (hg.st rfl).2.1⟩
  | parent gid ctx0 id ctch p root k _ save w2 h =>
    obtain ⟨t', rfl⟩ := dwcEnter_fields h
    exact ⟨.fork root, ⟨rfl, rfl, rfl, rfl⟩, ⟨fun i => (setTag_loader ..).trans (forkCtx_loader ..), rfl, rfl⟩, fun hg => (hg.st rfl).2.1⟩
  | doroot gid ctx0 q id ctch p c k _ save w2 hq h =>
    obtain ⟨t', rfl⟩ := dwcEnter_fields h
    exact ⟨.root, by rcases hq with ⟨rfl, _⟩ | ⟨rfl, _⟩ <;> exact ⟨rfl, rfl, rfl, rfl⟩, ⟨fun i => newCtx_loader .., rfl, rfl⟩,
      fun _ => trivial⟩
  | spawn gid ctx0 q c src p k _ hq =>
    refine ⟨.fork src, ?_, ⟨fun i => forkCtx_loader .., rfl, rfl⟩, fun hg => ?_⟩
    · rcases hq with ⟨rfl, rfl⟩ | ⟨rfl, h⟩
      · exact ⟨rfl, rfl, rfl, rfl⟩
      · exact ⟨rfl, by simp [forkSrc, h], rfl, by simp [allocs, forkSrc, h]⟩
    · obtain rfl := hg.spawn_src hq
      exact (hg.st rfl).2.1

/-- `ChSpec` and the context counter: the world clauses from the effect, uniformly; the frame clauses per kind of step -/
theorem Micro.shape {g : GS} {w : World} {r : StepR} (h : Micro g w r) : ChSpec g w r ∧
    r.w.nextCtx = w.nextCtx + (if ((forkSrc g w).isSome || makesRoot g) = true then 1 else 0) := by
  obtain ⟨e, d, hw, _⟩ := h.chainEff
  obtain ⟨h1, h2, h3⟩ := d.world hw
  refine ⟨?_, h3⟩
  -- a step that pops the top frame and starts nobody
  have pop : ∀ {f : Frame} {k : List Frame}, g.k = f :: k → r.g.k = k → r.spawned = none → ChSpec g w r := fun hk hr hs =>
    ChSpec.of_top hk h1 h2 (fun p cx hm => Or.inl (hr ▸ hm)) (fun cx l hm => Or.inl (hr ▸ hm)) (fun n hn => by rw [hs] at hn; cases hn)
  have none' : r.g.k = [] → r.spawned = none → ChSpec g w r := fun hr hs =>
    ⟨h1, h2, fun p cx hm => by rw [hr] at hm; exact (List.not_mem_nil hm).elim,
      fun cx l hm => by rw [hr] at hm; exact (List.not_mem_nil hm).elim, fun n hn => by rw [hs] at hn; cases hn⟩
  cases h with
  | start => exact ⟨h1, h2, fun p cx hm => Or.inl ⟨p, hm⟩, fun cx l hm => Or.inl hm, fun n hn => nomatch hn⟩
  | move gid ctx0 _ hS =>
    cases hS with
    | nil => exact none' rfl rfl
    | seq p q c => exact ChSpec.of_top rfl h1 h2 (by simp +contextual [or_imp]) (by simp +contextual) (fun n hn => nomatch hn)
    | recover p c => exact ChSpec.of_top rfl h1 h2 (by simp +contextual [or_imp]) (by simp +contextual) (fun n hn => nomatch hn)
    | _ => exact pop rfl rfl rfl
  | loaderIn => exact ChSpec.of_top rfl h1 h2 (by simp +contextual [or_imp]) (by simp +contextual [or_imp]) (fun n hn => nomatch hn)
  | doctx => exact ChSpec.of_top rfl h1 h2 (by simp +contextual [or_imp, forkSrc]) (by simp +contextual) (fun n hn => nomatch hn)
  | parent gid ctx0 id ctch =>
    exact ChSpec.of_top rfl h1 h2 (by cases ctch <;> simp +contextual [or_imp, forkSrc]) (by cases ctch <;> simp +contextual)
      (fun n hn => nomatch hn)
  | doroot => exact ChSpec.of_top rfl h1 h2 (by simp +contextual) (by simp +contextual) (fun n hn => nomatch hn)
  | spawn gid ctx0 q c src p k _ hq =>
    refine ChSpec.of_top rfl h1 h2 (fun p' cx hm => Or.inl hm) (fun cx l hm => Or.inl hm) (fun n hn => ?_)
    cases hn
    rcases hq with ⟨rfl, rfl⟩ | ⟨rfl, h⟩
    · exact ⟨rfl, rfl⟩
    · exact ⟨by simp [forkSrc, h], rfl⟩
  | endG => exact none' rfl rfl
  | endRoot => exact none' rfl rfl
  | _ => exact pop rfl rfl rfl

theorem stepG_chspec (g : GS) (w : World) : ChSpec g w (stepG g w) := (stepG_micro g w).shape.1

theorem stepG_nc (g : GS) (w : World) :
    (stepG g w).w.nextCtx = w.nextCtx + (if ((forkSrc g w).isSome || makesRoot g) = true then 1 else 0) := (stepG_micro g w).shape.2

theorem step_chainEff (g : GS) (w : World) : ∃ e, Desc g w e ∧ (GOK w g → e.Src g w) :=
  let ⟨e, d, _, hs⟩ := (stepG_micro g w).chainEff
  ⟨e, d, hs⟩

theorem forkSrc_chainEff {g : GS} {w : World} {cx : CtxId} (hok : GOK w g) (h : forkSrc g w = some cx) :
    Desc g w (.fork cx) ∧ (g.gid, cx) ∈ w.estab := by
  obtain ⟨e, d, hs⟩ := step_chainEff g w
  have hf := d.fs
  rw [h] at hf
  cases e with
  | fork s => cases hf; exact ⟨d, hs hok⟩
  | _ => cases hf

theorem chainAfter_fork {g : GS} {w : World} (hok : GOK w g) {cx : CtxId} (h : forkSrc g w = some cx) :
    chainAfter g w w.nextCtx = w.nextLoader :: (w.ctxs cx).loader := by
  rw [(forkSrc_chainEff hok h).1.chain_eq]
  exact if_pos rfl

theorem chainAfter_other {g : GS} {w : World} (hok : GOK w g) {i : CtxId} (hne : (g.gid, i) ∉ w.estab) (hn : i ≠ w.nextCtx) :
    chainAfter g w i = (w.ctxs i).loader := by
  obtain ⟨e, d, hs⟩ := step_chainEff g w
  have hsrc := hs hok
  rw [d.chain_eq]
  cases e with
  | same => rfl
  | fork s => exact if_neg hn
  | root => exact if_neg hn
  | push c => exact if_neg fun hi : i = c => hne (hi ▸ hsrc.1)
  | put c l => exact if_neg fun hi : i = c => hne (hi ▸ hsrc.1)

/-- what the step of `g` makes of the chain of ANY context `i` -/
theorem chainAfter_split {g : GS} {w : World} (hinv : Inv w) (hok : GOK w g) (i : CtxId) :
    chainAfter g w i = (w.ctxs i).loader ∨
    ((g.gid, i) ∈ w.estab ∧ chainAfter g w i = w.nextLoader :: (w.ctxs i).loader ∧ allocs g w = true ∧ forkSrc g w = none ∧
      ∃ p k, g.k = .run (.doloader p) i :: k) ∨
    ((g.gid, i) ∈ w.estab ∧ ∃ k, g.k = .restoreLoader i (chainAfter g w i) :: k ∧ g.started = true) ∨
    (i = w.nextCtx ∧ ∃ cx, forkSrc g w = some cx ∧ (g.gid, cx) ∈ w.estab ∧ allocs g w = true ∧
      chainAfter g w i = w.nextLoader :: (w.ctxs cx).loader) ∨
    (i = w.nextCtx ∧ makesRoot g = true ∧ forkSrc g w = none ∧ chainAfter g w i = [0]) := by
  obtain ⟨e, d, hs⟩ := step_chainEff g w
  have hsrc := hs hok
  rw [d.chain_eq]
  cases e with
  | same => exact Or.inl rfl
  | fork s =>
    by_cases hi : i = w.nextCtx
    · exact Or.inr (Or.inr (Or.inr (Or.inl ⟨hi, s, d.fs, hsrc, d.al, by simp [ChainEff.chain, hi]⟩)))
    · exact Or.inl (by simp [ChainEff.chain, hi])
  | root =>
    by_cases hi : i = w.nextCtx
    · exact Or.inr (Or.inr (Or.inr (Or.inr ⟨hi, d.mr, d.fs, by simp [ChainEff.chain, hi]⟩)))
    · exact Or.inl (by simp [ChainEff.chain, hi])
  | push c =>
    by_cases hi : i = c
    · subst hi; exact Or.inr (Or.inl ⟨hsrc.1, by simp [ChainEff.chain], d.al, d.fs, hsrc.2⟩)
    · exact Or.inl (by simp [ChainEff.chain, hi])
  | put c l =>
    by_cases hi : i = c
    · subst hi
      obtain ⟨h1, h2, k, h3⟩ := hsrc
      exact Or.inr (Or.inr (Or.inl ⟨h1, k, by simpa [ChainEff.chain] using h3, h2⟩))
    · exact Or.inl (by simp [ChainEff.chain, hi])

/-! ## the invariant `GInv`: the chains of a goroutine's contexts hold the environment loader and loaders of its ancestors-or-self,
the defining loader of a body's context is the running goroutine's own; every micro-step keeps it (`ginv_step`).  First, what
`StackOK` says of the frames anywhere in a continuation: their contexts were installed for the goroutine -/

theorem stackOK_mem {gid : Gid} {est : List (Gid × CtxId)} : ∀ {k : List Frame} {cur : Option CtxId},
    StackOK gid est cur k → ∀ f ∈ k, ∀ cx, ((∃ p, f = .run p cx) ∨ ∃ l, f = .restoreLoader cx l) → (gid, cx) ∈ est := by
  intro k
  induction k with
  | nil => intro cur _ f hf; cases hf
  | cons f0 k ih =>
    intro cur h f hf cx hcx
    rcases List.mem_cons.1 hf with rfl | hf'
    · rcases hcx with ⟨p, rfl⟩ | ⟨l, rfl⟩
      · exact h.2.1
      · exact h.1
    · cases f0 with
      | run q c => exact ih h.2.2 f hf' cx hcx
      | parent id ctch q root => exact ih h.2.2 f hf' cx hcx
      | restoreCtx save => exact ih h.2 f hf' cx hcx
      | restoreLoader c l => exact ih h.2 f hf' cx hcx
      | catchK => exact ih h f hf' cx hcx
      | endG => rw [show k = [] from h] at hf'; cases hf'
      | endRoot => rw [h.1] at hf'; cases hf'

theorem stackOK_run {gid : Gid} {est : List (Gid × CtxId)} {k : List Frame} {cur : Option CtxId}
    (h : StackOK gid est cur k) (p : Prog) (cx : CtxId) (hm : Frame.run p cx ∈ k) : (gid, cx) ∈ est :=
  stackOK_mem h _ hm cx (Or.inl ⟨p, rfl⟩)

theorem stackOK_rest {gid : Gid} {est : List (Gid × CtxId)} : ∀ {k : List Frame} {cur : Option CtxId},
    StackOK gid est cur k → ∀ cx l, Frame.restoreLoader cx l ∈ k → (gid, cx) ∈ est :=
  fun h cx l hm => stackOK_mem h _ hm cx (Or.inr ⟨l, rfl⟩)

structure GInv (c : Cfg) (gh : Ghost) : Prop where
  ldPos : 1 ≤ c.w.nextLoader
  fresh : ∀ i, c.w.nextCtx ≤ i → (c.w.ctxs i).loader = []
  chainLt : ∀ i l, l ∈ (c.w.ctxs i).loader → l < c.w.nextLoader
  restLt : ∀ g ∈ c.gs, ∀ cx l, Frame.restoreLoader cx l ∈ g.k → ∀ x ∈ l, x < c.w.nextLoader
  parLt : ∀ x, gh.par x < c.w.nextGid
  parLe : ∀ x, gh.par x ≤ x
  estGid : ∀ b i, (b, i) ∈ c.w.estab → b < c.w.nextGid
  /-- loaders on the chain of a context installed for `b` belong to `b` or its ancestors (or are the environment loader) -/
  estChain : ∀ b i, (b, i) ∈ c.w.estab → ∀ l ∈ (c.w.ctxs i).loader, OkFor gh b l
  /-- … likewise for the context made for a goroutine that has not started -/
  unstChain : ∀ n ∈ c.gs, n.started = false → ∀ l ∈ (c.w.ctxs n.ctx0).loader, OkFor gh n.gid l
  unstHead : ∀ n ∈ c.gs, n.started = false → ∀ h, headOf c.w n.ctx0 = some h → gh.own h = n.gid ∧ 1 ≤ h
  /-- the defining loader of a body's context belongs to the goroutine that runs the body -/
  runHead : ∀ g ∈ c.gs, g.started = true → ∀ p cx, Frame.run p cx ∈ g.k → ∀ h, headOf c.w cx = some h → gh.own h = g.gid ∧ 1 ≤ h
  /-- the chains `DoWithLoader` will put back -/
  restore : ∀ g ∈ c.gs, ∀ cx l, Frame.restoreLoader cx l ∈ g.k →
    (∀ x ∈ l, OkFor gh g.gid x) ∧ (∀ h, l.head? = some h → gh.own h = g.gid ∧ 1 ≤ h)

theorem ginv_step {c : Cfg} {gh : Ghost} (hc : CInv c) (hg : GInv c gh) (i : Nat) : GInv (c.step i) (ghStep c i gh) := by
  cases hi : c.gs[i]? with
  | none =>
    have e2 : ghStep c i gh = gh := by simp [ghStep, hi]
    rw [Cfg.step_none hi, e2]; exact hg
  | some g =>
    have hgm : g ∈ c.gs := List.mem_of_getElem? hi
    have gok := hc.gok g hgm
    have sp := hc.spec hi
    have ch := stepG_chspec g c.w
    have nc := stepG_nc g c.w
    have e2 : ghStep c i gh = gh.step c.w.nextLoader
        (match (stepG g c.w).spawned with | some n => n.gid | none => g.gid) c.w.nextGid g.gid := by
      simp only [ghStep, hi]; rfl
    rw [Cfg.step_some hi, e2]
    generalize hr : stepG g c.w = r at sp ch nc
    -- `o`: the goroutine the loader allocated in this step (if any) is allocated for
    generalize ho : (match r.spawned with | some n => n.gid | none => g.gid) = o
    have honone : r.spawned = none → o = g.gid := fun h => by rw [← ho, h]
    have hosome : ∀ n, r.spawned = some n → o = n.gid := fun n h => by rw [← ho, h]
    -- chains whose loaders were all there before the step stay good; the fresh loader belongs to `o`
    have hC : ∀ {b : Gid} {l : List LoaderId}, b < c.w.nextGid → (∀ x ∈ l, x < c.w.nextLoader) → ChainOK gh b l →
        ChainOK (gh.step c.w.nextLoader o c.w.nextGid g.gid) b l :=
      fun hb hl h => h.step (fun x => Nat.ne_of_lt (hg.parLt x)) (Nat.ne_of_lt hb) fun x hx => Nat.ne_of_lt (hl x hx)
    have hH : ∀ {b : Gid} {l : List LoaderId}, (∀ x ∈ l, x < c.w.nextLoader) → HeadOK gh b l →
        HeadOK (gh.step c.w.nextLoader o c.w.nextGid g.gid) b l :=
      fun hl h => h.step fun x hx => Nat.ne_of_lt (hl x hx)
    have hCnew : ∀ {b : Gid} {l : List LoaderId}, o = b → ChainOK (gh.step c.w.nextLoader o c.w.nextGid g.gid) b l →
        ChainOK (gh.step c.w.nextLoader o c.w.nextGid g.gid) b (c.w.nextLoader :: l) := by
      intro b l e h; subst e; exact h.cons_new
    have hHnew : ∀ {b : Gid} {l : List LoaderId}, o = b →
        HeadOK (gh.step c.w.nextLoader o c.w.nextGid g.gid) b (c.w.nextLoader :: l) := by
      intro b l e; subst e; exact HeadOK.cons_new hg.ldPos
    have hnl : c.w.nextLoader ≤ r.w.nextLoader := sp.ldMono
    have hglt : g.gid < c.w.nextGid := gok.glt
    -- a step that does not spawn allocates for the stepping goroutine
    have hnosp : forkSrc g c.w = none → r.spawned = none := by
      intro hf
      cases hs : r.spawned with
      | none => rfl
      | some n => have := (ch.spawn n hs).1; rw [hf] at this; simp at this
    -- the goroutine a step starts: it waits, has no saved chain, and its context is a fork of a context of the stepper — the
    -- fresh loader on top of that chain
    have hspn : ∀ n, r.spawned = some n → n.gid = c.w.nextGid ∧ n.started = false ∧ n.ctx0 = c.w.nextCtx ∧
        (∀ b, (b, c.w.nextCtx) ∉ r.w.estab) ∧ (∀ cx l, Frame.restoreLoader cx l ∉ n.k) ∧
        ∃ cx, (g.gid, cx) ∈ c.w.estab ∧ (r.w.ctxs n.ctx0).loader = c.w.nextLoader :: (c.w.ctxs cx).loader := by
      intro n hs
      obtain ⟨h1, h2, h3, h4, _⟩ := sp.spawned n hs
      obtain ⟨hf, hk⟩ := ch.spawn n hs
      obtain ⟨cx, hf⟩ := Option.isSome_iff_exists.1 hf
      refine ⟨h1, h3, h4, fun b => h4 ▸ (h2.unst h3).2.2.1 b, fun cx l hm => by rw [hk] at hm; simp at hm, cx,
        (forkSrc_chainEff gok hf).2, ?_⟩
      rw [h4, ch.chains, chainAfter_fork gok hf]
    have hest := sp.est_cases
    have hestg : ∀ b i', (b, i') ∈ r.w.estab → (g.gid, i') ∈ c.w.estab → b = g.gid := by
      intro b i' h h'
      rcases hest b i' h with h1 | h1
      · exact hc.winv.estabUniq _ _ _ h1 h'
      · exact h1.1
    have hother : ∀ g' j, j ≠ i → c.gs[j]? = some g' → g'.gid ≠ g.gid :=
      fun g' j hj h e => hj (nodup_key_idx_inj hc.gidNodup h hi e)
    have hkeep : ∀ b i', b ≠ g.gid → (b, i') ∈ c.w.estab → (r.w.ctxs i').loader = (c.w.ctxs i').loader :=
      fun b i' hb h => by rw [← hr, hc.frame_of_ctxOf hi (Or.inl h) hb]
    have hkeepU : ∀ n, n ∈ c.gs → n.started = false → n.gid ≠ g.gid → (r.w.ctxs n.ctx0).loader = (c.w.ctxs n.ctx0).loader :=
      fun n hn hs hne => by rw [← hr, hc.frame_of_ctxOf hi (Or.inr ⟨n, hn, hs, rfl, rfl⟩) hne]
    have hnc1 : ((forkSrc g c.w).isSome || makesRoot g) = true → ¬ r.w.nextCtx ≤ c.w.nextCtx := by
      intro h; rw [h] at nc; simp only [if_true] at nc; omega
    have hcons : ∀ {l : Nat} {old : List Nat}, allocs g c.w = true → (∀ x, x ∈ old → x < c.w.nextLoader) →
        l ∈ c.w.nextLoader :: old → l < r.w.nextLoader := by
      intro l old ha hold hl
      have nl1 : r.w.nextLoader = c.w.nextLoader + 1 := by have := ch.nl; rw [ha] at this; simpa using this
      rcases List.mem_cons.1 hl with hl | hl
      · have hl' : (l : Nat) = c.w.nextLoader := hl
        omega
      · have h2 : (l : Nat) < c.w.nextLoader := hold l hl
        omega
    -- a goroutine that waits after the step: one that waited before (its context is untouched), or the one just made — the
    -- fresh loader on top of the chain of the context that was forked
    have hun : ∀ n ∈ c.gs.set i r.g ++ r.spawned.toList, n.started = false →
        ChainOK (gh.step c.w.nextLoader o c.w.nextGid g.gid) n.gid (r.w.ctxs n.ctx0).loader ∧
        HeadOK (gh.step c.w.nextLoader o c.w.nextGid g.gid) n.gid (r.w.ctxs n.ctx0).loader := by
      intro n hn hns
      rcases sp.waiting_cases hn hns with ⟨j, hj, h⟩ | h
      · have hnm := List.mem_of_getElem? h
        rw [hkeepU n hnm hns (hother n j hj h)]
        exact ⟨hC (hc.gok n hnm).glt (hg.chainLt _) (hg.unstChain n hnm hns), hH (hg.chainLt _) (hg.unstHead n hnm hns)⟩
      · obtain ⟨h1, _, _, _, _, cx, hecx, hch⟩ := hspn n h
        rw [hch]
        exact ⟨h1 ▸ hCnew ((hosome n h).trans h1) (hC hglt (hg.chainLt cx) (hg.estChain g.gid cx hecx)).child, hHnew (hosome n h)⟩
    exact {
      ldPos := Nat.le_trans hg.ldPos hnl
      fresh := by
        intro i' hi'
        show (r.w.ctxs i').loader = []
        rw [ch.chains]
        have hi'' : r.w.nextCtx ≤ i' := hi'
        have hge : c.w.nextCtx ≤ i' := Nat.le_trans sp.ctxMono hi'
        rcases chainAfter_split hc.winv gok i' with h | ⟨he, _⟩ | ⟨he, _⟩ | ⟨hn, cx, hf, _⟩ | ⟨hn, hm, _⟩
        · rw [h]; exact hg.fresh i' hge
        · exact absurd (hc.winv.estabLt _ _ he) (Nat.not_lt.mpr hge)
        · exact absurd (hc.winv.estabLt _ _ he) (Nat.not_lt.mpr hge)
        · exact absurd (hn ▸ hi'') (hnc1 (by simp [hf]))
        · exact absurd (hn ▸ hi'') (hnc1 (by simp [hm]))
      chainLt := by
        intro i' (l : Nat) hl
        show l < r.w.nextLoader
        rw [ch.chains] at hl
        rcases chainAfter_split hc.winv gok i' with h | ⟨_, h, ha, _⟩ | ⟨_, k, hk, _⟩ | ⟨_, cx, _, _, ha, h⟩ | ⟨_, _, _, h⟩
        · rw [h] at hl; exact Nat.lt_of_lt_of_le (hg.chainLt i' l hl) hnl
        · exact hcons ha (hg.chainLt i') (h ▸ hl)
        · exact Nat.lt_of_lt_of_le (hg.restLt g hgm i' _ (by rw [hk]; exact List.mem_cons_self ..) l hl) hnl
        · exact hcons ha (hg.chainLt cx) (h ▸ hl)
        · rw [h] at hl
          have h0 : (l : Nat) = 0 := by simpa using hl
          have h1 := hg.ldPos
          omega
      restLt := by
        intro g' hg' cx l hf x hx
        show x < r.w.nextLoader
        rcases mem_step_cases hg' with h | ⟨j, hj, h⟩ | h
        · subst h
          rcases ch.rest cx l hf with h | ⟨p, k, hk, _, _, hl⟩
          · exact Nat.lt_of_lt_of_le (hg.restLt g hgm cx l h x hx) hnl
          · rw [hl] at hx; exact Nat.lt_of_lt_of_le (hg.chainLt cx x hx) hnl
        · exact Nat.lt_of_lt_of_le (hg.restLt g' (List.mem_of_getElem? h) cx l hf x hx) hnl
        · obtain ⟨_, _, _, _, hno, _⟩ := hspn g' h
          exact absurd hf (hno cx l)
      parLt := by
        intro x
        show (if x = c.w.nextGid then g.gid else gh.par x) < r.w.nextGid
        have hge : c.w.nextGid ≤ r.w.nextGid := by rw [sp.nextGid]; exact Nat.le_add_right _ _
        by_cases hx : x = c.w.nextGid
        · simp only [hx, if_true]; exact Nat.lt_of_lt_of_le hglt hge
        · simp only [hx, if_false]; exact Nat.lt_of_lt_of_le (hg.parLt x) hge
      parLe := by
        intro x
        show (if x = c.w.nextGid then g.gid else gh.par x) ≤ x
        by_cases hx : x = c.w.nextGid
        · simp only [hx, if_true]; exact Nat.le_of_lt hglt
        · simp only [hx, if_false]; exact hg.parLe x
      estGid := by
        intro b i' h
        show b < r.w.nextGid
        have hge : c.w.nextGid ≤ r.w.nextGid := by rw [sp.nextGid]; exact Nat.le_add_right _ _
        rcases hest b i' h with h | ⟨h, _⟩
        · exact Nat.lt_of_lt_of_le (hg.estGid b i' h) hge
        · rw [h]; exact Nat.lt_of_lt_of_le hglt hge
      estChain := by
        intro b i' hbi
        show ChainOK _ b (r.w.ctxs i').loader
        rw [ch.chains]
        rcases chainAfter_split hc.winv gok i' with h | ⟨he, h, _, hf, _⟩ | ⟨he, k, hk, _⟩ | ⟨hn, cx, hf, hecx, _, h⟩ | ⟨_, _, _, h⟩
        · rw [h]
          rcases hest b i' hbi with h1 | ⟨rfl, h2 | ⟨h2, rfl⟩⟩
          · exact hC (hg.estGid b i' h1) (hg.chainLt i') (hg.estChain b i' h1)
          · rw [hg.fresh i' h2]; exact fun _ h => nomatch h
          · exact hC hglt (hg.chainLt _) (hg.unstChain g hgm h2)
        · obtain rfl := hestg b i' hbi he
          rw [h]
          exact hCnew (honone (hnosp hf)) (hC hglt (hg.chainLt i') (hg.estChain g.gid i' he))
        · obtain rfl := hestg b i' hbi he
          have hfr : Frame.restoreLoader i' (chainAfter g c.w i') ∈ g.k := by rw [hk]; exact List.mem_cons_self ..
          exact hC hglt (hg.restLt g hgm _ _ hfr) (hg.restore g hgm _ _ hfr).1
        · subst hn
          obtain rfl : b = g.gid := by
            rcases hest b _ hbi with h1 | ⟨h1, _⟩
            · exact absurd (hc.winv.estabLt _ _ h1) (Nat.lt_irrefl _)
            · exact h1
          have hns : r.spawned = none := by
            cases hs : r.spawned with
            | none => rfl
            | some n =>
              obtain ⟨_, _, _, hnew, _⟩ := hspn n hs
              exact absurd hbi (hnew g.gid)
          rw [h]
          exact hCnew (honone hns) (hC hglt (hg.chainLt cx) (hg.estChain g.gid cx hecx))
        · rw [h]; exact fun x hx => Or.inl (by simpa using hx)
      unstChain := fun n hn hns => (hun n hn hns).1
      unstHead := fun n hn hns => (hun n hn hns).2
      runHead := by
        intro g' hg' hst p cx hf
        show HeadOK _ g'.gid (r.w.ctxs cx).loader
        rcases mem_step_cases hg' with e | ⟨j, hj, e⟩ | e
        · subst e
          rw [sp.gid, ch.chains]
          rcases ch.runs p cx hf with ⟨p', hp'⟩ | ⟨hcx, hfs, hns⟩
          · cases hgs : g.started with
            | false =>
              obtain ⟨_, h2, h3, _⟩ := gok.unst hgs
              rw [gok.run_unst hgs hp', chainAfter_other gok (h3 g.gid) (Nat.ne_of_lt h2)]
              exact hH (hg.chainLt _) (hg.unstHead g hgm hgs)
            | true =>
              have he : (g.gid, cx) ∈ c.w.estab := stackOK_run (gok.st hgs) p' cx hp'
              rcases chainAfter_split hc.winv gok cx with h1 | ⟨_, h1, _, hfn, _⟩ | ⟨_, k, hk, _⟩ | ⟨hn, _⟩ | ⟨hn, _⟩
              · rw [h1]; exact hH (hg.chainLt _) (hg.runHead g hgm hgs p' cx hp')
              · rw [h1]; exact hHnew (honone (hnosp hfn))
              · have hfr : Frame.restoreLoader cx (chainAfter g c.w cx) ∈ g.k := by rw [hk]; exact List.mem_cons_self ..
                exact hH (hg.restLt g hgm _ _ hfr) (hg.restore g hgm _ _ hfr).2
              · exact absurd (hc.winv.estabLt _ _ he) (by rw [hn]; exact Nat.lt_irrefl _)
              · exact absurd (hc.winv.estabLt _ _ he) (by rw [hn]; exact Nat.lt_irrefl _)
          · cases hf' : forkSrc g c.w with
            | none => rw [hf'] at hfs; cases hfs
            | some src => rw [hcx, chainAfter_fork gok hf']; exact hHnew (honone hns)
        · have hgm' := List.mem_of_getElem? e
          have he : (g'.gid, cx) ∈ c.w.estab := stackOK_run ((hc.gok g' hgm').st hst) p cx hf
          rw [hkeep g'.gid cx (hother g' j hj e) he]
          exact hH (hg.chainLt _) (hg.runHead g' hgm' hst p cx hf)
        · obtain ⟨_, hun', _⟩ := hspn g' e
          rw [hun'] at hst; cases hst
      restore := by
        intro g' hg' cx l hf
        show ChainOK _ g'.gid l ∧ HeadOK _ g'.gid l
        rcases mem_step_cases hg' with e | ⟨j, hj, e⟩ | e
        · subst e
          rw [sp.gid]
          rcases ch.rest cx l hf with hold | ⟨p, k, hk, hgs, _, rfl⟩
          · have hlt := hg.restLt g hgm cx l hold
            exact ⟨hC hglt hlt (hg.restore g hgm cx l hold).1, hH hlt (hg.restore g hgm cx l hold).2⟩
          · have hfr : Frame.run (.doloader p) cx ∈ g.k := by rw [hk]; exact List.mem_cons_self ..
            have he : (g.gid, cx) ∈ c.w.estab := stackOK_run (gok.st hgs) _ cx hfr
            exact ⟨hC hglt (hg.chainLt cx) (hg.estChain g.gid cx he), hH (hg.chainLt cx) (hg.runHead g hgm hgs _ cx hfr)⟩
        · have hgm' := List.mem_of_getElem? e
          have hlt := hg.restLt g' hgm' cx l hf
          exact ⟨hC (hc.gok g' hgm').glt hlt (hg.restore g' hgm' cx l hf).1, hH hlt (hg.restore g' hgm' cx l hf).2⟩
        · obtain ⟨_, _, _, _, hno, _⟩ := hspn g' e
          exact absurd hf (hno cx l)
    }

/-! ## consequences: a micro-step writes loaders of the stepping goroutine only, so the contexts and `Load` answers of a goroutine
that does not descend from it are unchanged — in every reachable decorated configuration (`reachG_inv`), and over any number
of micro-steps of younger goroutines (`younger_invisible`) -/

/-- the defining loader of the context of any body frame of `g` belongs to `g`, started or not -/
theorem GInv.head_of_run {c : Cfg} {gh : Ghost} (hc : CInv c) (hg : GInv c gh) {g : GS} (hgm : g ∈ c.gs) {p : Prog} {cx : CtxId}
    (hm : Frame.run p cx ∈ g.k) : HeadOK gh g.gid (c.w.ctxs cx).loader := by
  cases hs : g.started with
  | true => exact hg.runHead g hgm hs p cx hm
  | false => rw [(hc.gok g hgm).run_unst hs hm]; exact hg.unstHead g hgm hs

/-- **a micro-step of `g` writes only loaders that belong to `g`** — never the shared environment loader, never a loader of
another goroutine -/
theorem defs_owned {c : Cfg} {gh : Ghost} (hc : CInv c) (hg : GInv c gh) {i : Nat} {g : GS} (hi : c.gs[i]? = some g)
    {l : LoaderId} (hl : l < c.w.nextLoader) (hne : gh.own l ≠ g.gid ∨ l = 0) : (c.step i).w.defs l = c.w.defs l := by
  rw [Cfg.step_w hi]
  apply stepG_defs g c.w l hl
  intro q cx k hk heq
  have := hg.head_of_run hc (List.mem_of_getElem? hi) (p := q) (cx := cx) (by rw [hk]; exact List.mem_cons_self ..) l heq.symm
  rcases hne with h | h
  · exact h this.1
  · exact absurd (h ▸ this.2) (by decide)

theorem GInv.chain_of_ctxOf {c : Cfg} {gh : Ghost} (hg : GInv c gh) {b : Gid} {j : CtxId} (hj : CtxOf c b j) :
    ∀ l ∈ (c.w.ctxs j).loader, OkFor gh b l := by
  rcases hj with hj | ⟨m, hm, hms, rfl, rfl⟩
  · exact hg.estChain b j hj
  · exact hg.unstChain m hm hms

/-- **isolation of definitions under arbitrary interleavings**: whatever goroutine `g` does in one micro-step, a context of a
goroutine `b` that does not descend from `g` keeps its state and every `Load` through it answers as before -/
theorem loads_isolated {c : Cfg} {gh : Ghost} (hc : CInv c) (hg : GInv c gh) {i : Nat} {g : GS} (hi : c.gs[i]? = some g)
    {b : Gid} {j : CtxId} (hj : CtxOf c b j) (hna : ¬ Anc gh.par g.gid b) (n : String) :
    (c.step i).w.ctxs j = c.w.ctxs j ∧
    loadEntry (c.step i).w.defs (c.w.ctxs j).loader n = loadEntry c.w.defs (c.w.ctxs j).loader n := by
  have hbg : b ≠ g.gid := fun h => hna (h ▸ Anc.refl _)
  refine ⟨by rw [Cfg.step_w hi]; exact hc.frame_of_ctxOf hi hj hbg, loadEntry_congr _ _ _ _ fun l hl => ?_⟩
  apply defs_owned hc hg hi (hg.chainLt j l hl)
  rcases hg.chain_of_ctxOf hj l hl with h0 | ha
  · exact Or.inr h0
  · exact Or.inl fun h => hna (h ▸ ha)

/-- … in particular for every goroutine older than `g`: its parent, its older siblings, their ancestors -/
theorem not_anc_of_lt {c : Cfg} {gh : Ghost} (hg : GInv c gh) {a b : Gid} (h : b < a) : ¬ Anc gh.par a b :=
  fun ha => absurd (Anc.le hg.parLe ha) (Nat.not_le.mpr h)

theorem ginv_init1 (p : Prog) : GInv ((Cfg.init p).step 0) (ghStep (Cfg.init p) 0 {}) := by
  rw [init_step0]
  have e2 : ghStep (Cfg.init p) 0 {} =
      { own := fun _ => 0, par := fun _ => 0 } := by
    simp [ghStep, Cfg.init, init_stepG]
    funext b; by_cases hb : b = 1 <;> simp [hb]
  rw [e2]
  have hch : ∀ i, ((note 0 0 (tlFresh 0 0 (newCtx { loader := [0] } ({} : World)).2)).ctxs i).loader = if i = 0 then [0] else [] := by
    intro i
    by_cases hi : i = 0 <;> simp [note, tlFresh, newCtx, hi]
  refine ⟨Nat.le_refl 1, ?_, ?_, ?_, ?_, ?_, ?_, ?_, ?_, ?_, ?_, ?_⟩
  · intro i hi
    have : i ≠ 0 := by have : 1 ≤ i := hi; omega
    simp only [hch, this, if_false]
  · intro i l hl
    simp only [hch] at hl
    by_cases hi : i = 0
    · simp [hi] at hl; subst hl; exact Nat.zero_lt_one
    · simp [hi] at hl
  · intro g hg cx l hf; simp at hg; subst hg; simp at hf
  · intro x; exact Nat.zero_lt_one
  · intro x; exact Nat.zero_le _
  · intro b i h
    have : (b, i) = (0, 0) := by simpa [note, tlFresh, newCtx] using h
    cases this; exact Nat.zero_lt_one
  · intro b i h l hl
    simp only [hch] at hl
    by_cases hi : i = 0
    · simp [hi] at hl; exact Or.inl hl
    · simp [hi] at hl
  · intro n hn hs; simp at hn; subst hn; simp at hs
  · intro n hn hs; simp at hn; subst hn; simp at hs
  · intro g hg _ q cx hf; simp at hg; subst hg; simp at hf
  · intro g hg cx l hf; simp at hg; subst hg; simp at hf

theorem reachG_inv {p : Prog} {c : Cfg} {gh : Ghost} (h : ReachG p c gh) :
    (c = Cfg.init p ∧ gh = {}) ∨ (CInv c ∧ GInv c gh) := by
  induction h with
  | init => exact Or.inl ⟨rfl, rfl⟩
  | @step c gh i hr ih =>
    rcases ih with ⟨hc, hgh⟩ | ⟨hc, hg⟩
    · subst hc; subst hgh
      cases i with
      | zero => exact Or.inr ⟨cinv_init1 p, ginv_init1 p⟩
      | succ i =>
        left
        refine ⟨init_step_succ p i, ?_⟩
        simp [ghStep, Cfg.init]
    · exact Or.inr ⟨cinv_step hc i, ginv_step hc hg i⟩

theorem ReachG.inv_of_ne {p : Prog} {c : Cfg} {gh : Ghost} (h : ReachG p c gh) (hn : c ≠ Cfg.init p) : CInv c ∧ GInv c gh :=
  (reachG_inv h).resolve_left fun h0 => hn h0.1

/-- a configuration in which some goroutine has a context is not the initial one -/
theorem ReachG.inv_of_ctxOf {p : Prog} {c : Cfg} {gh : Ghost} (h : ReachG p c gh) {b : Gid} {j : CtxId} (hj : CtxOf c b j) :
    CInv c ∧ GInv c gh :=
  h.inv_of_ne fun h0 => ctxOf_init (h0 ▸ hj)

/-- the decoration along a schedule of micro-steps -/
def ghSteps : List Nat → Cfg → Ghost → Ghost
  | [], _, gh => gh
  | i :: is, c, gh => ghSteps is (c.step i) (ghStep c i gh)

theorem reachG_steps {p : Prog} : ∀ (is : List Nat) {c : Cfg} {gh : Ghost}, ReachG p c gh →
    ReachG p (Cfg.steps is c) (ghSteps is c gh) := by
  intro is
  induction is with
  | nil => intro c gh h; exact h
  | cons i is ih => intro c gh h; exact ih (ReachG.step i h)

/-- every micro-step of the schedule is taken by a goroutine younger than `b` -/
def YoungerOnly (b : Gid) : List Nat → Cfg → Prop
  | [], _ => True
  | i :: is, c => (∀ g, c.gs[i]? = some g → b < g.gid) ∧ YoungerOnly b is (c.step i)

theorem ctxOf_step {c : Cfg} (hc : CInv c) {i : Nat} {b : Gid} {j : CtxId} (hj : CtxOf c b j)
    (hy : ∀ g, c.gs[i]? = some g → b < g.gid) : CtxOf (c.step i) b j := by
  cases hi : c.gs[i]? with
  | none => rw [Cfg.step_none hi]; exact hj
  | some g =>
    have sp := hc.spec hi
    have e := Cfg.step_some hi
    rcases hj with hj | ⟨m, hm, hms, hmg, hmc⟩
    · left; rw [e]; exact sp.estMono _ hj
    · right
      obtain ⟨k, hk⟩ := List.mem_iff_getElem?.1 hm
      have hki : k ≠ i := by
        intro h; subst h
        rw [hi] at hk
        have := Option.some.inj hk
        have hlt := hy g hi
        rw [this, hmg] at hlt
        exact Nat.lt_irrefl _ hlt
      refine ⟨m, ?_, hms, hmg, hmc⟩
      rw [e]
      exact List.mem_append_left _ (mem_set_of_ne hk hki)

theorem younger_steps_invisible {p : Prog} : ∀ (is : List Nat) {c : Cfg} {gh : Ghost}, ReachG p c gh →
    ∀ {b : Gid} {j : CtxId}, CtxOf c b j → YoungerOnly b is c → ∀ n : String,
    (Cfg.steps is c).w.ctxs j = c.w.ctxs j ∧
    loadEntry (Cfg.steps is c).w.defs (c.w.ctxs j).loader n = loadEntry c.w.defs (c.w.ctxs j).loader n := by
  intro is
  induction is with
  | nil => intro c gh _ b j _ _ n; exact ⟨rfl, rfl⟩
  | cons i is ih =>
    intro c gh h b j hj hy n
    obtain ⟨hc, hg⟩ := h.inv_of_ctxOf hj
    have hstep : (c.step i).w.ctxs j = c.w.ctxs j ∧
        loadEntry (c.step i).w.defs (c.w.ctxs j).loader n = loadEntry c.w.defs (c.w.ctxs j).loader n := by
      cases hi : c.gs[i]? with
      | none => rw [Cfg.step_none hi]; exact ⟨rfl, rfl⟩
      | some g => exact loads_isolated hc hg hi hj (not_anc_of_lt hg (hy.1 g hi)) n
    obtain ⟨r1, r2⟩ := ih (ReachG.step i h) (ctxOf_step hc hj hy.1) hy.2 n
    show (Cfg.steps is (c.step i)).w.ctxs j = _ ∧ loadEntry (Cfg.steps is (c.step i)).w.defs _ n = _
    rw [hstep.1] at r1 r2
    exact ⟨r1, r2.trans hstep.2⟩

/-- **whatever goroutines younger than `b` do — any number of micro-steps, in any order, interleaved in any way — the contexts of
`b` keep their state and every `Load` through them answers as before** -/
theorem younger_invisible {p : Prog} : ∀ (is : List Nat) {c : Cfg} {gh : Ghost}, ReachG p c gh → c ≠ Cfg.init p →
    ∀ {b : Gid} {j : CtxId}, CtxOf c b j → YoungerOnly b is c → ∀ n : String,
    (Cfg.steps is c).w.ctxs j = c.w.ctxs j ∧
    loadEntry (Cfg.steps is c).w.defs (c.w.ctxs j).loader n = loadEntry c.w.defs (c.w.ctxs j).loader n :=
  fun is _ _ h _ _ _ hj hy n => younger_steps_invisible is h hj hy n

end Pcore.Tls

import Pcore.Proofs.LatSoundMain
import Pcore.Proofs.LatReflAll
/-! C04: inferred types contain their values.  The second law directly for values whose detailed type is built without `commonType`
    (`dtype_structy`); the first law for any family of types on which `commonType` is a well-behaved upper bound (`InferFam`, `ptype_inst`:
    the fold invariant of `privateReducedType`, carried from element to element by C01); from it the second law and the side conditions of
    the detailed type (`dtype_fam_both`).  The families themselves are in LatFam / LatFamT.  Defines, each in front of the theorem that
    needs it, the predicates that the statements of C04 and C19 are written with: `Val.Leafy`, `Val.Structy`, `InferFam`, `Val.AllTyp`,
    `Val.NoEmptyKey`. -/
namespace Pcore.Lat
variable (cfg : Cfg) (sfh : Bool)

theorem dtypeL_eq_map (vs : List Val) : dtypeL cfg sfh vs = vs.map (dtype cfg sfh) := by
  induction vs with
  | nil => unfold dtypeL; rfl
  | cons v vs ih => unfold dtypeL; rw [ih, List.map_cons]

theorem dtypeM_eq_map (es : List (Val × Val)) :
    dtypeM cfg sfh es = es.map fun e => (keyName e.1, asg cfg sfh (dtype cfg sfh e.2) .undef, dtype cfg sfh e.2) := by
  induction es with
  | nil => unfold dtypeM; rfl
  | cons e es ih => obtain ⟨k, v⟩ := e; unfold dtypeM; rw [ih, List.map_cons]

theorem dtypeM_nodup (es : List (Val × Val)) (hn : KeysNodup es) (hk : ∀ e ∈ es, ∃ s, e.1 = .str s ∧ s ≠ "") :
    ((dtypeM cfg sfh es).map (·.1)).Nodup := by
  -- the name of a member is the string of its key, so a name occurs as often as that key
  rw [dtypeM_eq_map, List.map_map]
  refine List.nodup_iff_count.2 fun s => ?_
  rw [List.count, List.countP_map]
  refine Nat.le_trans (Nat.le_of_eq (List.countP_congr fun e he => ?_)) (hn s)
  obtain ⟨s', h', _⟩ := hk e he
  simp [keyIs, keyIsStr, keyName, h']

theorem dtype_strKeys (e0 : Val × Val) (es0 : List (Val × Val)) (hkeys : ∀ e ∈ e0 :: es0, ∃ s, e.1 = .str s ∧ s ≠ "") :
    dtype cfg sfh (.hash (e0 :: es0)) = .struct (dtypeM cfg sfh (e0 :: es0)) := by
  obtain ⟨k0, v0⟩ := e0
  have hallstr : ((k0, v0) :: es0).all (fun e => isStrKey e.1) = true := by
    simp only [List.all_eq_true]
    intro e he; obtain ⟨s, hs, _⟩ := hkeys e he; rw [hs]; rfl
  have hnoempty : ((k0, v0) :: es0).any (fun e => isEmptyStrKey e.1) = false := by
    cases hh : ((k0, v0) :: es0).any (fun e => isEmptyStrKey e.1) with
    | false => rfl
    | true =>
      simp only [List.any_eq_true] at hh
      obtain ⟨e, he, hk⟩ := hh
      obtain ⟨s, hs, hne⟩ := hkeys e he
      rw [hs] at hk; simp [isEmptyStrKey] at hk; exact absurd hk hne
  conv => lhs; unfold dtype
  simp only [hallstr, hnoempty, Bool.not_true, Bool.false_eq_true, if_false]

theorem dtype_array_cons (x : Val) (xs : List Val) : dtype cfg sfh (.array (x :: xs)) = .tuple (dtypeL cfg sfh (x :: xs)) none := by
  conv => lhs; unfold dtype
  conv => rhs; unfold dtypeL

/-- where `DetailedValueType` falls back to `PType()`: everything but an Array or a Hash keyed by strings only -/
theorem dtype_eq_ptype (v : Val) (h : match v with
    | .array _ => False | .hash es => es.all (fun e => isStrKey e.1) = false | _ => True) : dtype cfg sfh v = ptype cfg sfh v := by
  cases v with
  | array _ => exact absurd h id
  | hash es =>
    cases es with
    | nil => simp at h
    | cons e0 es0 => obtain ⟨k0, v0⟩ := e0; unfold dtype; simp [h]
  | _ => unfold dtype; rfl

/-- neither Array nor Hash (hereditarily through Sensitive); type values are well-formed (any type of the model: reflexivity holds for
    every well-formed type, `asg_refl_all`) -/
def Val.Leafy (cfg : Cfg) : Val → Prop
  | .array _ | .hash _ => False
  | .sensitive v => Val.Leafy cfg v
  | .typ t => Ty.WF cfg t
  | _ => True

theorem ptype_leafy (v : Val) (h : Val.Leafy cfg v) : inst cfg sfh (ptype cfg sfh v) v = true := by
  induction v using Val.ind with
  | sensitive v ih => unfold ptype; unfold inst; exact ih h
  | typ t =>
    unfold ptype; unfold inst
    exact asg_self cfg sfh t h
  | obj p => unfold ptype; unfold inst; simp [isPrefix_refl]
  | undef | dflt | binary _ => unfold ptype; unfold inst; rfl
  | bool _ | str _ | regexp _ => unfold ptype; unfold inst; simp
  | int _ | tspan _ | tstamp _ => unfold ptype; unfold inst; simp [Rng.contains]
  | float f => unfold ptype; unfold inst; simp; exact ⟨Fl.effLo_le f, Fl.le_effHi f⟩
  | array _ _ | hash _ _ _ => exact absurd h id

/-- values whose hashes are keyed by pairwise different non-empty strings, with Sensitive only around non-containers: the detailed
    type (Tuple of detailed types / Struct of detailed member types) is built without `commonType` -/
inductive Val.Structy (cfg : Cfg) (sfh : Bool) : Val → Prop
  | leaf (v) : Val.Leafy cfg v → Val.Structy cfg sfh v
  | known (v) : inst cfg sfh (dtype cfg sfh v) v = true → Val.Structy cfg sfh v   -- a sub-value for which the law is already established
  | array (vs) : (∀ x ∈ vs, Val.Structy cfg sfh x) → Val.Structy cfg sfh (.array vs)
  | hash (es : List (Val × Val)) : KeysNodup es → (∀ e ∈ es, ∃ s, e.1 = .str s ∧ s ≠ "") → (∀ e ∈ es, Val.Structy cfg sfh e.2) →
      Val.Structy cfg sfh (.hash es)

theorem dtype_structy (v : Val) : Val.Structy cfg sfh v → inst cfg sfh (dtype cfg sfh v) v = true := by
  induction v using Val.ind with
  | array vs ih =>
    intro hs
    cases hs with
    | leaf _ hl => exact absurd hl id
    | known _ hk => exact hk
    | array _ hall =>
      cases vs with
      | nil => unfold dtype; exact (inst_array_iff cfg sfh _ _ _).2 ⟨[], rfl, rfl, nofun⟩
      | cons x xs =>
        rw [dtype_array_cons, dtypeL_eq_map]
        refine (inst_tuple_iff cfg sfh _ _ _).2 ⟨_, rfl, by simp [tupleSize, Rng.exact, Rng.contains], ?_⟩
        intro i t y ht hy
        have hilt : i < (x :: xs).length := by
          rcases Nat.lt_or_ge i (x :: xs).length with h | h
          · exact h
          · rw [List.getElem?_eq_none h] at hy; cases hy
        have hmin : min i (((x :: xs).map (dtype cfg sfh)).length - 1) = i := by rw [List.length_map]; omega
        rw [hmin, List.getElem?_map, hy] at ht; cases ht
        have hym : y ∈ x :: xs := List.mem_of_getElem? hy
        exact ih y hym (hall y hym)
  | hash es _ ih =>
    intro hs
    cases hs with
    | leaf _ hl => exact absurd hl id
    | known _ hk => exact hk
    | hash _ hn hkeys hvals =>
      cases es with
      | nil => unfold dtype; exact (inst_hash_iff cfg sfh _ _ _ _).2 ⟨[], rfl, rfl, nofun⟩
      | cons e0 es0 =>
        rw [dtype_strKeys cfg sfh _ _ hkeys]
        have hnames := dtypeM_nodup cfg sfh _ hn hkeys
        refine (inst_struct_iff cfg sfh _ _).2 ⟨_, rfl, (instStruct_den cfg sfh _ _ hn hnames).2 ?_⟩
        rw [dtypeM_eq_map]
        constructor
        · intro e he
          obtain ⟨s, hs, _⟩ := hkeys e he
          exact ⟨_, List.mem_map_of_mem he, by rw [hs]; rfl, ih e he (hvals e he)⟩
        · intro m hm _
          obtain ⟨e, he, rfl⟩ := List.mem_map.1 hm
          obtain ⟨s, hs, _⟩ := hkeys e he
          exact ⟨e, he, by rw [hs]; rfl⟩
  | _ =>
    intro hs
    cases hs with
    | leaf _ hl => rw [dtype_eq_ptype cfg sfh _ trivial]; exact ptype_leafy cfg sfh _ hl
    | known _ hk => exact hk

/-- the constructors listed in `InferFam.leaf` (what `PType()` infers for a value that holds no other value and is not a type) meet the
    side conditions of C01, whatever their parameters -/
theorem good_leaf (t : Ty) (h : match t with
    | .undef | .dflt | .bin | .int _ | .float _ _ | .bool _ | .tspan _ | .tstamp _ | .strVal _ | .regexp _ | .object _ => True
    | _ => False) : Ty.Good cfg sfh t := by
  cases t <;> first
    | exact absurd h id
    | exact ⟨Ty.frag_of_fragLeaf rfl sfh, Ty.wf_of_fragLeaf rfl cfg, Ty.us_of_fragLeaf rfl⟩

/-- A family `G` of types (with `TV` the types admitted as type VALUES) on which `commonType` is a well-behaved upper bound — the
    obligation on `commonality.go` that the fold invariant of `PType()` needs: `G` lies within the side conditions of C01, is closed
    under `commonType`, `commonType` accepts both arguments, and `G` holds the inferred types of the leaves and is closed under the
    Array / Hash / Sensitive wrapping that `PType()` applies. -/
structure InferFam (cfg : Cfg) (sfh : Bool) (G TV : Ty → Prop) : Prop where
  good : ∀ t, G t → Ty.Good cfg sfh t
  closed : ∀ a b, G a → G b → G (commonType cfg sfh a b)
  left : ∀ a b, G a → G b → asg cfg sfh (commonType cfg sfh a b) a = true
  right : ∀ a b, G a → G b → asg cfg sfh (commonType cfg sfh a b) b = true
  leaf : G .undef ∧ G .dflt ∧ (∀ b, G (.bool (some b))) ∧ (∀ i, G (.int ⟨i, i⟩)) ∧ (∀ f, G (.float f f)) ∧ (∀ s, G (.strVal s)) ∧
    (∀ s, G (.regexp s)) ∧ G .bin ∧ (∀ n, G (.tspan ⟨n, n⟩)) ∧ (∀ p, G (.object (some p))) ∧ (∀ n, G (.tstamp ⟨n, n⟩))
  typv : ∀ t, TV t → G (.typ t) ∧ asg cfg sfh t t = true
  sens : ∀ t, G t → G (.sensitive t)
  arr0 : G (.array .unit ⟨0, 0⟩)
  arr : ∀ e r, G e → G (.array e r)
  hash0 : G (.hash .unit .unit ⟨0, 0⟩)
  hash : ∀ k v r, G k → G v → G (.hash k v r)

/-- every type used as a value inside `v` satisfies `TV` -/
inductive Val.AllTyp (TV : Ty → Prop) : Val → Prop
  | undef : Val.AllTyp TV .undef
  | dflt : Val.AllTyp TV .dflt
  | bool (b) : Val.AllTyp TV (.bool b)
  | int (i) : Val.AllTyp TV (.int i)
  | float (f) : Val.AllTyp TV (.float f)
  | str (s) : Val.AllTyp TV (.str s)
  | regexp (s) : Val.AllTyp TV (.regexp s)
  | binary (b) : Val.AllTyp TV (.binary b)
  | tspan (n) : Val.AllTyp TV (.tspan n)
  | typ (t) : TV t → Val.AllTyp TV (.typ t)
  | obj (p) : Val.AllTyp TV (.obj p)
  | sensitive (v) : Val.AllTyp TV v → Val.AllTyp TV (.sensitive v)
  | array (vs) : (∀ x ∈ vs, Val.AllTyp TV x) → Val.AllTyp TV (.array vs)
  | hash (es : List (Val × Val)) : (∀ e ∈ es, Val.AllTyp TV e.1) → (∀ e ∈ es, Val.AllTyp TV e.2) → Val.AllTyp TV (.hash es)

theorem Val.AllTyp.elems {TV : Ty → Prop} {vs : List Val} (h : Val.AllTyp TV (.array vs)) : ∀ x ∈ vs, Val.AllTyp TV x := by
  cases h with | array _ h => exact h
theorem Val.AllTyp.keys {TV : Ty → Prop} {es : List (Val × Val)} (h : Val.AllTyp TV (.hash es)) : ∀ e ∈ es, Val.AllTyp TV e.1 := by
  cases h with | hash _ h _ => exact h
theorem Val.AllTyp.vals {TV : Ty → Prop} {es : List (Val × Val)} (h : Val.AllTyp TV (.hash es)) : ∀ e ∈ es, Val.AllTyp TV e.2 := by
  cases h with | hash _ _ h => exact h
theorem Val.AllTyp.inner {TV : Ty → Prop} {v : Val} (h : Val.AllTyp TV (.sensitive v)) : Val.AllTyp TV v := by
  cases h with | sensitive _ h => exact h

theorem ptypeFoldK_eq (acc : Ty) (es : List (Val × Val)) :
    ptypeFoldK cfg sfh acc es = ptypeFold cfg sfh acc (es.map (·.1)) := by
  induction es generalizing acc with
  | nil => unfold ptypeFoldK ptypeFold; rfl
  | cons e es ih => obtain ⟨k, v⟩ := e; unfold ptypeFoldK; simp only [List.map_cons]; unfold ptypeFold; exact ih _

theorem ptypeFoldV_eq (acc : Ty) (es : List (Val × Val)) :
    ptypeFoldV cfg sfh acc es = ptypeFold cfg sfh acc (es.map (·.2)) := by
  induction es generalizing acc with
  | nil => unfold ptypeFoldV ptypeFold; rfl
  | cons e es ih => obtain ⟨k, v⟩ := e; unfold ptypeFoldV; simp only [List.map_cons]; unfold ptypeFold; exact ih _

/-- the fold invariant of `privateReducedType`: every element seen so far is an instance of the accumulator -/
theorem ptypeFold_inv (hl : LowerLen cfg) (G TV : Ty → Prop) (U : InferFam cfg sfh G TV) :
    ∀ (vs : List Val) (acc : Ty) (seen : List Val), G acc →
      (∀ x ∈ seen, inst cfg sfh acc x = true ∧ x.OK ∧ Val.TyOKS cfg sfh x) →
      (∀ x ∈ vs, inst cfg sfh (ptype cfg sfh x) x = true ∧ G (ptype cfg sfh x) ∧ x.OK ∧ Val.TyOKS cfg sfh x) →
      G (ptypeFold cfg sfh acc vs) ∧ ∀ x ∈ seen ++ vs, inst cfg sfh (ptypeFold cfg sfh acc vs) x = true := by
  intro vs
  induction vs with
  | nil =>
    intro acc seen hg hseen _
    unfold ptypeFold
    exact ⟨hg, fun x hx => (hseen x (by simpa using hx)).1⟩
  | cons v vs ih =>
    intro acc seen hg hseen hvs
    unfold ptypeFold
    obtain ⟨hv1, hv2, hv3, hv4⟩ := hvs v (by simp)
    have hg' := U.closed acc _ hg hv2
    have hl' := U.left acc _ hg hv2
    have hr' := U.right acc _ hg hv2
    have gA := U.good _ hg
    have gV := U.good _ hv2
    have gC := U.good _ hg'
    have := ih (commonType cfg sfh acc (ptype cfg sfh v)) (seen ++ [v]) hg'
      (by
        intro x hx
        simp only [List.mem_append, List.mem_singleton] at hx
        rcases hx with hx | rfl
        · obtain ⟨h1, h2, h3⟩ := hseen x hx
          exact ⟨sound cfg sfh hl (.of_good gC gA h2 h3) hl' h1, h2, h3⟩
        · exact ⟨sound cfg sfh hl (.of_good gC gV hv3 hv4) hr' hv1, hv3, hv4⟩)
      (fun x hx => hvs x (by simp [hx]))
    refine ⟨this.1, fun x hx => this.2 x ?_⟩
    simp only [List.mem_append, List.mem_cons] at hx
    rcases hx with hx | rfl | hx
    · simp [hx]
    · simp
    · simp [hx]

theorem ptypeFold_cons (hl : LowerLen cfg) (G TV : Ty → Prop) (U : InferFam cfg sfh G TV) (x : Val) (xs : List Val)
    (h : ∀ y ∈ x :: xs, inst cfg sfh (ptype cfg sfh y) y = true ∧ G (ptype cfg sfh y) ∧ y.OK ∧ Val.TyOKS cfg sfh y) :
    G (ptypeFold cfg sfh (ptype cfg sfh x) xs) ∧ ∀ y ∈ x :: xs, inst cfg sfh (ptypeFold cfg sfh (ptype cfg sfh x) xs) y = true := by
  obtain ⟨h1, h2, h3, h4⟩ := h x (by simp)
  exact ptypeFold_inv cfg sfh hl G TV U xs (ptype cfg sfh x) [x] h2
    (by intro y hy; simp at hy; subst hy; exact ⟨h1, h3, h4⟩) (fun y hy => h y (by simp [hy]))

/-- first law, given a family on which `commonType` is a well-behaved upper bound: by induction on the value, with the fold invariant -/
theorem ptype_inst (hl : LowerLen cfg) (G TV : Ty → Prop) (U : InferFam cfg sfh G TV) (v : Val) :
    v.OK → Val.TyOKS cfg sfh v → Val.AllTyp TV v → inst cfg sfh (ptype cfg sfh v) v = true ∧ G (ptype cfg sfh v) := by
  -- in the order of `InferFam.leaf`: undef dflt bool int float str regexp binary tspan obj(l10) tstamp(l11)
  obtain ⟨l1, l2, l3, l4, l5, l6, l7, l8, l9, l10, l11⟩ := U.leaf
  induction v using Val.ind with
  | undef => exact fun _ _ _ => ⟨ptype_leafy cfg sfh _ trivial, by unfold ptype; exact l1⟩
  | dflt => exact fun _ _ _ => ⟨ptype_leafy cfg sfh _ trivial, by unfold ptype; exact l2⟩
  | bool b => exact fun _ _ _ => ⟨ptype_leafy cfg sfh _ trivial, by unfold ptype; exact l3 b⟩
  | int i => exact fun _ _ _ => ⟨ptype_leafy cfg sfh _ trivial, by unfold ptype; exact l4 i⟩
  | float f => exact fun _ _ _ => ⟨ptype_leafy cfg sfh _ trivial, by unfold ptype; exact l5 f⟩
  | str s => exact fun _ _ _ => ⟨ptype_leafy cfg sfh _ trivial, by unfold ptype; exact l6 s⟩
  | regexp s => exact fun _ _ _ => ⟨ptype_leafy cfg sfh _ trivial, by unfold ptype; exact l7 s⟩
  | binary s => exact fun _ _ _ => ⟨ptype_leafy cfg sfh _ trivial, by unfold ptype; exact l8⟩
  | tspan s => exact fun _ _ _ => ⟨ptype_leafy cfg sfh _ trivial, by unfold ptype; exact l9 s⟩
  | tstamp s => exact fun _ _ _ => ⟨ptype_leafy cfg sfh _ trivial, by unfold ptype; exact l11 s⟩
  | obj p => exact fun _ _ _ => ⟨ptype_leafy cfg sfh _ trivial, by unfold ptype; exact l10 p⟩
  | typ t =>
    intro _ _ at'
    cases at' with
    | typ _ htv =>
      unfold ptype
      obtain ⟨h1, h2⟩ := U.typv t htv
      exact ⟨by unfold inst; exact h2, h1⟩
  | sensitive x ih =>
    intro ok tv at'
    obtain ⟨h1, h2⟩ := ih ok.inner tv.inner at'.inner
    unfold ptype
    exact ⟨(inst_sensitive_iff cfg sfh _ _).2 ⟨x, rfl, h1⟩, U.sens _ h2⟩
  | array vs ih =>
    intro ok tv at'
    cases vs with
    | nil => unfold ptype; exact ⟨(inst_array_iff cfg sfh _ _ _).2 ⟨[], rfl, rfl, nofun⟩, U.arr0⟩
    | cons x xs =>
      obtain ⟨g, hi⟩ := ptypeFold_cons cfg sfh hl G TV U x xs (fun y hy =>
        have p := ih y hy (ok.elems y hy) (tv.elems y hy) (at'.elems y hy)
        ⟨p.1, p.2, ok.elems y hy, tv.elems y hy⟩)
      unfold ptype
      exact ⟨(inst_array_iff cfg sfh _ _ _).2 ⟨_, rfl, by simp [Rng.exact, Rng.contains], hi⟩, U.arr _ _ g⟩
  | hash es ihk ihv =>
    intro ok tv at'
    cases es with
    | nil => unfold ptype; exact ⟨(inst_hash_iff cfg sfh _ _ _ _).2 ⟨[], rfl, rfl, nofun⟩, U.hash0⟩
    | cons e0 es0 =>
      obtain ⟨k0, v0⟩ := e0
      obtain ⟨gk, ik⟩ := ptypeFold_cons cfg sfh hl G TV U k0 (es0.map Prod.fst) (fun y hy => by
        obtain ⟨e, he, rfl⟩ := List.mem_map.1 (show y ∈ ((k0, v0) :: es0).map Prod.fst from hy)
        have p := ihk e he (ok.keys e he) (tv.keys e he) (at'.keys e he)
        exact ⟨p.1, p.2, ok.keys e he, tv.keys e he⟩)
      obtain ⟨gv, iv⟩ := ptypeFold_cons cfg sfh hl G TV U v0 (es0.map Prod.snd) (fun y hy => by
        obtain ⟨e, he, rfl⟩ := List.mem_map.1 (show y ∈ ((k0, v0) :: es0).map Prod.snd from hy)
        have p := ihv e he (ok.vals e he) (tv.vals e he) (at'.vals e he)
        exact ⟨p.1, p.2, ok.vals e he, tv.vals e he⟩)
      unfold ptype
      rw [ptypeFoldK_eq, ptypeFoldV_eq]
      exact ⟨(inst_hash_iff cfg sfh _ _ _ _).2 ⟨_, rfl, by simp [Rng.exact, Rng.contains],
        fun e he => ⟨ik e.1 (List.mem_map_of_mem he), iv e.2 (List.mem_map_of_mem he)⟩⟩, U.hash _ _ _ gk gv⟩

/-- no hash inside the value is keyed by strings only with the empty string among them (the one shape whose detailed type is a
    `commonType` fold over DETAILED types) -/
inductive Val.NoEmptyKey : Val → Prop
  | leaf (v) : (match v with | .array _ | .hash _ | .sensitive _ => False | _ => True) → Val.NoEmptyKey v
  | sensitive (v) : Val.NoEmptyKey (.sensitive v)
  | array (vs) : (∀ x ∈ vs, Val.NoEmptyKey x) → Val.NoEmptyKey (.array vs)
  | hashAny (es : List (Val × Val)) : (es.all (fun e => isStrKey e.1) = false) → Val.NoEmptyKey (.hash es)
  | hashStr (es : List (Val × Val)) : (∀ e ∈ es, ∃ s, e.1 = .str s ∧ s ≠ "") → (∀ e ∈ es, Val.NoEmptyKey e.2) → Val.NoEmptyKey (.hash es)

/-- SECOND LAW of C04, given a family on which `commonType` is a well-behaved upper bound (so that the first law `ptype_inst` holds):
    `DetailedValueType` is the Tuple / Struct of the detailed types of the parts, and `PType()` everywhere else.  With the rule off the
    detailed type also meets the side conditions of C01 (it may hold Structs). -/
theorem dtype_fam_both (hl : LowerLen cfg) (G TV : Ty → Prop) (U : InferFam cfg sfh G TV) (v : Val) :
    v.OK → Val.TyOKS cfg sfh v → Val.AllTyp TV v → Val.NoEmptyKey v →
      Val.Structy cfg sfh v ∧ (sfh = false → Ty.Good cfg sfh (dtype cfg sfh v)) := by
  have viaP : ∀ v : Val, v.OK → Val.TyOKS cfg sfh v → Val.AllTyp TV v → dtype cfg sfh v = ptype cfg sfh v →
      Val.Structy cfg sfh v ∧ (sfh = false → Ty.Good cfg sfh (dtype cfg sfh v)) := fun v ok tv nt he => by
    have p := ptype_inst cfg sfh hl G TV U v ok tv nt
    rw [he]; exact ⟨Val.Structy.known v (by rw [he]; exact p.1), fun _ => U.good _ p.2⟩
  induction v using Val.ind with
  | array vs ih =>
    intro ok tv nt ne
    cases ne with
    | leaf _ hlf => exact absurd hlf id
    | array _ hall =>
      have hel := fun x hx => ih x hx (ok.elems x hx) (tv.elems x hx) (nt.elems x hx) (hall x hx)
      refine ⟨Val.Structy.array vs (fun x hx => (hel x hx).1), fun hs => ?_⟩
      cases vs with
      | nil => unfold dtype; exact U.good _ U.arr0
      | cons x xs =>
        rw [dtype_array_cons, dtypeL_eq_map]
        exact Ty.Good.tuple fun t ht => by obtain ⟨y, hy, rfl⟩ := List.mem_map.1 ht; exact (hel y hy).2 hs
  | hash es _ ih =>
    intro ok tv nt ne
    cases ne with
    | leaf _ hlf => exact absurd hlf id
    | hashAny _ hany => exact viaP _ ok tv nt (dtype_eq_ptype cfg sfh _ hany)
    | hashStr _ hkeys hvals =>
      have hel := fun e he => ih e he (ok.vals e he) (tv.vals e he) (nt.vals e he) (hvals e he)
      refine ⟨Val.Structy.hash es ok.nodup hkeys (fun e he => (hel e he).1), fun hs => ?_⟩
      cases es with
      | nil => unfold dtype; exact U.good _ U.hash0
      | cons e0 es0 =>
        rw [dtype_strKeys cfg sfh _ _ hkeys]
        refine Ty.Good.struct hs (dtypeM_nodup cfg sfh _ ok.nodup hkeys) fun m hm => ?_
        rw [dtypeM_eq_map] at hm
        obtain ⟨e, he, rfl⟩ := List.mem_map.1 hm
        exact (hel e he).2 hs
  | _ => exact fun ok tv nt _ => viaP _ ok tv nt (dtype_eq_ptype cfg sfh _ trivial)

end Pcore.Lat

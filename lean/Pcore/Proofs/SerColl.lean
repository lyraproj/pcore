import Pcore.Proofs.SerRefs
import Pcore.Proofs.SerTrip
/-! C10, the collector (the inversion lemmas of `collect` are in `SerWf`).  (a) `collect_rel`: feeding a stream whose
    references resolve (`expand`) builds, position by position, the Data the resolved stream denotes (`dataOf`).
    (b) `collect_cons`: the identities the collector hands out are consistent — a container identity names one slot of
    `values`, and every copy made by AddRef is that slot's value.  (c) `Sim`, `toData_sim`: writer and collector in one
    relation, the simulation step the round trip is read off; only this part needs the writer's file `SerRefs`. -/
namespace Pcore.Ser

structure Rel (vals : List Slot) (env : List (Option Ev)) : Prop where
  len : vals.length = env.length
  op : ∀ p : Nat, env[p]? = some none → vals[p]? = some Slot.opened
  dn : ∀ (p : Nat) (x : Ev), env[p]? = some (some x) → ∃ d : V, vals[p]? = some (Slot.done d) ∧ dataOf x = some d.abs

theorem Rel.init : Rel [] [] := ⟨rfl, fun p h => by simp at h, fun p x h => by simp at h⟩

theorem Rel.snoc {vals : List Slot} {env : List (Option Ev)} (h : Rel vals env) (s : Slot) (o : Option Ev)
    (ho : o = none → s = .opened) (hd : ∀ x, o = some x → ∃ d, s = .done d ∧ dataOf x = some d.abs) :
    Rel (vals ++ [s]) (env ++ [o]) := by
  refine ⟨by simp [h.len], fun p hp => ?_, fun p x hp => ?_⟩
  · rcases getElem?_snoc_eq_some hp with hp | ⟨rfl, rfl⟩
    · exact getElem?_snoc_of_some (h.op p hp) s
    · rw [← h.len, ho rfl, List.getElem?_concat_length]
  · rcases getElem?_snoc_eq_some hp with hp | ⟨rfl, rfl⟩
    · obtain ⟨d, h1, h2⟩ := h.dn p x hp; exact ⟨d, getElem?_snoc_of_some h1 s, h2⟩
    · obtain ⟨d, rfl, h2⟩ := hd x rfl; exact ⟨d, by rw [← h.len, List.getElem?_concat_length], h2⟩

theorem Rel.push_open {vals : List Slot} {env : List (Option Ev)} (h : Rel vals env) :
    Rel (vals ++ [Slot.opened]) (env ++ [none]) :=
  h.snoc _ _ (fun _ => rfl) (fun _ h => by cases h)

theorem Rel.push_done {vals : List Slot} {env : List (Option Ev)} (h : Rel vals env) (d : V) (x : Ev)
    (hx : dataOf x = some d.abs) : Rel (vals ++ [.done d]) (env ++ [some x]) :=
  h.snoc _ _ (fun h => by cases h) (fun _ h => by cases h; exact ⟨d, rfl, hx⟩)

theorem Rel.close {vals vals1 : List Slot} {env env1 : List (Option Ev)} (h : Rel vals env) (h1 : Rel vals1 env1)
    {es : List Ev} {kids : List V} (hc : collectList es (vals ++ [Slot.opened]) = .ok (kids, vals1))
    (d : V) (x : Ev) (hx : dataOf x = some d.abs) :
    Rel (vals1.set vals.length (Slot.done d)) (env1.set env.length (some x)) := by
  have hn : vals.length < vals1.length := by rw [collectList_len es _ _ _ hc]; simp; omega
  rw [← h.len]
  refine ⟨by simp [h1.len], fun p hp => ?_, fun p y hp => ?_⟩
  · rcases getElem?_set_cases hp with ⟨_, h0⟩ | ⟨hne, hp⟩
    · cases h0
    · rw [List.getElem?_set_ne (Ne.symm hne)]; exact h1.op p hp
  · rcases getElem?_set_cases hp with ⟨rfl, h0⟩ | ⟨hne, hp⟩
    · cases h0; exact ⟨d, List.getElem?_set_self hn, hx⟩
    · rw [List.getElem?_set_ne (Ne.symm hne)]; exact h1.dn p y hp

theorem ofSc_abs (d : Sc) : (ofSc d).abs = scD d := by cases d <;> rfl

theorem pairUp_abs : ∀ (kids : List V) (ps : List (D × D)), pairUpD (absList kids) = some ps →
    ∃ kps, pairUp kids = some kps ∧ absPairs kps = ps
  | [], ps, h => by cases h; exact ⟨[], rfl, rfl⟩
  | [_], ps, h => by cases h
  | k :: v :: rest, ps, h => by
      simp only [absList, pairUpD, Option.map_eq_some_iff] at h
      obtain ⟨ps', h1, rfl⟩ := h
      obtain ⟨kps, h3, rfl⟩ := pairUp_abs rest ps' h1
      exact ⟨(k, v) :: kps, by simp only [pairUp, h3, Option.map_some], rfl⟩

mutual
theorem collect_rel : ∀ (e : Ev) (env : List (Option Ev)) (x : Ev) (env' : List (Option Ev)) (vals : List Slot) (a : D),
    expand e env = some (x, env') → Rel vals env → dataOf x = some a →
      ∃ d vals', collect e vals = .ok (d, vals') ∧ d.abs = a ∧ Rel vals' env'
  | .add s, env, x, env', vals, a, he, hR, hx => by
      cases he; cases hx
      exact ⟨ofSc s, _, rfl, ofSc_abs s, hR.push_done _ _ (congrArg some (ofSc_abs s).symm)⟩
  | .ref n, env, x, env', vals, a, he, hR, hx => by
      simp only [expand] at he
      split at he
      · rename_i y hy
        cases he
        obtain ⟨d, hd1, hd2⟩ := hR.dn n _ hy
        refine ⟨d, vals, by simp only [collect, hd1], ?_, hR⟩
        rw [hx] at hd2; cases hd2; rfl
      · cases he
  | .arr es, env, x, env', vals, a, he, hR, hx => by
      simp only [expand] at he
      split at he
      · cases he
      · rename_i xs env1 hl
        cases he
        simp only [dataOf, Option.map_eq_some_iff] at hx
        obtain ⟨as, ha1, rfl⟩ := hx
        obtain ⟨kids, vals1, hc, rfl, hR1⟩ := collectList_rel es _ xs env1 (vals ++ [Slot.opened]) as hl hR.push_open ha1
        exact ⟨.arr vals.length kids, vals1.set vals.length (.done (.arr vals.length kids)), by simp only [collect, hc], rfl,
          hR.close hR1 hc _ _ (by simp only [dataOf, ha1, Option.map_some, V.abs])⟩
  | .hsh es, env, x, env', vals, a, he, hR, hx => by
      simp only [expand] at he
      split at he
      · cases he
      · rename_i xs env1 hl
        cases he
        simp only [dataOf, Option.bind_eq_some_iff, Option.map_eq_some_iff] at hx
        obtain ⟨as, ha1, ps, ha2, rfl⟩ := hx
        obtain ⟨kids, vals1, hc, rfl, hR1⟩ := collectList_rel es _ xs env1 (vals ++ [Slot.opened]) as hl hR.push_open ha1
        obtain ⟨kps, hp1, rfl⟩ := pairUp_abs kids ps ha2
        exact ⟨.hash vals.length kps, vals1.set vals.length (.done (.hash vals.length kps)), by simp only [collect, hc, hp1],
          rfl, hR.close hR1 hc _ _ (by simp only [dataOf, ha1, ha2, Option.bind_some, Option.map_some, V.abs])⟩
theorem collectList_rel : ∀ (es : List Ev) (env : List (Option Ev)) (xs : List Ev) (env' : List (Option Ev))
    (vals : List Slot) (as : List D),
    expandList es env = some (xs, env') → Rel vals env → dataOfList xs = some as →
      ∃ ds vals', collectList es vals = .ok (ds, vals') ∧ absList ds = as ∧ Rel vals' env'
  | [], env, xs, env', vals, as, he, hR, hx => by
      cases he; cases hx
      exact ⟨[], vals, rfl, rfl, hR⟩
  | e :: es, env, xs, env', vals, as, he, hR, hx => by
      simp only [expandList] at he
      split at he
      · cases he
      · rename_i x env1 h1
        split at he
        · cases he
        · rename_i xs' env2 h2
          cases he
          simp only [dataOfList, Option.bind_eq_some_iff, Option.map_eq_some_iff] at hx
          obtain ⟨a, ha, as', has, rfl⟩ := hx
          obtain ⟨d, vals1, hc1, rfl, hR1⟩ := collect_rel e env x env1 vals a h1 hR ha
          obtain ⟨ds, vals2, hc2, rfl, hR2⟩ := collectList_rel es env1 xs' _ vals1 as' h2 hR1 has
          exact ⟨d :: ds, vals2, by simp only [collectList, hc1, hc2], rfl, hR2⟩
end

/-! ### (b) identities: every container identity names the slot that holds that container -/

def Gof (vals : List Slot) (i : Nat) : Option D :=
  match vals[i]? with
  | some (Slot.done t) => some t.abs
  | _ => none

mutual
def Cons (G : Nat → Option D) : V → Prop
  | .arr id vs => G id = some (V.arr id vs).abs ∧ ConsList G vs
  | .hash id es => G id = some (V.hash id es).abs ∧ ConsPairs G es
  | .sens _ v => Cons G v
  | _ => True
def ConsList (G : Nat → Option D) : List V → Prop
  | [] => True | v :: vs => Cons G v ∧ ConsList G vs
def ConsPairs (G : Nat → Option D) : List (V × V) → Prop
  | [] => True | (k, v) :: es => Cons G k ∧ Cons G v ∧ ConsPairs G es
end

mutual
theorem Cons.mono {G G' : Nat → Option D} (h : ∀ i a, G i = some a → G' i = some a) : ∀ (t : V), Cons G t → Cons G' t
  | .arr _ vs, hc => ⟨h _ _ hc.1, ConsList.mono h vs hc.2⟩
  | .hash _ es, hc => ⟨h _ _ hc.1, ConsPairs.mono h es hc.2⟩
  | .sens _ v, hc => Cons.mono h v hc
  | .undef, _ | .dflt, _ | .bool _, _ | .int _, _ | .flt _, _ | .str _, _ | .bin _ _, _ | .leaf _ _ _ _, _
  | .obj _ _ _ _, _ => trivial
theorem ConsList.mono {G G' : Nat → Option D} (h : ∀ i a, G i = some a → G' i = some a) :
    ∀ (ts : List V), ConsList G ts → ConsList G' ts
  | [], _ => trivial
  | t :: ts, hc => ⟨Cons.mono h t hc.1, ConsList.mono h ts hc.2⟩
theorem ConsPairs.mono {G G' : Nat → Option D} (h : ∀ i a, G i = some a → G' i = some a) :
    ∀ (es : List (V × V)), ConsPairs G es → ConsPairs G' es
  | [], _ => trivial
  | (k, v) :: es, hc => ⟨Cons.mono h k hc.1, Cons.mono h v hc.2.1, ConsPairs.mono h es hc.2.2⟩
end

theorem consList_pairUp {G : Nat → Option D} : ∀ (kids : List V) (kps : List (V × V)), pairUp kids = some kps →
    ConsList G kids → ConsPairs G kps
  | [], kps, h, _ => by cases h; trivial
  | [_], kps, h, _ => by cases h
  | k :: v :: rest, kps, h, hc => by
      simp only [pairUp, Option.map_eq_some_iff] at h
      obtain ⟨kps', h1, rfl⟩ := h
      exact ⟨hc.1, hc.2.1, consList_pairUp rest kps' h1 hc.2.2⟩

def CInv (vals : List Slot) : Prop := ∀ (p : Nat) (t : V), vals[p]? = some (Slot.done t) → Cons (Gof vals) t

theorem CInv.init : CInv [] := fun p t h => by simp at h

def Keep (vals vals' : List Slot) : Prop :=
  vals.length ≤ vals'.length ∧ ∀ p : Nat, p < vals.length → vals'[p]? = vals[p]?

theorem Keep.refl (vals : List Slot) : Keep vals vals := grows_iff_prefix.2 (List.prefix_refl _)
theorem Keep.trans {a b c : List Slot} (h1 : Keep a b) (h2 : Keep b c) : Keep a c :=
  grows_iff_prefix.2 ((grows_iff_prefix.1 h1).trans (grows_iff_prefix.1 h2))
theorem Keep.push (vals : List Slot) (s : Slot) : Keep vals (vals ++ [s]) := grows_iff_prefix.2 (List.prefix_append _ _)

theorem Keep.gof {vals vals' : List Slot} (h : Keep vals vals') : ∀ i a, Gof vals i = some a → Gof vals' i = some a := by
  intro i a hg
  unfold Gof at hg ⊢
  rcases Nat.lt_or_ge i vals.length with hi | hi
  · rw [h.2 i hi]; exact hg
  · rw [List.getElem?_eq_none hi] at hg; cases hg

theorem CInv.snoc {vals : List Slot} (h : CInv vals) (s : Slot) (hs : ∀ t, s = .done t → ∀ G, Cons G t) :
    CInv (vals ++ [s]) := by
  intro p t hp
  rcases getElem?_snoc_eq_some hp with hp | ⟨_, rfl⟩
  · exact Cons.mono (Keep.push vals s).gof t (h p t hp)
  · exact hs t rfl _

/-- filling the slot opened at position `vals.length` with a node `t` that is consistent as soon as its own identity
    is in the table: nothing else changes, the table only grows -/
theorem CInv.close {vals vals1 : List Slot} {t : V} (h1 : CInv vals1) (hK : Keep (vals ++ [Slot.opened]) vals1)
    (ht : ∀ G, (∀ i a, Gof vals1 i = some a → G i = some a) → G vals.length = some t.abs → Cons G t) :
    CInv (vals1.set vals.length (.done t)) ∧ Cons (Gof (vals1.set vals.length (.done t))) t ∧
      Keep vals (vals1.set vals.length (.done t)) := by
  obtain ⟨ho, hfill, hkeep⟩ := grows_close hK (.done t)
  have hmono : ∀ i a, Gof vals1 i = some a → Gof (vals1.set vals.length (.done t)) i = some a := by
    intro i a hg
    unfold Gof at hg ⊢
    by_cases hi : vals.length = i
    · subst hi; rw [ho] at hg; cases hg
    · rw [List.getElem?_set_ne hi]; exact hg
  have hself := ht _ hmono (by simp only [Gof, hfill])
  refine ⟨fun p t' hp => ?_, hself, hkeep⟩
  rcases getElem?_set_cases hp with ⟨_, h0⟩ | ⟨_, hp⟩
  · cases h0; exact hself
  · exact Cons.mono hmono t' (h1 p t' hp)

mutual
theorem collect_cons : ∀ (e : Ev) (vals : List Slot) (d : V) (vals' : List Slot),
    collect e vals = .ok (d, vals') → CInv vals → CInv vals' ∧ Cons (Gof vals') d ∧ Keep vals vals'
  | .add s, vals, d, vals', h, hI => by
      cases h
      have hs : ∀ G, Cons G (ofSc s) := fun G => by cases s <;> trivial
      exact ⟨hI.snoc _ (fun t ht => by cases ht; exact hs), hs _, Keep.push ..⟩
  | .ref n, vals, d, vals', h, hI => by
      obtain ⟨hv, rfl⟩ := collect_ref_ok h
      exact ⟨hI, hI n _ hv, Keep.refl _⟩
  | .arr es, vals, d, vals', h, hI => by
      obtain ⟨kids, vals1, hc, rfl, rfl⟩ := collect_arr_ok h
      obtain ⟨hI1, hk, hK⟩ := collectList_cons es _ kids vals1 hc (hI.snoc _ (fun _ h => by cases h))
      exact hI1.close hK fun G hm hg => ⟨hg, ConsList.mono hm kids hk⟩
  | .hsh es, vals, d, vals', h, hI => by
      obtain ⟨kids, vals1, ps, hc, hp, rfl, rfl⟩ := collect_hsh_ok h
      obtain ⟨hI1, hk, hK⟩ := collectList_cons es _ kids vals1 hc (hI.snoc _ (fun _ h => by cases h))
      exact hI1.close hK fun G hm hg => ⟨hg, ConsPairs.mono hm ps (consList_pairUp kids ps hp hk)⟩
theorem collectList_cons : ∀ (es : List Ev) (vals : List Slot) (ds : List V) (vals' : List Slot),
    collectList es vals = .ok (ds, vals') → CInv vals → CInv vals' ∧ ConsList (Gof vals') ds ∧ Keep vals vals'
  | [], vals, ds, vals', h, hI => by
      cases h
      exact ⟨hI, trivial, Keep.refl _⟩
  | e :: es, vals, ds, vals', h, hI => by
      obtain ⟨v, vals1, vs, hc, hc2, rfl⟩ := collectList_cons_ok h
      obtain ⟨hI1, hv, hK1⟩ := collect_cons e vals v vals1 hc hI
      obtain ⟨hI2, hvs, hK2⟩ := collectList_cons es vals1 vs vals' hc2 hI1
      exact ⟨hI2, ⟨Cons.mono hK2.gof v hv, hvs⟩, hK1.trans hK2⟩
end

/-! ### (c) writer and collector in one relation -/

/-- The one relation between the two ends of a `Convert`: the writer's state and the reader's table describe the same
    list of resolved positions `env` — the writer's map names positions of it (`Inv`), the reader's slots hold their Data
    (`Rel`).  In particular `st.ref = env.length = vals.length`. -/
structure Sim (F : Key → Ev) (st : St) (env : List (Option Ev)) (vals : List Slot) : Prop where
  inv : Inv F st env
  rel : Rel vals env

theorem Sim.init (F : Key → Ev) : Sim F St.init [] [] := ⟨Inv.init F, Rel.init⟩

theorem toData_sim (c : Cfg) {F : Key → Ev} (hF : FStr F) (level : Nat) {v : V} {st : St} {env : List (Option Ev)}
    {vals : List Slot} (hS : Sim F st env vals) (hC : Coh c F v) {a : D} (ha : dataOf (plain c v) = some a) :
    ∃ env' d vals', collect (toData c level v st).1 vals = .ok (d, vals') ∧ d.abs = a ∧
      Sim F (toData c level v st).2 env' vals' := by
  obtain ⟨env', he, hI, _⟩ := toData_step c F hF level v st env hS.inv hC
  obtain ⟨d, vals', hc, hd, hR⟩ := collect_rel _ env _ env' vals a he hS.rel ha
  exact ⟨env', d, vals', hc, hd, hI, hR⟩

end Pcore.Ser

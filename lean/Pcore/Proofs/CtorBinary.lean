import Pcore.Proofs.DispatchCtors
import Pcore.Proofs.SerB64
import Pcore.Model.CtorBinary
/-!
The Binary constructor (Model/CtorBinary.lean): no fault arm is reachable; the strict base64 text of a byte string and the
byte array of a byte string decode to that byte string; which of its dispatches runs.  Core Lean only.
-/
namespace Pcore.Dispatch.Alpha

theorem binaryFromString_no_fault (s f : String) : binaryFromString s f ≠ .fault := by
  unfold binaryFromString
  simp only
  split
  · split <;> simp
  · split
    · split <;> simp
    · split
      · split <;> simp
      · split <;> simp

theorem binary_no_fault (args : List Val) : ctorCall binaryCtor args ≠ .fault := by
  refine ctorCall_no_fault _ ⟨_, rfl⟩ args fun i cr hcr h => ?_
  match i, hcr with
  | 0, hcr =>
    cases hcr
    obtain ⟨a0, rest, rfl, h0, hr⟩ := h.req
    obtain ⟨s, rfl, -⟩ := inst_str.mp h0
    rcases hr.opt with rfl | ⟨a1, _, rfl, h1, -⟩
    · exact binaryFromString_no_fault s "%B"
    · obtain ⟨f, rfl, -⟩ := inst_enum.mp h1
      exact binaryFromString_no_fault s f
  | 1, hcr =>
    cases hcr
    obtain ⟨a0, rest, rfl, h0, -⟩ := h.req
    cases a0 <;> simp [byteArrayTy, inst] at h0
    simp only [binaryCtor]
    split <;> simp
  | 2, hcr =>
    cases hcr
    obtain ⟨a0, rest, rfl, h0, -⟩ := h.req
    obtain ⟨es, rfl, -, hm⟩ := inst_struct _ (by decide) a0 h0
    obtain ⟨x, hx, hix⟩ := named_value (name := "value") (t := .str 0 none) hm (by simp)
    obtain ⟨s, rfl, -⟩ := inst_str.mp hix
    simp only [binaryCtor, hx, Option.getD_some, strOf]
    rcases hm ("format", true, .opt encodingTy) (by simp) with ⟨y, hy, hiy⟩ | ⟨_, hy⟩
    · -- an optional Encoding is a string or undef, whose `String()` is "undef"
      rw [hy]
      cases y <;> simp [encodingTy, inst] at hiy <;> exact binaryFromString_no_fault s _
    · rw [hy]
      exact binaryFromString_no_fault s "undef"
  | 3, hcr =>
    cases hcr
    obtain ⟨a0, rest, rfl, h0, -⟩ := h.req
    obtain ⟨es, rfl, -, -⟩ := inst_struct _ (by decide) a0 h0
    simp only [binaryCtor]
    split <;> simp
  | n + 4, hcr => cases hcr

open Pcore.Ser

theorem stripNL_b64Chars (bs : List UInt8) : stripNL (b64Chars bs) = b64Chars bs :=
  List.filter_eq_self.mpr <| b64Chars_forall (by decide)
    (fun n => Bool.and_eq_true_iff.mpr
      ⟨bne_iff_ne.mpr (b64Char_ne_of_val (by decide) n), bne_iff_ne.mpr (b64Char_ne_of_val (by decide) n)⟩) bs

/-- the strict base64 text of a byte string decodes to that byte string (the round trip of the serialization model's codec,
    `unb64Chars_b64Chars`, carried through the newline filter) -/
theorem binaryFromString_b64 (bs : List UInt8) : binaryFromString (b64 bs) "%B" = .value (.binary bs) := by
  simp [binaryFromString, b64, stripNL_b64Chars, unb64Chars_b64Chars]

theorem binaryFromList_bytes (bs : List UInt8) : binaryFromList (bs.map fun b => .int b.toNat) = some bs := by
  induction bs with
  | nil => rfl
  | cons b bs ih =>
    have h1 : (0 : Int) ≤ (b.toNat : Int) := Int.natCast_nonneg _
    have h2 : (b.toNat : Int) ≤ 255 := by have := b.toNat_lt; omega
    simp [binaryFromList, ih, h1, h2]

/-- which dispatch of the Binary constructor runs: the tuple tests of its table as the builder resolves it, from the front -/
theorem binary_run (args : List Val) :
    run inst binst binaryCtor.creators args (none : Option Blk) = .called (
      if tupleInst inst [.str 0 none, encodingTy] 1 (some 2) args then .ran 0
      else if tupleInst inst [byteArrayTy] 1 (some 1) args then .ran 1
      else if tupleInst inst [stringHashTy] 1 (some 1) args then .ran 2
      else if tupleInst inst [arrayHashTy] 1 (some 1) args then .ran 3
      else .reported) := by
  rw [run_built inst binst (cs := binaryCtor.creators) (ds :=
    [⟨[.str 0 none, encodingTy], 1, some 2, .none⟩, ⟨[byteArrayTy], 1, some 1, .none⟩,
     ⟨[stringHashTy], 1, some 1, .none⟩, ⟨[arrayHashTy], 1, some 1, .none⟩]) rfl rfl]
  simp only [call, callFrom, callableWith_noBlock]

theorem byteArray_inst (bs : List UInt8) : inst byteArrayTy (.arr (bs.map fun b => .int b.toNat)) = true := by
  simp only [byteArrayTy, inst, leMax, Bool.and_true, List.all_eq_true, Nat.zero_le, decide_true, Bool.true_and]
  intro x hx
  obtain ⟨b, _, rfl⟩ := List.mem_map.mp hx
  have h2 : (b.toNat : Int) ≤ 255 := by have := b.toNat_lt; omega
  simp [inRange, h2]

theorem binary_run_hash (es : List (Val × Val)) :
    run inst binst binaryCtor.creators [.hash es] (none : Option Blk) =
      .called (if inst stringHashTy (.hash es) then .ran 2 else if inst arrayHashTy (.hash es) then .ran 3 else .reported) := by
  rw [binary_run]
  simp [tupleInst, sizeOK, instLoop, leMax]
  simp [inst, byteArrayTy]

end Pcore.Dispatch.Alpha

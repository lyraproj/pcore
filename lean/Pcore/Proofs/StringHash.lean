import Pcore.Model.CollSpec
import Pcore.Proofs.GoMap
import Pcore.Proofs.OMap
/-!
`hash.StringHash`: the invariant (index = positions, keys unique), its preservation by every operation (the re-numbering
of `Delete` is the one with content), and the refinement of every operation to the specification `stepSpec`; before that,
what a frozen hash answers; at the end, `Equals` as the comparison of all lookups.
-/
namespace Pcore.Coll
open OMap

variable {β : Type}

/-- the index answers exactly the position of every key, and no key occurs twice -/
def SInv (h : SH β) : Prop :=
  (keys id h.entries).Nodup ∧ ∀ k, GoMap.get h.index k = idx id h.entries k

def SH.abs (h : SH β) : SSpec β := ⟨h.entries, h.frozen⟩

theorem SInv_new : SInv (SH.new : SH β) := ⟨List.nodup_nil, fun _ => rfl⟩
theorem SInv_emptyFrozen : SInv (SH.emptyFrozen : SH β) := ⟨List.nodup_nil, fun _ => rfl⟩

theorem SH.put_frozen {h : SH β} (hf : h.frozen = true) (k : String) (v : β) : h.put k v = (h, .rejected) := by
  rw [SH.put, if_pos hf]

theorem SH.delete_frozen {h : SH β} (hf : h.frozen = true) (k : String) : h.delete k = (h, .rejected) := by
  rw [SH.delete, if_pos hf]

theorem SH.putAll_cons_frozen {h : SH β} (hf : h.frozen = true) (e : String × β) (es : List (String × β)) :
    h.putAll (e :: es) = (h, .rejected) := by
  rw [SH.putAll, SH.put_frozen hf]

theorem SH.computeIfAbsent_frozen {h : SH β} (hf : h.frozen = true) (k : String) (v : β) : (h.computeIfAbsent k v).1 = h := by
  unfold SH.computeIfAbsent
  split
  · split <;> rfl
  · rw [if_pos hf]

theorem SH.freeze_frozen {h : SH β} (hf : h.frozen = true) : h.freeze = h := by
  cases h; cases hf; rfl

theorem optOut_ne_fault (o : Option β) : optOut o ≠ .fault := by cases o <;> simp [optOut]

theorem optOut_inj {a b : Option β} : optOut a = optOut b ↔ a = b := by cases a <;> cases b <;> simp [optOut]

theorem stepSpec_ne_fault (s : SSpec β) (op : SOp β) : (stepSpec s op).2 ≠ .fault := by
  cases op <;> simp only [stepSpec]
  case put | delete => split <;> simp [optOut_ne_fault]
  case get => exact optOut_ne_fault _
  case includes k => cases OMap.includes id s.m k <;> simp [boolOut]
  case cia =>
    split
    · simp
    · split <;> simp
  case putAll => split <;> simp
  all_goals simp

theorem SInv.get {h : SH β} (hi : SInv h) (k : String) : h.get k = optOut (OMap.get id h.entries k) := by
  rw [SH.get, hi.2, OMap.get]
  rcases idx_cases id h.entries k with ⟨hx, hg⟩ | ⟨p, e, hx, he, _, hg⟩
  · rw [hx, hg]; rfl
  · rw [hx, hg]; simp only [he]; rfl

theorem SInv.includes {h : SH β} (hi : SInv h) (k : String) : h.includes k = OMap.includes id h.entries k := by
  rw [SH.includes, hi.2, OMap.includes]
  rcases idx_cases id h.entries k with ⟨hx, hg⟩ | ⟨p, e, hx, _, _, hg⟩ <;> rw [hx, hg] <;> rfl

theorem SInv.append {h : SH β} (hi : SInv h) {k : String} (hk : GoMap.get h.index k = none) (v : β) :
    SInv (h.append k v) ∧ (h.append k v).entries = put id h.entries (k, v) := by
  have hnone : idx id h.entries k = none := hi.2 k ▸ hk
  have hput : (h.append k v).entries = put id h.entries (k, v) := by simp only [put_eq, id_eq, hnone]; rfl
  refine ⟨⟨hput ▸ nodup_put hi.1 _, fun k' => ?_⟩, hput⟩
  show GoMap.get (GoMap.set h.index k h.entries.length) k' = idx id (h.entries ++ [(k, v)]) k'
  rw [GoMap.get_set, idx_append, hi.2]
  by_cases hkk : k = k'
  · simp [← hkk, hnone]
  · simp [hkk]

theorem SInv.put {h : SH β} (hi : SInv h) (k : String) (v : β) :
    SInv (h.put k v).1 ∧ stepSpec h.abs (.put k v) = ((h.put k v).1.abs, (h.put k v).2) := by
  cases hfr : h.frozen with
  | true => rw [SH.put_frozen hfr]; exact ⟨hi, by simp [stepSpec, SH.abs, hfr]⟩
  | false =>
    unfold SH.put
    simp only [hfr, Bool.false_eq_true, if_false, hi.2]
    rcases idx_cases id h.entries k with ⟨hx, hg⟩ | ⟨p, e, hx, he, hk, hg⟩
    · obtain ⟨hi', he'⟩ := hi.append ((hi.2 k).trans hx) v
      simp only [hx]
      exact ⟨hi', by simp [stepSpec, SH.abs, hfr, ← he', OMap.get, hg, optOut, SH.append]⟩
    · -- the stored key stays, so the key list and with it the index are as before
      have hk : e.1 = k := hk
      subst hk
      have hks := keys_set (e := (e.1, v)) hx
      simp only [hx, he]
      exact ⟨⟨hks ▸ hi.1, fun k' => (hi.2 k').trans (idx_congr hks k').symm⟩,
        by simp [stepSpec, SH.abs, hfr, put_eq, hx, OMap.get, hg, optOut]⟩

/-- what `stringHash.Delete`'s loop does to a position -/
def renum (p v : Nat) : Nat := if v > p then v - 1 else v

theorem renum_of_le {p v : Nat} (h : v ≤ p) : renum p v = v := if_neg (Nat.not_lt.mpr h)
theorem renum_of_gt {p v : Nat} (h : p < v) : renum p v = v - 1 := if_pos h

/-- erasing position `p` moves every later element one position down: the re-numbering of `stringHash.Delete` -/
theorem idxOf?_eraseIdx {κ : Type} [DecidableEq κ] {l : List κ} (hn : l.Nodup) {k0 : κ} {p : Nat} (hp : l[p]? = some k0) (k : κ) :
    (l.eraseIdx p).idxOf? k = if k = k0 then none else (l.idxOf? k).map (renum p) := by
  have hne : ∀ i, l[i]? = some k → (i = p ↔ k = k0) := fun i hi => by
    rw [← List.getElem?_inj (List.getElem?_eq_some_iff.mp hi).1 hn, hp, hi, Option.some.injEq]
  apply Option.ext
  intro j
  rw [idxOf?_eq_some_of_nodup (hn.eraseIdx p), List.getElem?_eraseIdx]
  by_cases hk : k = k0
  · simp only [hk, if_true, reduceCtorEq, iff_false]
    intro h
    split at h
    · exact absurd ((hne _ (hk ▸ h)).mpr hk) (by omega)
    · exact absurd ((hne _ (hk ▸ h)).mpr hk) (by omega)
  · simp only [hk, if_false, Option.map_eq_some_iff, idxOf?_eq_some_of_nodup hn]
    constructor
    · intro h
      split at h
      · exact ⟨j, h, renum_of_le (Nat.le_of_lt ‹j < p›)⟩
      · exact ⟨j + 1, h, renum_of_gt (Nat.lt_succ_of_le (Nat.not_lt.mp ‹¬j < p›))⟩
    · rintro ⟨i, hi, rfl⟩
      rcases Nat.lt_or_gt_of_ne ((not_congr (hne i hi)).mpr hk) with hlt | hgt
      · rw [renum_of_le (Nat.le_of_lt hlt), if_pos hlt, hi]
      · rw [renum_of_gt hgt, if_neg (by omega), Nat.sub_add_cancel (by omega), hi]

theorem SInv.delete {h : SH β} (hi : SInv h) (k : String) :
    SInv (h.delete k).1 ∧ stepSpec h.abs (.delete k) = ((h.delete k).1.abs, (h.delete k).2) := by
  cases hfr : h.frozen with
  | true => rw [SH.delete_frozen hfr]; exact ⟨hi, by simp [stepSpec, SH.abs, hfr]⟩
  | false =>
    unfold SH.delete
    simp only [hfr, Bool.false_eq_true, if_false, hi.2]
    rcases idx_cases id h.entries k with ⟨hx, hg⟩ | ⟨p, e, hx, he, hk, hg⟩
    · simp only [hx]
      exact ⟨hi, by simp [stepSpec, SH.abs, hfr, OMap.delete_eq hi.1, hx, OMap.get, hg, optOut]⟩
    · simp only [hx, he]
      refine ⟨⟨nodup_of_sublist (List.eraseIdx_sublist _ _) hi.1, fun k' => ?_⟩,
        by simp [stepSpec, SH.abs, hfr, OMap.delete_eq hi.1, hx, OMap.get, hg, optOut]⟩
      -- the re-numbering loop: every position above `p` moves one down
      have hp : (keys id h.entries)[p]? = some k := by rw [keys, List.getElem?_map, he]; exact congrArg some hk
      simp only [GoMap.get_mapVals, GoMap.get_erase, hi.2, idx_eq_idxOf?]
      rw [keys_eraseIdx, idxOf?_eraseIdx hi.1 hp]
      split <;> rfl

theorem SInv.putAll {h : SH β} (hi : SInv h) (hf : h.frozen = false) (es : List (String × β)) :
    SInv (h.putAll es).1 ∧ (h.putAll es).2 = .unit ∧ (h.putAll es).1.abs = ⟨merge id h.entries es, false⟩ := by
  induction es generalizing h with
  | nil => exact ⟨hi, rfl, by rw [← hf]; rfl⟩
  | cons e es ih =>
    obtain ⟨hi', hs⟩ := hi.put e.1 e.2
    simp only [stepSpec, SH.abs, hf, Bool.false_eq_true, if_false, Prod.mk.injEq, SSpec.mk.injEq] at hs
    obtain ⟨⟨hent, hfr⟩, hout⟩ := hs
    have hstep : h.putAll (e :: es) = (h.put e.1 e.2).1.putAll es := by
      rw [SH.putAll]
      generalize h.put e.1 e.2 = r at hout
      obtain ⟨h', o⟩ := r
      cases hg : OMap.get id h.entries e.1 <;> simp only [hg, optOut] at hout <;> subst hout <;> rfl
    rw [hstep, merge_cons, hent]
    exact ih hi' hfr.symm

theorem SInv.step {h : SH β} (hi : SInv h) (op : SOp β) :
    SInv (stepSH h op).1 ∧ stepSpec h.abs op = ((stepSH h op).1.abs, (stepSH h op).2) := by
  cases op with
  | put k v => exact hi.put k v
  | delete k => exact hi.delete k
  | get k => exact ⟨hi, by rw [stepSH, stepSpec, hi.get k]; rfl⟩
  | includes k => exact ⟨hi, by rw [stepSH, stepSpec, hi.includes k]; rfl⟩
  | cia k v =>
    simp only [stepSH, SH.computeIfAbsent, hi.2]
    rcases idx_cases id h.entries k with ⟨hx, hg⟩ | ⟨p, e, hx, he, _, hg⟩
    · simp only [hx]
      by_cases hf : h.frozen = true
      · simp [hf, hi, stepSpec, SH.abs, OMap.get, hg]
      · have hfr : h.frozen = false := by simpa using hf
        obtain ⟨hi', he'⟩ := hi.append ((hi.2 k).trans hx) v
        simp only [hfr, Bool.false_eq_true, if_false]
        exact ⟨hi', by simp [stepSpec, SH.abs, hfr, ← he', OMap.get, hg, SH.append]⟩
    · simp only [hx, he]
      exact ⟨hi, by simp [stepSpec, SH.abs, OMap.get, hg]⟩
  | copy => exact ⟨hi, rfl⟩
  | freeze => exact ⟨hi, rfl⟩
  | merge o =>
    obtain ⟨hi', hout, habs⟩ := SInv.putAll (h := h.copy) hi rfl o
    exact ⟨hi', by rw [stepSH, SH.merge, hout, habs]; rfl⟩
  | putAll o =>
    cases hf : h.frozen with
    | false =>
      obtain ⟨hi', hout, habs⟩ := hi.putAll hf o
      exact ⟨hi', by rw [stepSH, hout, habs]; simp [stepSpec, SH.abs, hf]⟩
    | true =>
      cases o with
      | nil => exact ⟨hi, by simp [stepSH, SH.putAll, stepSpec, SH.abs, merge]⟩
      | cons e es => rw [stepSH, SH.putAll_cons_frozen hf]; simp [hi, stepSpec, SH.abs, hf]

theorem SInv.step_out {h : SH β} (hi : SInv h) (op : SOp β) : (stepSH h op).2 = (stepSpec h.abs op).2 := by
  rw [(hi.step op).2]

theorem SInv.step_abs {h : SH β} (hi : SInv h) (op : SOp β) : (stepSH h op).1.abs = (stepSpec h.abs op).1 := by
  rw [(hi.step op).2]

theorem SInv.delete_entries {h : SH β} (hi : SInv h) (hf : h.frozen = false) (k : String) :
    (h.delete k).1.entries = OMap.delete id h.entries k := by
  have := congrArg SSpec.m (hi.step_abs (.delete k))
  simpa [stepSH, stepSpec, SH.abs, hf] using this

theorem SInv.get_delete {h : SH β} (hi : SInv h) (hf : h.frozen = false) (k k' : String) :
    (h.delete k).1.get k' = if k' = k then .none else h.get k' := by
  rw [(hi.delete k).1.get, hi.get, hi.delete_entries hf, OMap.get_delete]; split <;> rfl

/-- the simulation: after ANY operation sequence the invariant holds, every observation of every step equals the
    specification's, and the final hash abstracts to the specification's final state -/
theorem sh_simulation (h : SH β) (hi : SInv h) (ops : List (SOp β)) :
    SInv (runSH h ops).2 ∧
      (runSH h ops).1 = (runSpec h.abs ops).1 ∧ (runSH h ops).2.abs = (runSpec h.abs ops).2 := by
  induction ops generalizing h with
  | nil => exact ⟨hi, rfl, rfl⟩
  | cons op ops ih =>
    obtain ⟨hi', hs⟩ := hi.step op
    obtain ⟨h1, h2, h3⟩ := ih _ hi'
    simp only [runSH, runSpec, hs]
    exact ⟨h1, by rw [h2]; rfl, h3⟩

theorem sh_inv_new (ops : List (SOp β)) : SInv (runSH (SH.new : SH β) ops).2 := (sh_simulation _ SInv_new ops).1

theorem sh_refine_new (ops : List (SOp β)) :
    (runSH (SH.new : SH β) ops).1 = (runSpec ⟨[], false⟩ ops).1 := (sh_simulation _ SInv_new ops).2.1

/-- `Keys`, `Values`, `Len` are projections of the iteration order that `sh_simulation` determines -/
theorem sh_views (h : SH β) :
    h.keys = h.pairs.map (·.1) ∧ h.values = h.pairs.map (·.2) ∧ h.len = h.pairs.length := ⟨rfl, rfl, rfl⟩

section equals
variable [DecidableEq β]

/-- what `Equals` must answer: as many entries, and every entry of the first map is in the second with an equal value -/
def equalsSpec (a b : List (String × β)) : Bool :=
  decide (a.length = b.length) && a.all fun e => decide (OMap.get id b e.1 = some e.2)

theorem SInv.equals {h o : SH β} (ho : SInv o) : h.equals o = some (equalsSpec h.entries o.entries) := by
  have loop : ∀ es : List (String × β),
      SH.equalsLoop o es = some (es.all fun e => decide (OMap.get id o.entries e.1 = some e.2)) := by
    intro es
    induction es with
    | nil => rfl
    | cons e es ih =>
      rw [SH.equalsLoop, List.all_cons, ho.2, OMap.get]
      rcases idx_cases id o.entries e.1 with ⟨hx, hg⟩ | ⟨p, x, hx, he, _, hg⟩
      · rw [hx, hg]; rfl
      · rw [hx, hg]; simp only [he, ih]
        by_cases hv : x.2 = e.2 <;> simp [hv]
  simp only [SH.equals, equalsSpec, loop]
  by_cases hl : h.entries.length = o.entries.length <;> simp [hl]

theorem equalsSpec_iff {a b : List (String × β)} (ha : (keys id a).Nodup) (hb : (keys id b).Nodup) :
    equalsSpec a b = true ↔ ∀ k, OMap.get id a k = OMap.get id b k := by
  simp only [equalsSpec, Bool.and_eq_true, decide_eq_true_eq, List.all_eq_true]
  have hlen : ∀ m : List (String × β), (keys id m).length = m.length := fun m => List.length_map _
  have hsub : ∀ {a b : List (String × β)}, (∀ e ∈ a, OMap.get id b e.1 = some e.2) → keys id a ⊆ keys id b := by
    intro a b h k hk
    obtain ⟨e, he, rfl⟩ := List.mem_map.mp hk
    exact mem_keys_of_get (h e he)
  constructor
  · rintro ⟨hl, hall⟩ k
    by_cases hk : k ∈ keys id a
    · obtain ⟨e, he, rfl⟩ := List.mem_map.mp hk
      exact (get_of_mem (key := id) ha he).trans (hall e he).symm
    · -- `b` has no further key: it would make `b` longer than `a`
      have hkb : k ∉ keys id b := fun hkb => by
        have := (List.nodup_cons.mpr ⟨hk, ha⟩).length_le_of_subset (l₂ := keys id b)
          (List.cons_subset.mpr ⟨hkb, hsub hall⟩)
        rw [List.length_cons, hlen, hlen] at this
        omega
      rw [OMap.get, OMap.get, getEntry_of_not_mem hk, getEntry_of_not_mem hkb]
  · intro h
    have hab : ∀ e ∈ a, OMap.get id b e.1 = some e.2 := fun e he => by rw [← h]; exact get_of_mem (key := id) ha he
    have hba : ∀ e ∈ b, OMap.get id a e.1 = some e.2 := fun e he => by rw [h]; exact get_of_mem (key := id) hb he
    have h1 := ha.length_le_of_subset (hsub hab)
    have h2 := hb.length_le_of_subset (hsub hba)
    rw [hlen, hlen] at h1 h2
    exact ⟨by omega, hab⟩

end equals

end Pcore.Coll

import Pcore.Proofs.FilesSteps
/-!
C15, names of any depth, on `FilesSteps`.  `QuietAnc`: what makes the parent search of a name a no-op in one loader, with its
prefix arithmetic and a decidable form for closed examples.  `find_miss`: the complete miss of one file loader — no origin for
the name, every proper prefix cached or without an origin — evaluated exactly (answer `none`, state untouched) for every name
length, given fuel `3 * length`.  On top of it: the complete miss of a whole lookup step below any parent chain
(`Below.quiet_miss`; through a top-level loader, a module's loader below the global loader, the dependency loader), and a name
of any depth through a module's loader / the dependency loader (parent-first route: the global loader misses completely, the
module loader's first origin decides), with the two-segment name `Mod::X` as an instance.
-/
namespace Pcore.Files

/-- what the parent type-set search of `name` in loader `l` needs to be a no-op: the name itself is not cached, the name is
    addressable (`Parts()` does not panic), the module's `init_typeset` route is closed, every proper prefix is cached (it
    is skipped) or has no origin -/
structure QuietAnc (cfg : Cfg) (l : Lid) (s : St) (name : Name) : Prop where
  fresh : s.get l (keyOf name) = none
  valid : l.moduleName = "" ∨ (partsOf name).isSome
  init : isGlobalMod l.moduleName = true ∨ idx cfg l ["init_typeset"] = [] ∨ s.get l (keyOf (name.take 1)) ≠ none
  ancestors : ∀ nm, nm ≠ [] → nm <+: name → nm ≠ name → s.get l (keyOf nm) ≠ none ∨ idx cfg l (keyOf nm) = []

theorem QuietAnc.congr {cfg : Cfg} {l : Lid} {s s' : St} {name : Name} (h : QuietAnc cfg l s name)
    (hs : ∀ k, s'.get l k = s.get l k) : QuietAnc cfg l s' name :=
  ⟨(hs _).trans h.fresh, h.valid, by rw [hs]; exact h.init, fun nm a b c => by rw [hs]; exact h.ancestors nm a b c⟩

theorem partsOf_isSome_prefix {a b : Name} (h : a <+: b) (hb : (partsOf b).isSome) : (partsOf a).isSome := by
  obtain ⟨t, rfl⟩ := h
  unfold partsOf at *
  by_cases hv : (keyOf (a ++ t)).all validPart = true
  · have : (keyOf a).all validPart = true := by
      rw [keyOf_append, List.all_append, Bool.and_eq_true] at hv
      exact hv.1
    simp [this]
  · simp [hv] at hb

theorem take_one_prefix {a b : Name} (ha : a ≠ []) (h : a <+: b) : a.take 1 = b.take 1 := by
  obtain ⟨t, rfl⟩ := h
  cases a with
  | nil => exact absurd rfl ha
  | cons x xs => rfl

theorem length_lt_of_proper_prefix {a b : Name} (h : a <+: b) (hne : a ≠ b) : a.length < b.length := by
  rcases Nat.lt_or_ge a.length b.length with hl | hl
  · exact hl
  · exact absurd (List.IsPrefix.eq_of_length_le h hl) hne

theorem quietAnc_prefix {cfg : Cfg} {l : Lid} {s : St} {name ts : Name} (h : QuietAnc cfg l s name)
    (hne : ts ≠ []) (hp : ts <+: name) (hneq : ts ≠ name) (hget : s.get l (keyOf ts) = none) :
    QuietAnc cfg l s ts ∧ idx cfg l (keyOf ts) = [] := by
  refine ⟨⟨hget, ?_, ?_, ?_⟩, ?_⟩
  · rcases h.valid with hv | hv
    · exact Or.inl hv
    · exact Or.inr (partsOf_isSome_prefix hp hv)
  · rw [take_one_prefix hne hp]; exact h.init
  · intro nm hnm hpre hneq'
    refine h.ancestors nm hnm (hpre.trans hp) ?_
    intro heq
    have h1 := length_lt_of_proper_prefix hpre hneq'
    have h2 := hp.length_le
    rw [heq] at h1
    omega
  · rcases h.ancestors ts hne hp hneq with h1 | h1
    · exact absurd hget h1
    · exact h1

theorem quietAnc_of_parent {cfg : Cfg} {l : Lid} {σ : St} {parent name : Name} (hpre : parent <+: name)
    (hlen : name.length = parent.length + 1) (hpne : parent ≠ []) (hfresh : σ.get l (keyOf name) = none)
    (hvalid : l.moduleName = "" ∨ (partsOf name).isSome)
    (hinit : isGlobalMod l.moduleName = true ∨ idx cfg l ["init_typeset"] = [] ∨ σ.get l (keyOf (parent.take 1)) ≠ none)
    (hpar : σ.get l (keyOf parent) ≠ none ∨ idx cfg l (keyOf parent) = [])
    (hanc : ∀ x, x ≠ [] → x <+: parent → x ≠ parent → σ.get l (keyOf x) ≠ none ∨ idx cfg l (keyOf x) = []) :
    QuietAnc cfg l σ name := by
  refine ⟨hfresh, hvalid, ?_, ?_⟩
  · rw [← take_one_prefix hpne hpre]; exact hinit
  · intro x hx hp hneq
    have hxp : x <+: parent :=
      List.prefix_of_prefix_length_le hp hpre (by have := length_lt_of_proper_prefix hp hneq; omega)
    by_cases heq : x = parent
    · exact heq ▸ hpar
    · exact hanc x hx hxp heq

theorem quietAnc_pair {cfg : Cfg} {l : Lid} {s : St} {a b : String} (hfresh : s.get l (keyOf [a, b]) = none)
    (hvalid : l.moduleName = "" ∨ (partsOf [a, b]).isSome)
    (hinit : isGlobalMod l.moduleName = true ∨ idx cfg l ["init_typeset"] = [] ∨ s.get l (keyOf [a]) ≠ none)
    (hpar : s.get l (keyOf [a]) ≠ none ∨ idx cfg l (keyOf [a]) = []) : QuietAnc cfg l s [a, b] :=
  quietAnc_of_parent (parent := [a]) ⟨[b], rfl⟩ rfl (by simp) hfresh hvalid hinit hpar (fun x hx hp hne => by
    have := length_lt_of_proper_prefix hp hne
    exact absurd (List.eq_nil_of_length_eq_zero (by simpa using this)) hx)

theorem quietAnc_put_other {cfg : Cfg} {l l' : Lid} {s : St} {name : Name} (h : QuietAnc cfg l s name) (hne : l' ≠ l)
    (k : Key) (e : Entry) : QuietAnc cfg l (s.put l' k e) name :=
  h.congr (fun _ => get_put_lid (Ne.symm hne) ..)

/-- `QuietAnc`, decidably (for closed examples) -/
def quietAncB (cfg : Cfg) (l : Lid) (s : St) (name : Name) : Bool :=
  (s.get l (keyOf name)).isNone && (l.moduleName = "" || (partsOf name).isSome) &&
  (isGlobalMod l.moduleName || (idx cfg l ["init_typeset"]).isEmpty || (s.get l (keyOf (name.take 1))).isSome) &&
  (List.range name.length).all fun i =>
    i = 0 || (s.get l (keyOf (name.take i))).isSome || (idx cfg l (keyOf (name.take i))).isEmpty

theorem init_of_check {cfg : Cfg} {l : Lid} {s : St} {k : Key}
    (h : (isGlobalMod l.moduleName = true ∨ idx cfg l ["init_typeset"] = []) ∨ (s.get l k).isSome = true) :
    isGlobalMod l.moduleName = true ∨ idx cfg l ["init_typeset"] = [] ∨ s.get l k ≠ none := by
  rcases h with (h | h) | h
  · exact Or.inl h
  · exact Or.inr (Or.inl h)
  · exact Or.inr (Or.inr (fun hn => by rw [hn] at h; cases h))

theorem ancestors_of_check {cfg : Cfg} {l : Lid} {s : St} {name : Name}
    (h : ∀ i < name.length, (i = 0 ∨ (s.get l (keyOf (name.take i))).isSome = true) ∨ idx cfg l (keyOf (name.take i)) = []) :
    ∀ nm, nm ≠ [] → nm <+: name → nm ≠ name → s.get l (keyOf nm) ≠ none ∨ idx cfg l (keyOf nm) = [] := by
  intro nm hne hp hneq
  have h := h nm.length (length_lt_of_proper_prefix hp hneq)
  rw [← List.prefix_iff_eq_take.mp hp] at h
  rcases h with (h | h) | h
  · exact absurd (List.eq_nil_of_length_eq_zero h) hne
  · exact Or.inl (fun hn => by rw [hn] at h; cases h)
  · exact Or.inr h

theorem quietAnc_of_check {cfg : Cfg} {l : Lid} {s : St} {name : Name} (h : quietAncB cfg l s name = true) :
    QuietAnc cfg l s name := by
  unfold quietAncB at h
  simp only [Bool.and_eq_true, Bool.or_eq_true, decide_eq_true_eq, List.all_eq_true, List.mem_range,
    Option.isNone_iff_eq_none, List.isEmpty_iff] at h
  obtain ⟨⟨⟨h1, h2⟩, h3⟩, h4⟩ := h
  exact ⟨h1, h2, init_of_check h3, ancestors_of_check h4⟩

/-! ## the complete miss of one file loader: `find → findTail → parentSearch → find` unwound by induction on the length -/

/-- exact miss: answer `none`, the state is untouched -/
abbrev Miss (x : M (Option Entry)) (s : St) : Prop := x s = .ok none s

theorem dropLast_proper {name : Name} (hne : name ≠ []) : name.dropLast <+: name ∧ name.dropLast ≠ name := by
  refine ⟨List.dropLast_prefix name, ?_⟩
  intro h
  have := congrArg List.length h
  rw [List.length_dropLast] at this
  have : name.length ≠ 0 := by
    intro h0; exact hne (List.eq_nil_of_length_eq_zero h0)
  omega

theorem dropLast_ne_nil {name : Name} (hqual : qualified name = true) : name.dropLast ≠ [] := by
  intro h
  have := congrArg List.length h
  simp [qualified] at hqual this
  omega

theorem find_miss_step {cfg : Cfg} {l : Lid} {s : St} {name : Name} (n : Nat) (hne : name ≠ [])
    (hq : QuietAnc cfg l s name) (hi : idx cfg l (keyOf name) = [])
    (hps : qualified name = true → Miss (parentSearch n cfg l name name.dropLast) s) :
    Miss (find (n+2) cfg l name) s := by
  -- an unqualified name is its own first segment: the `init_typeset` route is closed
  have hclosed : ∀ o os, qualified name = false → isGlobalMod l.moduleName = false →
      idx cfg l ["init_typeset"] ≠ o :: os := by
    intro o os hqual hg hinit
    have htake : name.take 1 = name := by
      cases name with
      | nil => exact absurd rfl hne
      | cons a rest =>
        cases rest with
        | nil => rfl
        | cons b r => cases hqual
    rcases hq.init with h | h | h
    · rw [hg] at h; cases h
    · rw [hinit] at h; cases h
    · rw [htake] at h; exact absurd hq.fresh h
  refine find_cases (Miss · s) (fun _ => rfl) ?_ ?_ (fun o os _ hqual hg _ hi => absurd hi (hclosed o os hqual hg))
    (fun o os _ hqual hg _ hi => absurd hi (hclosed o os hqual hg))
  · -- where `find` calls `Parts()` the name is addressable
    intro hm _ hp
    have := hq.valid.resolve_left hm
    rw [hp] at this; cases this
  · intro _
    unfold Miss
    rw [findTail_nil hi]
    by_cases hqual : qualified name = true
    · rw [if_pos hqual]; exact hps hqual
    · rw [if_neg hqual]; rfl

theorem parentSearch_miss_step {cfg : Cfg} {l : Lid} {s : St} {name ts : Name} (n : Nat)
    (hq : QuietAnc cfg l s name)
    (hfind : ts ≠ [] → s.get l (keyOf ts) = none → Miss (find n cfg l ts) s)
    (hrest : ts ≠ [] → Miss (parentSearch n cfg l name ts.dropLast) s) :
    Miss (parentSearch (n+1) cfg l name ts) s := by
  unfold Miss
  by_cases hne : ts = []
  · rw [hne]; rfl
  · rw [parentSearch_ne _ _ _ _ _ hne]
    simp only [bind, getSt]
    cases hg : s.get l (keyOf ts) with
    | some v => exact hrest hne
    | none =>
      simp only []
      rw [hfind hne hg]
      simp only [hq.fresh]
      exact hrest hne

/-- by induction on the length: the parent search from a prefix of length `k`, and `find` on a name of length `k+1` -/
theorem miss_both (cfg : Cfg) (l : Lid) (s : St) : ∀ k : Nat,
    (∀ name ts, QuietAnc cfg l s name → ts <+: name → ts ≠ name → ts.length = k →
      ∀ n, 3 * k ≤ n → Miss (parentSearch (n+1) cfg l name ts) s) ∧
    (∀ name, name.length = k + 1 → QuietAnc cfg l s name → idx cfg l (keyOf name) = [] →
      ∀ n, 3 * k + 1 ≤ n → Miss (find (n+2) cfg l name) s) := by
  intro k
  induction k with
  | zero =>
    refine ⟨fun name ts _ _ _ hlen n _ => ?_, fun name hlen hq hi n hn => ?_⟩
    · rw [List.eq_nil_of_length_eq_zero hlen]
      rfl
    · refine find_miss_step n (by intro h; rw [h] at hlen; cases hlen) hq hi (fun hqual => ?_)
      have : name.length ≥ 2 := qualified_iff.mp hqual
      omega
  | succ k ih =>
    obtain ⟨ihB, ihA⟩ := ih
    have hB : ∀ name ts, QuietAnc cfg l s name → ts <+: name → ts ≠ name → ts.length = k + 1 →
        ∀ n, 3 * (k + 1) ≤ n → Miss (parentSearch (n+1) cfg l name ts) s := by
      intro name ts hq hp hneq hlen n hn
      obtain ⟨n', rfl⟩ : ∃ n', n = n' + 2 := ⟨n - 2, by omega⟩
      have hne : ts ≠ [] := by intro h; rw [h] at hlen; cases hlen
      refine parentSearch_miss_step (n'+2) hq ?_ ?_
      · intro _ hget
        obtain ⟨hq', hi'⟩ := quietAnc_prefix hq hne hp hneq hget
        exact ihA ts hlen hq' hi' n' (by omega)
      · intro _
        have hdl := dropLast_proper hne
        refine ihB name ts.dropLast hq (hdl.1.trans hp) ?_ (by rw [List.length_dropLast, hlen]; rfl) (n'+1) (by omega)
        intro heq
        have h2 := length_lt_of_proper_prefix hp hneq
        have h3 : ts.dropLast.length = k := by rw [List.length_dropLast]; omega
        rw [heq] at h3
        omega
    refine ⟨hB, ?_⟩
    intro name hlen hq hi n hn
    have hne : name ≠ [] := by intro h; rw [h] at hlen; cases hlen
    obtain ⟨n', rfl⟩ : ∃ n', n = n' + 1 := ⟨n - 1, by omega⟩
    refine find_miss_step (n'+1) hne hq hi ?_
    intro _
    have hdl := dropLast_proper hne
    exact hB name name.dropLast hq hdl.1 hdl.2 (by rw [List.length_dropLast, hlen]; rfl) n' (by omega)

theorem find_miss (cfg : Cfg) (l : Lid) (s : St) (name : Name) (hne : name ≠ []) (hq : QuietAnc cfg l s name)
    (hi : idx cfg l (keyOf name) = []) (fuel : Nat) (hf : 3 * name.length ≤ fuel) :
    find fuel cfg l name s = .ok none s := by
  obtain ⟨k, hk⟩ : ∃ k, name.length = k + 1 := by
    cases name with
    | nil => exact absurd rfl hne
    | cons a r => exact ⟨r.length, rfl⟩
  obtain ⟨n, rfl⟩ : ∃ n, fuel = n + 2 := ⟨fuel - 2, by omega⟩
  exact (miss_both cfg l s k).2 name hk hq hi n (by omega)

/-- the parent search alone (the name may have an origin or not: it is not consulted) -/
theorem parentSearch_miss (cfg : Cfg) (l : Lid) (s : St) (name ts : Name) (hq : QuietAnc cfg l s name)
    (hp : ts <+: name) (hneq : ts ≠ name) (fuel : Nat) (hf : 3 * ts.length + 1 ≤ fuel) :
    parentSearch fuel cfg l name ts s = .ok none s := by
  obtain ⟨n, rfl⟩ : ∃ n, fuel = n + 1 := ⟨fuel - 1, by omega⟩
  exact (miss_both cfg l s ts.length).1 name ts hq hp hneq rfl n (by omega)

/-! ## the complete miss of a whole step: every loader of the parent chain records it with a placeholder -/

theorem Below.quiet_miss {cfg : Cfg} {l : Lid} {name : Name} {s σ : St} {c n : Nat} (h : Below cfg l name s σ c)
    (hne : name ≠ []) (hq : QuietAnc cfg l s name) (hi : idx cfg l (keyOf name) = []) (hn : c ≤ n)
    (hf : 3 * name.length ≤ n) :
    fbLoadEntry (n+1) cfg l name s = .ok (some none) (σ.put l (keyOf name) none) :=
  h.miss hn hq.fresh (find_miss cfg l σ name hne (hq.congr h.own) hi n hf) ((h.own _).trans hq.fresh)

theorem fbLoadEntry_top_miss (cfg : Cfg) (l : Lid) (hl : TopLevel cfg l) (s : St) (name : Name) (hne : name ≠ [])
    (hsys : sysLoad name = none) (hq : QuietAnc cfg l s name) (hi : idx cfg l (keyOf name) = []) (fuel : Nat)
    (hf : 3 * name.length ≤ fuel) :
    fbLoadEntry (fuel+1) cfg l name s = .ok (some none) (s.put l (keyOf name) none) :=
  (Below.top hl hsys).quiet_miss hne hq hi (Nat.zero_le _) hf

theorem fbLoadEntry_g_miss (cfg : Cfg) (s : St) (name : Name) (hne : name ≠ []) (hsys : sysLoad name = none)
    (hq : QuietAnc cfg .g s name) (hi : idx cfg .g (keyOf name) = []) (fuel : Nat) (hf : 3 * name.length ≤ fuel) :
    fbLoadEntry (fuel+1) cfg .g name s = .ok (some none) (s.put .g (keyOf name) none) :=
  fbLoadEntry_top_miss cfg .g (Or.inl rfl) s name hne hsys hq hi fuel hf

theorem Below.child_miss {cfg : Cfg} {mod : String} {name : Name} {s : St} (hflat : cfg.flat = false) (hne : name ≠ [])
    (hsys : sysLoad name = none) (hqg : QuietAnc cfg .g s name) (hig : idx cfg .g (keyOf name) = []) :
    Below cfg (.m mod) name s (s.put .g (keyOf name) none) (3 * name.length + 1) :=
  .child hflat (fun f => fbLoadEntry_g_miss cfg s name hne hsys hqg hig (f + 3 * name.length) (by omega))
    (get_put_lid (by nofun) _ _ _) rfl

theorem fbLoadEntry_child_miss (cfg : Cfg) (mod : String) (hflat : cfg.flat = false) (s : St) (name : Name)
    (hne : name ≠ []) (hsys : sysLoad name = none)
    (hqg : QuietAnc cfg .g s name) (hig : idx cfg .g (keyOf name) = [])
    (hqm : QuietAnc cfg (.m mod) s name) (him : idx cfg (.m mod) (keyOf name) = [])
    (fuel : Nat) (hf : 3 * name.length ≤ fuel) :
    fbLoadEntry (fuel+2) cfg (.m mod) name s =
      .ok (some none) ((s.put .g (keyOf name) none).put (.m mod) (keyOf name) none) :=
  (Below.child_miss hflat hne hsys hqg hig).quiet_miss hne hqm him (by omega) (by omega)

theorem dLoadEntry_miss (cfg : Cfg) (mod : String) (hflat : cfg.flat = false) (hmods : cfg.mods.contains mod = true)
    (s : St) (name : Name) (hne : name ≠ []) (hqual : qualified name = true)
    (hparts : ∃ ps, partsOf name = some ps ∧ ps.head? = some mod)
    (hsys : sysLoad name = none) (hd : s.get .d (keyOf name) = none)
    (hqg : QuietAnc cfg .g s name) (hig : idx cfg .g (keyOf name) = [])
    (hqm : QuietAnc cfg (.m mod) s name) (him : idx cfg (.m mod) (keyOf name) = [])
    (fuel : Nat) (hf : 3 * name.length ≤ fuel) :
    dLoadEntry (fuel+4) cfg name s =
      .ok (some none) (((s.put .g (keyOf name) none).put (.m mod) (keyOf name) none).put .d (keyOf name) none) := by
  have hfind : dFind (fuel+3) cfg name s = _ :=
    dFind_routed hmods hqual hparts _ ▸ fbLoadEntry_child_miss cfg mod hflat s name hne hsys hqg hig hqm him fuel hf
  rw [dLoadEntry_fresh hd hfind (Or.inl rfl), get_put_lid (by intro h; cases h), get_put_lid (by intro h; cases h),
    hd]

/-! ## a name of any depth whose first origin in the module's loader is no type set: the global loader misses first -/

theorem module_deep (cfg : Cfg) (mod : String) (hv : cfg.via = .m mod) (hflat : cfg.flat = false)
    (name : Name) (hne : name ≠ []) (s : St) (m : Nat) (hfuel : 3 * name.length ≤ m + 5)
    (hsys : sysLoad name = none)
    (hqg : QuietAnc cfg .g s name) (hig : idx cfg .g (keyOf name) = [])
    (hm1 : s.get (.m mod) (keyOf name) = none) (hroute : Routed (.m mod) name)
    (p : Path) (ps : List Path) (hi : idx cfg (.m mod) (keyOf name) = p :: ps)
    (hnt : ∀ nm ts, bodyAt cfg.tree p ≠ some (.typ .typeset nm ts)) :
    (loadS (m+8) cfg s name).1 = plainOutcomeAt cfg (.m mod) name ∧
    (loadS (m+8) cfg s name).2.reads = s.reads ++ [p] :=
  (Below.child_miss hflat hne hsys hqg hig).loadS_plain hv (n := m+1) (by omega) hroute hm1 hi hnt

theorem dependency_deep (cfg : Cfg) (mod : String) (hv : cfg.via = .d) (hflat : cfg.flat = false)
    (hmods : cfg.mods.contains mod = true)
    (name : Name) (hne : name ≠ []) (hqual : qualified name = true) (s : St) (m : Nat) (hfuel : 3 * name.length ≤ m + 5)
    (hparts : ∃ ps, partsOf name = some ps ∧ ps.head? = some mod)
    (hsys : sysLoad name = none) (hd1 : s.get .d (keyOf name) = none)
    (hqg : QuietAnc cfg .g s name) (hig : idx cfg .g (keyOf name) = [])
    (hm1 : s.get (.m mod) (keyOf name) = none)
    (p : Path) (ps : List Path) (hi : idx cfg (.m mod) (keyOf name) = p :: ps)
    (hnt : ∀ nm ts, bodyAt cfg.tree p ≠ some (.typ .typeset nm ts)) :
    (loadS (m+10) cfg s name).1 = plainOutcomeAt cfg (.m mod) name ∧
    (loadS (m+10) cfg s name).2.reads = s.reads ++ [p] := by
  have hd1' : ∀ d, s.get .d (keyOf name) ≠ some (some d) := by rw [hd1]; intro d h; cases h
  obtain ⟨σ, hr, _, ⟨e, ho, hfb⟩ | ⟨d, ho, hvd, hfb⟩⟩ := (Below.child_miss (mod := mod) hflat hne hsys hqg hig).plain
    (n := m+1) (by omega) (Or.inl ⟨hqual, Or.inr hparts⟩) hm1 hi hnt (by rw [hv, get_put_lid (by nofun)]; exact hd1')
  · rw [← dFind_routed hmods hqual hparts] at hfb
    rw [loadS_failed (by rw [hv, loadEntry_d]; exact dLoadEntry_failed hd1' hfb), ho]; exact ⟨rfl, hr⟩
  · rw [← dFind_routed hmods hqual hparts, hv, if_neg (by intro h; cases h)] at hfb
    rw [hv] at hvd
    rw [loadS_found (by rw [hv, loadEntry_d, dLoadEntry_fresh hd1 hfb (Or.inl rfl), hvd]), ho]; exact ⟨rfl, hr⟩

theorem dependency_plain (cfg : Cfg) (mod : String) (hv : cfg.via = .d) (hflat : cfg.flat = false)
    (hmods : cfg.mods.contains mod = true)
    (hm : isGlobalMod mod = false)
    (a b : String) (s : St) (n : Nat)
    (hparts : partsOf [a, b] = some [mod, lowerS b])
    (hsys : sysLoad [a, b] = none)
    (hd1 : s.get .d (keyOf [a, b]) = none)
    (hg1 : s.get .g (keyOf [a, b]) = none) (hg2 : s.get .g (keyOf [a]) = none)
    (hm1 : s.get (.m mod) (keyOf [a, b]) = none)
    (hi1 : idx cfg .g (keyOf [a, b]) = []) (hi2 : idx cfg .g (keyOf [a]) = [])
    (p : Path) (ps : List Path) (hi : idx cfg (.m mod) (keyOf [a, b]) = p :: ps)
    (hnt : ∀ nm ts, bodyAt cfg.tree p ≠ some (.typ .typeset nm ts)) :
    (loadS (n+11) cfg s [a, b]).1 = plainOutcomeAt cfg (.m mod) [a, b] ∧
    (loadS (n+11) cfg s [a, b]).2.reads = s.reads ++ [p] :=
  dependency_deep cfg mod hv hflat hmods [a, b] (by simp) rfl s (n+1) (by simp) ⟨_, hparts, rfl⟩ hsys hd1
    (quietAnc_pair hg1 (Or.inl rfl) (Or.inl rfl) (Or.inr hi2)) hi1 hm1 p ps hi hnt

end Pcore.Files

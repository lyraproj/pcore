import Pcore.Proofs.Files
import Pcore.Model.FilesFuel
/-!
C15, termination of the model: with the placeholder guard of fix 51b01c7 (`guardInit = true`) no lookup ever answers
`Err.diverges`, for ANY tree, module list, context loader, state and name, once the fuel exceeds an explicit bound.

Potential: the number of *instantiable* pairs (loader, key) — a key with an origin in that loader's index, or the module's
own name (the `init_typeset` route) — that the state holds nothing for.  `instantiate` proceeds only for such a pair whose
entry is still absent, and installs the placeholder first: the potential drops before the recursion
`instantiator → AddTypes → resolveTypeSet → LoadEntry → find` re-enters.  Entries are never removed (`Mono`).
This file: the calculus `tpv`, `Mono`, and the potential (`pot`, with `loaders` and `instPairs`, is defined in
`Pcore/Model/FilesFuel.lean`); the induction is in `FilesTermMain.lean`.
-/
namespace Pcore.Files

/-- like `wp`, and a panic must not be `diverges`; its six rules below are those of `wp` word for word -/
def tpv {α : Type} (x : M α) (Q : α → St → Prop) (E : St → Prop) (s : St) : Prop :=
  match x s with
  | .ok a s' => Q a s'
  | .fail e s' => e ≠ .diverges ∧ E s'

@[simp] theorem tpv_pure {α : Type} (a : α) (Q : α → St → Prop) (E : St → Prop) (s : St) :
    tpv (pure a : M α) Q E s ↔ Q a s := Iff.rfl

@[simp] theorem tpv_bind {α β : Type} (x : M α) (f : α → M β) (Q : β → St → Prop) (E : St → Prop) (s : St) :
    tpv (x >>= f) Q E s ↔ tpv x (fun a s' => tpv (f a) Q E s') E s := by
  simp only [tpv, bind]
  cases x s <;> rfl

@[simp] theorem tpv_raise {α : Type} (e : Err) (Q : α → St → Prop) (E : St → Prop) (s : St) :
    tpv (raise e : M α) Q E s ↔ e ≠ .diverges ∧ E s := Iff.rfl

@[simp] theorem tpv_getSt (Q : St → St → Prop) (E : St → Prop) (s : St) : tpv getSt Q E s ↔ Q s s := Iff.rfl

@[simp] theorem tpv_modifySt (f : St → St) (Q : Unit → St → Prop) (E : St → Prop) (s : St) :
    tpv (modifySt f) Q E s ↔ Q () (f s) := Iff.rfl

theorem tpv_mono {α : Type} {x : M α} {Q Q' : α → St → Prop} {E E' : St → Prop} {s : St}
    (h : tpv x Q E s) (hq : ∀ a s', Q a s' → Q' a s') (he : ∀ s', E s' → E' s') : tpv x Q' E' s := by
  unfold tpv at *
  cases hx : x s with
  | ok a s' => rw [hx] at h; exact hq _ _ h
  | fail e s' => rw [hx] at h; exact ⟨h.1, he _ h.2⟩

def Mono (s s' : St) : Prop := ∀ l k, s.get l k ≠ none → s'.get l k ≠ none

theorem Mono.refl (s : St) : Mono s s := fun _ _ h => h
theorem Mono.trans {a b c : St} (h1 : Mono a b) (h2 : Mono b c) : Mono a c := fun l k h => h2 l k (h1 l k h)

theorem mono_put (s : St) (l : Lid) (k : Key) (e : Entry) : Mono s (s.put l k e) := fun _ _ h =>
  get_put_cases (· ≠ none) (fun _ _ => nofun) (fun _ => h)

/-- the specification every function meets: it does not diverge and removes nothing -/
abbrev SpecT {α : Type} (x : M α) (s : St) : Prop := tpv x (fun _ s' => Mono s s') (Mono s) s

theorem specT_bind {α β : Type} {x : M α} {f : α → M β} {s : St} (hx : SpecT x s)
    (hf : ∀ a s', Mono s s' → SpecT (f a) s') : SpecT (x >>= f) s := by
  unfold SpecT
  rw [tpv_bind]
  refine tpv_mono hx ?_ (fun _ h => h)
  intro a s' hm
  exact tpv_mono (hf a s' hm) (fun _ _ h => hm.trans h) (fun _ h => hm.trans h)

theorem specT_get {α : Type} {f : St → M α} {s : St} (h : SpecT (f s) s) : SpecT (getSt >>= f) s :=
  (tpv_bind ..).mpr ((tpv_getSt ..).mpr h)

theorem specT_setEntry (l : Lid) (k : Key) (e : Entry) (s : St) : SpecT (setEntry l k e) s :=
  setEntry_cases (fun r => SpecT (fun _ => r) s) (fun _ => mono_put s l k e) (fun _ _ => Mono.refl s)
    (fun _ _ => ⟨nofun, Mono.refl s⟩)

theorem isNone_of_mono {s s' : St} (h : Mono s s') (l : Lid) (k : Key) (hp : (s'.get l k).isNone = true) :
    (s.get l k).isNone = true := by
  cases hg : s.get l k with
  | none => rfl
  | some v =>
    have := h l k (by rw [hg]; intro h'; cases h')
    cases hg' : s'.get l k with
    | none => exact absurd hg' this
    | some v' => rw [hg'] at hp; cases hp

theorem pot_mono (cfg : Cfg) {s s' : St} (h : Mono s s') : pot cfg s' ≤ pot cfg s :=
  List.countP_mono_left (fun lk _ hp => isNone_of_mono h lk.1 lk.2 hp)

/-- installing anything for an instantiable pair that had nothing lowers the potential -/
theorem pot_put_lt (cfg : Cfg) (s : St) (l : Lid) (k : Key) (e : Entry) (hmem : (l, k) ∈ instPairs cfg)
    (hget : s.get l k = none) : pot cfg (s.put l k e) + 1 ≤ pot cfg s := by
  unfold pot
  exact countP_lt_of_imp (fun lk _ hp => isNone_of_mono (mono_put s l k e) lk.1 lk.2 hp) hmem (by simp [hget]) (by simp [get_put])

end Pcore.Files

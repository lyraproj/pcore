import Pcore.Proofs.LatGen
import Pcore.Proofs.LatTransFrag
set_option linter.unusedSimpArgs false
/-! C04, corollary of `C03_trans_alias_partial`: the generalisation of a VARIANT accepts it.  `Generic()` of a Variant generalises the members and
    removes those that became `Equals` to an earlier one (`UniqueTypes`); the kept member `s` accepts the removed one's generalisation
    `g` (equal types accept each other, `eq_asg_all`), `g` accepts the original member `t` (induction), hence `s ⊒ t` by TRANSITIVITY — on the
    fragment `Ty.TA`.  Parts: `GenGood` (well-formed and in `Ty.TA`) unfolded per constructor; `UniqueTypes` and `mkVariant` — both serve the
    Variant merge of `commonType` (LatCommonAll) as well; generalisation preserves `GenGood` (`gg_gen`); the law (`Ty.GenOKV`, `gen_asg_var`). -/
namespace Pcore.Lat
variable (cfg : Cfg) (sfh : Bool)

/-! ### well-formed and in `Ty.TA`, constructor by constructor (the lemmas `gg_*` serve `CG` of LatCommonAll as well: the same conjunction) -/
/-- what the proof carries about a type and its generalisations: well-formed and in the fragment of transitivity -/
def GenGood (t : Ty) : Prop := Ty.WF cfg t ∧ t.TA sfh

theorem gg_array (e : Ty) (r : Rng) : GenGood cfg sfh (.array e r) ↔ GenGood cfg sfh e := by
  unfold GenGood; conv => lhs; unfold Ty.WF Ty.TA
theorem gg_hash (k v : Ty) (r : Rng) : GenGood cfg sfh (.hash k v r) ↔ GenGood cfg sfh k ∧ GenGood cfg sfh v := by
  unfold GenGood; conv => lhs; unfold Ty.WF Ty.TA
  constructor
  · rintro ⟨⟨a, b⟩, ⟨e, f⟩⟩; exact ⟨⟨a, e⟩, ⟨b, f⟩⟩
  · rintro ⟨⟨a, e⟩, ⟨b, f⟩⟩; exact ⟨⟨a, b⟩, ⟨e, f⟩⟩
theorem Cov.gg {c : Ty → Ty} (hc : Cov c) (x : Ty) : GenGood cfg sfh (c x) ↔ GenGood cfg sfh x := by
  cases hc <;> (unfold GenGood; conv => lhs; unfold Ty.WF Ty.TA)
theorem gg_variant (ts : List Ty) : GenGood cfg sfh (.variant ts) ↔ ∀ t ∈ ts, GenGood cfg sfh t := by
  unfold GenGood; conv => lhs; unfold Ty.WF Ty.TA
  constructor
  · rintro ⟨a, c⟩ t ht; exact ⟨a t ht, c t ht⟩
  · intro h; exact ⟨fun t ht => (h t ht).1, fun t ht => (h t ht).2⟩
theorem gg_tuple (ts : List Ty) (g : Option Rng) :
    GenGood cfg sfh (.tuple ts g) ↔ ((ts.length : Int) ≤ I64.max) ∧ ∀ t ∈ ts, GenGood cfg sfh t := by
  unfold GenGood; conv => lhs; unfold Ty.WF Ty.TA
  constructor
  · rintro ⟨a, l, c⟩; exact ⟨l, fun t ht => ⟨a t ht, c t ht⟩⟩
  · rintro ⟨l, h⟩; exact ⟨fun t ht => (h t ht).1, l, fun t ht => (h t ht).2⟩
theorem gg_struct (ms : List Member) :
    GenGood cfg sfh (.struct ms) ↔ sfh = false ∧ (ms.map (·.1)).Nodup ∧ ∀ m ∈ ms, GenGood cfg sfh m.2.2 := by
  unfold GenGood; conv => lhs; unfold Ty.WF Ty.TA
  constructor
  · rintro ⟨⟨n, a⟩, s, c⟩; exact ⟨s, n, fun m hm => ⟨a m hm, c m hm⟩⟩
  · rintro ⟨s, n, h⟩; exact ⟨⟨n, fun m hm => (h m hm).1⟩, s, fun m hm => (h m hm).2⟩

theorem gg_iterator (t : Ty) : GenGood cfg sfh (.iterator t) ↔ GenGood cfg sfh t := Cov.gg cfg sfh .iterator t

theorem gg_leaf {t : Ty} (h : t.fragLeaf = true) : GenGood cfg sfh t := ⟨Ty.wf_of_fragLeaf h cfg, Ty.ta_of_fragLeaf h sfh⟩

theorem gg_enum (vs : List String) : GenGood cfg sfh (.enum vs false) :=
  ⟨Ty.wf_enum.2 (fun h => Bool.noConfusion h), by unfold Ty.TA; trivial⟩

/-! ### `UniqueTypes` returns members of its argument, and every member is `Equals` to a returned one; `mkVariant` of a list accepts what a
    member accepts -/
theorem uniqueTyAux_sub (seen gs : List Ty) : ∀ s ∈ uniqueTyAux seen gs, s ∈ gs := by
  induction gs generalizing seen with
  | nil => intro s h; simp [uniqueTyAux] at h
  | cons t ts ih =>
    intro s h
    unfold uniqueTyAux at h
    split at h
    · exact List.mem_cons_of_mem _ (ih seen s h)
    · simp only [List.mem_cons] at h
      rcases h with rfl | h
      · simp
      · exact List.mem_cons_of_mem _ (ih _ s h)

theorem uniqueTy_sub (gs : List Ty) : ∀ s ∈ uniqueTy gs, s ∈ gs := by
  intro s h
  unfold uniqueTy at h
  split at h
  · exact h
  · exact uniqueTyAux_sub [] gs s h

theorem uniqueTyAux_cover (seen gs : List Ty) :
    ∀ g ∈ gs, g ∈ uniqueTyAux seen gs ∨ ∃ s, (s ∈ seen ∨ s ∈ uniqueTyAux seen gs) ∧ tyEq s g = true := by
  induction gs generalizing seen with
  | nil => intro g h; cases h
  | cons t ts ih =>
    intro g hg
    unfold uniqueTyAux
    by_cases hs : seen.any (fun s => tyEq s t) = true
    · simp only [hs, if_true]
      simp only [List.mem_cons] at hg
      rcases hg with rfl | hg
      · right
        simp only [List.any_eq_true] at hs
        obtain ⟨s, h1, h2⟩ := hs
        exact ⟨s, Or.inl h1, h2⟩
      · exact ih seen g hg
    · simp only [hs, if_false, Bool.false_eq_true]
      simp only [List.mem_cons] at hg
      rcases hg with rfl | hg
      · left; simp
      · rcases ih (t :: seen) g hg with h | ⟨s, h1, h2⟩
        · left; exact List.mem_cons_of_mem _ h
        · right
          refine ⟨s, ?_, h2⟩
          rcases h1 with h1 | h1
          · simp only [List.mem_cons] at h1
            rcases h1 with rfl | h1
            · right; simp
            · left; exact h1
          · right; exact List.mem_cons_of_mem _ h1

theorem uniqueTy_cover (gs : List Ty) : ∀ g ∈ gs, g ∈ uniqueTy gs ∨ ∃ s ∈ uniqueTy gs, tyEq s g = true := by
  intro g hg
  unfold uniqueTy
  split
  · left; exact hg
  · rcases uniqueTyAux_cover [] gs g hg with h | ⟨s, h1, h2⟩
    · left; exact h
    · right
      rcases h1 with h1 | h1
      · cases h1
      · exact ⟨s, h1, h2⟩

theorem mkVariant_accepts (us : List Ty) (s : Ty) (hs : s ∈ us) (c : Ty) (h : asg cfg sfh s c = true) :
    asg cfg sfh (mkVariant us) c = true := by
  cases us with
  | nil => cases hs
  | cons u rest =>
    cases rest with
    | nil => simp only [List.mem_singleton] at hs; subst hs; simpa [mkVariant] using h
    | cons u' rest' => simp only [mkVariant]; exact wv_all cfg sfh hs h

theorem gg_mkVariant (us : List Ty) (h : ∀ u ∈ us, GenGood cfg sfh u) : GenGood cfg sfh (mkVariant us) := by
  cases us with
  | nil => simp only [mkVariant]; rw [gg_variant]; intro t ht; cases ht
  | cons u rest =>
    cases rest with
    | nil => simp only [mkVariant]; exact h u (by simp)
    | cons u' rest' => simp only [mkVariant]; rw [gg_variant]; exact h

/-! ### generalisation stays well-formed and inside `Ty.TA` -/
theorem gg_gen (t : Ty) : GenGood cfg sfh t → GenGood cfg sfh (generalize t) ∧ GenGood cfg sfh (genericType t) := by
  have hfl : GenGood cfg sfh floatAll := gg_leaf cfg sfh rfl
  have henum := gg_enum cfg sfh []
  induction t using Ty.indCov with
  | cov c hc x ih => intro gt; rw [hc.gg] at gt; rw [(hc.gen x).1, (hc.gen x).2, hc.gg]; exact ⟨(ih gt).2, (ih gt).2⟩
  | callable p r k => intro gt; have := gt.2; unfold Ty.TA at this; exact absurd this id
  | unit | data | richData | any | undef | dflt | scalar | scalarData | numeric | bin | str => exact fun gt => ⟨gt, gt⟩
  | strSz r | strVal r | pattern r | regexp r | tspan r | tstamp r | object r => exact fun gt => ⟨gg_leaf cfg sfh rfl, gt⟩
  | runtime rt nm pt | bool r | coll r | int r => exact fun _ => ⟨gg_leaf cfg sfh rfl, gg_leaf cfg sfh rfl⟩
  | enum vs ci => exact fun _ => ⟨henum, henum⟩
  | float lo hi => exact fun _ => ⟨hfl, hfl⟩
  | array e r ih =>
    intro gt; rw [gg_array] at gt
    have key : GenGood cfg sfh (if e.isAny then .array .any Rng.pos else .array (generalize e) Rng.pos) := by
      split
      · rw [gg_array]; exact gg_leaf cfg sfh rfl
      · rw [gg_array]; exact (ih gt).1
    exact ⟨key, key⟩
  | hash k v r ihk ihv =>
    intro gt; rw [gg_hash] at gt
    have key : GenGood cfg sfh (.hash (genericType k) (genericType v) Rng.pos) := by
      rw [gg_hash]; exact ⟨(ihk gt.1).2, (ihv gt.2).2⟩
    exact ⟨key, key⟩
  | tuple ts g ih =>
    intro gt; rw [gg_tuple] at gt
    have key : GenGood cfg sfh (.tuple (generalizeL ts) g) := by
      rw [gg_tuple, generalizeL_eq_map, List.length_map]
      refine ⟨gt.1, fun x hx => ?_⟩
      obtain ⟨t', ht', rfl⟩ := List.mem_map.1 hx
      exact (ih t' ht' (gt.2 t' ht')).1
    exact ⟨key, key⟩
  | struct ms ih =>
    intro gt; rw [gg_struct] at gt
    have key : GenGood cfg sfh (.struct (genericM ms)) := by
      rw [gg_struct, genericM_names, genericM_eq_map]
      refine ⟨gt.1, gt.2.1, fun m' hm' => ?_⟩
      obtain ⟨m, hm, rfl⟩ := List.mem_map.1 hm'
      exact (ih m hm (gt.2.2 m hm)).2
    exact ⟨key, key⟩
  | variant ts ih =>
    intro gt; rw [gg_variant] at gt
    have key : GenGood cfg sfh (mkVariant (uniqueTy (generalizeL ts))) := by
      apply gg_mkVariant
      intro u hu
      have hu' := uniqueTy_sub _ u hu
      rw [generalizeL_eq_map] at hu'
      obtain ⟨t', ht', rfl⟩ := List.mem_map.1 hu'
      exact (ih t' ht' (gt t' ht')).1
    exact ⟨key, key⟩

/-! ### the law with Variant: the induction of `gen_asg` (LatGen) with its step lemmas, and the Variant step by transitivity -/
/-- ranges as the constructors allow and Float bounds that are doubles (`Ty.GenOK`), with Variant allowed -/
def Ty.GenOKV (t : Ty) : Prop :=
  match t with
  | .int r | .tspan r => r.inI64
  | .tstamp r => tstampAll.sub r = true
  | .float lo hi => -Fl.inf ≤ lo ∧ hi ≤ Fl.inf
  | .coll r => r.isSize
  | .array e r => r.isSize ∧ Ty.GenOKV e
  | .hash k v r => r.isSize ∧ Ty.GenOKV k ∧ Ty.GenOKV v
  | .tuple ts _ => ∀ t', ∀ (_ : t' ∈ ts), Ty.GenOKV t'
  | .struct ms => ∀ m, ∀ (_ : m ∈ ms), Ty.GenOKV m.2.2
  | .variant ts => ∀ t', ∀ (_ : t' ∈ ts), Ty.GenOKV t'
  | .optional t' | .notUndef t' | .sensitive t' | .iterator t' | .typ t' | .iterable t' => Ty.GenOKV t'
  | _ => True
termination_by t.w
decreasing_by
  all_goals simp_wf
  all_goals (try simp only [Ty.w, Ty.wl, Ty.wm] at *)
  all_goals first
    | omega
    | (have := Ty.w_lt_wl ‹_ ∈ _›; omega)
    | (have := Ty.w_lt_wm ‹_ ∈ _›; omega)

theorem Cov.genOKV {c : Ty → Ty} (hc : Cov c) (x : Ty) : (c x).GenOKV ↔ x.GenOKV := by
  cases hc <;> (conv => lhs; unfold Ty.GenOKV)

theorem gen_asg_var (hl : LowerLen cfg) (t : Ty) : GenGood cfg sfh t → t.GenOKV →
    asg cfg sfh (generalize t) t = true ∧ asg cfg sfh (genericType t) t = true := by
  induction t using Ty.indCov with
  | cov c hc x ih =>
    intro gd gt
    rw [hc.gg] at gd; rw [hc.genOKV] at gt; rw [(hc.gen x).1, (hc.gen x).2]
    exact ⟨mono_cov cfg sfh hc (ih gd gt).2, mono_cov cfg sfh hc (ih gd gt).2⟩
  | variant ts ih =>
    intro gd gt; rw [gg_variant] at gd; unfold Ty.GenOKV at gt
    have key : asg cfg sfh (mkVariant (uniqueTy (generalizeL ts))) (.variant ts) = true := by
      refine asg_variant_of cfg sfh fun x hx => ?_
      have hgx := (ih x hx (gd x hx) (gt x hx)).1
      have ggx := (gg_gen cfg sfh x (gd x hx)).1
      have hmem : generalize x ∈ generalizeL ts := by rw [generalizeL_eq_map]; exact List.mem_map_of_mem hx
      rcases uniqueTy_cover (generalizeL ts) (generalize x) hmem with hk | ⟨s, hs, hse⟩
      · exact mkVariant_accepts cfg sfh _ _ hk x hgx
      · have hs' := uniqueTy_sub _ s hs
        rw [generalizeL_eq_map] at hs'
        obtain ⟨x', hx', rfl⟩ := List.mem_map.1 hs'
        have ggs := (gg_gen cfg sfh x' (gd x' hx')).1
        have hsg := (asg_of_tyEq cfg sfh ggs.1 ggx.1 hse).1
        have := transD cfg sfh hl _ _ x ggs.2 ggx.2 (gd x hx).2 ggs.1 ggx.1 (gd x hx).1 hsg hgx
        exact mkVariant_accepts cfg sfh _ _ hs x this
    exact ⟨key, key⟩
  | array e r ih =>
    intro gd gt; rw [gg_array] at gd; unfold Ty.GenOKV at gt
    exact gen_array cfg sfh e r gt.1 (ih gd gt.2).1
  | hash k v r ihk ihv =>
    intro gd gt; rw [gg_hash] at gd; unfold Ty.GenOKV at gt
    exact gen_hash cfg sfh k v r gt.1 (ihk gd.1 gt.2.1).2 (ihv gd.2 gt.2.2).2
  | tuple ts g ih =>
    intro gd gt; rw [gg_tuple] at gd; unfold Ty.GenOKV at gt
    exact gen_tuple cfg sfh ts g (fun y hm => (ih y hm (gd.2 y hm) (gt y hm)).1)
  | struct ms ih =>
    intro gd gt; rw [gg_struct] at gd; unfold Ty.GenOKV at gt
    exact gen_struct cfg sfh ms gd.2.1 (fun m hm => (ih m hm (gd.2.2 m hm) (gt m hm)).2)
  | _ => intro gd gt; unfold Ty.GenOKV at gt; exact gen_leaf cfg sfh _ gt (asg_self cfg sfh _ gd.1)

end Pcore.Lat

import Pcore.Model.ObjectSchema
import Pcore.Proofs.ListFacts
/-! C17: the Struct instance test on an init-hash; on Model/ObjectSchema and Proofs/ListFacts, apart from the other Proofs/Object*
    modules.  First the test itself: a hash with distinct keys, each a member with a fitting value, passes (`matchCount_present`,
    `structInst_of`).  Then the hypotheses of `C17_schema`, which are DECLARED HERE: the decidable side condition on the
    regenerated table (`schemaOKb`) and the names of a definition (`DefNamesValid`); under them the init-hash of a definition
    passes (`structInst_defHash`). -/
namespace Pcore.Object

/-- StructType.IsInstance counts the MEMBERS whose key the hash holds — a member listed twice is counted twice (the defect
    repaired by 54779d2) -/
theorem matchCount_present {ms : List Member} {h : List (String × SVal)} (hopt : ∀ m ∈ ms, m.optional = true)
    (hinst : ∀ m ∈ ms, ∀ v, h.lookup m.name = some v → sinst m.ty v = true) :
    matchCount ms h = some (ms.filter (fun m => (h.lookup m.name).isSome)).length := by
  induction ms with
  | nil => rfl
  | cons m ms ih =>
    have ih' := ih (fun m' hm' => hopt m' (List.mem_cons_of_mem _ hm')) (fun m' hm' => hinst m' (List.mem_cons_of_mem _ hm'))
    unfold matchCount
    cases hl : h.lookup m.name with
    | none => simp [hopt m List.mem_cons_self, ih', hl]
    | some v => simp [hinst m List.mem_cons_self v hl, ih', hl]

theorem structInst_of {ms : List Member} {h : List (String × SVal)} (hms : (ms.map (·.name)).Nodup)
    (hopt : ∀ m ∈ ms, m.optional = true) (hh : (h.map (·.1)).Nodup)
    (hent : ∀ e ∈ h, ∃ m ∈ ms, m.name = e.1 ∧ sinst m.ty e.2 = true) : structInst ms h = true := by
  have hinst : ∀ m ∈ ms, ∀ v, h.lookup m.name = some v → sinst m.ty v = true := by
    intro m hm v hl
    obtain ⟨m', hm', hn, hs⟩ := hent _ (mem_of_lookup hl)
    obtain rfl : m' = m := nodup_key_inj hms hm' hm hn
    exact hs
  -- the members present and the keys of the hash are the same duplicate-free set of names: equally many
  have hperm : ((ms.filter (fun m => (h.lookup m.name).isSome)).map (·.name)).Perm (h.map (·.1)) := by
    rw [List.perm_ext_iff_of_nodup (nodup_key_sublist List.filter_sublist hms) hh]
    intro n
    simp only [List.mem_map, List.mem_filter]
    constructor
    · rintro ⟨m, ⟨-, hp⟩, rfl⟩
      obtain ⟨v, hv⟩ := Option.isSome_iff_exists.mp hp
      exact ⟨_, mem_of_lookup hv, rfl⟩
    · rintro ⟨e, he, rfl⟩
      obtain ⟨m, hm, hn, -⟩ := hent e he
      refine ⟨m, ⟨hm, ?_⟩, hn⟩
      cases hl : h.lookup m.name with
      | some v => rfl
      | none => exact absurd hn (by simpa using List.lookup_eq_none_iff.mp hl e he)
  have hlen := hperm.length_eq
  rw [List.length_map, List.length_map] at hlen
  unfold structInst
  rw [matchCount_present hopt hinst, hlen]
  exact beq_self_eq_true _

/-- the keys of an init-hash are, in this order, some of the nine keys `InitFromHash` reads: each occurs at most once -/
theorem defHash_keys_nodup (name : Option String) (pk : Bool) (d : Def) : ((defHash name pk d).map (·.1)).Nodup := by
  have hsub : ((defHash name pk d).map (·.1)).Sublist
      (["name"] ++ ["parent"] ++ ["type_parameters"] ++ ["attributes"] ++ ["constants"] ++ ["functions"] ++
        ["equality"] ++ ["equality_include_type"] ++ ["serialization"]) := by
    unfold defHash
    simp only [List.map_append]
    refine .append (.append (.append (.append (.append (.append (.append (.append ?_ ?_) ?_) ?_) ?_) ?_) ?_) ?_) ?_
    · cases name <;> simp
    · cases pk <;> simp
    · split <;> simp
    · split <;> simp
    · split <;> simp
    · split <;> simp
    · cases d.equality <;> simp
    · cases d.includeType <;> simp
    · cases d.serialization <;> simp
  exact hsub.nodup (by decide +kernel)

def Schema.memberTy (s : Schema) (k : String) : Option STy := (s.members.find? (fun m => m.name == k)).map (·.ty)

/-- the source texts `sinst` was written against -/
def expectedTypeDefs : List (String × String) := [
  ("TypeNamePattern", "regexp.MustCompile(`\\A[A-Z][\\w]*(?:::[A-Z][\\w]*)*\\z`)"),
  ("TypeTypeName", "NewPatternType([]*RegexpType{NewRegexpTypeR(TypeNamePattern)})"),
  ("MemberNamePattern", "regexp.MustCompile(`\\A[a-z_]\\w*\\z`)"),
  ("TypeMemberName", "newPatternType2(NewRegexpTypeR(MemberNamePattern))"),
  ("TypeMemberNames", "newArrayType2(TypeMemberName)"),
  ("TypeAttributes", "NewHashType(TypeMemberName, DefaultNotUndefType(), nil)"),
  ("TypeParameters", "NewHashType(TypeMemberName, DefaultNotUndefType(), nil)"),
  ("TypeFunctions", "NewHashType(newVariantType2(TypeMemberName, newPatternType2(NewRegexpTypeR(regexp.MustCompile(`^\\[]$`)))), DefaultNotUndefType(), nil)"),
  ("TypeEquality", "newVariantType2(TypeMemberName, TypeMemberNames)")]

/-- decidable side condition: no member is listed twice (the original defect), every member is optional, the seven members an
    object definition of the universe uses have the value types the model's `sinst` implements, every key `InitFromHash`
    reads is a declared member, and the definitions those types rest on are the ones the model was written against -/
def schemaOKb (s : Schema) : Bool :=
  decide (s.members.map (·.name)).Nodup &&
  s.members.all (·.optional) &&
  s.memberTy "name" == some .typeName &&
  s.memberTy "parent" == some .typeOrTypeName &&
  s.memberTy "type_parameters" == some .parameters &&
  s.memberTy "attributes" == some .attributes &&
  s.memberTy "constants" == some .constants &&
  s.memberTy "functions" == some .functions &&
  s.memberTy "equality" == some .equality &&
  s.memberTy "equality_include_type" == some .boolean &&
  s.memberTy "serialization" == some .memberNames &&
  s.readKeys.all (fun k => s.members.any (fun m => m.name == k)) &&
  s.typeDefs == expectedTypeDefs

theorem entry_ok {s : Schema} {k : String} {ty : STy} {v : SVal} (h : s.memberTy k = some ty) {e : String × SVal}
    (he : e ∈ [(k, v)]) (hv : sinst ty v = true) : ∃ m ∈ s.members, m.name = e.1 ∧ sinst m.ty e.2 = true := by
  obtain rfl := List.mem_singleton.mp he
  unfold Schema.memberTy at h
  cases hf : s.members.find? (fun m => m.name == k) with
  | none => simp [hf] at h
  | some m =>
    simp [hf] at h
    exact ⟨m, (find_key_some hf).1, (find_key_some hf).2, h ▸ hv⟩

theorem keysEntry_ok {s : Schema} {k : String} {ty : STy} {α : Type} {l : List α} {key : α → String}
    (h : s.memberTy k = some ty) (hty : ∀ ks : List String, ks.all memberName = true → sinst ty (.hashOf ks) = true)
    (hl : ∀ x ∈ l, memberName (key x) = true) {e : String × SVal}
    (he : e ∈ (if l.isEmpty then [] else [(k, SVal.hashOf (l.map key))])) :
    ∃ m ∈ s.members, m.name = e.1 ∧ sinst m.ty e.2 = true := by
  split at he
  · cases he
  · refine entry_ok h he (hty _ ?_)
    simp only [List.all_eq_true, List.mem_map]
    rintro n ⟨x, hx, rfl⟩
    exact hl x hx

/-- every name of the definition matches MemberNamePattern (what the driver's universe guarantees: `nameOf`) -/
structure DefNamesValid (d : Def) : Prop where
  params : ∀ q ∈ d.params, memberName q.1 = true
  attrs : ∀ a ∈ d.attrs, memberName a.name = true
  constants : ∀ c ∈ d.constants, memberName c.1 = true
  funcs : ∀ f ∈ d.funcs, memberName f.name = true
  equality : ∀ n ∈ d.equality.toList?.getD [], memberName n = true
  serialization : ∀ ser, d.serialization = some ser → ∀ n ∈ ser, memberName n = true

theorem structInst_defHash (s : Schema) (hs : schemaOKb s = true) (d : Def) (hd : DefNamesValid d)
    (name : Option String) (hn : ∀ n, name = some n → typeName n = true) (pk : Bool) :
    structInst s.members (defHash name pk d) = true := by
  unfold schemaOKb at hs
  simp only [Bool.and_eq_true, decide_eq_true_eq, List.all_eq_true, beq_iff_eq] at hs
  obtain ⟨⟨⟨⟨⟨⟨⟨⟨⟨⟨⟨⟨hnd, hopt⟩, hName⟩, hParent⟩, hParams⟩, hAttrs⟩, hConsts⟩, hFuncs⟩, hEq⟩, hInc⟩, hSer⟩, _⟩, _⟩ := hs
  apply structInst_of hnd hopt
  · exact defHash_keys_nodup name pk d
  · intro e he
    unfold defHash at he
    simp only [List.mem_append] at he
    rcases he with (((((((he | he) | he) | he) | he) | he) | he) | he) | he
    · cases name with
      | none => cases he
      | some n => exact entry_ok hName he (hn n rfl)
    · cases pk with
      | false => cases he
      | true => exact entry_ok hParent he rfl
    · exact keysEntry_ok hParams (fun _ h => h) hd.params he
    · exact keysEntry_ok hAttrs (fun _ h => h) hd.attrs he
    · exact keysEntry_ok hConsts (fun _ h => h) hd.constants he
    · refine keysEntry_ok hFuncs (fun ks h => ?_) hd.funcs he
      simp only [sinst, List.all_eq_true, Bool.or_eq_true] at h ⊢
      exact fun k hk => Or.inl (h k hk)
    · cases hq : d.equality with
      | absent => rw [hq] at he; cases he
      | one q =>
        rw [hq] at he
        exact entry_ok hEq he (hd.equality q (by simp [hq, EqDecl.toList?]))
      | many l =>
        rw [hq] at he
        refine entry_ok hEq he ?_
        simp only [sinst, List.all_eq_true]
        exact fun n hn' => hd.equality n (by simp [hq, EqDecl.toList?, hn'])
    · cases hi : d.includeType with
      | none => rw [hi] at he; cases he
      | some b => rw [hi] at he; exact entry_ok hInc he rfl
    · cases hser : d.serialization with
      | none => rw [hser] at he; cases he
      | some l =>
        rw [hser] at he
        refine entry_ok hSer he ?_
        simp only [sinst, List.all_eq_true]
        exact hd.serialization l hser

end Pcore.Object

import Pcore.Proofs.ObjectConstruct
/-! C17: `Equals` of `Valid` instances is `Get` agreeing on the equality attributes (`equalityWith`, for either answer of
    "the types are Equal"). -/
namespace Pcore.Object

theorem get_at {t : OType} {vs : List Val} (hw : WF t) (hv : Valid { typ := t, values := vs }) {n : String} {i : Nat}
    (hi : nameToPos (posAttrs t) n = some i) :
    get { typ := t, values := vs } n = .ok ((den (posAttrs t) vs)[i]?) := by
  obtain ⟨a, ha, rfl⟩ := nameToPos_get hi
  exact get_pos hw hv.req ha

theorem equalityWith_same {t : OType} {vs vs' : List Val} (hw : WF t) (hv : Valid { typ := t, values := vs })
    (hv' : Valid { typ := t, values := vs' }) :
    equalsWith true { typ := t, values := vs } { typ := t, values := vs' } = .ok true ↔
      ∀ n ∈ eqAttrNames t, get { typ := t, values := vs } n = get { typ := t, values := vs' } n := by
  rw [equalsWith_den hw hv.req hv'.req]
  simp only [Except.ok.injEq, List.all_eq_true, beq_iff_eq]
  constructor
  · intro hall n hn
    obtain ⟨i, hi⟩ := eqAttrNames_pos hw.nodup hn
    rw [get_at hw hv hi, get_at hw hv' hi, hall i ((mem_eqPositions hw.nodup).mpr ⟨_, hn, hi⟩)]
  · intro hget i hi
    obtain ⟨n, hn, hpos⟩ := (mem_eqPositions hw.nodup).mp hi
    have := hget _ hn
    rw [get_at hw hv hpos, get_at hw hv' hpos] at this
    exact Except.ok.inj this

theorem equalityWith_cross {t t' : OType} {vs vs' : List Val} (hw : WF t) (hw' : WF t')
    (hv : Valid { typ := t, values := vs }) (hv' : Valid { typ := t', values := vs' }) :
    equalsWith false { typ := t, values := vs } { typ := t', values := vs' } = .ok true ↔
      (includesType t = false ∧ includesType t' = false ∧ (eqAttrNames t).length = (eqAttrNames t').length ∧
        ∀ n ∈ eqAttrNames t, n ∈ eqAttrNames t' ∧
          get { typ := t, values := vs } n = get { typ := t', values := vs' } n) := by
  rw [equalsWith_cross hw hw' hv.req hv'.req]
  simp only [Except.ok.injEq, Bool.and_eq_true, Bool.not_eq_true', Bool.or_eq_false_iff, beq_iff_eq,
    List.all_eq_true, eqPositions_length, crossStep_iff]
  constructor
  · rintro ⟨⟨⟨h1, h2⟩, hl⟩, hall⟩
    refine ⟨h1, h2, hl, fun n hn => ?_⟩
    obtain ⟨i, hi⟩ := eqAttrNames_pos hw.nodup hn
    obtain ⟨a, j, ha, hj, hmem, hden⟩ := hall i ((mem_eqPositions hw.nodup).mpr ⟨_, hn, hi⟩)
    obtain ⟨a0, ha0, rfl⟩ := nameToPos_get hi
    rw [ha] at ha0
    cases ha0
    -- the position `j` the other type compares is that of the same name
    obtain ⟨m, hm, hmj⟩ := (mem_eqPositions hw'.nodup).mp hmem
    obtain rfl := nameToPos_inj hmj hj
    exact ⟨hm, by rw [get_at hw hv hi, hden, get_at hw' hv' hj]⟩
  · rintro ⟨h1, h2, hl, hall⟩
    refine ⟨⟨⟨h1, h2⟩, hl⟩, fun i hi => ?_⟩
    obtain ⟨n, hn, hpos⟩ := (mem_eqPositions hw.nodup).mp hi
    obtain ⟨a, ha, rfl⟩ := nameToPos_get hpos
    obtain ⟨hn', hget⟩ := hall _ hn
    obtain ⟨j, hj⟩ := eqAttrNames_pos hw'.nodup hn'
    rw [get_at hw hv hpos, get_at hw' hv' hj] at hget
    exact ⟨a, j, ha, hj, (mem_eqPositions hw'.nodup).mpr ⟨_, hn', hj⟩, Except.ok.inj hget⟩

/-- `Equals` for either answer `b` of "the types are Equal" (`objectType.Equals` for plain instances, with the bindings for
    instances of parameterized types), given that Equal types of one loader are the same type -/
theorem equalityWith {o o' : Obj} (b : Bool) (hw : WF o.typ) (hw' : WF o'.typ) (hv : Valid o) (hv' : Valid o')
    (hb : b = true → o'.typ = o.typ) :
    equalsWith b o o' = .ok true ↔
      ((b = true ∧ ∀ n ∈ eqAttrNames o.typ, get o n = get o' n) ∨
       (b = false ∧ includesType o.typ = false ∧ includesType o'.typ = false ∧
          (eqAttrNames o.typ).length = (eqAttrNames o'.typ).length ∧
          ∀ n ∈ eqAttrNames o.typ, n ∈ eqAttrNames o'.typ ∧ get o n = get o' n)) := by
  obtain ⟨t, vs⟩ := o
  obtain ⟨t', vs'⟩ := o'
  cases b with
  | true =>
    obtain rfl : t' = t := hb rfl
    rw [equalityWith_same hw hv hv']
    simp
  | false =>
    rw [equalityWith_cross hw hw' hv hv']
    simp

end Pcore.Object

import Pcore.Proofs.LatReflAll
import Pcore.Proofs.LatInfer
set_option linter.unusedSimpArgs false
/-! C04: the family `Ty.Fam` of types inferred for values that hold no type values, and `commonType` on it — proved for any family that
    unfolds to the layer `FamStep`, so that the family with type values (`Ty.FamT`, LatFamT) is a second instance.  Parts: the family and its
    layer; the single merges of `commonType` (hulls, Enum with Enum / String literal, the branches of `commonF`, the tail) for arbitrary types,
    shared with LatCommonAll; `commonType` as an upper bound inside any family with layer `FamStep` (`common_famStep`), which makes the family
    an `InferFam` (LatInfer); the instance `Ty.Fam`, and from it the second and third law of C04 for values without type values. -/
namespace Pcore.Lat
variable (cfg : Cfg) (sfh : Bool)

/-- The family of types that `PType()` produces for values without type values, closed under `commonType`: the singleton / range
    types of scalars, case-sensitive Enums (merged string literals), the tail types Numeric … Any, and Arrays / Hashes / Sensitive
    over them; Unit only as the element type of a collection whose maximal size is 0. -/
def Ty.Fam (t : Ty) : Prop :=
  match t with
  | .any | .undef | .dflt | .scalar | .scalarData | .numeric | .data | .richData | .bin | .str => True
  | .int _ | .float _ _ | .bool _ | .tspan _ | .tstamp _ | .strVal _ | .regexp _ | .object _ => True
  | .enum _ ci => ci = false
  | .array e r => ((match e with | .unit => True | _ => False) ∧ r.hi ≤ 0) ∨ Ty.Fam e
  | .hash k v r => ((match k with | .unit => True | _ => False) ∧ (match v with | .unit => True | _ => False) ∧ r.hi ≤ 0) ∨
      (Ty.Fam k ∧ Ty.Fam v)
  | .sensitive t' => Ty.Fam t'
  | _ => False
termination_by t.w
decreasing_by
  all_goals simp_wf
  all_goals (try simp only [Ty.w, Ty.wl, Ty.wm] at *)
  all_goals omega

/-- one layer of `Ty.Fam` and of its extension by type values (`Ty.FamT`, LatFamT): `F` holds of the component types, `TV` of what
    stands inside `Type[..]` -/
def FamStep (F TV : Ty → Prop) : Ty → Prop
  | .any | .undef | .dflt | .scalar | .scalarData | .numeric | .data | .richData | .bin | .str => True
  | .int _ | .float _ _ | .bool _ | .tspan _ | .tstamp _ | .strVal _ | .regexp _ | .object _ => True
  | .enum _ ci => ci = false
  | .array e r => ((match e with | .unit => True | _ => False) ∧ r.hi ≤ 0) ∨ F e
  | .hash k v r => ((match k with | .unit => True | _ => False) ∧ (match v with | .unit => True | _ => False) ∧ r.hi ≤ 0) ∨ (F k ∧ F v)
  | .sensitive t' => F t'
  | .typ t' => TV t'
  | _ => False

theorem Ty.Fam.step (t : Ty) : t.Fam ↔ FamStep Ty.Fam (fun _ => False) t := by
  cases t <;> (conv => lhs; unfold Ty.Fam) <;> exact Iff.rfl

/-! ### the single merges of `commonType`, for arbitrary types: each result accepts both arguments -/
theorem common_int (r r' : Rng) : asg cfg sfh (.int (r.hull r')) (.int r) = true ∧ asg cfg sfh (.int (r.hull r')) (.int r') = true :=
  ⟨asg_of_recv cfg sfh (.inl rfl) (by unfold asgRecv; exact hull_sub_l r r'), asg_of_recv cfg sfh (.inl rfl) (by unfold asgRecv; exact hull_sub_r r r')⟩

theorem common_float (l h l' h' : Fl) :
    asg cfg sfh (.float (min l l') (max h h')) (.float l h) = true ∧ asg cfg sfh (.float (min l l') (max h h')) (.float l' h') = true := by
  constructor <;> apply asg_of_recv cfg sfh (.inl rfl) <;> unfold asgRecv <;> simp only [Bool.and_eq_true, decide_eq_true_eq]
  · exact ⟨Fl.effLo_mono (Int.min_le_left _ _), Fl.effHi_mono (Int.le_max_left _ _)⟩
  · exact ⟨Fl.effLo_mono (Int.min_le_right _ _), Fl.effHi_mono (Int.le_max_right _ _)⟩

/-- the default Enum accepts every string type: an Enum that rejects one has values -/
theorem enum_vals_ne {vs : List String} {ci : Bool} {b : Ty} (hf : isStringFamily b = true) (hp : b.plainR = true)
    (hn : asg cfg sfh (.enum vs ci) b = false) : vs ≠ [] := by
  intro hv; subst hv
  rw [asg_of_recv cfg sfh (.inl hp) (by unfold asgRecv; simp [hf])] at hn; cases hn

/-- `NewEnumType` of a list with a member: an Enum whose values (lower-cased when case-insensitive) are not empty -/
theorem mkEnum_of_mem {us : List String} {s : String} (hs : s ∈ us) (cj : Bool) :
    ∃ ws, mkEnum cfg us cj = .enum ws cj ∧ ws ≠ [] ∧ ∀ x ∈ us, (if cj then cfg.lower x else x) ∈ ws := by
  have hne : us.isEmpty = false := by cases us <;> simp_all
  refine ⟨if cj then us.map cfg.lower else us, by unfold mkEnum; simp [hne], by cases cj <;> simp_all, fun x hx => ?_⟩
  cases cj
  · simpa using hx
  · simp only [if_true]; exact List.mem_map_of_mem hx

theorem mkEnum_accepts_strVal {us : List String} {s : String} (hs : s ∈ us) (cj : Bool) :
    asg cfg sfh (mkEnum cfg us cj) (.strVal s) = true := by
  obtain ⟨ws, e, hw, hm⟩ := mkEnum_of_mem cfg hs cj
  rw [e]; exact enum_recv_strVal cfg sfh ws cj s hw (hm s hs)

theorem mkEnum_accepts_enum {us vs : List String} {cj ci : Bool} (hvs : vs ≠ []) (hc : cj = true ∨ ci = false)
    (hsub : ∀ s ∈ vs, s ∈ us) : asg cfg sfh (mkEnum cfg us cj) (.enum vs ci) = true := by
  obtain ⟨v, hv⟩ := List.exists_mem_of_ne_nil vs hvs
  obtain ⟨ws, e, hw, hm⟩ := mkEnum_of_mem cfg (hsub v hv) cj
  rw [e]; exact enum_recv_enum cfg sfh ws vs cj ci hw hvs hc fun s hs => hm s (hsub s hs)

theorem common_enum_strVal (vs : List String) (ci : Bool) (s : String) (hv : vs ≠ []) :
    asg cfg sfh (mkEnum cfg (vs ++ [s]).eraseDups ci) (.enum vs ci) = true ∧
    asg cfg sfh (mkEnum cfg (vs ++ [s]).eraseDups ci) (.strVal s) = true :=
  ⟨mkEnum_accepts_enum cfg sfh hv (by cases ci <;> simp) fun x hx => List.mem_eraseDups.2 (by simp [hx]),
   mkEnum_accepts_strVal cfg sfh (List.mem_eraseDups.2 (by simp)) ci⟩

theorem common_enum_enum (vs vs' : List String) (ci ci' : Bool) (hv : vs ≠ []) (hv' : vs' ≠ []) :
    asg cfg sfh (mkEnum cfg (vs ++ vs').eraseDups (ci || ci')) (.enum vs ci) = true ∧
    asg cfg sfh (mkEnum cfg (vs ++ vs').eraseDups (ci || ci')) (.enum vs' ci') = true :=
  ⟨mkEnum_accepts_enum cfg sfh hv (by cases ci <;> cases ci' <;> simp) fun x hx => List.mem_eraseDups.2 (by simp [hx]),
   mkEnum_accepts_enum cfg sfh hv' (by cases ci <;> cases ci' <;> simp) fun x hx => List.mem_eraseDups.2 (by simp [hx])⟩

theorem commonF_unit_l (n : Nat) (b : Ty) : commonF cfg sfh (n + 1) .unit b = b := by unfold commonF; rfl

theorem commonF_unit_r (n : Nat) {a : Ty} (ua : a.isUnit = false) : commonF cfg sfh (n + 1) a .unit = a := by
  unfold commonF; rw [ua]; simp only [Ty.isUnit, Bool.false_eq_true, if_false, if_true]

theorem commonF_left {n : Nat} {a b : Ty} (ua : a.isUnit = false) (ub : b.isUnit = false) (h : asg cfg sfh a b = true) :
    commonF cfg sfh (n + 1) a b = a := by
  unfold commonF; simp only [ua, ub, h, Bool.false_eq_true, if_false, if_true]

theorem commonF_right {n : Nat} {a b : Ty} (ua : a.isUnit = false) (ub : b.isUnit = false) (h1 : asg cfg sfh a b = false)
    (h2 : asg cfg sfh b a = true) : commonF cfg sfh (n + 1) a b = b := by
  unfold commonF; simp only [ua, ub, h1, h2, Bool.false_eq_true, if_false, if_true]

theorem commonTail_cases (a b : Ty) (P : Ty → Prop) (h1 : P .numeric) (h2 : P .scalarData) (h3 : P .scalar) (h4 : P .data)
    (h5 : P .richData) (h6 : P .any) :
    P (commonTail cfg sfh a b) ∧ asg cfg sfh (commonTail cfg sfh a b) a = true ∧ asg cfg sfh (commonTail cfg sfh a b) b = true := by
  unfold commonTail
  let Q : Ty → Prop := fun t => P t ∧ asg cfg sfh t a = true ∧ asg cfg sfh t b = true
  show Q _
  refine iteInduction (motive := Q) (fun h => ⟨h1, (Bool.and_eq_true _ _).mp h⟩) fun _ => ?_
  refine iteInduction (motive := Q) (fun h => ⟨h2, (Bool.and_eq_true _ _).mp h⟩) fun _ => ?_
  refine iteInduction (motive := Q) (fun h => ⟨h3, (Bool.and_eq_true _ _).mp h⟩) fun _ => ?_
  refine iteInduction (motive := Q) (fun h => ⟨h4, (Bool.and_eq_true _ _).mp h⟩) fun _ => ?_
  refine iteInduction (motive := Q) (fun h => ⟨h5, (Bool.and_eq_true _ _).mp h⟩) fun _ => ?_
  exact ⟨h6, asg_any_l cfg sfh a, asg_any_l cfg sfh b⟩

/-! ### in a family that unfolds to `FamStep`, `commonType` is an upper bound that stays in the family; the family is an `InferFam` -/
section
variable {F TV : Ty → Prop} (hF : ∀ t, F t ↔ FamStep F TV t)
include hF

theorem famStep_good (hTV : ∀ x, TV x → Ty.WF cfg x ∧ x.TA sfh) (t : Ty) : F t → Ty.Good cfg sfh t := by
  induction t using Ty.ind with
  | any | undef | dflt | scalar | scalarData | numeric | data | richData | bin | str | int _ | float _ _ | bool _ | tspan _ | tstamp _
  | strVal _ | regexp _ | object _ =>
    exact fun _ => ⟨Ty.frag_of_fragLeaf rfl sfh, Ty.wf_of_fragLeaf rfl cfg, Ty.us_of_fragLeaf rfl⟩
  | enum vs ci =>
    intro h; cases (show ci = false from (hF _).1 h)
    exact ⟨by unfold Ty.Frag; trivial, by unfold Ty.WF; exact (fun h => Bool.noConfusion h), by unfold Ty.US; trivial⟩
  | array e r ih =>
    intro h
    rcases (hF _).1 h with ⟨he, hr⟩ | h
    · cases e <;> first | exact absurd he id | skip
      exact ⟨by unfold Ty.Frag Ty.Frag; trivial, by unfold Ty.WF Ty.WF; trivial, by unfold Ty.US; exact Or.inl hr⟩
    · obtain ⟨g1, g2, g3⟩ := ih h
      exact ⟨by unfold Ty.Frag; exact g1, by unfold Ty.WF; exact g2, by unfold Ty.US; exact Or.inr g3⟩
  | hash k v r ihk ihv =>
    intro h
    rcases (hF _).1 h with ⟨hk, hv, hr⟩ | h
    · cases k <;> first | exact absurd hk id | skip
      cases v <;> first | exact absurd hv id | skip
      exact ⟨by unfold Ty.Frag Ty.Frag; exact ⟨trivial, trivial⟩, by unfold Ty.WF Ty.WF; exact ⟨trivial, trivial⟩, by unfold Ty.US; exact Or.inl hr⟩
    · obtain ⟨a1, a2, a3⟩ := ihk h.1
      obtain ⟨b1, b2, b3⟩ := ihv h.2
      exact ⟨by unfold Ty.Frag; exact ⟨a1, b1⟩, by unfold Ty.WF; exact ⟨a2, b2⟩, by unfold Ty.US; exact Or.inr ⟨a3, b3⟩⟩
  | typ x =>
    intro h
    obtain ⟨w, f⟩ := hTV x ((hF _).1 h)
    exact ⟨by unfold Ty.Frag; exact f, by unfold Ty.WF; exact w, by unfold Ty.US; exact Ty.us_of_ta sfh x f⟩
  | sensitive x ih =>
    intro h
    obtain ⟨g1, g2, g3⟩ := ih ((hF _).1 h)
    exact ⟨by unfold Ty.Frag; exact g1, by unfold Ty.WF; exact g2, by unfold Ty.US; exact g3⟩
  | _ => exact fun h => absurd ((hF _).1 h) id

theorem famStep_refl (hTV : ∀ x, TV x → Ty.WF cfg x ∧ x.TA sfh) {t : Ty} (h : F t) : asg cfg sfh t t = true :=
  asg_self cfg sfh t (famStep_good cfg sfh hF hTV t h).2.1

theorem famStep_not_unit {t : Ty} (h : F t) : t.isUnit = false := by
  replace h := (hF t).1 h
  cases t <;> first | rfl | exact absurd h id

theorem famStep_mkEnum (us : List String) : F (mkEnum cfg us false) := by
  unfold mkEnum; split <;> exact (hF _).2 rfl

/-- the element types of two inferred Arrays (Unit when the maximal size is 0, else a member of the family) and their common type -/
theorem ext_common (hTV : ∀ x, TV x → Ty.WF cfg x ∧ x.TA sfh) (n : Nat)
    (ih : ∀ (a b : Ty), F a → F b → F (commonF cfg sfh n a b) ∧ asg cfg sfh (commonF cfg sfh n a b) a = true ∧
      asg cfg sfh (commonF cfg sfh n a b) b = true)
    (x y : Ty) (rx ry : Rng) (hx : FamStep F TV (.array x rx)) (hy : FamStep F TV (.array y ry)) :
    FamStep F TV (.array (commonF cfg sfh n x y) (rx.hull ry)) ∧
    (rx.hi ≤ 0 ∨ asg cfg sfh (commonF cfg sfh n x y) x = true) ∧ (ry.hi ≤ 0 ∨ asg cfg sfh (commonF cfg sfh n x y) y = true) := by
  have hany : F .any := (hF _).2 trivial
  rcases hx with ⟨hxu, hxr⟩ | hx
  · cases x <;> first | exact absurd hxu id | skip
    rcases hy with ⟨hyu, hyr⟩ | hy
    · cases y <;> first | exact absurd hyu id | skip
      refine ⟨?_, Or.inl hxr, Or.inl hyr⟩
      cases n with
      | zero => right; unfold commonF; exact hany
      | succ k => left; rw [commonF_unit_l]; exact ⟨trivial, by simp only [Rng.hull]; omega⟩
    · cases n with
      | zero => unfold commonF; exact ⟨Or.inr hany, Or.inl hxr, Or.inr (asg_any_l cfg sfh y)⟩
      | succ k =>
        rw [commonF_unit_l]
        exact ⟨Or.inr hy, Or.inl hxr, Or.inr (famStep_refl cfg sfh hF hTV hy)⟩
  · rcases hy with ⟨hyu, hyr⟩ | hy
    · cases y <;> first | exact absurd hyu id | skip
      cases n with
      | zero => unfold commonF; exact ⟨Or.inr hany, Or.inr (asg_any_l cfg sfh x), Or.inl hyr⟩
      | succ k =>
        rw [commonF_unit_r cfg sfh k (famStep_not_unit hF hx)]
        exact ⟨Or.inr hx, Or.inr (famStep_refl cfg sfh hF hTV hx), Or.inl hyr⟩
    · obtain ⟨h1, h2, h3⟩ := ih x y hx hy
      exact ⟨Or.inr h1, Or.inr h2, Or.inr h3⟩

theorem common_famStep (hTV : ∀ x, TV x → Ty.WF cfg x ∧ x.TA sfh)
    (htyp : ∀ n x y, TV x → TV y → TV (commonF cfg sfh n x y) ∧ asg cfg sfh (commonF cfg sfh n x y) x = true ∧
      asg cfg sfh (commonF cfg sfh n x y) y = true) :
    ∀ (n : Nat) (a b : Ty), F a → F b → F (commonF cfg sfh n a b) ∧ asg cfg sfh (commonF cfg sfh n a b) a = true ∧
      asg cfg sfh (commonF cfg sfh n a b) b = true := by
  intro n
  induction n with
  | zero => intro a b _ _; unfold commonF; exact ⟨(hF _).2 trivial, asg_any_l cfg sfh a, asg_any_l cfg sfh b⟩
  | succ n ih =>
    intro a b ha hb
    have ua := famStep_not_unit hF ha
    have ub := famStep_not_unit hF hb
    by_cases h1 : asg cfg sfh a b = true
    · rw [commonF_left cfg sfh ua ub h1]; exact ⟨ha, famStep_refl cfg sfh hF hTV ha, h1⟩
    have h1' := eq_false_of_ne_true h1
    by_cases h2 : asg cfg sfh b a = true
    · rw [commonF_right cfg sfh ua ub h1' h2]; exact ⟨hb, h2, famStep_refl cfg sfh hF hTV hb⟩
    have h2' := eq_false_of_ne_true h2
    have tl := commonTail_cases cfg sfh a b F ((hF _).2 trivial) ((hF _).2 trivial) ((hF _).2 trivial) ((hF _).2 trivial)
      ((hF _).2 trivial) ((hF _).2 trivial)
    unfold commonF
    simp only [ua, ub, h1', h2', Bool.false_eq_true, if_false]
    have ha' := (hF a).1 ha
    have hb' := (hF b).1 hb
    -- the merges in the order of `commonality.go` (Enum, String with a size, String literal, Array, Float, Integer, Iterable, Iterator,
    -- Runtime, NotUndef, Pattern, Tuple, Type, Variant, then the tail); those of types outside the family do not arise
    split
    · rename_i vs ci
      cases (show ci = false from ha')
      split
      · exact ⟨famStep_mkEnum cfg hF _, common_enum_strVal cfg sfh _ _ _ (enum_vals_ne cfg sfh rfl rfl h1')⟩
      · rw [str_accepts cfg sfh _ rfl rfl] at h2'; cases h2'
      · exact absurd hb' id
      · rename_i vs' ci'
        cases (show ci' = false from hb')
        exact ⟨famStep_mkEnum cfg hF _,
          common_enum_enum cfg sfh _ _ _ _ (enum_vals_ne cfg sfh rfl rfl h1') (enum_vals_ne cfg sfh rfl rfl h2')⟩
      · exact tl
    · exact absurd ha' id
    · rename_i s
      split
      · exact ⟨(hF _).2 rfl, enum_recv_strVal cfg sfh _ false s (by simp) (by simp), enum_recv_strVal cfg sfh _ false _ (by simp) (by simp)⟩
      · rw [str_accepts cfg sfh _ rfl rfl] at h2'; cases h2'
      · exact absurd hb' id
      · obtain ⟨f, l, r⟩ := ih _ _ hb ha
        exact ⟨f, r, l⟩
      · exact tl
    · rename_i e r
      split
      · rename_i e' r'
        obtain ⟨hc1, hc2, hc3⟩ := ext_common cfg sfh hF hTV n ih e e' r r' ha' hb'
        exact ⟨(hF _).2 hc1, asg_array_of cfg sfh (hull_sub_l r r') hc2, asg_array_of cfg sfh (hull_sub_r r r') hc3⟩
      · exact tl
    · split
      · exact ⟨(hF _).2 trivial, common_float cfg sfh _ _ _ _⟩
      · exact tl
    · split
      · exact ⟨(hF _).2 trivial, common_int cfg sfh _ _⟩
      · exact tl
    · exact absurd ha' id
    · exact absurd ha' id
    · exact absurd ha' id
    · exact absurd ha' id
    · exact absurd ha' id
    · exact absurd ha' id
    · -- Type: `commonType(Type[x], Type[y]) = Type[commonType(x, y)]`
      split
      · obtain ⟨g, u1, u2⟩ := htyp n _ _ ha' hb'
        exact ⟨(hF _).2 g, mono_typ cfg sfh _ _ u1, mono_typ cfg sfh _ _ u2⟩
      · exact tl
    · exact absurd ha' id
    · exact tl

theorem famStep_inferFam (hTV : ∀ x, TV x → Ty.WF cfg x ∧ x.TA sfh)
    (htyp : ∀ n x y, TV x → TV y → TV (commonF cfg sfh n x y) ∧ asg cfg sfh (commonF cfg sfh n x y) x = true ∧
      asg cfg sfh (commonF cfg sfh n x y) y = true) : InferFam cfg sfh F TV where
  good := famStep_good cfg sfh hF hTV
  closed := fun a b ha hb => (common_famStep cfg sfh hF hTV htyp _ a b ha hb).1
  left := fun a b ha hb => (common_famStep cfg sfh hF hTV htyp _ a b ha hb).2.1
  right := fun a b ha hb => (common_famStep cfg sfh hF hTV htyp _ a b ha hb).2.2
  leaf := ⟨(hF _).2 trivial, (hF _).2 trivial, fun _ => (hF _).2 trivial, fun _ => (hF _).2 trivial, fun _ => (hF _).2 trivial,
    fun _ => (hF _).2 trivial, fun _ => (hF _).2 trivial, (hF _).2 trivial, fun _ => (hF _).2 trivial, fun _ => (hF _).2 trivial,
    fun _ => (hF _).2 trivial⟩
  typv := fun t h => ⟨(hF _).2 h, asg_self cfg sfh t (hTV t h).1⟩
  sens := fun t h => (hF _).2 h
  arr0 := (hF _).2 (Or.inl ⟨trivial, by simp⟩)
  arr := fun e r h => (hF _).2 (Or.inr h)
  hash0 := (hF _).2 (Or.inl ⟨trivial, trivial, by simp⟩)
  hash := fun k v r hk hv => (hF _).2 (Or.inr ⟨hk, hv⟩)

end

/-! ### the instance `Ty.Fam`; the second and third law of C04 for values without type values -/
def CF (a b c : Ty) : Prop := c.Fam ∧ asg cfg sfh c a = true ∧ asg cfg sfh c b = true

theorem common_fam : ∀ (n : Nat) (a b : Ty), a.Fam → b.Fam → CF cfg sfh a b (commonF cfg sfh n a b) :=
  common_famStep cfg sfh Ty.Fam.step (fun _ h => absurd h id) (fun _ _ _ h => absurd h id)

theorem fam_inferFam : InferFam cfg sfh Ty.Fam (fun _ => False) :=
  famStep_inferFam cfg sfh Ty.Fam.step (fun _ h => absurd h id) (fun _ _ _ h => absurd h id)

/-- SECOND LAW of C04 for every value that holds no type value and no hash of the empty-string-key shape -/
theorem dtype_fam (hl : LowerLen cfg) (v : Val) (ok : v.OK) (tv : Val.TyOKS cfg sfh v) (nt : Val.AllTyp (fun _ => False) v)
    (ne : Val.NoEmptyKey v) : Val.Structy cfg sfh v :=
  (dtype_fam_both cfg sfh hl _ _ (fam_inferFam cfg sfh) v ok tv nt ne).1

omit sfh in
/-- the detailed type of such a value meets the side conditions of C01 (rule off: it may hold Structs) -/
theorem dtype_good (hl : ∀ s, (cfg.lower s).length = s.length) : ∀ (n : Nat) (v : Val), v.w ≤ n → v.OK → Val.TyOKS cfg false v →
    Val.AllTyp (fun _ => False) v → Val.NoEmptyKey v → Ty.Good cfg false (dtype cfg false v) :=
  fun _ v _ ok tv nt ne => (dtype_fam_both cfg false hl _ _ (fam_inferFam cfg false) v ok tv nt ne).2 rfl

omit sfh in
/-- the third law of C04 (rule off) for a family on which `commonType` is a well-behaved upper bound: whatever fragment type accepts the
    detailed type of a value contains the value — the detailed type is a fragment type the value is an instance of, so this is soundness -/
theorem accepts_sound_of (hl : LowerLen cfg) {G TV : Ty → Prop} (U : InferFam cfg false G TV) (t : Ty) (v : Val)
    (ft : t.Frag false) (wt : Ty.WF cfg t) (ok : v.OK) (tv : Val.TyOKS cfg false v) (at' : Val.AllTyp TV v) (ne : Val.NoEmptyKey v)
    (h : asg cfg false t (dtype cfg false v) = true) : inst cfg false t v = true :=
  have ⟨s, g⟩ := dtype_fam_both cfg false hl G TV U v ok tv at' ne
  sound cfg false hl ⟨ft, (g rfl).1, wt, (g rfl).2.1, (g rfl).2.2, ok, tv⟩ h (dtype_structy cfg false v s)

omit sfh in
theorem accepts_dtype_sound (hl : LowerLen cfg) (t : Ty) (v : Val)
    (ft : t.Frag false) (wt : Ty.WF cfg t) (ok : v.OK) (tv : Val.TyOKS cfg false v)
    (nt : Val.AllTyp (fun _ => False) v) (ne : Val.NoEmptyKey v)
    (h : asg cfg false t (dtype cfg false v) = true) : inst cfg false t v = true :=
  accepts_sound_of cfg hl (fam_inferFam cfg false) t v ft wt ok tv nt ne h

end Pcore.Lat

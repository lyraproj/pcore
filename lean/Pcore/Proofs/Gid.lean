import Pcore.Model.Gid
import Pcore.Proofs.Digits

/-!
# `threadlocal.getg` returns the goroutine id the runtime printed (property C14, model `Model/Gid.lean`)

Hypotheses used throughout
* `stops rest = true` — what follows the id in the dump is empty or starts with a non-digit.  The runtime prints
  `" [running]:\n…"`, i.e. `rest = 0x20 :: r` (`stops_space`); `rest = []` is `stops_nil`.  Necessary: see the
  `some 75` example.
* `n < 10^54` — the id has at most 54 digits, so `10 + #digits ≤ 64` and the truncation to the 64-byte buffer cuts no
  digit (the buffer may then be all prefix + digits, the loop ends by `i < l`).  Sharp: see the `10^54` example.

Not covered here (trusted, DESIGN §5): that `runtime.Stack` writes `stackBuf id rest` for the calling goroutine's id, and
that the runtime never reuses an id of a live goroutine nor hands out 0 or an id ≥ 2^63 (`goid` is a `uint64` counter).
-/

namespace Pcore.Gid

theorem goPrefix_length : goPrefix.length = 10 := by decide

theorem digitByte_spec {k : Nat} (h : k < 10) :
    notDigit (digitByte k) = false ∧ (digitByte k - 0x30).toNat = k := by
  have all : ∀ i : Fin 10, notDigit (digitByte i.val) = false ∧ (digitByte i.val - 0x30).toNat = i.val := by decide
  exact all ⟨k, h⟩

theorem digits_eq_map (n : Nat) : digits n = (Digits.digits 10 n).map digitByte :=
  Digits.map_digits_of_fuel (by decide) digitByte (fun f n => digitsFuel (f + 1) n) rfl (fun _ _ => rfl) n n (Nat.le_refl n)

theorem digits_eq (n : Nat) :
    digits n = if n < 10 then [digitByte n] else digits (n / 10) ++ [digitByte (n % 10)] := by
  rw [digits_eq_map, digits_eq_map, Digits.digits_eq (by decide)]
  split
  · rfl
  · rw [List.map_append]; rfl

theorem digits_length_le (k n : Nat) (h : n < 10 ^ (k + 1)) : (digits n).length ≤ k + 1 := by
  rw [digits_eq_map, List.length_map]; exact Digits.length_digits_le (by decide) k n h

theorem scan_map_digitByte : ∀ (ds : List Nat), (∀ x ∈ ds, x < 10) → ∀ (acc : Nat) (rest : List UInt8),
    scan acc (ds.map digitByte ++ rest) = scan (ds.foldl (fun a x => a * 10 + x) acc) rest
  | [], _, _, _ => rfl
  | x :: ds, h, acc, rest => by
    have ⟨h1, h2⟩ := digitByte_spec (h x List.mem_cons_self)
    simp only [List.map_cons, List.cons_append, scan, h1, h2, List.foldl_cons]
    exact scan_map_digitByte ds (fun y hy => h y (List.mem_cons_of_mem _ hy)) _ _

theorem scan_digits (n : Nat) (rest : List UInt8) : scan 0 (digits n ++ rest) = scan n rest := by
  rw [digits_eq_map, scan_map_digitByte _ (Digits.digits_lt (by decide) n), Digits.foldl_digits (by decide)]

/-- `rest` makes the loop stop: it is empty (`i < l` fails) or starts with a non-digit (`break`).  What the runtime
prints after the id is `" [running]:\n…"`, so `rest = 0x20 :: r` (`stops_space`). -/
def stops : List UInt8 → Bool
  | [] => true
  | d :: _ => notDigit d

theorem scan_stops {rest : List UInt8} (h : stops rest = true) (n : Nat) : scan n rest = n := by
  cases rest with
  | nil => rfl
  | cons d ds => simp only [stops] at h; simp [scan, h]

theorem stops_take {rest : List UInt8} (h : stops rest = true) (k : Nat) : stops (rest.take k) = true := by
  cases k with
  | zero => rfl
  | succ k =>
    cases rest with
    | nil => rfl
    | cons x xs => exact h

theorem stops_nil : stops [] = true := rfl

theorem stops_space (r : List UInt8) : stops (0x20 :: r) = true := by
  show notDigit 0x20 = true; decide

theorem stackHeader_window (n r : Nat) (rest : List UInt8) :
    ((stackHeader n rest).take r).drop 10 = (digits n ++ rest).take (r - 10) := by
  unfold stackHeader
  rw [List.append_assoc, List.drop_take, List.drop_left' goPrefix_length]

theorem scan_take_fits {n k : Nat} (hn : (digits n).length ≤ k) {rest : List UInt8} (hr : stops rest = true) :
    scan 0 ((digits n ++ rest).take k) = n := by
  rw [List.take_append, List.take_of_length_le hn, scan_digits, scan_stops (stops_take hr _)]

theorem scan_window_stackBuf {n : Nat} (hn : n < 10 ^ 54) {rest : List UInt8} (hr : stops rest = true) :
    scan 0 (window (stackBuf n rest)) = n := by
  unfold window stackBuf bufLen prefixLen
  rw [List.take_take, Nat.min_self, stackHeader_window, scan_take_fits (digits_length_le 53 n hn) hr]

theorem getg_stackBuf_eq {n : Nat} (hn : n < 10 ^ 54) {rest : List UInt8} (hr : stops rest = true) :
    getg (stackBuf n rest) = if n = 0 then none else some n := by
  unfold getg
  simp only [scan_window_stackBuf hn hr]

theorem getg_stackBuf {n : Nat} (h0 : 0 < n) (hn : n < 10 ^ 54) {rest : List UInt8} (hr : stops rest = true) :
    getg (stackBuf n rest) = some n := by
  rw [getg_stackBuf_eq hn hr, if_neg (by omega)]

theorem getg_stackBuf_space {n : Nat} (h0 : 0 < n) (hn : n < 10 ^ 54) (r : List UInt8) :
    getg (stackBuf n (0x20 :: r)) = some n := getg_stackBuf h0 hn (stops_space r)

theorem getg_stackBuf_nil {n : Nat} (h0 : 0 < n) (hn : n < 10 ^ 54) : getg (stackBuf n []) = some n :=
  getg_stackBuf h0 hn stops_nil

/-- the panic branch (`n == 0`): only the id 0, which the runtime never hands out (ids start at 1) -/
theorem getg_zero {rest : List UInt8} (hr : stops rest = true) : getg (stackBuf 0 rest) = none := by
  rw [getg_stackBuf_eq (by decide) hr, if_pos rfl]

theorem getg_none_iff {n : Nat} (hn : n < 10 ^ 54) {rest : List UInt8} (hr : stops rest = true) :
    getg (stackBuf n rest) = none ↔ n = 0 := by
  rw [getg_stackBuf_eq hn hr]; split <;> simp [*]

/-- distinct goroutines get distinct keys (whatever follows the id in either dump; id 0 included) -/
theorem getg_injective {n m : Nat} (hn : n < 10 ^ 54) (hm : m < 10 ^ 54) {rest rest' : List UInt8}
    (hr : stops rest = true) (hr' : stops rest' = true)
    (h : getg (stackBuf n rest) = getg (stackBuf m rest')) : n = m := by
  rw [getg_stackBuf_eq hn hr, getg_stackBuf_eq hm hr'] at h
  split at h <;> split at h <;> simp at h <;> omega

theorem scan64_eq_scan_mod : ∀ (l : List UInt8) (acc : Nat), scan64 (acc % 2 ^ 64) l = scan acc l % 2 ^ 64 := by
  intro l
  induction l with
  | nil => intro acc; rfl
  | cons d ds ih =>
    intro acc
    simp only [scan64, scan]
    split
    · rfl
    · rw [← ih]
      congr 1
      omega

theorem scan64_zero (l : List UInt8) : scan64 0 l = scan 0 l % 2 ^ 64 := scan64_eq_scan_mod l 0

theorem getg64_eq (buf : List UInt8) :
    getg64 buf = if scan 0 (window buf) % 2 ^ 64 = 0 then none else some (toInt64 (scan 0 (window buf) % 2 ^ 64)) := by
  unfold getg64
  simp only [scan64_zero]

theorem getg64_stackBuf_eq {n : Nat} (hn : n < 10 ^ 54) {rest : List UInt8} (hr : stops rest = true) :
    getg64 (stackBuf n rest) = if n % 2 ^ 64 = 0 then none else some (toInt64 (n % 2 ^ 64)) := by
  rw [getg64_eq, scan_window_stackBuf hn hr]

theorem int64_of_lt {n : Nat} (h0 : 0 < n) (hn : n < 2 ^ 63) :
    (if n % 2 ^ 64 = 0 then none else some (toInt64 (n % 2 ^ 64))) = some (n : Int) := by
  have h1 : n % 2 ^ 64 = n := Nat.mod_eq_of_lt (by omega)
  rw [h1, if_neg (by omega)]
  simp only [toInt64, if_pos hn]

theorem getg64_stackBuf {n : Nat} (h0 : 0 < n) (hn : n < 2 ^ 63) {rest : List UInt8} (hr : stops rest = true) :
    getg64 (stackBuf n rest) = some (n : Int) := by
  rw [getg64_stackBuf_eq (Nat.lt_trans hn (by decide)) hr, int64_of_lt h0 hn]

theorem getg64_stackBuf_iff {n : Nat} (h0 : 0 < n) (hn : n < 10 ^ 54) {rest : List UInt8} (hr : stops rest = true) :
    getg64 (stackBuf n rest) = some (n : Int) ↔ n < 2 ^ 63 := by
  constructor
  · intro h
    rw [getg64_stackBuf_eq hn hr] at h
    split at h
    · cases h
    · have h := Option.some.inj h
      unfold toInt64 at h
      split at h <;> omega
  · intro h; exact getg64_stackBuf h0 h hr

theorem getg64_eq_getg_iff {n : Nat} (h0 : 0 < n) (hn : n < 10 ^ 54) {rest : List UInt8} (hr : stops rest = true) :
    getg64 (stackBuf n rest) = (getg (stackBuf n rest)).map Int.ofNat ↔ n < 2 ^ 63 := by
  rw [getg_stackBuf h0 hn hr]; exact getg64_stackBuf_iff h0 hn hr

theorem getg64_injective {n m : Nat} (h0 : 0 < n) (hn : n < 2 ^ 63) (h0' : 0 < m) (hm : m < 2 ^ 63)
    {rest rest' : List UInt8} (hr : stops rest = true) (hr' : stops rest' = true)
    (h : getg64 (stackBuf n rest) = getg64 (stackBuf m rest')) : n = m := by
  rw [getg64_stackBuf h0 hn hr, getg64_stackBuf h0' hm hr'] at h
  exact Int.ofNat.inj (Option.some.inj h)

/-- a real dump (`runtime.Stack` of a test run), not truncated -/
example : getg (bytes "goroutine 18778 [running]:\nmain.main()\n") = some 18778 := by decide +kernel
example : getg64 (bytes "goroutine 18778 [running]:\nmain.main()\n") = some 18778 := by decide +kernel
/-- a real dump truncated to 64 bytes by the runtime -/
example : getg (bytes "goroutine 1 [running]:\ngithub.com/lyraproj/pcore/threadlocal.get") = some 1 := by decide +kernel
/-- `stackBuf` produces such dumps, and truncates -/
example : stackBuf 18778 (bytes " [running]:\nmain.main()\n") = bytes "goroutine 18778 [running]:\nmain.main()\n" := by
  decide +kernel
example : stackBuf 1 (bytes " [running]:\ngithub.com/lyraproj/pcore/threadlocal.getg(0x0, 0x0)\n")
    = bytes "goroutine 1 [running]:\ngithub.com/lyraproj/pcore/threadlocal.get" := by decide +kernel
example : (stackBuf 1 (bytes " [running]:\ngithub.com/lyraproj/pcore/threadlocal.getg(0x0, 0x0)\n")).length = 64 := by
  decide +kernel
/-- the hypotheses of `getg_stackBuf` / `getg64_stackBuf` are satisfiable by a non-trivial case -/
example : 0 < 18778 ∧ 18778 < 2 ^ 63 ∧ 18778 < 10 ^ 54 ∧ stops (bytes " [running]:\nmain.main()\n") = true := by decide +kernel
/-- the dump may also end right after the id (`rest = []`), or be all digits up to the end of the buffer -/
example : getg (stackBuf (10 ^ 54 - 1) (bytes " [running]:\n")) = some (10 ^ 54 - 1) := by decide +kernel
example : (stackBuf (10 ^ 54 - 1) (bytes " [running]:\n")).length = 64 := by decide +kernel
/-- sharpness of `n < 10^54`: a 55-digit id loses its last digit to the truncation -/
example : getg (stackBuf (10 ^ 54) (bytes " [running]:\n")) = some (10 ^ 53) := by decide +kernel
/-- without `stops rest` the claim is false: a digit after the id is read as part of it -/
example : getg (stackBuf 7 (bytes "5 [running]:\n")) = some 75 := by decide +kernel
example : getg (bytes "goroutine 0 [idle]:\n") = none := by decide +kernel
example : getg (bytes "short") = none := by decide +kernel
example : getg [] = none := by decide +kernel

/-- at `n = 2^63` the `int64` accumulator wraps negative: the bound of `getg64_stackBuf` is necessary -/
example : getg64 (stackBuf (2 ^ 63) (bytes " [running]:\n")) = some (-(2 ^ 63)) := by decide +kernel
example : getg (stackBuf (2 ^ 63) (bytes " [running]:\n")) = some (2 ^ 63) := by decide +kernel
example : getg64 (stackBuf (2 ^ 63 - 1) (bytes " [running]:\n")) = some (2 ^ 63 - 1) := by decide +kernel
/-- two distinct ids with the same `int64` key, and an id ≠ 0 that panics -/
example : getg64 (stackBuf (2 ^ 64 + 5) (bytes " [running]:\n")) = getg64 (stackBuf 5 (bytes " [running]:\n")) := by decide +kernel
example : getg64 (stackBuf (2 ^ 64) (bytes " [running]:\n")) = none := by decide +kernel

end Pcore.Gid

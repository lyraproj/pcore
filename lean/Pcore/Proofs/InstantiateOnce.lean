import Pcore.Model.InstantiateOnce
import Pcore.Proofs.LoaderSeq
import Pcore.Proofs.ListFacts
/-! Exactly-once instantiation (C13_once …): the invariant of the name-mutex protocol of `fileBasedLoader.instantiate`, and that
    what is bound was read from its file.  Rests on C12's `lk_setEntry` (`Proofs/LoaderSeq.lean`).  In order: the phases of a
    continuation (`uses`, `holds`, `crit`, `post`) and the invariant `Inv`; what `setEntry` and the mutex table do to a lookup;
    `ThreadOK`, the share of `Inv` that speaks of one thread, and `Inv_set` with its cases (a step is a change of the shared part and one
    thread moved); `Inv_step` and the invariant of reachable configurations; `Sourced` (a bound value is the one its file holds, and the
    file was read) the same way; last `iter`, by which the witnesses of Props/C13 exhibit a reachable configuration. -/
namespace Pcore.Instantiate
open Pcore.LoaderSeq

/-- the mutex a continuation waits for or holds -/
def uses : PC → Option (Key × Mx)
  | .instAcquire k m | .instCheck k m | .instPlace k m | .instRun k m | .instRet k m | .instUnlock k m _ => some (k, m)
  | _ => none

/-- the mutex a continuation holds -/
def holds : PC → Option (Key × Mx)
  | .instCheck k m | .instPlace k m | .instRun k m | .instRet k m | .instUnlock k m _ => some (k, m)
  | _ => none

/-- inside the mutex, saw the entry nil, instantiator not yet run -/
def crit : PC → Option Key
  | .instPlace k _ | .instRun k _ => some k
  | _ => none

/-- past the point where the entry is known to be non-nil -/
def post : PC → Option Key
  | .instRun k _ | .instRet k _ | .instUnlock k _ _ | .instDelete k _ => some k
  | _ => none

/-- The invariant of the protocol.  `h1`, `h2`: a mutex is locked by one thread, the one whose continuation holds it.
    `i3`: while the entry of `k` is nil, every thread inside `instantiate k` uses the mutex the table has for `k` — the
    table entry is only deleted once the entry is non-nil (`i8`), which is why the deletion AFTER the unlock is harmless.
    `i6`: so at most one thread is between the nil check and the instantiator of `k`.  `i4`, `i5`, `i7`: the file of
    such a name, and of any name whose entry is nil, has not been read; no file is read twice. -/
structure Inv (c : Config) : Prop where
  h1 : (c.held.map (·.1)).Nodup
  h2 : ∀ (i : Nat) (t : Thread) (k : Key) (m : Mx), c.th[i]? = some t → holds t.pc = some (k, m) → (m, i) ∈ c.held
  i3 : ∀ (i : Nat) (t : Thread) (k : Key) (m : Mx), lk k c.es = none → c.th[i]? = some t → uses t.pc = some (k, m) →
    lookupMx k c.locks = some m
  i4 : ∀ (i : Nat) (t : Thread) (k : Key), c.th[i]? = some t → crit t.pc = some k → c.reads.count k = 0
  i5 : ∀ (k : Key), lk k c.es = none → c.reads.count k = 0
  i6 : ∀ (i j : Nat) (ti tj : Thread) (k : Key), c.th[i]? = some ti → c.th[j]? = some tj →
    crit ti.pc = some k → crit tj.pc = some k → i = j
  i7 : ∀ (k : Key), c.reads.count k ≤ 1
  i8 : ∀ (i : Nat) (t : Thread) (k : Key), c.th[i]? = some t → post t.pc = some k → lk k c.es ≠ none

theorem lk_setEntry_same (es : Ents) (k : Key) (nv : Option V) : lk k (setEntry es k nv).1 ≠ none := by
  rw [lk_setEntry]; split
  · exact fun h => nomatch h
  · rename_i hc; exact fun e => hc ⟨rfl, by rw [e]; rfl⟩

theorem lk_setEntry_nil (es : Ents) (k k' : Key) (nv : Option V) (h : lk k (setEntry es k' nv).1 = none) :
    lk k es = none ∧ k ≠ k' := by
  rw [lk_setEntry] at h; split at h
  · cases h
  · rename_i hc; exact ⟨h, fun e => hc ⟨e, by rw [← e, h]; rfl⟩⟩

theorem lk_setEntry_bound_inv (es : Ents) (k k' : Key) (nv : Option V) (v : V)
    (h : lk k (setEntry es k' nv).1 = some (some v)) : lk k es = some (some v) ∨ (k = k' ∧ nv = some v) := by
  rw [lk_setEntry] at h; split at h
  · rename_i hc; exact Or.inr ⟨hc.1, Option.some.inj h⟩
  · exact Or.inl h

theorem lookupMx_filter (locks : List (Key × Mx)) (k k' : Key) (h : k' ≠ k) :
    lookupMx k' (locks.filter fun p => p.1 != k) = lookupMx k' locks := by
  induction locks with
  | nil => rfl
  | cons hd tl ih =>
    obtain ⟨k0, m0⟩ := hd
    by_cases h0 : k0 = k
    · subst h0
      have : ¬ k0 = k' := fun h' => h h'.symm
      simp only [List.filter, bne_self_eq_false, lookupMx, this, if_false, ih]
    · have hb : (k0 != k) = true := by simp [h0]
      simp only [List.filter, hb, lookupMx, ih]

theorem lookupMx_cons {locks : List (Key × Mx)} {k k' : Key} {m : Mx} (n : Mx) (hnone : lookupMx k locks = none)
    (h : lookupMx k' locks = some m) : lookupMx k' ((k, n) :: locks) = some m := by
  have hk : k ≠ k' := fun e => by rw [e, h] at hnone; cases hnone
  rw [lookupMx, if_neg hk]
  exact h

theorem crit_holds {pc : PC} {k : Key} (h : crit pc = some k) : ∃ m, holds pc = some (k, m) := by
  cases pc <;> simp [crit] at h <;> subst h <;> exact ⟨_, rfl⟩

theorem holds_uses {pc : PC} {km : Key × Mx} (h : holds pc = some km) : uses pc = some km := by
  cases pc <;> simp [holds] at h <;> simp [uses, h]

/-- what `Inv` asks of thread `i` at continuation `pc`; it reads the shared part of the configuration only -/
structure ThreadOK (s : Shared) (i : Nat) (pc : PC) : Prop where
  held : ∀ k m, holds pc = some (k, m) → (m, i) ∈ s.held
  table : ∀ k m, lk k s.es = none → uses pc = some (k, m) → lookupMx k s.locks = some m
  unread : ∀ k, crit pc = some k → s.reads.count k = 0
  entry : ∀ k, post pc = some k → lk k s.es ≠ none

theorem Inv.threadOK {c : Config} (h : Inv c) {i : Nat} {t : Thread} (hi : c.th[i]? = some t) : ThreadOK c.shared i t.pc :=
  ⟨fun k m => h.h2 i t k m hi, fun k m hn => h.i3 i t k m hn hi, fun k => h.i4 i t k hi, fun k => h.i8 i t k hi⟩

theorem Inv.alone {c : Config} (h : Inv c) {i : Nat} {t : Thread} {k : Key} (hi : c.th[i]? = some t) (hc : crit t.pc = some k)
    (j : Nat) (tj : Thread) (hne : j ≠ i) (hj : c.th[j]? = some tj) : crit tj.pc ≠ some k :=
  fun hcj => hne (h.i6 j i tj t k hj hi hcj hc)

theorem Inv.alone_of {c : Config} (h : Inv c) {i : Nat} {t : Thread} {pc' : PC} (hi : c.th[i]? = some t)
    (hcrit : crit pc' = none ∨ crit pc' = crit t.pc) (k : Key) (hc : crit pc' = some k) :
    ∀ j tj, j ≠ i → c.th[j]? = some tj → crit tj.pc ≠ some k := by
  rcases hcrit with e | e
  · rw [e] at hc; cases hc
  · exact h.alone hi (e ▸ hc)

theorem Inv.of_threads {c : Config} (h1 : (c.held.map (·.1)).Nodup) (i5 : ∀ k, lk k c.es = none → c.reads.count k = 0)
    (i7 : ∀ k, c.reads.count k ≤ 1) (hall : ∀ i t, c.th[i]? = some t → ThreadOK c.shared i t.pc)
    (i6 : ∀ (i j : Nat) (ti tj : Thread) (k : Key), c.th[i]? = some ti → c.th[j]? = some tj →
      crit ti.pc = some k → crit tj.pc = some k → i = j) : Inv c :=
  { h1 := h1, h2 := fun i t k m hi => (hall i t hi).held k m, i3 := fun i t k m hn hi => (hall i t hi).table k m hn,
    i4 := fun i t k hi => (hall i t hi).unread k, i5 := i5, i6 := i6, i7 := i7, i8 := fun i t k hi => (hall i t hi).entry k }

theorem ThreadOK.free {s : Shared} {i : Nat} {pc : PC} (hu : uses pc = none) (hp : post pc = none) : ThreadOK s i pc := by
  refine ⟨fun k m hh => ?_, fun k m _ h => ?_, fun k hc => ?_, fun k h => ?_⟩
  · rw [holds_uses hh] at hu; cases hu
  · rw [h] at hu; cases hu
  · obtain ⟨m, hh⟩ := crit_holds hc
    rw [holds_uses hh] at hu; cases hu
  · rw [h] at hp; cases hp

/-- what a change of the shared part must respect for a thread that does not move: its mutex stays held, no entry goes
    away, the mutex of a name whose entry is nil stays in the table, a name in its critical phase stays unread (a part
    the change leaves as it is needs no argument) -/
theorem ThreadOK.mono {s s' : Shared} {j : Nat} {pc : PC} (h : ThreadOK s j pc)
    (hheld : ∀ m, (m, j) ∈ s.held → (m, j) ∈ s'.held := by exact fun _ h => h)
    (hes : ∀ k, lk k s'.es = none → lk k s.es = none := by exact fun _ h => h)
    (hlocks : ∀ k m, lk k s.es = none → lookupMx k s.locks = some m → lookupMx k s'.locks = some m := by exact fun _ _ _ h => h)
    (hreads : ∀ k, crit pc = some k → s.reads.count k = 0 → s'.reads.count k = 0 := by exact fun _ _ h => h) :
    ThreadOK s' j pc :=
  ⟨fun k m hh => hheld m (h.held k m hh), fun k m hn hu => hlocks k m (hes k hn) (h.table k m (hes k hn) hu),
    fun k hc => hreads k hc (h.unread k hc), fun k hp hn => h.entry k hp (hes k hn)⟩

theorem Inv_set {c : Config} {i : Nat} {t : Thread} (t' : Thread) (s' : Shared) (h : Inv c) (hi : c.th[i]? = some t)
    (h1 : (s'.held.map (·.1)).Nodup) (i5 : ∀ k, lk k s'.es = none → s'.reads.count k = 0) (i7 : ∀ k, s'.reads.count k ≤ 1)
    (hself : ThreadOK s' i t'.pc) (hrest : ∀ j tj, j ≠ i → c.th[j]? = some tj → ThreadOK s' j tj.pc)
    (halone : ∀ k, crit t'.pc = some k → ∀ j tj, j ≠ i → c.th[j]? = some tj → crit tj.pc ≠ some k) :
    Inv (c.withShared s' (c.th.set i t')) := by
  refine Inv.of_threads h1 i5 i7 (fun j tj hj => ?_) ?_
  · rcases getElem?_set_cases hj with ⟨rfl, rfl⟩ | ⟨hne, hj⟩
    · exact hself
    · exact hrest j tj hne hj
  intro j1 j2 t1 t2 k g1 g2 c1 c2
  rcases getElem?_set_cases g1 with ⟨e1, e1'⟩ | ⟨n1, g1'⟩
  · rcases getElem?_set_cases g2 with ⟨e2, _⟩ | ⟨n2, g2'⟩
    · rw [e1, e2]
    · rw [e1'] at c1
      exact absurd c2 (halone k c1 j2 t2 n2 g2')
  · rcases getElem?_set_cases g2 with ⟨_, e2'⟩ | ⟨_, g2'⟩
    · rw [e2'] at c2
      exact absurd c1 (halone k c2 j1 t1 n1 g1')
    · exact h.i6 j1 j2 t1 t2 k g1' g2' c1 c2

theorem Inv_local {c : Config} {i : Nat} {t : Thread} (t' : Thread) (h : Inv c) (hi : c.th[i]? = some t)
    (hself : ThreadOK c.shared i t'.pc) (hcrit : crit t'.pc = none ∨ crit t'.pc = crit t.pc) :
    Inv (c.withShared c.shared (c.th.set i t')) :=
  Inv_set t' c.shared h hi h.h1 h.i5 h.i7 hself (fun _ _ _ hj => h.threadOK hj) (h.alone_of hi hcrit)

theorem Inv_place {c : Config} {i : Nat} {t : Thread} (t' : Thread) (k : Key) (h : Inv c) (hi : c.th[i]? = some t)
    (hself : ThreadOK { c.shared with es := (setEntry c.es k none).1 } i t'.pc)
    (hcrit : crit t'.pc = none ∨ crit t'.pc = crit t.pc) :
    Inv (c.withShared { c.shared with es := (setEntry c.es k none).1 } (c.th.set i t')) :=
  have hes : ∀ k', lk k' (setEntry c.es k none).1 = none → lk k' c.es = none := fun _ hn => (lk_setEntry_nil _ _ _ _ hn).1
  Inv_set t' _ h hi h.h1 (fun k' hn => h.i5 k' (hes k' hn)) h.i7 hself
    (fun _ _ _ hj => (h.threadOK hj).mono (hes := hes))
    (h.alone_of hi hcrit)

/-- the instantiator has run (and bound the name, `es'`, or raised, `es' = c.es`): the one read of the file -/
theorem Inv_read {c : Config} {i : Nat} {t : Thread} (t' : Thread) (es' : Ents) (k : Key) (m : Mx) (h : Inv c) (hi : c.th[i]? = some t)
    (hpc0 : t.pc = PC.instRun k m) (hes : ∀ k', lk k' es' = none → lk k' c.es = none) (hk : lk k es' ≠ none)
    (hh : holds t'.pc = some (k, m)) (hc : crit t'.pc = none) (hp : post t'.pc = some k) :
    Inv (c.withShared { c.shared with es := es', reads := k :: c.reads } (c.th.set i t')) := by
  have ht := h.threadOK hi
  rw [hpc0] at ht
  have hcount : ∀ k', k' ≠ k → (k :: c.reads).count k' = c.reads.count k' := fun k' hne => List.count_cons_of_ne (Ne.symm hne)
  have h0 : c.reads.count k = 0 := ht.unread k rfl
  refine Inv_set t' _ h hi h.h1 ?_ ?_ ?_ ?_ (fun _ hc' => by rw [hc] at hc'; cases hc')
  · intro k' hn
    have hne : k' ≠ k := fun e => hk (e ▸ hn)
    rw [hcount k' hne]
    exact h.i5 k' (hes k' hn)
  · intro k'
    by_cases hne : k' = k
    · rw [hne, List.count_cons_self, h0]
      exact Nat.le_refl _
    · rw [hcount k' hne]
      exact h.i7 k'
  · refine ⟨fun k' m' e => ?_, fun k' m' hn e => ?_, fun k' e => ?_, fun k' e => ?_⟩
    · rw [hh] at e; cases e; exact ht.held k m rfl
    · rw [holds_uses hh] at e; cases e; exact absurd hn hk
    · rw [hc] at e; cases e
    · rw [hp] at e; cases e; exact hk
  · intro j tj hne hj
    refine (h.threadOK hj).mono (hes := hes) (hreads := fun k' hcj h0 => ?_)
    have hne' : k' ≠ k := fun e => h.alone hi (by rw [hpc0]; rfl) j tj hne hj (e ▸ hcj)
    rw [hcount k' hne']
    exact h0

/-- `Inv_read` when the file binds the name -/
theorem Inv_run (c : Config) (i : Nat) (t t' : Thread) (k : Key) (m : Mx) (v : V) (h : Inv c) (hi : c.th[i]? = some t)
    (hpc0 : t.pc = PC.instRun k m) (hpc : t'.pc = PC.instRet k m) :
    Inv { files := c.files, broken := c.broken, es := (setEntry c.es k (some v)).1, locks := c.locks, held := c.held, nextMx := c.nextMx,
          reads := k :: c.reads, th := c.th.set i t' } :=
  Inv_read t' _ k m h hi hpc0 (fun _ hn => (lk_setEntry_nil _ _ _ _ hn).1) (lk_setEntry_same _ _ _)
    (by rw [hpc]; rfl) (by rw [hpc]; rfl) (by rw [hpc]; rfl)

/-- `Inv_read` when the instantiator RAISES: the entry map is left as it is (the placeholder stays) -/
theorem Inv_run_broken (c : Config) (i : Nat) (t t' : Thread) (k : Key) (m : Mx) (a : Ans) (h : Inv c) (hi : c.th[i]? = some t)
    (hpc0 : t.pc = PC.instRun k m) (hpc : t'.pc = PC.instUnlock k m a) :
    Inv { files := c.files, broken := c.broken, es := c.es, locks := c.locks, held := c.held, nextMx := c.nextMx,
          reads := k :: c.reads, th := c.th.set i t' } :=
  Inv_read t' c.es k m h hi hpc0 (fun _ hn => hn) ((h.threadOK hi).entry k (by rw [hpc0]; rfl))
    (by rw [hpc]; rfl) (by rw [hpc]; rfl) (by rw [hpc]; rfl)

/-- not used below: `withShared` written out -/
theorem withShared_eq (c : Config) (s : Shared) (th : List Thread) :
    c.withShared s th = { files := c.files, broken := c.broken, es := s.es, locks := s.locks, held := s.held, nextMx := s.nextMx, reads := s.reads, th := th } := rfl

theorem Inv_step (c : Config) (i : Nat) (h : Inv c) : Inv (stepAt c i) := by
  unfold stepAt
  cases hi : c.th[i]? with
  | none => exact h
  | some t =>
    simp only
    have ht := h.threadOK hi
    obtain ⟨pc, ops, log⟩ := t
    cases pc with
    | idle =>
      simp only [stepThread]
      split
      · exact Inv_local _ h hi ht (Or.inr rfl)
      · exact Inv_local _ h hi ht (Or.inr rfl)
      · split
        · exact Inv_local _ h hi (ThreadOK.free rfl rfl) (Or.inl rfl)
        · exact Inv_local _ h hi ht (Or.inr rfl)
    | ldCheck k =>
      simp only [stepThread]
      split
      · exact Inv_local _ h hi (ThreadOK.free rfl rfl) (Or.inl rfl)
      · exact Inv_local _ h hi (ThreadOK.free rfl rfl) (Or.inl rfl)
    | ldFind k =>
      simp only [stepThread]
      split
      · split
        · exact Inv_local _ h hi (ThreadOK.free rfl rfl) (Or.inl rfl)
        · exact Inv_local _ h hi (ThreadOK.free rfl rfl) (Or.inl rfl)
      · exact Inv_local _ h hi (ThreadOK.free rfl rfl) (Or.inl rfl)
    | ldCacheMiss k =>
      simp only [stepThread]
      exact Inv_place _ k h hi (ThreadOK.free rfl rfl) (Or.inl rfl)
    | instTable k =>
      simp only [stepThread]
      split
      · rename_i m hm
        refine Inv_local _ h hi ⟨(fun _ _ h => nomatch h), fun k' m' _ hu => ?_, (fun _ h => nomatch h), (fun _ h => nomatch h)⟩ (Or.inl rfl)
        cases hu
        exact hm
      · rename_i hm
        refine Inv_set _ _ h hi h.h1 h.i5 h.i7 ⟨(fun _ _ h => nomatch h), fun k' m' _ hu => ?_, (fun _ h => nomatch h), (fun _ h => nomatch h)⟩
          (fun _ _ _ hj => (h.threadOK hj).mono (hlocks := fun _ _ _ hl => lookupMx_cons _ hm hl))
          (fun _ hc => nomatch hc)
        cases hu
        simp [lookupMx]
    | instAcquire k m =>
      simp only [stepThread]
      split
      · exact Inv_local _ h hi ht (Or.inr rfl)
      · rename_i hfree
        refine Inv_set _ _ h hi (List.nodup_cons.mpr ⟨fun hm => ?_, h.h1⟩) h.i5 h.i7 ⟨fun k' m' hh => ?_, ht.table, (fun _ h => nomatch h), (fun _ h => nomatch h)⟩
          (fun _ _ _ hj => (h.threadOK hj).mono (hheld := fun _ hm => List.mem_cons_of_mem _ hm))
          (fun _ hc => nomatch hc)
        · obtain ⟨p, hp, hpm⟩ := List.mem_map.mp hm
          exact hfree (List.any_eq_true.mpr ⟨p, hp, by simp [hpm]⟩)
        · cases hh
          exact List.mem_cons_self
    | instCheck k m =>
      simp only [stepThread]
      split
      · -- the entry is seen nil under the mutex: the thread enters the critical phase — and is alone in it
        rename_i hnil
        refine Inv_set _ c.shared h hi h.h1 h.i5 h.i7 ⟨ht.held, ht.table, fun k' hc => ?_, (fun _ h => nomatch h)⟩ (fun _ _ _ hj => h.threadOK hj) ?_
        · cases hc
          exact h.i5 k hnil
        · -- anybody else in the critical phase of k would hold THE mutex of k, which this thread holds
          intro k' hc j tj hne hj hcj
          cases hc
          obtain ⟨mj, hhj⟩ := crit_holds hcj
          have htj := h.threadOK hj
          have hm : mj = m := Option.some.inj ((htj.table k mj hnil (holds_uses hhj)).symm.trans (ht.table k m hnil rfl))
          rw [hm] at hhj
          exact hne (nodup_key_snd h.h1 (htj.held k m hhj) (ht.held k m rfl))
      · rename_i hnn
        refine Inv_local _ h hi ⟨ht.held, ht.table, (fun _ h => nomatch h), fun k' e => ?_⟩ (Or.inl rfl)
        cases e
        exact fun hn => hnn hn
    | instPlace k m =>
      simp only [stepThread]
      refine Inv_place _ k h hi ⟨ht.held, fun k' m' hn e => ?_, ht.unread, fun k' e => ?_⟩ (Or.inr rfl)
      · cases e
        exact absurd hn (lk_setEntry_same _ _ _)
      · cases e
        exact lk_setEntry_same _ _ _
    | instRun k m =>
      simp only [stepThread]
      split
      · rename_i v hv
        exact Inv_run c i _ _ k m v h hi rfl rfl
      · split
        · rename_i code hcode
          exact Inv_run_broken c i _ _ k m (.reported code) h hi rfl rfl
        · exact Inv_local _ h hi ⟨ht.held, ht.table, (fun _ h => nomatch h), ht.entry⟩ (Or.inl rfl)
    | instRet k m =>
      simp only [stepThread]
      exact Inv_local _ h hi ⟨ht.held, ht.table, (fun _ h => nomatch h), ht.entry⟩ (Or.inl rfl)
    | instUnlock k m a =>
      simp only [stepThread]
      refine Inv_set _ _ h hi (nodup_key_sublist List.filter_sublist h.h1) h.i5 h.i7
        ⟨(fun _ _ h => nomatch h), (fun _ _ _ h => nomatch h), (fun _ h => nomatch h), fun k' e => ?_⟩ (fun j tj hne hj => ?_) (fun _ hc => nomatch hc)
      · cases e
        exact ht.entry k rfl
      · -- another thread's mutex is another mutex: `m` is held by this thread
        refine (h.threadOK hj).mono (hheld := fun m' hm => List.mem_filter.mpr ⟨hm, ?_⟩)
        have : m' ≠ m := fun e => hne (nodup_key_snd h.h1 (e ▸ hm) (ht.held k m rfl))
        simp [this]
    | instDelete k a =>
      -- the mutex is taken out of the table: only ever when the entry is no longer nil
      simp only [stepThread]
      refine Inv_set _ _ h hi h.h1 h.i5 h.i7 (ThreadOK.free rfl rfl) (fun j tj _ hj => ?_) (fun _ hc => nomatch hc)
      refine (h.threadOK hj).mono (hlocks := fun k' m' hn hl => ?_)
      have hk : k' ≠ k := fun e => ht.entry k rfl (e ▸ hn)
      rw [lookupMx_filter _ _ _ hk]
      exact hl

theorem Inv_initB (files : List (Key × V)) (broken : List (Key × String)) (progs : List (List FOp)) :
    Inv (Config.initB files broken progs) := by
  have hidle : ∀ (i : Nat) (t : Thread), (Config.initB files broken progs).th[i]? = some t → t.pc = PC.idle := by
    intro i t ht
    have := List.mem_of_getElem? ht
    simp only [Config.initB, List.mem_map] at this
    obtain ⟨p, _, rfl⟩ := this; rfl
  refine Inv.of_threads List.nodup_nil (fun _ _ => rfl) (fun _ => Nat.zero_le _) (fun i t ht => ?_) ?_
  · rw [hidle i t ht]
    exact ThreadOK.free rfl rfl
  · intro i j ti tj k hti _ hc
    rw [hidle i ti hti] at hc
    cases hc

theorem Reachable.invariant {P : Config → Prop} (hstep : ∀ c i, P c → P (stepAt c i)) {c0 c : Config} (h0 : P c0)
    (h : Reachable c0 c) : P c := by
  induction h with
  | init => exact h0
  | step i _ ih => exact hstep _ i ih

theorem Inv_reachable {c0 c : Config} (h0 : Inv c0) (h : Reachable c0 c) : Inv c :=
  Reachable.invariant Inv_step h0 h

def Sourced (c : Config) : Prop := ∀ k v, lk k c.es = some (some v) → k ∈ c.reads ∧ fileOf k c.files = some v

theorem Sourced_step (c : Config) (i : Nat) (h : Sourced c) : Sourced (stepAt c i) := by
  unfold stepAt
  cases hi : c.th[i]? with
  | none => exact h
  | some t =>
    -- the entry map changes by a placeholder, which binds nothing, or by the value the file holds, which is then read
    have hplace : ∀ k th', Sourced (c.withShared { c.shared with es := (setEntry c.es k none).1 } th') := fun k th' k' v hb => by
      rcases lk_setEntry_bound_inv _ _ _ _ _ hb with hb' | ⟨_, hv⟩
      · exact h k' v hb'
      · cases hv
    simp only
    unfold stepThread
    split
    · split
      · exact h
      · exact h
      · split <;> exact h
    · split <;> exact h
    · split
      · split <;> exact h
      · exact h
    · exact hplace _ _
    · split <;> exact h
    · split <;> exact h
    · split <;> exact h
    · exact hplace _ _
    · rename_i k m _
      split
      · rename_i v0 hv0
        intro k' v hb
        rcases lk_setEntry_bound_inv _ _ _ _ _ hb with hb' | ⟨hk, hv⟩
        · exact ⟨List.mem_cons_of_mem _ (h k' v hb').1, (h k' v hb').2⟩
        · subst hk; cases hv; exact ⟨List.mem_cons_self, hv0⟩
      · split
        · exact fun k' v hb => ⟨List.mem_cons_of_mem _ (h k' v hb).1, (h k' v hb).2⟩
        · exact h
    · exact h
    · exact h
    · exact h

theorem Sourced_initB (files : List (Key × V)) (broken : List (Key × String)) (progs : List (List FOp)) :
    Sourced (Config.initB files broken progs) := by
  intro k v hb; simp [Config.initB, lk] at hb

def iter (c : Config) : List Nat → Config
  | [] => c
  | i :: r => iter (stepAt c i) r

theorem reachable_iter (c0 c : Config) (is : List Nat) (h : Reachable c0 c) : Reachable c0 (iter c is) := by
  induction is generalizing c with
  | nil => exact h
  | cons i r ih => exact ih _ (Reachable.step i h)

end Pcore.Instantiate

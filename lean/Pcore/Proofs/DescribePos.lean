import Pcore.Proofs.Describe
/-!
  Positions of the describer (C19): `Reach e a oc s x a'` — following the path suffix `s` from the pair (expected `e`, actual `a`)
  leads to the pair (`x`, `a'`).  The relation is defined on the STRUCTURE of the two type terms, independently of the describer's
  loops:

    entry 'k'          Struct/Struct: the member named k of both;  Hash/Struct: the value type and the member named k
    key of entry 'k'   Struct/Struct: String[k] twice;  Hash/Struct: the key type and the key type of the member named k
    index 'i'          Array/Tuple: the element type and the i-th type;  Tuple/Array: the i-th type and the element type;
                       Tuple/Tuple: the LAST expected type and the i-th actual type, for i at or beyond the expected length
    variant 'i'        the i-th member of a Variant (an Optional expectation adds Undef as one more member) or of the resolved Data /
                       RichData alias — or no element at all (a merged description has its variant element chopped)
    (nothing)          the contained type of an Optional;  Callable/Callable: the two parameter tuples (absent actual one = the default Tuple)
    return / block     Callable/Callable: the two return types (absent actual one = Any) / the two block types

  `oc` = "the original expectation is an Optional" (it only matters for a Variant: one more member).
  `Local` is the soundness condition of a mismatch's kind at the pair the walk ends at.  `Pos` is the walk seen from the expected
  type alone (`Reach.toPos`).  The entry / key / index steps alone are
  `Step`; each loop of a container arm asks only for such steps (`ItemOK`).
-/
namespace Pcore.Desc
open Pcore.Lat

/-- the members `describeVariantType` loops over when handed `e` -/
def members (e : Ty) (oc : Bool) : Option (List Atom) :=
  match e with
  | .variant ts => some (ts.map .ty ++ (if oc then [.ty .undef] else []))
  | .data => some dataMembers
  | .richData => some richMembers
  | _ => none

inductive Reach : Ty → Ty → Bool → Path → Atom → Ty → Prop where
  | refl (e a oc) : Reach e a oc [] (.ty e) a
  | opt {t a oc oc' s x a'} : Reach t a oc' s x a' → Reach (.optional t) a oc s x a'
  | silent {e a oc xs t s x a'} : members e oc = some xs → Atom.ty t ∈ xs → Reach t a false s x a' → Reach e a oc s x a'
  | explicit {e a oc xs i t s x a'} : members e oc = some xs → xs[i]? = some (.ty t) → Reach t a false s x a' →
      Reach e a oc (PE.nat .variant i :: s) x a'
  | opq {e a oc xs i y} : members e oc = some xs → xs[i]? = some y → (∀ t, y ≠ .ty t) → Reach e a oc [PE.nat .variant i] y a
  | opqSilent {e a oc xs y} : members e oc = some xs → y ∈ xs → (∀ t, y ≠ .ty t) → Reach e a oc [] y a
  | entryS {ms ms' : List Member} {n o t} {m' : Member} {oc s x a'} : (n, o, t) ∈ ms → m' ∈ ms' → m'.1 = n →
      Reach t m'.2.2 false s x a' → Reach (.struct ms) (.struct ms') oc (⟨.entry, n⟩ :: s) x a'
  | keyS {ms ms' : List Member} {n o t} {m' : Member} {oc s x a'} : (n, o, t) ∈ ms → m' ∈ ms' → m'.1 = n →
      Reach (.strVal n) (.strVal n) false s x a' → Reach (.struct ms) (.struct ms') oc (⟨.entryKey, n⟩ :: s) x a'
  | entryH {k v r} {ms' : List Member} {m' : Member} {oc s x a'} : m' ∈ ms' →
      Reach v m'.2.2 false s x a' → Reach (.hash k v r) (.struct ms') oc (⟨.entry, m'.1⟩ :: s) x a'
  | keyH {k v r} {ms' : List Member} {m' : Member} {oc s x a'} : m' ∈ ms' →
      Reach k (memberKey m') false s x a' → Reach (.hash k v r) (.struct ms') oc (⟨.entryKey, m'.1⟩ :: s) x a'
  | idxAT {et r ts' g' i t' oc s x a'} : ts'[i]? = some t' →
      Reach et t' false s x a' → Reach (.array et r) (.tuple ts' g') oc (PE.nat .index i :: s) x a'
  | idxTA {ts g e' r' i t oc s x a'} : ts[i]? = some t →
      Reach t e' false s x a' → Reach (.tuple ts g) (.array e' r') oc (PE.nat .index i :: s) x a'
  | idxTT {ts g ts' g' i ext t' oc s x a'} : ts.getLast? = some ext → ts.length ≤ i → ts'[i]? = some t' →
      Reach ext t' false s x a' → Reach (.tuple ts g) (.tuple ts' g') oc (PE.nat .index i :: s) x a'
  -- Callable against Callable: the parameter tuples are described under the SAME path (absent actual parameters = the default Tuple);
  -- the return types below `return`, the block types below `block`
  | callP {ep rt bl ps' rt' bl' oc s x a'} : Reach ep (ps'.getD (.tuple [] (some Rng.pos))) false s x a' →
      Reach (.callable (some ep) rt bl) (.callable ps' rt' bl') oc s x a'
  | callRet {ps er bl ps' rt' bl' oc} :
      Reach (.callable ps (some er) bl) (.callable ps' rt' bl') oc [⟨.ret, ""⟩] (.ty er) (rt'.getD .any)
  | callBlk {ps rt eb ps' rt' ab oc} :
      Reach (.callable ps rt (some eb)) (.callable ps' rt' (some ab)) oc [⟨.block, ""⟩] (.ty eb) ab

/-- the per-kind soundness condition at the pair of sub-terms the path leads to -/
def Local (kk : Cls × String) (x : Atom) (a' : Ty) : Prop :=
  match kk.1 with
  | .missingKey =>
      ∃ ms ms', x = .ty (.struct ms) ∧ a' = .struct ms' ∧ (∃ t, (kk.2, false, t) ∈ ms) ∧
        (lookupLast kk.2 ms' = none ∨ ¬ (ms.map (·.1)).Nodup)
  | .extraneousKey =>
      ∃ ms ms', x = .ty (.struct ms) ∧ a' = .struct ms' ∧ (∃ m ∈ ms', m.1 = kk.2) ∧ ∀ m ∈ ms, m.1 ≠ kk.2
  | _ => True

theorem Reach.drop_isOptional {e a s x a'} (h : Reach e a (isOptional e) s x a') : Reach e a false s x a' := by
  cases e with
  | optional t =>
    -- an Optional has no members: the walk stands still or unwraps it
    cases h with
    | refl => exact .refl _ _ _
    | opt h' => exact .opt h'
    | silent hm | explicit hm | opq hm | opqSilent hm => cases hm
  | _ => exact h

/-- `s` is a position of the expected type `e`: what the path of a mismatch may look like, whatever the actual type -/
inductive Pos : Ty → Bool → Path → Prop where
  | nil (e oc) : Pos e oc []
  | opt {t oc oc' s} : Pos t oc' s → Pos (.optional t) oc s
  | silent {e oc xs t s} : members e oc = some xs → Atom.ty t ∈ xs → Pos t false s → Pos e oc s
  | explicit {e oc xs i t s} : members e oc = some xs → xs[i]? = some (.ty t) → Pos t false s → Pos e oc (PE.nat .variant i :: s)
  | opq {e oc xs i y} : members e oc = some xs → xs[i]? = some y → Pos e oc [PE.nat .variant i]
  | entryS {ms : List Member} {n o t oc s} : (n, o, t) ∈ ms → Pos t false s → Pos (.struct ms) oc (⟨.entry, n⟩ :: s)
  | keyS {ms : List Member} {n o t oc s} : (n, o, t) ∈ ms → Pos (.strVal n) false s → Pos (.struct ms) oc (⟨.entryKey, n⟩ :: s)
  | entryH {k v r n oc s} : Pos v false s → Pos (.hash k v r) oc (⟨.entry, n⟩ :: s)
  | keyH {k v r n oc s} : Pos k false s → Pos (.hash k v r) oc (⟨.entryKey, n⟩ :: s)
  | idxA {et r i oc s} : Pos et false s → Pos (.array et r) oc (PE.nat .index i :: s)
  | idxT {ts g i t oc s} : (ts[i]? = some t ∨ (ts.length ≤ i ∧ ts.getLast? = some t)) → Pos t false s →
      Pos (.tuple ts g) oc (PE.nat .index i :: s)
  | callP {ep rt bl oc s} : Pos ep false s → Pos (.callable (some ep) rt bl) oc s
  | callRet {ps er bl oc} : Pos (.callable ps (some er) bl) oc [⟨.ret, ""⟩]
  | callBlk {ps rt eb oc} : Pos (.callable ps rt (some eb)) oc [⟨.block, ""⟩]

theorem Reach.toPos {e a oc s x a'} (h : Reach e a oc s x a') : Pos e oc s := by
  induction h with
  | refl => exact .nil _ _
  | opt _ ih => exact .opt ih
  | silent hm hin _ ih => exact .silent hm hin ih
  | explicit hm hi _ ih => exact .explicit hm hi ih
  | opq hm hi _ => exact .opq hm hi
  | opqSilent => exact .nil _ _
  | entryS hin _ _ _ ih => exact .entryS hin ih
  | keyS hin _ _ _ ih => exact .keyS hin ih
  | entryH _ _ ih => exact .entryH ih
  | keyH _ _ ih => exact .keyH ih
  | idxAT _ _ ih => exact .idxA ih
  | idxTA hi _ ih => exact .idxT (.inl hi) ih
  | idxTT hl hle _ _ ih => exact .idxT (.inr ⟨hle, hl⟩) ih
  | callP _ ih => exact .callP ih
  | callRet => exact .callRet
  | callBlk => exact .callBlk

/-- the entry / key / index steps of `Reach`: from the pair (e, a) below the path element `pe` to the pair (e2, a2) -/
inductive Step : Ty → Ty → PE → Ty → Ty → Prop where
  | entryS {ms ms' : List Member} {n o t} {m' : Member} : (n, o, t) ∈ ms → m' ∈ ms' → m'.1 = n →
      Step (.struct ms) (.struct ms') ⟨.entry, n⟩ t m'.2.2
  | keyS {ms ms' : List Member} {n o t} {m' : Member} : (n, o, t) ∈ ms → m' ∈ ms' → m'.1 = n →
      Step (.struct ms) (.struct ms') ⟨.entryKey, n⟩ (.strVal n) (.strVal n)
  | entryH {k v r} {ms' : List Member} {m' : Member} : m' ∈ ms' → Step (.hash k v r) (.struct ms') ⟨.entry, m'.1⟩ v m'.2.2
  | keyH {k v r} {ms' : List Member} {m' : Member} : m' ∈ ms' →
      Step (.hash k v r) (.struct ms') ⟨.entryKey, m'.1⟩ k (memberKey m')
  | idxAT {et r ts' g' i t'} : ts'[i]? = some t' → Step (.array et r) (.tuple ts' g') (PE.nat .index i) et t'
  | idxTA {ts g e' r' i t} : ts[i]? = some t → Step (.tuple ts g) (.array e' r') (PE.nat .index i) t e'
  | idxTT {ts g ts' g' i ext t'} : ts.getLast? = some ext → ts.length ≤ i → ts'[i]? = some t' →
      Step (.tuple ts g) (.tuple ts' g') (PE.nat .index i) ext t'

theorem Step.reach {e a pe e2 a2 oc s x a'} (h : Step e a pe e2 a2) (hr : Reach e2 a2 false s x a') :
    Reach e a oc (pe :: s) x a' := by
  cases h with
  | entryS hin hm hn => exact .entryS hin hm hn hr
  | keyS hin hm hn => exact .keyS hin hm hn hr
  | entryH hm => exact .entryH hm hr
  | keyH hm => exact .keyH hm hr
  | idxAT hi => exact .idxAT hi hr
  | idxTA hi => exact .idxTA hi hr
  | idxTT hl hle hi => exact .idxTT hl hle hi hr

/-- what the loop of a container arm may hold for the pair (e, a) at `p`: a step into both types, or (Struct against Struct) a
    missing or an unrecognised key with the soundness condition of its kind -/
def ItemOK (e a : Ty) (p : Path) : Item → Prop
  | .sub e2 a2 pe _ => Step e a pe e2 a2
  | .leaf m => (∃ k, m = .missingKey p k ∨ m = .extraneousKey p k) ∧ Local m.kk (.ty e) a

theorem structItems_ok (p : Path) (ms ms' : List Member) : ∀ it ∈ structItems p ms ms', ItemOK (.struct ms) (.struct ms') p it := by
  intro it hit
  rcases structItems_spec p ms ms' it hit with ⟨k, rfl, hin, hno⟩ | ⟨k, rfl, ht, hor⟩ | ⟨n, o, t, m', hin, hm', hn, rfl | rfl⟩
  · exact ⟨⟨k, .inr rfl⟩, ms, ms', rfl, rfl, hin, hno⟩
  · exact ⟨⟨k, .inl rfl⟩, ms, ms', rfl, rfl, ht, hor⟩
  · exact .keyS hin hm' hn
  · exact .entryS hin hm' hn

theorem hashItems_ok (p : Path) (k v : Ty) (r : Rng) (ms' : List Member) :
    ∀ it ∈ hashItems k v ms', ItemOK (.hash k v r) (.struct ms') p it := by
  intro it hit
  obtain ⟨m', hm', rfl | rfl⟩ := hashItems_spec k v ms' it hit
  · exact .keyH hm'
  · exact .entryH hm'

theorem arrTupItems_ok (p : Path) (et : Ty) (r : Rng) (ts' : List Ty) (g' : Option Rng) :
    ∀ it ∈ arrTupItems et ts' 0, ItemOK (.array et r) (.tuple ts' g') p it := by
  intro it hit
  obtain ⟨j, t', hj, rfl⟩ := arrTupItems_spec et ts' 0 it hit
  exact .idxAT hj

theorem tupArrItems_ok (p : Path) (ts : List Ty) (g : Option Rng) (e' : Ty) (r' : Rng) :
    ∀ it ∈ tupArrItems e' ts 0, ItemOK (.tuple ts g) (.array e' r') p it := by
  intro it hit
  obtain ⟨j, t, hj, rfl⟩ := tupArrItems_spec e' ts 0 it hit
  exact .idxTA hj

theorem tupTupItems_ok (p : Path) (ts : List Ty) (g : Option Rng) (ts' : List Ty) (g' : Option Rng) {ext : Ty}
    (hl : ts.getLast? = some ext) : ∀ it ∈ tupTupItems ext ts.length ts' 0, ItemOK (.tuple ts g) (.tuple ts' g') p it := by
  intro it hit
  obtain ⟨j, t', hj, hle, rfl⟩ := tupTupItems_spec ext ts.length ts' 0 it hit
  exact .idxTT hl hle hj

end Pcore.Desc

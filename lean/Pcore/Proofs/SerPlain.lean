import Pcore.Proofs.SerWf
/-! C10: with de-duplication off (`local_reference=false` or `dedup_level=0`) the serializer emits exactly the
    reference-free stream `plain`, whatever the level and the state (`toData_nodedup`); `plain` reads only `rich`, `bin`,
    `cplx` of the configuration (`plain_congr`); together: `serialize` with `local_reference=false` is `plain` (`serialize_noref`). -/
namespace Pcore.Ser

theorem strData_nodedup (c : Cfg) (h : c.dedup = 0) (level : Nat) (s : String) (st : St) :
    (strData c level s st).1 = .add (.str s) := by
  rcases strData_cases c level s st with h' | ⟨_, _, _, h0⟩
  · exact h'.1
  · exact absurd h h0

theorem head3_nodedup (c : Cfg) (h : c.dedup = 0) (tl : Nat) (tn : String) (st : St) :
    (head3 c tl tn st).1 = [ptypeEv, .add (.str tn), pvalueEv] := by
  simp [head3, strData_nodedup c h, ptypeEv, pvalueEv]

mutual
theorem toData_nodedup (c : Cfg) (h : c.dedup = 0) : ∀ (level : Nat) (v : V) (st : St), (toData c level v st).1 = plain c v
  | _, .undef, _ | _, .bool _, _ | _, .int _, _ | _, .flt _, _ => rfl
  | level, .str s, st => strData_nodedup c h level s st
  | _, .dflt, st => by
      simp only [toData, plain]
      split <;> simp [strData_nodedup c h, ptypeEv]
  | _, .hash id es, st => by
      simp only [toData, plain, seen_nodedup h]
      split
      · simp [pairsData_nodedup c h es]
      · split
        · simp [head3_nodedup c h, flatData_nodedup c h es, typed]
        · simp [skeyData_nodedup c h es]
  | _, .arr id vs, st => by
      simp only [toData, plain, seen_nodedup h]
      simp [listData_nodedup c h vs]
  | level, .sens id v, st => by
      simp only [toData, plain, seen_nodedup h]
      split
      · simp [head3_nodedup c h, toData_nodedup c h 1 v, typed]
      · simp [strData_nodedup c h]
  | level, .bin id bs, st => by
      simp only [toData, plain, seen_nodedup h]
      split
      · simp
      · split
        · simp [head3_nodedup c h, strData_nodedup c h, typed]
        · simp [strData_nodedup c h]
  | _, .leaf id k enc disp, st => by
      simp only [toData, plain, seen_nodedup h]
      split
      · simp [head3_nodedup c h, strData_nodedup c h, typed]
      · simp [strData_nodedup c h]
  | _, .obj id tn disp attrs, st => by
      simp only [toData, plain, seen_nodedup h]
      split
      · simp [strData_nodedup c h, attrsData_nodedup c h attrs, ptypeEv]
      · simp [strData_nodedup c h]
theorem listData_nodedup (c : Cfg) (h : c.dedup = 0) : ∀ (vs : List V) (st : St), (listData c vs st).1 = plainList c vs
  | [], _ => by simp [listData, plainList]
  | v :: vs, st => by simp [listData, plainList, toData_nodedup c h 1 v, listData_nodedup c h vs]
theorem pairsData_nodedup (c : Cfg) (h : c.dedup = 0) : ∀ (es : List (V × V)) (st : St),
    (pairsData c es st).1 = plainPairs c es
  | [], _ => by simp [pairsData, plainPairs]
  | (k, v) :: es, st => by
      simp [pairsData, plainPairs, toData_nodedup c h 2 k, toData_nodedup c h 1 v, pairsData_nodedup c h es]
theorem flatData_nodedup (c : Cfg) (h : c.dedup = 0) : ∀ (es : List (V × V)) (st : St),
    (flatData c es st).1 = plainPairs c es
  | [], _ => by simp [flatData, plainPairs]
  | (k, v) :: es, st => by
      simp [flatData, plainPairs, toData_nodedup c h 1 k, toData_nodedup c h 1 v, flatData_nodedup c h es]
theorem skeyData_nodedup (c : Cfg) (h : c.dedup = 0) : ∀ (es : List (V × V)) (st : St),
    (skeyData c es st).1 = plainSKeys c es
  | [], _ => by simp [skeyData, plainSKeys]
  | (k, v) :: es, st => by
      simp [skeyData, plainSKeys, strData_nodedup c h, toData_nodedup c h 1 v, skeyData_nodedup c h es]
theorem attrsData_nodedup (c : Cfg) (h : c.dedup = 0) : ∀ (as : List (String × V)) (st : St),
    (attrsData c as st).1 = plainAttrs c as
  | [], _ => by simp [attrsData, plainAttrs]
  | (k, v) :: as, st => by
      simp [attrsData, plainAttrs, strData_nodedup c h, toData_nodedup c h 1 v, attrsData_nodedup c h as]
end

mutual
theorem plain_congr (c c' : Cfg) (h1 : c'.rich = c.rich) (h2 : c'.bin = c.bin) (h3 : c'.cplx = c.cplx) :
    ∀ (v : V), plain c' v = plain c v
  | .undef | .bool _ | .int _ | .flt _ | .str _ => rfl
  | .dflt => by simp [plain, h1]
  | .hash _ es => by
      simp [plain, h1, h3, plainPairs_congr c c' h1 h2 h3 es, plainSKeys_congr c c' h1 h2 h3 es]
  | .arr _ vs => by simp [plain, plainList_congr c c' h1 h2 h3 vs]
  | .sens _ v => by simp [plain, h1, plain_congr c c' h1 h2 h3 v]
  | .bin _ _ => by simp [plain, h1, h2]
  | .leaf _ _ _ _ => by simp [plain, h1]
  | .obj _ _ _ as => by simp [plain, h1, plainAttrs_congr c c' h1 h2 h3 as]
theorem plainList_congr (c c' : Cfg) (h1 : c'.rich = c.rich) (h2 : c'.bin = c.bin) (h3 : c'.cplx = c.cplx) :
    ∀ (vs : List V), plainList c' vs = plainList c vs
  | [] => by simp [plainList]
  | v :: vs => by simp [plainList, plain_congr c c' h1 h2 h3 v, plainList_congr c c' h1 h2 h3 vs]
theorem plainPairs_congr (c c' : Cfg) (h1 : c'.rich = c.rich) (h2 : c'.bin = c.bin) (h3 : c'.cplx = c.cplx) :
    ∀ (es : List (V × V)), plainPairs c' es = plainPairs c es
  | [] => by simp [plainPairs]
  | (k, v) :: es => by
      simp [plainPairs, plain_congr c c' h1 h2 h3 k, plain_congr c c' h1 h2 h3 v, plainPairs_congr c c' h1 h2 h3 es]
theorem plainSKeys_congr (c c' : Cfg) (h1 : c'.rich = c.rich) (h2 : c'.bin = c.bin) (h3 : c'.cplx = c.cplx) :
    ∀ (es : List (V × V)), plainSKeys c' es = plainSKeys c es
  | [] => by simp [plainSKeys]
  | (k, v) :: es => by
      simp [plainSKeys, plain_congr c c' h1 h2 h3 v, plainSKeys_congr c c' h1 h2 h3 es]
theorem plainAttrs_congr (c c' : Cfg) (h1 : c'.rich = c.rich) (h2 : c'.bin = c.bin) (h3 : c'.cplx = c.cplx) :
    ∀ (as : List (String × V)), plainAttrs c' as = plainAttrs c as
  | [] => by simp [plainAttrs]
  | (k, v) :: as => by
      simp [plainAttrs, plain_congr c c' h1 h2 h3 v, plainAttrs_congr c c' h1 h2 h3 as]
end

theorem serialize_noref (o : Opts) (cp : Caps) (v : V) :
    serialize { o with localRef := false } cp v = plain (mkCfg o cp) v :=
  (toData_nodedup _ (by simp [mkCfg]) 1 v St.init).trans
    (plain_congr (mkCfg o cp) (mkCfg { o with localRef := false } cp) rfl rfl rfl v)

end Pcore.Ser

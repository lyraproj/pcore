import Pcore.Model.Lex
/-!
Helper lemmas about the lexer model: whatever a lexer function leaves unconsumed is a suffix of its input
(`*_suffix`), hence `nextToken` makes progress unless it answers the end token (`nextTok_progress`).  Also the dispatch of
`nextToken` on its first character (`nextToken_chr`).

Every lexer function is a tree of conditionals whose leaves either answer with the tail `tl` or the whole input `s :: tl`
left over, or continue on `tl`.  `rest_ite_suffix` lets `simp` walk that tree; the leaves are `List.suffix_cons`,
`List.suffix_refl` and the fact already known for `tl`.
-/
namespace Pcore.Syntax

def LexRes.rest : LexRes → List Sym
  | .tok _ r _ => r
  | .err r _ => r

@[simp] theorem LexRes.rest_tok (t r b) : (LexRes.tok t r b).rest = r := rfl
@[simp] theorem LexRes.rest_err (r b) : (LexRes.err r b).rest = r := rfl

/-- one step of every suffix proof: use the induction hypothesis on the tail, or close a leaf, or split a branch -/
macro "lex_suffix_step" ih:ident : tactic =>
  `(tactic| repeat' first
      | exact ($ih _ _).trans (List.suffix_cons _ _)
      | exact ($ih _).trans (List.suffix_cons _ _)
      | (simp [intTok, floatTok, mk]; done)
      | split)

theorem rest_ite_suffix {c : Prop} [Decidable c] {a b : LexRes} {l : List Sym} :
    (if c then a else b).rest <:+ l ↔ (c → a.rest <:+ l) ∧ (¬c → b.rest <:+ l) := by
  split <;> simp [*]

theorem lexStr_suffix (q : Char) (m : SMode) (acc : Str) (l : List Sym) :
    (lexStr q m acc l).rest <:+ l := by
  induction l generalizing m acc with
  | nil => simp [lexStr]
  | cons s tl ih =>
    have ih' (m acc) : (lexStr q m acc tl).rest <:+ s :: tl := (ih m acc).trans (List.suffix_cons _ _)
    cases hs : s.rune <;> cases m <;> simp [lexStr, hs, rest_ite_suffix, ih']

theorem lexRx_suffix (m : RMode) (acc : Str) (l : List Sym) : (lexRx m acc l).rest <:+ l := by
  induction l generalizing m acc with
  | nil => simp [lexRx]
  | cons s tl ih =>
    have ih' (m acc) : (lexRx m acc tl).rest <:+ s :: tl := (ih m acc).trans (List.suffix_cons _ _)
    cases hs : s.rune <;> cases m <;> simp [lexRx, hs, rest_ite_suffix, ih']

theorem lexNum_suffix (il : Char → Bool) (m : NMode) (acc : Str) (l : List Sym) :
    (lexNum il m acc l).rest <:+ l := by
  induction l generalizing m acc with
  | nil => cases m <;> simp [lexNum, intTok, floatTok]
  | cons s tl ih =>
    have ih' (m acc) : (lexNum il m acc tl).rest <:+ s :: tl := (ih m acc).trans (List.suffix_cons _ _)
    cases hs : s.rune <;> cases m <;> simp [lexNum, intTok, floatTok, hs, rest_ite_suffix, ih']

theorem lexIdent_suffix (u : Bool) (m : IMode) (acc : Str) (l : List Sym) :
    (lexIdent u m acc l).rest <:+ l := by
  induction l generalizing m acc with
  | nil => cases m <;> simp [lexIdent]
  | cons s tl ih =>
    have ih' (m acc) : (lexIdent u m acc tl).rest <:+ s :: tl := (ih m acc).trans (List.suffix_cons _ _)
    cases hs : s.rune <;> cases m <;> simp [lexIdent, hs, rest_ite_suffix, ih']

theorem forall_ite_some {α : Type} {P : α → Prop} {c : Prop} [Decidable c] {a : α} {o : Option α} :
    (∀ r, (if c then some a else o) = some r → P r) ↔ (c → P a) ∧ (¬c → ∀ r, o = some r → P r) := by
  split <;> simp [*]

theorem punctTok_rest (c : Char) (tl : List Sym) : ∀ r, punctTok c tl = some r → r.rest = tl := by
  simp [punctTok, mk, forall_ite_some]

theorem startTok_suffix (il : Char → Bool) (c : Char) (tl : List Sym) : (startTok il c tl).rest <:+ tl := by
  have hsign : (signTok il c tl).rest <:+ tl := by
    unfold signTok
    split
    · simp
    · split
      · simp
      · simp [rest_ite_suffix, (lexNum_suffix il _ _ _).trans (List.suffix_cons _ _)]
  have heq : (eqTok tl).rest <:+ tl := by
    unfold eqTok
    split <;> simp [mk, rest_ite_suffix]
  unfold startTok
  cases hp : punctTok c tl with
  | some r => simp [rest_ite_suffix, lexStr_suffix, lexRx_suffix, punctTok_rest c tl r hp]
  | none => simp [rest_ite_suffix, lexStr_suffix, lexRx_suffix, lexNum_suffix, lexIdent_suffix, hsign, heq]

theorem nextTok_suffix (il : Char → Bool) (ic : Bool) (l : List Sym) : (nextTok il ic l).rest <:+ l := by
  induction l generalizing ic with
  | nil => simp [nextTok]
  | cons s tl ih =>
    have ih' (ic) : (nextTok il ic tl).rest <:+ s :: tl := (ih ic).trans (List.suffix_cons _ _)
    cases hs : s.rune <;>
      simp [nextTok, hs, rest_ite_suffix, ih', (startTok_suffix il _ tl).trans (List.suffix_cons _ _)]

theorem nextTok_cons (il : Char → Bool) (ic : Bool) (s : Sym) (tl : List Sym) :
    (nextTok il ic (s :: tl)).rest <:+ tl ∨ nextTok il ic (s :: tl) = .err (s :: tl) false := by
  cases hs : s.rune with
  | none => simp [nextTok, hs]
  | some c => simp [nextTok, hs, rest_ite_suffix, nextTok_suffix, startTok_suffix]

theorem nextTok_progress (il : Char → Bool) (ic : Bool) (l : List Sym) (t : Tok) (r : List Sym) (b : Bool)
    (h : nextTok il ic l = .tok t r b) : r.length < l.length ∨ t.k = .eoi := by
  cases l with
  | nil => simp [nextTok] at h; simp [← h.1]
  | cons s tl =>
    rcases nextTok_cons il ic s tl with hs | he
    · rw [h] at hs
      exact .inl (Nat.lt_succ_of_le hs.length_le)
    · rw [h] at he
      cases he

theorem rune_chr {c : Char} (h : c ≠ runeError) : (Sym.chr c).rune = some c := by simp [Sym.rune, h]

theorem nextToken_chr (il : Char → Bool) {c : Char} (tl : List Sym) (hr : c ≠ runeError) (h0 : c ≠ '\x00')
    (hb : ¬(c = ' ' ∨ c = '\t' ∨ c = '\n')) (hh : c ≠ '#') : nextToken il (.chr c :: tl) = startTok il c tl := by
  rw [nextToken, nextTok, rune_chr hr]
  simp only [Bool.false_eq_true, if_false, h0, hb, hh]

end Pcore.Syntax

import Pcore.Model.LoaderDep
import Pcore.Proofs.LoaderSeq
/-! Dependency loaders (the lemmas under C12_dep_*), over `Proofs/LoaderSeq`: the lookup through a chain that ends in one
    factors into "bind the name lazily in the dependency loader" (`fillD`) followed by the plain parent-first lookup
    (`loadD_root`).  In order: the specification (`depSpec`: what the dependencies bind); `loadD` by its equation, and a
    chain without dependency loader behaves as the plain model; `depFind` finds `depSpec`; `depLoadEntry` case by case (a
    cached value, the panic of `Parts()`, or `depFind`'s answer stored by one `SetEntry`); chains that end in a dependency
    loader (`DepChain`); `Grows` for every operation and every history. -/
namespace Pcore.LoaderSeq

/-! ### specification (from the property text and the meaning of a dependency loader, no cache in it) -/

/-- the module a qualified name addresses by its first segment -/
def namedModule (mods : Mods) (n : Name) : Option Nat :=
  if isQualified n then indexOf mods ((segsOf n).headD "") else none

/-- what the dependencies bind: the named module's resolution for a qualified name that names one, otherwise the
    resolution of the first module, in dependency order, that resolves the name -/
def depSpec (s : Sys) (mods : Mods) (n : Name) : Option V :=
  match namedModule mods n with
  | some m => resolve s m (canon n)
  | none => mods.findSome? fun m => resolve s m.2 (canon n)

/-- the name is well formed as far as the dependency loader looks at it -/
def PartsOK (mods : Mods) (n : Name) : Prop := (!indexEmpty mods && isQualified n) = true → (partsOf n).isSome = true

instance (mods : Mods) (n : Name) : Decidable (PartsOK mods n) := by unfold PartsOK; infer_instance

/-- the chain ends in the dependency loader `d` (with modules `mods`) and holds no other -/
def DepChain (dps : List (Option Mods)) (ch : List Nat) (d : Nat) (mods : Mods) : Prop :=
  ch.getLast? = some d ∧ (∀ a ∈ ch.dropLast, dps.getD a none = none) ∧ dps.getD d none = some mods

instance (dps : List (Option Mods)) (ch : List Nat) (d : Nat) (mods : Mods) : Decidable (DepChain dps ch d mods) := by
  unfold DepChain; infer_instance

/-- the state after the lookup's only write above the addressed loader: the lazy binding in the chain's root -/
def fillD (dps : List (Option Mods)) (s : Sys) (l : Nat) (n : Name) : Sys := (loadEntryD dps s (chain s.ps l) n).1

-- (keeps the unifier from evaluating string functions on variables)
attribute [local irreducible] segsOf canon

/-! ### `loadD` by its equation; along a chain without dependency loader every operation is the plain one -/

theorem loadEntryD_cons_plain {dps : List (Option Mods)} {s s1 : Sys} {l : Nat} {anc : List Nat} {n : Name}
    (hl : dps.getD l none = none) (h : loadEntryD dps s anc n = (s1, .ok (loadEntryC s1.es anc (canon n)))) :
    loadEntryD dps s (l :: anc) n = (s1, .ok (loadEntryC s1.es (l :: anc) (canon n))) := by
  simp only [loadEntryD, hl, h, loadEntryC]
  cases loadEntryC s1.es anc (canon n) with
  | none => simp [Sys.ents]
  | some o => cases o <;> simp [Sys.ents]

theorem loadEntryD_plain (dps : List (Option Mods)) (s : Sys) (ch : List Nat) (n : Name)
    (h : ∀ a ∈ ch, dps.getD a none = none) :
    loadEntryD dps s ch n = (s, .ok (loadEntryC s.es ch (canon n))) := by
  induction ch with
  | nil => rfl
  | cons l anc ih => exact loadEntryD_cons_plain (h l (by simp)) (ih fun a ha => h a (by simp [ha]))

/-- `loadD` in terms of the two components of `loadEntryD` (no `match` on a pair) -/
theorem loadD_eq (dps : List (Option Mods)) (s : Sys) (l : Nat) (n : Name) (ha : n.auth = runtimeAuthority) :
    loadD dps s l n =
      match (loadEntryD dps s (chain s.ps l) n).2 with
      | .bad => ((loadEntryD dps s (chain s.ps l) n).1, .reported "PCORE_INVALID_CHARACTERS_IN_NAME")
      | .ok none => ((loadEntryD dps s (chain s.ps l) n).1.setEnts l
          (setEntry ((loadEntryD dps s (chain s.ps l) n).1.ents l) (canon n) none).1, .notfound)
      | .ok (some none) => ((loadEntryD dps s (chain s.ps l) n).1, .notfound)
      | .ok (some (some v)) => ((loadEntryD dps s (chain s.ps l) n).1, .found v) := by
  unfold loadD
  simp only [ha, ne_eq, not_true_eq_false, if_false]
  generalize loadEntryD dps s (chain s.ps l) n = r
  obtain ⟨s1, e⟩ := r
  cases e with
  | bad => rfl
  | ok o =>
    cases o with
    | none => rfl
    | some o2 => cases o2 <;> rfl

theorem loadD_foreign (dps : List (Option Mods)) (s : Sys) (l : Nat) (n : Name) (ha : n.auth ≠ runtimeAuthority) :
    loadD dps s l n = (s, .notfound) := by
  unfold loadD; simp [ha]

theorem loadD_plain (dps : List (Option Mods)) (s : Sys) (l : Nat) (n : Name)
    (h : ∀ a ∈ chain s.ps l, dps.getD a none = none) : loadD dps s l n = load s l n := by
  unfold loadD load
  rw [loadEntryD_plain dps s _ n h]
  split
  · rfl
  · cases hc : loadEntryC s.es (chain s.ps l) (canon n) with
    | none => rfl
    | some o => cases o <;> rfl

theorem stepD_plain (dps : List (Option Mods)) (s : Sys) (op : Op)
    (h : ∀ a ∈ chain s.ps op.loader, dps.getD a none = none) : stepD dps s op = step s op := by
  cases op with
  | load l n => exact loadD_plain dps s l n h
  | define _ _ _ => rfl
  | has _ _ => rfl
  | get _ _ => rfl
  | discover _ _ => rfl

/-! ### `depFind` finds what the specification says: for a well-formed name not bound in the dependency loader its answer
    joins to `depSpec` -/

theorem modLoadEntry_join (s : Sys) (m : Nat) (k : Key) : (modLoadEntry s m k).join = resolve s m k := by
  unfold modLoadEntry; rw [resolve_eq_join]

theorem depLoop_spec (s : Sys) (k : Key) (mods : Mods) :
    depLoop s k mods = mods.findSome? fun m => resolve s m.2 k := by
  induction mods with
  | nil => rfl
  | cons hd t ih =>
    obtain ⟨nm, m⟩ := hd
    simp only [depLoop, List.findSome?_cons]
    rw [← modLoadEntry_join]
    cases h : modLoadEntry s m k with
    | none => simpa using ih
    | some o =>
      cases o with
      | none => simpa using ih
      | some v => simp

theorem indexOf_none_of_empty (mods : Mods) (h : indexEmpty mods = true) (nm : String) : indexOf mods nm = none := by
  unfold indexOf
  simp only [Option.map_eq_none_iff, List.find?_eq_none, List.mem_reverse]
  intro m hm
  unfold indexEmpty at h
  have := List.all_eq_true.mp h m hm
  simp only [beq_iff_eq] at this
  simp [this]

theorem partsOf_eq_some {n : Name} {segs : List String} (h : partsOf n = some segs) : segs = segsOf n := by
  unfold partsOf at h; split at h
  · exact (Option.some.inj h).symm
  · cases h

theorem namedModule_eq_none {mods : Mods} {n : Name} (h : (!indexEmpty mods && isQualified n) = false) :
    namedModule mods n = none := by
  unfold namedModule
  cases hq : isQualified n with
  | false => simp
  | true =>
    have he : indexEmpty mods = true := by simpa [hq] using h
    simp [indexOf_none_of_empty mods he]

theorem depFind_eq (s : Sys) (d : Nat) (mods : Mods) (n : Name) (hp : PartsOK mods n) :
    depFind s d mods n = match namedModule mods n with
      | some m => .ok (modLoadEntry s m (canon n))
      | none => match depLoop s (canon n) mods with
        | some v => .ok (some (some v))
        | none => .ok (lk (canon n) (s.ents d)) := by
  unfold depFind
  cases hq : (!indexEmpty mods && isQualified n) with
  | false => rw [namedModule_eq_none hq]; rfl
  | true =>
    obtain ⟨segs, hpo⟩ := Option.isSome_iff_exists.mp (hp hq)
    have hsegs := partsOf_eq_some hpo
    subst hsegs
    have hqual : isQualified n = true := by simp only [Bool.and_eq_true] at hq; exact hq.2
    simp only [if_true, hpo, namedModule, hqual]
    cases indexOf mods ((segsOf n).headD "") <;> rfl

theorem depFind_bad (s : Sys) (d : Nat) (mods : Mods) (n : Name) (hp : ¬ PartsOK mods n) : depFind s d mods n = .bad := by
  unfold PartsOK at hp
  simp only [Classical.not_imp, Bool.not_eq_true, Option.isSome_eq_false_iff, Option.isNone_iff_eq_none] at hp
  unfold depFind
  simp only [hp.1, if_true, hp.2]

theorem depFind_spec (s : Sys) (d : Nat) (mods : Mods) (n : Name) (hlk : bound s d (canon n) = none)
    (hp : PartsOK mods n) : ∃ e, depFind s d mods n = .ok e ∧ e.join = depSpec s mods n := by
  rw [depFind_eq s d mods n hp, depSpec, ← depLoop_spec]
  cases namedModule mods n with
  | some m => exact ⟨_, rfl, modLoadEntry_join s m _⟩
  | none =>
    cases depLoop s (canon n) mods with
    | none => exact ⟨_, rfl, hlk⟩
    | some v => exact ⟨_, rfl, rfl⟩

/-! ### `depLoadEntry`: a value the dependency loader holds is answered as it is; otherwise `depFind`'s answer, unless it is
    the panic of `Parts()`, is stored by one `SetEntry` and handed back -/

theorem depLoadEntry_cached (s : Sys) (d : Nat) (mods : Mods) (n : Name) (v : V)
    (h : bound s d (canon n) = some v) : depLoadEntry s d mods n = (s, .ok (some (some v))) := by
  unfold depLoadEntry; rw [lk_of_bound h]

theorem depLoadEntry_eq (s : Sys) (d : Nat) (mods : Mods) (n : Name) (hj : bound s d (canon n) = none) :
    depLoadEntry s d mods n =
      match depFind s d mods n with
      | .bad => (s, .bad)
      | .ok e => (s.setEnts d (setEntry (s.ents d) (canon n) e.join).1, .ok (some e.join)) := by
  unfold depLoadEntry
  cases hl : lk (canon n) (s.ents d) with
  | none =>
    cases depFind s d mods n with
    | bad => rfl
    | ok e => cases hj' : e.join <;> simp [hj']
  | some o =>
    cases o with
    | some v => rw [bound_eq_some_iff.mpr hl] at hj; cases hj
    | none =>
      cases depFind s d mods n with
      | bad => rfl
      | ok e =>
        cases hj' : e.join with
        | none => simp [hj', setEntry_unbound _ _ _ hj, put_self hl, setEnts_ents]
        | some v => simp [hj']

/-- the ways `LoadEntry` of a dependency loader ends: a cached value; the panic of `Parts()`; a value found (stored, over
    a recorded miss if there is one); nothing found and no entry (the miss is recorded); nothing found and a recorded miss -/
theorem depLoadEntry_cases (s : Sys) (d : Nat) (mods : Mods) (n : Name) :
    (∃ v, lk (canon n) (s.ents d) = some (some v) ∧ depLoadEntry s d mods n = (s, .ok (some (some v)))) ∨
    ((lk (canon n) (s.ents d)).join = none ∧ depFind s d mods n = .bad ∧ depLoadEntry s d mods n = (s, .bad)) ∨
    (∃ e v, (lk (canon n) (s.ents d)).join = none ∧ depFind s d mods n = .ok e ∧ e.join = some v ∧
      depLoadEntry s d mods n = (s.setEnts d (put (canon n) (some v) (s.ents d)), .ok (some (some v)))) ∨
    (∃ e, lk (canon n) (s.ents d) = none ∧ depFind s d mods n = .ok e ∧ e.join = none ∧
      depLoadEntry s d mods n = (s.setEnts d (put (canon n) none (s.ents d)), .ok (some none))) ∨
    (∃ e, lk (canon n) (s.ents d) = some none ∧ depFind s d mods n = .ok e ∧ e.join = none ∧
      depLoadEntry s d mods n = (s, .ok (some none))) := by
  cases hb : bound s d (canon n) with
  | some v => exact Or.inl ⟨v, lk_of_bound hb, depLoadEntry_cached s d mods n v hb⟩
  | none =>
    right
    rw [depLoadEntry_eq s d mods n hb]
    cases hf : depFind s d mods n with
    | bad => exact Or.inl ⟨hb, rfl, rfl⟩
    | ok e =>
      right
      cases hej : e.join with
      | some v => exact Or.inl ⟨e, v, hb, rfl, hej, by simp [hej, setEntry_unbound _ _ _ hb]⟩
      | none =>
        right
        cases hl : lk (canon n) (s.ents d) with
        | none => exact Or.inl ⟨e, rfl, rfl, hej, by simp [hej, setEntry_unbound _ _ _ hb]⟩
        | some o =>
          cases o with
          | none => exact Or.inr ⟨e, rfl, rfl, hej, by simp [hej, setEntry_unbound _ _ _ hb, put_self hl, setEnts_ents]⟩
          | some v => rw [bound_eq_some_iff.mpr hl] at hb; cases hb

theorem depLoadEntry_unbound (s : Sys) (d : Nat) (mods : Mods) (n : Name) (hp : PartsOK mods n)
    (hj : bound s d (canon n) = none) :
    depLoadEntry s d mods n =
      (s.setEnts d (setEntry (s.ents d) (canon n) (depSpec s mods n)).1, .ok (some (depSpec s mods n))) := by
  obtain ⟨e, hf, hs⟩ := depFind_spec s d mods n hj hp
  rw [depLoadEntry_eq s d mods n hj, hf, ← hs]

theorem depLoadEntry_bad (s : Sys) (d : Nat) (mods : Mods) (n : Name) (h : (depLoadEntry s d mods n).2 = .bad) :
    (depLoadEntry s d mods n).1 = s := by
  cases hb : bound s d (canon n) with
  | some v => rw [depLoadEntry_cached s d mods n v hb]
  | none =>
    rw [depLoadEntry_eq s d mods n hb] at h ⊢
    cases hf : depFind s d mods n with
    | bad => rfl
    | ok e => rw [hf] at h; cases h

theorem depLoadEntry_grows (s : Sys) (d : Nat) (mods : Mods) (n : Name) : Grows s (depLoadEntry s d mods n).1 := by
  cases hb : bound s d (canon n) with
  | some v => rw [depLoadEntry_cached s d mods n v hb]; exact .refl s
  | none =>
    rw [depLoadEntry_eq s d mods n hb]
    cases depFind s d mods n with
    | bad => exact .refl s
    | ok e => exact grows_setEntry s d (canon n) e.join

@[simp] theorem depLoadEntry_ps (s : Sys) (d : Nat) (mods : Mods) (n : Name) : (depLoadEntry s d mods n).1.ps = s.ps :=
  (depLoadEntry_grows s d mods n).ps

theorem depLoadEntry_ok (s : Sys) (d : Nat) (mods : Mods) (n : Name) (hd : d < s.es.length) (e : Option (Option V))
    (h : (depLoadEntry s d mods n).2 = .ok e) : lk (canon n) ((depLoadEntry s d mods n).1.ents d) = e := by
  cases hb : bound s d (canon n) with
  | some v =>
    rw [depLoadEntry_cached s d mods n v hb] at h ⊢
    cases h
    exact lk_of_bound hb
  | none =>
    rw [depLoadEntry_eq s d mods n hb] at h ⊢
    cases hf : depFind s d mods n with
    | bad => rw [hf] at h; cases h
    | ok e' =>
      rw [hf] at h
      cases h
      show lk _ (Sys.ents (Sys.setEnts _ _ _) d) = _
      rw [ents_setEnts, if_pos ⟨rfl, hd⟩, lk_setEntry, if_pos ⟨rfl, hb⟩]

theorem depLoadEntry_ne_bad (s : Sys) (d : Nat) (mods : Mods) (n : Name) (hp : PartsOK mods n) :
    (depLoadEntry s d mods n).2 ≠ .bad := by
  cases hb : bound s d (canon n) with
  | some w => rw [depLoadEntry_cached s d mods n w hb]; simp
  | none => rw [depLoadEntry_unbound s d mods n hp hb]; simp

theorem depLoadEntry_bad_of (s : Sys) (d : Nat) (mods : Mods) (n : Name) (hlk : bound s d (canon n) = none)
    (hp : ¬ PartsOK mods n) : depLoadEntry s d mods n = (s, .bad) := by
  rw [depLoadEntry_eq s d mods n hlk, depFind_bad s d mods n hp]

theorem depLoadEntry_answer (s : Sys) (d : Nat) (mods : Mods) (n : Name) (hp : PartsOK mods n)
    (hb : bound s d (canon n) = none) : (depLoadEntry s d mods n).2 = .ok (some (depSpec s mods n)) := by
  rw [depLoadEntry_unbound s d mods n hp hb]

theorem bound_depLoadEntry (s : Sys) (d : Nat) (mods : Mods) (n : Name) (hlen : d < s.es.length) (hp : PartsOK mods n)
    (l : Nat) (k : Key) :
    bound (depLoadEntry s d mods n).1 l k =
      if l = d ∧ k = canon n ∧ bound s d (canon n) = none then depSpec s mods n else bound s l k := by
  cases hb : bound s d (canon n) with
  | some w => rw [depLoadEntry_cached s d mods n w hb]; simp
  | none => rw [depLoadEntry_unbound s d mods n hp hb, bound_setEnts_setEntry]; simp [hb, hlen]

/-! ### a chain that ends in a dependency loader (`DepChain`): the only write above the addressed loader is that loader's
    `depLoadEntry`, and the lookup is the plain one on the state it leaves (`fillD`) -/

theorem loadEntryD_root (dps : List (Option Mods)) (s : Sys) (pre : List Nat) (d : Nat) (mods : Mods) (n : Name)
    (hpre : ∀ a ∈ pre, dps.getD a none = none) (hd : dps.getD d none = some mods) (hlen : d < s.es.length) :
    loadEntryD dps s (pre ++ [d]) n =
      match (depLoadEntry s d mods n).2 with
      | .bad => ((depLoadEntry s d mods n).1, .bad)
      | .ok _ => ((depLoadEntry s d mods n).1,
                  .ok (loadEntryC (depLoadEntry s d mods n).1.es (pre ++ [d]) (canon n))) := by
  cases h2 : (depLoadEntry s d mods n).2 with
  | bad =>
    induction pre with
    | nil => simp only [List.nil_append, loadEntryD, hd]; rw [← h2]
    | cons l pre ih => simp only [List.cons_append, loadEntryD, hpre l (by simp), ih fun a ha => hpre a (by simp [ha])]
  | ok e =>
    induction pre with
    | nil =>
      have := depLoadEntry_ok s d mods n hlen e h2
      simp only [Sys.ents] at this
      simp only [List.nil_append, loadEntryD, hd, loadEntryC, this, ← h2]
    | cons l pre ih => exact loadEntryD_cons_plain (hpre l (by simp)) (ih fun a ha => hpre a (by simp [ha]))

theorem depChain_split {dps : List (Option Mods)} {ch : List Nat} {d : Nat} {mods : Mods} (h : DepChain dps ch d mods) :
    ch = ch.dropLast ++ [d] := by
  obtain ⟨h1, _, _⟩ := h
  have hne : ch ≠ [] := by intro e; subst e; simp at h1
  have h2 : ch.getLast hne = d := by
    rw [List.getLast?_eq_some_getLast hne] at h1; exact Option.some.inj h1
  have := List.dropLast_concat_getLast hne
  rw [h2] at this; exact this.symm

theorem loadEntryD_self (dps : List (Option Mods)) (s : Sys) (d : Nat) (mods : Mods) (n : Name)
    (hr : s.ps.getD d none = none) (hd : dps.getD d none = some mods) :
    loadEntryD dps s (chain s.ps d) n = depLoadEntry s d mods n := by
  simp only [chain_root s.ps d hr, loadEntryD, hd]

theorem loadEntryD_depChain {dps : List (Option Mods)} {ch : List Nat} {d : Nat} {mods : Mods} (s : Sys) (n : Name)
    (hc : DepChain dps ch d mods) (hlen : d < s.es.length) :
    loadEntryD dps s ch n =
      match (depLoadEntry s d mods n).2 with
      | .bad => ((depLoadEntry s d mods n).1, .bad)
      | .ok _ => ((depLoadEntry s d mods n).1, .ok (loadEntryC (depLoadEntry s d mods n).1.es ch (canon n))) := by
  have := loadEntryD_root dps s ch.dropLast d mods n hc.2.1 hc.2.2 hlen
  rwa [← depChain_split hc] at this

theorem depChain_root (dps : List (Option Mods)) (s : Sys) (d : Nat) (mods : Mods) (hr : s.ps.getD d none = none)
    (hd : dps.getD d none = some mods) : DepChain dps (chain s.ps d) d mods := by
  rw [chain_root s.ps d hr]
  exact ⟨rfl, by simp, hd⟩

theorem depShape_root {ps : List (Option Nat)} {dps : List (Option Mods)} {d : Nat} {mods : Mods}
    (hshape : depShapeOK ps dps = true) (hd : dps.getD d none = some mods) : ps.getD d none = none := by
  by_cases hlt : d < ps.length
  · unfold depShapeOK at hshape
    have := List.all_eq_true.mp hshape d (List.mem_range.mpr hlt)
    simp only [hd, Bool.and_eq_true, Option.isNone_iff_eq_none] at this
    exact this.1
  · rw [List.getD_eq_getElem?_getD, List.getElem?_eq_none (by omega)]; rfl

theorem fillD_eq (dps : List (Option Mods)) (s : Sys) (l d : Nat) (mods : Mods) (n : Name)
    (hc : DepChain dps (chain s.ps l) d mods) (hlen : d < s.es.length) :
    fillD dps s l n = (depLoadEntry s d mods n).1 := by
  unfold fillD
  rw [loadEntryD_depChain s n hc hlen]
  cases (depLoadEntry s d mods n).2 <;> rfl

theorem fillD_plain (dps : List (Option Mods)) (s : Sys) (l : Nat) (n : Name)
    (h : ∀ a ∈ chain s.ps l, dps.getD a none = none) : fillD dps s l n = s := by
  unfold fillD; rw [loadEntryD_plain dps s _ n h]

theorem loadD_root (dps : List (Option Mods)) (s : Sys) (l d : Nat) (mods : Mods) (n : Name)
    (hc : DepChain dps (chain s.ps l) d mods) (hlen : d < s.es.length) (ha : n.auth = runtimeAuthority)
    (hok : (depLoadEntry s d mods n).2 ≠ .bad) :
    loadD dps s l n = load (fillD dps s l n) l n := by
  rw [fillD_eq dps s l d mods n hc hlen]
  unfold loadD load
  simp only [ha, ne_eq, not_true_eq_false, if_false, depLoadEntry_ps, loadEntryD_depChain s n hc hlen]
  cases h2 : (depLoadEntry s d mods n).2 with
  | bad => exact absurd h2 hok
  | ok e =>
    simp only
    cases hcc : loadEntryC (depLoadEntry s d mods n).1.es (chain s.ps l) (canon n) with
    | none => rfl
    | some o => cases o <;> rfl

/-! ### the state after `loadD`, after a step and after a history `Grows` out of the state before -/

theorem loadEntryD_cons_fst (dps : List (Option Mods)) (s : Sys) (a : Nat) (anc : List Nat) (n : Name) :
    (loadEntryD dps s (a :: anc) n).1 =
      match dps.getD a none with
      | some mods => (depLoadEntry s a mods n).1
      | none => (loadEntryD dps s anc n).1 := by
  cases hd : dps.getD a none with
  | some mods => simp only [loadEntryD, hd]
  | none =>
    simp only [loadEntryD, hd]
    generalize loadEntryD dps s anc n = r
    obtain ⟨s1, e⟩ := r
    cases e with
    | bad => rfl
    | ok o =>
      cases o with
      | none => rfl
      | some o2 => cases o2 <;> rfl

theorem loadEntryD_grows (dps : List (Option Mods)) (s : Sys) (ch : List Nat) (n : Name) :
    Grows s (loadEntryD dps s ch n).1 := by
  induction ch with
  | nil => exact .refl s
  | cons a anc ih =>
    rw [loadEntryD_cons_fst]
    split
    · exact depLoadEntry_grows s a _ n
    · exact ih

theorem loadD_grows (dps : List (Option Mods)) (s : Sys) (l : Nat) (n : Name) : Grows s (loadD dps s l n).1 := by
  by_cases ha : n.auth = runtimeAuthority
  · rw [loadD_eq dps s l n ha]
    have hf := loadEntryD_grows dps s (chain s.ps l) n
    split
    · exact hf
    · exact hf.trans (grows_setEntry _ l (canon n) none)
    · exact hf
    · exact hf
  · rw [loadD_foreign dps s l n ha]; exact .refl s

theorem stepD_grows (dps : List (Option Mods)) (s : Sys) (op : Op) : Grows s (stepD dps s op).1 := by
  cases op with
  | load l n => exact loadD_grows dps s l n
  | define l n v => exact step_grows s (.define l n v)
  | has _ _ => exact .refl s
  | get _ _ => exact .refl s
  | discover _ _ => exact .refl s

theorem runD_nil (dps : List (Option Mods)) (s : Sys) : runD dps s [] = (s, []) := rfl

theorem runD_cons (dps : List (Option Mods)) (s : Sys) (op : Op) (ops : List Op) :
    runD dps s (op :: ops) =
      ((runD dps (stepD dps s op).1 ops).1, (stepD dps s op).2 :: (runD dps (stepD dps s op).1 ops).2) := rfl

theorem runD_grows (dps : List (Option Mods)) (s : Sys) (ops : List Op) : Grows s (runD dps s ops).1 := by
  induction ops generalizing s with
  | nil => exact .refl s
  | cons op ops ih => rw [runD_cons]; exact (stepD_grows dps s op).trans (ih _)

@[simp] theorem stepD_ps (dps : List (Option Mods)) (s : Sys) (op : Op) : (stepD dps s op).1.ps = s.ps :=
  (stepD_grows dps s op).ps

@[simp] theorem runD_ps (dps : List (Option Mods)) (s : Sys) (ops : List Op) : (runD dps s ops).1.ps = s.ps :=
  (runD_grows dps s ops).ps

end Pcore.LoaderSeq

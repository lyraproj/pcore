import Pcore.Proofs.CoreNames
/-!
Helper lemmas for the resolver half of C06: the statement-level model of `newEnumType3` never reaches an index / slice
fault and computes what the creator model of C05 (`enumArgs` / `newEnum`) computes; the evaluation `evalR` never faults; its
accepting half is `resolve` (`RRes.toOption`, `evalR_toOption`); on the name of a kind the resolver needs no search of the name
tables (`resolveR_kind`).
-/
namespace Pcore.Syntax

/-- invariant of the loop: as long as arguments remain, the slice still has its full length `top` (it is cut only by the
    flag, which must be the last argument) -/
theorem enumLoop_no_fault (top : Nat) : ∀ (l : List Arg) (idx : Nat) (enums : List Str) (ci : Bool),
    idx + l.length = top → (l ≠ [] → enums.length = top) → ∀ k, enumLoop top l idx enums ci ≠ .fault k
  | [], _, _, _, _, _, k => by simp [enumLoop]
  | arg :: rest, idx, enums, ci, h1, h2, k => by
    have hlen : enums.length = top := h2 (by simp)
    simp only [List.length_cons] at h1
    cases arg with
    | str s =>
      have hlt : idx < enums.length := by omega
      simp only [enumLoop, hlt, if_true]
      exact enumLoop_no_fault top rest (idx + 1) _ ci (by omega) (fun _ => by simp [hlen]) k
    | bool b =>
      simp only [enumLoop]
      split
      · rename_i hlast
        have hrest : rest = [] := by
          cases rest with
          | nil => rfl
          | cons a as => simp at h1; omega
        have hle : idx ≤ top := by omega
        simp only [hle, if_true]
        subst hrest
        simp [enumLoop]
      · simp
    | _ => simp [enumLoop]

theorem enumLoop_spec (top : Nat) : ∀ (l : List Arg) (pre : List Str) (fill : List Str),
    pre.length + l.length = top → fill.length = l.length → l ≠ [] →
    enumLoop top l pre.length (pre ++ fill) false =
      match enumFlat l with
      | some (vs, f) => .ok (pre ++ vs, f)
      | none => .reported .argType
  | [], _, _, _, _, h => absurd rfl h
  | arg :: rest, pre, fill, h1, h2, _ => by
    simp only [List.length_cons] at h1 h2
    obtain ⟨f0, fill', rfl⟩ : ∃ f0 fill', fill = f0 :: fill' := by
      cases fill with
      | nil => simp at h2
      | cons a b => exact ⟨a, b, rfl⟩
    simp only [List.length_cons, Nat.add_right_cancel_iff] at h2
    cases arg with
    | str s =>
      have hlt : pre.length < (pre ++ f0 :: fill').length := by simp
      have hset : (pre ++ f0 :: fill').set pre.length s = (pre ++ [s]) ++ fill' := by
        simp
      simp only [enumLoop, hlt, if_true, hset]
      cases rest with
      | nil =>
        have : fill' = [] := by cases fill' <;> simp_all
        subst this
        simp [enumLoop, enumFlat]
      | cons r rs =>
        have ih := enumLoop_spec top (r :: rs) (pre ++ [s]) fill' (by simp at h1 ⊢; omega) h2 (by simp)
        simp only [List.length_append, List.length_cons, List.length_nil] at ih
        rw [ih]
        simp only [enumFlat]
        cases enumFlat (r :: rs) with
        | none => rfl
        | some p => simp
    | bool b =>
      simp only [enumLoop]
      cases rest with
      | nil =>
        have hlast : pre.length + 1 = top := by simpa using h1
        have hle : pre.length ≤ top := by omega
        simp [hlast, hle, enumLoop, enumFlat]
      | cons r rs =>
        have hn : ¬ pre.length + 1 = top := by simp at h1; omega
        simp [hn, enumFlat]
    | _ => simp [enumLoop, enumFlat]

theorem enumLow_run_spec (l : List Arg) (h : l ≠ []) :
    enumLow.run l =
      match enumFlat l with
      | some (vs, f) => enumLow.fin vs f
      | none => .reported .argType := by
  unfold enumLow.run
  have := enumLoop_spec l.length l [] (List.replicate l.length []) (by simp) (by simp) h
  simp only [List.length_nil, List.nil_append] at this
  rw [this]
  cases enumFlat l with
  | none => rfl
  | some p => rfl

theorem argDepth_arr_lt {as : List Arg} {f : Nat} (h : argDepth (.arr [.arr as]) < f + 1) : argDepth (.arr as) < f := by
  simp only [argDepth, argDepth.argsDepth] at h
  simp only [argDepth]
  omega

theorem enumLow_spec : ∀ (fuel : Nat) (args : List Arg), argDepth (.arr args) < fuel →
    enumLow fuel args =
      match enumArgs fuel args with
      | some (vs, f) => enumLow.fin vs f
      | none => .reported .argType
  | 0, _, h => by omega
  | f + 1, args, h => by
    cases args with
    | nil => simp [enumLow, enumArgs, enumLow.fin, newEnum]
    | cons a as =>
      cases as with
      | nil =>
        cases a with
        | str s => simp [enumLow, enumArgs]
        | arr x =>
          simp only [enumLow, enumArgs]
          exact enumLow_spec f x (argDepth_arr_lt h)
        | _ => simp [enumLow, enumArgs]
      | cons b bs =>
        cases a with
        | arr x =>
          simp only [enumLow, enumArgs]
          have hl : x ++ b :: bs ≠ [] := by simp
          have hemp : (x ++ b :: bs).isEmpty = false := by simp
          simp only [hemp, Bool.false_eq_true, if_false]
          exact enumLow_run_spec _ hl
        | _ => simp only [enumLow, enumArgs]; exact enumLow_run_spec _ (by simp)

theorem enumLow_no_fault (fuel : Nat) (args : List Arg) (h : argDepth (.arr args) < fuel) (k : RFault) :
    enumLow fuel args ≠ .fault k := by
  rw [enumLow_spec fuel args h]
  cases enumArgs fuel args with
  | none => simp
  | some p => simp only [enumLow.fin]; cases newEnum p.1 p.2 <;> simp

theorem createKR_no_fault (env : Env) (kd : TKind) (args : List Arg) (k : RFault) : createKR env kd args ≠ .fault k := by
  unfold createKR
  cases kd with
  | enum => exact enumLow_no_fault _ args (by omega) k
  | _ => simp only []; split <;> simp

theorem createR_no_fault (env : Env) (n : Str) (args : List Arg) (k : RFault) : createR env n args ≠ .fault k := by
  unfold createR
  simp only
  split
  · exact createKR_no_fault env _ args k
  · split
    · split <;> simp
    · split
      · exact createKR_no_fault env _ args k
      · simp

theorem RRes.map_ne_fault {α β : Type} (f : α → β) (x : RRes α) (k : RFault) (h : x ≠ .fault k) : x.map f ≠ .fault k := by
  cases x <;> simp_all [RRes.map]

theorem RRes.bind_ne_fault {α β : Type} (x : RRes α) (f : α → RRes β) (k : RFault) (h : x ≠ .fault k)
    (hf : ∀ a, f a ≠ .fault k) : x.bind f ≠ .fault k := by
  cases x <;> simp_all [RRes.bind]

theorem nameR_no_fault (env : Env) (n : Str) (k : RFault) : nameR env n ≠ .fault k := by
  unfold nameR; split <;> simp

mutual
theorem evalR_no_fault (env : Env) (k : RFault) : (e : Expr) → evalR env e ≠ .fault k
  | .dtype n none => by simp only [evalR]; exact nameR_no_fault env n k
  | .dtype n (some ps) => by
    simp only [evalR]
    exact RRes.bind_ne_fault _ _ k (evalArgsR_no_fault env k ps) (fun a => createR_no_fault env n a k)
  | .undef | .dflt | .bool _ | .int _ | .float _ | .str _ | .regexp _ | .arr _ | .hash _ | .entry _ _ | .call _ _
  | .named _ _ => by simp [evalR]
theorem evalArgR_no_fault (env : Env) (k : RFault) : (e : Expr) → evalArgR env e ≠ .fault k
  | .dtype n none => by
    simp only [evalArgR]
    exact RRes.map_ne_fault _ _ k (nameR_no_fault env n k)
  | .dtype n (some ps) => by
    simp only [evalArgR]
    exact RRes.map_ne_fault _ _ k
      (RRes.bind_ne_fault _ _ k (evalArgsR_no_fault env k ps) (fun a => createR_no_fault env n a k))
  | .arr es => by
    simp only [evalArgR]
    exact RRes.map_ne_fault _ _ k (evalArgsR_no_fault env k es)
  | .hash es => by
    simp only [evalArgR]
    exact RRes.map_ne_fault _ _ k (evalEntriesR_no_fault env k es)
  | .undef | .dflt | .bool _ | .int _ | .float _ | .str _ | .regexp _ | .entry _ _ | .call _ _ | .named _ _ => by
    simp [evalArgR]
theorem evalArgsR_no_fault (env : Env) (k : RFault) : (es : List Expr) → evalArgsR env es ≠ .fault k
  | [] => by simp [evalArgsR]
  | e :: es => by
    simp only [evalArgsR]
    exact RRes.bind_ne_fault _ _ k (evalArgR_no_fault env k e)
      (fun a => RRes.map_ne_fault _ _ k (evalArgsR_no_fault env k es))
theorem evalEntriesR_no_fault (env : Env) (k : RFault) : (es : List (Expr × Expr)) → evalEntriesR env es ≠ .fault k
  | [] => by simp [evalEntriesR]
  | (a, b) :: es => by
    simp only [evalEntriesR]
    exact RRes.bind_ne_fault _ _ k (evalArgR_no_fault env k a) (fun _ =>
      RRes.bind_ne_fault _ _ k (evalArgR_no_fault env k b) (fun _ =>
        RRes.map_ne_fault _ _ k (evalEntriesR_no_fault env k es)))
end

/-- the accepting half of a result -/
def RRes.toOption {α : Type} : RRes α → Option α
  | .ok a => some a
  | _ => none

theorem RRes.eq_ok_iff {α : Type} (x : RRes α) (a : α) : x = .ok a ↔ x.toOption = some a := by
  cases x <;> simp [RRes.toOption]

@[simp] theorem RRes.toOption_map {α β : Type} (f : α → β) (x : RRes α) : (x.map f).toOption = x.toOption.map f := by
  cases x <;> rfl

@[simp] theorem RRes.toOption_bind {α β : Type} (x : RRes α) (f : α → RRes β) :
    (x.bind f).toOption = x.toOption.bind fun a => (f a).toOption := by
  cases x <;> rfl

theorem createKR_toOption (env : Env) (kd : TKind) (args : List Arg) :
    (createKR env kd args).toOption = createK env kd args := by
  cases kd with
  | enum =>
    simp only [createKR, createK]
    rw [enumLow_spec _ args (by omega)]
    cases enumArgs (argDepth (.arr args) + 1) args with
    | none => rfl
    | some p => simp only [enumLow.fin, Option.bind]; cases newEnum p.1 p.2 <;> rfl
  | _ => simp only [createKR]; split <;> simp_all [RRes.toOption]

theorem createR_toOption (env : Env) (n : Str) (args : List Arg) : (createR env n args).toOption = create env n args := by
  unfold createR create
  simp only
  cases kindOf (canonName n) with
  | some kd => exact createKR_toOption env kd args
  | none =>
    by_cases hp : plainNames.contains (canonName n) = true
    · simp only [hp, if_true]
      split <;> simp [RRes.toOption]
    · simp only [hp, Bool.false_eq_true, if_false, Bool.not_false, true_and]
      split
      · rw [createKR_toOption]; simp [createK]
      · simp [RRes.toOption]

theorem nameR_toOption (env : Env) (n : Str) : (nameR env n).toOption = resolveName env n := by
  unfold nameR; cases resolveName env n <;> rfl

mutual
theorem evalR_toOption (env : Env) : (e : Expr) → (evalR env e).toOption = resolve env e
  | .dtype n none => by simp [evalR, resolve, nameR_toOption]
  | .dtype n (some ps) => by simp [evalR, resolve, evalArgsR_toOption env ps, createR_toOption]
  | .undef | .dflt | .bool _ | .int _ | .float _ | .str _ | .regexp _ | .arr _ | .hash _ | .entry _ _ | .call _ _
  | .named _ _ => by simp [evalR, resolve, RRes.toOption]
theorem evalArgR_toOption (env : Env) : (e : Expr) → (evalArgR env e).toOption = resolveArg env e
  | .dtype n none => by simp [evalArgR, resolveArg, resolve, nameR_toOption]
  | .dtype n (some ps) => by simp [evalArgR, resolveArg, resolve, evalArgsR_toOption env ps, createR_toOption]
  | .arr es => by simp [evalArgR, resolveArg, evalArgsR_toOption env es]
  | .hash es => by simp [evalArgR, resolveArg, evalEntriesR_toOption env es]
  | .undef | .dflt | .bool _ | .int _ | .float _ | .str _ | .regexp _ | .entry _ _ | .call _ _ | .named _ _ => by
    simp [evalArgR, resolveArg, RRes.toOption]
theorem evalArgsR_toOption (env : Env) : (es : List Expr) → (evalArgsR env es).toOption = resolveArgs env es
  | [] => by simp [evalArgsR, resolveArgs, RRes.toOption]
  | e :: es => by simp [evalArgsR, resolveArgs, evalArgR_toOption env e, evalArgsR_toOption env es]
theorem evalEntriesR_toOption (env : Env) : (es : List (Expr × Expr)) →
    (evalEntriesR env es).toOption = resolveEntries env es
  | [] => by simp [evalEntriesR, resolveEntries, RRes.toOption]
  | (k, v) :: es => by
    simp [evalEntriesR, resolveEntries, evalArgR_toOption env k, evalArgR_toOption env v, evalEntriesR_toOption env es]
end

theorem evalR_ok (env : Env) : (e : Expr) → (t : Ty) → (evalR env e = .ok t ↔ resolve env e = some t) :=
  fun e t => by rw [RRes.eq_ok_iff, evalR_toOption]

theorem evalEntriesR_ok (env : Env) : (es : List (Expr × Expr)) → (as : List (Arg × Arg)) →
    (evalEntriesR env es = .ok as ↔ resolveEntries env es = some as) :=
  fun es as => by rw [RRes.eq_ok_iff, evalEntriesR_toOption]

theorem outsideB_kind (env : Env) (k : TKind) (ps : List Expr) :
    Expr.outsideB env (.dtype k.name (some ps)) = Expr.outsideL env ps := by
  simp [Expr.outsideB, nameModelled, canon_kind, kindOf_name]

theorem createR_kind (env : Env) (k : TKind) (args : List Arg) : createR env k.name args = createKR env k args := by
  simp [createR, canon_kind, kindOf_name]

theorem resolveR_kind (env : Env) (k : TKind) (ps : List Expr) :
    resolveR env (.dtype k.name (some ps)) =
      if Expr.outsideL env ps then .outside else (evalArgsR env ps).bind (createKR env k) := by
  simp [resolveR, outsideB_kind, evalR, createR_kind]

theorem createR_notParam (env : Env) (n : Str) (args : List Arg) (h : n ∈ notParamNames) :
    createR env n args = .reported .notParam := by
  obtain ⟨h1, h2, h3⟩ := notParam_table n h
  simp [createR, h1, h2, h3]

theorem resolveR_notParam (env : Env) (n : Str) (ps : List Expr) (h : n ∈ notParamNames) :
    resolveR env (.dtype n (some ps)) =
      if Expr.outsideL env ps then .outside else (evalArgsR env ps).bind fun _ => .reported .notParam := by
  obtain ⟨h1, h2, h3⟩ := notParam_table n h
  simp [resolveR, Expr.outsideB, nameModelled, evalR, createR_notParam env n _ h, h1, h2, h3]

end Pcore.Syntax

import Pcore.Proofs.Tls
/-!
What one micro-step of the small-step semantics does, as a relation.  `stepG` (`Model/TlsSmall.lean`) nests the kinds of step
under started / panicking / top frame / program; `Micro g w r` lists them flat, with the exact continuation, world and started
goroutine each produces: the start of a goroutine, the steps that only rearrange the continuation (`Shuffle`), a leaf operation,
the three entries into a `DoWithContext` scope, its deferred exit, entry and exit of `DoWithLoader`, `Fork`/`Go`, a recovered
panic, the two bottom frames.  A deferred frame does the same on return and while a panic unwinds, so it is one constructor with
the flag a variable.  `stepG_micro : Micro g w (stepG g w)` is the only proof that walks the case tree of `stepG`; whatever holds of every
micro-step (`GSpec` and `stepG_defs` in `TlsSmall`, `ChSpec` in `TlsGhost`) is proved by cases on the relation.
-/
namespace Pcore.Tls

/-- micro-steps that only rearrange the continuation -/
inductive Shuffle : Bool → List Frame → Bool → List Frame → Prop
  | nil (pn : Bool) : Shuffle pn [] false []
  | unwindRun (p : Prog) (c : CtxId) (k : List Frame) : Shuffle true (.run p c :: k) true k
  | unwindParent (id : Nat) (ctch : Bool) (p : Prog) (root : CtxId) (k : List Frame) :
      Shuffle true (.parent id ctch p root :: k) true k
  | skip (c : CtxId) (k : List Frame) : Shuffle false (.run .skip c :: k) false k
  | seq (p q : Prog) (c : CtxId) (k : List Frame) : Shuffle false (.run (.seq p q) c :: k) false (.run p c :: .run q c :: k)
  | recover (p : Prog) (c : CtxId) (k : List Frame) : Shuffle false (.run (.recover p) c :: k) false (.run p c :: .catchK :: k)
  | catchK (k : List Frame) : Shuffle false (.catchK :: k) false k

inductive Micro : GS → World → StepR → Prop
  | start (gid ctx0 pn k w) :
      Micro ⟨gid, ctx0, false, pn, k⟩ w ⟨⟨gid, ctx0, true, pn, k⟩, setTag ctx0 (1000 + gid) (note gid ctx0 (tlFresh gid ctx0 w)), none⟩
  | move (gid ctx0 w) {pn k pn' k'} (h : Shuffle pn k pn' k') : Micro ⟨gid, ctx0, true, pn, k⟩ w ⟨⟨gid, ctx0, true, pn', k'⟩, w, none⟩
  | goNone (gid ctx0 p c k w) (h : tlGet gid ctxKey w = none) :
      Micro ⟨gid, ctx0, true, false, .run (.go p) c :: k⟩ w ⟨⟨gid, ctx0, true, true, k⟩, w, none⟩
  | exitFail (gid ctx0 pn save k w) (h : dwcExit gid save w = none) :
      Micro ⟨gid, ctx0, true, pn, .restoreCtx save :: k⟩ w ⟨⟨gid, ctx0, true, true, k⟩, w, none⟩
  | leaf (gid ctx0 l c k w) :
      Micro ⟨gid, ctx0, true, false, .run (.leaf l) c :: k⟩ w
        ⟨⟨gid, ctx0, true, decide ((leafStep gid c l w).1 = .panicked), k⟩, (leafStep gid c l w).2, none⟩
  | doctx (gid ctx0 id p c k w save w2) (h : dwcEnter gid w.nextCtx (setTag w.nextCtx id (forkCtx c w).2) = some (save, w2)) :
      Micro ⟨gid, ctx0, true, false, .run (.doctx id p) c :: k⟩ w
        ⟨⟨gid, ctx0, true, false, .run p w.nextCtx :: .restoreCtx save :: k⟩, w2, none⟩
  | doroot (gid ctx0 q id ctch p c k w save w2) (hq : q = .dodo id p ∧ ctch = false ∨ q = .dotry id p ∧ ctch = true)
      (h : dwcEnter gid w.nextCtx (newCtx { loader := [0] } w).2 = some (save, w2)) :
      Micro ⟨gid, ctx0, true, false, .run q c :: k⟩ w
        ⟨⟨gid, ctx0, true, false, .parent id ctch p w.nextCtx :: .restoreCtx save :: k⟩, w2, none⟩
  | parent (gid ctx0 id ctch p root k w save w2) (h : dwcEnter gid w.nextCtx (forkCtx root w).2 = some (save, w2)) :
      Micro ⟨gid, ctx0, true, false, .parent id ctch p root :: k⟩ w
        ⟨⟨gid, ctx0, true, false, .run p w.nextCtx :: .restoreCtx save :: ((if ctch then [Frame.catchK] else []) ++ k)⟩,
          setTag w.nextCtx id w2, none⟩
  | exit (gid ctx0 pn save k w w1) (h : dwcExit gid save w = some w1) :
      Micro ⟨gid, ctx0, true, pn, .restoreCtx save :: k⟩ w ⟨⟨gid, ctx0, true, pn, k⟩, w1, none⟩
  | loaderIn (gid ctx0 p c k w) :
      Micro ⟨gid, ctx0, true, false, .run (.doloader p) c :: k⟩ w
        ⟨⟨gid, ctx0, true, false, .run p c :: .restoreLoader c (w.ctxs c).loader :: k⟩,
          ctxUpd c (fun y => { y with loader := w.nextLoader :: (w.ctxs c).loader }) (newLoader w).2, none⟩
  | loaderOut (gid ctx0 pn c l k w) :
      Micro ⟨gid, ctx0, true, pn, .restoreLoader c l :: k⟩ w ⟨⟨gid, ctx0, true, pn, k⟩, ctxUpd c (fun y => { y with loader := l }) w, none⟩
  | spawn (gid ctx0 q c src p k w) (hq : q = .fork p ∧ src = c ∨ q = .go p ∧ tlGet gid ctxKey w = some src) :
      Micro ⟨gid, ctx0, true, false, .run q c :: k⟩ w
        ⟨⟨gid, ctx0, true, false, k⟩, { (forkCtx src w).2 with nextGid := w.nextGid + 1 },
          some ⟨w.nextGid, w.nextCtx, false, false, [.run p w.nextCtx, .endG]⟩⟩
  | recovered (gid ctx0 k w) :
      Micro ⟨gid, ctx0, true, true, .catchK :: k⟩ w ⟨⟨gid, ctx0, true, false, k⟩, emit gid .recovered w, none⟩
  | endG (gid ctx0 pn k w) :
      Micro ⟨gid, ctx0, true, pn, .endG :: k⟩ w
        ⟨⟨gid, ctx0, true, false, []⟩, tlCleanup gid (emit gid (.done (if pn then .panicked else .normal)) w), none⟩
  | endRoot (gid ctx0 pn k w) :
      Micro ⟨gid, ctx0, true, pn, .endRoot :: k⟩ w
        ⟨⟨gid, ctx0, true, false, []⟩, emit gid (.done (if pn then .panicked else .normal)) w, none⟩

theorem stepG_micro (g : GS) (w : World) : Micro g w (stepG g w) := by
  obtain ⟨gid, ctx0, st, pn, k⟩ := g
  cases st with
  | false => simpa [stepG, tlSet_tlInit] using Micro.start gid ctx0 pn k w
  | true =>
    cases k with
    | nil => cases pn <;> exact .move _ _ _ (.nil _)
    | cons f k =>
      cases f with
      | run p c =>
        cases pn with
        | true => exact .move _ _ _ (.unwindRun ..)
        | false =>
          cases p with
          | skip => exact .move _ _ _ (.skip ..)
          | seq p q => exact .move _ _ _ (.seq ..)
          | recover p => exact .move _ _ _ (.recover ..)
          | leaf l =>
            have := Micro.leaf gid ctx0 l c k w
            by_cases h : (leafStep gid c l w).1 = .panicked <;> simpa [stepG, panicS, h] using this
          | doctx id p =>
            obtain ⟨save, w2, h⟩ := dwcEnter_some gid w.nextCtx (setTag w.nextCtx id (forkCtx c w).2)
            simpa [stepG, h] using Micro.doctx gid ctx0 id p c k w save w2 h
          | dodo id p =>
            obtain ⟨save, w2, h⟩ := dwcEnter_some gid w.nextCtx (newCtx { loader := [0] } w).2
            simpa [stepG, doEnter, newCtx_fst, h] using Micro.doroot gid ctx0 _ id false p c k w save w2 (.inl ⟨rfl, rfl⟩) h
          | dotry id p =>
            obtain ⟨save, w2, h⟩ := dwcEnter_some gid w.nextCtx (newCtx { loader := [0] } w).2
            simpa [stepG, doEnter, newCtx_fst, h] using Micro.doroot gid ctx0 _ id true p c k w save w2 (.inr ⟨rfl, rfl⟩) h
          | doloader p => exact .loaderIn ..
          | fork p => exact .spawn _ _ _ _ c _ _ _ (.inl ⟨rfl, rfl⟩)
          | go p =>
            cases h : tlGet gid ctxKey w with
            | none => simpa [stepG, h, panicS] using Micro.goNone gid ctx0 p c k w h
            | some cur => simpa [stepG, h, spawnS] using Micro.spawn gid ctx0 _ c cur p k w (.inr ⟨rfl, h⟩)
      | parent id ctch p root =>
        cases pn with
        | true => exact .move _ _ _ (.unwindParent ..)
        | false =>
          obtain ⟨save, w2, h⟩ := dwcEnter_some gid w.nextCtx (forkCtx root w).2
          simpa [stepG, h] using Micro.parent gid ctx0 id ctch p root k w save w2 h
      | restoreCtx save =>
        cases h : dwcExit gid save w with
        | none => cases pn <;> simpa [stepG, h, panicS] using Micro.exitFail gid ctx0 _ save k w h
        | some w1 => cases pn <;> simpa [stepG, h] using Micro.exit gid ctx0 _ save k w w1 h
      | restoreLoader c l => cases pn <;> exact .loaderOut ..
      | catchK =>
        cases pn with
        | true => exact .recovered ..
        | false => exact .move _ _ _ (.catchK _)
      | endG => cases pn <;> exact .endG ..
      | endRoot => cases pn <;> exact .endRoot ..

end Pcore.Tls

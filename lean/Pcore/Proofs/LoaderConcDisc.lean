import Pcore.Proofs.LoaderConc
/-! The answer of a concurrent discovery, over the loaders' interleaving model and the `Mono` / `Grows` of `Proofs/LoaderConc.lean`:
    what a discovery under way knows (`DiscOK`) is stable under growth, re-established by the read of a level (`DiscOK_level`) and
    so by every step of the thread; with well-formedness of the shared state this is `DInv`, the invariant behind
    `C13_discover_sandwich`. -/
namespace Pcore.LoaderConc
open Pcore.LoaderSeq

/-- what a discovery under way knows: where it is on the chain; everything found so far is bound (now) at a level it has
    passed; everything that was bound at a passed level when the discovery began has been found; the snapshot is a past
    state of the shared state -/
def DiscOK (s : Sys) : PC → Prop
  | .discWalk l p todo passed found snap =>
    (chain s.ps l).reverse = passed.reverse ++ todo ∧
    (∀ k ∈ found, p k = true ∧ ∃ x ∈ passed, (bound s x k).isSome = true) ∧
    (∀ x ∈ passed, ∀ k, p k = true → (bound snap x k).isSome = true → k ∈ found) ∧
    Mono snap s ∧ WF snap
  | _ => True

theorem isSome_mono {s s' : Sys} (h : Mono s s') {l : Nat} {k : Key} (hb : (bound s l k).isSome = true) :
    (bound s' l k).isSome = true := by
  cases hv : bound s l k with
  | none => rw [hv] at hb; cases hb
  | some v => rw [h.2.2 l k v hv]; rfl

theorem DiscOK_mono {s s' : Sys} (h : Mono s s') (pc : PC) (hd : DiscOK s pc) : DiscOK s' pc := by
  cases pc with
  | discWalk l p todo passed found snap =>
    obtain ⟨h1, h2, h3, h4, h5⟩ := hd
    refine ⟨by rw [h.1]; exact h1, ?_, h3, h4.trans h, h5⟩
    intro k hk
    obtain ⟨hp, x, hx, hb⟩ := h2 k hk
    exact ⟨hp, x, hx, isSome_mono h hb⟩
  | _ => trivial

theorem mem_discLevel (s : Sys) (hwf : WF s) (x : Nat) (found : List Key) (p : Key → Bool) (k : Key) :
    k ∈ discLevel s.es x found p ↔ k ∈ found ∨ ((bound s x k).isSome = true ∧ k ∉ found ∧ p k = true) := by
  unfold discLevel
  split
  · rename_i he
    simp only [List.isEmpty_iff] at he
    constructor
    · exact Or.inl
    · rintro (h | h)
      · exact h
      · have := (mem_ownAdded s hwf x found p k).mpr h
        rw [he] at this; cases this
  · rw [mem_sortKeys, List.mem_append, mem_ownAdded s hwf]

theorem DiscOK_level (s : Sys) (hwf : WF s) (l : Nat) (p : Key → Bool) (x : Nat) (todo passed : List Nat) (found : List Key)
    (snap : Sys) (hd : DiscOK s (.discWalk l p (x :: todo) passed found snap)) :
    DiscOK s (.discWalk l p todo (x :: passed) (discLevel s.es x found p) snap) := by
  obtain ⟨h1, h2, h3, h4, h5⟩ := hd
  refine ⟨?_, ?_, ?_, h4, h5⟩
  · rw [h1]; simp
  · intro k hk
    rcases (mem_discLevel s hwf x found p k).mp hk with hk | ⟨hb, _, hp⟩
    · obtain ⟨hp, y, hy, hb⟩ := h2 k hk
      exact ⟨hp, y, List.mem_cons_of_mem _ hy, hb⟩
    · exact ⟨hp, x, by simp, hb⟩
  · intro y hy k hp hb
    rw [mem_discLevel s hwf]
    rcases List.mem_cons.mp hy with rfl | hy
    · by_cases hf : k ∈ found
      · exact Or.inl hf
      · exact Or.inr ⟨isSome_mono h4 hb, hf, hp⟩
    · exact Or.inl (h3 y hy k hp hb)

/-- not used below (`DInv_step` takes `WF` from `stepAt_grows`): every step keeps the shared state well-formed -/
theorem WF_stepThread (s : Sys) (hwf : WF s) (t : Thread) : WF (stepThread s t).1 :=
  (stepThread_grows s t).wf hwf

theorem DiscOK_startOp (s : Sys) (hwf : WF s) (log : List (Ans × Src)) (rest : List Op) (op : Op) :
    DiscOK (startOp s log rest op).1 (startOp s log rest op).2.pc := by
  cases op with
  | load l n => simp only [startOp]; split <;> trivial
  | define l n v => trivial
  | has l n => trivial
  | get l n => trivial
  | discover l p =>
    show DiscOK s (.discWalk l p (chain s.ps l).reverse [] [] s)
    refine ⟨by simp, ?_, ?_, Mono.refl s, hwf⟩
    · intro k hk; cases hk
    · intro x hx; cases hx

theorem DiscOK_stepThread (s : Sys) (hwf : WF s) (t : Thread) (hd : DiscOK s t.pc) :
    DiscOK (stepThread s t).1 (stepThread s t).2.pc := by
  unfold stepThread
  split
  · split
    · rename_i hpc _ _; rw [hpc]; trivial
    · exact DiscOK_startOp s hwf _ _ _
  · trivial
  · trivial
  · trivial
  · trivial
  · trivial
  · split <;> trivial
  · trivial
  · trivial
  · rename_i l p x todo passed found snap hpc
    rw [hpc] at hd
    split
    · trivial
    · exact DiscOK_level s hwf l p x _ passed found snap hd
  · trivial

def DInv (c : Config) : Prop := WF c.sh ∧ ∀ t ∈ c.th, DiscOK c.sh t.pc

theorem DInv_step (c : Config) (i : Nat) (h : DInv c) : DInv (stepAt c i) := by
  obtain ⟨hwf, hd⟩ := h
  exact ⟨(stepAt_grows c i).wf hwf, stepAt_threads (P := fun s t => DiscOK s t.pc) c i hd
    (fun t ht => DiscOK_stepThread c.sh hwf t (hd t ht))
    (fun t _ _ h' => DiscOK_mono (stepThread_grows c.sh t).mono _ h')⟩

theorem DInv_init (ps : List (Option Nat)) (progs : List (List Op)) : DInv (Config.init ps progs) :=
  ⟨WF_init ps, init_threads fun _ => trivial⟩

end Pcore.LoaderConc

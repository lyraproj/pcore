import Pcore.Proofs.LatTransStep
/-! C03, transitivity of `asg` with the built-in recursive aliases Data / RichData inside the fragment: the rank `vw`, the hypothesis
    `IHR` of the induction over it with the parts it is applied to (`RPart`), and what the alias cases ask of a fragment (`AliasOK`).

    The summed weight of the three terms cannot carry the aliases: `a ⊒ b ⊒ Data` needs `a ⊒ Array[Data]`, and `Array[Data]` is heavier than
    `Data`.  The induction (Proofs/LatTransU) is lexicographic instead: the weight of the LEFT type, then a rank `vw b + vw c` of the
    middle and right type (the hypothesis `IHR`), where the two self-referential members `Array[al]`, `Hash[key, al]` of an alias rank BELOW
    the alias.  Every receiver rule recurses on a lighter left type; only the right-hand and middle decompositions (Optional, Variant,
    NotUndef, the aliases) and the alias receivers keep the left type, and they lower the rank. -/
namespace Pcore.Lat
variable (cfg : Cfg) (sfh : Bool)

def Ty.isData : Ty → Bool
  | .data => true
  | _ => false
def Ty.isRich : Ty → Bool
  | .richData => true
  | _ => false
def Ty.isStr : Ty → Bool
  | .str => true
  | _ => false
def Ty.isRichKey : Ty → Bool
  | .variant [.str, .numeric] => true
  | _ => false

def Ty.isAlias : Ty → Bool
  | .data | .richData => true
  | _ => false

theorem isAlias_ty {t : Ty} (h : t.isAlias = true) : ∃ al : Alias, t = al.ty := by
  unfold Ty.isAlias at h
  split at h
  · exact ⟨.data, rfl⟩
  · exact ⟨.rich, rfl⟩
  · cases h

theorem Ty.isData_eq {t : Ty} (h : t.isData = true) : t = .data := by cases t <;> simp [Ty.isData] at h; rfl
theorem Ty.isRich_eq {t : Ty} (h : t.isRich = true) : t = .richData := by cases t <;> simp [Ty.isRich] at h; rfl
theorem Ty.isStr_eq {t : Ty} (h : t.isStr = true) : t = .str := by cases t <;> simp [Ty.isStr] at h; rfl
theorem Ty.isRichKey_eq {t : Ty} (h : t.isRichKey = true) : t = .variant [.str, .numeric] := by
  unfold Ty.isRichKey at h
  split at h
  · rfl
  · cases h

/-- rank of a middle / right-hand type: its weight, except that the alias' own Array and Hash members rank just below the alias -/
def vw : Ty → Nat
  | .array e r => if e.isData && r == Rng.pos then 4 else if e.isRich && r == Rng.pos then 11 else 2 + e.w
  | .hash k v r =>
      if k.isStr && v.isData && r == Rng.pos then 4 else if k.isRichKey && v.isRich && r == Rng.pos then 11 else 8 + k.w + v.w
  | t => t.w

theorem vw_data : vw .data = 5 := rfl
theorem vw_rich : vw .richData = 12 := rfl

/-- the rank is the weight, except at the two own members of an alias, which rank one below the alias -/
theorem vw_cases (x : Ty) : vw x = x.w ∨ ∃ al : Alias, (x = al.arr ∨ x = al.hsh) ∧ vw x + 1 = al.ty.w := by
  cases x with
  | array e r =>
    by_cases h1 : (e.isData && r == Rng.pos) = true
    · simp only [Bool.and_eq_true, beq_iff_eq] at h1
      exact Or.inr ⟨.data, Or.inl (by rw [Ty.isData_eq h1.1, h1.2]; rfl), by rw [Ty.isData_eq h1.1, h1.2]; rfl⟩
    · by_cases h2 : (e.isRich && r == Rng.pos) = true
      · simp only [Bool.and_eq_true, beq_iff_eq] at h2
        exact Or.inr ⟨.rich, Or.inl (by rw [Ty.isRich_eq h2.1, h2.2]; rfl), by rw [Ty.isRich_eq h2.1, h2.2]; rfl⟩
      · left; simp [vw, h1, h2, Ty.w]
  | hash k v r =>
    by_cases h1 : (k.isStr && v.isData && r == Rng.pos) = true
    · simp only [Bool.and_eq_true, beq_iff_eq] at h1
      exact Or.inr ⟨.data, Or.inr (by rw [Ty.isStr_eq h1.1.1, Ty.isData_eq h1.1.2, h1.2]; rfl),
        by rw [Ty.isStr_eq h1.1.1, Ty.isData_eq h1.1.2, h1.2]; rfl⟩
    · by_cases h2 : (k.isRichKey && v.isRich && r == Rng.pos) = true
      · simp only [Bool.and_eq_true, beq_iff_eq] at h2
        exact Or.inr ⟨.rich, Or.inr (by rw [Ty.isRichKey_eq h2.1.1, Ty.isRich_eq h2.1.2, h2.2]; rfl),
          by rw [Ty.isRichKey_eq h2.1.1, Ty.isRich_eq h2.1.2, h2.2]; rfl⟩
      · left; simp [vw, h1, h2, Ty.w]
  | _ => exact Or.inl rfl

theorem vw_le (t : Ty) : vw t ≤ t.w := by
  rcases vw_cases t with h | ⟨al, hx, h⟩
  · omega
  · cases al <;> rcases hx with rfl | rfl <;> simp [Alias.arr, Alias.hsh, Alias.ty, Alias.key, Ty.w] at h ⊢ <;> omega

theorem vw_plain (t : Ty) (h : match t with | .array _ _ | .hash _ _ _ => False | _ => True) : vw t = t.w := by
  cases t <;> simp only [] at h <;> (first | contradiction | rfl)

/-- the induction hypothesis of the decompositions of the middle and right type: the left type stays, their joint rank goes down -/
def IHR (F : Ty → Prop) (a b c : Ty) : Prop :=
  ∀ b' c', vw b' + vw c' < vw b + vw c → Tr cfg sfh F a b' c'

/-- `x` is what the decomposition of the right-hand or middle type `t` passes to: Undef and the content of an Optional, a member of a
    Variant, the content of a NotUndef.  Such a part ranks below `t` and stays in the fragment and well-formed, which is all `IHR` asks. -/
inductive RPart : Ty → Ty → Prop
  | optU {t : Ty} : RPart (.optional t) .undef
  | opt {t : Ty} : RPart (.optional t) t
  | var {ts : List Ty} {m : Ty} : m ∈ ts → RPart (.variant ts) m
  | nu {t : Ty} : RPart (.notUndef t) t

theorem RPart.vw_lt {t x : Ty} (p : RPart t x) : vw x < vw t := by
  have := vw_le x
  cases p with
  | optU => rename_i t; have : vw (.optional t) = 2 + t.w := vw_plain _ trivial; have : vw Ty.undef = 1 := rfl; omega
  | opt => have : vw (.optional x) = 2 + x.w := vw_plain _ trivial; omega
  | var hm => rename_i ts; have : vw (.variant ts) = 2 + Ty.wl ts := vw_plain _ trivial; have := Ty.w_lt_wl hm; omega
  | nu => have : vw (.notUndef x) = 2 + x.w := vw_plain _ trivial; omega

theorem RPart.frag {F : Ty → Prop} (hF : FragOK sfh F) {t x : Ty} (p : RPart t x) (h : F t) : F x := by
  cases p with
  | optU => exact hF.leaf _ rfl
  | opt => exact hF.cov .optional h
  | var hm => exact hF.variant h x hm
  | nu => exact hF.cov .notUndef h

theorem RPart.wf {t x : Ty} (p : RPart t x) (h : Ty.WF cfg t) : Ty.WF cfg x := by
  cases p with
  | optU => exact Ty.wf_of_fragLeaf rfl cfg
  | opt => exact h.inner .optional
  | var hm => exact h.mem_variant hm
  | nu => exact h.inner .notUndef

section
variable {cfg} {sfh} {F : Ty → Prop} {a b c x : Ty}

theorem IHR.mid (ihR : IHR cfg sfh F a b c) (hF : FragOK sfh F) (p : RPart b x) (H : FHyp cfg F a b c)
    (h1 : asg cfg sfh a x = true) (h2 : asg cfg sfh x c = true) : asg cfg sfh a c = true :=
  ihR x c (by have := p.vw_lt; omega) ⟨H.fa, p.frag sfh hF H.fb, H.fc, p.wf cfg H.wb, H.wc⟩ h1 h2

theorem IHR.right (ihR : IHR cfg sfh F a b c) (hF : FragOK sfh F) (p : RPart c x) (H : FHyp cfg F a b c)
    (h1 : asg cfg sfh a b = true) (h2 : asg cfg sfh b x = true) : asg cfg sfh a x = true :=
  ihR b x (by have := p.vw_lt; omega) ⟨H.fa, H.fb, p.frag sfh hF H.fc, H.wb, p.wf cfg H.wc⟩ h1 h2
end

/-- What the alias cases ask of a fragment beyond `FragOK`: Tuple type lists fit an int64 length (the model compares a Tuple with the
    alias' Array member `Array[al, 0, MaxInt64]` at ALL its positions, the Tuple-vs-Array rule only below MaxInt64), and the terms an alias
    unfolds into lie inside. -/
structure AliasOK (F : Ty → Prop) : Prop where
  bound : ∀ {ts g}, F (.tuple ts g) → (ts.length : Int) ≤ I64.max
  mem : ∀ al : Alias, F al.ty ∧ F al.key ∧ F al.arr ∧ F al.hsh
  typAny : F (.typ .any)

end Pcore.Lat

import Pcore.Proofs.FormatXLaws
import Pcore.Proofs.FormatAlt
/-!
# The extended model is a directly written pretty-printer, end to end

`refPPX` (every value kind, any key system): nesting level `L`, "the enclosing format indents" `inh`, "not the first thing on its level"
`nested` as plain parameters instead of `Indentation` objects (Indenting / Increase / Subsequent / IsFirst / Breaks,
`formatContext.Subsequent`); the layouts `ppArray` / `ppHash` (Proofs/FormatAlt.lean) and `ppObj` instead of the assemblers with their
element-loop state.  `fmtX_pp`: the model of `ToString` computes exactly that, at any depth and any mixture of alt and non-alt formats,
the hash-as-array (`%a`) form, the parameter lists of Types and the init hashes of object types included.  In order: `ppObj` and the
assembler it stands for; `refPPX`; `arrayOf` / `hashOf` are the layouts, with the error of a child passed on (it is never a text: `ErrOK`,
Proofs/FormatAlt.lean); `fmtX_pp`.
-/
namespace Pcore.Format

theorem ind_eta (ind : Ind) : ind = ⟨!(!ind.first), ind.indenting, ind.level⟩ := by cases ind; simp

/-- an object instance at level `L`: a line break when the CONTEXT indents (its own format is not consulted for that), the type name,
    the init hash between `(` and `)`; in alt mode one entry per line at level `L + 1`, the closing delimiter on its own line -/
def ppObj (f : Fmt) (L : Nat) (inh nested : Bool) (name : Str) (parts : List (Str × Str)) : Str :=
  (if inh && decide (L > 0) && nested then newLine L else []) ++ name ++ (['('] ++ (if f.alt then ['\n'] else []) ++
  (f.sep.getD [','] ++ (if f.alt then ['\n'] else [' '])).intercalate
    (parts.map (fun p => (if f.alt then spaces (2 * (L + 1)) else []) ++ p.1 ++ f.sep2.getD " => ".toList ++ p.2)) ++
  (if f.alt then newLine L else []) ++ [')'])

theorem hashAssembleD_paren_pp (f : Fmt) (L : Nat) (inh nested : Bool) (parts : List (Str × Str)) :
    hashAssembleD f ⟨!nested, inh, L⟩ true parts =
      ['('] ++ (if f.alt then ['\n'] else []) ++
      (f.sep.getD [','] ++ (if f.alt then ['\n'] else [' '])).intercalate
        (parts.map (fun p => (if f.alt then spaces (2 * (L + 1)) else []) ++ p.1 ++ f.sep2.getD " => ".toList ++ p.2)) ++
      (if f.alt then newLine L else []) ++ [')'] := by
  unfold hashAssembleD
  simp only [Ind.withIndenting, Ind.breaks, Ind.increase, Ind.padding, Bool.not_not, hashEntries_pad, newLine]
  cases f.alt <;> simp [List.append_assoc]

theorem hashAssembleD_paren_nonalt (f : Fmt) (ind : Ind) (parts : List (Str × Str)) (hf : f.alt = false) :
    hashAssembleD f ind true parts =
      ['('] ++ (f.sep.getD [','] ++ [' ']).intercalate (parts.map (fun p => p.1 ++ f.sep2.getD " => ".toList ++ p.2)) ++ [')'] := by
  rw [ind_eta ind, hashAssembleD_paren_pp]; simp [hf]

/-- `ctx.Subsequent()` on (level, indenting, nested): a context that would break the line becomes "first" -/
def subNested (L : Nat) (inh nested : Bool) : Bool := nested && !(inh && decide (L > 0))

theorem ctxSubsequent_eq (L : Nat) (inh nested : Bool) :
    (⟨!nested, inh, L⟩ : Ind).ctxSubsequent = ⟨!(subNested L inh nested), inh, L⟩ := by
  unfold Ind.ctxSubsequent Ind.breaks subNested
  cases nested <;> cases inh <;> by_cases h : L > 0 <;> simp [h]

theorem increase_eq (a b : Bool) (L : Nat) (alt : Bool) : (⟨a, b, L⟩ : Ind).increase alt = ⟨!false, alt, L + 1⟩ := by
  simp [Ind.increase]

mutual
def refPPX {κ : Type} (ks : KeySys κ) (io : FloatIO) (m : GMap κ) (L : Nat) (inh nested : Bool) : XVal → Res
  | .undef => fmtUndef (getG ks m .undef).f
  | .dflt => fmtDefault (getG ks m .dflt).f
  | .bool b => fmtBool io (getG ks m (.bool b)).f b
  | .int i => fmtInt io (getG ks m (.int i)).f i
  | .float bits => fmtFloat io (getG ks m (.float bits)).f bits
  | .str s => fmtStr (getG ks m (.str s)).f s
  | .regexp src => fmtRegexp (getG ks m (.regexp src)).f src
  | .binary bs u => fmtBinary (getG ks m (.binary bs u)).f bs u
  | .semver t => fmtSemVer (getG ks m (.semver t)).f t
  | .semverRange t n => fmtSemVerRange (getG ks m (.semverRange t n)).f t n
  | .uri t => fmtUri (getG ks m (.uri t)).f t
  | .tspan ns => fmtTspan ns
  | .tstamp t => fmtTstamp t
  | .sensitive _ => fmtSensitive
  | .typ name params =>
    let t := getG ks m (.typ name params)
    if !isTypeLetter t.f.letter then .reported .unsupported
    else typeFinish t.f name
      (match params with
       | [] => .text []
       | p :: ps =>
         -- the parameter list: an Array at the same level; it starts a new line only if the Type itself would not have
         let ta := getG ks m (.array (p :: ps))
         if !isArrayLetter ta.f.letter then .reported .unsupported
         else match refPPXElems ks io m (cfOfG ks ta) (L + 1) ta.f.alt (p :: ps) with
           | .ok parts => .text (ppArray ta.f L inh (subNested L inh nested) parts)
           | .err e => e)
  | .talias name resolved =>
    let t := getG ks m (.talias name resolved)
    if name = "UnresolvedAlias".toList then .text "TypeAlias".toList
    else if !(t.f.alt && t.f.letter = 'b') then .text name
    else (refPPX ks io m L inh nested resolved).bind fun s => .text (name ++ " = ".toList ++ s)
  | .otype name ih =>
    let t := getG ks m (.otype name ih)
    if !isTypeLetter t.f.letter then .reported .unsupported
    else
      let body : Res :=
        if !name.isEmpty then .text name
        else
          (refPPXOEntries ks io m (cfOfG ks t) t.f L true ih).bind fun s =>
            .text ("Object[{".toList ++ s ++ (if t.f.alt then newLine L else []) ++ "}]".toList)
      typeFinish t.f [] body
  | .otypeX isDefault ih =>
    let t := getG ks m (.otypeX isDefault ih)
    if !isTypeLetter t.f.letter then .reported .unsupported
    else
      let body : Res :=
        if isDefault then .text "Object".toList
        else
          (refPPXOEntries ks io m (cfOfG ks t) t.f L true ih).bind fun s =>
            .text ("Object[{".toList ++ s ++ (if t.f.alt then newLine L else []) ++ "}]".toList)
      typeFinish t.f [] body
  | .obj name es =>
    if name.isEmpty then
      -- an instance of an anonymous type: the line break of the context, then the init hash as a Hash (which breaks the line again)
      let t := getG ks m (.hash es)
      let lead : Str := if inh && decide (L > 0) && nested then newLine L else []
      if t.f.letter = 'a' then
        let ta := getG ks m (.array (es.map XEntry.arr))
        if !isArrayLetter ta.f.letter then .reported .unsupported
        else match refPPXEntryArrs ks io (cfOfG ks ta) (L + 1) ta.f.alt es with
          | .ok parts => .text (lead ++ ppArray ta.f L inh nested parts)
          | .err e => e
      else if !isHashLetter t.f.letter then .reported .unsupported
      else match refPPXPairs ks io m (cfOfG ks t) (L + 1) t.f.alt es with
        | .ok parts => .text (lead ++ ppHash t.f L inh nested parts)
        | .err e => e
    else
    let t := getG ks m (.obj name es)
    if t.f.letter = 'a' then
      -- the init hash as the array of its entries: the name, then an Array that brings its own line break
      let ta := getG ks m (.array (es.map XEntry.arr))
      if !isArrayLetter ta.f.letter then .reported .unsupported
      else match refPPXEntryArrs ks io (cfOfG ks ta) (L + 1) ta.f.alt es with
        | .ok parts => .text ((if inh && decide (L > 0) && nested then newLine L else []) ++ name ++ ppArray ta.f L inh nested parts)
        | .err e => e
    else if !isHashLetter t.f.letter then .reported .unsupported
    else match refPPXPairs ks io m (cfOfG ks t) (L + 1) t.f.alt es with
      | .ok parts => .text (ppObj t.f L inh nested name parts)
      | .err e => e
  | .array vs =>
    let t := getG ks m (.array vs)
    if !isArrayLetter t.f.letter then .reported .unsupported
    else match refPPXElems ks io m (cfOfG ks t) (L + 1) t.f.alt vs with
      | .ok parts => .text (ppArray t.f L inh nested parts)
      | .err e => e
  | .hash es =>
    let t := getG ks m (.hash es)
    if t.f.letter = 'a' then
      let ta := getG ks m (.array (es.map XEntry.arr))
      if !isArrayLetter ta.f.letter then .reported .unsupported
      else match refPPXEntryArrs ks io (cfOfG ks ta) (L + 1) ta.f.alt es with
        | .ok parts => .text (ppArray ta.f L inh nested parts)
        | .err e => e
    else if !isHashLetter t.f.letter then .reported .unsupported
    else match refPPXPairs ks io m (cfOfG ks t) (L + 1) t.f.alt es with
      | .ok parts => .text (ppHash t.f L inh nested parts)
      | .err e => e

/-- the elements of an array at level `L`: never the first thing on their level -/
def refPPXElems {κ : Type} (ks : KeySys κ) (io : FloatIO) (m cf : GMap κ) (L : Nat) (inh : Bool) : List XVal → ResL (Str × Bool)
  | [] => .ok []
  | v :: vs => ResL.cons (refPPX ks io (if v.isContainer then m else cf) L inh true v) (fun s => (s, v.isContainer))
      (fun _ => refPPXElems ks io m cf L inh vs)

/-- the keys and values of a hash at level `L`: each the first thing after its indentation -/
def refPPXPairs {κ : Type} (ks : KeySys κ) (io : FloatIO) (m cf : GMap κ) (L : Nat) (inh : Bool) : List XEntry → ResL (Str × Str)
  | [] => .ok []
  | .mk k v :: es =>
    match refPPX ks io (if k.isContainer then m else cf) L inh false k with
    | .text sk => ResL.cons (refPPX ks io (if v.isContainer then m else cf) L inh false v) (fun sv => (sk, sv))
        (fun _ => refPPXPairs ks io m cf L inh es)
    | e => .err e

/-- the entries of a hash formatted with `a`, at level `L`: each entry the array `[k, v]` whose elements are at level `L + 1` -/
def refPPXEntryArrs {κ : Type} (ks : KeySys κ) (io : FloatIO) (m : GMap κ) (L : Nat) (inh : Bool) : List XEntry → ResL (Str × Bool)
  | [] => .ok []
  | .mk k v :: es =>
    let t := getG ks m (.array [k, v])
    let r : Res :=
      if !isArrayLetter t.f.letter then .reported .unsupported
      else
        match refPPX ks io (if k.isContainer then m else cfOfG ks t) (L + 1) t.f.alt true k with
        | .text sk =>
          (match refPPX ks io (if v.isContainer then m else cfOfG ks t) (L + 1) t.f.alt true v with
           | .text sv => .text (ppArray t.f L inh true [(sk, k.isContainer), (sv, v.isContainer)])
           | e => e)
        | e => e
    ResL.cons r (fun s => (s, false)) (fun _ => refPPXEntryArrs ks io m L inh es)

/-- the entries of the init hash of an anonymous object type written at level `L`: values at level `L + 1`, members at `L + 2` -/
def refPPXOEntries {κ : Type} (ks : KeySys κ) (io : FloatIO) (m cf : GMap κ) (f : Fmt) (L : Nat) (first : Bool) : List OEntry → Res
  | [] => .text []
  | .plain key v :: rest =>
    (refPPX ks io (if v.isContainer then m else cf) (L + 1) f.alt false v).bind fun sv =>
      (refPPXOEntries ks io m cf f L false rest).bind fun sr =>
        .text (otypeLead f first (spaces (2 * (L + 1))) ++ key ++ " => ".toList ++ sv ++ sr)
  | .members key ms :: rest =>
    (refPPXMembers ks io m f L true ms).bind fun s =>
      (refPPXOEntries ks io m cf f L false rest).bind fun sr =>
        .text (otypeLead f first (spaces (2 * (L + 1))) ++ key ++ " => ".toList ++
          (['{'] ++ s ++ (if f.alt then newLine (L + 1) else []) ++ ['}']) ++ sr)

def refPPXMembers {κ : Type} (ks : KeySys κ) (io : FloatIO) (m : GMap κ) (f : Fmt) (L : Nat) (first : Bool) : List XEntry → Res
  | [] => .text []
  | .mk k v :: rest =>
    let name : Str := match k with | .str s => s | _ => []
    (refPPX ks io m (L + 2) f.alt false v).bind fun sv =>
      (refPPXMembers ks io m f L false rest).bind fun sr =>
        .text (otypeLead f first (spaces (2 * (L + 2))) ++ puppetQuote name ++ " => ".toList ++ sv ++ sr)
end

theorem arrayOf_pp (f : Fmt) (L : Nat) (inh nested : Bool) (r : ResL (Str × Bool)) :
    arrayOf f ⟨!nested, inh, L⟩ r = (match r with | .ok parts => .text (ppArray f L inh nested parts) | .err e => e) := by
  cases r with
  | ok parts => simp only [arrayOf, arrayAssemble_pp]
  | err e => rfl

theorem hashOf_false_pp (f : Fmt) (L : Nat) (inh nested : Bool) (r : ResL (Str × Str)) :
    hashOf f ⟨!nested, inh, L⟩ false r = (match r with | .ok parts => .text (ppHash f L inh nested parts) | .err e => e) := by
  cases r with
  | ok parts => simp only [hashOf, hashAssembleD_false, hashAssemble_pp]
  | err e => rfl

theorem refPPXPairs_errOK {κ : Type} (ks : KeySys κ) (io : FloatIO) (m cf : GMap κ) (L : Nat) (inh : Bool) :
    ∀ es, ErrOK (refPPXPairs ks io m cf L inh es)
  | [] => by intro e he; simp [refPPXPairs] at he
  | .mk k v :: es => by
    simp only [refPPXPairs]
    split
    · exact errOK_cons _ _ _ (refPPXPairs_errOK ks io m cf L inh es)
    · rename_i e hne
      exact errOK_err fun s h => hne s h

theorem refPPXEntryArrs_errOK {κ : Type} (ks : KeySys κ) (io : FloatIO) (m : GMap κ) (L : Nat) (inh : Bool) :
    ∀ es, ErrOK (refPPXEntryArrs ks io m L inh es)
  | [] => by intro e he; simp [refPPXEntryArrs] at he
  | .mk k v :: es => by simp only [refPPXEntryArrs]; exact errOK_cons _ _ _ (refPPXEntryArrs_errOK ks io m L inh es)

/-- The name and the line break of an object instance are written around the rendered init hash.  The three forms of the init hash
    (`(`…`)`, an Array of entries, the Hash of an anonymous type), each with the error of a child passed on; the `match` does not
    abstract `hr`, so that it is literally the `match` of `refPPX` and `simp only` closes the goal with these. -/
theorem objHash_pp (f : Fmt) (L : Nat) (inh nested : Bool) (name : Str) (r : ResL (Str × Str)) (hr : ErrOK r) :
    (hashOf f ⟨!nested, inh, L⟩ true r).bind (fun s => .text ((if (⟨!nested, inh, L⟩ : Ind).breaks then '\n' :: (⟨!nested, inh, L⟩ : Ind).padding else []) ++ name ++ s)) =
      (match (generalizing := false) r with | .ok parts => .text (ppObj f L inh nested name parts) | .err e => e) := by
  cases r with
  | ok parts =>
    simp only [hashOf, Res.bind, hashAssembleD_paren_pp, ppObj, Ind.breaks, Ind.padding, newLine, Bool.not_not]
  | err e => exact Res.bind_of_not_text (hr e rfl) _

theorem objArr_pp (f : Fmt) (L : Nat) (inh nested : Bool) (name : Str) (r : ResL (Str × Bool)) (hr : ErrOK r) :
    (arrayOf f ⟨!nested, inh, L⟩ r).bind (fun s => .text ((if (⟨!nested, inh, L⟩ : Ind).breaks then '\n' :: (⟨!nested, inh, L⟩ : Ind).padding else []) ++ name ++ s)) =
      (match (generalizing := false) r with
       | .ok parts => .text ((if inh && decide (L > 0) && nested then newLine L else []) ++ name ++ ppArray f L inh nested parts)
       | .err e => e) := by
  cases r with
  | ok parts =>
    simp only [arrayOf, Res.bind, arrayAssemble_pp, Ind.breaks, Ind.padding, newLine, Bool.not_not]
  | err e => exact Res.bind_of_not_text (hr e rfl) _

theorem obj_pp (f : Fmt) (L : Nat) (inh nested : Bool) (name : Str) (r : ResL (Str × Str)) (hr : ErrOK r) :
    (hashOf f ⟨!nested, inh, L⟩ true r).bind (fun s => .text ((if (⟨!nested, inh, L⟩ : Ind).breaks then '\n' :: (⟨!nested, inh, L⟩ : Ind).padding else []) ++ name ++ s)) =
      (match r with | .ok parts => .text (ppObj f L inh nested name parts) | .err e => e) := by
  rw [objHash_pp f L inh nested name r hr]; cases r <;> rfl

theorem obj_arr_pp (f : Fmt) (L : Nat) (inh nested : Bool) (name : Str) (r : ResL (Str × Bool)) (hr : ErrOK r) :
    (arrayOf f ⟨!nested, inh, L⟩ r).bind (fun s => .text ((if (⟨!nested, inh, L⟩ : Ind).breaks then '\n' :: (⟨!nested, inh, L⟩ : Ind).padding else []) ++ name ++ s)) =
      (match r with
       | .ok parts => .text ((if inh && decide (L > 0) && nested then newLine L else []) ++ name ++ ppArray f L inh nested parts)
       | .err e => e) := by
  rw [objArr_pp f L inh nested name r hr]; cases r <;> rfl

theorem objAnon_pp (f : Fmt) (L : Nat) (inh nested : Bool) (r : ResL (Str × Str)) (hr : ErrOK r) :
    (hashOf f ⟨!nested, inh, L⟩ false r).bind (fun s => .text ((if (⟨!nested, inh, L⟩ : Ind).breaks then '\n' :: (⟨!nested, inh, L⟩ : Ind).padding else []) ++ [] ++ s)) =
      (match (generalizing := false) r with
       | .ok parts => .text ((if inh && decide (L > 0) && nested then newLine L else []) ++ ppHash f L inh nested parts)
       | .err e => e) := by
  cases r with
  | ok parts =>
    simp only [hashOf, Res.bind, hashAssembleD_false, hashAssemble_pp, Ind.breaks, Ind.padding, newLine, Bool.not_not, List.append_nil]
  | err e => exact Res.bind_of_not_text (hr e rfl) _

theorem bind_congr (r : Res) (g1 g2 : Str → Res) (h : ∀ s, g1 s = g2 s) : r.bind g1 = r.bind g2 := by
  cases r <;> simp [Res.bind, h]

mutual
/-- **the extended model IS the pretty-printer**, every kind, any key system, any depth, any mixture of alt and non-alt formats -/
theorem fmtX_pp {κ : Type} (ks : KeySys κ) (io : FloatIO) : ∀ (v : XVal) (m : GMap κ) (L : Nat) (inh nested : Bool),
    fmtX ks io m ⟨!nested, inh, L⟩ v = refPPX ks io m L inh nested v
  | .undef, _, _, _, _ => rfl
  | .dflt, _, _, _, _ => rfl
  | .bool _, _, _, _, _ => rfl
  | .int _, _, _, _, _ => rfl
  | .float _, _, _, _, _ => rfl
  | .str _, _, _, _, _ => rfl
  | .regexp _, _, _, _, _ => rfl
  | .binary _ _, _, _, _, _ => rfl
  | .semver _, _, _, _, _ => rfl
  | .semverRange _ _, _, _, _, _ => rfl
  | .uri _, _, _, _, _ => rfl
  | .tspan _, _, _, _, _ => rfl
  | .tstamp _, _, _, _, _ => rfl
  | .sensitive _, _, _, _, _ => rfl
  | .typ name [], m, L, inh, nested => by simp only [fmtX, refPPX]
  | .typ name (p :: ps), m, L, inh, nested => by
    have ih := fmtElemsX_pp ks io (p :: ps) m (cfOfG ks (getG ks m (.array (p :: ps)))) (L + 1) (getG ks m (.array (p :: ps))).f.alt
    simp only [fmtX, refPPX, ctxSubsequent_eq, arrayChildInd_eq, arrayOf_pp, ih]
  | .talias name r, m, L, inh, nested => by
    simp only [fmtX, refPPX, fmtX_pp ks io r m L inh nested]
  | .otype name ih, m, L, inh, nested => by
    have h1 := otypeEntries_pp ks io ih m (cfOfG ks (getG ks m (.otype name ih))) (getG ks m (.otype name ih)).f L true
    rw [fmtX, refPPX]
    simp only [increase_eq, h1]
    rfl
  | .otypeX d ih, m, L, inh, nested => by
    have h1 := otypeEntries_pp ks io ih m (cfOfG ks (getG ks m (.otypeX d ih))) (getG ks m (.otypeX d ih)).f L true
    rw [fmtX, refPPX]
    simp only [increase_eq, h1]
    rfl
  | .obj name es, m, L, inh, nested => by
    have h1 := fmtPairsX_pp ks io es m (cfOfG ks (getG ks m (.obj name es))) (L + 1) (getG ks m (.obj name es)).f.alt
    have h1h := fmtPairsX_pp ks io es m (cfOfG ks (getG ks m (.hash es))) (L + 1) (getG ks m (.hash es)).f.alt
    have h2 := fmtEntryArrsX_pp ks io es (cfOfG ks (getG ks m (.array (es.map XEntry.arr)))) (L + 1)
      (getG ks m (.array (es.map XEntry.arr))).f.alt
    -- the name and the line break are written after the init hash has been rendered: push that through the letter checks
    by_cases hn : name = []
    · subst hn
      simp only [fmtX, refPPX, List.isEmpty_nil, if_true, Res.ite_bind, Res.bind_reported, arrayChildInd_eq, hashChildInd_eq, h1h, h2,
        objArr_pp _ _ _ _ _ _ (refPPXEntryArrs_errOK _ _ _ _ _ _), objAnon_pp _ _ _ _ _ (refPPXPairs_errOK _ _ _ _ _ _ _)]
      simp only [List.append_nil]
    · have hne : name.isEmpty = false := List.isEmpty_eq_false_iff.2 hn
      simp only [fmtX, refPPX, hne, Bool.false_eq_true, if_false, Res.ite_bind, Res.bind_reported, arrayChildInd_eq, hashChildInd_eq, h1, h2,
        objArr_pp _ _ _ _ _ _ (refPPXEntryArrs_errOK _ _ _ _ _ _), objHash_pp _ _ _ _ _ _ (refPPXPairs_errOK _ _ _ _ _ _ _)]
  | .array vs, m, L, inh, nested => by
    have ih := fmtElemsX_pp ks io vs m (cfOfG ks (getG ks m (.array vs))) (L + 1) (getG ks m (.array vs)).f.alt
    simp only [fmtX, refPPX, arrayChildInd_eq, arrayOf_pp, ih]
  | .hash es, m, L, inh, nested => by
    have h1 := fmtPairsX_pp ks io es m (cfOfG ks (getG ks m (.hash es))) (L + 1) (getG ks m (.hash es)).f.alt
    have h2 := fmtEntryArrsX_pp ks io es (cfOfG ks (getG ks m (.array (es.map XEntry.arr)))) (L + 1)
      (getG ks m (.array (es.map XEntry.arr))).f.alt
    simp only [fmtX, refPPX, arrayChildInd_eq, hashChildInd_eq, arrayOf_pp, hashOf_false_pp, h1, h2]

theorem fmtElemsX_pp {κ : Type} (ks : KeySys κ) (io : FloatIO) : ∀ (vs : List XVal) (m cf : GMap κ) (L : Nat) (inh : Bool),
    fmtElemsX ks io m cf ⟨!true, inh, L⟩ vs = refPPXElems ks io m cf L inh vs
  | [], _, _, _, _ => by simp [fmtElemsX, refPPXElems]
  | v :: vs, m, cf, L, inh => by
    simp only [fmtElemsX, refPPXElems, fmtX_pp ks io v _ L inh true, fmtElemsX_pp ks io vs m cf L inh]

theorem fmtPairsX_pp {κ : Type} (ks : KeySys κ) (io : FloatIO) : ∀ (es : List XEntry) (m cf : GMap κ) (L : Nat) (inh : Bool),
    fmtPairsX ks io m cf ⟨!false, inh, L⟩ es = refPPXPairs ks io m cf L inh es
  | [], _, _, _, _ => by simp [fmtPairsX, refPPXPairs]
  | .mk k v :: es, m, cf, L, inh => by
    simp only [fmtPairsX, refPPXPairs, fmtX_pp ks io k _ L inh false, fmtX_pp ks io v _ L inh false, fmtPairsX_pp ks io es m cf L inh]
    cases refPPX ks io (if k.isContainer = true then m else cf) L inh false k <;> rfl

theorem fmtEntryArrsX_pp {κ : Type} (ks : KeySys κ) (io : FloatIO) : ∀ (es : List XEntry) (m : GMap κ) (L : Nat) (inh : Bool),
    fmtEntryArrsX ks io m ⟨!true, inh, L⟩ es = refPPXEntryArrs ks io m L inh es
  | [], _, _, _ => by simp [fmtEntryArrsX, refPPXEntryArrs]
  | .mk k v :: es, m, L, inh => by
    simp only [fmtEntryArrsX, refPPXEntryArrs, arrayChildInd_eq, fmtX_pp ks io k _ (L + 1) _ true, fmtX_pp ks io v _ (L + 1) _ true,
      arrayAssemble_pp, fmtEntryArrsX_pp ks io es m L inh]
    rfl

theorem otypeEntries_pp {κ : Type} (ks : KeySys κ) (io : FloatIO) : ∀ (es : List OEntry) (m cf : GMap κ) (f : Fmt) (L : Nat) (first : Bool),
    otypeEntries ks io m cf f ⟨!false, f.alt, L + 1⟩ ⟨!false, f.alt, L + 1 + 1⟩ first es = refPPXOEntries ks io m cf f L first es
  | [], _, _, _, _, _ => by simp [otypeEntries, refPPXOEntries]
  | .plain key v :: rest, m, cf, f, L, first => by
    simp only [otypeEntries, refPPXOEntries, fmtX_pp ks io v _ (L + 1) f.alt false, otypeEntries_pp ks io rest m cf f L false, Ind.padding]
  | .members key ms :: rest, m, cf, f, L, first => by
    simp only [otypeEntries, refPPXOEntries, otypeMembers_pp ks io ms m f L true, otypeEntries_pp ks io rest m cf f L false,
      Ind.padding, newLine]

theorem otypeMembers_pp {κ : Type} (ks : KeySys κ) (io : FloatIO) : ∀ (es : List XEntry) (m : GMap κ) (f : Fmt) (L : Nat) (first : Bool),
    otypeMembers ks io m f ⟨!false, f.alt, L + 1 + 1⟩ first es = refPPXMembers ks io m f L first es
  | [], _, _, _, _ => by simp [otypeMembers, refPPXMembers]
  | .mk k v :: rest, m, f, L, first => by
    simp only [otypeMembers, refPPXMembers, fmtX_pp ks io v m (L + 2) f.alt false, otypeMembers_pp ks io rest m f L false, Ind.padding]
    rfl
end

end Pcore.Format

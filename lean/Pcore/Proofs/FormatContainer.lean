import Pcore.Proofs.FormatWidth
/-! The ten-kind model (`Model/Format.lean`): no Go fault, and Arrays and Hashes in non-alt mode, on what the method of a scalar can
    end in (`Ends`, `Flagged`: Proofs/FormatLetters.lean) and what fmt understands (`GoOK`: Proofs/FormatWidth.lean).  In order: `getFormat`
    on a map with one more entry; what no Go fault asks of a map (`AllGoOK`); no method of a scalar ends in a fault (`Ends.no_fault`, the
    float path first); the equations of `Res.bind` and `ResL.cons`, by which every later file passes the error of a child on; the non-alt
    assemblers (delimiter ++ intercalate separator (element renderings) ++ delimiter); the laws of ONE level of an Array or Hash.  For
    whole values see Proofs/FormatRef.lean and Proofs/FormatPlain.lean. -/
namespace Pcore.Format

theorem getFormat_cons (k : Key) (t : FTree) (m : FMap) (kd : Kind) :
    getFormat ((k, t) :: m) kd = if k.accepts kd then t else getFormat m kd := by
  unfold getFormat; rw [List.find?_cons]; cases k.accepts kd <;> rfl

mutual
inductive InTree : Fmt → FTree → Prop
  | here (f : Fmt) (cf : Option FMap) : InTree f (.mk f cf)
  | deeper (g f : Fmt) (m : FMap) : InMap g m → InTree g (.mk f (some m))
inductive InMap : Fmt → FMap → Prop
  | mk (g : Fmt) (k : Key) (t : FTree) (m : FMap) : (k, t) ∈ m → InTree g t → InMap g m
end

/-- every format of the map, at any depth, is one fmt understands -/
def AllGoOK (m : FMap) : Prop := ∀ g, InMap g m → GoOK g

theorem goOK_simple : ∀ c ∈ ['s', 'p'], GoOK (simpleFmt c) := by decide

/-! ### A scalar never ends in a Go fault: each format string handed to fmt is one it understands, the two Sprintf calls of the float path included -/

theorem sprintfF_ok (io : FloatIO) (fm : Str) (bits : Nat) (c : Char) (h : VerbOK fm c) (hc : isGoFloatVerb c = true) :
    ∃ s, sprintfF io fm bits = .ok s := by
  unfold VerbOK at h
  unfold sprintfF
  split at h
  · rename_i g hg; rw [hg]; simp only; rw [h, hc]; exact ⟨_, rfl⟩
  · exact absurd h id

theorem floatOK_defaults : FloatOK defaultFormatP ∧ FloatOK defaultFormatS := by decide

/- For the components of `FloatOK f` used below: left reducible, every elaboration step against a goal
   `VerbOK (goFormat (withoutWidth f)) c` runs fmt's parser `goParse` on the `unParse` text (as in FormatUnparse.lean). -/
attribute [local irreducible] unParse

theorem floatGFormat_ok (io : FloatIO) (f : Fmt) (bits : Nat) (hl : f.letter = 'g' ∨ f.letter = 'G') (h : FloatOK f) :
    ∃ s, floatGFormat io f bits = .ok s := by
  have hv : isGoFloatVerb f.letter = true := by rcases hl with h' | h' <;> rw [h'] <;> rfl
  obtain ⟨str, hstr⟩ := sprintfF_ok io _ bits f.letter h.1 hv
  -- the second Sprintf, should scientific notation be forced
  have hsc : ∃ s, sprintfF io (goFormat (replaceFormatChar f (if f.letter = 'G' then 'E' else 'e'))) bits = .ok s :=
    iteInduction (motive := fun sc => ∃ s, sprintfF io (goFormat (replaceFormatChar f sc)) bits = .ok s)
      (fun _ => sprintfF_ok io _ bits 'E' h.2.2 rfl) (fun _ => sprintfF_ok io _ bits 'e' h.2.1 rfl)
  unfold floatGFormat
  rw [hstr]
  show ∃ s, floatGRest io f bits str = .ok s
  unfold floatGRest
  simp only []
  refine iteInduction (motive := fun r => ∃ s, r = Except.ok s) (fun _ => ⟨_, rfl⟩) fun _ => ?_
  exact iteInduction (motive := fun r => ∃ s, r = Except.ok s) (fun _ => hsc) fun _ => ⟨_, rfl⟩

theorem exceptRes_no_fault (r : Except FaultKind Str) (k : Str → Str) (h : ∃ s, r = .ok s) (e : FaultKind) :
    exceptRes r k ≠ .fault e := by
  obtain ⟨s, rfl⟩ := h; exact fun h => nomatch h

theorem Flagged.no_fault {f : Fmt} {ok : Bool} {r : Res} (h : Flagged f ok r) (k : FaultKind) : r ≠ .fault k := by
  cases h <;> exact fun h => nomatch h

/-- **no fmt fault**, for every way the method of a scalar ends: each format string handed to fmt is one it
    understands (`GoOK`), with a verb fmt knows for the operand -/
theorem Ends.no_fault {io : FloatIO} {f : Fmt} {ok : Bool} {r : Res} (h : Ends io f ok r) (hgo : GoOK f) (k : FaultKind) :
    r ≠ .fault k := by
  obtain ⟨g, hg, ha⟩ := hgo.spec
  cases h with
  | flagged h => exact h.no_fault k
  | goInt i hl =>
    obtain ⟨_, _, _, hi⟩ := goFmtInt_verbBase g i (ha.verb ▸ hl)
    rw [hg, hi]; exact fun h => nomatch h
  | pbb => exact fun h => nomatch h
  | floatStr d bits q hd =>
    rcases hd with rfl | rfl
    · exact exceptRes_no_fault _ _ (floatGFormat_ok io defaultFormatP bits (.inl rfl) floatOK_defaults.1) k
    · exact exceptRes_no_fault _ _ (floatGFormat_ok io defaultFormatS bits (.inl rfl) floatOK_defaults.2) k
  | sci bits hl =>
    exact exceptRes_no_fault _ _ (sprintfF_ok io _ bits f.letter (.intro hg ha.verb) hl) k
  | gen bits hl => exact exceptRes_no_fault _ _ (floatGFormat_ok io f bits hl hgo.2) k

theorem fmtBinary_no_fault (f : Fmt) (bs : List Nat) (u : Option Str) (k : FaultKind) : fmtBinary f bs u ≠ .fault k := by
  rcases fmtBinary_flagged f bs u with ⟨_, _, he⟩ | hf
  · rw [he]; exact fun h => nomatch h
  · exact hf.no_fault k

/-! ### `Res.bind` and `ResL.cons` on each form of result: a text goes on, anything else is passed through unchanged -/

theorem Res.text_or_reported {r : Res} (h : ∀ k, r ≠ .fault k) : (∃ s, r = .text s) ∨ (∃ c, r = .reported c) := by
  cases r with
  | text s => exact .inl ⟨s, rfl⟩
  | reported c => exact .inr ⟨c, rfl⟩
  | fault k => exact absurd rfl (h k)

theorem Res.bind_reported (c : Code) (k : Str → Res) : (Res.reported c).bind k = .reported c := rfl

theorem Res.bind_of_not_text {e : Res} (h : ∀ s, e ≠ .text s) (k : Str → Res) : e.bind k = e := by
  cases e with
  | text s => exact absurd rfl (h s)
  | reported c => rfl
  | fault k => rfl

theorem Res.ite_bind (c : Prop) [Decidable c] (a b : Res) (k : Str → Res) :
    (if c then a else b).bind k = if c then a.bind k else b.bind k := by
  split <;> rfl

/-- What `ResL.cons` returns: the error of the rest behind a text, or the head itself when it is no text. -/
theorem ResL.cons_eq_err {α : Type} (r : Res) (mk : Str → α) (rest : Unit → ResL α) (e : Res) :
    ResL.cons r mk rest = .err e ↔ (∃ s, r = .text s ∧ rest () = .err e) ∨ ((∀ s, r ≠ .text s) ∧ e = r) := by
  unfold ResL.cons
  cases r with
  | text s => cases rest () <;> simp
  | reported c => simp [eq_comm]
  | fault k => simp [eq_comm]

theorem ResL.cons_eq_ok {α : Type} (r : Res) (mk : Str → α) (rest : Unit → ResL α) (xs : List α) :
    ResL.cons r mk rest = .ok xs ↔ ∃ s ys, r = .text s ∧ rest () = .ok ys ∧ xs = mk s :: ys := by
  unfold ResL.cons
  cases r with
  | text s => cases rest () <;> simp [eq_comm]
  | reported c => simp
  | fault k => simp

/-- a list result carries no fault -/
def NoFaultL {α : Type} (r : ResL α) : Prop := ∀ e, r = .err e → ∀ k, e ≠ .fault k

theorem noFaultL_cons {α : Type} (r : Res) (mk : Str → α) (rest : Unit → ResL α)
    (h1 : ∀ k, r ≠ .fault k) (h2 : NoFaultL (rest ())) : NoFaultL (ResL.cons r mk rest) := by
  intro e he k
  rcases (ResL.cons_eq_err r mk rest e).1 he with ⟨_, _, hr⟩ | ⟨_, rfl⟩
  · exact h2 e hr k
  · exact h1 k

/-! ### Without `#` the assemblers write delimiter ++ intercalate (separator ++ blank) (parts) ++ delimiter -/

theorem intercalate_cons (sep : Str) (x : Str) (xs : List Str) :
    sep.intercalate (x :: xs) = x ++ (xs.map (sep ++ ·)).flatten := by
  induction xs generalizing x with
  | nil => simp [List.intercalate]
  | cons y ys ih =>
    have := ih y
    simp [List.intercalate] at this ⊢
    rw [this]

theorem arrayRest_nonalt (f : Fmt) (hf : f.alt = false) (sep pad : Str) :
    ∀ (rest : List (Str × Bool)) (prev : Bool),
      arrayRest f sep pad false rest prev = (rest.map (fun p => (sep ++ [' ']) ++ p.1)).flatten
  | [], _ => by simp [arrayRest]
  | (s, ah) :: rest, prev => by
    simp only [arrayRest, hf, arrayRest_nonalt f hf sep pad rest ah]
    simp

theorem arrayAssemble_nonalt (f : Fmt) (ind : Ind) (parts : List (Str × Bool)) (hf : f.alt = false) (hi : ind.indenting = false) :
    arrayAssemble f ind parts =
      (delimPair f.ldelim '[').1 ++ (f.sep.getD [','] ++ [' ']).intercalate (parts.map (·.1)) ++ (delimPair f.ldelim '[').2 := by
  have hsz : ∀ ps, szBreakOf f ps = false := by intro ps; simp [szBreakOf, hf]
  unfold arrayAssemble
  simp only [hf, hi, hsz, Ind.withIndenting, Ind.breaks, Bool.or_self, Bool.false_and, Bool.false_eq_true, if_false]
  cases parts with
  | nil => simp [List.intercalate]
  | cons p rest =>
    obtain ⟨s, ah⟩ := p
    simp only [List.map_cons, intercalate_cons, arrayRest_nonalt f hf]
    simp [List.map_map, Function.comp_def]

theorem hashEntries_pad (assoc sep pad : Str) : ∀ (parts : List (Str × Str)),
    hashEntries assoc sep pad parts = sep.intercalate (parts.map (fun p => pad ++ p.1 ++ assoc ++ p.2))
  | [] => by simp [hashEntries, List.intercalate]
  | [(k, v)] => by simp [hashEntries, List.intercalate]
  | (k, v) :: p2 :: rest => by
    have ih := hashEntries_pad assoc sep pad (p2 :: rest)
    rw [hashEntries, ih]
    simp only [List.map_cons, intercalate_cons]
    simp
    all_goals (intro h; cases h)

theorem hashAssemble_nonalt (f : Fmt) (ind : Ind) (parts : List (Str × Str)) (hf : f.alt = false) (hi : ind.indenting = false) :
    hashAssemble f ind parts =
      (delimPair f.ldelim '{').1 ++
        (f.sep.getD [','] ++ [' ']).intercalate (parts.map (fun p => p.1 ++ f.sep2.getD " => ".toList ++ p.2)) ++
      (delimPair f.ldelim '{').2 := by
  unfold hashAssemble
  simp only [hf, hi, Ind.withIndenting, Ind.breaks, Bool.or_self, Bool.false_and, Bool.false_eq_true, if_false,
    hashEntries_pad, List.nil_append]
  simp

/-! ### One level of a container: given the renderings of the children, the rendering of the Array or Hash -/

/-- the children of a container render to the texts `texts`: a container child under the parent's map, any other child
    under the container formats `cf` -/
def ChildrenText (io : FloatIO) (m cf : FMap) (ci : Ind) : List Val → List Str → Prop
  | [], [] => True
  | v :: vs, s :: ss => fmtVal io (if v.isContainer then m else cf) ci v = .text s ∧ ChildrenText io m cf ci vs ss
  | _, _ => False

theorem fmtElems_of_children (io : FloatIO) (m cf : FMap) (ci : Ind) : ∀ (vs : List Val) (texts : List Str),
    ChildrenText io m cf ci vs texts → ∃ parts, fmtElems io m cf ci vs = .ok parts ∧ parts.map (·.1) = texts
  | [], [], _ => ⟨[], by simp [fmtElems], rfl⟩
  | v :: vs, s :: ss, h => by
    obtain ⟨parts, hp, hm⟩ := fmtElems_of_children io m cf ci vs ss h.2
    refine ⟨(s, v.isContainer) :: parts, ?_, by simp [hm]⟩
    simp only [fmtElems, h.1, ResL.cons, hp]
  | [], _ :: _, h => by simp [ChildrenText] at h
  | _ :: _, [], h => by simp [ChildrenText] at h

/-- the entries of a hash render to the key and value texts -/
def EntriesText (io : FloatIO) (m cf : FMap) (ci : Ind) : List Entry → List (Str × Str) → Prop
  | [], [] => True
  | .mk k v :: es, (sk, sv) :: ss =>
    fmtVal io (if k.isContainer then m else cf) ci k = .text sk ∧
    fmtVal io (if v.isContainer then m else cf) ci v = .text sv ∧ EntriesText io m cf ci es ss
  | _, _ => False

theorem fmtPairs_of_entries (io : FloatIO) (m cf : FMap) (ci : Ind) : ∀ (es : List Entry) (texts : List (Str × Str)),
    EntriesText io m cf ci es texts → fmtPairs io m cf ci es = .ok texts
  | [], [], _ => by simp [fmtPairs]
  | .mk k v :: es, (sk, sv) :: ss, h => by
    have ih := fmtPairs_of_entries io m cf ci es ss h.2.2
    simp only [fmtPairs, h.1, h.2.1, ResL.cons, ih]
  | [], _ :: _, h => by simp [EntriesText] at h
  | _ :: _, [], h => by simp [EntriesText] at h

/-- **container law, arrays** (non-alt): left delimiter ++ intercalate (separator ++ blank) (element renderings) ++
    right delimiter, whatever the elements are (containers included: the law applies to them in turn) -/
theorem fmtVal_array (io : FloatIO) (m : FMap) (ind : Ind) (vs : List Val) (texts : List Str)
    (hl : isArrayLetter (getFormat m .arr).f.letter = true) (halt : (getFormat m .arr).f.alt = false)
    (hind : ind.indenting = false)
    (hc : ChildrenText io m (cfOf (getFormat m .arr)) (arrayChildInd (getFormat m .arr).f ind) vs texts) :
    fmtVal io m ind (.array vs) =
      .text ((delimPair (getFormat m .arr).f.ldelim '[').1 ++
        ((getFormat m .arr).f.sep.getD [','] ++ [' ']).intercalate texts ++ (delimPair (getFormat m .arr).f.ldelim '[').2) := by
  obtain ⟨parts, hp, hm⟩ := fmtElems_of_children io m _ _ vs texts hc
  simp only [fmtVal, hl, Bool.not_true, Bool.false_eq_true, if_false, hp]
  rw [arrayAssemble_nonalt _ _ _ halt hind, hm]

theorem fmtVal_hash (io : FloatIO) (m : FMap) (ind : Ind) (es : List Entry) (texts : List (Str × Str))
    (hl : isHashLetter (getFormat m .hash).f.letter = true) (halt : (getFormat m .hash).f.alt = false)
    (hind : ind.indenting = false)
    (hc : EntriesText io m (cfOf (getFormat m .hash)) (hashChildInd (getFormat m .hash).f ind) es texts) :
    fmtVal io m ind (.hash es) =
      .text ((delimPair (getFormat m .hash).f.ldelim '{').1 ++
        ((getFormat m .hash).f.sep.getD [','] ++ [' ']).intercalate
          (texts.map (fun p => p.1 ++ (getFormat m .hash).f.sep2.getD " => ".toList ++ p.2)) ++
        (delimPair (getFormat m .hash).f.ldelim '{').2) := by
  have hp := fmtPairs_of_entries io m _ _ es texts hc
  simp only [fmtVal, isHashLetter_ne_a hl, if_false, hl, Bool.not_true, Bool.false_eq_true, hp]
  rw [hashAssemble_nonalt _ _ _ halt hind]

/-- the letter of a container is checked before anything else -/
theorem fmtVal_array_unsupported (io : FloatIO) (m : FMap) (ind : Ind) (vs : List Val)
    (hl : isArrayLetter (getFormat m .arr).f.letter = false) : fmtVal io m ind (.array vs) = .reported .unsupported := by
  simp [fmtVal, hl]

theorem fmtVal_hash_unsupported (io : FloatIO) (m : FMap) (ind : Ind) (es : List Entry)
    (hl : isHashLetter (getFormat m .hash).f.letter = false) (ha : (getFormat m .hash).f.letter ≠ 'a') :
    fmtVal io m ind (.hash es) = .reported .unsupported := by
  simp [fmtVal, hl, ha]

end Pcore.Format

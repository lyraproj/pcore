import Pcore.Model.Files
import Pcore.Proofs.OMap
/-!
Helper lemmas for C15, on `Pcore.Model.Files` and `Proofs/OMap`.  In this order: a weakest-precondition calculus `wp` for the
state-and-panic monad `M`; the store (`St.get` / `St.put`, an `OMap` keyed by loader and key) and `setEntry` on it; what the
definitions of names, keys, the index and the tree compute; the shape of each operation of the loader — every function of the
model is taken apart here, once (what its body can do, branch by branch, with the condition of each branch): the inductions
over the fuel and the step equations of `FilesSteps` rest on these statements; the one shape of specification (`Keeps`,
`Stores`) that soundness, at-most-once and absence share, with the steps of the operations that only route, cache and loop
(`keeps_*`), on which `FilesSound`, `FilesOnce` and `FilesAbsent` rest.  Property theorems are in `Pcore/Props/C15.lean`.
-/
namespace Pcore.Files

/-- weakest precondition: `Q` on normal return, `E` on the state a panic leaves behind -/
def wp {α : Type} (x : M α) (Q : α → St → Prop) (E : St → Prop) (s : St) : Prop :=
  match x s with
  | .ok a s' => Q a s'
  | .fail _ s' => E s'

@[simp] theorem wp_pure {α : Type} (a : α) (Q : α → St → Prop) (E : St → Prop) (s : St) :
    wp (pure a : M α) Q E s ↔ Q a s := Iff.rfl

@[simp] theorem wp_bind {α β : Type} (x : M α) (f : α → M β) (Q : β → St → Prop) (E : St → Prop) (s : St) :
    wp (x >>= f) Q E s ↔ wp x (fun a s' => wp (f a) Q E s') E s := by
  simp only [wp, bind]
  cases x s <;> rfl

@[simp] theorem wp_raise {α : Type} (e : Err) (Q : α → St → Prop) (E : St → Prop) (s : St) :
    wp (raise e : M α) Q E s ↔ E s := Iff.rfl

@[simp] theorem wp_getSt (Q : St → St → Prop) (E : St → Prop) (s : St) : wp getSt Q E s ↔ Q s s := Iff.rfl

@[simp] theorem wp_modifySt (f : St → St) (Q : Unit → St → Prop) (E : St → Prop) (s : St) :
    wp (modifySt f) Q E s ↔ Q () (f s) := Iff.rfl

theorem wp_mono {α : Type} {x : M α} {Q Q' : α → St → Prop} {E E' : St → Prop} {s : St}
    (h : wp x Q E s) (hq : ∀ a s', Q a s' → Q' a s') (he : ∀ s', E s' → E' s') : wp x Q' E' s := by
  unfold wp at *
  cases hx : x s with
  | ok a s' => rw [hx] at h; exact hq _ _ h
  | fail e s' => rw [hx] at h; exact he _ h

theorem wp_seq {α β : Type} {x : M α} {f : α → M β} {Q' : α → St → Prop} {Q : β → St → Prop} {E : St → Prop} {s : St}
    (hx : wp x Q' E s) (hf : ∀ a s', Q' a s' → wp (f a) Q E s') : wp (x >>= f) Q E s :=
  (wp_bind x f Q E s).mpr (wp_mono hx hf (fun _ h => h))

theorem bind_ok {α β : Type} {x : M α} {f : α → M β} {s s' : St} {a : α} (h : x s = .ok a s') : (x >>= f) s = f a s' := by
  simp only [bind, h]

/-! ## the store: the caches are an association list keyed by (loader, key), `Pcore.Coll.OMap` at `key := id` -/

theorem putEnt_eq (l : Lid) (k : Key) (e : Entry) (xs : List ((Lid × Key) × Entry)) :
    putEnt l k e xs = Coll.OMap.put id xs ((l, k), e) := by
  induction xs with
  | nil => rfl
  | cons x xs ih => simp only [putEnt, Coll.OMap.put, id, ih]

theorem St.get_eq (s : St) (l : Lid) (k : Key) : s.get l k = Coll.OMap.get id s.ents (l, k) := by
  rw [St.get, Coll.OMap.get, Coll.OMap.getEntry_eq_find?]
  simp only [id]
  cases s.ents.find? _ <;> rfl

theorem get_put (s : St) (l : Lid) (k : Key) (e : Entry) (l' : Lid) (k' : Key) :
    (s.put l k e).get l' k' = if (l', k') = (l, k) then some e else s.get l' k' := by
  rw [St.get_eq, St.get_eq, St.put, putEnt_eq, Coll.OMap.get_put]
  simp only [id, eq_comm]

theorem get_put_cases {s : St} {l l' : Lid} {k k' : Key} {e : Entry} (P : Option Entry → Prop)
    (hit : l' = l → k' = k → P (some e)) (other : (l', k') ≠ (l, k) → P (s.get l' k')) :
    P ((s.put l k e).get l' k') := by
  rw [get_put]
  by_cases hk : (l', k') = (l, k)
  · rw [if_pos hk]; exact hit (Prod.mk.inj hk).1 (Prod.mk.inj hk).2
  · rw [if_neg hk]; exact other hk

theorem get_put_self (s : St) (l : Lid) (k : Key) (e : Entry) : (s.put l k e).get l k = some e := by
  rw [get_put, if_pos rfl]

theorem get_put_lid {l l' : Lid} (h : l' ≠ l) (s : St) (k : Key) (e : Entry) (k' : Key) :
    (s.put l k e).get l' k' = s.get l' k' := by
  rw [get_put, if_neg (fun h' => h (Prod.mk.inj h').1)]

theorem get_put_key {k k' : Key} (h : k' ≠ k) (s : St) (l : Lid) (e : Entry) (l' : Lid) :
    (s.put l k e).get l' k' = s.get l' k' := by
  rw [get_put, if_neg (fun h' => h (Prod.mk.inj h').2)]

theorem put_put (s : St) (l : Lid) (k : Key) (e v : Entry) : (s.put l k e).put l k v = s.put l k v := by
  simp only [St.put, putEnt_eq, Coll.OMap.put_put id _ ((l, k), e) ((l, k), v) rfl]

theorem put_same (s : St) (l : Lid) (k : Key) (e : Entry) (h : s.get l k = some e) : s.put l k e = s := by
  rw [St.put, putEnt_eq, Coll.OMap.put_of_get (St.get_eq s l k ▸ h)]

@[simp] theorem get_addRead (s : St) (p : Path) (l : Lid) (k : Key) : (s.addRead p).get l k = s.get l k := rfl
@[simp] theorem reads_put (s : St) (l : Lid) (k : Key) (e : Entry) : (s.put l k e).reads = s.reads := rfl
@[simp] theorem reads_addRead (s : St) (p : Path) : (s.addRead p).reads = s.reads ++ [p] := rfl

/-! ## `setEntry`: it writes where no definition stands; where one stands it keeps it, or refuses a different one -/

theorem setEntry_cases {l : Lid} {k : Key} {e : Entry} {s : St} (P : R Entry → Prop)
    (put : (∀ d, s.get l k ≠ some (some d)) → P (.ok e (s.put l k e)))
    (keep : ∀ old, s.get l k = some (some old) → P (.ok (some old) s))
    (redefine : ∀ old, s.get l k = some (some old) →
      P (.fail (.reported "PCORE_ATTEMPT_TO_REDEFINE_TYPE" none 0) s)) : P (setEntry l k e s) := by
  unfold setEntry
  cases h : s.get l k with
  | none => exact put (by rw [h]; nofun)
  | some o =>
    cases o with
    | none => exact put (by rw [h]; nofun)
    | some old =>
      cases e with
      | none => exact keep old h
      | some new =>
        dsimp only
        split
        · exact keep old h
        · exact redefine old h

theorem wp_setEntry {l : Lid} {k : Key} {e : Entry} {Q : Entry → St → Prop} {E : St → Prop} {s : St}
    (put : (∀ d, s.get l k ≠ some (some d)) → Q e (s.put l k e))
    (keep : ∀ old, s.get l k = some (some old) → Q (some old) s ∧ E s) : wp (setEntry l k e) Q E s :=
  setEntry_cases (fun r => wp (fun _ => r) Q E s) put (fun o h => (keep o h).1) (fun o h => (keep o h).2)

theorem setEntry_over (l : Lid) (k : Key) (e : Entry) (s : St) (h : ∀ d, s.get l k ≠ some (some d)) :
    setEntry l k e s = .ok e (s.put l k e) :=
  setEntry_cases (· = _) (fun _ => rfl) (fun o ho => absurd ho (h o)) (fun o ho => absurd ho (h o))

theorem defineS_fresh (s : St) (l : Lid) (name : Name) (h : ∀ d, s.get l (keyOf name) ≠ some (some d)) :
    defineS s l name = (none, s.put l (keyOf name) (some ⟨.alias, name⟩)) := by
  simp only [defineS, defineIn, bind, setEntry_over _ _ _ _ h, pure]

/-! ## names, keys, the index and the tree: what the definitions of the model compute -/

theorem partsOf_eq {n : Name} {k : Key} (h : partsOf n = some k) : k = keyOf n := by
  unfold partsOf at h
  by_cases hv : (keyOf n).all validPart = true
  · rw [if_pos hv] at h; exact (Option.some.inj h).symm
  · rw [if_neg hv] at h; cases h

theorem keyOf_length (n : Name) : (keyOf n).length = n.length := by simp [keyOf]

theorem length_eq_of_keyOf_eq {a b : Name} (h : keyOf a = keyOf b) : a.length = b.length := by
  rw [← keyOf_length a, h, keyOf_length]

theorem keyOf_ne_of_length {a b : Name} (h : a.length ≠ b.length) : keyOf a ≠ keyOf b :=
  fun hk => h (length_eq_of_keyOf_eq hk)

theorem partsOf_of_isSome {n : Name} (h : (partsOf n).isSome) : partsOf n = some (keyOf n) := by
  cases hp : partsOf n with
  | none => rw [hp] at h; cases h
  | some ps => rw [partsOf_eq hp]

theorem keyOf_append (a b : Name) : keyOf (a ++ b) = keyOf a ++ keyOf b := by simp [keyOf]

theorem qualified_iff {n : Name} : qualified n = true ↔ 2 ≤ n.length := by simp [qualified]

theorem lid_of_moduleName {l : Lid} (h : isGlobalMod l.moduleName = false) : l = .m l.moduleName := by
  cases l with
  | m mod => rfl
  | g => cases h
  | d => cases h

theorem mem_idx_iff {cfg : Cfg} {l : Lid} {k : Key} {p : Path} :
    p ∈ idx cfg l k ↔ (∃ b, (p, b) ∈ cfg.tree) ∧ k ∈ fileKeys (spOf l) p := by
  simp only [idx, List.mem_map, List.mem_filter, List.contains_iff_mem]
  constructor
  · rintro ⟨f, ⟨hf, hk⟩, rfl⟩; exact ⟨⟨f.2, hf⟩, hk⟩
  · rintro ⟨⟨b, hb⟩, hk⟩; exact ⟨(p, b), ⟨hb, hk⟩, rfl⟩

theorem sysLoad_congr {a b : Name} (h : keyOf a = keyOf b) : sysLoad a = sysLoad b := by
  unfold sysLoad; rw [h]

theorem mem_of_bodyAt {t : Tree} {p : Path} {b : Body} (h : bodyAt t p = some b) : (p, b) ∈ t := by
  unfold bodyAt at h
  cases hf : t.find? (fun f => f.1 = p) with
  | none => rw [hf] at h; cases h
  | some f =>
    rw [hf] at h
    cases h
    obtain ⟨hm, hp⟩ := find_key_eq_some (key := Prod.fst) hf
    exact hp ▸ hm

theorem bodyAt_of_mem {t : Tree} {p : Path} {b : Body} (h : (p, b) ∈ t) : ∃ b', bodyAt t p = some b' := by
  unfold bodyAt
  cases hf : t.find? (fun f => f.1 = p) with
  | some f => exact ⟨f.2, rfl⟩
  | none =>
    have := List.find?_eq_none.mp hf _ h
    simp at this

/-! ## the shape of the operations

One statement per operation of the model saying which few things its body can do, each with the facts the branch has
established, for the inductions over the fuel (soundness, at-most-once, absence, termination) and for the step equations
of `FilesSteps` (motive `(· = …)`).  The motive `P` ranges over computations, so a statement serves `wp` and the termination
calculus `tpv` alike.  (`FilesFuelMono` relates two computations: it uses the equations and unfolds the other bodies itself.) -/

theorem loadS_cases {fuel : Nat} {cfg : Cfg} {s : St} {name : Name} (P : R Outcome → Outcome × St → Prop)
    (ok : ∀ o s', P (.ok o s') (o, s')) (fail : ∀ e s', P (.fail e s') (.failed e, s')) :
    P (load fuel cfg name s) (loadS fuel cfg s name) := by
  unfold loadS
  cases load fuel cfg name s with
  | ok o s' => exact ok o s'
  | fail e s' => exact fail e s'

theorem loadS_of_wp {fuel : Nat} {cfg : Cfg} {s : St} {name : Name} {Q : Outcome → St → Prop} {E : St → Prop}
    (h : wp (load fuel cfg name) Q E s) (hE : ∀ e s', E s' → Q (.failed e) s') :
    Q (loadS fuel cfg s name).1 (loadS fuel cfg s name).2 :=
  loadS_cases (fun r x => wp (fun _ => r) Q E s → Q x.1 x.2) (fun _ _ h => h) (fun e s' h => hE e s' h) h

theorem loadEntry_cases {n : Nat} {cfg : Cfg} {l : Lid} {name : Name} (P : M (Option Entry) → Prop)
    (dep : l = .d → P (dLoadEntry n cfg name)) (file : l ≠ .d → P (fbLoadEntry n cfg l name)) :
    P (loadEntry (n+1) cfg l name) := by
  cases l with
  | d => exact dep rfl
  | g => exact file (by intro h; cases h)
  | m mod => exact file (by intro h; cases h)

/-- the parent chain of a file loader: the system loader, and for a module loader below the global loader that one -/
def fbParent (n : Nat) (cfg : Cfg) (l : Lid) (name : Name) : M (Option Entry) :=
  match l with
  | .m _ => if cfg.flat then pure (sysLoad name) else fbLoadEntry n cfg .g name
  | _ => pure (sysLoad name)

/-- a definition answered by the parent stands, otherwise the own cache decides -/
def ownEntry (pe cached : Option Entry) : Option Entry :=
  match pe with
  | some (some d) => some (some d)
  | _ => cached

/-- `fbLoadEntry` after the parent and the cache: `find`, and a placeholder for a miss -/
def fbOwn (n : Nat) (cfg : Cfg) (l : Lid) (name : Name) : Option Entry → M (Option Entry)
  | some e => pure (some e)
  | none => do
    let r ← find n cfg l name
    match r with
    | some e => pure (some e)
    | none =>
      let e ← setEntry l (keyOf name) none
      pure (some e)

theorem fbLoadEntry_succ (n : Nat) (cfg : Cfg) (l : Lid) (name : Name) :
    fbLoadEntry (n+1) cfg l name = (do
      let pe ← fbParent n cfg l name
      let st ← getSt
      fbOwn n cfg l name (ownEntry pe (st.get l (keyOf name)))) := rfl

theorem fbParent_cases {n : Nat} {cfg : Cfg} {l : Lid} {name : Name} (P : M (Option Entry) → Prop)
    (sys : P (pure (sysLoad name))) (glob : ∀ m, l = .m m → cfg.flat = false → P (fbLoadEntry n cfg .g name)) :
    P (fbParent n cfg l name) := by
  cases l with
  | m mod =>
    show P (if cfg.flat then _ else _)
    cases hf : cfg.flat with
    | true => exact sys
    | false => exact glob mod rfl hf
  | g => exact sys
  | d => exact sys

/-- the check after the `init_typeset` file has been instantiated -/
def expectTypeset (o : Path) (e : Option Entry) : M (Option Entry) :=
  match e with
  | some (some d) => if d.kind = .typeset then pure e else raise (.reported "PCORE_NOT_EXPECTED_TYPESET" (some o) 0)
  | _ => pure e

theorem expectTypeset_cases {o : Path} {e : Option Entry} (P : M (Option Entry) → Prop) (pass : P (pure e))
    (refuse : P (raise (.reported "PCORE_NOT_EXPECTED_TYPESET" (some o) 0))) : P (expectTypeset o e) := by
  unfold expectTypeset
  split
  · split
    · exact pass
    · exact refuse
  · exact pass

/-- the `init_typeset` route of `find` as it was before fix 51b01c7: the instantiator is called without the placeholder guard -/
def findUnguarded (n : Nat) (cfg : Cfg) (l : Lid) (name : Name) (o : Path) (os : List Path) : M (Option Entry) := do
  instantiator n cfg name (o :: os)
  let st ← getSt
  match st.get l (keyOf name) with
  | some (some d) => expectTypeset o (some (some d))
  | _ => raise (.reported "PCORE_NOT_EXPECTED_TYPESET" (some o) 0)

/-- `find` of loader `l` reaches the index with this name (the switch part lets it through) -/
def Routed (l : Lid) (name : Name) : Prop :=
  (qualified name = true ∧ (l.moduleName = "" ∨ ∃ ps, partsOf name = some ps ∧ ps.head? = some l.moduleName)) ∨
  (qualified name = false ∧ isGlobalMod l.moduleName = true)

theorem Routed.qualified {l : Lid} {name : Name} (h : Routed l name) (hg : isGlobalMod l.moduleName = false) :
    qualified name = true :=
  h.elim (·.1) (fun h' => by rw [hg] at h'; cases h'.2)

theorem Routed.congr {l : Lid} {name name' : Name} (h : Routed l name) (hk : keyOf name' = keyOf name) : Routed l name' := by
  have hlen := length_eq_of_keyOf_eq hk
  unfold Routed Files.qualified partsOf at h ⊢
  rw [hk, hlen]; exact h

theorem routed_g (name : Name) : Routed .g name := by
  cases hq : qualified name
  · exact Or.inr ⟨hq, rfl⟩
  · exact Or.inl ⟨hq, Or.inl rfl⟩

theorem routed_m {mod : String} {name : Name} {ps : Key} (hq : qualified name = true) (hp : partsOf name = some ps)
    (hh : ps.head? = some mod) : Routed (.m mod) name :=
  Or.inl ⟨hq, Or.inr ⟨ps, hp, hh⟩⟩

/-- why `find` of loader `l` refuses `name`: its first segment names another module, or it is the loader's own unqualified
    name and the module has no `init_typeset` -/
def Refused (cfg : Cfg) (l : Lid) (name : Name) : Prop :=
  ∃ ps, partsOf name = some ps ∧
    ((qualified name = true ∧ l.moduleName ≠ "" ∧ ps.head? ≠ some l.moduleName) ∨
     (qualified name = false ∧ isGlobalMod l.moduleName = false ∧
       (ps.head? ≠ some l.moduleName ∨ idx cfg l ["init_typeset"] = [])))

/-- how `find` routes a name, each branch with the condition under which it is taken: it refuses it, panics on its characters
    (`Parts()` is only called by a loader with a module name, for a qualified name or in an ordinary module), hands it to the
    index (`Routed`), or, for the own unqualified name of an ordinary module, takes the `init_typeset` route. -/
theorem find_cases {n : Nat} {cfg : Cfg} {l : Lid} {name : Name} (P : M (Option Entry) → Prop)
    (refuse : Refused cfg l name → P (pure none))
    (invalid : l.moduleName ≠ "" → (qualified name = true ∨ isGlobalMod l.moduleName = false) → partsOf name = none →
      P (raise invalidChars))
    (tail : Routed l name → P (findTail n cfg l name))
    (init : ∀ o os, cfg.guardInit = true → qualified name = false → isGlobalMod l.moduleName = false →
      partsOf name = some [l.moduleName] → idx cfg l ["init_typeset"] = o :: os →
      P (instantiate n cfg l name (o :: os) >>= expectTypeset o))
    (unguarded : ∀ o os, cfg.guardInit = false → qualified name = false → isGlobalMod l.moduleName = false →
      partsOf name = some [l.moduleName] → idx cfg l ["init_typeset"] = o :: os → P (findUnguarded n cfg l name o os)) :
    P (find (n+1) cfg l name) := by
  -- the segment check of a loader with a module name: `Parts()` may panic, another module's name is refused
  have own : l.moduleName ≠ "" → (qualified name = true ∨ isGlobalMod l.moduleName = false) → ∀ f : M (Option Entry),
      (∀ ps, partsOf name = some ps → ps.head? = some l.moduleName → P f) →
      (∀ ps, partsOf name = some ps → ps.head? ≠ some l.moduleName → P (pure none)) →
      P (partsM name >>= fun ps => if some l.moduleName ≠ ps.head? then pure none else f) := by
    intro hne hc f hf hr
    unfold partsM
    cases hp : partsOf name with
    | none => exact invalid hne hc hp
    | some ps =>
      show P (if some l.moduleName ≠ ps.head? then pure none else f)
      by_cases hh : some l.moduleName = ps.head?
      · rw [if_neg (not_not_intro hh)]; exact hf ps hp hh.symm
      · rw [if_pos hh]; exact hr ps hp (fun h => hh h.symm)
  simp only [find]
  by_cases hq : qualified name = true
  · rw [if_pos hq]
    by_cases hm : l.moduleName ≠ ""
    · rw [if_pos hm]
      exact own hm (Or.inl hq) _ (fun ps hp hh => tail (Or.inl ⟨hq, Or.inr ⟨ps, hp, hh⟩⟩))
        (fun ps hp hh => refuse ⟨ps, hp, Or.inl ⟨hq, hm, hh⟩⟩)
    · rw [if_neg hm]; exact tail (Or.inl ⟨hq, Or.inl (Decidable.of_not_not hm)⟩)
  · rw [if_neg hq]
    have hq' : qualified name = false := by simpa using hq
    cases hg : isGlobalMod l.moduleName with
    | true => rw [if_neg (by decide)]; exact tail (Or.inr ⟨hq', hg⟩)
    | false =>
      have hm : l.moduleName ≠ "" := by intro h; rw [h] at hg; cases hg
      rw [if_pos (by decide)]
      refine own hm (Or.inr hg) _ ?_ (fun ps hp hh => refuse ⟨ps, hp, Or.inr ⟨hq', hg, Or.inl hh⟩⟩)
      intro ps hp hh
      cases hi : idx cfg l ["init_typeset"] with
      | nil => exact refuse ⟨ps, hp, Or.inr ⟨hq', hg, Or.inr hi⟩⟩
      | cons o os =>
        have hp' : partsOf name = some [l.moduleName] := by
          have hps := partsOf_eq hp
          subst hps
          rw [hp]
          cases name with
          | nil => cases hh
          | cons a rest =>
            cases rest with
            | nil => exact congrArg (fun x => some [x]) (Option.some.inj hh)
            | cons b rest => cases hq'
        show P (if cfg.guardInit = true then _ else _)
        by_cases hgd : cfg.guardInit = true
        · rw [if_pos hgd]; exact init o os hgd hq' hg hp' hi
        · rw [if_neg hgd]; exact unguarded o os (by simpa using hgd) hq' hg hp' hi

theorem findTail_cons {cfg : Cfg} {l : Lid} {name : Name} {p : Path} {ps : List Path}
    (hi : idx cfg l (keyOf name) = p :: ps) (n : Nat) :
    findTail (n+1) cfg l name = instantiate n cfg l name (p :: ps) := by
  simp only [findTail, hi]

theorem findTail_nil {cfg : Cfg} {l : Lid} {name : Name} (hi : idx cfg l (keyOf name) = []) (n : Nat) :
    findTail (n+1) cfg l name = if qualified name then parentSearch n cfg l name name.dropLast else pure none := by
  simp only [findTail, hi]

theorem findTail_cases {n : Nat} {cfg : Cfg} {l : Lid} {name : Name} (P : M (Option Entry) → Prop)
    (inst : ∀ o os, idx cfg l (keyOf name) = o :: os → P (instantiate n cfg l name (o :: os)))
    (parents : idx cfg l (keyOf name) = [] → qualified name = true → P (parentSearch n cfg l name name.dropLast))
    (miss : idx cfg l (keyOf name) = [] → P (pure none)) : P (findTail (n+1) cfg l name) := by
  cases hi : idx cfg l (keyOf name) with
  | cons o os => rw [findTail_cons hi]; exact inst o os hi
  | nil =>
    rw [findTail_nil hi]
    cases hq : qualified name with
    | true => exact parents hi hq
    | false => exact miss hi

theorem parentSearch_nil (n : Nat) (cfg : Cfg) (l : Lid) (name : Name) : parentSearch (n+1) cfg l name [] = pure none := rfl

/-- one iteration of the parent search, without destructuring the prefix -/
theorem parentSearch_ne (n : Nat) (cfg : Cfg) (l : Lid) (name ts : Name) (hne : ts ≠ []) :
    parentSearch (n+1) cfg l name ts = (do
      let st ← getSt
      match st.get l (keyOf ts) with
      | some _ => parentSearch n cfg l name ts.dropLast
      | none =>
        let _ ← find n cfg l ts
        let st ← getSt
        match st.get l (keyOf name) with
        | some te => pure (some te)
        | none => parentSearch n cfg l name ts.dropLast) := by
  cases ts with
  | nil => exact absurd rfl hne
  | cons t rest =>
    simp only [parentSearch]
    funext s
    simp only [bind, getSt]
    cases s.get l (keyOf (t :: rest)) with
    | some v => rfl
    | none =>
      simp only []
      cases find n cfg l (t :: rest) s with
      | fail e s' => rfl
      | ok a s' =>
        simp only []
        cases s'.get l (keyOf name) <;> rfl

theorem instantiate_cached {n : Nat} {cfg : Cfg} {l : Lid} {name : Name} {origins : List Path} {s : St} {v : Entry}
    (h : s.get l (keyOf name) = some v) : instantiate (n+1) cfg l name origins s = .ok (some v) s := by
  simp only [instantiate, bind, getSt, h, pure]

/-- the placeholder guard: the entry is installed before the file is instantiated, and answered afterwards -/
theorem instantiate_fresh {n : Nat} {cfg : Cfg} {l : Lid} {name : Name} {origins : List Path} {s : St}
    (h : s.get l (keyOf name) = none) :
    instantiate (n+1) cfg l name origins s =
      (instantiator n cfg name origins >>= fun _ => getSt >>= fun st => pure (st.get l (keyOf name)))
        (s.put l (keyOf name) none) := by
  simp only [instantiate, bind, getSt, h, setEntry, pure]

/-- the file does not define the requested name: misnamed, malformed, without a definition, or unreadable -/
def Defective (b : Body) (name : Name) : Prop :=
  match b with
  | .typ _ nm _ => keyOf nm ≠ keyOf name
  | .bare => False
  | _ => True

/-- the error a defective first origin is reported with -/
def defectErr (p : Path) : Body → Err
  | .typ _ _ _ => .reported "PCORE_WRONG_DEFINITION" (some p) 0
  | .malformed ln => .reported "PARSE_ERROR" (some p) ln
  | .nodef => .reported "PCORE_NO_DEFINITION" (some p) 0
  | _ => .reported "PCORE_UNABLE_TO_READ_FILE" (some p) 0

/-- the definition a non-defective file yields for the requested name -/
def definedBy (b : Body) (name : Name) : Option Def :=
  match b with
  | .typ k nm _ => if keyOf nm = keyOf name then some ⟨k, nm⟩ else none
  | .bare => some ⟨.alias, name⟩
  | _ => none

theorem definedBy_eq_some {b : Body} {name : Name} {d : Def} :
    definedBy b name = some d ↔
      (∃ ts, b = .typ d.kind d.name ts ∧ keyOf d.name = keyOf name) ∨ (b = .bare ∧ d = ⟨.alias, name⟩) := by
  cases b with
  | typ k nm ts =>
    simp only [definedBy]
    by_cases hk : keyOf nm = keyOf name
    · rw [if_pos hk]
      constructor
      · rintro ⟨⟩; exact Or.inl ⟨ts, rfl, hk⟩
      · rintro (⟨_, h, _⟩ | ⟨h, _⟩) <;> cases h; rfl
    · rw [if_neg hk]
      constructor
      · nofun
      · rintro (⟨_, h, hk'⟩ | ⟨h, _⟩) <;> cases h; exact absurd hk' hk
  | bare => exact ⟨fun h => Or.inr ⟨rfl, (Option.some.inj h).symm⟩, fun h => h.elim (by rintro ⟨_, ⟨⟩, _⟩) (fun h => h.2 ▸ rfl)⟩
  | malformed ln => exact ⟨nofun, by rintro (⟨_, ⟨⟩, _⟩ | ⟨⟨⟩, _⟩)⟩
  | nodef => exact ⟨nofun, by rintro (⟨_, ⟨⟩, _⟩ | ⟨⟨⟩, _⟩)⟩
  | unreadable => exact ⟨nofun, by rintro (⟨_, ⟨⟩, _⟩ | ⟨⟨⟩, _⟩)⟩

theorem defective_iff {b : Body} {name : Name} : Defective b name ↔ definedBy b name = none := by
  cases b with
  | typ k nm ts =>
    simp only [Defective, definedBy]
    by_cases hk : keyOf nm = keyOf name
    · rw [if_pos hk]; exact ⟨fun h => absurd hk h, nofun⟩
    · rw [if_neg hk]; exact ⟨fun _ => rfl, fun _ => hk⟩
  | bare => exact ⟨False.elim, nofun⟩
  | malformed ln => exact ⟨fun _ => rfl, fun _ => trivial⟩
  | nodef => exact ⟨fun _ => rfl, fun _ => trivial⟩
  | unreadable => exact ⟨fun _ => rfl, fun _ => trivial⟩

def Body.members : Body → List String
  | .typ _ _ ts => ts
  | _ => []

/-- `InstantiatePuppetType` after the file has been read: what it does with the parsed content -/
def instBody (n : Nat) (cfg : Cfg) (name : Name) (p : Path) : Option Body → M Unit
  | some (.typ k nm ts) =>
    if keyOf nm ≠ keyOf name then raise (.reported "PCORE_WRONG_DEFINITION" (some p) 0) else addTypes n cfg ⟨k, nm⟩ ts
  | some .bare => addTypes n cfg ⟨.alias, name⟩ []
  | some (.malformed ln) => raise (.reported "PARSE_ERROR" (some p) ln)
  | some .nodef => raise (.reported "PCORE_NO_DEFINITION" (some p) 0)
  | _ => raise (.reported "PCORE_UNABLE_TO_READ_FILE" (some p) 0)

theorem instantiator_cons (n : Nat) (cfg : Cfg) (name : Name) (p : Path) (ps : List Path) :
    instantiator (n+1) cfg name (p :: ps) = modifySt (·.addRead p) >>= fun _ => instBody n cfg name p (bodyAt cfg.tree p) := by
  simp only [instantiator]
  cases bodyAt cfg.tree p with
  | none => rfl
  | some b => cases b <;> rfl

theorem instBody_defective {n : Nat} {cfg : Cfg} {name : Name} {p : Path} {b : Body} (hd : Defective b name) :
    instBody n cfg name p (some b) = raise (defectErr p b) := by
  cases b with
  | typ k nm ts => exact if_pos hd
  | bare => exact hd.elim
  | malformed ln => rfl
  | nodef => rfl
  | unreadable => rfl

theorem instBody_defined {n : Nat} {cfg : Cfg} {name : Name} {p : Path} {b : Body} {d : Def} (hd : definedBy b name = some d) :
    instBody n cfg name p (some b) = addTypes n cfg d b.members := by
  rcases definedBy_eq_some.mp hd with ⟨ts, rfl, hk⟩ | ⟨rfl, rfl⟩
  · exact if_neg (not_not_intro hk)
  · rfl

theorem instBody_cases {n : Nat} {cfg : Cfg} {name : Name} {p : Path} (P : M Unit → Prop)
    (err : ∀ code ln, P (raise (.reported code (some p) ln)))
    (typ : ∀ k nm ts, bodyAt cfg.tree p = some (.typ k nm ts) → keyOf nm = keyOf name → P (addTypes n cfg ⟨k, nm⟩ ts))
    (bare : bodyAt cfg.tree p = some .bare → P (addTypes n cfg ⟨.alias, name⟩ [])) :
    P (instBody n cfg name p (bodyAt cfg.tree p)) := by
  cases hb : bodyAt cfg.tree p with
  | none => exact err _ _
  | some b =>
    rcases hd : definedBy b name with _ | d
    · rw [instBody_defective (defective_iff.mpr hd)]; cases b <;> exact err _ _
    · rw [instBody_defined hd]
      rcases definedBy_eq_some.mp hd with ⟨ts, rfl, hk⟩ | ⟨rfl, rfl⟩
      · exact typ _ _ ts hb hk
      · exact bare hb

theorem addTypes_succ (n : Nat) (cfg : Cfg) (d : Def) (ts : List String) :
    addTypes (n+1) cfg d ts =
      (if d.kind = .typeset then resolveTS n cfg d.name ts 0 else pure ()) >>= fun _ =>
        setEntry cfg.via (keyOf d.name) (some d) >>= fun _ => pure () := by
  simp only [addTypes]
  split <;> rfl

/-- `resolveTypeSet` after the lookup of one member: a member the defining loader does not know is defined, with the kind
    its position dictates; then the remaining members -/
def resolveMember (n : Nat) (cfg : Cfg) (tsName : Name) (t : String) (rest : List String) (i : Nat) (le : Option Entry) :
    M Unit :=
  match le with
  | some (some _) => resolveTS n cfg tsName rest (i + 1)
  | _ => do
    let _ ← setEntry cfg.via (keyOf (tsName ++ [t])) (some ⟨kindAt i, tsName ++ [t]⟩)
    resolveTS n cfg tsName rest (i + 1)

theorem resolveTS_cons (n : Nat) (cfg : Cfg) (tsName : Name) (t : String) (rest : List String) (i : Nat) :
    resolveTS (n+1) cfg tsName (t :: rest) i =
      loadEntry n cfg cfg.via (tsName ++ [t]) >>= resolveMember n cfg tsName t rest i := rfl

theorem resolveMember_cases {n : Nat} {cfg : Cfg} {tsName : Name} {t : String} {rest : List String} {i : Nat}
    {le : Option Entry} (P : M Unit → Prop) (known : P (resolveTS n cfg tsName rest (i + 1)))
    (define : P (setEntry cfg.via (keyOf (tsName ++ [t])) (some ⟨kindAt i, tsName ++ [t]⟩) >>= fun _ =>
      resolveTS n cfg tsName rest (i + 1))) : P (resolveMember n cfg tsName t rest i le) := by
  unfold resolveMember
  split
  · exact known
  · exact define

/-- what the dependency loader does with the answer `r` of its `find` when its own entry `own` was no definition:
    `cur` is its entry afterwards -/
def dStore (name : Name) (own r cur : Option Entry) : M (Option Entry) :=
  match r, cur with
  | some (some d), some (some d') =>
    if d = d' then pure (some (some d))
    else do
      let e ← setEntry .d (keyOf name) (some d)
      pure (some e)
  | some (some d), _ => do
    let e ← setEntry .d (keyOf name) (some d)
    pure (some e)
  | _, _ =>
    match own with
    | none => do
      let e ← setEntry .d (keyOf name) none
      pure (some e)
    | some o => pure (some o)

def dRetry (n : Nat) (cfg : Cfg) (name : Name) (own : Option Entry) : M (Option Entry) := do
  let r ← dFind n cfg name
  let st ← getSt
  dStore name own r (st.get .d (keyOf name))

theorem dLoadEntry_succ (n : Nat) (cfg : Cfg) (name : Name) :
    dLoadEntry (n+1) cfg name = (do
      let st ← getSt
      match st.get .d (keyOf name) with
      | some (some d) => pure (some (some d))
      | own => dRetry n cfg name own) := rfl

theorem dStore_cases {name : Name} {own r cur : Option Entry} (P : M (Option Entry) → Prop)
    (same : ∀ d, r = some (some d) → P (pure (some (some d))))
    (store : ∀ d, r = some (some d) → P (setEntry .d (keyOf name) (some d) >>= fun e => pure (some e)))
    (miss : own = none → P (setEntry .d (keyOf name) none >>= fun e => pure (some e)))
    (keep : ∀ o, own = some o → P (pure (some o))) : P (dStore name own r cur) := by
  unfold dStore
  split
  · split
    · exact same _ rfl
    · exact store _ rfl
  · exact store _ rfl
  · cases own with
    | none => exact miss rfl
    | some o => exact keep o rfl

/-- how the dependency loader's `find` routes a name: only a QUALIFIED name (and only when there are modules) is parsed and
    sent to the module its first segment names; every other name goes to the loop over the members -/
theorem dFind_cases {n : Nat} {cfg : Cfg} {name : Name} (P : M (Option Entry) → Prop)
    (invalid : qualified name = true → partsOf name = none → P (raise invalidChars))
    (routed : ∀ h, h ∈ cfg.mods → qualified name = true → (∃ ps, partsOf name = some ps ∧ ps.head? = some h) →
      P (fbLoadEntry n cfg (.m h) name))
    (members : (qualified name = true → cfg.mods = [] ∨ ∃ ps, partsOf name = some ps ∧ ∀ h, ps.head? = some h → h ∉ cfg.mods) →
      P (dMembers n cfg name)) :
    P (dFind (n+1) cfg name) := by
  simp only [dFind]
  split
  · next hc =>
    have hq : qualified name = true := (Bool.and_eq_true_iff.mp hc).2
    unfold partsM
    cases hp : partsOf name with
    | none => exact invalid hq hp
    | some ps =>
      show P (match ps.head? with
        | some h => if cfg.mods.contains h then fbLoadEntry n cfg (.m h) name else dMembers n cfg name
        | none => dMembers n cfg name)
      cases hh : ps.head? with
      | none => exact members (fun _ => Or.inr ⟨ps, hp, fun h hh' => by rw [hh] at hh'; cases hh'⟩)
      | some h =>
        show P (if cfg.mods.contains h then _ else _)
        cases hm : cfg.mods.contains h with
        | true => exact routed h (by simpa using hm) hq ⟨ps, hp, hh⟩
        | false =>
          exact members (fun _ => Or.inr ⟨ps, hp, fun h' hh' => by
            rw [hh] at hh'; cases hh'; simpa using hm⟩)
  · next hc =>
    refine members (fun hq => Or.inl ?_)
    cases hm : cfg.mods with
    | nil => rfl
    | cons x xs => rw [hm, hq] at hc; exact absurd rfl hc

/-- the loop over the members of the dependency loader: the first definition stands -/
def firstDef (x y : M (Option Entry)) : M (Option Entry) := do
  let e ← x
  match e with
  | some (some d) => pure (some (some d))
  | _ => y

theorem dLoop_cons (n : Nat) (cfg : Cfg) (m : String) (rest : List String) (name : Name) :
    dLoop (n+1) cfg (m :: rest) name = firstDef (fbLoadEntry n cfg (.m m) name) (dLoop n cfg rest name) := rfl

theorem dLoop_nil (n : Nat) (cfg : Cfg) (name : Name) (s : St) :
    dLoop (n+1) cfg [] name s = .ok (s.get .d (keyOf name)) s := by
  simp only [dLoop, bind, getSt, pure]

theorem dMembers_succ (n : Nat) (cfg : Cfg) (name : Name) :
    dMembers (n+1) cfg name =
      if cfg.flat then firstDef (fbLoadEntry n cfg .g name) (dLoop n cfg cfg.mods name) else dLoop n cfg cfg.mods name :=
  rfl

/-! ## one shape of specification, three inductions

Soundness, at-most-once and absence each say of every operation that answers an entry: it keeps an invariant `I` (also when
it panics) and answers only definitions that satisfy `G` (`Keeps`).  The operations that only route, cache and loop
(`loadEntry`, `fbLoadEntry`, `parentSearch`, the dependency loader) need two facts about `(I, G)` and the name (`Stores`): what
a cache holds for the name satisfies `G`, and `setEntry` of nothing or of a `G`-definition keeps `I` and answers a
`G`-definition.  Their steps are proved here, once, from the specifications of the operations they call. -/

def Keeps (I : St → Prop) (G : Def → Prop) (x : M (Option Entry)) : Prop :=
  ∀ s, I s → wp x (fun r s' => I s' ∧ ∀ d, r = some (some d) → G d) I s

structure Stores (I : St → Prop) (G : Def → Prop) (name : Name) : Prop where
  cache : ∀ l s d, I s → s.get l (keyOf name) = some (some d) → G d
  set : ∀ l e s, (∀ d, e = some d → G d) → I s →
    wp (setEntry l (keyOf name) e) (fun r s' => I s' ∧ ∀ d, r = some d → G d) I s

section
variable {I : St → Prop} {G : Def → Prop} {n : Nat} {cfg : Cfg} {l : Lid} {name : Name}

theorem Keeps.firstDef {x y : M (Option Entry)} (hx : Keeps I G x) (hy : Keeps I G y) : Keeps I G (firstDef x y) := by
  intro s hs
  refine wp_seq (hx s hs) ?_
  rintro e s1 ⟨hs1, he⟩
  split
  · exact ⟨hs1, he⟩
  · exact hy s1 hs1

theorem Stores.answer (h : Stores I G name) (l : Lid) (e : Entry) (he : ∀ d, e = some d → G d) {s : St} (hs : I s) :
    wp (setEntry l (keyOf name) e >>= fun e => pure (some e)) (fun r s' => I s' ∧ ∀ d, r = some (some d) → G d) I s :=
  wp_seq (h.set l e s he hs) (fun _ _ h => ⟨h.1, fun d hd => h.2 d (Option.some.inj hd)⟩)

theorem keeps_loadEntry (dep : Keeps I G (dLoadEntry n cfg name)) (file : l ≠ .d → Keeps I G (fbLoadEntry n cfg l name)) :
    Keeps I G (loadEntry (n+1) cfg l name) :=
  loadEntry_cases (Keeps I G) (fun _ => dep) file

theorem keeps_fbLoadEntry (h : Stores I G name) (sys : ∀ d, sysLoad name = some (some d) → G d)
    (parent : Keeps I G (fbLoadEntry n cfg .g name)) (find : Keeps I G (find n cfg l name)) :
    Keeps I G (fbLoadEntry (n+1) cfg l name) := by
  intro s hs
  rw [fbLoadEntry_succ]
  refine wp_seq (fbParent_cases (Keeps I G) (fun _ hs => ⟨hs, sys⟩) (fun _ _ _ => parent) s hs) ?_
  rintro pe s1 ⟨hs1, hpe⟩
  rw [wp_bind, wp_getSt]
  have hentry : ∀ d, ownEntry pe (s1.get l (keyOf name)) = some (some d) → G d := by
    unfold ownEntry
    split
    · exact hpe
    · exact fun d => h.cache l s1 d hs1
  generalize ownEntry pe (s1.get l (keyOf name)) = entry at hentry
  cases entry with
  | some e => exact ⟨hs1, hentry⟩
  | none =>
    refine wp_seq (find s1 hs1) ?_
    rintro (_ | e) s2 ⟨hs2, hr⟩
    · exact h.answer l none nofun hs2
    · exact ⟨hs2, hr⟩

/-- `G'`: what `find` of a prefix answers is not looked at -/
theorem keeps_parentSearch {G' : Name → Def → Prop} (h : Stores I G name) {ts : Name}
    (find : ts ≠ [] → Keeps I (G' ts) (find n cfg l ts))
    (rest : ts ≠ [] → Keeps I G (parentSearch n cfg l name ts.dropLast)) :
    Keeps I G (parentSearch (n+1) cfg l name ts) := by
  intro s hs
  by_cases hne : ts = []
  · rw [hne]; exact ⟨hs, nofun⟩
  · rw [parentSearch_ne _ _ _ _ _ hne, wp_bind, wp_getSt]
    cases s.get l (keyOf ts) with
    | some v => exact rest hne s hs
    | none =>
      refine wp_seq (find hne s hs) ?_
      rintro _ s1 ⟨hs1, _⟩
      rw [wp_bind, wp_getSt]
      cases hg1 : s1.get l (keyOf name) with
      | some te => exact ⟨hs1, fun d hd => h.cache l s1 d hs1 (hg1.trans hd)⟩
      | none => exact rest hne s1 hs1

theorem keeps_dLoadEntry (h : Stores I G name) (find : Keeps I G (dFind n cfg name)) :
    Keeps I G (dLoadEntry (n+1) cfg name) := by
  intro s hs
  rw [dLoadEntry_succ, wp_bind, wp_getSt]
  split
  · next d hg => exact ⟨hs, fun d' hd => h.cache .d s d' hs (hg.trans hd)⟩
  · unfold dRetry
    refine wp_seq (find s hs) ?_
    rintro r s1 ⟨hs1, hr⟩
    rw [wp_bind, wp_getSt]
    refine dStore_cases (fun x => wp x _ _ s1) ?_ ?_ ?_ ?_
    · rintro d rfl; exact ⟨hs1, hr⟩
    · rintro d rfl; exact h.answer .d (some d) (fun _ h => by cases h; exact hr d rfl) hs1
    · intro _; exact h.answer .d none nofun hs1
    · intro o ho; exact ⟨hs1, fun d hd => h.cache .d s d hs (by rw [ho]; exact hd)⟩

theorem keeps_dFind (routed : ∀ h, h ∈ cfg.mods → Keeps I G (fbLoadEntry n cfg (.m h) name))
    (members : Keeps I G (dMembers n cfg name)) : Keeps I G (dFind (n+1) cfg name) :=
  dFind_cases (Keeps I G) (fun _ _ _ hs => hs) (fun h hm _ _ => routed h hm) (fun _ => members)

theorem keeps_dMembers (glob : Keeps I G (fbLoadEntry n cfg .g name)) (loop : Keeps I G (dLoop n cfg cfg.mods name)) :
    Keeps I G (dMembers (n+1) cfg name) := by
  rw [dMembers_succ]
  split
  · exact glob.firstDef loop
  · exact loop

theorem keeps_dLoop (h : Stores I G name) {mods : List String} (file : ∀ m, Keeps I G (fbLoadEntry n cfg (.m m) name))
    (rest : ∀ ms, Keeps I G (dLoop n cfg ms name)) : Keeps I G (dLoop (n+1) cfg mods name) := by
  cases mods with
  | nil => exact fun s hs => ⟨hs, fun d => h.cache .d s d hs⟩
  | cons m ms => exact (file m).firstDef (rest ms)

theorem keeps_loadS {fuel : Nat} (h : Stores I G name) (hl : Keeps I G (loadEntry fuel cfg cfg.via name)) {s : St}
    (hs : I s) : I (loadS fuel cfg s name).2 ∧ ∀ d, (loadS fuel cfg s name).1 = .found d → G d := by
  refine loadS_of_wp (Q := fun o s' => I s' ∧ ∀ d, o = .found d → G d) (wp_seq (hl s hs) ?_) (fun _ _ h => ⟨h, nofun⟩)
  rintro e s1 ⟨hs1, he⟩
  match e, he with
  | none, _ => exact wp_seq (h.set cfg.via none s1 nofun hs1) (fun _ _ h => ⟨h.1, nofun⟩)
  | some none, _ => exact ⟨hs1, nofun⟩
  | some (some d), he => exact ⟨hs1, fun _ hd => by cases hd; exact he d rfl⟩

end

end Pcore.Files

import Pcore.Proofs.Files
/-!
C15, the loader one layer at a time: each lemma evaluates ONE function of the model (`load`, `fbLoadEntry` through
`fbOwn`, the dependency loader's `dFind` / `dMembers` / `dLoop` / `dLoadEntry`, `find`, `instantiate`) on the inputs a
scenario fixes, read off the decompositions of `Proofs/Files.lean`, so that the theorems about whole lookups are compositions
of these steps.  A lookup through a file loader starts from `Below` (the parent chain holds nothing for the name).  Also what
the first origin of a name yields (`plainOutcomeAt`).
-/
namespace Pcore.Files

/-! ## `load` from `loadEntry` -/

theorem loadS_found {fuel : Nat} {cfg : Cfg} {s s' : St} {name : Name} {d : Def}
    (h : loadEntry fuel cfg cfg.via name s = .ok (some (some d)) s') : loadS fuel cfg s name = (.found d, s') := by
  simp only [loadS, load, bind, h]
  rfl

theorem loadS_notfound {fuel : Nat} {cfg : Cfg} {s s' : St} {name : Name}
    (h : loadEntry fuel cfg cfg.via name s = .ok (some none) s') : loadS fuel cfg s name = (.notfound, s') := by
  simp only [loadS, load, bind, h]
  rfl

theorem loadS_failed {fuel : Nat} {cfg : Cfg} {s s' : St} {name : Name} {e : Err}
    (h : loadEntry fuel cfg cfg.via name s = .fail e s') : loadS fuel cfg s name = (.failed e, s') := by
  simp only [loadS, load, bind, h]

theorem runLoads_cons_fst (fuel : Nat) (cfg : Cfg) (s : St) (n : Name) (ns : List Name) :
    (runLoads fuel cfg s (n :: ns)).1 = (loadS fuel cfg s n).1 :: (runLoads fuel cfg (loadS fuel cfg s n).2 ns).1 := rfl

theorem loadEntry_file {l : Lid} (hl : l ≠ .d) (n : Nat) (cfg : Cfg) (name : Name) :
    loadEntry (n+1) cfg l name = fbLoadEntry n cfg l name :=
  loadEntry_cases (· = _) (fun h => absurd h hl) (fun _ => rfl)

theorem loadEntry_d (n : Nat) (cfg : Cfg) (name : Name) : loadEntry (n+1) cfg .d name = dLoadEntry n cfg name :=
  loadEntry_cases (· = _) (fun _ => rfl) (fun h => absurd rfl h)

/-! ## a file loader from its parent -/

/-- `l`'s parent is the system loader -/
def TopLevel (cfg : Cfg) (l : Lid) : Prop := l = .g ∨ (∃ mod, l = .m mod) ∧ cfg.flat = true

section
variable {cfg : Cfg} {l : Lid} {name : Name} {n : Nat} {s s' : St}

theorem TopLevel.ne_d (hl : TopLevel cfg l) : l ≠ .d := by
  rcases hl with hl | ⟨⟨mod, hl⟩, _⟩ <;> subst hl <;> nofun

/-- The parent chain of the file loader `l` holds no definition for `name` and leaves `σ`: there `l`'s own part (`fbOwn`:
    cache, `find`, placeholder) runs, given fuel `c` for the parents.  A top-level loader is there at once (`Below.top`); a
    module's loader below the global loader is there when that one answers a placeholder (`Below.child`) — because it holds
    one (`Below.child_cached`), has nothing for an unqualified name (`Below.child_absent`) or misses completely
    (`Below.child_miss`, in `FilesDeep`).  Every theorem about a lookup through a file loader starts from one of these.
    What a `Below` gives: the step from what `find` does (`.cached`, `.found`, `.failed`, `.miss`; `.loadS_*` for the whole
    lookup when `l` is the context's loader), and from there the step by what the index holds — no origin for an unqualified
    name (`.absent`), an unqualified foreign name at a module's loader (`.refuse`), a first origin that is no type set
    (`.defective`, `.defined`, `.plain`, `.loadS_plain`, last section), a complete miss (`.quiet_miss`, in `FilesDeep`). -/
structure Below (cfg : Cfg) (l : Lid) (name : Name) (s σ : St) (c : Nat) : Prop where
  file : l ≠ .d
  run : ∀ n, c ≤ n → fbLoadEntry (n+1) cfg l name s = fbOwn n cfg l name (σ.get l (keyOf name)) σ
  own : ∀ k, σ.get l k = s.get l k
  reads : σ.reads = s.reads

theorem Below.top (hl : TopLevel cfg l) (hsys : sysLoad name = none) : Below cfg l name s s 0 := by
  refine ⟨hl.ne_d, fun n _ => ?_, fun _ => rfl, rfl⟩
  rw [fbLoadEntry_succ]
  rcases hl with hl | ⟨⟨mod, hl⟩, hf⟩ <;> subst hl
  · simp only [fbParent, hsys, bind, pure, ownEntry, getSt]
  · simp only [fbParent, hf, if_true, hsys, bind, pure, ownEntry, getSt]

theorem Below.child {σ : St} {c : Nat} {mod : String} (hflat : cfg.flat = false)
    (hg : ∀ f, fbLoadEntry (f + c) cfg .g name s = .ok (some none) σ) (hσ : ∀ k, σ.get (.m mod) k = s.get (.m mod) k)
    (hr : σ.reads = s.reads) : Below cfg (.m mod) name s σ c :=
  ⟨nofun, fun n hn => by
    obtain ⟨f, rfl⟩ : ∃ f, n = f + c := ⟨n - c, by omega⟩
    simp only [fbLoadEntry_succ, fbParent, hflat, Bool.false_eq_true, if_false, bind, hg f, ownEntry, getSt], hσ, hr⟩

section
variable {σ : St} {c : Nat} (h : Below cfg l name s σ c)
include h

theorem Below.via (hv : cfg.via = l) (n : Nat) : loadEntry (n+1) cfg cfg.via name = fbLoadEntry n cfg l name := by
  rw [hv, loadEntry_file h.file]

theorem Below.cached (hn : c ≤ n) {e : Entry} (hget : s.get l (keyOf name) = some e) :
    fbLoadEntry (n+1) cfg l name s = .ok (some e) σ := by
  simp only [h.run n hn, fbOwn, bind, (h.own _).trans hget, pure]

theorem Below.found (hn : c ≤ n) (hget : s.get l (keyOf name) = none) {e : Entry}
    (hf : find n cfg l name σ = .ok (some e) s') : fbLoadEntry (n+1) cfg l name s = .ok (some e) s' := by
  simp only [h.run n hn, fbOwn, bind, (h.own _).trans hget, hf, pure]

theorem Below.failed (hn : c ≤ n) (hget : s.get l (keyOf name) = none) {e : Err}
    (hf : find n cfg l name σ = .fail e s') : fbLoadEntry (n+1) cfg l name s = .fail e s' := by
  simp only [h.run n hn, fbOwn, bind, (h.own _).trans hget, hf]

theorem Below.miss (hn : c ≤ n) (hget : s.get l (keyOf name) = none) (hf : find n cfg l name σ = .ok none s')
    (h' : s'.get l (keyOf name) = none) :
    fbLoadEntry (n+1) cfg l name s = .ok (some none) (s'.put l (keyOf name) none) := by
  simp only [h.run n hn, fbOwn, bind, (h.own _).trans hget, hf, setEntry_over _ _ _ _ (by rw [h']; nofun), pure]

theorem Below.loadS_cached (hv : cfg.via = l) (hn : c ≤ n) {d : Def} (hget : s.get l (keyOf name) = some (some d)) :
    loadS (n+2) cfg s name = (.found d, σ) :=
  Pcore.Files.loadS_found (by rw [h.via hv]; exact h.cached hn hget)

theorem Below.loadS_found (hv : cfg.via = l) (hn : c ≤ n) (hget : s.get l (keyOf name) = none) {d : Def}
    (hf : find n cfg l name σ = .ok (some (some d)) s') : loadS (n+2) cfg s name = (.found d, s') :=
  Pcore.Files.loadS_found (by rw [h.via hv]; exact h.found hn hget hf)

theorem Below.loadS_failed (hv : cfg.via = l) (hn : c ≤ n) (hget : s.get l (keyOf name) = none) {e : Err}
    (hf : find n cfg l name σ = .fail e s') : loadS (n+2) cfg s name = (.failed e, s') :=
  Pcore.Files.loadS_failed (by rw [h.via hv]; exact h.failed hn hget hf)

theorem Below.loadS_miss (hv : cfg.via = l) (hn : c ≤ n) (hget : s.get l (keyOf name) = none)
    (hf : find n cfg l name σ = .ok none s') (h' : s'.get l (keyOf name) = none) :
    loadS (n+2) cfg s name = (.notfound, s'.put l (keyOf name) none) :=
  loadS_notfound (by rw [h.via hv]; exact h.miss hn hget hf h')

end

theorem Below.child_cached {mod : String} (hflat : cfg.flat = false) (hsys : sysLoad name = none)
    (hg : s.get .g (keyOf name) = some none) : Below cfg (.m mod) name s s 1 :=
  .child hflat (fun f => (Below.top (Or.inl rfl) hsys).cached (Nat.zero_le f) hg) (fun _ => rfl) rfl

/-! ## the dependency loader from the module loader -/

theorem dFind_routed {mod : String} (hmods : cfg.mods.contains mod = true)
    (hqual : qualified name = true) (hparts : ∃ ps, partsOf name = some ps ∧ ps.head? = some mod) (n : Nat) :
    dFind (n+1) cfg name = fbLoadEntry n cfg (.m mod) name := by
  obtain ⟨ps, hp, hh⟩ := hparts
  have hmem : mod ∈ cfg.mods := by simpa using hmods
  refine dFind_cases (· = _) (fun _ hn => by rw [hp] at hn; cases hn) ?_ ?_
  · rintro h _ _ ⟨ps', hp', hh'⟩
    rw [hp] at hp'; cases hp'
    rw [hh] at hh'; cases hh'; rfl
  · intro hm
    rcases hm hqual with hm | ⟨ps', hp', hno⟩
    · rw [hm] at hmem; cases hmem
    · rw [hp] at hp'; cases hp'
      exact absurd hmem (hno mod hh)

theorem dLoadEntry_cached {d : Def} (h : s.get .d (keyOf name) = some (some d)) (n : Nat) :
    dLoadEntry (n+1) cfg name s = .ok (some (some d)) s := by
  simp only [dLoadEntry_succ, bind, getSt, h, pure]

theorem dLoadEntry_uncached (hd : ∀ d, s.get .d (keyOf name) ≠ some (some d)) (n : Nat) :
    dLoadEntry (n+1) cfg name s = dRetry n cfg name (s.get .d (keyOf name)) s := by
  rw [dLoadEntry_succ]
  show (match s.get .d (keyOf name) with
    | some (some d) => pure (some (some d))
    | own => dRetry n cfg name own) s = _
  cases h : s.get .d (keyOf name) with
  | none => rfl
  | some o =>
    cases o with
    | none => rfl
    | some d => exact absurd h (hd d)

theorem dLoadEntry_retry {r : Option Entry} (hd : ∀ d, s.get .d (keyOf name) ≠ some (some d))
    (hf : dFind n cfg name s = .ok r s') :
    dLoadEntry (n+1) cfg name s = dStore name (s.get .d (keyOf name)) r (s'.get .d (keyOf name)) s' := by
  simp only [dLoadEntry_uncached hd, dRetry, bind, getSt, hf]

theorem dLoadEntry_failed {e : Err}
    (hd : ∀ d, s.get .d (keyOf name) ≠ some (some d)) (hf : dFind n cfg name s = .fail e s') :
    dLoadEntry (n+1) cfg name s = .fail e s' := by
  simp only [dLoadEntry_uncached hd, dRetry, bind, hf]

end

/-- `find` has answered a placeholder (or the own cache): a definition that landed in the dependency loader's cache while it
    ran is what `SetEntry` answers (fix 80f753b of /repo), otherwise the miss is recorded -/
theorem dLoadEntry_fresh {r : Option Entry} (hd : s.get .d (keyOf name) = none) (hf : dFind n cfg name s = .ok r s')
    (hr : r = some none ∨ r = s'.get .d (keyOf name)) :
    dLoadEntry (n+1) cfg name s =
      match s'.get .d (keyOf name) with
      | some (some d) => .ok (some (some d)) s'
      | _ => .ok (some none) (s'.put .d (keyOf name) none) := by
  rw [dLoadEntry_retry (by rw [hd]; nofun) hf, hd]
  rcases hr with rfl | rfl
  · cases h : s'.get .d (keyOf name) with
    | none => simp only [dStore, bind, setEntry, h, pure]
    | some o => cases o <;> simp only [dStore, bind, setEntry, h, pure]
  · cases h : s'.get .d (keyOf name) with
    | none => simp only [dStore, bind, setEntry, h, pure]
    | some o => cases o <;> simp [dStore, bind, setEntry, h, pure]

theorem dFind_unqualified (n : Nat) (cfg : Cfg) (name : Name) (hq : qualified name = false) :
    dFind (n+1) cfg name = dMembers n cfg name :=
  dFind_cases (· = _) (fun h => by rw [hq] at h; cases h) (fun _ _ h => by rw [hq] at h; cases h) (fun _ => rfl)

theorem dMembers_flat (hflat : cfg.flat = true) (hg : fbLoadEntry n cfg .g name s = .ok (some none) s') :
    dMembers (n+1) cfg name s = dLoop n cfg cfg.mods name s' := by
  simp only [dMembers_succ, hflat, if_true, firstDef, bind, hg]

theorem dMembers_flat_failed (hflat : cfg.flat = true) {e : Err}
    (hg : fbLoadEntry n cfg .g name s = .fail e s') : dMembers (n+1) cfg name s = .fail e s' := by
  simp only [dMembers_succ, hflat, if_true, firstDef, bind, hg]

theorem dMembers_default (hflat : cfg.flat = false) (name : Name) (n : Nat) :
    dMembers (n+1) cfg name = dLoop n cfg cfg.mods name := by
  simp only [dMembers_succ, hflat, Bool.false_eq_true, if_false]

theorem dLoop_pass {m : String} {rest : List String} (h : fbLoadEntry n cfg (.m m) name s = .ok (some none) s') :
    dLoop (n+1) cfg (m :: rest) name s = dLoop n cfg rest name s' := by
  simp only [dLoop_cons, firstDef, bind, h]

/-! ## `find` from the index -/

theorem find_routed {cfg : Cfg} {l : Lid} {name : Name} (h : Routed l name) (n : Nat) :
    find (n+1) cfg l name = findTail n cfg l name := by
  have hinit : isGlobalMod l.moduleName = false → partsOf name = some [l.moduleName] → False := fun hg hp => by
    have := h.qualified hg
    rw [qualified, ← keyOf_length, ← partsOf_eq hp] at this
    cases this
  refine find_cases (· = findTail n cfg l name) ?_ ?_ (fun _ => rfl) (fun _ _ _ _ hg hp _ => (hinit hg hp).elim)
    (fun _ _ _ _ hg hp _ => (hinit hg hp).elim)
  · rintro ⟨ps, hp, ⟨hq, hm, hh⟩ | ⟨hq, hg, _⟩⟩
    · rcases h with ⟨_, hm' | ⟨ps', hp', hh'⟩⟩ | ⟨hq', _⟩
      · exact absurd hm' hm
      · rw [hp] at hp'; cases hp'; exact absurd hh' hh
      · rw [hq] at hq'; cases hq'
    · rcases h with ⟨hq', _⟩ | ⟨_, hg'⟩
      · rw [hq] at hq'; cases hq'
      · rw [hg] at hg'; cases hg'
  · intro hm hc hp
    rcases h with ⟨_, hm' | ⟨ps', hp', _⟩⟩ | ⟨hq, hg⟩
    · exact absurd hm' hm
    · rw [hp] at hp'; cases hp'
    · rcases hc with hc | hc
      · rw [hq] at hc; cases hc
      · rw [hg] at hc; cases hc

theorem find_origin {cfg : Cfg} {l : Lid} {name : Name} {p : Path} {ps : List Path} (hroute : Routed l name)
    (hi : idx cfg l (keyOf name) = p :: ps) (n : Nat) : find (n+2) cfg l name = instantiate n cfg l name (p :: ps) := by
  rw [find_routed hroute, findTail_cons hi]

theorem find_no_origin {cfg : Cfg} {l : Lid} {name : Name} (hroute : Routed l name) (hi : idx cfg l (keyOf name) = [])
    (hqual : qualified name = true) (n : Nat) :
    find (n+2) cfg l name = parentSearch n cfg l name name.dropLast := by
  rw [find_routed hroute, findTail_nil hi, if_pos hqual]

theorem Below.absent {cfg : Cfg} {l : Lid} {name : Name} {s σ : St} {c n : Nat} (h : Below cfg l name s σ c) (hn : c ≤ n + 2)
    (hroute : Routed l name) (hq : qualified name = false) (hi : idx cfg l (keyOf name) = [])
    (hget : s.get l (keyOf name) = none) :
    fbLoadEntry (n+3) cfg l name s = .ok (some none) (σ.put l (keyOf name) none) :=
  h.miss hn hget (by rw [find_routed hroute, findTail_nil hi, hq]; rfl) ((h.own _).trans hget)

theorem Below.child_absent {cfg : Cfg} {mod : String} {name : Name} {s : St} (hflat : cfg.flat = false)
    (hsys : sysLoad name = none) (hq : qualified name = false) (hig : idx cfg .g (keyOf name) = [])
    (hgetg : s.get .g (keyOf name) = none) : Below cfg (.m mod) name s (s.put .g (keyOf name) none) 3 :=
  .child hflat (fun _ => (Below.top (Or.inl rfl) hsys).absent (Nat.zero_le _) (routed_g _) hq hig hgetg)
    (get_put_lid (by nofun) _ _ _) rfl

theorem find_init {cfg : Cfg} {mod a : String} (hguard : cfg.guardInit = true) (hm : isGlobalMod mod = false)
    (hparts : partsOf [a] = some [mod]) {o : Path} {os : List Path} (hi : idx cfg (.m mod) ["init_typeset"] = o :: os)
    (n : Nat) : find (n+1) cfg (.m mod) [a] = instantiate n cfg (.m mod) [a] (o :: os) >>= expectTypeset o := by
  refine find_cases (· = _) ?_ (fun _ _ hp => by rw [hparts] at hp; cases hp) ?_ ?_ (fun _ _ h => by rw [hguard] at h; cases h)
  · rintro ⟨ps, hp, ⟨hq, _⟩ | ⟨_, _, hh | hn⟩⟩
    · cases hq
    · rw [hparts] at hp; cases hp; exact absurd rfl hh
    · rw [hi] at hn; cases hn
  · intro hr
    cases hr.qualified hm
  · intro o' os' _ _ _ _ hi'
    rw [hi] at hi'; cases hi'
    rfl

theorem find_unqualified_none {cfg : Cfg} {m a x : String} (hm : isGlobalMod m = false) (hparts : partsOf [a] = some [x])
    (hinit : m = x → idx cfg (.m m) ["init_typeset"] = []) (n : Nat) (s : St) :
    find (n+1) cfg (.m m) [a] s = .ok none s := by
  have hno : ∀ o os, partsOf [a] = some [m] → idx cfg (.m m) ["init_typeset"] ≠ o :: os := fun o os hp hi => by
    rw [hparts] at hp
    cases hp
    rw [hinit rfl] at hi; cases hi
  refine find_cases (· s = .ok none s) (fun _ => rfl) (fun _ _ hp => by rw [hparts] at hp; cases hp) ?_
    (fun o os _ _ _ hp hi => absurd hi (hno o os hp)) (fun o os _ _ _ hp hi => absurd hi (hno o os hp))
  intro hr
  cases hr.qualified hm

/-! ## a module's loader is offered an unqualified name that is not its own -/

/-- placeholders for `key` in the loaders of the modules `ms` -/
def skipMods (key : Key) : List String → St → St
  | [], σ => σ
  | m :: ms, σ => skipMods key ms (σ.put (.m m) key none)

theorem skipMods_get_other (key : Key) (l : Lid) (k : Key) : ∀ (ms : List String) (σ : St),
    (∀ m ∈ ms, (l, k) ≠ (Lid.m m, key)) → (skipMods key ms σ).get l k = σ.get l k
  | [], _, _ => rfl
  | m :: ms, σ, h => by
    simp only [skipMods]
    rw [skipMods_get_other key l k ms _ (fun x hx => h x (List.mem_cons_of_mem _ hx)), get_put,
      if_neg (h m List.mem_cons_self)]

theorem skipMods_reads (key : Key) : ∀ (ms : List String) (σ : St), (skipMods key ms σ).reads = σ.reads
  | [], _ => rfl
  | m :: ms, σ => by simp only [skipMods]; rw [skipMods_reads key ms]; rfl

section
variable {cfg : Cfg} {a x : String}

/-- it refuses the name (`find_unqualified_none`) and keeps a placeholder — the one it holds, or a new one -/
theorem Below.refuse {m : String} {s σ : St} {c n : Nat} (h : Below cfg (.m m) [a] s σ c) (hn : c ≤ n + 1)
    (hm : isGlobalMod m = false) (hparts : partsOf [a] = some [x])
    (hinit : m = x → idx cfg (.m m) ["init_typeset"] = [])
    (hget : ∀ d, s.get (.m m) (keyOf [a]) ≠ some (some d)) :
    fbLoadEntry (n+2) cfg (.m m) [a] s = .ok (some none) (σ.put (.m m) (keyOf [a]) none) := by
  cases hs : s.get (.m m) (keyOf [a]) with
  | none => exact h.miss hn hs (find_unqualified_none hm hparts hinit n σ) ((h.own _).trans hs)
  | some e =>
    cases e with
    | some d => exact absurd hs (hget d)
    | none => rw [put_same σ _ _ none ((h.own _).trans hs)]; exact h.cached hn hs

/-- the loop of the dependency loader over such modules: a placeholder each (`skipMods`), nothing read.  `G` is what makes every
    one of them `Below` its parent without a change of state (nothing in the flat topology; the global loader's placeholder
    otherwise) -/
theorem dLoop_refuse {c : Nat} (G : St → Prop) (hparts : partsOf [a] = some [x])
    (hG : ∀ σ m, G σ → G (σ.put (.m m) (keyOf [a]) none)) (hbelow : ∀ m σ, G σ → Below cfg (.m m) [a] σ σ c) :
    ∀ (ms rest : List String) (σ : St) (f : Nat), ms.length + c + 2 ≤ f → G σ →
      (∀ m ∈ ms, isGlobalMod m = false ∧ (m = x → idx cfg (.m m) ["init_typeset"] = [])) →
      (∀ m ∈ ms, ∀ d, σ.get (.m m) (keyOf [a]) ≠ some (some d)) →
      dLoop f cfg (ms ++ rest) [a] σ = dLoop (f - ms.length) cfg rest [a] (skipMods (keyOf [a]) ms σ) := by
  intro ms rest
  induction ms with
  | nil => intro σ f _ _ _ _; rfl
  | cons m ms ih =>
    intro σ f hf hg hms hfresh
    simp only [List.length_cons] at hf
    obtain ⟨n, rfl⟩ : ∃ n, f = n + 3 := ⟨f - 3, by omega⟩
    have hm := hms m List.mem_cons_self
    rw [List.cons_append, dLoop_pass ((hbelow m σ hg).refuse (n := n) (by omega) hm.1 hparts hm.2 (hfresh m List.mem_cons_self)), skipMods,
      ih _ (n+2) (by omega) (hG σ m hg) (fun m' hm' => hms m' (List.mem_cons_of_mem _ hm'))
        (fun m' hm' d => by
          rw [get_put]
          split
          · nofun
          · exact hfresh m' (List.mem_cons_of_mem _ hm') d),
      show n + 2 - ms.length = n + 3 - (m :: ms).length by simp only [List.length_cons]; omega]

end

/-! ## what the first origin of a name yields -/

theorem bodyAt_of_idx {cfg : Cfg} {l : Lid} {k : Key} {p : Path} {ps : List Path} (hi : idx cfg l k = p :: ps) :
    ∃ b, bodyAt cfg.tree p = some b := by
  obtain ⟨⟨b, hb⟩, _⟩ := mem_idx_iff.mp (show p ∈ idx cfg l k by rw [hi]; exact List.mem_cons_self ..)
  exact bodyAt_of_mem hb

theorem defective_or_definedBy (b : Body) (name : Name) : Defective b name ∨ ∃ d, definedBy b name = some d := by
  cases h : definedBy b name with
  | none => exact Or.inl (defective_iff.mpr h)
  | some d => exact Or.inr ⟨d, rfl⟩

theorem definedBy_key {b : Body} {name : Name} {d : Def} (h : definedBy b name = some d) : keyOf d.name = keyOf name := by
  rcases definedBy_eq_some.mp h with ⟨_, _, hk⟩ | ⟨_, rfl⟩
  · exact hk
  · rfl

theorem definedBy_not_typeset {t : Tree} {p : Path} {b : Body} {name : Name} {d : Def} (hb : bodyAt t p = some b)
    (hnt : ∀ nm ts, bodyAt t p ≠ some (.typ .typeset nm ts)) (hd : definedBy b name = some d) : d.kind ≠ .typeset := by
  intro hk
  rcases definedBy_eq_some.mp hd with ⟨ts, rfl, _⟩ | ⟨_, rfl⟩
  · exact hnt d.name ts (hk ▸ hb)
  · cases hk

/-- what the first origin of a key in loader `l` yields; spelt out independently of `definedBy` / `defectErr`, with which it
    agrees (`plainOutcomeAt_defined`, `plainOutcomeAt_defective`) -/
def plainOutcomeAt (cfg : Cfg) (l : Lid) (name : Name) : Outcome :=
  match idx cfg l (keyOf name) with
  | [] => .notfound
  | p :: _ =>
    match bodyAt cfg.tree p with
    | some (.typ k nm _) =>
      if keyOf nm ≠ keyOf name then .failed (.reported "PCORE_WRONG_DEFINITION" (some p) 0) else .found ⟨k, nm⟩
    | some .bare => .found ⟨.alias, name⟩
    | some (.malformed ln) => .failed (.reported "PARSE_ERROR" (some p) ln)
    | some .nodef => .failed (.reported "PCORE_NO_DEFINITION" (some p) 0)
    | some .unreadable => .failed (.reported "PCORE_UNABLE_TO_READ_FILE" (some p) 0)
    | none => .failed (.reported "PCORE_UNABLE_TO_READ_FILE" (some p) 0)

theorem plainOutcomeAt_defective {cfg : Cfg} {l : Lid} {name : Name} {p : Path} {ps : List Path} {b : Body}
    (hi : idx cfg l (keyOf name) = p :: ps) (hb : bodyAt cfg.tree p = some b) (hd : Defective b name) :
    plainOutcomeAt cfg l name = .failed (defectErr p b) := by
  simp only [plainOutcomeAt, hi, hb]
  cases b with
  | typ k nm ts => exact if_pos hd
  | bare => exact hd.elim
  | malformed ln => rfl
  | nodef => rfl
  | unreadable => rfl

theorem plainOutcomeAt_defined {cfg : Cfg} {l : Lid} {name : Name} {p : Path} {ps : List Path} {b : Body} {d : Def}
    (hi : idx cfg l (keyOf name) = p :: ps) (hb : bodyAt cfg.tree p = some b) (hd : definedBy b name = some d) :
    plainOutcomeAt cfg l name = .found d := by
  simp only [plainOutcomeAt, hi, hb]
  rcases definedBy_eq_some.mp hd with ⟨ts, rfl, hk⟩ | ⟨rfl, rfl⟩
  · exact if_neg (not_not_intro hk)
  · rfl

theorem plainOutcomeAt_notfound (cfg : Cfg) (l : Lid) (name : Name) :
    plainOutcomeAt cfg l name = .notfound ↔ idx cfg l (keyOf name) = [] := by
  cases hi : idx cfg l (keyOf name) with
  | nil => simp [plainOutcomeAt, hi]
  | cons p ps =>
    obtain ⟨b, hb⟩ := bodyAt_of_idx hi
    rcases defective_or_definedBy b name with hd | ⟨d, hd⟩
    · simp [plainOutcomeAt_defective hi hb hd]
    · simp [plainOutcomeAt_defined hi hb hd]

theorem plainOutcomeAt_found (cfg : Cfg) (l : Lid) (name : Name) :
    (∃ d, plainOutcomeAt cfg l name = .found d) ↔
      ∃ p ps, idx cfg l (keyOf name) = p :: ps ∧
        ((∃ k nm ts, bodyAt cfg.tree p = some (.typ k nm ts) ∧ keyOf nm = keyOf name) ∨ bodyAt cfg.tree p = some .bare) := by
  cases hi : idx cfg l (keyOf name) with
  | nil => rw [(plainOutcomeAt_notfound cfg l name).mpr hi]; exact ⟨nofun, nofun⟩
  | cons p ps =>
    obtain ⟨b, hb⟩ := bodyAt_of_idx hi
    -- the right side says `definedBy b name` is some definition
    have hr : ((∃ k nm ts, bodyAt cfg.tree p = some (.typ k nm ts) ∧ keyOf nm = keyOf name) ∨ bodyAt cfg.tree p = some .bare) ↔
        ∃ d, definedBy b name = some d := by
      rw [hb]
      constructor
      · rintro (⟨k, nm, ts, h, hk⟩ | h) <;> cases h
        · exact ⟨⟨k, nm⟩, definedBy_eq_some.mpr (Or.inl ⟨ts, rfl, hk⟩)⟩
        · exact ⟨⟨.alias, name⟩, rfl⟩
      · rintro ⟨d, hd⟩
        rcases definedBy_eq_some.mp hd with ⟨ts, rfl, hk⟩ | ⟨rfl, _⟩
        · exact Or.inl ⟨_, _, ts, rfl, hk⟩
        · exact Or.inr rfl
    rcases defective_or_definedBy b name with hd | ⟨d, hd⟩
    · rw [plainOutcomeAt_defective hi hb hd]
      exact ⟨nofun, fun ⟨p', ps', h', hb'⟩ => by
        cases h'; obtain ⟨d, hd'⟩ := hr.mp hb'; rw [defective_iff.mp hd] at hd'; cases hd'⟩
    · rw [plainOutcomeAt_defined hi hb hd]
      exact ⟨fun _ => ⟨p, ps, rfl, hr.mpr ⟨d, hd⟩⟩, fun _ => ⟨d, rfl⟩⟩

/-! ## `instantiate` from what the first origin holds -/

theorem instantiate_reads {cfg : Cfg} {l : Lid} {name : Name} {p : Path} {ps : List Path} {s : St} {b : Body}
    (hget : s.get l (keyOf name) = none) (hb : bodyAt cfg.tree p = some b) (n : Nat) :
    instantiate (n+2) cfg l name (p :: ps) s =
      (instBody n cfg name p (some b) >>= fun _ => getSt >>= fun st => pure (st.get l (keyOf name)))
        ((s.put l (keyOf name) none).addRead p) := by
  rw [instantiate_fresh hget, instantiator_cons, hb]
  rfl

/-- the instantiator of a defective file changes nothing but the read log: no loader gets a binding — in particular not
    for the name a misnamed file declares -/
theorem instantiate_defective (cfg : Cfg) (n : Nat) (l : Lid) (name : Name) (p : Path) (ps : List Path) (s : St) (b : Body)
    (hb : bodyAt cfg.tree p = some b) (hd : Defective b name) (hget : s.get l (keyOf name) = none) :
    instantiate (n+2) cfg l name (p :: ps) s = .fail (defectErr p b) ((s.put l (keyOf name) none).addRead p) := by
  rw [instantiate_reads hget hb, instBody_defective hd]
  rfl

theorem instantiate_defined {cfg : Cfg} {l : Lid} {name : Name} {p : Path} {ps : List Path} {s σ : St} {b : Body} {d : Def}
    (hget : s.get l (keyOf name) = none) (hb : bodyAt cfg.tree p = some b) (hd : definedBy b name = some d) {n : Nat}
    (hadd : addTypes n cfg d b.members ((s.put l (keyOf name) none).addRead p) = .ok () σ) :
    instantiate (n+2) cfg l name (p :: ps) s = .ok (σ.get l (keyOf name)) σ := by
  rw [instantiate_reads hget hb, instBody_defined hd, bind_ok hadd]
  rfl

/-- the definition lands in the context's defining loader `cfg.via`, not in the file loader `l` that read the file -/
theorem instantiate_plain (cfg : Cfg) (n : Nat) (l : Lid) (name : Name) (p : Path) (ps : List Path) (s : St) (b : Body)
    (d : Def) (hb : bodyAt cfg.tree p = some b) (hd : definedBy b name = some d) (hk : d.kind ≠ .typeset)
    (hget : s.get l (keyOf name) = none) (hvia : ∀ d', s.get cfg.via (keyOf name) ≠ some (some d')) :
    instantiate (n+3) cfg l name (p :: ps) s =
      .ok ((((s.put l (keyOf name) none).addRead p).put cfg.via (keyOf name) (some d)).get l (keyOf name))
        (((s.put l (keyOf name) none).addRead p).put cfg.via (keyOf name) (some d)) := by
  have hvia' : ∀ d', ((s.put l (keyOf name) none).addRead p).get cfg.via (keyOf name) ≠ some (some d') := by
    intro d'
    rw [get_addRead, get_put]
    split
    · intro h; cases h
    · exact hvia d'
  refine instantiate_defined hget hb hd ?_
  rw [addTypes_succ, if_neg hk, definedBy_key hd]
  simp only [bind, pure, setEntry_over _ _ _ _ hvia']

theorem instantiate_typeset_of (cfg : Cfg) (l : Lid) (name nm : Name) (ts : List String) (p : Path) (ps : List Path)
    (s σ : St) (n : Nat) (hb : bodyAt cfg.tree p = some (.typ .typeset nm ts)) (hkey : keyOf nm = keyOf name)
    (hget : s.get l (keyOf name) = none)
    (hres : resolveTS n cfg nm ts 0 ((s.put l (keyOf name) none).addRead p) = .ok () σ)
    (hvia : ∀ d, σ.get cfg.via (keyOf name) ≠ some (some d)) :
    instantiate (n+3) cfg l name (p :: ps) s =
      .ok ((σ.put cfg.via (keyOf name) (some ⟨.typeset, nm⟩)).get l (keyOf name))
        (σ.put cfg.via (keyOf name) (some ⟨.typeset, nm⟩)) := by
  refine instantiate_defined hget hb (d := ⟨.typeset, nm⟩) (if_pos hkey) ?_
  rw [addTypes_succ, if_pos rfl, hkey]
  simp only [Body.members, bind, pure, hres, setEntry_over _ _ _ _ hvia]

/-! ## a file loader whose first origin for the name is no type set -/

section
variable {cfg : Cfg} {l : Lid} {name : Name} {s : St} {p : Path} {ps : List Path}

section
variable {σ : St} {c n : Nat} (h : Below cfg l name s σ c)
include h

theorem Below.defective {b : Body} (hn : c ≤ n + 4) (hroute : Routed l name) (hget : s.get l (keyOf name) = none)
    (hi : idx cfg l (keyOf name) = p :: ps) (hb : bodyAt cfg.tree p = some b) (hd : Defective b name) :
    fbLoadEntry (n+5) cfg l name s = .fail (defectErr p b) ((σ.put l (keyOf name) none).addRead p) :=
  h.failed hn hget (by
    rw [find_origin hroute hi, instantiate_defective cfg n l name p ps σ b hb hd ((h.own _).trans hget)])

theorem Below.defined {b : Body} {d : Def} (hn : c ≤ n + 5) (hroute : Routed l name) (hget : s.get l (keyOf name) = none)
    (hi : idx cfg l (keyOf name) = p :: ps) (hb : bodyAt cfg.tree p = some b) (hd : definedBy b name = some d)
    (hk : d.kind ≠ .typeset) (hvia : ∀ d', σ.get cfg.via (keyOf name) ≠ some (some d')) :
    fbLoadEntry (n+6) cfg l name s =
      .ok (some (if l = cfg.via then some d else none))
        (((σ.put l (keyOf name) none).addRead p).put cfg.via (keyOf name) (some d)) := by
  refine h.found hn hget ?_
  rw [find_origin hroute hi, instantiate_plain cfg n l name p ps σ b d hb hd hk ((h.own _).trans hget) hvia, get_put]
  by_cases hl : l = cfg.via
  · rw [if_pos hl, if_pos (by rw [hl])]
  · rw [if_neg hl, if_neg (by intro h; exact hl (Prod.mk.inj h).1), get_addRead, get_put_self]

end

/-- `r` is what a file loader `l` whose first origin `p` for `name` is no type set answers when its own part starts in `σ`: `p`
    is the only file read and only the entries of `name` in `l` and in the context's defining loader change; the failure
    `plainOutcomeAt` names, or a success after which the context's defining loader holds the definition it names — the file
    loader answers that definition only when it is that loader, otherwise its own placeholder -/
def PlainAnswer (cfg : Cfg) (l : Lid) (name : Name) (p : Path) (σ : St) (r : R (Option Entry)) : Prop :=
  ∃ σ', σ'.reads = σ.reads ++ [p] ∧
    (∀ l' k', (l', k') ≠ (l, keyOf name) → (l', k') ≠ (cfg.via, keyOf name) → σ'.get l' k' = σ.get l' k') ∧
    ((∃ e, plainOutcomeAt cfg l name = .failed e ∧ r = .fail e σ') ∨
     (∃ d, plainOutcomeAt cfg l name = .found d ∧ σ'.get cfg.via (keyOf name) = some (some d) ∧
        r = .ok (some (if l = cfg.via then some d else none)) σ'))

theorem Below.plain {σ : St} {c n : Nat} (h : Below cfg l name s σ c) (hn : c ≤ n + 5) (hroute : Routed l name)
    (hget : s.get l (keyOf name) = none) (hi : idx cfg l (keyOf name) = p :: ps)
    (hnt : ∀ nm ts, bodyAt cfg.tree p ≠ some (.typ .typeset nm ts))
    (hvia : ∀ d', σ.get cfg.via (keyOf name) ≠ some (some d')) :
    PlainAnswer cfg l name p σ (fbLoadEntry (n+6) cfg l name s) := by
  obtain ⟨b, hb⟩ := bodyAt_of_idx hi
  rcases defective_or_definedBy b name with hd | ⟨d, hd⟩
  · exact ⟨_, rfl, fun l' k' h1 _ => by rw [get_addRead, get_put, if_neg h1],
      Or.inl ⟨_, plainOutcomeAt_defective hi hb hd, h.defective (n := n+1) hn hroute hget hi hb hd⟩⟩
  · exact ⟨_, rfl, fun l' k' h1 h2 => by rw [get_put, if_neg h2, get_addRead, get_put, if_neg h1],
      Or.inr ⟨d, plainOutcomeAt_defined hi hb hd, get_put_self ..,
        h.defined hn hroute hget hi hb hd (definedBy_not_typeset hb hnt hd) hvia⟩⟩

theorem Below.loadS_plain {σ : St} {c n : Nat} (h : Below cfg l name s σ c) (hv : cfg.via = l) (hn : c ≤ n + 5)
    (hroute : Routed l name) (hget : s.get l (keyOf name) = none) (hi : idx cfg l (keyOf name) = p :: ps)
    (hnt : ∀ nm ts, bodyAt cfg.tree p ≠ some (.typ .typeset nm ts)) :
    (loadS (n+7) cfg s name).1 = plainOutcomeAt cfg l name ∧ (loadS (n+7) cfg s name).2.reads = s.reads ++ [p] := by
  obtain ⟨σ', hr, _, ⟨e, ho, hle⟩ | ⟨d, ho, _, hle⟩⟩ := h.plain hn hroute hget hi hnt
    (fun d' => by rw [hv, h.own, hget]; nofun)
  · rw [Pcore.Files.loadS_failed (by rw [h.via hv]; exact hle), ho]; exact ⟨rfl, h.reads ▸ hr⟩
  · rw [if_pos hv.symm] at hle
    rw [Pcore.Files.loadS_found (by rw [h.via hv]; exact hle), ho]; exact ⟨rfl, h.reads ▸ hr⟩

end

end Pcore.Files

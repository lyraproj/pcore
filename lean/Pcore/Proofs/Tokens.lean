import Pcore.Proofs.Quote
/-!
Layer 2 of C05 (tokens): what the printer writes for one token, followed by a continuation that starts with one of
the characters the printer puts after a value (`,` `]` `}` `)` blank) or by the end of the text, the lexer reads back as
that token and leaves exactly the continuation.  In order: blanks and punctuation; the dispatch on a first digit or letter
(`nextToken_plain`); identifiers (`nextToken_word`); integers (`nextToken_int`); floats without an exponent.  Type names,
simple (`nextToken_name`) or qualified, are in `Proofs/QualName.lean`, floats with an exponent in `Proofs/FloatLex.lean`.
-/
namespace Pcore.Syntax

/-- the continuations the printer produces after a value -/
def stopOK : List Sym → Bool
  | [] => true
  | .chr c :: _ => c = ',' || c = ']' || c = '}' || c = ')' || c = ' '
  | .bad :: _ => false

theorem stopOK_cases {k : List Sym} (h : stopOK k = true) :
    k = [] ∨ ∃ c tl, k = .chr c :: tl ∧ (c = ',' ∨ c = ']' ∨ c = '}' ∨ c = ')' ∨ c = ' ') := by
  cases k with
  | nil => exact Or.inl rfl
  | cons s tl =>
    cases s with
    | bad => simp [stopOK] at h
    | chr c =>
      right; refine ⟨c, tl, rfl, ?_⟩
      simp only [stopOK, Bool.or_eq_true, decide_eq_true_eq] at h
      rcases h with (((h | h) | h) | h) | h <;> simp [h]

/-- what the scanners ask about a character before they take it or end their token -/
structure StopChar (c : Char) : Prop where
  rune : (Sym.chr c).rune = some c
  notNul : c ≠ '\x00'
  notDigit : isDigit c = false
  notWord : isWord c = false
  notColon : c ≠ ':'
  notE : ¬(c = 'e' ∨ c = 'E')
  notX : ¬(c = 'x' ∨ c = 'X')
  notDot : c ≠ '.'

theorem stop_char {c : Char} (h : c = ',' ∨ c = ']' ∨ c = '}' ∨ c = ')' ∨ c = ' ') : StopChar c := by
  rcases h with h | h | h | h | h <;> subst h <;> constructor <;> decide

theorem nextToken_blank (il : Char → Bool) (r : List Sym) : nextToken il (.chr ' ' :: r) = nextToken il r := by
  unfold nextToken
  rw [nextTok]
  have h : (Sym.chr ' ').rune = some ' ' := by decide
  rw [h]; simp

theorem nextToken_punct (il : Char → Bool) (c : Char) (kd : TK) (r : List Sym)
    (h : (c, kd) ∈ [('[', TK.lbrack), (']', .rbrack), ('{', .lcurly), ('}', .rcurly), ('(', .lparen), (')', .rparen),
      (',', .comma)]) :
    nextToken il (.chr c :: r) = .tok ⟨kd, [c]⟩ r false := by
  simp only [List.mem_cons, Prod.mk.injEq, List.mem_nil_iff, or_false] at h
  rcases h with ⟨rfl, rfl⟩ | ⟨rfl, rfl⟩ | ⟨rfl, rfl⟩ | ⟨rfl, rfl⟩ | ⟨rfl, rfl⟩ | ⟨rfl, rfl⟩ | ⟨rfl, rfl⟩ <;>
    (rw [nextToken_chr il r (by decide) (by decide) (by decide) (by decide)]; simp [startTok, punctTok, mk])

theorem nextToken_rocket (il : Char → Bool) (r : List Sym) :
    nextToken il (.chr '=' :: .chr '>' :: r) = .tok ⟨.rocket, ['=', '>']⟩ r false := by
  rw [nextToken_chr il _ (by decide) (by decide) (by decide) (by decide)]
  simp [Sym.rune, runeError, startTok, punctTok, eqTok, mk]

/-- the characters `nextTok` and `startTok` test for before they look for a digit or a letter, and U+FFFD -/
def lexSpecials : List Char :=
  [runeError, '\x00', ' ', '\t', '\n', '#', '\'', '"', '/', '{', '}', '[', ']', '(', ')', ',', '.', '=', '-', '+']

theorem alnum_not_special {c : Char} (h : isDigit c = true ∨ isUpper c = true ∨ isLower c = true) :
    ∀ d ∈ lexSpecials, c ≠ d := by
  have tbl : ∀ d ∈ lexSpecials, isDigit d = false ∧ isUpper d = false ∧ isLower d = false := by decide
  intro d hd e
  subst e
  obtain ⟨h1, h2, h3⟩ := tbl c hd
  rcases h with h | h | h <;> simp_all

theorem nextToken_plain (il : Char → Bool) (c : Char) (tl : List Sym) (hs : ∀ d ∈ lexSpecials, c ≠ d) :
    nextToken il (.chr c :: tl) =
      if isDigit c then lexNum il (.intPart (c = '0')) [c] tl
      else if isUpper c then lexIdent true .body [c] tl
      else if isLower c then lexIdent false .body [c] tl else .err tl false := by
  simp only [lexSpecials, List.mem_cons, List.mem_nil_iff, or_false, forall_eq_or_imp, forall_eq] at hs
  rw [nextToken_chr il tl hs.1 hs.2.1 (by simp only [hs, or_self, not_false_eq_true]) hs.2.2.2.2.2.1]
  simp only [startTok, punctTok, hs, or_self, if_false]

/-- a word character is neither `:` nor U+FFFD: the three conditions on the characters of a name are one -/
theorem isWord_ne {c : Char} (h : isWord c = true) : c ≠ ':' ∧ c ≠ runeError := by
  have t : isWord ':' = false ∧ isWord runeError = false := by decide
  constructor <;> (intro e; subst e; simp [t] at h)

theorem letter_not_digit {c : Char} (h : isUpper c = true ∨ isLower c = true) : isDigit c = false := by
  have hn : 65 ≤ c.toNat := by
    simp only [isUpper, isLower, Bool.and_eq_true, decide_eq_true_eq] at h
    rcases h with h | h
    · exact h.1
    · exact Nat.le_trans (by decide) (show 97 ≤ c.toNat from h.1)
  simp only [isDigit, Bool.and_eq_false_imp, decide_eq_true_eq, decide_eq_false_iff_not]
  intro _; show ¬ c.toNat ≤ 57; omega

theorem lower_not_upper {c : Char} (h : isLower c = true) : isUpper c = false := by
  have hn : 97 ≤ c.toNat := by
    simp only [isLower, Bool.and_eq_true, decide_eq_true_eq] at h
    exact h.1
  simp only [isUpper, Bool.and_eq_false_imp, decide_eq_true_eq, decide_eq_false_iff_not]
  intro _; show ¬ c.toNat ≤ 90; omega

theorem nextToken_digit (il : Char → Bool) (c : Char) (tl : List Sym) (hc : isDigit c = true) :
    nextToken il (.chr c :: tl) = lexNum il (.intPart (c = '0')) [c] tl := by
  rw [nextToken_plain il c tl (alnum_not_special (.inl hc)), if_pos hc]

theorem nextToken_upper (il : Char → Bool) (c : Char) (tl : List Sym) (hc : isUpper c = true) :
    nextToken il (.chr c :: tl) = lexIdent true .body [c] tl := by
  rw [nextToken_plain il c tl (alnum_not_special (.inr (.inl hc))), if_neg (by simp [letter_not_digit (.inl hc)]), if_pos hc]

theorem nextToken_lower (il : Char → Bool) (c : Char) (tl : List Sym) (hc : isLower c = true) :
    nextToken il (.chr c :: tl) = lexIdent false .body [c] tl := by
  rw [nextToken_plain il c tl (alnum_not_special (.inr (.inr hc))), if_neg (by simp [letter_not_digit (.inr hc)]),
    if_neg (by simp [lower_not_upper hc]), if_pos hc]

def identStop : List Sym → Prop
  | [] => True
  | s :: _ => ∃ c, s = .chr c ∧ (Sym.chr c).rune = some c ∧ isWord c = false ∧ c ≠ ':'

theorem identStop_of_stopOK {k : List Sym} (h : stopOK k = true) : identStop k := by
  rcases stopOK_cases h with rfl | ⟨c, tl, rfl, hc⟩
  · trivial
  · exact ⟨c, rfl, (stop_char hc).rune, (stop_char hc).notWord, (stop_char hc).notColon⟩

theorem identStop_lbrack (k : List Sym) : identStop (.chr '[' :: k) := ⟨'[', rfl, by decide, by decide, by decide⟩
theorem identStop_lparen (k : List Sym) : identStop (.chr '(' :: k) := ⟨'(', rfl, by decide, by decide, by decide⟩

theorem lexIdent_word_prefix (u : Bool) (w acc : Str) (r : List Sym)
    (hw : ∀ c ∈ w, isWord c = true ∧ c ≠ ':' ∧ c ≠ runeError) :
    lexIdent u .body acc (syms w ++ r) = lexIdent u .body (w.reverse ++ acc) r := by
  induction w generalizing acc with
  | nil => simp
  | cons c cs ih =>
    obtain ⟨h1, h2, h3⟩ := hw c (by simp)
    simp only [syms_cons, List.cons_append]
    rw [lexIdent, rune_chr h3]; simp only [h2, if_false, h1, if_true]
    rw [ih _ (fun d hd => hw d (by simp [hd]))]
    simp

theorem lexIdent_word (u : Bool) (w acc : Str) (k : List Sym) (hw : ∀ c ∈ w, isWord c = true ∧ c ≠ ':' ∧ c ≠ runeError)
    (hk : identStop k) :
    lexIdent u .body acc (syms w ++ k) = .tok ⟨if u then .name else .ident, acc.reverse ++ w⟩ k false := by
  rw [lexIdent_word_prefix u w acc k hw]
  cases k with
  | nil => simp [lexIdent]
  | cons s tl =>
    obtain ⟨c, rfl, hr, hwd, hcol⟩ := hk
    rw [lexIdent, hr]; simp [hcol, hwd]

theorem nextToken_word (il : Char → Bool) (c : Char) (w : Str) (k : List Sym) (hc : isLower c = true)
    (hw : ∀ d ∈ w, isWord d = true ∧ d ≠ ':' ∧ d ≠ runeError) (hk : stopOK k = true) :
    nextToken il (syms (c :: w) ++ k) = .tok ⟨.ident, c :: w⟩ k false := by
  rw [syms_cons, List.cons_append, nextToken_lower il c _ hc]
  simpa using lexIdent_word false w [c] k hw (identStop_of_stopOK hk)

theorem digit_facts (c : Char) (h : isDigit c = true) : (Sym.chr c).rune = some c ∧ c ≠ '\x00' ∧ c ≠ '.' :=
  have hs := alnum_not_special (.inl h)
  ⟨rune_chr (hs _ (by decide)), hs _ (by decide), hs _ (by decide)⟩

theorem lexNum_digits_prefix (il : Char → Bool) (m : NMode) (hm : (∃ fz, m = .intPart fz) ∨ m = .fracPart ∨ m = .expDigits)
    (ds acc : Str) (r : List Sym) (hd : ∀ c ∈ ds, isDigit c = true) :
    lexNum il m acc (syms ds ++ r) = lexNum il m (ds.reverse ++ acc) r := by
  induction ds generalizing acc with
  | nil => rfl
  | cons c cs ih =>
    have hc := hd c (by simp)
    obtain ⟨hr, h0, hdot⟩ := digit_facts c hc
    have step : lexNum il m acc (.chr c :: (syms cs ++ r)) = lexNum il m (c :: acc) (syms cs ++ r) := by
      rcases hm with ⟨fz, rfl⟩ | rfl | rfl <;> simp only [lexNum, hr, h0, hdot, hc, if_false, if_true]
    rw [syms_cons, List.cons_append, step, ih _ fun d hd' => hd d (by simp [hd'])]
    simp

/-- the kind of token a digit-reading mode ends with -/
def NMode.kind : NMode → TK
  | .intPart _ => .int
  | _ => .float

/-- the letter oracle does not take a character that may follow a value for a letter -/
def StopNotLetter (il : Char → Bool) : Prop := il ',' = false ∧ il ']' = false ∧ il '}' = false ∧ il ')' = false ∧ il ' ' = false

theorem StopNotLetter.stop {il : Char → Bool} (h : StopNotLetter il) {c : Char}
    (hc : c = ',' ∨ c = ']' ∨ c = '}' ∨ c = ')' ∨ c = ' ') : il c = false := by
  obtain ⟨a, b, c', d, e⟩ := h
  rcases hc with rfl | rfl | rfl | rfl | rfl <;> assumption

/-- in front of a continuation the printer produces, a digit-reading mode ends its token; the exponent digits ask the letter
    oracle about the character first -/
theorem lexNum_stop (il : Char → Bool) (m : NMode) (hm : (∃ fz, m = .intPart fz) ∨ m = .fracPart ∨ m = .expDigits)
    (acc : Str) (k : List Sym) (hk : stopOK k = true) (hl : m = .expDigits → StopNotLetter il) :
    lexNum il m acc k = .tok ⟨m.kind, acc.reverse⟩ k false := by
  rcases stopOK_cases hk with rfl | ⟨c, tl, rfl, hc⟩
  · rcases hm with ⟨fz, rfl⟩ | rfl | rfl <;> simp [lexNum, intTok, floatTok, NMode.kind]
  · have s := stop_char hc
    rcases hm with ⟨fz, rfl⟩ | rfl | rfl
    · simp [lexNum, s.rune, s.notNul, s.notDigit, s.notE, s.notX, s.notDot, intTok, NMode.kind]
    · simp [lexNum, s.rune, s.notNul, s.notDigit, s.notE, s.notX, s.notDot, floatTok, NMode.kind]
    · simp [lexNum, s.rune, s.notNul, s.notDigit, s.notDot, (hl rfl).stop hc, floatTok, NMode.kind]

theorem lexNum_run (il : Char → Bool) (m : NMode) (hm : (∃ fz, m = .intPart fz) ∨ m = .fracPart ∨ m = .expDigits)
    (ds acc : Str) (k : List Sym) (hd : ∀ c ∈ ds, isDigit c = true) (hk : stopOK k = true)
    (hl : m = .expDigits → StopNotLetter il) :
    lexNum il m acc (syms ds ++ k) = .tok ⟨m.kind, (ds.reverse ++ acc).reverse⟩ k false := by
  rw [lexNum_digits_prefix il m hm ds acc k hd, lexNum_stop il m hm _ k hk hl]

theorem nextToken_digits (il : Char → Bool) (c : Char) (cs : Str) (k : List Sym) (hc : isDigit c = true)
    (hd : ∀ d ∈ cs, isDigit d = true) (hk : stopOK k = true) :
    nextToken il (syms (c :: cs) ++ k) = .tok ⟨.int, c :: cs⟩ k false := by
  rw [syms_cons, List.cons_append, nextToken_digit il c _ hc,
    lexNum_run il _ (.inl ⟨_, rfl⟩) cs [c] k hd hk (fun h => by cases h)]
  simp [NMode.kind]

theorem nextToken_minus_digit (il : Char → Bool) (c : Char) (tl : List Sym) (hc : isDigit c = true) :
    nextToken il (.chr '-' :: .chr c :: tl) = lexNum il (.intPart (c = '0')) [c, '-'] tl := by
  have e4 : ('-' = '\'' ∨ '-' = '"') = False := by decide
  have e5 : ('-' = '/') = False := by decide
  have e6 : punctTok '-' (Sym.chr c :: tl) = none := by simp [punctTok]
  have e7 : ('-' = '=') = False := by decide
  rw [nextToken_chr il _ (by decide) (by decide) (by decide) (by decide)]
  simp only [startTok, e4, e5, e6, e7, if_false, true_or, if_true, signTok, (digit_facts c hc).1, hc]

theorem nextToken_minus_digits (il : Char → Bool) (c : Char) (cs : Str) (k : List Sym) (hc : isDigit c = true)
    (hd : ∀ d ∈ cs, isDigit d = true) (hk : stopOK k = true) :
    nextToken il (syms ('-' :: c :: cs) ++ k) = .tok ⟨.int, '-' :: c :: cs⟩ k false := by
  rw [syms_cons, syms_cons, List.cons_append, List.cons_append, nextToken_minus_digit il c _ hc,
    lexNum_run il _ (.inl ⟨_, rfl⟩) cs [c, '-'] k hd hk (fun h => by cases h)]
  simp [NMode.kind]

theorem nextToken_int (il : Char → Bool) (i : Int) (k : List Sym) (hk : stopOK k = true) :
    nextToken il (syms (intText i) ++ k) = .tok ⟨.int, intText i⟩ k false := by
  cases i with
  | ofNat n =>
    obtain ⟨c, cs, e, hc, hd⟩ := natDigits_cons n
    simp only [intText, e]; exact nextToken_digits il c cs k hc hd hk
  | negSucc n =>
    obtain ⟨c, cs, e, hc, hd⟩ := natDigits_cons (n + 1)
    simp only [intText, e]; exact nextToken_minus_digits il c cs k hc hd hk

/-! ### floats of the shape digits `.` digits (the lexing half of the `FloatIO` parameter is provable for them) -/

theorem lexNum_int_dot (il : Char → Bool) (fz : Bool) (ds1 : Str) (d : Char) (acc : Str) (r : List Sym)
    (h1 : ∀ c ∈ ds1, isDigit c = true) (hd : isDigit d = true) :
    lexNum il (.intPart fz) acc (syms ds1 ++ (.chr '.' :: .chr d :: r)) =
      lexNum il .fracPart (d :: '.' :: (ds1.reverse ++ acc)) r := by
  have hdot : (Sym.chr '.').rune = some '.' := by decide
  have e0 : ('.' = '\x00') = False := by decide
  have e1 : isDigit '.' = false := by decide
  have e2 : ('.' = 'e' ∨ '.' = 'E') = False := by decide
  have e3 : ('.' = 'x' ∨ '.' = 'X') = False := by decide
  rw [lexNum_digits_prefix il _ (.inl ⟨fz, rfl⟩) ds1 acc _ h1, lexNum, hdot]
  simp only [e0, e1, e2, e3, if_false, if_true, Bool.false_eq_true]
  simp only [lexNum, (digit_facts d hd).1, hd, if_true]

theorem lexNum_int_dot_frac (il : Char → Bool) (fz : Bool) (ds1 : Str) (d : Char) (ds2 acc : Str) (k : List Sym)
    (h1 : ∀ c ∈ ds1, isDigit c = true) (hd : isDigit d = true) (h2 : ∀ c ∈ ds2, isDigit c = true)
    (hk : stopOK k = true) :
    lexNum il (.intPart fz) acc (syms (ds1 ++ '.' :: d :: ds2) ++ k) =
      floatTok (ds2.reverse ++ d :: '.' :: (ds1.reverse ++ acc)) k := by
  simp only [syms_append, syms_cons, List.append_assoc, List.cons_append]
  rw [lexNum_int_dot il fz ds1 d acc _ h1 hd, lexNum_run il _ (.inr (.inl rfl)) ds2 _ k h2 hk (fun h => by cases h)]
  rfl

/-- `D+ . D+` is one float token for EVERY letter oracle (the exponent-free case of `nextToken_float_pos`, which needs
    `StopNotLetter`) -/
theorem nextToken_simple_float (il : Char → Bool) (c : Char) (ds1 : Str) (d : Char) (ds2 : Str) (k : List Sym)
    (hc : isDigit c = true) (h1 : ∀ x ∈ ds1, isDigit x = true) (hd : isDigit d = true)
    (h2 : ∀ x ∈ ds2, isDigit x = true) (hk : stopOK k = true) :
    nextToken il (syms (c :: ds1 ++ '.' :: d :: ds2) ++ k) = .tok ⟨.float, c :: ds1 ++ '.' :: d :: ds2⟩ k false := by
  rw [List.cons_append, syms_cons, List.cons_append, nextToken_digit il c _ hc,
    lexNum_int_dot_frac il (decide (c = '0')) ds1 d ds2 [c] k h1 hd h2 hk]
  simp [floatTok]

end Pcore.Syntax

import Pcore.Proofs.FilesDeep
/-!
C15, names whose PARENT exists.  `Ns::A::B` is requested, there is no file for it, but its parent `Ns::A` has one: the
parent type-set search of the context's loader loads the parent (reads its file, defines it) and — the parent being no
type set — the child stays absent.  A defective parent file surfaces as the error of the CHILD's lookup, naming the
parent's file.  Vice versa (`Ns::A` requested, only `Ns::A::B` has a file) nothing below the name is touched: that is
`C15_absent` / `find_miss` (files deeper than the name are never consulted).
-/
namespace Pcore.Files

theorem instantiate_good (cfg : Cfg) (n : Nat) (l : Lid) (hv : cfg.via = l) (name : Name) (p : Path) (ps : List Path)
    (s : St) (b : Body) (d : Def) (hb : bodyAt cfg.tree p = some b) (hd : definedBy b name = some d)
    (hk : d.kind ≠ .typeset) (hget : s.get l (keyOf name) = none) :
    instantiate (n+4) cfg l name (p :: ps) s =
      .ok (some (some d)) (((s.put l (keyOf name) none).addRead p).put l (keyOf name) (some d)) := by
  rw [instantiate_plain cfg (n+1) l name p ps s b d hb hd hk hget (by rw [hv, hget]; intro d h; cases h), hv, get_put_self]

theorem quietAnc_child_l {cfg : Cfg} {l : Lid} {s s2 : St} {name : Name} (hqual : qualified name = true)
    (hqa : QuietAnc cfg l s name.dropLast) (hvalid : l.moduleName = "" ∨ (partsOf name).isSome)
    (hfresh : s2.get l (keyOf name) = none)
    (hsame : ∀ k, k ≠ keyOf name.dropLast → k ≠ keyOf name → s2.get l k = s.get l k)
    (hpar : s2.get l (keyOf name.dropLast) ≠ none) : QuietAnc cfg l s2 name := by
  have hlen : name.length ≥ 2 := qualified_iff.mp hqual
  have hdl : name.dropLast.length = name.length - 1 := List.length_dropLast
  refine quietAnc_of_parent (List.dropLast_prefix name) (by omega) (dropLast_ne_nil hqual) hfresh hvalid ?_ (Or.inl hpar) ?_
  · rcases hqa.init with h | h | h
    · exact Or.inl h
    · exact Or.inr (Or.inl h)
    · refine Or.inr (Or.inr ?_)
      by_cases hk : keyOf (name.dropLast.take 1) = keyOf name.dropLast
      · rw [hk]; exact hpar
      · rw [hsame _ hk (keyOf_ne_of_length (by simp; omega))]; exact h
  · intro nm hne hp heq
    refine (hqa.ancestors nm hne hp heq).imp (fun h => ?_) id
    have hl := length_lt_of_proper_prefix hp heq
    rw [hsame _ (keyOf_ne_of_length (by omega)) (keyOf_ne_of_length (by omega))]
    exact h

theorem quietAnc_child {cfg : Cfg} {s s2 : St} {name : Name} (hqual : qualified name = true)
    (hqa : QuietAnc cfg .g s name.dropLast) (hfresh : s.get .g (keyOf name) = none)
    (hsame : ∀ k, k ≠ keyOf name.dropLast → s2.get .g k = s.get .g k)
    (hpar : s2.get .g (keyOf name.dropLast) ≠ none) : QuietAnc cfg .g s2 name := by
  have hlen : name.length ≥ 2 := qualified_iff.mp hqual
  refine quietAnc_child_l hqual hqa (Or.inl rfl) ?_ (fun k h _ => hsame k h) hpar
  rw [hsame _ (keyOf_ne_of_length (by rw [List.length_dropLast]; omega))]; exact hfresh

/-- the parent search of the context's loader `l` for a child without origin whose parent has a plain file that defines
    the parent: the parent is loaded (one read, one definition), the grandparents are searched in vain -/
theorem parentSearch_parent_good {cfg : Cfg} {l : Lid} (hv : cfg.via = l) {name : Name} (hqual : qualified name = true)
    {s : St} {k : Nat} (hfuel : 3 * name.length ≤ k + 11) (hroutep : Routed l name.dropLast)
    (hvalid : l.moduleName = "" ∨ (partsOf name).isSome) (hfresh : s.get l (keyOf name) = none)
    (hqa : QuietAnc cfg l s name.dropLast)
    {p : Path} {ps : List Path} (hip : idx cfg l (keyOf name.dropLast) = p :: ps)
    {b : Body} {d : Def} (hb : bodyAt cfg.tree p = some b) (hd : definedBy b name.dropLast = some d)
    (hk : d.kind ≠ .typeset) :
    parentSearch (k+7) cfg l name name.dropLast s =
      .ok none (((s.put l (keyOf name.dropLast) none).addRead p).put l (keyOf name.dropLast) (some d)) ∧
    (((s.put l (keyOf name.dropLast) none).addRead p).put l (keyOf name.dropLast) (some d)).get l (keyOf name) = none := by
  have hlen : name.length ≥ 2 := qualified_iff.mp hqual
  have hpne := dropLast_ne_nil hqual
  have hkne : keyOf name ≠ keyOf name.dropLast := keyOf_ne_of_length (by rw [List.length_dropLast]; omega)
  have hsame : ∀ k', k' ≠ keyOf name.dropLast →
      (((s.put l (keyOf name.dropLast) none).addRead p).put l (keyOf name.dropLast) (some d)).get l k' = s.get l k' := by
    intro k' hk'
    rw [get_put_key hk', get_addRead, get_put_key hk']
  have hfresh2 := (hsame _ hkne).trans hfresh
  have hq2 := quietAnc_child_l hqual hqa hvalid hfresh2 (fun k' h _ => hsame k' h) (by rw [get_put_self]; intro h; cases h)
  have hdd := dropLast_proper hpne
  have hps2 := parentSearch_miss cfg l _ name name.dropLast.dropLast hq2 (hdd.1.trans (List.dropLast_prefix name))
    (fun h => by
      have := congrArg List.length h
      rw [List.length_dropLast, List.length_dropLast] at this
      omega)
    (k+6) (by rw [List.length_dropLast, List.length_dropLast]; omega)
  refine ⟨?_, hfresh2⟩
  rw [parentSearch_ne _ _ _ _ _ hpne]
  simp only [bind, getSt, hqa.fresh, find_origin hroutep hip,
    instantiate_good cfg k l hv name.dropLast p ps s b d hb hd hk hqa.fresh, hfresh2]
  exact hps2

/-- the same search when the parent's file is defective: its error is the result, nothing is bound -/
theorem parentSearch_parent_defective {cfg : Cfg} {l : Lid} {name : Name} (hqual : qualified name = true) {s : St}
    (hroutep : Routed l name.dropLast) (hpfresh : s.get l (keyOf name.dropLast) = none)
    {p : Path} {ps : List Path} (hip : idx cfg l (keyOf name.dropLast) = p :: ps)
    {b : Body} (hb : bodyAt cfg.tree p = some b) (hd : Defective b name.dropLast) (k : Nat) :
    parentSearch (k+5) cfg l name name.dropLast s =
      .fail (defectErr p b) ((s.put l (keyOf name.dropLast) none).addRead p) := by
  rw [parentSearch_ne _ _ _ _ _ (dropLast_ne_nil hqual)]
  simp only [bind, getSt, hpfresh, find_origin hroutep hip,
    instantiate_defective cfg k l name.dropLast p ps s b hb hd hpfresh]

/-! ## the lookup of the child, through any file loader as the context's loader -/

section
variable {cfg : Cfg} {l : Lid} {name : Name} {s σ : St} {c : Nat} (h : Below cfg l name s σ c) (hv : cfg.via = l)
include h hv

theorem ancestor_good {m : Nat} (hm : c ≤ m + 9) (hfuel : 3 * name.length ≤ m + 11)
    (hqual : qualified name = true) (hroute : Routed l name) (hroutep : Routed l name.dropLast)
    (hvalid : l.moduleName = "" ∨ (partsOf name).isSome)
    (hfresh : s.get l (keyOf name) = none) (hi : idx cfg l (keyOf name) = [])
    (hqa : QuietAnc cfg l s name.dropLast)
    {p : Path} {ps : List Path} (hip : idx cfg l (keyOf name.dropLast) = p :: ps)
    {b : Body} {d : Def} (hb : bodyAt cfg.tree p = some b) (hd : definedBy b name.dropLast = some d)
    (hk : d.kind ≠ .typeset) :
    loadS (m+11) cfg s name =
      (.notfound, (((σ.put l (keyOf name.dropLast) none).addRead p).put l (keyOf name.dropLast) (some d)).put l
        (keyOf name) none) := by
  obtain ⟨hps, hfresh2⟩ := parentSearch_parent_good hv hqual (k := m) hfuel hroutep hvalid ((h.own _).trans hfresh)
    (hqa.congr h.own) hip hb hd hk
  exact h.loadS_miss hv hm hfresh (by rw [find_no_origin hroute hi hqual]; exact hps) hfresh2

/-- the child is absent everywhere, its parent's file is defective: the CHILD's lookup reports the error that names the
    parent's file; nothing is bound but the placeholders -/
theorem ancestor_defective {m : Nat} (hm : c ≤ m + 7) (hqual : qualified name = true)
    (hroute : Routed l name) (hroutep : Routed l name.dropLast)
    (hfresh : s.get l (keyOf name) = none) (hi : idx cfg l (keyOf name) = [])
    (hpfresh : s.get l (keyOf name.dropLast) = none)
    {p : Path} {ps : List Path} (hip : idx cfg l (keyOf name.dropLast) = p :: ps)
    {b : Body} (hb : bodyAt cfg.tree p = some b) (hd : Defective b name.dropLast) :
    loadS (m+9) cfg s name = (.failed (defectErr p b), (σ.put l (keyOf name.dropLast) none).addRead p) := by
  exact h.loadS_failed hv hm hfresh (by
    rw [find_no_origin hroute hi hqual]
    exact parentSearch_parent_defective hqual hroutep ((h.own _).trans hpfresh) hip hb hd m)

end

theorem ancestor_module_good (cfg : Cfg) (mod : String) (hv : cfg.via = .m mod) (hflat : cfg.flat = false)
    (name : Name) (hqual : qualified name = true) (s : St) (m : Nat) (hfuel : 3 * name.length ≤ m + 8)
    (hsys : sysLoad name = none)
    (hqg : QuietAnc cfg .g s name) (hig : idx cfg .g (keyOf name) = [])
    (hroute : Routed (.m mod) name) (hroutep : Routed (.m mod) name.dropLast)
    (hvalid : (partsOf name).isSome)
    (hfresh : s.get (.m mod) (keyOf name) = none) (hi : idx cfg (.m mod) (keyOf name) = [])
    (hqa : QuietAnc cfg (.m mod) s name.dropLast)
    (p : Path) (ps : List Path) (hip : idx cfg (.m mod) (keyOf name.dropLast) = p :: ps)
    (b : Body) (d : Def) (hb : bodyAt cfg.tree p = some b) (hd : definedBy b name.dropLast = some d)
    (hk : d.kind ≠ .typeset) :
    loadS (m+13) cfg s name =
      (.notfound, (((((s.put .g (keyOf name) none).put (.m mod) (keyOf name.dropLast) none).addRead p).put (.m mod)
        (keyOf name.dropLast) (some d)).put (.m mod) (keyOf name) none)) :=
  ancestor_good (m := m+2) (Below.child_miss hflat (by intro h; rw [h] at hqual; cases hqual) hsys hqg hig) hv (by omega)
    (by omega) hqual hroute hroutep (Or.inr hvalid) hfresh hi hqa hip hb hd hk

theorem ancestor_module_defective (cfg : Cfg) (mod : String) (hv : cfg.via = .m mod) (hflat : cfg.flat = false)
    (name : Name) (hqual : qualified name = true) (s : St) (m : Nat) (hfuel : 3 * name.length ≤ m + 8)
    (hsys : sysLoad name = none)
    (hqg : QuietAnc cfg .g s name) (hig : idx cfg .g (keyOf name) = [])
    (hroute : Routed (.m mod) name) (hroutep : Routed (.m mod) name.dropLast)
    (hfresh : s.get (.m mod) (keyOf name) = none) (hi : idx cfg (.m mod) (keyOf name) = [])
    (hpfresh : s.get (.m mod) (keyOf name.dropLast) = none)
    (p : Path) (ps : List Path) (hip : idx cfg (.m mod) (keyOf name.dropLast) = p :: ps)
    (b : Body) (hb : bodyAt cfg.tree p = some b) (hd : Defective b name.dropLast) :
    loadS (m+13) cfg s name =
      (.failed (defectErr p b), ((s.put .g (keyOf name) none).put (.m mod) (keyOf name.dropLast) none).addRead p) :=
  ancestor_defective (m := m+4) (Below.child_miss hflat (by intro h; rw [h] at hqual; cases hqual) hsys hqg hig) hv (by omega)
    hqual hroute hroutep hfresh hi hpfresh hip hb hd

end Pcore.Files

import Pcore.Model.LatticeAsg
import Pcore.Proofs.ListLoops
import Pcore.Proofs.ListFacts
/-! `StructType.IsAssignable(Struct)`.  Member names (`nameIs`; `NamesNodup`: pairwise different); the member loop `structAll` with its
    lookup `structMember` as the counting loop `matchCount` (ListLoops), hence as a relation between the two member lists
    (`structAll_full`); and the two counts behind the size rule: a member list whose names all occur in another is at most as long
    (`length_le_of_names`), and `distinctCount` of pairwise different names is their number. -/
namespace Pcore.Lat
variable (cfg : Cfg) (sfh : Bool)

def nameIs (n : String) (m : Member) : Bool := n == m.1

theorem nameIs_iff (n : String) (m : Member) : nameIs n m = true ↔ m.1 = n := by
  unfold nameIs
  constructor
  · intro h; exact (beq_iff_eq.1 h).symm
  · intro h; exact beq_iff_eq.2 h.symm

theorem nameIs_unique {n n' : String} {m : Member} (h : nameIs n m = true) (h' : nameIs n' m = true) : n = n' :=
  ((nameIs_iff n m).1 h).symm.trans ((nameIs_iff n' m).1 h')

def NamesNodup (ms : List Member) : Prop := (ms.map (·.1)).Nodup

theorem NamesNodup.count_le {ms : List Member} (h : NamesNodup ms) (n : String) : ms.countP (nameIs n) ≤ 1 := by
  have := List.nodup_iff_count.1 h n
  rw [List.count, List.countP_map] at this
  refine Nat.le_trans (Nat.le_of_eq (List.countP_congr fun m _ => ?_)) this
  simp only [nameIs, Function.comp, beq_iff_eq]; exact eq_comm

theorem namesNodup_filter (p : Member → Bool) {ms : List Member} (h : NamesNodup ms) : NamesNodup (ms.filter p) :=
  nodup_key_sublist List.filter_sublist h

theorem structMember_eq_find (n : String) (o : Bool) (t : Ty) (ms' : List Member) :
    structMember cfg sfh n o t ms' =
      (ms'.reverse.find? (nameIs n)).map fun m' => (o || !m'.2.1) && asg cfg sfh t m'.2.2 := by
  induction ms' with
  | nil => unfold structMember; rfl
  | cons m ms ih =>
    obtain ⟨n', o', t'⟩ := m
    unfold structMember
    rw [ih, List.reverse_cons, List.find?_append]
    cases ms.reverse.find? (nameIs n) with
    | some r => rfl
    | none =>
      change (if (n == n') = true then _ else _) = _
      simp only [Option.none_or, List.find?_cons, nameIs]
      cases n == n' <;> rfl

theorem structMember_none (n : String) (o : Bool) (t : Ty) (ms' : List Member) :
    structMember cfg sfh n o t ms' = none ↔ ms'.countP (nameIs n) = 0 := by
  rw [structMember_eq_find, Option.map_eq_none_iff, List.find?_eq_none, List.countP_eq_zero]
  simp only [List.mem_reverse]

theorem structMember_mem (n : String) (o : Bool) (t : Ty) (ms' : List Member) (hn : NamesNodup ms')
    (m' : Member) (hm : m' ∈ ms') (hk : m'.1 = n) :
    structMember cfg sfh n o t ms' = some ((o || !m'.2.1) && asg cfg sfh t m'.2.2) := by
  rw [structMember_eq_find, find?_eq_some_of_countP_le_one (by rw [List.countP_reverse]; exact hn.count_le n)
    (List.mem_reverse.2 hm) ((nameIs_iff n m').2 hk)]; rfl

theorem structAll_eq (ms ms' : List Member) :
    structAll cfg sfh ms ms' = matchCount (fun m => structMember cfg sfh m.1 m.2.1 m.2.2 ms') (·.2.1) ms := by
  induction ms with
  | nil => unfold structAll; rfl
  | cons m ms ih =>
    obtain ⟨n, o, t⟩ := m; unfold structAll matchCount; rw [ih]
    cases structMember cfg sfh n o t ms' with
    | none => rfl
    | some b => cases b <;> rfl

/-- the loop matches every member of the other Struct: as a relation between the two member lists -/
theorem structAll_full (ms ms' : List Member) (hn : NamesNodup ms) (hn' : NamesNodup ms') :
    structAll cfg sfh ms ms' = some ms'.length ↔
      (∀ m ∈ ms, (∀ m' ∈ ms', m'.1 = m.1 → (m.2.1 || !m'.2.1) = true ∧ asg cfg sfh m.2.2 m'.2.2 = true) ∧
                 ((∀ m' ∈ ms', m'.1 ≠ m.1) → m.2.1 = true)) ∧
      (∀ m' ∈ ms', ∃ m ∈ ms, m.1 = m'.1) := by
  rw [structAll_eq, matchCount_full _ _ (fun m : Member => m.1) nameIs (fun (m m' : Member) => (m.2.1 || !m'.2.1) && asg cfg sfh m.2.2 m'.2.2) ms ms'
    (fun _ _ _ => nameIs_unique) hn (fun m => hn'.count_le m.1)
    (fun m => structMember_none cfg sfh _ _ _ ms')
    (fun m m' hm' hk => structMember_mem cfg sfh m.1 m.2.1 m.2.2 ms' hn' m' hm' ((nameIs_iff _ _).1 hk))]
  simp only [nameIs_iff, Bool.and_eq_true, Bool.eq_false_iff, ne_eq]
  exact and_congr_right' (forall₂_congr fun _ _ => exists_congr fun _ => and_congr_right' eq_comm)

theorem length_le_of_names (xs ys : List Member) (hx : NamesNodup xs) (hy : NamesNodup ys)
    (h : ∀ x ∈ xs, ∃ y ∈ ys, y.1 = x.1) : xs.length ≤ ys.length := by
  have h1 : (ys.map fun y => xs.countP (nameIs y.1)).sum = xs.length := by
    rw [sum_countP_of_nodup (fun m : Member => m.1) nameIs (fun _ _ _ => nameIs_unique) ys xs hy, List.countP_eq_length]
    intro x hx'
    obtain ⟨y, hy', hk⟩ := h x hx'
    exact List.any_eq_true.2 ⟨y, hy', (nameIs_iff _ _).2 hk.symm⟩
  have := sum_map_le_length (f := fun y : Member => xs.countP (nameIs y.1)) (fun y => hx.count_le y.1) ys
  omega

theorem distinctCount_nodup (l : List String) (h : l.Nodup) : distinctCount l = l.length := by
  induction l with
  | nil => rfl
  | cons a as ih =>
    simp only [List.nodup_cons] at h
    simp [distinctCount, h.1, ih h.2]; omega

end Pcore.Lat

import Pcore.Proofs.TypeRT
import Pcore.Model.TypedVal
/-!
C05 for literal values that HOLD types (and nested containers of them): the program-format text parses, and resolving the
type expressions in the parse result (`types.ResolveDeferred`) gives the value back.
-/
namespace Pcore.Syntax

mutual
/-- well-formed values holding types: Int64 integers; floats under the float parameter (the text is the formatter
    oracle's, it lexes as one float token, the reader oracle maps it back); representable, compiling regexps; types of the
    fragment in normal form (`WFTy`); containers of such, to any depth, types also as hash keys -/
def WFV (env : Env) : TVal → Prop
  | .int i => -(int64Bound : Int) ≤ i ∧ i < (int64Bound : Int)
  | .float b t => t = env.ff b ∧ Lit env (.float b t)
  | .regexp s => rxRep false s = true ∧ env.rxOK s = true
  | .arr vs => WFVs env vs
  | .hash es => WFVEs env es
  | .ty t => WFTy env t
  | _ => True
def WFVs (env : Env) : List TVal → Prop
  | [] => True
  | v :: vs => WFV env v ∧ WFVs env vs
def WFVEs (env : Env) : List (TVal × TVal) → Prop
  | [] => True
  | (k, v) :: es => WFV env k ∧ WFV env v ∧ WFVEs env es
end

mutual
theorem lit_toVal (env : Env) : (v : TVal) → WFV env v → Lit env v.toVal
  | .undef, _ => trivial
  | .dflt, _ => trivial
  | .bool _, _ => trivial
  | .int _, h => h
  | .float _ _, h => h.2
  | .str _, _ => trivial
  | .regexp _, h => h
  | .arr vs, h => by simp only [TVal.toVal, Lit]; exact litL_toVals env vs h
  | .hash es, h => by simp only [TVal.toVal, Lit]; exact litE_toEntries env es h
  | .ty t, h => by simp only [TVal.toVal]; exact lit_tyExpr env t h
theorem litL_toVals (env : Env) : (vs : List TVal) → WFVs env vs → LitL env (TVal.toVals vs)
  | [], _ => trivial
  | v :: vs, h => ⟨lit_toVal env v h.1, litL_toVals env vs h.2⟩
theorem litE_toEntries (env : Env) : (es : List (TVal × TVal)) → WFVEs env es → LitE env (TVal.toEntries es)
  | [], _ => trivial
  | (k, v) :: es, h => ⟨lit_toVal env k h.1, lit_toVal env v h.2.1, litE_toEntries env es h.2.2⟩
end

theorem resolveV_dtype (env : Env) (n : Str) (ps : Option (List Expr)) :
    resolveV env (.dtype n ps) = (resolve env (.dtype n ps)).map .ty := by
  cases ps <;> simp [resolveV, resolve]

theorem resolveV_ty (env : Env) (t : Ty) :
    resolveV env (exprOf (tyExpr t)) = (resolve env (exprOf (tyExpr t))).map .ty := by
  obtain ⟨n, ps, h⟩ := exprOf_tyExpr_dtype t
  rw [h, resolveV_dtype]

mutual
theorem resolveV_toVal (env : Env) : (v : TVal) → WFV env v → resolveV env (exprOf v.toVal) = some v
  | .undef, _ => by simp [TVal.toVal, exprOf, resolveV]
  | .dflt, _ => by simp [TVal.toVal, exprOf, resolveV]
  | .bool _, _ => by simp [TVal.toVal, exprOf, resolveV]
  | .int _, _ => by simp [TVal.toVal, exprOf, resolveV]
  | .float b t, h => by simp [TVal.toVal, exprOf, resolveV, h.1]
  | .str _, _ => by simp [TVal.toVal, exprOf, resolveV]
  | .regexp _, _ => by simp [TVal.toVal, exprOf, resolveV]
  | .arr vs, h => by simp [TVal.toVal, exprOf, resolveV, resolveVs_toVals env vs h]
  | .hash es, h => by simp [TVal.toVal, exprOf, resolveV, resolveVEs_toEntries env es h]
  | .ty t, h => by simp [TVal.toVal, resolveV_ty, resolve_tyExpr env t h]
theorem resolveVs_toVals (env : Env) : (vs : List TVal) → WFVs env vs → resolveVs env (exprsOf (TVal.toVals vs)) = some vs
  | [], _ => by simp [TVal.toVals, exprsOf, resolveVs]
  | v :: vs, h => by
    simp [TVal.toVals, exprsOf, resolveVs, resolveV_toVal env v h.1, resolveVs_toVals env vs h.2]
theorem resolveVEs_toEntries (env : Env) : (es : List (TVal × TVal)) → WFVEs env es →
    resolveVEs env (entriesOf (TVal.toEntries es)) = some es
  | [], _ => by simp [TVal.toEntries, entriesOf, resolveVEs]
  | (k, v) :: es, h => by
    simp [TVal.toEntries, entriesOf, resolveVEs, resolveV_toVal env k h.1, resolveV_toVal env v h.2.1,
      resolveVEs_toEntries env es h.2.2]
end

theorem typed_value_rt (env : Env) (v : TVal) (h : WFV env v) : parseTVal env (syms (printTVal v)) = some v := by
  unfold parseTVal printTVal
  rw [value_rt env v.toVal (lit_toVal env v h)]
  exact resolveV_toVal env v h

end Pcore.Syntax

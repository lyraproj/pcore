import Pcore.Model.TlsSmall
import Pcore.Proofs.OMap
import Pcore.Proofs.ListFacts
/-!
World-level facts for C14, shared by the big-step and the small-step semantics (property theorems: `Pcore/Props/C14.lean`); rests
on `Model/Tls.lean`, `Proofs/OMap` and `Proofs/ListFacts`.  In this order: the goroutine-local tables as association lists;
`Inv`, a well-formed world, and `Unused`; `LogOK`, every logged observation is in order; `Pre g c w`, goroutine `g` runs a body
that was handed `c` as its current context, and `Step x w w'`, what any stretch of execution from `w` to `w'` guarantees, with
its composition; what each operation writes, as equations, and each operation as a `Step`; `Loc g x0 w w'`, what a stretch
leaves alone when it is goroutine `g` that moves; last, entry and exit of `px.DoWithContext` (`dwcEnter_spec`, `dwcExit_spec`,
`dwcExit_dwcEnter`), the only places where the current context is installed and put back.
-/
namespace Pcore.Tls

/-! ## the goroutine-local tables as association lists: a key read after a write, a write undone by the write of the old value -/

/-- the goroutine-local tables are the development's association lists (`OMap`) keyed by the name itself -/
theorem aget_eq {α : Type} (k : String) (t : List (String × α)) : aget k t = Coll.OMap.get id t k := by
  induction t with
  | nil => rfl
  | cons e r ih =>
    obtain ⟨a, b⟩ := e
    simp only [Coll.OMap.get] at ih ⊢
    by_cases h : a = k <;> simp [aget, Coll.OMap.getEntry, h, ih]

theorem aset_eq {α : Type} (k : String) (v : α) (t : List (String × α)) : aset k v t = Coll.OMap.put id t (k, v) := by
  induction t with
  | nil => rfl
  | cons e r ih => obtain ⟨a, b⟩ := e; simp only [aset, Coll.OMap.put, id, ih]

theorem aget_aset_same {α : Type} (k : String) (v : α) (t : List (String × α)) : aget k (aset k v t) = some v := by
  rw [aset_eq, aget_eq, Coll.OMap.get_put]; exact if_pos rfl

theorem aget_aset_other {α : Type} {k k' : String} (v : α) (t : List (String × α)) (h : k' ≠ k) :
    aget k' (aset k v t) = aget k' t := by
  rw [aset_eq, aget_eq, Coll.OMap.get_put, aget_eq]; exact if_neg (Ne.symm h)

theorem aset_aset_restore {α : Type} {k : String} {s : α} (c : α) {t : List (String × α)} (h : aget k t = some s) :
    aset k s (aset k c t) = t := by
  rw [aset_eq, aset_eq, Coll.OMap.put_put id t (k, c) (k, s) rfl, Coll.OMap.put_of_get (aget_eq k t ▸ h)]

/-! ## `Inv`, a well-formed world: a waiting goroutine has an allocated gid and context of its own, no table yet, and its context
is installed for nobody; a context is installed for one goroutine at most (first, two facts about lists with distinct keys, for
taking a waiting goroutine out and appending one) -/

theorem key_not_mem_eraseIdx {α β : Type} (f : α → β) (l : List α) (i : Nat) (t : α) (hnd : (l.map f).Nodup)
    (h : l[i]? = some t) : f t ∉ (l.eraseIdx i).map f := by
  intro hc
  obtain ⟨a, ha, hfa⟩ := List.mem_map.1 hc
  obtain ⟨j, hji, hj⟩ := List.mem_eraseIdx_iff_getElem?.1 ha
  exact hji (nodup_key_idx_inj hnd hj h hfa)

theorem nodup_map_snoc {α : Type} (f : α → Nat) {l : List α} {t : α} (h : (l.map f).Nodup) (hlt : ∀ a ∈ l, f a < f t) :
    ((l ++ [t]).map f).Nodup := by
  rw [List.map_append, List.nodup_append]
  refine ⟨h, by simp, ?_⟩
  intro a ha b hb
  obtain ⟨x, hx, rfl⟩ := List.mem_map.1 ha
  simp only [List.map_cons, List.map_nil, List.mem_singleton] at hb
  rw [hb]; exact Nat.ne_of_lt (hlt x hx)

def pendGids (w : World) : List Gid := w.pending.map (·.gid)
def pendCtxs (w : World) : List CtxId := w.pending.map (·.ctx)

theorem gid_mem_pend {w : World} {t : Task} (h : t ∈ w.pending) : t.gid ∈ pendGids w := List.mem_map_of_mem h
theorem ctx_mem_pend {w : World} {t : Task} (h : t ∈ w.pending) : t.ctx ∈ pendCtxs w := List.mem_map_of_mem h

structure Inv (w : World) : Prop where
  tlsFresh : ∀ g, w.nextGid ≤ g → w.tls g = none
  pendNone : ∀ t ∈ w.pending, w.tls t.gid = none
  pendLt : ∀ t ∈ w.pending, t.gid < w.nextGid
  pendNodup : (pendGids w).Nodup
  hasKey : ∀ g t, w.tls g = some t → ∃ c, aget ctxKey t = some c
  estabLt : ∀ g c, (g, c) ∈ w.estab → c < w.nextCtx
  pendCtxLt : ∀ t ∈ w.pending, t.ctx < w.nextCtx
  pendCtxNodup : (pendCtxs w).Nodup
  pendNotEstab : ∀ t ∈ w.pending, ∀ g, (g, t.ctx) ∉ w.estab
  estabUniq : ∀ g g' c, (g, c) ∈ w.estab → (g', c) ∈ w.estab → g = g'

theorem Inv.of_empty {w : World} (h1 : ∀ g, w.tls g = none) (h2 : w.pending = []) (h3 : w.estab = []) : Inv w := by
  refine ⟨fun g _ => h1 g, ?_, ?_, ?_, ?_, ?_, ?_, ?_, ?_, ?_⟩ <;> simp [pendGids, pendCtxs, h1, h2, h3]

theorem inv_init (sched : List Nat) : Inv { sched := sched } := Inv.of_empty (fun _ => rfl) rfl rfl

theorem ctx_fresh_not_pend {w : World} (h : Inv w) : w.nextCtx ∉ pendCtxs w := by
  intro hc
  obtain ⟨t, ht, hti⟩ := List.mem_map.1 hc
  exact Nat.lt_irrefl _ (hti ▸ h.pendCtxLt t ht)

theorem ctx_fresh_not_estab {w : World} (h : Inv w) (g : Gid) : (g, w.nextCtx) ∉ w.estab :=
  fun hc => Nat.lt_irrefl _ (h.estabLt g _ hc)

/-- the context `cx` exists and has been handed to nobody yet: no goroutine waits with it, for none has it been installed -/
structure Unused (cx : CtxId) (w : World) : Prop where
  lt : cx < w.nextCtx
  np : cx ∉ pendCtxs w
  ne : ∀ g, (g, cx) ∉ w.estab

theorem Unused.new {w w' : World} (h : Inv w) (hn : w'.nextCtx = w.nextCtx + 1) (hp : w'.pending = w.pending)
    (he : w'.estab = w.estab) : Unused w.nextCtx w' :=
  ⟨hn ▸ Nat.lt_succ_self _, by simp only [pendCtxs, hp]; exact ctx_fresh_not_pend h, fun g => he ▸ ctx_fresh_not_estab h g⟩

theorem tlGet_none_iff {g : Gid} {w : World} (h : Inv w) : tlGet g ctxKey w = none ↔ w.tls g = none := by
  unfold tlGet
  cases ht : w.tls g with
  | none => simp
  | some t =>
    obtain ⟨c, hc⟩ := h.hasKey g t ht
    simp [hc]

theorem tlGet_congr {g : Gid} {k : String} {w w' : World} (h : w'.tls g = w.tls g) : tlGet g k w' = tlGet g k w := by
  simp only [tlGet, h]

theorem live_of_no_table {w : World} (h : ∀ g, w.tls g = none) : live w = 0 := by simp [live, h]

theorem tls_of_tlGet {g : Gid} {w : World} {s : CtxId} (h : tlGet g ctxKey w = some s) :
    ∃ t, w.tls g = some t ∧ aget ctxKey t = some s := by
  unfold tlGet at h
  cases ht : w.tls g with
  | none => simp [ht] at h
  | some t => exact ⟨t, rfl, by simpa [ht] using h⟩

/-! ## `LogOK`: every observation in the log saw as current the context handed to the body, installed for the observer alone -/

/-- an observation is in order: the current context is the one handed to the body, and it was established for this
    very goroutine -/
def EvOK (w : World) (ge : Gid × Ev) : Prop :=
  match ge.2 with
  | .obs cur lex _ _ => cur = some lex ∧ (ge.1, lex) ∈ w.estab
  | _ => True

theorem EvOK.obs {w : World} {g : Gid} {lex : CtxId} {tag : Option Nat} {st : List Nat}
    (h : (g, lex) ∈ w.estab) : EvOK w (g, .obs (some lex) lex tag st) := ⟨rfl, h⟩
theorem EvOK.get {w : World} {g : Gid} {k : String} {v : Option Nat} : EvOK w (g, .get k v) := trivial
theorem EvOK.load {w : World} {g : Gid} {k : String} {b : Bool} : EvOK w (g, .load k b) := trivial
theorem EvOK.recovered {w : World} {g : Gid} : EvOK w (g, .recovered) := trivial
theorem EvOK.done {w : World} {g : Gid} {o : Outcome} : EvOK w (g, .done o) := trivial

theorem EvOK.mono {w w' : World} {ge} (hm : ∀ e ∈ w.estab, e ∈ w'.estab) (h : EvOK w ge) : EvOK w' ge := by
  obtain ⟨g, e⟩ := ge
  cases e with
  | obs cur lex tag st => exact ⟨h.1, hm _ h.2⟩
  | _ => trivial

def LogOK (w : World) : Prop := ∀ ge ∈ w.log, EvOK w ge

theorem logOK_same {w w' : World} (hl : w'.log = w.log) (he : w'.estab = w.estab) : LogOK w → LogOK w' := by
  intro h ge hge
  rw [hl] at hge
  exact (h ge hge).mono (by rw [he]; exact fun _ h => h)

theorem logOK_emit {w w' : World} {g : Gid} {e : Ev} (hlog : w'.log = w.log ++ [(g, e)]) (hest : w'.estab = w.estab)
    (he : EvOK w (g, e)) (hl : LogOK w) : LogOK w' := by
  intro ge hge
  rw [hlog, List.mem_append, List.mem_singleton] at hge
  have hm : ∀ x ∈ w.estab, x ∈ w'.estab := by rw [hest]; exact fun _ h => h
  rcases hge with hge | rfl
  · exact (hl ge hge).mono hm
  · exact he.mono hm

/-- confined: an observed current context was installed for the observing goroutine, and for no other -/
theorem LogOK.confined {w : World} (hl : LogOK w) (hi : Inv w) {g : Gid} {c lex : CtxId} {tag : Option Nat} {st : List Nat}
    (hm : (g, Ev.obs (some c) lex tag st) ∈ w.log) (g' : Gid) : (g, c) ∈ w.estab ∧ ((g', c) ∈ w.estab → g' = g) := by
  obtain ⟨h1, h2⟩ := hl _ hm
  cases Option.some.inj h1
  exact ⟨h2, fun h3 => hi.estabUniq g' g c h3 h2⟩

/-! ## `Pre` and `Step`: what a body may assume, what any stretch of execution guarantees; steps compose, each with the one
context object (`x`) it may write -/

structure Pre (g : Gid) (c : CtxId) (w : World) : Prop where
  inv : Inv w
  cur : tlGet g ctxKey w = some c
  glt : g < w.nextGid
  gnp : g ∉ pendGids w
  est : (g, c) ∈ w.estab

theorem Pre.clt {g c w} (h : Pre g c w) : c < w.nextCtx := h.inv.estabLt g c h.est

theorem Pre.cnp {g c w} (h : Pre g c w) : c ∉ pendCtxs w := by
  intro hc
  obtain ⟨t, ht, rfl⟩ := List.mem_map.1 hc
  exact h.inv.pendNotEstab t ht g h.est

structure Step (x : Option CtxId) (w w' : World) : Prop where
  inv : Inv w'
  gidMono : w.nextGid ≤ w'.nextGid
  ctxMono : w.nextCtx ≤ w'.nextCtx
  estMono : ∀ e ∈ w.estab, e ∈ w'.estab
  pendStay : ∀ t ∈ w'.pending, t ∈ w.pending ∨ (w.nextGid ≤ t.gid ∧ w.nextCtx ≤ t.ctx)
  logOK : LogOK w → LogOK w'
  /-- a context other than `x` is unchanged unless it belongs to a goroutine that was waiting and has run -/
  frame : ∀ i, i < w.nextCtx → some i ≠ x → (i ∉ pendCtxs w ∨ i ∈ pendCtxs w') → w'.ctxs i = w.ctxs i

theorem Step.refl {x w} (h : Inv w) : Step x w w :=
  ⟨h, Nat.le_refl _, Nat.le_refl _, fun _ h => h, fun _ h => Or.inl h, fun h => h, fun _ _ _ _ => rfl⟩

theorem Step.ctx_pend_back {x w w'} (s : Step x w w') {i : Nat} (hi : i < w.nextCtx) (h : i ∈ pendCtxs w') :
    i ∈ pendCtxs w := by
  obtain ⟨t, ht, rfl⟩ := List.mem_map.1 h
  rcases s.pendStay t ht with h1 | h1
  · exact ctx_mem_pend h1
  · omega

theorem Step.ctx_not_pend {x w w'} (s : Step x w w') {i : Nat} (hi : i < w.nextCtx) (h : i ∉ pendCtxs w) :
    i ∉ pendCtxs w' := fun hc => h (s.ctx_pend_back hi hc)

theorem Step.gid_not_pend {x w w'} (s : Step x w w') {g : Nat} (hg : g < w.nextGid) (h : g ∉ pendGids w) :
    g ∉ pendGids w' := by
  intro hc
  obtain ⟨t, ht, rfl⟩ := List.mem_map.1 hc
  rcases s.pendStay t ht with h1 | h1
  · exact h (gid_mem_pend h1)
  · omega

/-- composition; the second step's exception must be covered by the first one's or be a fresh context -/
theorem Step.trans {x y w w1 w2} (s1 : Step x w w1) (s2 : Step y w1 w2)
    (hxy : ∀ i, i < w.nextCtx → some i ≠ x → some i ≠ y) : Step x w w2 where
  inv := s2.inv
  gidMono := Nat.le_trans s1.gidMono s2.gidMono
  ctxMono := Nat.le_trans s1.ctxMono s2.ctxMono
  estMono := fun e h => s2.estMono e (s1.estMono e h)
  pendStay := by
    intro t ht
    rcases s2.pendStay t ht with h | h
    · exact s1.pendStay t h
    · exact Or.inr ⟨Nat.le_trans s1.gidMono h.1, Nat.le_trans s1.ctxMono h.2⟩
  logOK := fun h => s2.logOK (s1.logOK h)
  frame := by
    intro i hi hx hp
    have hi1 : i < w1.nextCtx := Nat.lt_of_lt_of_le hi s1.ctxMono
    rcases hp with hp | hp
    · have h1 := s1.ctx_not_pend hi hp
      rw [s2.frame i hi1 (hxy i hi hx) (Or.inl h1), s1.frame i hi hx (Or.inl hp)]
    · have h1 := s2.ctx_pend_back hi1 hp
      rw [s2.frame i hi1 (hxy i hi hx) (Or.inr hp), s1.frame i hi hx (Or.inr h1)]

theorem Step.seq {x w w1 w2} (s1 : Step x w w1) (s2 : Step x w1 w2) : Step x w w2 := s1.trans s2 (fun _ _ h => h)

theorem Step.andThen {x w w1 w2} (s1 : Step x w w1) (s2 : Step none w1 w2) : Step x w w2 :=
  s1.trans s2 (fun _ _ _ => by simp)

theorem Step.weaken {x w w'} (s : Step none w w') : Step x w w' :=
  { s with frame := fun i hi _ hp => s.frame i hi (by simp) hp }

theorem Step.drop {j w w'} (s : Step (some j) w w')
    (h : j < w.nextCtx → j ∈ pendCtxs w ∧ j ∉ pendCtxs w') : Step none w w' :=
  { s with
    frame := by
      intro i hi _ hp
      by_cases hij : i = j
      · subst hij
        have := h hi
        rcases hp with hp | hp
        · exact absurd this.1 hp
        · exact absurd hp this.2
      · exact s.frame i hi (by simpa using hij) hp }

theorem Pre.step {x g c w w'} (h : Pre g c w) (s : Step x w w') (ht : w'.tls = w.tls) : Pre g c w' where
  inv := s.inv
  cur := (tlGet_congr (by rw [ht])).trans h.cur
  glt := Nat.lt_of_lt_of_le h.glt s.gidMono
  gnp := s.gid_not_pend h.glt h.gnp
  est := s.estMono _ h.est

/-! ## what the operations write -/

def tlPut (g : Gid) (t : List (String × CtxId)) (w : World) : World :=
  { w with tls := fun g' => if g' = g then some t else w.tls g' }

theorem tlSet_eq {g : Gid} {v : CtxId} {w : World} {t : List (String × CtxId)} (h : w.tls g = some t) :
    tlSet g ctxKey v w = some (tlPut g (aset ctxKey v t) w) := by
  simp [tlSet, h, tlPut]

/-- `Init(); Set(key, v)` -/
def tlFresh (g : Gid) (v : CtxId) (w : World) : World :=
  { w with tls := fun g' => if g' = g then some [(ctxKey, v)] else w.tls g' }

theorem tlSet_tlInit (g : Gid) (v : CtxId) (w : World) : tlSet g ctxKey v (tlInit g w) = some (tlFresh g v w) := by
  simp only [tlSet, tlInit, tlFresh, if_true, aset]
  congr 2
  funext g'
  by_cases h : g' = g <;> simp [h]

@[simp] theorem forkCtx_fst (c : CtxId) (w : World) : (forkCtx c w).1 = w.nextCtx := rfl
@[simp] theorem forkCtx_nextCtx (c : CtxId) (w : World) : (forkCtx c w).2.nextCtx = w.nextCtx + 1 := rfl
@[simp] theorem forkCtx_tls (c : CtxId) (w : World) : (forkCtx c w).2.tls = w.tls := rfl
@[simp] theorem forkCtx_pending (c : CtxId) (w : World) : (forkCtx c w).2.pending = w.pending := rfl
@[simp] theorem forkCtx_estab (c : CtxId) (w : World) : (forkCtx c w).2.estab = w.estab := rfl
@[simp] theorem forkCtx_nextGid (c : CtxId) (w : World) : (forkCtx c w).2.nextGid = w.nextGid := rfl

theorem forkCtx_ctxs (c : CtxId) (w : World) (i : CtxId) : (forkCtx c w).2.ctxs i =
    if i = w.nextCtx then { loader := w.nextLoader :: (w.ctxs c).loader, stack := (w.ctxs c).stack, vars := (w.ctxs c).vars,
                            tag := none } else w.ctxs i := rfl
theorem forkCtx_defs_eq (c : CtxId) (w : World) (l : LoaderId) :
    (forkCtx c w).2.defs l = if l = w.nextLoader then [] else w.defs l := rfl

theorem forkCtx_defs (c : CtxId) (w : World) (l : Nat) (hl : l ≠ w.nextLoader) : (forkCtx c w).2.defs l = w.defs l := by
  rw [forkCtx_defs_eq, if_neg hl]

theorem forkCtx_loader (c : CtxId) (w : World) (i : CtxId) :
    ((forkCtx c w).2.ctxs i).loader = if i = w.nextCtx then w.nextLoader :: (w.ctxs c).loader else (w.ctxs i).loader := by
  rw [forkCtx_ctxs]; split <;> rfl

theorem forkCtx_nextLoader (c : CtxId) (w : World) : (forkCtx c w).2.nextLoader = w.nextLoader + 1 := rfl
theorem forkCtx_nextCtx' (c : CtxId) (w : World) : (forkCtx c w).2.nextCtx = w.nextCtx + 1 := rfl

theorem newCtx_fst (x : Ctx) (w : World) : (newCtx x w).1 = w.nextCtx := rfl
theorem newCtx_defs (x : Ctx) (w : World) : (newCtx x w).2.defs = w.defs := rfl
theorem newCtx_nextLoader (x : Ctx) (w : World) : (newCtx x w).2.nextLoader = w.nextLoader := rfl
theorem newCtx_nextCtx (x : Ctx) (w : World) : (newCtx x w).2.nextCtx = w.nextCtx + 1 := rfl

theorem newCtx_loader (x : Ctx) (w : World) (i : CtxId) :
    ((newCtx x w).2.ctxs i).loader = if i = w.nextCtx then x.loader else (w.ctxs i).loader := by
  by_cases hi : i = w.nextCtx <;> simp [newCtx, hi]

theorem setTag_defs (c : CtxId) (id : Nat) (w : World) : (setTag c id w).defs = w.defs := rfl
theorem setTag_nextLoader (c : CtxId) (id : Nat) (w : World) : (setTag c id w).nextLoader = w.nextLoader := rfl
theorem setTag_nextCtx (c : CtxId) (id : Nat) (w : World) : (setTag c id w).nextCtx = w.nextCtx := rfl

theorem setTag_loader (c : CtxId) (id : Nat) (w : World) (i : CtxId) : ((setTag c id w).ctxs i).loader = (w.ctxs i).loader := by
  by_cases hi : i = c
  · subst hi; simp [setTag, ctxUpd]
  · simp [setTag, ctxUpd, hi]

theorem spawn_now (c : CtxId) (p : Prog) (w : World) :
    spawn .now c p w = { (forkCtx c w).2 with
      nextGid := w.nextGid + 1, pending := w.pending ++ [{ gid := w.nextGid, ctx := w.nextCtx, prog := p }] } := rfl

/-- what the goroutine of `px.Fork` runs between `Init(); Set(key, cf)` and its deferred `Cleanup()` (harness: tag, record) -/
def taskBody (ex : Prog → Gid → CtxId → World → Outcome × World) (t : Task) (w : World) : Outcome × World :=
  let r := ex t.prog t.gid t.ctx (setTag t.ctx (1000 + t.gid) w)
  let w5 := emit t.gid (.done r.1) r.2
  (r.1, { w5 with oof := w5.oof || decide (r.1 = .fuel) })

theorem runTask_now (ex : Prog → Gid → CtxId → World → Outcome × World) (t : Task) (w : World) :
    runTask .now ex t w = tlCleanup t.gid (taskBody ex t (note t.gid t.ctx (tlFresh t.gid t.ctx w))).2 := by
  have h : (if Ver.now = Ver.before then forkCtx t.ctx (tlInit t.gid w) else (t.ctx, tlInit t.gid w)) = (t.ctx, tlInit t.gid w) := rfl
  simp only [runTask, h, tlSet_tlInit, taskBody]

/-- a scheduling point consumes an oracle number and possibly runs one waiting goroutine -/
theorem yield_cases (ex : Prog → Gid → CtxId → World → Outcome × World) (w : World) :
    ∃ s, yield .now ex w = { w with sched := s } ∨
      ∃ n t, w.pending[n]? = some t ∧
        yield .now ex w = runTask .now ex t { { w with sched := s } with pending := w.pending.eraseIdx n } := by
  unfold yield
  split
  · exact ⟨w.sched, Or.inl rfl⟩
  · rename_i d s _
    refine ⟨s, ?_⟩
    simp only
    split
    · exact Or.inl rfl
    · split
      · exact Or.inl rfl
      · rename_i t ht
        exact Or.inr ⟨_, t, ht, rfl⟩

theorem drain_succ (fuel n : Nat) (w : World) : drain .now fuel (n + 1) w =
    match w.pending[0]? with
    | none => w
    | some t => drain .now fuel n (runTask .now (exec .now fuel) t { w with pending := w.pending.eraseIdx 0 }) := by
  simp only [drain]
  cases w.pending <;> rfl

/-! ## the operations as steps -/

/-- a change of fields no invariant speaks about (log, sched, oof, defs, nextLoader) and of contexts covered by `x` -/
theorem Step.of_same {x : Option CtxId} {w w' : World} (h : Inv w) (h1 : w'.tls = w.tls) (h2 : w'.nextGid = w.nextGid)
    (h3 : w'.pending = w.pending) (h4 : w'.estab = w.estab) (h5 : w'.nextCtx = w.nextCtx)
    (hl : LogOK w → LogOK w') (hc : ∀ i, some i ≠ x → w'.ctxs i = w.ctxs i) : Step x w w' where
  inv := by
    refine ⟨?_, ?_, ?_, ?_, ?_, ?_, ?_, ?_, ?_, ?_⟩
    · rw [h1, h2]; exact h.tlsFresh
    · rw [h1, h3]; exact h.pendNone
    · rw [h2, h3]; exact h.pendLt
    · simp only [pendGids, h3]; exact h.pendNodup
    · rw [h1]; exact h.hasKey
    · rw [h4, h5]; exact h.estabLt
    · rw [h3, h5]; exact h.pendCtxLt
    · simp only [pendCtxs, h3]; exact h.pendCtxNodup
    · rw [h3, h4]; exact h.pendNotEstab
    · rw [h4]; exact h.estabUniq
  gidMono := by rw [h2]; exact Nat.le_refl _
  ctxMono := by rw [h5]; exact Nat.le_refl _
  estMono := by rw [h4]; exact fun _ h => h
  pendStay := by rw [h3]; exact fun _ h => Or.inl h
  logOK := hl
  frame := fun i _ hx _ => hc i hx

theorem emit_step {g : Gid} {e : Ev} {w : World} (h : Inv w) (he : EvOK w (g, e)) : Step none w (emit g e w) := by
  exact Step.of_same h rfl rfl rfl rfl rfl (logOK_emit rfl rfl he) (fun _ _ => rfl)

theorem ctxUpd_step {c : CtxId} {f : Ctx → Ctx} {w : World} (h : Inv w) : Step (some c) w (ctxUpd c f w) := by
  refine Step.of_same h rfl rfl rfl rfl rfl (logOK_same rfl rfl) ?_
  intro i hi
  have : i ≠ c := fun hc => hi (by rw [hc])
  simp [ctxUpd, this]

theorem setTag_step {c : CtxId} {x : Nat} {w : World} (h : Inv w) : Step (some c) w (setTag c x w) :=
  ctxUpd_step h

theorem newLoader_step {w : World} (h : Inv w) : Step none w (newLoader w).2 :=
  Step.of_same h rfl rfl rfl rfl rfl (logOK_same rfl rfl) (fun _ _ => rfl)

theorem tlsUpd_step {g : Nat} {o : Option (List (String × CtxId))} {w : World} (h : Inv w) (hg : g < w.nextGid)
    (hgp : g ∉ pendGids w) (ho : ∀ t, o = some t → ∃ c, aget ctxKey t = some c) :
    Step none w { w with tls := fun g' => if g' = g then o else w.tls g' } :=
  have hne : ∀ t ∈ w.pending, t.gid ≠ g := fun t ht hc => hgp (hc ▸ gid_mem_pend ht)
  { Step.refl (x := none) h with
    inv := { h with
      tlsFresh := fun g' hg' => by
        have : g' ≠ g := Nat.ne_of_gt (Nat.lt_of_lt_of_le hg hg')
        simpa [this] using h.tlsFresh g' hg'
      pendNone := fun t ht => by simpa [hne t ht] using h.pendNone t ht
      hasKey := fun g' t ht => by
        by_cases hgg : g' = g
        · exact ho t (by simpa [hgg] using ht)
        · exact h.hasKey g' t (by simpa [hgg] using ht) }
    frame := fun _ _ _ _ => rfl }

theorem tlPut_step {g : Nat} {t : List (String × CtxId)} {c : CtxId} {w : World} (h : Inv w) (hg : g < w.nextGid)
    (hgp : g ∉ pendGids w) (ht : aget ctxKey t = some c) : Step none w (tlPut g t w) :=
  tlsUpd_step h hg hgp (fun _ e => by cases e; exact ⟨c, ht⟩)

theorem tlCleanup_step {g : Nat} {w : World} (h : Inv w) (hg : g < w.nextGid) (hgp : g ∉ pendGids w) :
    Step none w (tlCleanup g w) :=
  tlsUpd_step h hg hgp (fun _ e => nomatch e)

theorem note_step {g : Gid} {c : Nat} {w : World} (h : Inv w) (hu : Unused c w) : Step none w (note g c w) :=
  have mem : ∀ {e : Gid × CtxId}, e ∈ (note g c w).estab ↔ e ∈ w.estab ∨ e = (g, c) := by simp [note]
  { Step.refl (x := none) h with
    inv := { h with
      estabLt := fun g' c' hm => by
        rcases mem.1 hm with hm | hm
        · exact h.estabLt g' c' hm
        · cases hm; exact hu.lt
      pendNotEstab := fun t ht g' hm => by
        rcases mem.1 hm with hm | hm
        · exact h.pendNotEstab t ht g' hm
        · cases hm; exact hu.np (ctx_mem_pend ht)
      estabUniq := fun g1 g2 c' h1 h2 => by
        rcases mem.1 h1 with h1 | h1 <;> rcases mem.1 h2 with h2 | h2
        · exact h.estabUniq g1 g2 c' h1 h2
        · cases h2; exact absurd h1 (hu.ne g1)
        · cases h1; exact absurd h2 (hu.ne g2)
        · cases h1; cases h2; rfl }
    estMono := fun e he => mem.2 (Or.inl he)
    logOK := fun hl ge hge => (hl ge hge).mono (fun e he => mem.2 (Or.inl he))
    frame := fun _ _ _ _ => rfl }

theorem bump_step {w : World} (h : Inv w) : Step none w { w with nextGid := w.nextGid + 1 } :=
  { Step.refl (x := none) h with
    inv := { h with
      tlsFresh := fun g hg => h.tlsFresh g (Nat.le_of_succ_le hg), pendLt := fun t ht => Nat.lt_succ_of_lt (h.pendLt t ht) }
    gidMono := Nat.le_succ _ }

theorem newCtx_step {x : Ctx} {w : World} (h : Inv w) : Step none w (newCtx x w).2 :=
  { Step.refl (x := none) h with
    inv := { h with
      estabLt := fun g c hm => Nat.lt_succ_of_lt (h.estabLt g c hm), pendCtxLt := fun t ht => Nat.lt_succ_of_lt (h.pendCtxLt t ht) }
    ctxMono := Nat.le_succ _
    frame := fun i hi _ _ => by
      have : i ≠ w.nextCtx := Nat.ne_of_lt hi
      simp [newCtx, this] }

theorem forkCtx_step {c : CtxId} {w : World} (h : Inv w) : Step none w (forkCtx c w).2 :=
  (newLoader_step h).trans (newCtx_step (newLoader_step h).inv) (fun _ _ h => h)

theorem spawn_step {c : CtxId} {p : Prog} {w : World} (h : Inv w) : Step none w (spawn .now c p w) := by
  have snoc : ∀ {P : Task → Prop}, (∀ t ∈ w.pending, P t) → P { gid := w.nextGid, ctx := w.nextCtx, prog := p } →
      ∀ t ∈ w.pending ++ [{ gid := w.nextGid, ctx := w.nextCtx, prog := p }], P t :=
    fun h1 h2 => List.forall_mem_append.2 ⟨h1, List.forall_mem_singleton.2 h2⟩
  rw [spawn_now]
  exact { Step.refl (x := none) h with
    inv := { h with
      tlsFresh := fun g hg => h.tlsFresh g (Nat.le_of_succ_le hg)
      pendNone := snoc h.pendNone (h.tlsFresh _ (Nat.le_refl _))
      pendLt := snoc (fun t ht => Nat.lt_succ_of_lt (h.pendLt t ht)) (Nat.lt_succ_self _)
      pendNodup := nodup_map_snoc Task.gid (l := w.pending) h.pendNodup h.pendLt
      estabLt := fun g c' hm => Nat.lt_succ_of_lt (h.estabLt g c' hm)
      pendCtxLt := snoc (fun t ht => Nat.lt_succ_of_lt (h.pendCtxLt t ht)) (Nat.lt_succ_self _)
      pendCtxNodup := nodup_map_snoc Task.ctx (l := w.pending) h.pendCtxNodup h.pendCtxLt
      pendNotEstab := snoc h.pendNotEstab (ctx_fresh_not_estab h) }
    gidMono := Nat.le_succ _
    ctxMono := Nat.le_succ _
    pendStay := snoc (fun _ ht => Or.inl ht) (Or.inr ⟨Nat.le_refl _, Nat.le_refl _⟩)
    frame := fun i hi _ _ => by
      show (forkCtx c w).2.ctxs i = w.ctxs i
      rw [forkCtx_ctxs, if_neg (Nat.ne_of_lt hi)] }

theorem erase_step {w : World} (h : Inv w) (i : Nat) : Step none w { w with pending := w.pending.eraseIdx i } :=
  have sub : ∀ t ∈ w.pending.eraseIdx i, t ∈ w.pending := fun _ => List.mem_of_mem_eraseIdx
  { Step.refl (x := none) h with
    inv := { h with
      pendNone := fun t ht => h.pendNone t (sub t ht), pendLt := fun t ht => h.pendLt t (sub t ht)
      pendNodup := nodup_key_sublist (List.eraseIdx_sublist _ _) h.pendNodup
      pendCtxLt := fun t ht => h.pendCtxLt t (sub t ht)
      pendCtxNodup := nodup_key_sublist (List.eraseIdx_sublist _ _) h.pendCtxNodup
      pendNotEstab := fun t ht => h.pendNotEstab t (sub t ht) }
    pendStay := fun t ht => Or.inl (sub t ht)
    frame := fun _ _ _ _ => rfl }

/-! ## locality of a goroutine's step: other goroutines' tables, and which contexts it installs -/

structure Loc (g : Gid) (x0 : Option CtxId) (w w' : World) : Prop where
  tls : ∀ g', g' ≠ g → w'.tls g' = w.tls g'
  est : ∀ e ∈ w'.estab, e ∈ w.estab ∨ (e.1 = g ∧ (w.nextCtx ≤ e.2 ∨ some e.2 = x0))
  pend : w'.pending = w.pending

theorem Loc.refl {g x0 w} : Loc g x0 w w := ⟨fun _ _ => rfl, fun _ h => Or.inl h, rfl⟩

theorem Loc.trans {g x0 w w1 w2} (l1 : Loc g x0 w w1) (l2 : Loc g x0 w1 w2) (hm : w.nextCtx ≤ w1.nextCtx) : Loc g x0 w w2 where
  tls := fun g' h => by rw [l2.tls g' h, l1.tls g' h]
  est := by
    intro e he
    rcases l2.est e he with h | ⟨h1, h2⟩
    · exact l1.est e h
    · refine Or.inr ⟨h1, ?_⟩
      rcases h2 with h2 | h2
      · exact Or.inl (Nat.le_trans hm h2)
      · exact Or.inr h2
  pend := by rw [l2.pend, l1.pend]

theorem Loc.of_same {g x0 w w'} (h1 : w'.tls = w.tls) (h2 : w'.estab = w.estab) (h3 : w'.pending = w.pending) : Loc g x0 w w' :=
  ⟨fun _ _ => by rw [h1], fun e he => Or.inl (by rw [← h2]; exact he), h3⟩

theorem Loc.fresh {g cx w w'} (l : Loc g (some cx) w w') (h : w.nextCtx ≤ cx) : Loc g none w w' :=
  ⟨l.tls, fun e he => by
    rcases l.est e he with h1 | ⟨h1, h2⟩
    · exact Or.inl h1
    · refine Or.inr ⟨h1, Or.inl ?_⟩
      rcases h2 with h2 | h2
      · exact h2
      · have : e.2 = cx := by simpa using h2
        rw [this]; exact h, l.pend⟩

theorem Loc.weaken {g x0 w w'} (l : Loc g none w w') : Loc g x0 w w' :=
  ⟨l.tls, fun e he => by
    rcases l.est e he with h1 | ⟨h1, h2⟩
    · exact Or.inl h1
    · refine Or.inr ⟨h1, ?_⟩
      rcases h2 with h2 | h2
      · exact Or.inl h2
      · simp at h2, l.pend⟩

theorem tlsUpd_loc {g : Gid} {x0 : Option CtxId} {o : Option (List (String × CtxId))} {w : World} :
    Loc g x0 w { w with tls := fun g' => if g' = g then o else w.tls g' } :=
  ⟨fun g' h => by simp [h], fun _ h => Or.inl h, rfl⟩

theorem note_loc {g : Gid} {c : CtxId} {w : World} : Loc g (some c) w (note g c w) :=
  ⟨fun _ _ => rfl, fun e he => by
    simp only [note, List.mem_append, List.mem_singleton] at he
    rcases he with he | he
    · exact Or.inl he
    · subst he; exact Or.inr ⟨rfl, Or.inr rfl⟩, rfl⟩

/-! ## entry and exit of `px.DoWithContext`: the entry installs the context and saves the old one, the exit puts the saved one
back (`Set` undoes `Set`, `Cleanup` undoes `Init`); each as a `Step` and a `Loc` -/

theorem dwcEnter_eq (g : Gid) (cx : CtxId) (w : World) :
    ∃ t, aget ctxKey t = some cx ∧ dwcEnter g cx w = some (tlGet g ctxKey w, note g cx (tlPut g t w)) := by
  unfold dwcEnter
  cases hg : tlGet g ctxKey w with
  | none => exact ⟨[(ctxKey, cx)], by simp [aget], by simp only [tlSet_tlInit]; rfl⟩
  | some save =>
    obtain ⟨t, ht, _⟩ := tls_of_tlGet hg
    exact ⟨aset ctxKey cx t, aget_aset_same .., by simp only [tlSet_eq ht]⟩

/-- the entry on a goroutine that has no table: `Init(); Set(key, cx)` -/
theorem dwcEnter_of_no_table {g : Gid} {cx : CtxId} {w : World} (h : w.tls g = none) :
    dwcEnter g cx w = some (none, note g cx (tlFresh g cx w)) := by
  simp only [dwcEnter, tlGet, h, Option.bind, tlSet_tlInit]

theorem dwcEnter_some (g : Gid) (cx : CtxId) (w : World) : ∃ save w2, dwcEnter g cx w = some (save, w2) :=
  let ⟨_, _, h⟩ := dwcEnter_eq g cx w
  ⟨_, _, h⟩

theorem dwcEnter_fields {g : Gid} {cx : CtxId} {w w2 : World} {save : Option CtxId} (h : dwcEnter g cx w = some (save, w2)) :
    ∃ t, w2 = note g cx { w with tls := t } := by
  obtain ⟨t, _, h'⟩ := dwcEnter_eq g cx w
  rw [h'] at h; cases h
  exact ⟨_, rfl⟩

structure EnterSpec (g : Gid) (cx : CtxId) (w : World) (save : Option CtxId) (w2 : World) : Prop where
  s : Step none w w2
  l : Loc g (some cx) w w2
  cur : tlGet g ctxKey w2 = some cx
  est : (g, cx) ∈ w2.estab
  save : save = tlGet g ctxKey w
  ctxs : w2.ctxs = w.ctxs
  defs : w2.defs = w.defs
  nl : w2.nextLoader = w.nextLoader
  nc : w2.nextCtx = w.nextCtx
  ng : w2.nextGid = w.nextGid

theorem dwcEnter_spec {g cx : Nat} {w w2 : World} {save : Option CtxId} (h : dwcEnter g cx w = some (save, w2)) (hinv : Inv w)
    (hg : g < w.nextGid) (hgp : g ∉ pendGids w) (hu : Unused cx w) :
    EnterSpec g cx w save w2 := by
  obtain ⟨t, ht, he⟩ := dwcEnter_eq g cx w
  rw [he] at h; cases h
  have s1 : Step none w (tlPut g t w) := tlPut_step hinv hg hgp ht
  have s2 := note_step (g := g) s1.inv ⟨hu.lt, hu.np, hu.ne⟩
  exact {
    s := s1.seq s2
    l := (tlsUpd_loc (o := some _)).trans note_loc (Nat.le_refl _)
    cur := by simp [tlGet, note, tlPut, ht]
    est := by simp [note]
    save := rfl
    ctxs := rfl, defs := rfl, nl := rfl, nc := rfl, ng := rfl }

theorem tlSet_fields {g : Gid} {k : String} {v : CtxId} {w w1 : World} (h : tlSet g k v w = some w1) :
    ∃ t, w1 = { w with tls := t } := by
  unfold tlSet at h
  split at h <;> cases h
  exact ⟨_, rfl⟩

theorem dwcExit_fields {g : Gid} {save : Option CtxId} {w w1 : World} (h : dwcExit g save w = some w1) :
    ∃ t, w1 = { w with tls := t } := by
  cases save with
  | some s => exact tlSet_fields h
  | none => cases h; exact ⟨_, rfl⟩

structure ExitSpec (g : Gid) (w : World) (save : Option CtxId) (w1 : World) : Prop where
  s : Step none w w1
  l : Loc g none w w1
  cur : tlGet g ctxKey w1 = save
  none_tls : save = none → w1.tls g = none
  ctxs : w1.ctxs = w.ctxs
  defs : w1.defs = w.defs
  nl : w1.nextLoader = w.nextLoader
  nc : w1.nextCtx = w.nextCtx
  ng : w1.nextGid = w.nextGid
  est : w1.estab = w.estab

theorem dwcExit_some {g : Nat} {save : Option CtxId} {w : World} (hcur : (tlGet g ctxKey w).isSome) :
    ∃ w1, dwcExit g save w = some w1 := by
  cases save with
  | none => exact ⟨_, rfl⟩
  | some s =>
    obtain ⟨c, hc⟩ := Option.isSome_iff_exists.1 hcur
    obtain ⟨t, ht, _⟩ := tls_of_tlGet hc
    exact ⟨_, tlSet_eq ht⟩

theorem dwcExit_spec {g : Nat} {save : Option CtxId} {w w1 : World} (h : dwcExit g save w = some w1) (hinv : Inv w)
    (hg : g < w.nextGid) (hgp : g ∉ pendGids w) : ExitSpec g w save w1 := by
  cases save with
  | some s =>
    cases ht : w.tls g with
    | none => simp [dwcExit, tlSet, ht] at h
    | some t =>
      rw [dwcExit, tlSet_eq ht] at h; cases h
      exact {
        s := tlPut_step hinv hg hgp (aget_aset_same ..)
        l := tlsUpd_loc (o := some _)
        cur := by simp [tlGet, tlPut, aget_aset_same]
        none_tls := by intro h; cases h
        ctxs := rfl, defs := rfl, nl := rfl, nc := rfl, ng := rfl, est := rfl }
  | none =>
    cases h
    exact {
      s := tlCleanup_step hinv hg hgp
      l := tlsUpd_loc (o := none)
      cur := by simp [tlGet, tlCleanup]
      none_tls := by intro _; simp [tlCleanup]
      ctxs := rfl, defs := rfl, nl := rfl, nc := rfl, ng := rfl, est := rfl }

/-- restore: if what ran between entry and exit left the goroutine-local tables alone, the exit puts them back exactly as
    they were before the entry — `Set(key, save)` undoes `Set(key, cx)`, `Cleanup` undoes `Init` -/
theorem dwcExit_dwcEnter {g cx : Nat} {w w2 r w3 : World} {save : Option CtxId} (hinv : Inv w)
    (he : dwcEnter g cx w = some (save, w2)) (hr : r.tls = w2.tls) (hx : dwcExit g save r = some w3) : w3.tls = w.tls := by
  unfold dwcEnter at he
  cases hget : tlGet g ctxKey w with
  | some s =>
    obtain ⟨t, ht, hts⟩ := tls_of_tlGet hget
    simp only [hget, tlSet_eq ht, Option.some.injEq, Prod.mk.injEq] at he
    obtain ⟨rfl, rfl⟩ := he
    have htr : r.tls g = some (aset ctxKey cx t) := by rw [hr]; simp [note, tlPut]
    rw [dwcExit, tlSet_eq htr, aset_aset_restore cx hts] at hx
    cases hx
    funext g'
    by_cases hgg : g' = g
    · subst hgg; simp [tlPut, ht]
    · simp [tlPut, hgg, hr, note]
  | none =>
    simp only [hget, tlSet_tlInit, Option.some.injEq, Prod.mk.injEq] at he
    obtain ⟨rfl, rfl⟩ := he
    cases hx
    funext g'
    by_cases hgg : g' = g
    · subst hgg; simp [tlCleanup, (tlGet_none_iff hinv).1 hget]
    · simp [tlCleanup, hgg, hr, note, tlFresh]

/-- `px.DoWithContext` = entry, actor, deferred exit -/
theorem doWithContext_enter_exit (g : Gid) (cx : CtxId) (body : World → Outcome × World) (w : World) :
    doWithContext .now g cx body w =
      match dwcEnter g cx w with
      | none => (.panicked, w)
      | some sw =>
        match dwcExit g sw.1 (body sw.2).2 with
        | some w3 => ((body sw.2).1, w3)
        | none => (if (body sw.2).1 = .fuel then .fuel else .panicked, (body sw.2).2) := by
  unfold doWithContext dwcEnter
  cases tlGet g ctxKey w with
  | some save =>
    cases tlSet g ctxKey cx w with
    | none => rfl
    | some w1 => rfl
  | none => simp only [tlSet_tlInit, dwcExit, if_true]

end Pcore.Tls

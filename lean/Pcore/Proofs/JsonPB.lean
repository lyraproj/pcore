import Pcore.Model.Json
/-! C11, protobuf: the side condition on the arm table regenerated from `proto/convert.go` (`PBArmsOK`), and for any table
    satisfying it `fromPB ∘ toPB` is the identity on Data values (`pb_value`) and a `protoConsumer` fed by `consumePB` rebuilds
    the tree (`pb_stream`). -/
namespace Pcore.Json

mutual
def NoBin : DVal → Bool
  | .bin _ => false
  | .arr vs => NoBins vs
  | .hsh es => NoBines es
  | _ => true
def NoBins : List DVal → Bool
  | [] => true | v :: vs => NoBin v && NoBins vs
def NoBines : List (DVal × DVal) → Bool
  | [] => true | (k, v) :: es => NoBin k && NoBin v && NoBines es
end

/-- side condition on the regenerated arm table: the Data kinds have an arm in `ToPBData` and `FromPBData`,
    every kind has one in `ConsumePBData` -/
def PBArmsOK (a : PBArms) : Bool :=
  [PKind.bool, .flt, .int, .str, .arr, .hsh].all (fun k => a.toPB.contains k && a.fromPB.contains k) &&
  [PKind.bool, .flt, .int, .str, .arr, .hsh, .bin, .ref].all (fun k => a.consume.contains k)

theorem pbArmsOK_mem {a : PBArms} (h : PBArmsOK a = true) :
    (∀ k ∈ [PKind.bool, .flt, .int, .str, .arr, .hsh], k ∈ a.toPB ∧ k ∈ a.fromPB) ∧
    (∀ k ∈ [PKind.bool, .flt, .int, .str, .arr, .hsh, .bin, .ref], k ∈ a.consume) := by
  simpa only [PBArmsOK, Bool.and_eq_true, List.all_eq_true, List.contains_iff_mem] using h

mutual
theorem pb_value (a : PBArms) (ha : PBArmsOK a = true) : ∀ v : DVal, NoBin v = true → fromPB a (toPB a v) = v
  | .undef, _ => by simp [toPB, fromPB]
  | .bool _, _ => by simp [toPB, fromPB, (pbArmsOK_mem ha).1 .bool (by decide)]
  | .int _, _ => by simp [toPB, fromPB, (pbArmsOK_mem ha).1 .int (by decide)]
  | .flt _, _ => by simp [toPB, fromPB, (pbArmsOK_mem ha).1 .flt (by decide)]
  | .str _, _ => by simp [toPB, fromPB, (pbArmsOK_mem ha).1 .str (by decide)]
  | .bin _, h => by simp [NoBin] at h
  | .arr vs, h => by
      simp [toPB, fromPB, (pbArmsOK_mem ha).1 .arr (by decide), pb_values a ha vs (by simpa [NoBin] using h)]
  | .hsh es, h => by
      simp [toPB, fromPB, (pbArmsOK_mem ha).1 .hsh (by decide), pb_entries a ha es (by simpa [NoBin] using h)]
theorem pb_values (a : PBArms) (ha : PBArmsOK a = true) :
    ∀ vs : List DVal, NoBins vs = true → fromPBs a (toPBs a vs) = vs
  | [], _ => rfl
  | v :: vs, h => by
      have h' : NoBin v = true ∧ NoBins vs = true := by simpa [NoBins] using h
      simp [toPBs, fromPBs, pb_value a ha v h'.1, pb_values a ha vs h'.2]
theorem pb_entries (a : PBArms) (ha : PBArmsOK a = true) :
    ∀ es : List (DVal × DVal), NoBines es = true → fromPBes a (toPBes a es) = es
  | [], _ => rfl
  | (k, v) :: es, h => by
      have h' : (NoBin k = true ∧ NoBin v = true) ∧ NoBines es = true := by simpa [NoBines] using h
      simp [toPBes, fromPBes, pb_value a ha k h'.1.1, pb_value a ha v h'.1.2, pb_entries a ha es h'.2]
end

mutual
/-- feeding the events of `ConsumePBData(p)` to a `protoConsumer` rebuilds `p` -/
theorem pb_stream (a : PBArms) (ha : PBArmsOK a = true) : ∀ p : PB, protoConsume (consumePB a p) = some p
  | .bool _ => by simp [consumePB, PB.kind, (pbArmsOK_mem ha).2 .bool (by decide), protoConsume]
  | .flt _ => by simp [consumePB, PB.kind, (pbArmsOK_mem ha).2 .flt (by decide), protoConsume]
  | .int _ => by simp [consumePB, PB.kind, (pbArmsOK_mem ha).2 .int (by decide), protoConsume]
  | .str _ => by simp [consumePB, PB.kind, (pbArmsOK_mem ha).2 .str (by decide), protoConsume]
  | .undef => by simp [consumePB, PB.kind, protoConsume]
  | .bin _ => by simp [consumePB, PB.kind, (pbArmsOK_mem ha).2 .bin (by decide), protoConsume]
  | .ref _ => by simp [consumePB, (pbArmsOK_mem ha).2 .ref (by decide), protoConsume]
  | .arr vs => by simp [consumePB, (pbArmsOK_mem ha).2 .arr (by decide), protoConsume, pb_streams a ha vs]
  | .hsh es => by
      have ih := congrArg (Option.map PB.hsh) (pb_streames a ha es)
      rw [Option.map_bind] at ih
      simp only [consumePB, if_pos ((pbArmsOK_mem ha).2 .hsh (by decide)), protoConsume]
      exact ih
theorem pb_streams (a : PBArms) (ha : PBArmsOK a = true) :
    ∀ vs : List PB, protoConsumes (consumePBs a vs) = some vs
  | [] => rfl
  | v :: vs => by simp [consumePBs, protoConsumes, pb_stream a ha v, pb_streams a ha vs]
theorem pb_streames (a : PBArms) (ha : PBArmsOK a = true) :
    ∀ es : List (PB × PB), (protoConsumes (consumePBes a es)).bind pairUp = some es
  | [] => rfl
  | (k, v) :: es => by
      have ih := congrArg (Option.map ((k, v) :: ·)) (pb_streames a ha es)
      rw [Option.map_bind] at ih
      simp only [consumePBes, protoConsumes, pb_stream a ha k, pb_stream a ha v, Option.bind_some, Option.map_map,
        Option.bind_map]
      exact ih
end

end Pcore.Json

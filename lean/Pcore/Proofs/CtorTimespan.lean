import Pcore.Proofs.DispatchCtors
import Pcore.Model.CtorTimespan
/-!
The Timespan constructor (Model/CtorTimespan.lean): no fault arm is reachable; which of its dispatches runs.  Core Lean only.
-/
namespace Pcore.Dispatch.Alpha

theorem parseResult_no_fault (s : String) : parseResult s ≠ .fault := by
  unfold parseResult; split <;> simp

theorem int_req {ps : List (PKind × Ty)} {args : List Val} (h : DeclAccepts inst ((.req, .int none none) :: ps) args) :
    ∃ n rest, args = .int n :: rest ∧ DeclAccepts inst ps rest := by
  obtain ⟨a, rest, rfl, ha, hr⟩ := h.req
  obtain ⟨n, rfl, -⟩ := inst_int.mp ha
  exact ⟨n, rest, rfl, hr⟩

theorem int_opt {ps : List (PKind × Ty)} {args : List Val} (h : DeclAccepts inst ((.opt, .int none none) :: ps) args) :
    args = [] ∨ ∃ n rest, args = .int n :: rest ∧ DeclAccepts inst ps rest := by
  rcases h.opt with rfl | ⟨a, rest, rfl, ha, hr⟩
  · exact .inl rfl
  · obtain ⟨n, rfl, -⟩ := inst_int.mp ha
    exact .inr ⟨n, rest, rfl, hr⟩

theorem timespan_no_fault (args : List Val) : ctorCall timespanCtor args ≠ .fault := by
  refine ctorCall_no_fault _ ⟨_, rfl⟩ args fun i cr hcr h => ?_
  match i, hcr with
  | 0, hcr =>
    cases hcr
    obtain ⟨a0, rest, rfl, h0, -⟩ := h.req
    -- here and below: once the shape of the arguments is known the body computes to a value or a reported error
    cases a0 <;> simp [secondsTy, inst, instAny] at h0 <;> exact fun hf => nomatch hf
  | 1, hcr =>
    cases hcr
    obtain ⟨a0, rest, rfl, h0, -⟩ := h.req
    obtain ⟨s, rfl, -⟩ := inst_str.mp h0
    match rest with
    | [] => exact parseResult_no_fault _
    | _ :: _ => exact fun hf => nomatch hf
  | 2, hcr =>
    cases hcr
    obtain ⟨d, _, rfl, h1⟩ := int_req h
    obtain ⟨hr, _, rfl, h2⟩ := int_req h1
    obtain ⟨m, _, rfl, h3⟩ := int_req h2
    obtain ⟨s, _, rfl, h4⟩ := int_req h3
    rcases int_opt h4 with rfl | ⟨ms, _, rfl, h5⟩
    · exact fun hf => nomatch hf
    · rcases int_opt h5 with rfl | ⟨us, _, rfl, h6⟩
      · exact fun hf => nomatch hf
      · rcases int_opt h6 with rfl | ⟨ns, _, rfl, -⟩ <;> exact fun hf => nomatch hf
  | 3, hcr =>
    cases hcr
    obtain ⟨a0, rest, rfl, h0, -⟩ := h.req
    obtain ⟨es, rfl, -, hm⟩ := inst_struct _ (by decide) a0 h0
    simp only [timespanCtor]
    cases hf : lookupKey "format" es with
    | some _ => simp
    | none =>
      obtain ⟨x, hx, hix⟩ := named_value (name := "string") (t := .str 1 none) hm (by simp)
      obtain ⟨s, rfl, -⟩ := inst_str.mp hix
      simpa [hx] using parseResult_no_fault _
  | 4, hcr =>
    cases hcr
    obtain ⟨a0, rest, rfl, h0, -⟩ := h.req
    obtain ⟨es, rfl, -, -⟩ := inst_struct _ (by decide) a0 h0
    exact fun hf => nomatch hf
  | n + 5, hcr => cases hcr

/-- which dispatch of the Timespan constructor runs: the tuple tests of its table as the builder resolves it, from the front -/
theorem timespan_run (args : List Val) :
    run inst binst timespanCtor.creators args (none : Option Blk) = .called (
      if tupleInst inst [secondsTy] 1 (some 1) args then .ran 0
      else if tupleInst inst [.str 1 none, formatsTy] 1 (some 2) args then .ran 1
      else if tupleInst inst [.int none none, .int none none, .int none none, .int none none, .int none none, .int none none,
          .int none none] 4 (some 7) args then .ran 2
      else if tupleInst inst [spanStringHash] 1 (some 1) args then .ran 3
      else if tupleInst inst [spanFieldsHash] 1 (some 1) args then .ran 4
      else .reported) := by
  rw [run_built inst binst (cs := timespanCtor.creators) (ds :=
    [⟨[secondsTy], 1, some 1, .none⟩, ⟨[.str 1 none, formatsTy], 1, some 2, .none⟩,
     ⟨[.int none none, .int none none, .int none none, .int none none, .int none none, .int none none, .int none none],
       4, some 7, .none⟩,
     ⟨[spanStringHash], 1, some 1, .none⟩, ⟨[spanFieldsHash], 1, some 1, .none⟩]) rfl rfl]
  simp only [call, callFrom, callableWith_noBlock]

def fieldsHash (neg : Bool) (d h m s ms us ns : Int) : Val :=
  .hash [(.str "negative", .bool neg), (.str "days", .int d), (.str "hours", .int h), (.str "minutes", .int m),
    (.str "seconds", .int s), (.str "milliseconds", .int ms), (.str "microseconds", .int us), (.str "nanoseconds", .int ns)]

end Pcore.Dispatch.Alpha

import Pcore.Model.CtorNew
/-!
`new` returns an instance of the receiver: the skeleton (`newInstance`, any constructor function, arbitrary `T V inst`) and its
instance on the driver's alphabet `Alpha` (`newModel`), there also `new` as the constructor's answer asserted (`newOut`).  Core Lean only.
-/
namespace Pcore.Dispatch

section
variable {T V : Type} (inst : T → V → Bool)

/-- the type a `new` on this receiver must produce an instance of -/
def Recv.type? : Recv T V → Option T
  | .noCtor t => some t
  | .ctor t _ => some t
  | .init t _ => some t
  | .initNoCtor => none
  | .initDefault => none

theorem newInstance_init (t : T) (f : List V → CtorResult V) (args : List V) :
    newInstance inst (.init t f) args = newInstance inst (.ctor t f) args := rfl

theorem newInstance_ctor_value {t : T} {f : List V → CtorResult V} {args : List V} {r : V}
    (h : newInstance inst (.ctor t f) args = .value r) : inst t r = true := by
  simp only [newInstance] at h
  cases hf : f args with
  | reported c => simp [hf] at h
  | fault => simp [hf] at h
  | value v =>
    simp only [hf, assertInstance] at h
    by_cases hi : inst t v = true
    · simp [hi] at h; subst h; exact hi
    · simp [hi] at h

theorem newInstance_value (recv : Recv T V) (args : List V) (r : V) (h : newInstance inst recv args = .value r) :
    ∃ t, recv.type? = some t ∧ inst t r = true := by
  cases recv with
  | noCtor t => simp [newInstance] at h
  | initNoCtor => simp [newInstance] at h
  | initDefault => simp [newInstance] at h
  | ctor t f => exact ⟨t, rfl, newInstance_ctor_value inst h⟩
  | init t f => exact ⟨t, rfl, newInstance_ctor_value inst (newInstance_init inst t f args ▸ h)⟩

end

namespace Alpha

section
variable (pf : List Char → Option Nat)

def RecvTy.type? : RecvTy → Option Ty
  | .plain t => some t
  | .init t _ => some t
  | .initDefault => none

theorem newModel_some (r : RecvTy) (args : List Val) (o : NewOutcome Val) (h : newModel pf r args = some o) :
    ∃ recv, recvOf pf r = some recv ∧ newInstance inst recv args = o := by
  unfold newModel at h
  cases hr : recvOf pf r with
  | none => simp [hr] at h
  | some recv =>
    refine ⟨recv, rfl, ?_⟩
    simp only [hr] at h
    split at h
    · cases h
    · exact Option.some.inj h

theorem recvOf_some {r : RecvTy} {recv : Recv Ty Val} (h : recvOf pf r = some recv) :
    (∀ t, recv.type? = some t → r.type? = some t) ∧
    ∀ t f, (recv = .ctor t f ∨ recv = .init t f) → ∃ c, ctorOf pf t = .some c ∧ (f = ctorCall c ∨ ∃ ia, f = initCall c ia) := by
  cases r with
  | plain t0 =>
    simp only [recvOf] at h
    split at h <;> cases h
    · rename_i c hc; exact ⟨fun _ ht => ht, by rintro t f (hrf | hrf) <;> cases hrf; exact ⟨c, hc, .inl rfl⟩⟩
    · exact ⟨fun _ ht => ht, by rintro t f (hrf | hrf) <;> cases hrf⟩
  | init t0 ia =>
    simp only [recvOf] at h
    split at h <;> cases h
    · rename_i c hc; exact ⟨fun _ ht => ht, by rintro t f (hrf | hrf) <;> cases hrf; exact ⟨c, hc, .inr ⟨ia, rfl⟩⟩⟩
    · exact ⟨fun _ ht => (by cases ht), by rintro t f (hrf | hrf) <;> cases hrf⟩
  | initDefault => cases h; exact ⟨fun _ ht => (by cases ht), by rintro t f (hrf | hrf) <;> cases hrf⟩

theorem newModel_value (r : RecvTy) (args : List Val) (v : Val) (h : newModel pf r args = some (.value v)) :
    ∃ t, r.type? = some t ∧ inst t v = true := by
  obtain ⟨recv, hr, hn⟩ := newModel_some pf r args _ h
  obtain ⟨t, ht, hi⟩ := newInstance_value inst recv args v hn
  exact ⟨t, (recvOf_some pf hr).1 t ht, hi⟩

theorem newModel_plain_value {t : Ty} {args : List Val} {v : Val} (h : newModel pf (.plain t) args = some (.value v)) :
    inst t v = true := by
  obtain ⟨_, ht, hi⟩ := newModel_value pf _ args v h
  cases ht; exact hi

theorem newModel_init_value {t : Ty} {ia args : List Val} {v : Val} (h : newModel pf (.init t ia) args = some (.value v)) :
    inst t v = true := by
  obtain ⟨_, ht, hi⟩ := newModel_value pf _ args v h
  cases ht; exact hi

/-- what `new` makes of a constructor's answer: a value is asserted against the receiver, `UNMODELLED` is no answer -/
def newOut (t : Ty) : CtorResult Val → Option (NewOutcome Val)
  | .value r => some (assertInstance inst t r)
  | .reported c => if c = "UNMODELLED" then none else some (.reported c)
  | .fault => some .fault

theorem newInstance_newOut (t : Ty) (f : List Val → CtorResult Val) (args : List Val) :
    (match newInstance inst (.ctor t f) args with
      | .reported "UNMODELLED" => none
      | o => some o) = newOut t (f args) := by
  simp only [newInstance]
  cases f args with
  | value r => simp only [newOut, assertInstance]; cases inst t r <;> simp
  | reported c =>
    simp only [newOut]
    split
    · rename_i h; cases h; rfl
    · rename_i h; split
      · rename_i hc; subst hc; exact absurd rfl (h)
      · rfl
  | fault => rfl

theorem newModel_plain {t : Ty} {c : Ctor} (hc : ctorOf pf t = .some c) (args : List Val) :
    newModel pf (.plain t) args = newOut t (ctorCall c args) := by
  simp only [newModel, recvOf, hc]
  exact newInstance_newOut t _ args

theorem newModel_init {t : Ty} {c : Ctor} (hc : ctorOf pf t = .some c) (ia args : List Val) :
    newModel pf (.init t ia) args = newOut t (initCall c ia args) := by
  simp only [newModel, recvOf, hc, newInstance_init]
  exact newInstance_newOut t _ args
theorem newModel_noCtor {t : Ty} (hc : ctorOf pf t = .none) (ia args : List Val) :
    newModel pf (.plain t) args = some (.reported "INSTANCE_DOES_NOT_RESPOND") ∧
    newModel pf (.init t ia) args = some (.reported "CTOR_NOT_FOUND") := by
  simp [newModel, recvOf, hc, newInstance]

theorem newModel_plain_eq (t : Ty) (args : List Val) :
    newModel pf (.plain t) args =
      match ctorOf pf t with
      | .some c => newOut t (ctorCall c args)
      | .none => some (.reported "INSTANCE_DOES_NOT_RESPOND") := by
  cases hc : ctorOf pf t with
  | some c => exact newModel_plain pf hc args
  | none => exact (newModel_noCtor pf hc [] args).1

theorem newInstance_no_fault {T V : Type} (inst : T → V → Bool) (recv : Recv T V) (args : List V)
    (hf : ∀ t f, (recv = .ctor t f ∨ recv = .init t f) → f args ≠ .fault) : newInstance inst recv args ≠ .fault := by
  have ctor : ∀ t f, f args ≠ .fault → newInstance inst (.ctor t f) args ≠ .fault := by
    intro t f hfa
    simp only [newInstance]
    cases h : f args with
    | fault => exact absurd h hfa
    | reported _ => simp
    | value v => simp only [assertInstance]; split <;> simp
  cases recv with
  | noCtor t => simp [newInstance]
  | initNoCtor => simp [newInstance]
  | initDefault => simp [newInstance]
  | ctor t f => exact ctor t f (hf t f (.inl rfl))
  | init t f => exact newInstance_init inst t f args ▸ ctor t f (hf t f (.inr rfl))

end

end Alpha

end Pcore.Dispatch

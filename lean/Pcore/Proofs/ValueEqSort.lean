import Pcore.Proofs.ValueEqBytes
import Pcore.Proofs.InsertionSort
/-! Helper lemmas for C07: `sort.Strings` (model: `sortB`) yields the same list exactly for permutations; sorting and dropping
    repetitions (`dedupS`) yields the same list exactly for the same set of members. -/
namespace Pcore.ValueEq

theorem bytesLe_iff : ∀ a b : Bytes, bytesLe a b = true ↔ a ≤ b
  | [], b => by simp [bytesLe, List.nil_le]
  | _ :: _, [] => by simp [bytesLe, List.le_nil]
  | a :: as, b :: bs => by
      rw [List.cons_le_cons_iff, ← bytesLe_iff as bs]
      simp only [bytesLe]
      by_cases h1 : a < b
      · simp [h1]
      · by_cases h2 : b < a
        · have : a ≠ b := fun e => by subst e; exact h1 h2
          simp [h1, h2, this]
        · have : a = b := UInt8.le_antisymm (UInt8.not_lt.mp h2) (UInt8.not_lt.mp h1)
          simp [this]

theorem bytesLe_total (a b : Bytes) : bytesLe a b = true ∨ bytesLe b a = true := by
  rw [bytesLe_iff, bytesLe_iff]; exact List.le_total a b

theorem bytesLe_antisymm (a b : Bytes) (h1 : bytesLe a b = true) (h2 : bytesLe b a = true) : a = b :=
  List.le_antisymm ((bytesLe_iff a b).mp h1) ((bytesLe_iff b a).mp h2)

theorem bytesLe_trans (a b c : Bytes) (h1 : bytesLe a b = true) (h2 : bytesLe b c = true) : bytesLe a c = true :=
  (bytesLe_iff a c).mpr (List.le_trans ((bytesLe_iff a b).mp h1) ((bytesLe_iff b c).mp h2))

theorem sortB_is : InsertionSort.Is bytesLe insertB sortB := ⟨fun _ => rfl, fun _ _ _ => rfl, rfl, fun _ _ => rfl⟩

theorem sortB_perm (l : List Bytes) : (sortB l).Perm l := sortB_is.perm l

theorem sortB_sorted (l : List Bytes) : (sortB l).Pairwise (fun a b => bytesLe a b = true) :=
  sortB_is.pairwise (fun _ _ h => h) (fun x y h => (bytesLe_total x y).resolve_left (by rw [h]; exact Bool.false_ne_true))
    bytesLe_trans l

theorem sortB_eq_iff (a b : List Bytes) : sortB a = sortB b ↔ a.Perm b := by
  constructor
  · intro h
    exact (sortB_perm a).symm.trans (h ▸ sortB_perm b)
  · intro h
    exact List.Perm.eq_of_pairwise (fun x y _ _ => bytesLe_antisymm x y) (sortB_sorted a) (sortB_sorted b)
      ((sortB_perm a).trans (h.trans (sortB_perm b).symm))

/-! ### the distinct members of a sorted list: a canonical form of the SET of members -/

theorem dedupS_mem : ∀ (l : List Bytes) (x : Bytes), x ∈ dedupS l ↔ x ∈ l
  | [], _ => by simp [dedupS]
  | [_], _ => by simp [dedupS]
  | a :: b :: r, x => by
      simp only [dedupS]
      split
      · rename_i h
        have e : a = b := by simpa using h
        rw [dedupS_mem (b :: r) x]; subst e; simp
      · rw [List.mem_cons, dedupS_mem (b :: r) x, List.mem_cons (a := x) (b := a)]

theorem dedupS_strict : ∀ (l : List Bytes), l.Pairwise (fun a b => bytesLe a b = true) →
    (dedupS l).Pairwise (fun a b => bytesLe a b = true ∧ a ≠ b)
  | [], _ => by simp [dedupS]
  | [_], _ => by simp [dedupS]
  | a :: b :: r, h => by
      simp only [dedupS]
      split
      · exact dedupS_strict (b :: r) h.tail
      · rename_i hab
        have hne : a ≠ b := by simpa using hab
        refine List.Pairwise.cons ?_ (dedupS_strict (b :: r) h.tail)
        intro z hz
        have hz' : z ∈ b :: r := (dedupS_mem (b :: r) z).mp hz
        refine ⟨List.rel_of_pairwise_cons h hz', ?_⟩
        intro e
        subst e
        rcases List.mem_cons.mp hz' with e | hz''
        · exact hne e
        · have h1 : bytesLe b a = true := List.rel_of_pairwise_cons h.tail hz''
          have h2 : bytesLe a b = true := List.rel_of_pairwise_cons h List.mem_cons_self
          exact hne (bytesLe_antisymm a b h2 h1)

theorem dedupS_sortB_eq_iff (a b : List Bytes) : dedupS (sortB a) = dedupS (sortB b) ↔ ∀ x, x ∈ a ↔ x ∈ b := by
  have mem : ∀ (l : List Bytes) (x : Bytes), x ∈ dedupS (sortB l) ↔ x ∈ l := fun l x => by
    rw [dedupS_mem]; exact (sortB_perm l).mem_iff
  constructor
  · intro h x
    rw [← mem a x, ← mem b x, h]
  · intro h
    have sa := dedupS_strict _ (sortB_sorted a)
    have sb := dedupS_strict _ (sortB_sorted b)
    have pm : (dedupS (sortB a)).Perm (dedupS (sortB b)) :=
      (List.perm_ext_iff_of_nodup (sa.imp (fun h => h.2)) (sb.imp (fun h => h.2))).mpr
        (fun x => by rw [mem a x, mem b x]; exact h x)
    exact List.Perm.eq_of_pairwise (fun x y _ _ hxy hyx => bytesLe_antisymm x y hxy.1 hyx.1) sa sb pm

end Pcore.ValueEq

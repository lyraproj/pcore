import Pcore.Proofs.TlsDefs
import Pcore.Proofs.TlsMicro
/-!
The small-step interleaving semantics (`Model/TlsSmall.lean`) for C14: what one micro-step of one goroutine guarantees
(`GSpec`; `Micro.spec`, by cases on the kinds of step of `Proofs/TlsMicro.lean`, hence `stepG_spec`) when its continuation agrees
with its current context (`GOK`, `StackOK`); `Proofs/TlsReach.lean` makes
that an invariant of every configuration reachable by ANY sequence of micro-steps of ANY goroutines.  The world-level facts
reuse `Inv`/`Step`/`Loc` and the entry and exit of `DoWithContext` of the big-step development (the small-step worlds have no
`pending` goroutines: they live in `Cfg.gs`).  Last, which entry tables a micro-step can write (`Micro.defs`, `stepG_defs`): a
fact about single steps that needs no invariant.
-/
namespace Pcore.Tls

theorem not_pend_of_nil {w : World} (h : w.pending = []) (g : Gid) : g ∉ pendGids w := by simp [pendGids, h]
theorem not_pendc_of_nil {w : World} (h : w.pending = []) (c : CtxId) : c ∉ pendCtxs w := by simp [pendCtxs, h]

/-- `cur` is what `threadlocal.Get(PuppetContextKey)` answers on the goroutine now; the continuation is consistent with it:
    a body runs with the context it was handed as the current one, a deferred restore puts back the context the frames
    below it expect, and every context the goroutine works on was installed for it -/
def StackOK (gid : Gid) (est : List (Gid × CtxId)) : Option CtxId → List Frame → Prop
  | cur, [] => cur = none
  | cur, .run _ c :: k => cur = some c ∧ (gid, c) ∈ est ∧ StackOK gid est cur k
  | cur, .parent _ _ _ root :: k => cur = some root ∧ (gid, root) ∈ est ∧ StackOK gid est cur k
  | cur, .restoreCtx save :: k => cur.isSome = true ∧ StackOK gid est save k
  | cur, .restoreLoader c _ :: k => (gid, c) ∈ est ∧ StackOK gid est cur k
  | cur, .catchK :: k => StackOK gid est cur k
  | _, .endG :: k => k = []
  | cur, .endRoot :: k => k = [] ∧ cur = none

theorem StackOK.mono {gid : Gid} {est est' : List (Gid × CtxId)} (hm : ∀ e ∈ est, e ∈ est') :
    ∀ {k : List Frame} {cur : Option CtxId}, StackOK gid est cur k → StackOK gid est' cur k := by
  intro k
  induction k with
  | nil => intro cur h; exact h
  | cons f k ih =>
    intro cur h
    cases f with
    | run p c => exact ⟨h.1, hm _ h.2.1, ih h.2.2⟩
    | parent id ctch p root => exact ⟨h.1, hm _ h.2.1, ih h.2.2⟩
    | restoreCtx save => exact ⟨h.1, ih h.2⟩
    | restoreLoader c l => exact ⟨hm _ h.1, ih h.2⟩
    | catchK => exact ih h
    | endG => exact h
    | endRoot => exact h

structure GOK (w : World) (g : GS) : Prop where
  glt : g.gid < w.nextGid
  unst : g.started = false → w.tls g.gid = none ∧ g.ctx0 < w.nextCtx ∧ (∀ g', (g', g.ctx0) ∉ w.estab) ∧
    g.panicking = false ∧ ∃ p, g.k = [.run p g.ctx0, .endG]
  st : g.started = true → StackOK g.gid w.estab (tlGet g.gid ctxKey w) g.k

theorem GOK.run_unst {w : World} {g : GS} (h : GOK w g) (hs : g.started = false) {p : Prog} {cx : CtxId}
    (hm : Frame.run p cx ∈ g.k) : cx = g.ctx0 := by
  obtain ⟨_, _, _, _, q, hk⟩ := h.unst hs
  rw [hk] at hm
  simp at hm
  exact hm.2

/-- `Fork` forks the body's context, `Go` the current one: under `GOK` the same -/
theorem GOK.spawn_src {w : World} {gid ctx0 : Nat} {q p : Prog} {c src : CtxId} {k : List Frame}
    (hg : GOK w ⟨gid, ctx0, true, false, .run q c :: k⟩)
    (hq : q = .fork p ∧ src = c ∨ q = .go p ∧ tlGet gid ctxKey w = some src) : src = c := by
  rcases hq with ⟨_, h⟩ | ⟨_, h⟩
  · exact h
  · have := (hg.st rfl).1; simp only at this; rw [h] at this; exact Option.some.inj this

structure GSpec (g : GS) (w : World) (r : StepR) : Prop where
  inv : Inv r.w
  pend : r.w.pending = []
  ctxMono : w.nextCtx ≤ r.w.nextCtx
  ldMono : w.nextLoader ≤ r.w.nextLoader
  estMono : ∀ e ∈ w.estab, e ∈ r.w.estab
  loc : Loc g.gid (if g.started = true then none else some g.ctx0) w r.w
  logOK : LogOK w → LogOK r.w
  /-- only context objects installed for this goroutine (or made for it, before it starts) are written -/
  frame : ∀ i, i < w.nextCtx → (g.gid, i) ∉ w.estab → ¬(g.started = false ∧ i = g.ctx0) → r.w.ctxs i = w.ctxs i
  gid : r.g.gid = g.gid
  ctx0 : r.g.ctx0 = g.ctx0
  gok : GOK r.w r.g
  started : r.g.started = true
  nextGid : r.w.nextGid = w.nextGid + (if r.spawned.isSome then 1 else 0)
  spawned : ∀ n, r.spawned = some n → n.gid = w.nextGid ∧ GOK r.w n ∧ n.started = false ∧ n.ctx0 = w.nextCtx ∧
    (r.w.ctxs n.ctx0).vars = (w.ctxs (match g.k with | .run _ c :: _ => c | _ => 0)).vars ∧
    (r.w.ctxs n.ctx0).stack = (w.ctxs (match g.k with | .run _ c :: _ => c | _ => 0)).stack

theorem GSpec.est_cases {g : GS} {w : World} {r : StepR} (sp : GSpec g w r) (b : Gid) (i : CtxId)
    (hm : (b, i) ∈ r.w.estab) :
    (b, i) ∈ w.estab ∨ (b = g.gid ∧ (w.nextCtx ≤ i ∨ (g.started = false ∧ i = g.ctx0))) := by
  rcases sp.loc.est _ hm with h | ⟨h1, h2⟩
  · exact Or.inl h
  · refine Or.inr ⟨h1, h2.imp_right fun h => ?_⟩
    cases hs : g.started with
    | true => simp [hs] at h
    | false => simpa [hs] using h

theorem mkSpec {g : GS} {w w' : World} {x : Option CtxId} {g' : GS}
    (hp : w.pending = [])
    (s : Step x w w') (l : Loc g.gid (if g.started = true then none else some g.ctx0) w w')
    (hld : w.nextLoader ≤ w'.nextLoader)
    (hx : ∀ i, x = some i → i < w.nextCtx → (g.gid, i) ∈ w.estab ∨ (g.started = false ∧ i = g.ctx0))
    (hgid : g'.gid = g.gid) (hc0 : g'.ctx0 = g.ctx0) (hng : w'.nextGid = w.nextGid) (hgl : g.gid < w.nextGid)
    (hst : g'.started = true) (hk : StackOK g.gid w'.estab (tlGet g.gid ctxKey w') g'.k) :
    GSpec g w { g := g', w := w', spawned := none } where
  inv := s.inv
  pend := by rw [l.pend, hp]
  ctxMono := s.ctxMono
  ldMono := hld
  estMono := s.estMono
  loc := l
  logOK := s.logOK
  frame := by
    intro i hi hne hn0
    apply s.frame i hi ?_ (Or.inl (not_pendc_of_nil hp i))
    intro hxe
    rcases hx i hxe.symm hi with h | h
    · exact hne h
    · exact hn0 h
  gid := hgid
  ctx0 := hc0
  gok := ⟨by rw [hgid, hng]; exact hgl, fun h => (by rw [hst] at h; cases h), fun _ => (by rw [hgid]; exact hk)⟩
  started := hst
  nextGid := by simp [hng]
  spawned := by intro n h; cases h

theorem tlGet_emit (g g' : Gid) (e : Ev) (w : World) : tlGet g ctxKey (emit g' e w) = tlGet g ctxKey w := rfl
theorem tlGet_ctxUpd (g : Gid) (c : CtxId) (f : Ctx → Ctx) (w : World) : tlGet g ctxKey (ctxUpd c f w) = tlGet g ctxKey w := rfl

/-- a micro-step of a started goroutine that starts none; the context object it may write (`x`) was installed for it or is new -/
theorem mkSpecS {gid ctx0 : Nat} {pn : Bool} {k : List Frame} {w w' : World} {x : Option CtxId} {pn' : Bool} {k' : List Frame}
    (hp : w.pending = []) (hgl : gid < w.nextGid) (s : Step x w w') (l : Loc gid none w w')
    (hld : w.nextLoader ≤ w'.nextLoader)
    (hx : ∀ i, x = some i → (gid, i) ∈ w.estab ∨ w.nextCtx ≤ i)
    (hng : w'.nextGid = w.nextGid)
    (hk : StackOK gid w'.estab (tlGet gid ctxKey w') k') :
    GSpec ⟨gid, ctx0, true, pn, k⟩ w { g := ⟨gid, ctx0, true, pn', k'⟩, w := w' } :=
  mkSpec (x := x) hp s (by simpa using l) hld
    (fun i hi hlt => (hx i hi).elim Or.inl (fun h => absurd hlt (Nat.not_lt.2 h))) rfl rfl hng hgl rfl hk

/-- `px.Fork` / `px.Go` as a micro-step: the new goroutine is there, not started, with a context of its own that holds
    the caller's variables and stack of this moment -/
theorem spawn_spec {gid ctx0 : Nat} {k : List Frame} {c : CtxId} {p q : Prog} {w : World}
    (hinv : Inv w) (hp : w.pending = []) (hg : GOK w ⟨gid, ctx0, true, false, .run q c :: k⟩) :
    GSpec ⟨gid, ctx0, true, false, .run q c :: k⟩ w
      ⟨⟨gid, ctx0, true, false, k⟩, { (forkCtx c w).2 with nextGid := w.nextGid + 1 },
        some ⟨w.nextGid, w.nextCtx, false, false, [.run p w.nextCtx, .endG]⟩⟩ := by
  have hst := hg.st rfl
  simp only at hst
  have s1 : Step none w (forkCtx c w).2 := forkCtx_step hinv
  have s := s1.seq (bump_step s1.inv)
  exact {
    inv := s.inv
    pend := hp
    ctxMono := s.ctxMono
    ldMono := Nat.le_succ _
    estMono := s.estMono
    loc := Loc.of_same rfl rfl rfl
    logOK := s.logOK
    frame := fun i hi _ _ => s.frame i hi (by simp) (Or.inl (not_pendc_of_nil hp i))
    gid := rfl
    ctx0 := rfl
    gok := ⟨Nat.lt_succ_of_lt hg.glt, fun h => (by cases h), fun _ => hst.2.2⟩
    started := rfl
    nextGid := by simp
    spawned := by
      intro n hn
      simp only [Option.some.injEq] at hn
      subst hn
      refine ⟨rfl, ⟨Nat.lt_succ_self _, fun _ => ⟨hinv.tlsFresh _ (Nat.le_refl _), Nat.lt_succ_self _,
        ctx_fresh_not_estab (w := w) hinv, rfl, p, rfl⟩, fun h => (by cases h)⟩, rfl, rfl, ?_, ?_⟩
      · simp [forkCtx_ctxs]
      · simp [forkCtx_ctxs] }

/-- a micro-step that enters a `DoWithContext` scope on the context it has just made (`w.nextCtx`): what it did before the entry
    (`w` to `w0`: allocate, fork, tag) and after it (`w2` to `wf`: tag) touches that context and fresh loaders only; `f` is the
    frame that runs inside the scope -/
theorem scopeSpec {gid ctx0 : Nat} {pn : Bool} {k0 k : List Frame} {f : Frame} {w w0 w2 wf : World} {save : Option CtxId}
    (hp : w.pending = []) (hgl : gid < w.nextGid)
    (s0 : Step (some w.nextCtx) w w0) (t0 : w0.tls = w.tls) (e0 : w0.estab = w.estab) (p0 : w0.pending = w.pending)
    (g0 : w0.nextGid = w.nextGid) (n0 : w.nextLoader ≤ w0.nextLoader)
    (sp : EnterSpec gid w.nextCtx w0 save w2)
    (s3 : Step (some w.nextCtx) w2 wf) (t3 : wf.tls = w2.tls) (e3 : wf.estab = w2.estab) (p3 : wf.pending = w2.pending)
    (g3 : wf.nextGid = w2.nextGid) (n3 : wf.nextLoader = w2.nextLoader)
    (hf : ∀ est cur, cur = some w.nextCtx ∧ (gid, w.nextCtx) ∈ est ∧ StackOK gid est cur (.restoreCtx save :: k) →
      StackOK gid est cur (f :: .restoreCtx save :: k))
    (hk : StackOK gid w.estab (tlGet gid ctxKey w) k) :
    GSpec ⟨gid, ctx0, true, pn, k0⟩ w { g := ⟨gid, ctx0, true, false, f :: .restoreCtx save :: k⟩, w := wf } := by
  have s02 : Step (some w.nextCtx) w w2 := s0.andThen sp.s
  have hcur : tlGet gid ctxKey wf = some w.nextCtx := (tlGet_congr (by rw [t3])).trans sp.cur
  refine mkSpecS (x := some w.nextCtx) hp hgl (s02.seq s3) ?_ (by rw [n3, sp.nl]; exact n0)
    (fun _ h => by cases h; exact Or.inr (Nat.le_refl _)) (by rw [g3, sp.ng, g0]) ?_
  · exact Loc.fresh (cx := w.nextCtx) (((Loc.of_same t0 e0 p0).trans sp.l s0.ctxMono).trans (Loc.of_same t3 e3 p3) s02.ctxMono)
      (Nat.le_refl _)
  · refine hf _ _ ⟨hcur, e3 ▸ sp.est, by rw [hcur]; rfl, ?_⟩
    rw [sp.save, tlGet_congr (congrFun t0 gid)]
    exact StackOK.mono (s02.seq s3).estMono hk

/-- `pcore.Do` / `pcore.Try` up to the call of `DoWithParent` (any current context, also none) -/
theorem doroot_spec {gid ctx0 : Nat} {k0 k : List Frame} {id : Nat} {ctch : Bool} {p : Prog} {w w2 : World} {save : Option CtxId}
    (hinv : Inv w) (hp : w.pending = []) (hgl : gid < w.nextGid) (hk : StackOK gid w.estab (tlGet gid ctxKey w) k)
    (h : dwcEnter gid w.nextCtx (newCtx { loader := [0] } w).2 = some (save, w2)) :
    GSpec ⟨gid, ctx0, true, false, k0⟩ w
      { g := ⟨gid, ctx0, true, false, .parent id ctch p w.nextCtx :: .restoreCtx save :: k⟩, w := w2 } := by
  have s0 : Step none w (newCtx { loader := [0] } w).2 := newCtx_step hinv
  have sp := dwcEnter_spec h s0.inv hgl (not_pend_of_nil hp _) (Unused.new hinv rfl rfl rfl)
  exact scopeSpec hp hgl s0.weaken rfl rfl rfl rfl (Nat.le_refl _) sp (Step.refl sp.s.inv) rfl rfl rfl rfl rfl (fun _ _ h => h) hk

theorem Shuffle.stackOK {pn pn' : Bool} {k k' : List Frame} (h : Shuffle pn k pn' k') {gid : Gid} {est : List (Gid × CtxId)}
    {cur : Option CtxId} (hs : StackOK gid est cur k) : StackOK gid est cur k' := by
  cases h with
  | nil => exact hs
  | unwindRun => exact hs.2.2
  | unwindParent => exact hs.2.2
  | skip => exact hs.2.2
  | seq => exact ⟨hs.1, hs.2.1, hs.1, hs.2.1, hs.2.2⟩
  | recover => exact ⟨hs.1, hs.2.1, hs.2.2⟩
  | catchK => exact hs

/-- every kind of micro-step meets the specification; deferred functions (`restoreCtx`, `restoreLoader`, the bottom frames) do
    the same whether they run on return or while a panic unwinds -/
theorem Micro.spec {g : GS} {w : World} {r : StepR} (h : Micro g w r) (hinv : Inv w) (hp : w.pending = []) (hg : GOK w g) :
    GSpec g w r := by
  have hgl := hg.glt
  have hgp : ∀ x, x ∉ pendGids w := not_pend_of_nil hp
  have hcp : ∀ x, x ∉ pendCtxs w := not_pendc_of_nil hp
  cases h with
  | start gid ctx0 pn k =>
    obtain ⟨htl, hc0, hne, hpn, p, hk⟩ := hg.unst rfl
    simp only at hgl htl hc0 hne hpn hk
    have en := dwcEnter_spec (dwcEnter_of_no_table htl) hinv hgl (hgp _) ⟨hc0, hcp _, hne⟩
    have s3 := setTag_step (c := ctx0) (x := 1000 + gid) en.s.inv
    refine mkSpec (x := some ctx0) hp (en.s.weaken.seq s3) ?_ (Nat.le_refl _) ?_ rfl rfl rfl hgl rfl ?_
    · simp only [Bool.false_eq_true, if_false]
      exact en.l.trans (Loc.of_same rfl rfl rfl) (Nat.le_refl _)
    · intro i hi _
      exact Or.inr ⟨rfl, (Option.some.inj hi).symm⟩
    · subst hk
      exact ⟨en.cur, en.est, rfl⟩
  | move gid ctx0 _ hS =>
    exact mkSpecS (x := none) hp hgl (Step.refl hinv) Loc.refl (Nat.le_refl _) (fun _ h => nomatch h) rfl (hS.stackOK (hg.st rfl))
  | goNone gid ctx0 p c k _ h =>
    have := (hg.st rfl).1
    simp only at this
    rw [h] at this; cases this
  | exitFail gid ctx0 pn save k _ h =>
    obtain ⟨w1, he⟩ := dwcExit_some (save := save) (hg.st rfl).1
    rw [h] at he; cases he
  | leaf gid ctx0 l c k =>
    obtain ⟨hcur, hest, hk⟩ := hg.st rfl
    obtain ⟨s, ht⟩ := leafStep_step (l := l) ⟨hinv, hcur, hgl, hgp _, hest⟩
    obtain ⟨cs, d, lg, hw⟩ := (leafStep_nf gid c l w).eq
    refine mkSpecS (x := some c) hp hgl s (Loc.of_same ht (by rw [hw]) (by rw [hw])) (by rw [hw]; exact Nat.le_refl _)
      (fun _ h => by cases h; exact Or.inl hest) (by rw [hw]) ?_
    rw [show (leafStep gid c l w).2.estab = w.estab by rw [hw], tlGet_congr (congrFun ht gid)]
    exact hk
  | doctx gid ctx0 id p c k _ save w2 h =>
    obtain ⟨hcur, _, hk⟩ := hg.st rfl
    have sF : Step none w (forkCtx c w).2 := forkCtx_step hinv
    have sV : Step (some w.nextCtx) (forkCtx c w).2 (setTag w.nextCtx id (forkCtx c w).2) := setTag_step sF.inv
    have sp := dwcEnter_spec h sV.inv hgl (hgp _) (Unused.new hinv rfl rfl rfl)
    exact scopeSpec hp hgl (sF.weaken.seq sV) rfl rfl rfl rfl (Nat.le_succ _) sp (Step.refl sp.s.inv) rfl rfl rfl rfl rfl
      (fun _ _ h => h) (hcur ▸ hk)
  | doroot gid ctx0 q id ctch p c k _ save w2 hq h => exact doroot_spec hinv hp hgl (hg.st rfl).2.2 h
  | parent gid ctx0 id ctch p root k _ save w2 h =>
    obtain ⟨hcur, _, hk⟩ := hg.st rfl
    have sF : Step none w (forkCtx root w).2 := forkCtx_step hinv
    have sp := dwcEnter_spec h sF.inv hgl (hgp _) (Unused.new hinv rfl rfl rfl)
    refine scopeSpec hp hgl sF.weaken rfl rfl rfl rfl (Nat.le_succ _) sp (setTag_step sp.s.inv) rfl rfl rfl rfl rfl
      (fun _ _ h => h) ?_
    cases ctch <;> exact hcur ▸ hk
  | exit gid ctx0 pn save k _ w1 h =>
    have hst := hg.st rfl
    have sp := dwcExit_spec h hinv hgl (hgp _)
    refine mkSpecS (x := none) hp hgl sp.s sp.l (by rw [sp.nl]; exact Nat.le_refl _) (fun _ h => nomatch h) sp.ng ?_
    rw [sp.cur, sp.est]; exact hst.2
  | loaderIn gid ctx0 p c k =>
    obtain ⟨hcur, hest, hk⟩ := hg.st rfl
    have s1 : Step none w (newLoader w).2 := newLoader_step hinv
    have s2 := ctxUpd_step (c := c) (f := fun y => { y with loader := w.nextLoader :: (w.ctxs c).loader }) s1.inv
    exact mkSpecS (x := some c) hp hgl (s1.weaken.seq s2) (Loc.of_same rfl rfl rfl) (Nat.le_succ _)
      (fun _ h => by cases h; exact Or.inl hest) rfl ⟨hcur, hest, hest, hk⟩
  | loaderOut gid ctx0 pn c l k =>
    have hst := hg.st rfl
    exact mkSpecS (x := some c) hp hgl (ctxUpd_step hinv) (Loc.of_same rfl rfl rfl) (Nat.le_refl _)
      (fun _ h => by cases h; exact Or.inl hst.1) rfl hst.2
  | spawn gid ctx0 q c src p k _ hq =>
    obtain rfl := hg.spawn_src hq
    exact spawn_spec hinv hp hg
  | recovered gid ctx0 k =>
    exact mkSpecS (x := none) hp hgl (emit_step hinv EvOK.recovered) (Loc.of_same rfl rfl rfl) (Nat.le_refl _)
      (fun _ h => nomatch h) rfl (hg.st rfl)
  | endG gid ctx0 pn k =>
    have s1 := emit_step (g := gid) (e := .done (if pn then .panicked else .normal)) hinv EvOK.done
    have s2 := tlCleanup_step (g := gid) s1.inv hgl (hgp _)
    refine mkSpecS (x := none) hp hgl (s1.seq s2)
      (Loc.trans (w1 := emit gid (.done (if pn then .panicked else .normal)) w) (Loc.of_same rfl rfl rfl) (tlsUpd_loc (o := none))
        (Nat.le_refl _))
      (Nat.le_refl _) (fun _ h => nomatch h) rfl ?_
    simp [StackOK, tlGet, tlCleanup]
  | endRoot gid ctx0 pn k =>
    exact mkSpecS (x := none) hp hgl (emit_step hinv EvOK.done) (Loc.of_same rfl rfl rfl) (Nat.le_refl _)
      (fun _ h => nomatch h) rfl (hg.st rfl).2

theorem stepG_spec {g : GS} {w : World} (hinv : Inv w) (hp : w.pending = []) (hg : GOK w g) : GSpec g w (stepG g w) :=
  (stepG_micro g w).spec hinv hp hg

/-- a micro-step writes an existing loader's entry table only if it is the defining loader (head of the chain) of the context
    of the stepping goroutine's next body frame; no invariant is needed -/
theorem Micro.defs {g : GS} {w : World} {r : StepR} (h : Micro g w r) (l : Nat) (hl : l < w.nextLoader)
    (hne : ∀ q c k, g.k = .run q c :: k → some l ≠ headOf w c) : r.w.defs l = w.defs l := by
  have hnl : l ≠ w.nextLoader := Nat.ne_of_lt hl
  cases h with
  | leaf gid ctx0 lf c k => exact leafStep_defs gid c lf w l (hne _ c k rfl)
  | doctx _ _ id _ c _ _ _ _ h => obtain ⟨t, rfl⟩ := dwcEnter_fields h; exact forkCtx_defs c w l hnl
  | doroot _ _ _ _ _ _ _ _ _ _ _ _ h => obtain ⟨t, rfl⟩ := dwcEnter_fields h; rfl
  | parent _ _ _ _ _ root _ _ _ _ h => obtain ⟨t, rfl⟩ := dwcEnter_fields h; exact forkCtx_defs root w l hnl
  | exit _ _ _ _ _ _ _ h => obtain ⟨t, rfl⟩ := dwcExit_fields h; rfl
  | loaderIn => simp [ctxUpd, newLoader, hnl]
  | spawn _ _ _ _ src => exact forkCtx_defs src w l hnl
  | _ => rfl

theorem stepG_defs (g : GS) (w : World) (l : Nat) (hl : l < w.nextLoader)
    (hne : ∀ q c k, g.k = .run q c :: k → some l ≠ headOf w c) : (stepG g w).w.defs l = w.defs l :=
  (stepG_micro g w).defs l hl hne

end Pcore.Tls

import Pcore.Proofs.Json
/-! C11: `read (ref1 e) = some e` — the reader inverts the reference printer.  `need e` is the fuel the reader uses on
    the tokens of `e`; it is bounded by twice their number, which is what `read` supplies. -/
namespace Pcore.Json

mutual
def need : Ev → Nat
  | .sc _ => 1 | .ref _ => 1
  | .arr es => 1 + needs es
  | .hsh es => 1 + needs es
def needs : List Ev → Nat
  | [] => 0 | e :: es => 1 + need e + needs es
end

/-- after `[` the reader sees from the first token of a value (never `]`) that the array is not empty -/
theorem readVal_lb (f : Nat) (e : Ev) (toks : List Tok) :
    readVal (f + 1) (.lb :: (ref1 e ++ toks)) =
      match readElems f (ref1 e ++ toks) with
      | some (es, rest') => some (.arr es, rest')
      | none => none := by
  cases e <;> rfl

/-- after `{` and a string key that is not `__pref`, `readVal` goes on exactly as `readMembers` does (it reads the first
    member itself only because it has to look at the key) -/
theorem readVal_lc {f : Nat} {ks : String} {rest : List Tok} (hk : isPrefKey (.sc (.str ks)) = false) :
    readVal (f + 1) (.lc :: .sc (.str ks) :: .colon :: rest) =
      (readMembers (f + 1) (.sc (.str ks) :: .colon :: rest)).map fun r => (.hsh r.1, r.2) := by
  simp only [readVal, readMembers, hk, Bool.false_eq_true, if_false]
  cases readVal f rest with
  | none => rfl
  | some r =>
    obtain ⟨v, toks⟩ := r
    cases toks with
    | nil => rfl
    | cons t ts =>
      cases t with
      | comma => dsimp only; cases readMembers f ts <;> rfl
      | _ => rfl

theorem fuel_succ {n fuel : Nat} (h : 1 + n ≤ fuel) : ∃ f, fuel = f + 1 ∧ n ≤ f := ⟨fuel - 1, by omega, by omega⟩

/-- the fuel the member reader uses: one unit per entry and what its value needs (keys are single tokens) -/
def mneeds : List Ev → Nat
  | _ :: v :: es => 1 + need v + mneeds es
  | _ => 0

theorem mneeds_le : ∀ es : List Ev, mneeds es ≤ needs es
  | [] => Nat.le_refl _
  | [_] => Nat.zero_le _
  | _ :: v :: es => by have := mneeds_le es; simp only [mneeds, needs]; omega

/- The list lemmas speak of ALL children of a container (`refs .firstInArray es`, `refs .firstInObject es`), so that the
   three statements recurse structurally; `readElems_ok` / `readMembers_ok` below restate them with the first child
   split off. -/
mutual
theorem readVal_ok : ∀ (e : Ev) (rest : List Tok) (fuel : Nat), WF e = true → NoPref e = true →
    need e ≤ fuel → readVal fuel (ref1 e ++ rest) = some (e, rest)
  | .sc s, rest, fuel, _, _, hf => by
      obtain ⟨f, rfl, _⟩ := fuel_succ (n := 0) hf
      simp [ref1, readVal]
  | .ref n, rest, fuel, _, _, hf => by
      obtain ⟨f, rfl, _⟩ := fuel_succ (n := 0) hf
      simp [ref1, refToks, readVal, isPrefKey]
  | .arr [], rest, fuel, _, _, hf => by
      obtain ⟨f, rfl, _⟩ := fuel_succ (n := 0) hf
      simp [ref1, refs, readVal]
  | .arr (e :: es), rest, fuel, hw, hp, hf => by
      obtain ⟨f, rfl, hf'⟩ := fuel_succ hf
      have ih := readElems_all (e :: es) rest f (List.cons_ne_nil _ _) hw (by simpa [NoPref] using hp) hf'
      simp only [ref1, refs, sepOf, succOf, List.nil_append, List.cons_append, List.append_assoc] at ih ⊢
      rw [readVal_lb, ih]
  | .hsh [], rest, fuel, _, _, hf => by
      obtain ⟨f, rfl, _⟩ := fuel_succ (n := 0) hf
      simp [ref1, refs, readVal]
  | .hsh [_], _, _, hw, _, _ => by simp [WF, WFkv] at hw
  | .hsh (k :: v :: es), rest, fuel, hw, hp, hf => by
      obtain ⟨f, rfl, hf'⟩ := fuel_succ hf
      have hp' : isPrefEv k = false ∧ NoPrefs (k :: v :: es) = true := by simpa [NoPref] using hp
      -- (before `k` is replaced by a string: afterwards the call is no longer recognised as structural)
      have ih := readMembers_all (k :: v :: es) rest (f + 1) (List.cons_ne_nil _ _) hw hp'.2
        (Nat.le_trans (mneeds_le _) (Nat.le_succ_of_le hf'))
      obtain ⟨ks, rfl⟩ := isStrKey_str (k := k) (by simp only [WF, WFkv, Bool.and_eq_true] at hw; exact hw.1.1)
      simp only [ref1, refs, sepOf, succOf, List.nil_append, List.cons_append, List.append_assoc] at ih ⊢
      rw [readVal_lc hp'.1, ih]; rfl
theorem readElems_all : ∀ (es : List Ev) (rest : List Tok) (fuel : Nat), es ≠ [] → WFs es = true → NoPrefs es = true →
    needs es ≤ fuel → readElems fuel (refs .firstInArray es ++ .rb :: rest) = some (es, rest)
  | [], _, _, h, _, _, _ => absurd rfl h
  | e :: es, rest, fuel, _, hw, hp, hf => by
      obtain ⟨f, rfl, hf'⟩ := fuel_succ (by rwa [needs, Nat.add_assoc] at hf)
      have hw' : WF e = true ∧ WFs es = true := by simpa [WFs] using hw
      have hp' : NoPref e = true ∧ NoPrefs es = true := by simpa [NoPrefs] using hp
      have hv := fun r => readVal_ok e r f hw'.1 hp'.1 (by omega)
      cases es with
      | nil => simp [refs, sepOf, readElems, hv]
      | cons e' es =>
        have ih := readElems_all (e' :: es) rest f (List.cons_ne_nil _ _) hw'.2 hp'.2 (by omega)
        simp only [refs, sepOf, succOf, List.nil_append, List.append_assoc] at ih ⊢
        simp [readElems, hv, ih]
theorem readMembers_all : ∀ (es : List Ev) (rest : List Tok) (fuel : Nat), es ≠ [] → WFkv es = true →
    NoPrefs es = true → mneeds es ≤ fuel →
    readMembers fuel (refs .firstInObject es ++ .rc :: rest) = some (es, rest)
  | [], _, _, h, _, _, _ => absurd rfl h
  | [_], _, _, _, hw, _, _ => by cases hw
  | k :: v :: es, rest, fuel, _, hw, hp, hf => by
      obtain ⟨f, rfl, hf'⟩ := fuel_succ (by rwa [mneeds, Nat.add_assoc] at hf)
      have hw' : (isStrKey k = true ∧ WF v = true) ∧ WFkv es = true := by simpa only [WFkv, Bool.and_eq_true] using hw
      have hp' : NoPref v = true ∧ NoPrefs es = true := by
        simp only [NoPrefs, Bool.and_eq_true] at hp; exact ⟨hp.2.1, hp.2.2⟩
      have hvv := fun r => readVal_ok v r f hw'.1.2 hp'.1 (by omega)
      cases es with
      | nil =>
        obtain ⟨ks, rfl⟩ := isStrKey_str hw'.1.1
        simp [ref1, refs, sepOf, succOf, readMembers, hvv]
      | cons k' es =>
        have ih := readMembers_all (k' :: es) rest f (List.cons_ne_nil _ _) hw'.2 hp'.2 (by omega)
        obtain ⟨ks, rfl⟩ := isStrKey_str hw'.1.1
        simp only [refs, sepOf, succOf, List.nil_append, List.cons_append, List.append_assoc] at ih ⊢
        simp [ref1, readMembers, hvv, ih]
end

theorem readElems_ok : ∀ (e : Ev) (es : List Ev) (rest : List Tok) (fuel : Nat), WF e = true → WFs es = true →
    NoPref e = true → NoPrefs es = true → 1 + need e + needs es ≤ fuel →
    readElems fuel (ref1 e ++ refs .afterElement es ++ .rb :: rest) = some (e :: es, rest) := by
  intro e es rest fuel hw hws hp hps hf
  have := readElems_all (e :: es) rest fuel (List.cons_ne_nil _ _) (by simp only [WFs, hw, hws, Bool.and_self])
    (by simp only [NoPrefs, hp, hps, Bool.and_self]) hf
  simpa only [refs, sepOf, succOf, List.nil_append] using this

theorem readMembers_ok : ∀ (k v : Ev) (es : List Ev) (rest : List Tok) (fuel : Nat), isStrKey k = true →
    WF v = true → WFkv es = true → NoPref v = true → NoPrefs es = true → 1 + need v + needs es ≤ fuel →
    readMembers fuel (ref1 k ++ .colon :: ref1 v ++ refs .afterValue es ++ .rc :: rest) = some (k :: v :: es, rest) := by
  intro k v es rest fuel hk hv hes hpv hps hf
  obtain ⟨ks, rfl⟩ := isStrKey_str hk
  have := readMembers_all (.sc (.str ks) :: v :: es) rest fuel (List.cons_ne_nil _ _)
    (by simp only [WFkv, isStrKey, hv, hes, Bool.and_self]) (by simp only [NoPrefs, NoPref, hpv, hps, Bool.and_self])
    (by have := mneeds_le es; simp only [mneeds]; omega)
  simpa only [refs, sepOf, succOf, List.nil_append, List.cons_append, List.append_assoc, List.singleton_append] using this

/- a value needs less fuel than twice its tokens, with one to spare: that one pays for the entry of a list in `needs`
   even where no separator token is written -/
mutual
theorem need_lt : ∀ e : Ev, need e + 1 ≤ 2 * (ref1 e).length
  | .sc _ => by simp [need, ref1]
  | .ref _ => by simp [need, ref1, refToks]
  | .arr es => by
      have := needs_le_refs .firstInArray es
      simp [need, ref1] at *; omega
  | .hsh es => by
      have := needs_le_refs .firstInObject es
      simp [need, ref1] at *; omega
theorem needs_le_refs : ∀ (st : St) (es : List Ev), needs es ≤ 2 * (refs st es).length
  | _, [] => by simp [needs]
  | st, e :: es => by
      have h1 := need_lt e
      have h2 := needs_le_refs (succOf st) es
      simp [needs, refs] at *; omega
end

theorem needs_le : ∀ (st : St) (es : List Ev), (sepOf st).length = 1 → needs es ≤ 2 * (refs st es).length :=
  fun st es _ => needs_le_refs st es

theorem read_ref1 (e : Ev) (hw : WF e = true) (hp : NoPref e = true) : read (ref1 e) = some e := by
  have h := readVal_ok e [] (2 * (ref1 e).length + 1) hw hp (by have := need_lt e; omega)
  simp only [List.append_nil] at h
  simp [read, h]

end Pcore.Json

import Pcore.Proofs.Files
/-!
C15, soundness of `found`: every definition a loader holds (and therefore every definition a lookup answers) carries the
key it is stored under and is justified by a file of the tree that sits where the index says (`At`).
One induction on the fuel over all mutually recursive functions of the model (`AllSound`): the routing, caching and looping
steps (`loadEntry`, `fbLoadEntry`, `parentSearch`, the dependency loader) are `keeps_*` of `Proofs/Files` at `sound_stores`;
here the steps that differ (`step_*`: `find`, `instantiate` and what it calls).
-/
namespace Pcore.Files

/-- the file `p` is what the loaders consult for `key`: an origin of `key` in some loader's index, or the
    `init_typeset` origin of the module whose own name `key` is -/
def At (cfg : Cfg) (p : Path) (key : Key) : Prop :=
  ∃ l, p ∈ idx cfg l key ∨
    (∃ mod, l = .m mod ∧ isGlobalMod mod = false ∧ key = [mod] ∧ p ∈ idx cfg l ["init_typeset"])

/-- where a definition comes from -/
def Justified (cfg : Cfg) (d : Def) : Prop :=
  (∃ e ∈ staticTypes, e.2 = d) ∨
  ∃ p b, bodyAt cfg.tree p = some b ∧
    ((∃ ts, b = .typ d.kind d.name ts ∧ At cfg p (keyOf d.name)) ∨
     (∃ nm ts t i, b = .typ .typeset nm ts ∧ t ∈ ts ∧ d = ⟨kindAt i, nm ++ [t]⟩ ∧ At cfg p (keyOf nm)) ∨
     (b = .bare ∧ d.kind = .alias ∧ At cfg p (keyOf d.name)))

def GoodDef (cfg : Cfg) (k : Key) (d : Def) : Prop := keyOf d.name = k ∧ Justified cfg d

def Inv (cfg : Cfg) (s : St) : Prop := ∀ l k d, s.get l k = some (some d) → GoodDef cfg k d

def PostE (cfg : Cfg) (name : Name) (r : Option Entry) : Prop := ∀ d, r = some (some d) → GoodDef cfg (keyOf name) d

abbrev SpecE (cfg : Cfg) (name : Name) (x : M (Option Entry)) : Prop :=
  ∀ s, Inv cfg s → wp x (fun r s' => Inv cfg s' ∧ PostE cfg name r) (Inv cfg) s

abbrev SpecU (cfg : Cfg) (x : M Unit) : Prop :=
  ∀ s, Inv cfg s → wp x (fun _ s' => Inv cfg s') (Inv cfg) s

def MembersGood (cfg : Cfg) (tsName : Name) (ts : List String) : Prop :=
  ∀ t ∈ ts, ∀ i, GoodDef cfg (keyOf (tsName ++ [t])) ⟨kindAt i, tsName ++ [t]⟩

structure AllSound (n : Nat) : Prop where
  loadEntry : ∀ cfg l name, SpecE cfg name (loadEntry n cfg l name)
  fbLoadEntry : ∀ cfg l name, SpecE cfg name (fbLoadEntry n cfg l name)
  find : ∀ cfg l name, SpecE cfg name (find n cfg l name)
  findTail : ∀ cfg l name, SpecE cfg name (findTail n cfg l name)
  parentSearch : ∀ cfg l name ts, SpecE cfg name (parentSearch n cfg l name ts)
  instantiate : ∀ cfg l name origins, (∀ p, origins.head? = some p → At cfg p (keyOf name)) →
    SpecE cfg name (instantiate n cfg l name origins)
  instantiator : ∀ cfg name origins, (∀ p, origins.head? = some p → At cfg p (keyOf name)) →
    SpecU cfg (instantiator n cfg name origins)
  addTypes : ∀ cfg d ts, GoodDef cfg (keyOf d.name) d → (d.kind = .typeset → MembersGood cfg d.name ts) →
    SpecU cfg (addTypes n cfg d ts)
  resolveTS : ∀ cfg tsName ts i, MembersGood cfg tsName ts → SpecU cfg (resolveTS n cfg tsName ts i)
  dLoadEntry : ∀ cfg name, SpecE cfg name (dLoadEntry n cfg name)
  dFind : ∀ cfg name, SpecE cfg name (dFind n cfg name)
  dMembers : ∀ cfg name, SpecE cfg name (dMembers n cfg name)
  dLoop : ∀ cfg mods name, SpecE cfg name (dLoop n cfg mods name)

theorem inv_put {cfg : Cfg} {s : St} (h : Inv cfg s) (l : Lid) (k : Key) (e : Entry)
    (he : ∀ d, e = some d → GoodDef cfg k d) : Inv cfg (s.put l k e) := fun l' k' d =>
  get_put_cases (fun r => r = some (some d) → GoodDef cfg k' d) (fun _ hk hd => hk ▸ he d (Option.some.inj hd))
    (fun _ => h l' k' d)

theorem sound_setEntry {cfg : Cfg} {s : St} (h : Inv cfg s) (l : Lid) (k : Key) (e : Entry)
    (he : ∀ d, e = some d → GoodDef cfg k d) :
    wp (setEntry l k e) (fun r s' => Inv cfg s' ∧ ∀ d, r = some d → GoodDef cfg k d) (Inv cfg) s :=
  wp_setEntry (fun _ => ⟨inv_put h l k e he, he⟩)
    (fun old hg => ⟨⟨h, fun d hd => by cases hd; exact h l k old hg⟩, h⟩)

theorem sound_stores (cfg : Cfg) (name : Name) : Stores (Inv cfg) (GoodDef cfg (keyOf name)) name :=
  ⟨fun l _ d hs h => hs l _ d h, fun l e _ he hs => sound_setEntry hs l _ e he⟩

theorem postE_none (cfg : Cfg) (name : Name) : PostE cfg name none := fun _ h => by cases h

theorem postE_of_inv {cfg : Cfg} {s : St} (h : Inv cfg s) (l : Lid) (name : Name) :
    PostE cfg name (s.get l (keyOf name)) := fun d hd => h l (keyOf name) d hd

theorem staticTypes_key : ∀ e ∈ staticTypes, keyOf e.2.name = e.1 := by decide

theorem sysLoad_good (cfg : Cfg) (name : Name) : PostE cfg name (sysLoad name) := by
  intro d hd
  unfold sysLoad at hd
  cases hf : staticTypes.find? (fun e => e.1 = keyOf name) with
  | none => rw [hf] at hd; cases hd
  | some e =>
    rw [hf] at hd
    cases hd
    obtain ⟨hmem, hk⟩ := find_key_eq_some (key := Prod.fst) hf
    exact ⟨hk ▸ staticTypes_key e hmem, Or.inl ⟨e, hmem, rfl⟩⟩

section
variable {n : Nat} (ih : AllSound n) (cfg : Cfg)
include ih

theorem step_find (l : Lid) (name : Name) : SpecE cfg name (find (n+1) cfg l name) := by
  have hat : ∀ o os, isGlobalMod l.moduleName = false → partsOf name = some [l.moduleName] →
      idx cfg l ["init_typeset"] = o :: os → ∀ p, (o :: os).head? = some p → At cfg p (keyOf name) := by
    intro o os hg hp hi p hp'
    cases hp'
    exact ⟨l, Or.inr ⟨l.moduleName, lid_of_moduleName hg, hg, (partsOf_eq hp).symm, by rw [hi]; exact List.mem_cons_self ..⟩⟩
  refine find_cases (SpecE cfg name) (fun _ _ hs => ⟨hs, postE_none cfg name⟩) (fun _ _ _ _ hs => hs)
    (fun _ => ih.findTail cfg l name) ?_ ?_
  · intro o os _ _ hg hp hi s hs
    refine wp_seq (ih.instantiate cfg l name _ (hat o os hg hp hi) s hs) ?_
    rintro e s1 ⟨hs1, he⟩
    exact expectTypeset_cases (fun x => wp x _ _ s1) ⟨hs1, he⟩ hs1
  · intro o os _ _ hg hp hi s hs
    unfold findUnguarded
    refine wp_seq (ih.instantiator cfg name _ (hat o os hg hp hi) s hs) ?_
    intro _ s1 hs1
    rw [wp_bind, wp_getSt]
    split
    · next d hd => exact expectTypeset_cases (fun x => wp x _ _ s1) ⟨hs1, hd ▸ postE_of_inv hs1 l name⟩ hs1
    · exact hs1

theorem step_findTail (l : Lid) (name : Name) : SpecE cfg name (findTail (n+1) cfg l name) :=
  findTail_cases (SpecE cfg name)
    (fun o os hi => ih.instantiate cfg l name _ (fun p hp => by
      cases hp; exact ⟨l, Or.inl (by rw [hi]; exact List.mem_cons_self ..)⟩))
    (fun _ _ => ih.parentSearch cfg l name _) (fun _ _ hs => ⟨hs, postE_none cfg name⟩)

theorem step_instantiate (l : Lid) (name : Name) (origins : List Path)
    (hat : ∀ p, origins.head? = some p → At cfg p (keyOf name)) :
    SpecE cfg name (instantiate (n+1) cfg l name origins) := by
  intro s hs
  unfold wp
  cases hget : s.get l (keyOf name) with
  | some v => rw [instantiate_cached hget]; exact ⟨hs, hget ▸ postE_of_inv hs l name⟩
  | none =>
    rw [instantiate_fresh hget]
    exact wp_seq (ih.instantiator cfg name origins hat _ (inv_put hs l _ none (fun _ h => by cases h)))
      (fun _ s2 hs2 => ⟨hs2, postE_of_inv hs2 l name⟩)

theorem step_instantiator (name : Name) (origins : List Path)
    (hat : ∀ p, origins.head? = some p → At cfg p (keyOf name)) :
    SpecU cfg (instantiator (n+1) cfg name origins) := by
  intro s hs
  cases origins with
  | nil => exact hs
  | cons p rest =>
    have hp : At cfg p (keyOf name) := hat p rfl
    have h := instBody_cases (n := n) (name := name) (p := p) (SpecU cfg) (fun _ _ _ hs => hs)
      (fun k nm ts hb hk => ih.addTypes cfg ⟨k, nm⟩ ts ⟨rfl, Or.inr ⟨p, _, hb, Or.inl ⟨ts, rfl, hk ▸ hp⟩⟩⟩ (by
        rintro rfl t ht i
        exact ⟨rfl, Or.inr ⟨p, _, hb, Or.inr (Or.inl ⟨nm, ts, t, i, rfl, ht, rfl, hk ▸ hp⟩)⟩⟩))
      (fun hb => ih.addTypes cfg ⟨.alias, name⟩ [] ⟨rfl, Or.inr ⟨p, .bare, hb, Or.inr (Or.inr ⟨rfl, rfl, hp⟩)⟩⟩
        (fun h => by cases h))
    rw [instantiator_cons, wp_bind, wp_modifySt]
    exact h _ hs

theorem step_addTypes (d : Def) (ts : List String) (hd : GoodDef cfg (keyOf d.name) d)
    (hm : d.kind = .typeset → MembersGood cfg d.name ts) : SpecU cfg (addTypes (n+1) cfg d ts) := by
  intro s hs
  rw [addTypes_succ]
  have hmembers : wp (if d.kind = .typeset then resolveTS n cfg d.name ts 0 else pure ()) (fun _ s' => Inv cfg s')
      (Inv cfg) s := by
    split
    · next hk => exact ih.resolveTS cfg d.name ts 0 (hm hk) s hs
    · exact hs
  refine wp_seq hmembers (fun _ s1 hs1 => ?_)
  exact wp_seq (sound_setEntry hs1 cfg.via _ (some d) (fun _ h => by cases h; exact hd)) (fun _ _ h => h.1)

theorem step_resolveTS (tsName : Name) (ts : List String) (i : Nat) (hm : MembersGood cfg tsName ts) :
    SpecU cfg (resolveTS (n+1) cfg tsName ts i) := by
  intro s hs
  cases ts with
  | nil => exact hs
  | cons t rest =>
    have hrest := ih.resolveTS cfg tsName rest (i + 1) (fun t' ht' => hm t' (List.mem_cons_of_mem _ ht'))
    rw [resolveTS_cons]
    refine wp_seq (ih.loadEntry cfg cfg.via (tsName ++ [t]) s hs) ?_
    rintro le s1 ⟨hs1, _⟩
    refine resolveMember_cases (fun x => wp x _ _ s1) (hrest s1 hs1) ?_
    exact wp_seq (sound_setEntry hs1 cfg.via _ _ (fun _ h => by cases h; exact hm t List.mem_cons_self i))
      (fun _ s2 h => hrest s2 h.1)

end

theorem step_dLoadEntry {n : Nat} (ih : AllSound n) (cfg : Cfg) (name : Name) :
    SpecE cfg name (dLoadEntry (n+1) cfg name) :=
  keeps_dLoadEntry (sound_stores cfg name) (ih.dFind cfg name)

theorem allSound : ∀ n, AllSound n
  | 0 => by
    constructor <;> intros <;> intro s hs <;> exact hs
  | n+1 =>
    have ih := allSound n
    { loadEntry := fun cfg l name => keeps_loadEntry (ih.dLoadEntry cfg name) (fun _ => ih.fbLoadEntry cfg l name)
      fbLoadEntry := fun cfg l name =>
        keeps_fbLoadEntry (sound_stores cfg name) (sysLoad_good cfg name) (ih.fbLoadEntry cfg .g name) (ih.find cfg l name)
      find := step_find ih
      findTail := step_findTail ih
      parentSearch := fun cfg l name ts =>
        keeps_parentSearch (G' := fun ts => GoodDef cfg (keyOf ts)) (sound_stores cfg name) (fun _ => ih.find cfg l ts)
          (fun _ => ih.parentSearch cfg l name _)
      instantiate := step_instantiate ih
      instantiator := step_instantiator ih
      addTypes := step_addTypes ih
      resolveTS := step_resolveTS ih
      dLoadEntry := step_dLoadEntry ih
      dFind := fun cfg name => keeps_dFind (fun h _ => ih.fbLoadEntry cfg (.m h) name) (ih.dMembers cfg name)
      dMembers := fun cfg name => keeps_dMembers (ih.fbLoadEntry cfg .g name) (ih.dLoop cfg cfg.mods name)
      dLoop := fun cfg mods name =>
        keeps_dLoop (sound_stores cfg name) (fun m => ih.fbLoadEntry cfg (.m m) name) (fun ms => ih.dLoop cfg ms name) }

theorem sound_loadS (fuel : Nat) (cfg : Cfg) (s : St) (name : Name) (hs : Inv cfg s) :
    Inv cfg (loadS fuel cfg s name).2 ∧ ∀ d, (loadS fuel cfg s name).1 = .found d → GoodDef cfg (keyOf name) d :=
  keeps_loadS (sound_stores cfg name) ((allSound fuel).loadEntry cfg cfg.via name) hs

theorem inv_init (cfg : Cfg) : Inv cfg {} := fun _ _ _ h => by cases h

end Pcore.Files

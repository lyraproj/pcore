import Pcore.Proofs.ObjectDefine
import Pcore.Model.ObjectInitHash
/-! C17: the InitHash of an object TYPE; on Proofs/ObjectDefine.  First: the definition an accepted type prints as (`typeDef`) is
    accepted again and yields the same type up to the order of the own attributes (`mkAttr_decl`, `constDecl_rel`,
    `define_typeDef`).  Then: that order is read by nothing — the re-created type has the same layout, lookup, `Get` and
    init-hash (`reorder_same`). -/
namespace Pcore.Object

theorem declValue_none {a : Attr} (hk : a.kind ≠ .constant) (hv : a.value = implicitUndef a.ty) : a.declValue = none := by
  have hkb : (a.kind == Kind.constant) = false := by simpa using hk
  unfold Attr.declValue
  rw [hv]
  cases a.ty <;> simp [hkb, implicitUndef]

theorem declValue_some {a : Attr} {v : Val} (hv : a.value = some v)
    (hn : a.kind = .constant ∨ a.value ≠ implicitUndef a.ty) : a.declValue = some v := by
  unfold Attr.declValue
  by_cases hk : a.kind = .constant
  · simp [hk, hv]
  · have hkb : (a.kind == Kind.constant) = false := by simpa using hk
    have hn := hn.resolve_left hk
    rw [hv] at hn ⊢
    simp only [hkb, Bool.false_eq_true, if_false]
    split
    · rename_i hv' ht
      rw [ht] at hn
      exact absurd hv' hn
    · rfl

/-- every attribute `attribute.initialize` makes is printed back as a declaration from which `initialize` makes the same
    attribute (after the fix 86875be also a constant of an `Optional[…]` type whose value is undef) -/
theorem mkAttr_decl {d : AttrDecl} {a : Attr} (h : mkAttr d = .ok a) : mkAttr a.decl = .ok a := by
  obtain ⟨-, hk, -, hfin, hcase⟩ := mkAttr_ok h
  have htyped := mkAttr_typed h
  have hf : a.decl.isFinal = a.final := by
    show (a.kind == Kind.constant || (if a.final = true then some true else none) == some true) = a.final
    rw [hfin, hk]
    unfold AttrDecl.isFinal
    cases d.kind == Kind.constant <;> cases d.final == some true <;> rfl
  have hnf : ¬(a.decl.kind = .constant ∧ a.decl.final = some false) := by
    rintro ⟨-, hf⟩
    cases hfa : a.final <;> simp [Attr.decl, hfa] at hf
  rw [mkAttr_eq_ok]
  refine ⟨hnf, ?_⟩
  have htn : a.decl.tyNoValue = a.ty := tyNoValue_eq htyped.2
  -- printed with its value …
  have hsome : ∀ v, a.value = some v → a.declValue = some v → (a.kind ≠ .derived ∧ a.kind ≠ .givenOrDerived) →
      ∃ v, a.decl.dflt = some v ∧ a.decl.kind ≠ .derived ∧ a.decl.kind ≠ .givenOrDerived ∧ inst a.decl.ty v = true ∧
        a = { name := a.decl.name, ty := a.decl.ty, kind := a.decl.kind, value := some v,
              override := a.decl.override, final := a.decl.isFinal } := by
    intro v hv hdv hkk
    refine ⟨v, hdv, hkk.1, hkk.2, htyped.1 v hv, ?_⟩
    rw [hf, ← hv]
    rfl
  -- … or, an implicit undef, without
  have hnone : a.kind ≠ .constant → a.value = implicitUndef a.ty →
      a.decl.dflt = none ∧ a.decl.kind ≠ .constant ∧
        a = { name := a.decl.name, ty := a.decl.tyNoValue, kind := a.decl.kind,
              value := implicitUndef a.decl.tyNoValue, override := a.decl.override, final := a.decl.isFinal } := by
    intro hkc hv
    refine ⟨declValue_none hkc hv, hkc, ?_⟩
    rw [hf, htn, ← hv]
    rfl
  rcases hcase with ⟨v, hv, -, hk1, hk2, -⟩ | ⟨hv, ht, hkc⟩
  · by_cases hp : a.kind = .constant ∨ a.value ≠ implicitUndef a.ty
    · exact Or.inl (hsome v hv (declValue_some hv hp) ⟨hk ▸ hk1, hk ▸ hk2⟩)
    · rw [not_or, Decidable.not_not] at hp
      exact Or.inr (hnone hp.1 hp.2)
  · exact Or.inr (hnone (hk ▸ hkc) (ht ▸ hv))

/-- what `objectType.initHash` prints under `constants`: a constant with a value of the driver's universe whose declared type is
    the one inferred from that value -/
theorem constLike_ok {a : Attr} (h : a.constLike = true) :
    a.kind = .constant ∧ ∃ w, a.value = some w ∧ a.ty = tyOfVal w ∧ inst (tyOfVal w) w = true := by
  unfold Attr.constLike at h
  rw [Bool.and_eq_true, beq_iff_eq] at h
  refine ⟨h.1, ?_⟩
  cases hv : a.value with
  | none => simp [hv] at h
  | some w => cases w <;> simp [hv] at h <;> exact ⟨_, rfl, h.2, rfl⟩

theorem constLike_not_settable {a : Attr} (h : a.constLike = true) : a.settable = false := by
  unfold Attr.constLike at h
  simp only [Bool.and_eq_true, beq_iff_eq] at h
  simp [Attr.settable, h.1]

/-- an attribute that `objectType.initHash` moves to `constants` is made again from its `constants` entry -/
theorem constDecl_rel {parent : OType} {d : AttrDecl} {a : Attr} (hm : mkAttr d = .ok a)
    (ho : assertOverride parent a = .ok ()) (hc : a.constLike = true) :
    AttrRel parent (constDecl parent (a.name, a.value.getD .undef)) a := by
  obtain ⟨hkc, w, hv, hty, hi⟩ := constLike_ok hc
  obtain ⟨hsh, hov, -⟩ := assertOverride_ok ho
  obtain ⟨-, hk, -, hfin, -⟩ := mkAttr_ok hm
  -- a constant is final
  have hf : a.final = true := by rw [hfin, AttrDecl.isFinal, ← hk, hkc]; rfl
  rw [hv, Option.getD_some]
  refine ⟨mkAttr_eq_ok.mpr ⟨(fun h => nomatch h.2), Or.inl ⟨w, rfl, (fun h => nomatch h), (fun h => nomatch h), hi, ?_⟩⟩, ho⟩
  obtain ⟨n, ty, k, v, o, fin⟩ := a
  simp only at hkc hv hty hsh hov hf
  simp only [constDecl, hsh, Bool.or_false, ← hov, ← hty, ← hv, ← hkc, AttrDecl.isFinal, beq_self_eq_true, Bool.true_or, hf]

theorem reorder_perm (as : List Attr) : (reorder as).Perm as := by
  unfold reorder
  have := List.filter_append_perm (fun a : Attr => !a.constLike) as
  simpa using this

theorem mem_reorder {as : List Attr} {a : Attr} : a ∈ reorder as ↔ a ∈ as := (reorder_perm as).mem_iff

theorem reorder_nodup {as : List Attr} (h : (as.map (·.name)).Nodup) : ((reorder as).map (·.name)).Nodup :=
  ((reorder_perm as).map _).nodup_iff.mpr h

theorem find_reorder {as : List Attr} (hnd : (as.map (·.name)).Nodup) (n : String) :
    (reorder as).find? (fun a => a.name == n) = as.find? (fun a => a.name == n) := by
  cases hf : as.find? (fun a => a.name == n) with
  | some a =>
    obtain ⟨ha, hn⟩ := find_key_some hf
    exact (find_key_iff (reorder_nodup hnd)).mpr ⟨mem_reorder.mpr ha, hn⟩
  | none =>
    rw [List.find?_eq_none]
    intro x hx
    exact List.find?_eq_none.mp hf x (mem_reorder.mp hx)

theorem lookupMember_reorder {as : List Attr} (hnd : (as.map (·.name)).Nodup) (p : OType) (n : String) :
    lookupMember (reorder as) p n = lookupMember as p n := by
  unfold lookupMember
  rw [find_reorder hnd]

theorem checkEquality_congr {own own' : List Attr} {p : OType}
    (h : ∀ n, lookupMember own' p n = lookupMember own p n) (l : List String) :
    checkEquality own' p l = checkEquality own p l := by
  induction l with
  | nil => rfl
  | cons n ns ih =>
    unfold checkEquality
    rw [h n, ih]

theorem checkSerialization_congr {own own' : List Attr} {p : OType}
    (h : ∀ n, lookupMember own' p n = lookupMember own p n) (b : Bool) (seen l : List String) :
    checkSerialization own' p b seen l = checkSerialization own p b seen l := by
  induction l generalizing b seen with
  | nil => rfl
  | cons n ns ih =>
    unfold checkSerialization
    rw [h n]
    cases lookupMember own p n with
    | none => rfl
    | some a => simp only [ih]

theorem typeDef_noBoth {as : List Attr} (hnd : (as.map (·.name)).Nodup) (parent : Option Nat) (l : Level)
    (hl : l.attrs = as) :
    (typeDef parent l).constants.any (fun c => (typeDef parent l).attrs.any (fun a => a.name == c.1)) = false := by
  rw [List.any_eq_false]
  intro c hc
  simp only [Bool.not_eq_true, List.any_eq_false, beq_iff_eq]
  intro x hx hxc
  simp only [typeDef, hl, List.mem_map, List.mem_filter] at hc hx
  obtain ⟨a, ⟨ha, hac⟩, rfl⟩ := hc
  obtain ⟨b, ⟨hb, hbc⟩, rfl⟩ := hx
  have : b = a := nodup_key_inj hnd hb ha hxc
  subst this
  simp [hac] at hbc

theorem typeDef_decls {parent : OType} {ds : List AttrDecl} {as : List Attr} (h : defineAttrs parent ds = .ok as)
    (pn : Option Nat) (l : Level) (hl : l.attrs = as) :
    defineAttrs parent ((typeDef pn l).decls parent) = .ok (reorder as) := by
  have hall := defineAttrs_mem h
  rw [defineAttrs_iff]
  unfold Def.decls reorder
  simp only [typeDef, hl]
  apply List.rel_append
  · rw [List.forall₂_map_left_iff, List.forall₂_same]
    intro a ha
    obtain ⟨d, -, hm, ho⟩ := hall a (List.mem_filter.mp ha).1
    exact ⟨mkAttr_decl hm, ho⟩
  · rw [List.forall₂_map_left_iff, List.forall₂_map_left_iff, List.forall₂_same]
    intro a ha
    obtain ⟨d, -, hm, ho⟩ := hall a (List.mem_filter.mp ha).1
    exact constDecl_rel hm ho (List.mem_filter.mp ha).2

theorem defineFuncs_keys {parent : OType} {keys keys' : List String} {fs : List FnDecl}
    (hk : ∀ f ∈ fs, keys'.contains f.name = false) (h : defineFuncs parent keys fs = .ok ()) :
    defineFuncs parent keys' fs = .ok () := by
  induction fs with
  | nil => rfl
  | cons f fs ih =>
    unfold defineFuncs at h ⊢
    simp only [hk f (by simp), Bool.false_eq_true, if_false]
    split at h
    · cases h
    · cases ha : assertOverrideFn parent f with
      | error c => simp [ha] at h
      | ok u =>
        simp only [ha] at h ⊢
        exact ih (fun g hg => hk g (by simp [hg])) h

/-- an accepted definition, re-created from the InitHash of the type it defined (`typeDef`): accepted again, and the type
    is the same except that the own attributes stand in the order of the printed definition (`constants` last) -/
theorem define_typeDef {env : List OType} {d : Def} {l : Level} {p : OType} (hnd : (d.attrs.map (·.name)).Nodup)
    (hcn : (d.constants.map (·.1)).Nodup) (h : define env d = .ok (l :: p))
    (hfk : ∀ f ∈ l.funcs, ∀ a ∈ l.attrs, a.name = f.name → a.constLike = true) :
    define env (typeDef d.parent l) = .ok ({ l with attrs := reorder l.attrs } :: p) := by
  have hnames := define_attrs_nodup ⟨hnd, hcn⟩ h
  obtain ⟨attrs, hattrs, ht, hpar, -, hfn, heq, hser, hnf⟩ := define_ok h
  obtain ⟨rfl, rfl⟩ := List.cons.inj ht
  simp only at hfk hnames
  have hfn' : defineFuncs (parentOf env d) (((attrs.filter (fun a => !a.constLike)).map Attr.decl).map (·.name)) d.funcs =
      .ok () := by
    apply defineFuncs_keys _ hfn
    intro f hf
    rw [Bool.eq_false_iff]
    intro hc
    simp only [List.map_map, List.contains_eq_mem, List.mem_map, List.mem_filter, decide_eq_true_eq,
      Function.comp] at hc
    obtain ⟨a, ⟨ha, hnc⟩, han⟩ := hc
    have := hfk f hf a ha (by simpa [Attr.decl] using han)
    simp [this] at hnc
  have hlook := lookupMember_reorder hnames (parentOf env d)
  have hinc : (if d.includeType.getD true = true then none else some false : Option Bool).getD true =
      d.includeType.getD true := by
    cases d.includeType.getD true <;> rfl
  have hisfn : ∀ n, isFnName (reorder attrs) d.funcs (parentOf env d) n = isFnName attrs d.funcs (parentOf env d) n :=
    fun n => by unfold isFnName; rw [(reorder_perm attrs).any_eq]
  have hp : parentOf env (typeDef d.parent ⟨env.length, attrs, d.equality.toList?, d.includeType.getD true,
      d.serialization, d.params, d.funcs⟩) = parentOf env d := rfl
  unfold define
  simp only [hp, typeDef_noBoth hnames d.parent, typeDef_decls hattrs d.parent]
  generalize d.equality.toList? = E at heq hnf ⊢
  cases E <;> simp only [typeDef, EqDecl.toList?, hfn', hpar, Bool.false_eq_true, if_false, hinc,
    checkEqualityF_of (fun n hn => (hisfn n).trans (hnf n (List.mem_append_left _ hn))), checkEquality_congr hlook, heq,
    checkSerializationF_of (fun n hn => (hisfn n).trans (hnf n (List.mem_append_right _ hn))),
    checkSerialization_congr hlook, hser]

/-! ### the re-created type differs only in the order of its own attributes (`reorder`: `constants` last), which nothing reads:
    same layout, lookup, `Get` and init-hash (`reorder_same`) -/

theorem findAttr_reorder {l l' : Level} {p : OType} (hnd : (l.attrs.map (·.name)).Nodup)
    (hl : l'.attrs = reorder l.attrs) (n : String) : findAttr (l' :: p) n = findAttr (l :: p) n := by
  simp only [findAttr, hl, find_reorder hnd]

theorem filter_reorder_settable (as : List Attr) (q : Attr → Bool) :
    ((reorder as).filter q).filter Attr.settable = (as.filter q).filter Attr.settable := by
  unfold reorder
  rw [List.filter_append, List.filter_append]
  have hA : ((as.filter Attr.constLike).filter q).filter Attr.settable = [] := by
    rw [List.filter_eq_nil_iff]
    intro a ha
    have := (List.mem_filter.mp (List.mem_filter.mp ha).1).2
    simp [constLike_not_settable this]
  rw [hA, List.append_nil, List.filter_filter, List.filter_filter, List.filter_filter]
  apply List.filter_congr
  intro a _
  cases hc : a.constLike with
  | false => simp
  | true => simp [constLike_not_settable hc]

theorem settable_each_reorder {l l' : Level} {p : OType} (hnd : (l.attrs.map (·.name)).Nodup)
    (hl : l'.attrs = reorder l.attrs) :
    (eachAttribute (l' :: p)).filter Attr.settable = (eachAttribute (l :: p)).filter Attr.settable := by
  rw [eachAttribute_cons, eachAttribute_cons, putAll, putAll, List.filter_append, List.filter_append, hl,
    filter_reorder_settable]
  congr 2
  apply List.map_congr_left
  intro a _
  simp only [find_reorder hnd]

theorem posAttrs_reorder {l l' : Level} {p : OType} (hnd : (l.attrs.map (·.name)).Nodup)
    (hl : l'.attrs = reorder l.attrs) (hs : l'.serialization = l.serialization) :
    posAttrs (l' :: p) = posAttrs (l :: p) := by
  unfold posAttrs
  simp only [hs]
  cases l.serialization with
  | none =>
    simp only
    rw [settable_each_reorder hnd hl]
  | some ser =>
    simp only
    congr 1
    funext n
    exact findAttr_reorder hnd hl n

theorem attrInfo_reorder {l l' : Level} {p : OType} (hnd : (l.attrs.map (·.name)).Nodup)
    (hl : l'.attrs = reorder l.attrs) (hs : l'.serialization = l.serialization) (he : l'.equality = l.equality) :
    attrInfo (l' :: p) = attrInfo (l :: p) := by
  unfold attrInfo requiredCount
  rw [posAttrs_reorder hnd hl hs]
  simp only [equalityDeclared, equalityAttributes, he]
  rfl

theorem reorder_same {l : Level} {p : OType} (hnd : (l.attrs.map (·.name)).Nodup) :
    attrInfo ({ l with attrs := reorder l.attrs } :: p) = attrInfo (l :: p) ∧
    (∀ n, findAttr ({ l with attrs := reorder l.attrs } :: p) n = findAttr (l :: p) n) ∧
    (∀ vs n, get { typ := { l with attrs := reorder l.attrs } :: p, values := vs } n =
      get { typ := l :: p, values := vs } n) ∧
    (∀ vs, initHash { typ := { l with attrs := reorder l.attrs } :: p, values := vs } =
      initHash { typ := l :: p, values := vs }) := by
  have hai := attrInfo_reorder (l' := { l with attrs := reorder l.attrs }) (p := p) hnd rfl rfl rfl
  have hma : ∀ n, memberAttr ({ l with attrs := reorder l.attrs } :: p) n = memberAttr (l :: p) n := fun n => by
    simp only [memberAttr, find_reorder hnd]
  refine ⟨hai, fun n => findAttr_reorder hnd rfl n, fun vs n => ?_, fun vs => ?_⟩
  · unfold get
    simp only [hai, hma]
  · unfold initHash
    simp only [hai]

end Pcore.Object

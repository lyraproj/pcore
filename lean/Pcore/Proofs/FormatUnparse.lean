import Pcore.Proofs.FormatParse
/-! `unParse` writes a directive that Go's fmt understands.  `FmtWF` is the well-formedness of a Format record (it contains
    FormatBin's `PlusOK` and FormatParse's `NumOK`); of a well-formed record the `unParse` text, delimiters filtered out, is
    flags, decimal width, precision part and letter, and fmt parses it to the record's verb, width and precision
    (`goParse_unParse`).  `FmtWF` holds of every parsed format (`parseFormat_wf`) and is kept by `WithoutWidth` and
    `ReplaceFormatChar`, so the format strings of the float path are understood (`FmtWF.floatOK`); with FormatParse's `GoOK0`
    this gives `GoOK` (`parseFormat_goOK`), the form in which the rest of the development uses all of this. -/
namespace Pcore.Format

theorem digitChar_isDigit : ∀ d, d < 10 → isDigit (digitChar false d) = true ∧ (digitChar false d).toNat - '0'.toNat = d := by
  decide

theorem natStr10_digits (n : Nat) : ∀ c ∈ natStr 10 false n, isDigit c = true := by
  rw [natStr, toDigits_eq_digits (by omega)]
  exact Digits.forall_map_digits (by omega) _ (fun k hk => (digitChar_isDigit k hk).1) n

theorem readNat_natStr (n : Nat) : readNat (natStr 10 false n) = n := by
  unfold readNat natStr
  rw [toDigits_eq_digits (by omega)]
  exact Digits.foldl_map_digits (by omega) (digitChar false) (fun c => c.toNat - '0'.toNat)
    (fun x hx => (digitChar_isDigit x hx).2) n

theorem natStr10_head_not_goFlag (n : Nat) (hn : 1 ≤ n) : ∀ c, (natStr 10 false n).head? = some c → isGoFlag c = false := by
  obtain ⟨d, ds, e, hd, hdb⟩ := Digits.head_digits (b := 10) (by omega) hn
  rw [natStr, toDigits_eq_digits (by omega), e]
  intro c hc
  cases hc
  exact (by decide : ∀ d, d < 10 → 0 < d → isGoFlag (digitChar false d) = false) d hdb hd

/-- a Format record as `parseFormat` (or `simpleFormat`) builds it -/
structure FmtWF (f : Fmt) : Prop where
  plus : f.plus = none ∨ f.plus = some '+' ∨ f.plus = some ' '
  ldelim : ∀ d, f.ldelim = some d → isDelim d = true ∨ (d = ' ' ∧ (f.plus = some ' ' ∨ f.plus = some '+'))
  width : ∀ w, f.width = some w → 1 ≤ w ∧ w / 10 ≤ 1000000
  prec : ∀ p, f.prec = some p → p / 10 ≤ 1000000
  letter : isLetter f.letter = true

/-- the flags `unParse` writes, without the delimiter -/
def unParseFlags (f : Fmt) : Str :=
  (if f.zeroPad then ['0'] else []) ++ plusStr f ++ (if f.left then ['-'] else []) ++
  (if f.ldelim = some ' ' ∧ f.plus = some '+' then [' '] else []) ++ (if f.alt then ['#'] else [])

def unParseTail (f : Fmt) : Str := widthStr f ++ precStr f ++ [f.letter]

/-- what `unParse` writes for the width and the precision, as pieces -/
theorem widthStr_width (f : Fmt) : (∀ c ∈ widthStr f, isDigit c = true) ∧
    f.width = if (widthStr f).isEmpty then none else some (readNat (widthStr f)) := by
  unfold widthStr
  cases f.width with
  | none => exact ⟨fun _ hc => (nomatch hc), rfl⟩
  | some w => exact ⟨natStr10_digits w, by
      rw [List.isEmpty_eq_false_iff.mpr (natStr_ne_nil 10 false w), readNat_natStr]; rfl⟩

theorem precStr_part (f : Fmt) : PrecPart (precStr f) f.prec := by
  unfold precStr
  cases f.prec with
  | none => exact .inl ⟨rfl, rfl⟩
  | some p => exact .inr ⟨_, natStr_ne_nil 10 false p, natStr10_digits p, rfl, by rw [readNat_natStr]⟩

theorem unParse_filter (f : Fmt) (h : FmtWF f) :
    (unParse f).filter (fun c => !isDelim c) = '%' :: (unParseFlags f ++ unParseTail f) := by
  have hw : (widthStr f).filter (fun c => !isDelim c) = widthStr f :=
    List.filter_eq_self.mpr fun c hc => by rw [not_delim_of_digit c ((widthStr_width f).1 c hc)]; rfl
  have hp : (precStr f).filter (fun c => !isDelim c) = precStr f :=
    List.filter_eq_self.mpr fun c hc => by rw [(precStr_part f).noDelim c hc]; rfl
  have hl : ([f.letter] : Str).filter (fun c => !isDelim c) = [f.letter] := by
    simp [not_delim_of_letter _ h.letter]
  have hplus : (plusStr f).filter (fun c => !isDelim c) = plusStr f := by
    unfold plusStr
    rcases h.plus with hp | hp | hp <;> rw [hp] <;> simp <;> decide
  have hld : (delimStr f).filter (fun c => !isDelim c) = (if f.ldelim = some ' ' ∧ f.plus = some '+' then [' '] else []) := by
    unfold delimStr
    cases hl : f.ldelim with
    | none => simp
    | some d =>
      simp only
      rcases h.ldelim d hl with hd | ⟨hd, hp | hp⟩
      · have hne : d ≠ ' ' := by rintro rfl; revert hd; decide
        by_cases hpd : f.plus = some d
        · simp [hpd, hne]
        · simp [hpd, hd, hne]
      · subst hd; simp [hp]
      · subst hd; simp [hp]; decide
  -- the flag characters `unParse` writes by itself are not delimiters
  have hflag : ∀ (b : Bool) (c : Char), isDelim c = false →
      (if b then [c] else []).filter (fun c => !isDelim c) = if b then [c] else [] := by
    intro b c hc; cases b <;> simp [hc]
  unfold unParse unParseFlags unParseTail
  simp only [List.filter_append, hw, hp, hl, hplus, hld, hflag _ '0' (by decide), hflag _ '-' (by decide),
    hflag _ '#' (by decide), List.append_assoc]
  rfl

theorem unParseFlags_go (f : Fmt) (h : FmtWF f) : ∀ c ∈ unParseFlags f, isGoFlag c = true := by
  intro c hc
  unfold unParseFlags plusStr at hc
  simp only [List.mem_append] at hc
  rcases hc with (((hc | hc) | hc) | hc) | hc
  · by_cases hz : f.zeroPad = true <;> simp [hz] at hc; rw [hc]; decide
  · rcases h.plus with hp | hp | hp <;> rw [hp] at hc <;> simp at hc <;> rw [hc] <;> decide
  · by_cases hz : f.left = true <;> simp [hz] at hc; rw [hc]; decide
  · by_cases hz : f.ldelim = some ' ' ∧ f.plus = some '+' <;> simp [hz] at hc; rw [hc]; decide
  · by_cases hz : f.alt = true <;> simp [hz] at hc; rw [hc]; decide

theorem goParse_unParse (f : Fmt) (h : FmtWF f) :
    ∃ g, goParse ((unParse f).filter (fun c => !isDelim c)) = some g ∧ g.verb = f.letter ∧ g.wid = f.width ∧
      g.prec = f.prec := by
  rw [unParse_filter f h, unParseTail, List.append_assoc]
  refine ⟨_, goParse_pieces (unParseFlags_go f h) (widthStr_width f).1 ?_ (widthStr_width f).2 (precStr_part f)
    (fun n e => (h.width n e).2) h.prec h.letter, rfl, rfl, rfl⟩
  unfold widthStr
  cases hw : f.width with
  | none => exact fun _ hx => nomatch hx
  | some w => exact natStr10_head_not_goFlag w (h.width w hw).1

theorem findDelim_some (fl : Str) : ∀ (ds : List Char) (acc r : Option Char), findDelim fl ds acc = .ok r →
    ∀ d, r = some d → d ∈ ds ∨ acc = some d
  | [], acc, r, h, d, hr => by simp [findDelim] at h; right; rw [h, hr]
  | x :: xs, acc, r, h, d, hr => by
    simp only [findDelim, bind, Except.bind] at h
    cases hx : hasOnce fl x with
    | error e => rw [hx] at h; cases h
    | ok b =>
      rw [hx] at h
      cases b with
      | false =>
        simp only [Bool.false_eq_true, if_false] at h
        rcases findDelim_some fl xs acc r h d hr with h' | h'
        · left; simp [h']
        · right; exact h'
      | true =>
        simp only [if_true] at h
        cases acc with
        | some a => cases h
        | none =>
          simp only at h
          rcases findDelim_some fl xs (some x) r h d hr with h' | h'
          · left; simp [h']
          · left; cases h'; simp

theorem parseFormat_ldelim (orig : Str) (sep sep2 : Option Str) (f : Fmt) (h : parseFormat orig sep sep2 = .ok f) :
    ∀ d, f.ldelim = some d → isDelim d = true ∨ (d = ' ' ∧ (f.plus = some ' ' ∨ f.plus = some '+')) := by
  obtain ⟨p, hasPlus, hasSpace, found, hP⟩ := parseFormat_ok orig sep sep2 f h
  intro d hd
  rw [hP.ldelim_eq] at hd
  cases found with
  | some x =>
    simp only at hd; cases hd
    rcases findDelim_some p.flags delimiters none (some d) hP.delim d rfl with h' | h'
    · left; simp [delimiters] at h'; rcases h' with rfl | rfl | rfl | rfl | rfl <;> decide
    · cases h'
  | none =>
    simp only at hd
    right
    rw [hP.plus_eq]
    cases hasSpace with
    | false => simp at hd
    | true => simp at hd; refine ⟨hd.symm, ?_⟩; cases hasPlus <;> simp

theorem readNat_pos (c : Char) (cs : Str) (hc : isDigit c = true) (h0 : c ≠ '0') : 1 ≤ readNat (c :: cs) := by
  have hmono : ∀ (l : Str) (acc : Nat), 1 ≤ acc → 1 ≤ l.foldl (fun n c => n * 10 + (c.toNat - '0'.toNat)) acc := by
    intro l
    induction l with
    | nil => intro acc h; exact h
    | cons x xs ih => intro acc h; simp only [List.foldl_cons]; exact ih _ (by omega)
  unfold readNat
  simp only [List.foldl_cons]
  apply hmono
  simp only [isDigit, Bool.and_eq_true, decide_eq_true_eq] at hc
  have h1 : '0'.toNat ≤ c.toNat := hc.1
  have h2 : c.toNat ≠ '0'.toNat := by
    intro h
    apply h0
    have hc' : c = Char.ofNat c.toNat := (Char.ofNat_toNat c).symm
    rw [h] at hc'
    exact hc'
  simp at h1 h2 ⊢
  omega

theorem parseFormat_wf (orig : Str) (sep sep2 : Option Str) (f : Fmt) (h : parseFormat orig sep sep2 = .ok f) :
    FmtWF f := by
  have hn := parseFormat_numOK orig sep sep2 f h
  obtain ⟨p, _, _, _, hP⟩ := parseFormat_ok orig sep sep2 f h
  obtain ⟨wd, _, _, _, hwd, hwd0, hw, hlet, _⟩ := matchPattern_pieces orig p hP.pat
  refine ⟨parseFormat_plusOK orig sep sep2 f h, parseFormat_ldelim orig sep sep2 f h, ?_, fun p hp => hn.prec p hp,
    by rw [hP.letter_eq]; exact hlet⟩
  intro w hw'
  refine ⟨?_, hn.width w hw'⟩
  rw [hP.width_eq, hw] at hw'
  cases wd with
  | nil => cases hw'
  | cons c cs =>
    cases hw'
    exact readNat_pos c cs (hwd c List.mem_cons_self) (by rintro rfl; exact absurd (hwd0 _ rfl) (by decide))

theorem FmtWF.withoutWidth {f : Fmt} (h : FmtWF f) : FmtWF (withoutWidth f) := by
  unfold Pcore.Format.withoutWidth
  exact ⟨h.plus, h.ldelim, by intro w hw; simp at hw, h.prec, h.letter⟩

theorem FmtWF.replace {f : Fmt} (h : FmtWF f) (c : Char) (hc : isLetter c = true) : FmtWF (replaceFormatChar f c) := by
  unfold replaceFormatChar
  exact ⟨h.plus, h.ldelim, h.width, h.prec, hc⟩

theorem goParse_withoutWidth (f : Fmt) (h : FmtWF f) :
    ∃ g, goParse (goFormat (withoutWidth f)) = some g ∧ g.verb = f.letter := by
  obtain ⟨g, hg, hv, _⟩ := goParse_unParse _ h.withoutWidth
  exact ⟨g, hg, hv⟩

theorem goParse_replace (f : Fmt) (h : FmtWF f) (c : Char) (hc : isLetter c = true) :
    ∃ g, goParse (goFormat (replaceFormatChar f c)) = some g ∧ g.verb = c ∧ g.wid = f.width := by
  obtain ⟨g, hg, hv, hw, _⟩ := goParse_unParse _ (h.replace c hc)
  exact ⟨g, hg, hv, hw⟩

/- The format strings of the float path are `unParse` texts.  Left reducible, every elaboration step against a goal
   `VerbOK (goFormat (withoutWidth f)) c` runs fmt's parser (`goParse`) on that text as far as the `if`s in it allow. -/
attribute [local irreducible] unParse

/-- the format strings the float path derives from a well-formed record are understood by fmt -/
theorem FmtWF.floatOK {f : Fmt} (h : FmtWF f) : FloatOK f := by
  obtain ⟨_, hg0, hv0⟩ := goParse_withoutWidth f h
  obtain ⟨_, hg1, hv1, _⟩ := goParse_replace f h 'e' (by decide)
  obtain ⟨_, hg2, hv2, _⟩ := goParse_replace f h 'E' (by decide)
  exact ⟨.intro hg0 hv0, .intro hg1 hv1, .intro hg2 hv2⟩

/-- **every format string pcore hands to fmt for a parsed Format is a directive fmt understands** -/
theorem parseFormat_goOK (orig : Str) (sep sep2 : Option Str) (f : Fmt) (h : parseFormat orig sep sep2 = .ok f) :
    GoOK f := ⟨parseFormat_goOK0 orig sep sep2 f h, (parseFormat_wf orig sep sep2 f h).floatOK⟩

end Pcore.Format

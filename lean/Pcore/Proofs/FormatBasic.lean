import Pcore.Model.Format
/-! C20 (property theorems: `Pcore/Props/C20.lean`): the Format record of a directive text for the examples; fmt's `pad`
    and the lengths of padded strings; `field`, the normal form of a padded number. -/
namespace Pcore.Format

instance : DecidableEq (Except Code Fmt) := fun a b =>
  match a, b with
  | .ok x, .ok y => if h : x = y then isTrue (by rw [h]) else isFalse (fun e => h (by cases e; rfl))
  | .error x, .error y => if h : x = y then isTrue (by rw [h]) else isFalse (fun e => h (by cases e; rfl))
  | .ok _, .error _ => isFalse (fun e => by cases e)
  | .error _, .ok _ => isFalse (fun e => by cases e)

/-- the Format record of a directive text (for examples; `simpleFmt 's'` when the text is not a directive) -/
def parsed (d : String) : Fmt :=
  match newFormat d.toList with
  | .ok f => f
  | .error _ => simpleFmt 's'

@[simp] theorem spaces_length (n : Nat) : (spaces n).length = n := by simp [spaces]
@[simp] theorem zeros_length (n : Nat) : (zeros n).length = n := by simp [zeros]

theorem goPad_length_ge (minus zero : Bool) (w : Nat) (s : Str) : w ≤ (goPad minus zero (some w) s).length := by
  cases minus <;> cases zero <;> simp [goPad] <;> omega

theorem goPad_none (minus zero : Bool) (s : Str) : goPad minus zero none s = s := rfl

theorem goPad_some (minus : Bool) (w : Nat) (s : Str) :
    goPad minus false (some w) s =
      if w ≤ s.length then s else if minus then s ++ spaces (w - s.length) else spaces (w - s.length) ++ s := by
  unfold goPad
  by_cases h : w ≤ s.length
  · have : w - s.length = 0 := by omega
    cases minus <;> simp [h, this, spaces]
  · cases minus <;> simp [h]

theorem goPad_eq (minus : Bool) (wid : Option Nat) (s : Str) :
    goPad minus false wid s =
      if minus then s ++ spaces (wid.getD 0 - s.length) else spaces (wid.getD 0 - s.length) ++ s := by
  cases wid <;> cases minus <;> simp [goPad, spaces]

theorem goPad_of_le (minus zero : Bool) {w : Nat} {s : Str} (h : w ≤ s.length) : goPad minus zero (some w) s = s := by
  simp only [goPad, Nat.sub_eq_zero_of_le h, spaces, zeros, List.replicate_zero, List.append_nil, List.nil_append, ite_self]

theorem spaces_add (a b : Nat) : spaces a ++ spaces b = spaces (a + b) := by
  simp [spaces, List.replicate_append_replicate]

theorem zeros_add (a b : Nat) : zeros a ++ zeros b = zeros (a + b) := by
  simp [zeros, List.replicate_append_replicate]

theorem goPad_shape (minus : Bool) (wid : Option Nat) (body : Str) :
    ∃ a bb, goPad minus false wid body = spaces a ++ body ++ spaces bb := by
  rw [goPad_eq]
  cases minus
  · exact ⟨wid.getD 0 - body.length, 0, by simp [spaces]⟩
  · exact ⟨0, wid.getD 0 - body.length, by simp [spaces]⟩

/-- A number in its field: sign, radix prefix, `k` zeros, digits, and blanks to the width on the left (on the right with
    `-`).  Every numeric rendering of the model — fmt's integer verbs, the hand-written `b B`, the printf reference, and
    through it the float path's `padNumber` — is given as a `field` by one equation, and width, padding side, reading back and the
    comparison with the reference are each proved once, about `field`. -/
def field (minus : Bool) (wid : Option Nat) (sign pfx : Str) (k : Nat) (ds : Str) : Str :=
  goPad minus false wid (sign ++ pfx ++ zeros k ++ ds)

theorem field_none (minus : Bool) (sign pfx : Str) (k : Nat) (ds : Str) :
    field minus none sign pfx k ds = sign ++ pfx ++ zeros k ++ ds := rfl

theorem field_width (minus : Bool) (w : Nat) (sign pfx : Str) (k : Nat) (ds : Str) :
    w ≤ (field minus (some w) sign pfx k ds).length := goPad_length_ge _ _ _ _

theorem field_pad (minus : Bool) (wid : Option Nat) (sign pfx : Str) (k : Nat) (ds : Str) :
    field minus wid sign pfx k ds =
      if minus then field minus none sign pfx k ds ++ spaces (wid.getD 0 - (field minus none sign pfx k ds).length)
      else spaces (wid.getD 0 - (field minus none sign pfx k ds).length) ++ field minus none sign pfx k ds :=
  goPad_eq _ _ _

end Pcore.Format

import Pcore.Model.Types
/-!
The resolution layer of C05 for Callable, argument level: the creator `callableCreate` (= `newCallableType3` + `tupleFromArgs(true, …)`)
maps the arguments that a well-shaped Callable prints back to that Callable.  No parser, no oracle: pure functions on `Arg`.
`Proofs/TypeRT.lean` connects this to `tyExpr` / `resolve`.  In order: the arguments a Callable prints (`cArgs`) and the shapes
that print invertibly (`CallableShape`); the size analysis of `tupleFromArgs` (`tupleBodyG`, `sizeArgs`, `newInt_of_le`), which the
Tuple creator shares (`tupleBody_eq`, `tupleCreate_eq`, `head_tys_append`: used by `TypeRT` for Tuple itself); the parameter
Tuple read back (`tupleCreateC_cTupleArgs`); the block split off; the creator with and without a return type.
-/
namespace Pcore.Syntax

/-- the size arguments of the parameter Tuple (`TupleType.Parameters`: none without a size, none for the default Tuple) -/
def cSizeArgs (ts : List Ty) (sz : Option (Int × Int)) : List Arg :=
  match sz with
  | none => []
  | some r => if ts.isEmpty ∧ r.1 = 0 ∧ r.2 = i64max then [] else [.int r.1, if r.2 = i64max then .dflt else .int r.2]

/-- the two size arguments as the resolver reads them back from what `sizeParams` prints (an unbounded maximum is `default`);
    `cSizeArgs` holds this list -/
def sizeArgs (lo hi : Int) : List Arg := [.int lo, if hi = i64max then .dflt else .int hi]

def notUnitTys : List Ty → List Ty
  | [] => []
  | t :: ts => if t.isUnit then notUnitTys ts else t :: notUnitTys ts

/-- parameters (without `Unit`) and size -/
def cTupleArgs (ts : List Ty) (sz : Option (Int × Int)) : List Arg := (notUnitTys ts).map Arg.ty ++ cSizeArgs ts sz

def cBlockArgs : Option Ty → List Arg
  | some b => [.ty b]
  | none => []

/-- everything inside the (inner) list: parameters, size, block -/
def cArgs (ts : List Ty) (sz : Option (Int × Int)) (blk : Option Ty) : List Arg := cTupleArgs ts sz ++ cBlockArgs blk

def Ty.isTuple : Ty → Bool
  | .tuple _ _ => true
  | _ => false

def sizeOK : Option (Int × Int) → Prop
  | none => True
  | some r => i64min ≤ r.1 ∧ r.1 ≤ r.2 ∧ r.2 ≤ i64max ∧ 0 ≤ r.2

/-- the shapes of a Callable's parameter Tuple (member types `ts`, size `sz`) that print invertibly, given whether there is
    a return type (`hasRet`: the parameters are then printed inside an array) and a block type (`hasBlk`):
    * no member types: the empty Tuple `[0, 0]`, or the default Tuple provided something else gets printed;
    * exactly one `Unit` member with a size other than `[0, 0]` (what `Callable[lo, hi]` creates);
    * otherwise: no `Unit` member (it would not be printed); without a return type the first member is not itself a Tuple
      (it would be read back as the whole parameter Tuple); without a block type and without a size the last member is
      not a block type (it would be read back as the block). -/
def CallableShape (ts : List Ty) (sz : Option (Int × Int)) (hasRet hasBlk : Bool) : Prop :=
  sizeOK sz ∧
  match ts with
  | [] => sz = some (0, 0) ∨ (sz = some (0, i64max) ∧ (hasRet = true ∨ hasBlk = true))
  | t :: ts' =>
    (t.isUnit = true ∧ ts'.isEmpty = true ∧ sz ≠ none ∧ sz ≠ some (0, 0)) ∨
    ((∀ x ∈ t :: ts', x.isUnit = false) ∧ (hasRet = false → t.isTuple = false) ∧
      (hasBlk = false → sz = none → ((t :: ts').getLast?.all fun l => !l.isBlock) = true))

theorem newInt_of_le {lo hi : Int} (h : lo ≤ hi) : newInt lo hi = some (lo, hi) := by
  simp [newInt, Int.not_lt.2 h]

theorem isUnit_eq {t : Ty} (h : t.isUnit = true) : t = tyUnit := by
  cases t <;> simp_all [Ty.isUnit, tyUnit]

theorem unit_singleton {t : Ty} {ts' : List Ty} (h1 : t.isUnit = true) (h2 : ts'.isEmpty = true) : t :: ts' = [tyUnit] := by
  rw [isUnit_eq h1]
  cases ts' with
  | nil => rfl
  | cons a b => simp at h2

theorem mapM_argTy (ts : List Ty) : (ts.map Arg.ty).mapM argTy = some ts := by
  induction ts with
  | nil => rfl
  | cons t ts ih => simp [List.mapM_cons, argTy, ih]

theorem notUnitTys_id (ts : List Ty) (h : ∀ x ∈ ts, x.isUnit = false) : notUnitTys ts = ts := by
  induction ts with
  | nil => rfl
  | cons t ts ih =>
    simp only [notUnitTys, h t (by simp), Bool.false_eq_true, if_false]
    rw [ih (fun x hx => h x (by simp [hx]))]

theorem tupleFlat_id (l : List Arg) (h : ∀ a ∈ l.head?, ∀ as, a ≠ Arg.arr as) : tupleFlat l = some l := by
  unfold tupleFlat
  split
  · rename_i as; exact absurd rfl (h (.arr as) (by simp) as)
  · rename_i as lo hi; exact absurd rfl (h (.arr as) (by simp) as)
  · rename_i as x _; exact absurd rfl (h (.arr as) (by simp) as)
  · rfl

theorem tupleMkC_tys (ts : List Ty) (rng : Option (Int × Int)) (h : ts ≠ []) :
    tupleMkC (ts.map Arg.ty) rng = some (ts, rng) := by
  cases ts with
  | nil => exact absurd rfl h
  | cons t ts' =>
    have := mapM_argTy (t :: ts')
    simp only [List.map_cons] at this
    simp [tupleMkC, this]

/-- the size analysis of `tupleFromArgs` over its last step: `tupleBody` and `tupleBodyC` (Model/Types.lean) are this with
    `tupleMk` resp. `tupleMkC` -/
def tupleBodyG {α : Type} (mk : List Arg → Option (Int × Int) → Option α) (l : List Arg) : Option α :=
  match l.reverse with
  | [] => mk [] none
  | last :: restRev =>
    let mx : Option Int :=
      match last with
      | .dflt => some i64max
      | .int n => if n ≥ 0 then some n else none
      | _ => none
    match mx with
    | none => mk l none
    | some m =>
      match restRev with
      | [] => mk [] (some (0, i64max))
      | .int mn :: tysRev => (newInt mn m).bind fun r => mk tysRev.reverse (some r)
      | _ => (newInt m restRev.length).bind fun r => mk restRev.reverse (some r)

theorem tupleBody_eq : tupleBody = tupleBodyG tupleMk := rfl
theorem tupleBodyC_eq : tupleBodyC = tupleBodyG tupleMkC := rfl

theorem tupleBodyG_tys {α : Type} (mk : List Arg → Option (Int × Int) → Option α) (ts : List Ty) :
    tupleBodyG mk (ts.map Arg.ty) = mk (ts.map Arg.ty) none := by
  rcases List.eq_nil_or_concat ts with rfl | ⟨init, t, rfl⟩
  · rfl
  · simp [tupleBodyG]

theorem tupleBodyG_sized {α : Type} (mk : List Arg → Option (Int × Int) → Option α) (tys : List Arg) (lo hi : Int)
    (h1 : lo ≤ hi) (h0 : 0 ≤ hi) : tupleBodyG mk (tys ++ sizeArgs lo hi) = mk tys (some (lo, hi)) := by
  unfold tupleBodyG sizeArgs
  by_cases hhi : hi = i64max
  · subst hhi; simp [newInt_of_le h1]
  · simp [hhi, h0, newInt_of_le h1]

theorem tupleBodyC_tys (ts : List Ty) (h : ts ≠ []) : tupleBodyC (ts.map Arg.ty) = some (ts, none) := by
  rw [tupleBodyC_eq, tupleBodyG_tys, tupleMkC_tys ts none h]

theorem tupleBodyC_sized (ts : List Ty) (lo hi : Int) (hts : ts ≠ []) (h1 : lo ≤ hi) (h0 : 0 ≤ hi) :
    tupleBodyC (ts.map Arg.ty ++ sizeArgs lo hi) = some (ts, some (lo, hi)) := by
  rw [tupleBodyC_eq, tupleBodyG_sized _ _ lo hi h1 h0, tupleMkC_tys ts _ hts]

/-- `Callable[lo, hi]`: no member types -/
theorem tupleBodyC_size_only (lo hi : Int) (h1 : lo ≤ hi) (h0 : 0 ≤ hi) :
    tupleBodyC (sizeArgs lo hi) = some (if lo = 0 ∧ hi = 0 then ([], some (0, 0)) else ([tyUnit], some (lo, hi))) := by
  have := tupleBodyG_sized tupleMkC [] lo hi h1 h0
  rw [List.nil_append] at this
  rw [tupleBodyC_eq, this]
  simp only [tupleMkC]
  split <;> rfl

/-- the ways a `CallableShape` can hold, each with what the parameter Tuple then prints (`cTupleArgs`) -/
inductive CShape (hasRet hasBlk : Bool) : List Ty → Option (Int × Int) → List Arg → Prop
  | empty : CShape hasRet hasBlk [] (some (0, 0)) (sizeArgs 0 0)
  | dflt (h : hasRet = true ∨ hasBlk = true) : CShape hasRet hasBlk [] (some (0, i64max)) []
  | unit (lo hi : Int) (hz : ¬(lo = 0 ∧ hi = 0)) (h1 : lo ≤ hi) (h0 : 0 ≤ hi) :
      CShape hasRet hasBlk [tyUnit] (some (lo, hi)) (sizeArgs lo hi)
  | tys (t : Ty) (ts' : List Ty) (hnu : ∀ x ∈ t :: ts', x.isUnit = false) (ht : hasRet = false → t.isTuple = false)
      (hl : hasBlk = false → ∀ l ∈ (t :: ts').getLast?, l.isBlock = false) :
      CShape hasRet hasBlk (t :: ts') none ((t :: ts').map Arg.ty)
  | sized (t : Ty) (ts' : List Ty) (hnu : ∀ x ∈ t :: ts', x.isUnit = false) (ht : hasRet = false → t.isTuple = false)
      (lo hi : Int) (h1 : lo ≤ hi) (h0 : 0 ≤ hi) :
      CShape hasRet hasBlk (t :: ts') (some (lo, hi)) ((t :: ts').map Arg.ty ++ sizeArgs lo hi)

theorem cTupleArgs_shape {ts : List Ty} {sz : Option (Int × Int)} {hasRet hasBlk : Bool}
    (h : CallableShape ts sz hasRet hasBlk) : CShape hasRet hasBlk ts sz (cTupleArgs ts sz) := by
  obtain ⟨hsz, hshape⟩ := h
  cases ts with
  | nil =>
    simp only at hshape
    rcases hshape with rfl | ⟨rfl, hb⟩
    · exact .empty
    · exact .dflt hb
  | cons t ts' =>
    simp only at hshape
    rcases hshape with ⟨hu1, hu2, hne, hnz⟩ | ⟨hnu, hnt, hlast⟩
    · rw [unit_singleton hu1 hu2]
      cases sz with
      | none => exact absurd rfl hne
      | some r =>
        obtain ⟨lo, hi⟩ := r
        obtain ⟨_, h1, _, h0⟩ := hsz
        have e : cTupleArgs [tyUnit] (some (lo, hi)) = sizeArgs lo hi := by
          simp [cTupleArgs, notUnitTys, cSizeArgs, sizeArgs, tyUnit, Ty.isUnit]
        rw [e]
        exact .unit lo hi (fun hz => hnz (by rw [hz.1, hz.2])) h1 h0
    · cases sz with
      | none =>
        have e : cTupleArgs (t :: ts') none = (t :: ts').map Arg.ty := by
          simp [cTupleArgs, notUnitTys_id _ hnu, cSizeArgs]
        rw [e]
        refine .tys _ _ hnu hnt fun hb l hl => ?_
        have := hlast hb rfl
        rw [hl] at this
        simpa using this
      | some r =>
        obtain ⟨lo, hi⟩ := r
        obtain ⟨_, h1, _, h0⟩ := hsz
        have e : cTupleArgs (t :: ts') (some (lo, hi)) = (t :: ts').map Arg.ty ++ sizeArgs lo hi := by
          simp [cTupleArgs, notUnitTys_id _ hnu, cSizeArgs, sizeArgs]
        rw [e]
        exact .sized _ _ hnu hnt lo hi h1 h0

theorem cTupleArgs_head_cases (ts : List Ty) (sz : Option (Int × Int)) :
    ∀ a ∈ (cTupleArgs ts sz).head?, (∃ i, a = .int i) ∨ ∃ t, a = .ty t := by
  intro a ha
  unfold cTupleArgs at ha
  cases hn : notUnitTys ts with
  | nil =>
    rw [hn] at ha
    simp only [List.map_nil, List.nil_append] at ha
    unfold cSizeArgs at ha
    cases sz with
    | none => simp at ha
    | some r =>
      simp only at ha
      split at ha
      · simp at ha
      · simp at ha; exact .inl ⟨_, ha.symm⟩
  | cons t ts' =>
    rw [hn] at ha
    simp at ha; exact .inr ⟨_, ha.symm⟩

theorem cTupleArgs_head (ts : List Ty) (sz : Option (Int × Int)) :
    ∀ a ∈ (cTupleArgs ts sz).head?, ∀ as, a ≠ Arg.arr as := by
  intro a ha as
  rcases cTupleArgs_head_cases ts sz a ha with ⟨i, rfl⟩ | ⟨t, rfl⟩ <;> simp

theorem tupleCreateC_eq {l : List Arg} (hne : l ≠ []) (hh : ∀ a ∈ l.head?, ∀ as, a ≠ Arg.arr as) :
    tupleCreateC l = tupleBodyC l := by
  cases l with
  | nil => exact absurd rfl hne
  | cons a as => simp only [tupleCreateC, tupleFlat_id _ hh, Option.bind]

theorem tupleCreate_eq {l : List Arg} (hh : ∀ a ∈ l.head?, ∀ as, a ≠ Arg.arr as) : tupleCreate l = tupleBody l := by
  simp only [tupleCreate, tupleFlat_id _ hh, Option.bind]

theorem head_tys_append (ts : List Ty) (rest : List Arg) (hr : ∀ a ∈ rest.head?, ∀ as, a ≠ Arg.arr as) :
    ∀ a ∈ (ts.map Arg.ty ++ rest).head?, ∀ as, a ≠ Arg.arr as := by
  cases ts with
  | nil => simpa using hr
  | cons t ts' => intro a ha as; simp at ha; subst ha; simp

theorem head_sizeArgs (lo hi : Int) : ∀ a ∈ (sizeArgs lo hi).head?, ∀ as, a ≠ Arg.arr as := by
  intro a ha as; simp [sizeArgs] at ha; subst ha; simp

theorem tupleCreateC_cTupleArgs (ts : List Ty) (sz : Option (Int × Int)) (hasRet hasBlk : Bool)
    (h : CallableShape ts sz hasRet hasBlk) : tupleCreateC (cTupleArgs ts sz) = some (ts, sz) := by
  have hh := cTupleArgs_head ts sz
  have hs := cTupleArgs_shape h
  generalize cTupleArgs ts sz = args at hs hh
  cases hs with
  | empty =>
    rw [tupleCreateC_eq (by simp [sizeArgs]) hh, tupleBodyC_size_only 0 0 (by omega) (by omega)]; simp
  | dflt _ => rfl
  | unit lo hi hz h1 h0 =>
    rw [tupleCreateC_eq (by simp [sizeArgs]) hh, tupleBodyC_size_only lo hi h1 h0, if_neg hz]
  | tys t ts' _ _ _ => rw [tupleCreateC_eq (by simp) hh, tupleBodyC_tys _ (by simp)]
  | sized t ts' _ _ lo hi h1 h0 => rw [tupleCreateC_eq (by simp) hh, tupleBodyC_sized _ lo hi (by simp) h1 h0]

theorem blockSplit_block (xs : List Arg) (b : Ty) (hb : b.isBlock = true) : blockSplit (xs ++ [.ty b]) = (some b, xs) := by
  simp [blockSplit, Arg.isBlock, hb, argTy]

theorem blockSplit_none (xs : List Arg) (h : ∀ l ∈ xs.getLast?, l.isBlock = false) : blockSplit xs = (none, xs) := by
  unfold blockSplit
  cases hr : xs.reverse with
  | nil => rfl
  | cons last restRev =>
    have : xs.getLast? = some last := by
      rw [List.getLast?_eq_head?_reverse, hr]; rfl
    simp [h last (by simp [this])]

theorem sizeArgs_last (tys : List Arg) (lo hi : Int) : ∀ l ∈ (tys ++ sizeArgs lo hi).getLast?, l.isBlock = false := by
  intro l hl
  simp only [sizeArgs, List.getLast?_append, List.getLast?_cons_cons, List.getLast?_singleton, Option.some_or,
    Option.mem_def, Option.some.injEq] at hl
  subst hl
  split <;> rfl

/-- without a block type, the last printed argument is not taken for one -/
theorem cTupleArgs_last (ts : List Ty) (sz : Option (Int × Int)) (hasRet : Bool) (h : CallableShape ts sz hasRet false) :
    ∀ l ∈ (cTupleArgs ts sz).getLast?, l.isBlock = false := by
  have hs := cTupleArgs_shape h
  generalize cTupleArgs ts sz = args at hs
  cases hs with
  | empty => exact sizeArgs_last [] 0 0
  | dflt _ => simp
  | unit lo hi _ _ _ => exact sizeArgs_last [] lo hi
  | tys t ts' _ _ hl =>
    intro l hl'
    rw [List.getLast?_map] at hl'
    simp only [Option.mem_def, Option.map_eq_some_iff] at hl'
    obtain ⟨x, hx, rfl⟩ := hl'
    exact hl rfl x hx
  | sized t ts' _ _ lo hi _ _ => exact sizeArgs_last _ lo hi

theorem callableFrom_cArgs (ts : List Ty) (sz : Option (Int × Int)) (rt blk : Option Ty)
    (h : CallableShape ts sz rt.isSome blk.isSome) (hb : ∀ b ∈ blk, b.isBlock = true) :
    callableFrom rt (cArgs ts sz blk) = some (.callable (some (ts, sz)) rt blk) := by
  unfold callableFrom cArgs
  cases blk with
  | none =>
    simp only [cBlockArgs, List.append_nil]
    rw [blockSplit_none _ (cTupleArgs_last ts sz rt.isSome h)]
    simp [tupleCreateC_cTupleArgs ts sz rt.isSome false h]
  | some b =>
    simp only [cBlockArgs]
    rw [blockSplit_block _ b (hb b rfl)]
    simp [tupleCreateC_cTupleArgs ts sz rt.isSome true h]

theorem cArgs_head_not_list (ts : List Ty) (sz : Option (Int × Int)) (blk : Option Ty) :
    ∀ a ∈ (cArgs ts sz blk).head?, a.asList = none := by
  intro a ha
  unfold cArgs at ha
  cases hc : cTupleArgs ts sz with
  | nil =>
    rw [hc] at ha
    cases blk with
    | none => simp [cBlockArgs] at ha
    | some b => simp [cBlockArgs] at ha; subst ha; rfl
  | cons x xs =>
    rw [hc] at ha
    simp at ha; subst ha
    rcases cTupleArgs_head_cases ts sz x (by simp [hc]) with ⟨i, rfl⟩ | ⟨t, rfl⟩ <;> rfl

/-- without a return type something is printed (otherwise the text is `Callable`, the default) -/
theorem cArgs_ne_nil (ts : List Ty) (sz : Option (Int × Int)) (blk : Option Ty) (h : CallableShape ts sz false blk.isSome) :
    cArgs ts sz blk ≠ [] := by
  have hs := cTupleArgs_shape h
  unfold cArgs
  generalize cTupleArgs ts sz = args at hs
  cases hs with
  | dflt hb =>
    cases blk with
    | none => simp at hb
    | some b => simp [cBlockArgs]
  | tys | sized | empty | unit => simp [sizeArgs]

theorem callableTupleForm_ty (t : Ty) (rest : List Arg) (h : t.isTuple = false) : callableTupleForm (.ty t :: rest) = none := by
  cases t with
  | tuple us usz => cases h
  | _ => rfl

theorem isTuple_of_isBlock {b : Ty} (h : b.isBlock = true) : b.isTuple = false := by
  cases b with
  | tuple us usz => cases h
  | _ => rfl

/-- no `[[…], ret]` form when the first argument is no list -/
theorem callableSplit_of_head (l : List Arg) (hne : l ≠ []) (h : ∀ a ∈ l.head?, a.asList = none) :
    callableSplit l = some (none, l) := by
  match l, hne, h with
  | [a], _, h => simp [callableSplit, h a rfl]
  | [a, b], _, h => simp [callableSplit, h a rfl]
  | a :: b :: c :: cs, _, _ => simp [callableSplit]

/-- without a return type: `Callable[p…, size, block]` -/
theorem callableCreate_flat (ts : List Ty) (sz : Option (Int × Int)) (blk : Option Ty)
    (h : CallableShape ts sz false blk.isSome) (hb : ∀ b ∈ blk, b.isBlock = true) (hne : cArgs ts sz blk ≠ []) :
    callableCreate (cArgs ts sz blk) = some (.callable (some (ts, sz)) none blk) := by
  have hfrom := callableFrom_cArgs ts sz none blk (by simpa using h) hb
  -- the first argument is not a Tuple type: it is an integer, the block, or the first member type, which the shape
  -- keeps from being a Tuple
  have hnotTuple : callableTupleForm (cArgs ts sz blk) = none := by
    have hs := cTupleArgs_shape h
    unfold cArgs
    generalize cTupleArgs ts sz = args at hs
    cases hs with
    | dflt _ =>
      cases blk with
      | none => rfl
      | some b => exact callableTupleForm_ty b _ (isTuple_of_isBlock (hb b rfl))
    | tys t ts' _ ht _ => exact callableTupleForm_ty t _ (ht rfl)
    | sized t ts' _ ht lo hi _ _ => exact callableTupleForm_ty t _ (ht rfl)
    | empty | unit => rfl
  unfold callableCreate
  rw [hnotTuple]
  simp only [callableSplit_of_head _ hne (cArgs_head_not_list ts sz blk), Option.bind]
  exact hfrom

/-- with a return type: `Callable[[p…, size, block], ret]` -/
theorem callableCreate_ret (ts : List Ty) (sz : Option (Int × Int)) (blk : Option Ty) (r : Ty)
    (h : CallableShape ts sz true blk.isSome) (hb : ∀ b ∈ blk, b.isBlock = true) :
    callableCreate [.arr (cArgs ts sz blk), .ty r] = some (.callable (some (ts, sz)) (some r) blk) := by
  have hfrom := callableFrom_cArgs ts sz (some r) blk (by simpa using h) hb
  unfold callableCreate
  simp only [callableTupleForm, callableSplit, Arg.asList, Option.bind]
  exact hfrom

end Pcore.Syntax

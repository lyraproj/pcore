import Pcore.Model.Lattice
/-! Structural induction on type terms and values.  `Ty` and `Val` are nested inductive types (through `List`, `Option`, pairs), for which
    `induction` has no principle; the principles Lean would otherwise generate (`Ty.ind`, `Val.ind`) are proved once from the termination
    weights, so that a proof over type terms is written `induction t using Ty.ind with | array e r ih => …` (alternatives may be grouped,
    `| _ => …` takes the rest).  Then the classes of constructors that statements quantify over: `Cov`, with the weights an induction on
    `Ty.w` needs at its members and the principle `Ty.indCov` that gives the six one case; `Wrap`; `Ty.isLeaf`, `Ty.fragLeaf`, `Ty.isPos`
    (a further class, `Ty.plainR`, stands with the equations of `asg` it serves, LatAsgEq). -/
namespace Pcore.Lat

theorem Ty.ind {P : Ty → Prop}
    (any : P .any) (unit : P .unit) (undef : P .undef) (dflt : P .dflt) (scalar : P .scalar) (scalarData : P .scalarData)
    (numeric : P .numeric) (data : P .data) (richData : P .richData) (str : P .str) (bin : P .bin)
    (int : ∀ r, P (.int r)) (float : ∀ lo hi, P (.float lo hi)) (bool : ∀ v, P (.bool v)) (tspan : ∀ r, P (.tspan r))
    (tstamp : ∀ r, P (.tstamp r)) (strSz : ∀ r, P (.strSz r)) (strVal : ∀ s, P (.strVal s)) (enum : ∀ vs ci, P (.enum vs ci))
    (pattern : ∀ rs, P (.pattern rs)) (regexp : ∀ s, P (.regexp s)) (coll : ∀ r, P (.coll r))
    (array : ∀ e r, P e → P (.array e r)) (hash : ∀ k v r, P k → P v → P (.hash k v r))
    (tuple : ∀ ts g, (∀ t ∈ ts, P t) → P (.tuple ts g)) (struct : ∀ ms : List Member, (∀ m ∈ ms, P m.2.2) → P (.struct ms))
    (variant : ∀ ts, (∀ t ∈ ts, P t) → P (.variant ts))
    (optional : ∀ x, P x → P (.optional x)) (notUndef : ∀ x, P x → P (.notUndef x)) (typ : ∀ x, P x → P (.typ x))
    (sensitive : ∀ x, P x → P (.sensitive x)) (iterable : ∀ x, P x → P (.iterable x))
    (runtime : ∀ rt nm pt, P (.runtime rt nm pt))
    (callable : ∀ ps rt bl : Option Ty, (∀ t, ps = some t → P t) → (∀ t, rt = some t → P t) → (∀ t, bl = some t → P t) →
      P (.callable ps rt bl))
    (iterator : ∀ x, P x → P (.iterator x)) (object : ∀ p, P (.object p)) : ∀ t, P t := by
  intro t
  induction hn : t.w using Nat.strongRecOn generalizing t with
  | ind n ih =>
    subst hn
    cases t with
    | array e r => exact array e r (ih _ (by simp only [Ty.w]; omega) e rfl)
    | hash k v r => exact hash k v r (ih _ (by simp only [Ty.w]; omega) k rfl) (ih _ (by simp only [Ty.w]; omega) v rfl)
    | tuple ts g => exact tuple ts g fun t ht => ih _ (by have := Ty.w_lt_wl ht; simp only [Ty.w]; omega) t rfl
    | struct ms => exact struct ms fun m hm => ih _ (by have := Ty.w_lt_wm hm; simp only [Ty.w]; omega) _ rfl
    | variant ts => exact variant ts fun t ht => ih _ (by have := Ty.w_lt_wl ht; simp only [Ty.w]; omega) t rfl
    | optional x => exact optional x (ih _ (by simp only [Ty.w]; omega) x rfl)
    | notUndef x => exact notUndef x (ih _ (by simp only [Ty.w]; omega) x rfl)
    | typ x => exact typ x (ih _ (by simp only [Ty.w]; omega) x rfl)
    | sensitive x => exact sensitive x (ih _ (by simp only [Ty.w]; omega) x rfl)
    | iterable x => exact iterable x (ih _ (by simp only [Ty.w]; omega) x rfl)
    | iterator x => exact iterator x (ih _ (by simp only [Ty.w]; omega) x rfl)
    | callable ps rt bl =>
      exact callable ps rt bl (fun t h => ih _ (by subst h; simp only [Ty.w, Ty.wo]; omega) t rfl)
        (fun t h => ih _ (by subst h; simp only [Ty.w, Ty.wo]; omega) t rfl)
        (fun t h => ih _ (by subst h; simp only [Ty.w, Ty.wo]; omega) t rfl)
    | any => exact any | unit => exact unit | undef => exact undef | dflt => exact dflt | scalar => exact scalar
    | scalarData => exact scalarData | numeric => exact numeric | data => exact data | richData => exact richData
    | str => exact str | bin => exact bin | int r => exact int r | float lo hi => exact float lo hi | bool v => exact bool v
    | tspan r => exact tspan r | tstamp r => exact tstamp r | strSz r => exact strSz r | strVal s => exact strVal s
    | enum vs ci => exact enum vs ci | pattern rs => exact pattern rs | regexp s => exact regexp s | coll r => exact coll r
    | runtime rt nm pt => exact runtime rt nm pt | object p => exact object p

theorem Val.ind {P : Val → Prop} (undef : P .undef) (dflt : P .dflt) (bool : ∀ b, P (.bool b)) (int : ∀ i, P (.int i))
    (float : ∀ f, P (.float f)) (str : ∀ s, P (.str s)) (regexp : ∀ s, P (.regexp s)) (binary : ∀ b, P (.binary b))
    (tspan : ∀ n, P (.tspan n)) (tstamp : ∀ n, P (.tstamp n))
    (array : ∀ vs, (∀ x ∈ vs, P x) → P (.array vs))
    (hash : ∀ es : List (Val × Val), (∀ e ∈ es, P e.1) → (∀ e ∈ es, P e.2) → P (.hash es))
    (sensitive : ∀ v, P v → P (.sensitive v)) (typ : ∀ t, P (.typ t)) (obj : ∀ p, P (.obj p)) : ∀ v, P v := by
  intro v
  induction hn : v.w using Nat.strongRecOn generalizing v with
  | ind n ih =>
    subst hn
    cases v with
    | array vs => exact array vs fun x hx => ih _ (by have := Val.w_lt_wl hx; simp only [Val.w]; omega) x rfl
    | hash es =>
      exact hash es (fun e he => ih _ (by have := Val.w_lt_we he; simp only [Val.w]; omega) _ rfl)
        (fun e he => ih _ (by have := Val.w_lt_we he; simp only [Val.w]; omega) _ rfl)
    | sensitive x => exact sensitive x (ih _ (by simp only [Val.w]; omega) x rfl)
    | undef => exact undef | dflt => exact dflt | bool b => exact bool b | int i => exact int i | float f => exact float f
    | str s => exact str s | regexp s => exact regexp s | binary b => exact binary b | tspan n => exact tspan n
    | tstamp n => exact tstamp n | typ t => exact typ t | obj p => exact obj p

/-- The six constructors with one type parameter in a covariant position.  Where a proof treats them alike, `Ty.indCov` gives them one
    case, and what the proof needs of a definition on `c x` is a lemma over `Cov c` (by `cases` on it). -/
inductive Cov : (Ty → Ty) → Prop
  | optional : Cov .optional | notUndef : Cov .notUndef | typ : Cov .typ | sensitive : Cov .sensitive
  | iterator : Cov .iterator | iterable : Cov .iterable

theorem Cov.w {c : Ty → Ty} (hc : Cov c) (x : Ty) : (c x).w = 2 + x.w := by cases hc <;> simp only [Ty.w]
theorem Ty.w_lt_cov {c : Ty → Ty} (hc : Cov c) (x : Ty) : x.w < (c x).w := by rw [hc.w]; omega
theorem Ty.w_lt_variant {m : Ty} {ts : List Ty} (hm : m ∈ ts) : m.w < (Ty.variant ts).w := by
  have := Ty.w_lt_wl hm; simp only [Ty.w]; omega

theorem Ty.indCov {P : Ty → Prop} (cov : ∀ c, Cov c → ∀ x, P x → P (c x))
    (any : P .any) (unit : P .unit) (undef : P .undef) (dflt : P .dflt) (scalar : P .scalar) (scalarData : P .scalarData)
    (numeric : P .numeric) (data : P .data) (richData : P .richData) (str : P .str) (bin : P .bin)
    (int : ∀ r, P (.int r)) (float : ∀ lo hi, P (.float lo hi)) (bool : ∀ v, P (.bool v)) (tspan : ∀ r, P (.tspan r))
    (tstamp : ∀ r, P (.tstamp r)) (strSz : ∀ r, P (.strSz r)) (strVal : ∀ s, P (.strVal s)) (enum : ∀ vs ci, P (.enum vs ci))
    (pattern : ∀ rs, P (.pattern rs)) (regexp : ∀ s, P (.regexp s)) (coll : ∀ r, P (.coll r))
    (array : ∀ e r, P e → P (.array e r)) (hash : ∀ k v r, P k → P v → P (.hash k v r))
    (tuple : ∀ ts g, (∀ t ∈ ts, P t) → P (.tuple ts g)) (struct : ∀ ms : List Member, (∀ m ∈ ms, P m.2.2) → P (.struct ms))
    (variant : ∀ ts, (∀ t ∈ ts, P t) → P (.variant ts))
    (runtime : ∀ rt nm pt, P (.runtime rt nm pt))
    (callable : ∀ ps rt bl : Option Ty, (∀ t, ps = some t → P t) → (∀ t, rt = some t → P t) → (∀ t, bl = some t → P t) →
      P (.callable ps rt bl))
    (object : ∀ p, P (.object p)) : ∀ t, P t :=
  Ty.ind any unit undef dflt scalar scalarData numeric data richData str bin int float bool tspan tstamp strSz strVal enum pattern regexp
    coll array hash tuple struct variant (cov _ .optional) (cov _ .notUndef) (cov _ .typ) (cov _ .sensitive) (cov _ .iterable) runtime
    callable (cov _ .iterator) object

/-- the wrappers whose rule is "the same wrapper, on the content" -/
inductive Wrap : (Ty → Ty) → Prop
  | typ : Wrap .typ | sensitive : Wrap .sensitive | iterator : Wrap .iterator

theorem Wrap.cov {K : Ty → Ty} (h : Wrap K) : Cov K := by cases h <;> constructor

/-- the constructors without a type term inside, other than Unit and the two built-in aliases -/
def Ty.isLeaf : Ty → Bool
  | .undef | .dflt | .numeric | .str | .bin | .int _ | .float _ _ | .bool _ | .tspan _ | .tstamp _ | .strSz _ | .strVal _ | .enum _ _
  | .pattern _ | .regexp _ | .runtime _ _ _ | .object _ | .scalar | .scalarData | .any | .coll _ => true
  | _ => false

/-- the types without a type inside that every fragment of C01 contains (not Unit; not Enum, which is well-formed only with lower-cased values) -/
def Ty.fragLeaf : Ty → Bool
  | .undef | .dflt | .numeric | .str | .bin | .int _ | .float _ _ | .bool _ | .tspan _ | .tstamp _ | .strSz _ | .strVal _
  | .pattern _ | .regexp _ | .runtime _ _ _ | .object _ | .scalar | .scalarData | .any | .coll _ | .data | .richData => true
  | _ => false

def Ty.isPos : Ty → Bool
  | .array _ _ | .tuple _ _ => true
  | _ => false

end Pcore.Lat

import Pcore.Proofs.Tokens
/-!
`Proofs/Tokens.lean` for QUALIFIED type names (`My::Thing`, `A::B::C`): the lexer reads the text of a qualified name back as one
`name` token.  Used for the written form of object instances (`My::Pt('x' => 1)`).  The simple type name (`nextToken_name`) is the
case of no further segment.
-/
namespace Pcore.Syntax

def Seg (p : Char × Str) : Prop := isUpper p.1 = true ∧ ∀ d ∈ p.2, isWord d = true ∧ d ≠ ':' ∧ d ≠ runeError

/-- the text of the segments after the first: `::Seg::Seg…` -/
def qrest : List (Char × Str) → Str
  | [] => []
  | (c, w) :: r => ':' :: ':' :: c :: (w ++ qrest r)

def qname (c : Char) (w : Str) (r : List (Char × Str)) : Str := c :: (w ++ qrest r)

theorem lexIdent_qual (r : List (Char × Str)) : ∀ (w acc : Str) (k : List Sym),
    (∀ c ∈ w, isWord c = true ∧ c ≠ ':' ∧ c ≠ runeError) → (∀ p ∈ r, Seg p) → identStop k →
    lexIdent true .body acc (syms (w ++ qrest r) ++ k) = .tok ⟨.name, acc.reverse ++ (w ++ qrest r)⟩ k false := by
  induction r with
  | nil =>
    intro w acc k hw _ hk
    simpa [qrest] using lexIdent_word true w acc k hw hk
  | cons p r ih =>
    intro w acc k hw hr hk
    obtain ⟨c, w'⟩ := p
    obtain ⟨hc, hw'⟩ : Seg (c, w') := hr (c, w') (by simp)
    have hrune : (Sym.chr c).rune = some c := rune_chr (alnum_not_special (.inr (.inl hc)) _ (by decide))
    have hcolon : (Sym.chr ':').rune = some ':' := by decide
    simp only [qrest, syms_append, syms_cons, List.append_assoc, List.cons_append]
    rw [lexIdent_word_prefix true w acc _ hw]
    have step : ∀ (a : Str) (tl : List Sym),
        lexIdent true .body a (.chr ':' :: .chr ':' :: .chr c :: tl) = lexIdent true .body (c :: ':' :: ':' :: a) tl := by
      intro a tl
      rw [lexIdent, hcolon]; simp only [if_true]
      rw [lexIdent.eq_def]; simp only [hcolon, if_true]
      rw [lexIdent.eq_def]; simp only [hrune, show isUpper c = true from hc, if_true]
    rw [step]
    have := ih w' (c :: ':' :: ':' :: (w.reverse ++ acc)) k hw' (fun q hq => hr q (by simp [hq])) hk
    simp only [syms_append, List.append_assoc] at this
    rw [this]
    simp

theorem nextToken_qname (il : Char → Bool) (c : Char) (w : Str) (r : List (Char × Str)) (k : List Sym)
    (hc : isUpper c = true) (hw : ∀ d ∈ w, isWord d = true ∧ d ≠ ':' ∧ d ≠ runeError) (hr : ∀ p ∈ r, Seg p)
    (hk : identStop k) :
    nextToken il (syms (qname c w r) ++ k) = .tok ⟨.name, qname c w r⟩ k false := by
  rw [qname, syms_cons, List.cons_append, nextToken_upper il c _ hc]
  simpa using lexIdent_qual r w [c] k hw hr hk

theorem nextToken_name (il : Char → Bool) (c : Char) (w : Str) (k : List Sym) (hc : isUpper c = true)
    (hw : ∀ d ∈ w, isWord d = true ∧ d ≠ ':' ∧ d ≠ runeError) (hk : identStop k) :
    nextToken il (syms (c :: w) ++ k) = .tok ⟨.name, c :: w⟩ k false := by
  simpa [qname, qrest] using nextToken_qname il c w [] k hc hw (by simp) hk

end Pcore.Syntax

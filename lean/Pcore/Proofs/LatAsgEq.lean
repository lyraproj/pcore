import Pcore.Model.LatticeAsg
/-! `asg` without unfolding it (everything about assignability imports this).  The class `Ty.plainR` of right-hand sides that
    `GuardedIsAssignable` hands to the receiver as they are; `asg_unfold`, the definition as one equation in the form of the right-hand
    side, and its reading at each decomposed form (Unit, Optional, Variant, NotUndef, the two aliases); then the plain right-hand sides:
    `asg` is the two shortcuts or the receiver's rule `asgRecv` (`asg_plain_r`, `asg_eq_recv`), and what that gives between two Arrays, two Hashes, a Struct and a Hash. -/
namespace Pcore.Lat
variable (cfg : Cfg) (sfh : Bool)

/-- right-hand sides that `GuardedIsAssignable` does not decompose -/
def Ty.plainR : Ty → Bool
  | .unit | .notUndef _ | .optional _ | .data | .richData | .variant _ => false
  | _ => true

theorem eq_of_sameNullary {a b : Ty} (h : sameNullary a b = true) : a = b := by
  unfold sameNullary at h
  split at h <;> first | rfl | cases h

theorem asg_any_l (b : Ty) : asg cfg sfh .any b = true := by unfold asg; rfl

theorem asg_unfold (a b : Ty) :
    asg cfg sfh a b = (a.isAny || sameNullary a b ||
      match b with
      | .unit => true
      | .notUndef nt => if !asg cfg sfh nt .undef then asg cfg sfh a nt else asgRecv cfg sfh a (.notUndef nt)
      | .optional ot => asg cfg sfh a .undef && asg cfg sfh a ot
      | .data => asg cfg sfh a .scalarData && asg cfg sfh a .undef && asgToArr cfg sfh .data a && asgToHash cfg sfh .data a
      | .richData =>
          asg cfg sfh a .scalar && asg cfg sfh a .bin && asg cfg sfh a .dflt && asg cfg sfh a (.object none) && asg cfg sfh a (.typ .any)
            && accTypeSet a && accDeferred a && asg cfg sfh a .undef && asgToArr cfg sfh .rich a && asgToHash cfg sfh .rich a
      | .variant bs => asgAllR cfg sfh a bs
      | b => asgRecv cfg sfh a b) := by
  conv => lhs; unfold asg
  -- the definition's own two-way match on `a`; a case split on both types would be one goal per pair of constructors
  split
  · rfl
  · rename_i ha
    have : a.isAny = false := by cases a <;> first | rfl | exact absurd rfl ha
    rw [this, Bool.false_or]
    cases sameNullary a b <;> rfl

theorem sameNullary_wrap {a b : Ty} (hb : match b with | .notUndef _ | .optional _ | .variant _ => True | _ => False) :
    sameNullary a b = false := by
  cases h : sameNullary a b
  · rfl
  · cases eq_of_sameNullary h; cases a <;> first | exact False.elim hb | cases h

theorem asg_unit_r (a : Ty) : asg cfg sfh a .unit = true := by
  rw [asg_unfold]; simp only [Bool.or_true]

theorem asg_optional_r (a ot : Ty) :
    asg cfg sfh a (.optional ot) = (a.isAny || (asg cfg sfh a .undef && asg cfg sfh a ot)) := by
  rw [asg_unfold, sameNullary_wrap trivial, Bool.or_false]

theorem asg_variant_r (a : Ty) (bs : List Ty) :
    asg cfg sfh a (.variant bs) = (a.isAny || asgAllR cfg sfh a bs) := by
  rw [asg_unfold, sameNullary_wrap trivial, Bool.or_false]

theorem asg_notUndef_r (a nt : Ty) :
    asg cfg sfh a (.notUndef nt) =
      (a.isAny || (if !asg cfg sfh nt .undef then asg cfg sfh a nt else asgRecv cfg sfh a (.notUndef nt))) := by
  rw [asg_unfold, sameNullary_wrap trivial, Bool.or_false]

theorem asg_data_r (a : Ty) :
    asg cfg sfh a .data = (a.isAny || sameNullary a .data ||
      (asg cfg sfh a .scalarData && asg cfg sfh a .undef && asgToArr cfg sfh .data a && asgToHash cfg sfh .data a)) :=
  asg_unfold cfg sfh a .data

theorem asg_rich_r (a : Ty) :
    asg cfg sfh a .richData = (a.isAny || sameNullary a .richData ||
      (asg cfg sfh a .scalar && asg cfg sfh a .bin && asg cfg sfh a .dflt && asg cfg sfh a (.object none) && asg cfg sfh a (.typ .any)
        && accTypeSet a && accDeferred a && asg cfg sfh a .undef && asgToArr cfg sfh .rich a && asgToHash cfg sfh .rich a)) :=
  asg_unfold cfg sfh a .richData

theorem asg_plain_r (a b : Ty) (hb : b.plainR = true) :
    asg cfg sfh a b = (a.isAny || sameNullary a b || asgRecv cfg sfh a b) := by
  rw [asg_unfold]
  cases b <;> first | rfl | cases hb

theorem asg_undef_undef : asg cfg sfh .undef .undef = true := by
  rw [asg_plain_r cfg sfh .undef .undef rfl]; rfl

theorem asg_eq_recv {a b : Ty} (hb : b.plainR = true) (ha : a.isAny = false) (hne : a ≠ b) :
    asg cfg sfh a b = asgRecv cfg sfh a b := by
  rw [asg_plain_r cfg sfh a b hb, ha, Bool.eq_false_iff.mpr fun h => hne (eq_of_sameNullary h)]; rfl

theorem asg_array_array (et e' : Ty) (r r' : Rng) :
    asg cfg sfh (.array et r) (.array e' r') = (r.sub r' && (decide (r'.hi ≤ 0) || asg cfg sfh et e')) := by
  rw [asg_plain_r cfg sfh _ _ rfl]; unfold asgRecv; rfl

theorem asg_hash_hash (k v k' v' : Ty) (r r' : Rng) :
    asg cfg sfh (.hash k v r) (.hash k' v' r') = (r.sub r' && (decide (r'.hi ≤ 0) || (asg cfg sfh k k' && asg cfg sfh v v'))) := by
  rw [asg_plain_r cfg sfh _ _ rfl]; unfold asgRecv; rfl

theorem asg_struct_hash (ms : List Member) (k' v' : Ty) (r' : Rng) :
    asg cfg sfh (.struct ms) (.hash k' v' r') =
      (sfh && structReq cfg sfh ms v' && (((ms.filter (fun m => !m.2.1)).length == 0) || asg cfg sfh .str k') && (structSize ms).sub r') := by
  rw [asg_plain_r cfg sfh _ _ rfl]; unfold asgRecv; rfl

end Pcore.Lat

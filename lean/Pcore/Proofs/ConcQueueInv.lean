import Pcore.Proofs.ConcQueue
/-! The declare / resolve queue, second of three files: the invariant `Inv` of the `fresh` variant and what a change of the shared part
    does to it.  In order: four facts about `getD` / `take` that the heap lemmas need; `Frame` (which changes of heap and queue variable
    leave a held slice alone), `SliceOK`, `PCok` and `Inv`; what `append` does (`appendQ_spec`, `Inv_append`, `Inv_declare`); the shape of
    a step, `Inv_update`, and its case `Inv_move` with the heap untouched.  The induction over the steps is in `ConcQueueStep.lean`. -/
namespace Pcore.ConcQueue

theorem getD_set_self {α : Type} (l : List α) (i : Nat) (v d : α) (h : i < l.length) : (l.set i v).getD i d = v := by
  simp [List.getD_eq_getElem?_getD, h]

theorem getD_append_lt {α : Type} (l m : List α) (j : Nat) (d : α) (h : j < l.length) : (l ++ m).getD j d = l.getD j d := by
  simp [List.getD_eq_getElem?_getD, List.getElem?_append_left h]

theorem getD_append_len {α : Type} (l : List α) (v d : α) : (l ++ [v]).getD l.length d = v := by
  simp [List.getD_eq_getElem?_getD]

theorem take_succ_of_getElem? {α : Type} (b : List α) (i : Nat) (x : α) (h : b[i]? = some x) : b.take (i + 1) = b.take i ++ [x] := by
  rw [List.take_add_one, h]
  rfl

/-- the new heap and queue variable leave alone every array other than the queue's, and the queue moves, if at all, to an
    array that did not exist -/
structure Frame (heap : List (List (Option Item))) (q : Slice) (heap' : List (List (Option Item))) (q' : Slice) : Prop where
  same : ∀ a, a < heap.length → a ≠ q.arr → heap'.getD a [] = heap.getD a []
  len : heap.length ≤ heap'.length
  arr : q'.arr = q.arr ∨ heap.length ≤ q'.arr

theorem Frame.refl (heap : List (List (Option Item))) (q : Slice) : Frame heap q heap q :=
  ⟨fun _ _ _ => rfl, Nat.le_refl _, Or.inl rfl⟩

/-- the queue moves to a new array pushed onto the heap (a growing `append`, a pop) -/
theorem Frame.push (heap : List (List (Option Item))) (q : Slice) (a : List (Option Item)) (n : Nat) :
    Frame heap q (heap ++ [a]) { arr := heap.length, len := n } :=
  ⟨fun _ ha _ => getD_append_lt _ _ _ _ ha, by rw [List.length_append]; exact Nat.le_add_right _ _, Or.inr (Nat.le_refl _)⟩

/-- a slice a thread holds shows what it showed when it was popped (and cannot be written through the queue) -/
def SliceOK (heap : List (List (Option Item))) (q s : Slice) (b : List Item) : Prop :=
  s.len = b.length ∧ (0 < s.len → s.arr ≠ q.arr ∧ s.arr < heap.length ∧ readSlice heap s = b.map some)

def PCok (heap : List (List (Option Item))) (q : Slice) : PC → Prop
  | .idle => True
  | .bindRead s b i _ => SliceOK heap q s b ∧ i ≤ s.len
  | .bindSet s b i x _ => SliceOK heap q s b ∧ b[i]? = some x
  | .resRead s b i _ => SliceOK heap q s b ∧ i ≤ s.len
  | .resCall s b i x _ => SliceOK heap q s b ∧ b[i]? = some x

theorem SliceOK_frame {heap heap' : List (List (Option Item))} {q q' s : Slice} {b : List Item} (fr : Frame heap q heap' q')
    (h : SliceOK heap q s b) : SliceOK heap' q' s b := by
  refine ⟨h.1, fun hl => ?_⟩
  obtain ⟨h1, h2, h3⟩ := h.2 hl
  refine ⟨?_, by have := fr.len; omega, ?_⟩
  · rcases fr.arr with e | e
    · rw [e]; exact h1
    · omega
  · unfold readSlice at h3 ⊢
    rw [fr.same _ h2 h1]; exact h3

theorem PCok_frame {heap heap' : List (List (Option Item))} {q q' : Slice} (fr : Frame heap q heap' q') (pc : PC)
    (h : PCok heap q pc) : PCok heap' q' pc := by
  cases pc with
  | idle => trivial
  | bindRead s b i ev => exact ⟨SliceOK_frame fr h.1, h.2⟩
  | bindSet s b i x ev => exact ⟨SliceOK_frame fr h.1, h.2⟩
  | resRead s b i ev => exact ⟨SliceOK_frame fr h.1, h.2⟩
  | resCall s b i x ev => exact ⟨SliceOK_frame fr h.1, h.2⟩

structure Inv (c : Config) : Prop where
  w1 : c.sh.q.arr < c.sh.heap.length
  w2 : c.sh.q.len ≤ (c.sh.heap.getD c.sh.q.arr []).length
  w3 : readSlice c.sh.heap c.sh.q = (qItems c.sh).map some
  p : ∀ t ∈ c.th, PCok c.sh.heap c.sh.q t.pc
  a1 : ∀ x : Nat, (qItems c.sh).count x + occ batch x c.th + c.sh.fin.count x = if x < c.sh.next then 1 else 0
  a2 : ∀ x : Nat, c.sh.bound.count x = occ bdone x c.th + c.sh.fin.count x
  a3 : ∀ x : Nat, c.sh.resolved.count x = occ rdone x c.th + c.sh.fin.count x
  f : ∀ t ∈ c.th, ∀ ev, Ans.fault ev ∉ t.log

theorem Inv.counts_le {c : Config} (hi : Inv c) (x : Nat) :
    (qItems c.sh).count x + c.sh.bound.count x ≤ (if x < c.sh.next then 1 else 0) ∧
    (qItems c.sh).count x + c.sh.resolved.count x ≤ (if x < c.sh.next then 1 else 0) := by
  have h1 := hi.a1 x
  have h2 := hi.a2 x
  have h3 := hi.a3 x
  have hb := occ_le_occ bdone batch x c.th fun pc => by cases pc <;> simp [bdone, batch, (List.take_sublist _ _).count_le]
  have hr := occ_le_occ rdone batch x c.th fun pc => by cases pc <;> simp [rdone, batch, (List.take_sublist _ _).count_le]
  omega

theorem appendQ_spec (cfg : Cfg) (sh : Shared) (x : Item) (w1 : sh.q.arr < sh.heap.length)
    (w2 : sh.q.len ≤ (sh.heap.getD sh.q.arr []).length) :
    Frame sh.heap sh.q (appendQ cfg sh x).heap (appendQ cfg sh x).q ∧
    (appendQ cfg sh x).q.arr < (appendQ cfg sh x).heap.length ∧
    (appendQ cfg sh x).q.len ≤ ((appendQ cfg sh x).heap.getD (appendQ cfg sh x).q.arr []).length ∧
    readSlice (appendQ cfg sh x).heap (appendQ cfg sh x).q = readSlice sh.heap sh.q ++ [some x] := by
  unfold appendQ readSlice
  generalize ha : sh.heap.getD sh.q.arr [] = a at w2 ⊢
  by_cases hc : sh.q.len < a.length
  · simp only [hc, if_true]
    refine ⟨⟨fun a _ hne => by simp [List.getD_eq_getElem?_getD, Ne.symm hne], by rw [List.length_set]; exact Nat.le_refl _, Or.inl rfl⟩,
      by rw [List.length_set]; exact w1, ?_, ?_⟩
    · rw [getD_set_self _ _ _ _ w1, List.length_set]; omega
    · rw [getD_set_self _ _ _ _ w1, List.take_add_one, List.take_set_of_le (Nat.le_refl _), List.getElem?_set_self hc]
      rfl
  · simp only [hc, if_false]
    have hlen : sh.q.len = a.length := by omega
    refine ⟨.push _ _ _ _,
      by rw [List.length_append]; simp only [List.length_cons, List.length_nil]; omega, ?_, ?_⟩
    · rw [getD_append_len]
      simp only [List.length_append, List.length_take, List.length_replicate, List.length_cons, List.length_nil]
      omega
    · rw [getD_append_len, hlen, List.take_length, List.append_assoc, List.take_length_add_append]
      rfl

theorem appendQ_other (cfg : Cfg) (sh : Shared) (x : Item) :
    (appendQ cfg sh x).next = sh.next ∧ (appendQ cfg sh x).bound = sh.bound ∧ (appendQ cfg sh x).resolved = sh.resolved ∧
    (appendQ cfg sh x).fin = sh.fin := by
  unfold appendQ
  by_cases hc : sh.q.len < (sh.heap.getD sh.q.arr []).length
  · simp only [hc, if_true, and_self]
  · simp only [hc, if_false, and_self]

/-- not used below: the declared items of a slice that shows `l`, read back -/
theorem filterMap_id_map_some (l : List Item) : (l.map some).filterMap id = l := by
  induction l with
  | nil => rfl
  | cons hd tl ih => simp [ih]

/-- the critical section of a declaration keeps the invariant, whatever the threads are doing: stated for any `sh'` that
    relates to `c.sh` as `appendQ_spec` and `appendQ_other` say the appended state does -/
theorem Inv_append (c : Config) (sh' : Shared) (h : Inv c) (fr : Frame c.sh.heap c.sh.q sh'.heap sh'.q)
    (w1 : sh'.q.arr < sh'.heap.length) (w2 : sh'.q.len ≤ (sh'.heap.getD sh'.q.arr []).length)
    (hr : readSlice sh'.heap sh'.q = readSlice c.sh.heap c.sh.q ++ [some c.sh.next])
    (hb : sh'.bound = c.sh.bound) (hres : sh'.resolved = c.sh.resolved) (hfin : sh'.fin = c.sh.fin) :
    Inv { sh := { sh' with next := c.sh.next + 1 }, th := c.th } := by
  have hq : qItems { sh' with next := c.sh.next + 1 } = qItems c.sh ++ [c.sh.next] := by
    show (readSlice sh'.heap sh'.q).filterMap id = _
    rw [hr, List.filterMap_append]
    rfl
  refine { w1 := w1, w2 := w2, w3 := ?_, p := fun t ht => PCok_frame fr _ (h.p t ht), a1 := fun x => ?_,
           a2 := fun x => ?_, a3 := fun x => ?_, f := h.f }
  · show readSlice sh'.heap sh'.q = _
    rw [hr, hq, h.w3, List.map_append]
    rfl
  · show (qItems { sh' with next := c.sh.next + 1 }).count x + occ batch x c.th + sh'.fin.count x =
      if x < c.sh.next + 1 then 1 else 0
    have := h.a1 x
    rw [hq, List.count_append, hfin]
    by_cases hx : c.sh.next = x
    · subst hx
      rw [if_neg (Nat.lt_irrefl _)] at this
      rw [List.count_singleton_self, if_pos (Nat.lt_succ_self _)]
      omega
    · have hlt : x < c.sh.next + 1 ↔ x < c.sh.next := by omega
      rw [List.count_cons_of_ne hx, List.count_nil, ite_congr (propext hlt) (fun _ => rfl) (fun _ => rfl)]
      omega
  · show sh'.bound.count x = occ bdone x c.th + sh'.fin.count x
    rw [hb, hfin]
    exact h.a2 x
  · show sh'.resolved.count x = occ rdone x c.th + sh'.fin.count x
    rw [hres, hfin]
    exact h.a3 x

theorem Inv_declare (cfg : Cfg) (c : Config) (h : Inv c) : Inv { sh := declare cfg c.sh, th := c.th } := by
  obtain ⟨fr, w1, w2, hr⟩ := appendQ_spec cfg c.sh c.sh.next h.w1 h.w2
  obtain ⟨_, hb, hres, hfin⟩ := appendQ_other cfg c.sh c.sh.next
  exact Inv_append c _ h fr w1 w2 hr hb hres hfin

/-- the arithmetic of one account when one thread's share moves from `b` to `b'`: `o`, `o'` the threads' total before and
    after (`occ_set`), `a`, `a'` the shared side, `f`, `f'` the finished items -/
theorem account_moves {a a' o o' b b' f f' : Nat} (h0 : a = o + f) (hs : o' + b = o + b') (hm : a' + b + f = a + b' + f') :
    a' = o' + f' := by
  omega

/-- … and of the account of where an item is: in the queue (`q`), with a thread, or finished -/
theorem place_moves {q q' o o' b b' f f' d : Nat} (h0 : q + o + f = d) (hs : o' + b = o + b') (hm : q' + b' + f' = q + b + f) :
    q' + o' + f' = d := by
  omega

/-- thread `i` moves from `t` to `t'` while the shared part becomes `sh'`: the queue is re-pointed at most to a new array,
    the declaration counter stays, the accounts balance -/
theorem Inv_update (c : Config) (i : Nat) (t t' : Thread) (sh' : Shared) (h : Inv c) (hi : c.th[i]? = some t)
    (fr : Frame c.sh.heap c.sh.q sh'.heap sh'.q) (w1 : sh'.q.arr < sh'.heap.length)
    (w2 : sh'.q.len ≤ (sh'.heap.getD sh'.q.arr []).length) (w3 : readSlice sh'.heap sh'.q = (qItems sh').map some)
    (hnext : sh'.next = c.sh.next) (hp : PCok sh'.heap sh'.q t'.pc)
    (h1 : ∀ x : Nat, (qItems sh').count x + (batch t'.pc).count x + sh'.fin.count x =
      (qItems c.sh).count x + (batch t.pc).count x + c.sh.fin.count x)
    (h2 : ∀ x : Nat, sh'.bound.count x + (bdone t.pc).count x + c.sh.fin.count x = c.sh.bound.count x + (bdone t'.pc).count x + sh'.fin.count x)
    (h3 : ∀ x : Nat, sh'.resolved.count x + (rdone t.pc).count x + c.sh.fin.count x = c.sh.resolved.count x + (rdone t'.pc).count x + sh'.fin.count x)
    (hf : ∀ ev, Ans.fault ev ∉ t'.log) : Inv { sh := sh', th := c.th.set i t' } := by
  refine { w1 := w1, w2 := w2, w3 := w3, p := fun u hu => ?_, a1 := fun x => ?_, a2 := fun x => ?_, a3 := fun x => ?_,
           f := fun u hu => ?_ }
  · rcases List.mem_or_eq_of_mem_set hu with hu | rfl
    · exact PCok_frame fr _ (h.p u hu)
    · exact hp
  · show (qItems sh').count x + occ batch x (c.th.set i t') + sh'.fin.count x = if x < sh'.next then 1 else 0
    rw [hnext]
    exact place_moves (h.a1 x) (occ_set batch x c.th i t t' hi) (h1 x)
  · exact account_moves (h.a2 x) (occ_set bdone x c.th i t t' hi) (h2 x)
  · exact account_moves (h.a3 x) (occ_set rdone x c.th i t t' hi) (h3 x)
  · rcases List.mem_or_eq_of_mem_set hu with hu | rfl
    · exact h.f u hu
    · exact hf

/-- … when the heap and the queue variable stay as they are; an account the step does not touch needs no argument -/
theorem Inv_move (c : Config) (i : Nat) (t t' : Thread) (sh' : Shared) (h : Inv c) (hi : c.th[i]? = some t)
    (hp : PCok c.sh.heap c.sh.q t'.pc) (hf : ∀ ev, Ans.fault ev ∉ t'.log)
    (hheap : sh'.heap = c.sh.heap := by rfl) (hq : sh'.q = c.sh.q := by rfl) (hnext : sh'.next = c.sh.next := by rfl)
    (h1 : ∀ x : Nat, (batch t'.pc).count x + sh'.fin.count x = (batch t.pc).count x + c.sh.fin.count x := by exact fun _ => rfl)
    (h2 : ∀ x : Nat, sh'.bound.count x + (bdone t.pc).count x + c.sh.fin.count x =
      c.sh.bound.count x + (bdone t'.pc).count x + sh'.fin.count x := by exact fun _ => rfl)
    (h3 : ∀ x : Nat, sh'.resolved.count x + (rdone t.pc).count x + c.sh.fin.count x =
      c.sh.resolved.count x + (rdone t'.pc).count x + sh'.fin.count x := by exact fun _ => rfl) :
    Inv { sh := sh', th := c.th.set i t' } := by
  have hqi : qItems sh' = qItems c.sh := by unfold qItems; rw [hheap, hq]
  refine Inv_update c i t t' sh' h hi ?_ ?_ ?_ ?_ hnext ?_ (fun x => ?_) h2 h3 hf
  · rw [hheap, hq]; exact Frame.refl _ _
  · rw [hheap, hq]; exact h.w1
  · rw [hheap, hq]; exact h.w2
  · rw [hqi, hheap, hq]; exact h.w3
  · rw [hheap, hq]; exact hp
  · rw [hqi, Nat.add_assoc, Nat.add_assoc, h1 x]

end Pcore.ConcQueue

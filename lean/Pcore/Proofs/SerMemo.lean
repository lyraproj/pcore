import Pcore.Proofs.SerColl
/-! C10, the deserializer: with identities and the `converted` memo it computes the identity-free conversion `cnv` — on
    data whose identities are consistent (`Cons`), which is what the collector produces.  In order: the two converters'
    tests side by side, the memo's invariant `MInv`, what a call returns (`Conv`), the induction `convert_cnv`. -/
namespace Pcore.Ser

/-! ### `convert` (on `V`) beside `cnv` (on `D`): key tests and leaf decoder agree through `abs` -/

theorem abs_isStr (v : V) : v.abs.isStr = v.isStr := by cases v <;> rfl
theorem abs_isKey (n : String) (v : V) : v.abs.isKey n = v.isKey n := by cases v <;> rfl

theorem allStrKeys_abs : ∀ (es : List (V × V)), dAllStrKeys (absPairs es) = allStrKeys es
  | [] => rfl
  | (k, v) :: es => by simp [absPairs, dAllStrKeys, allStrKeys, abs_isStr, allStrKeys_abs es]

theorem hasKey_abs (n : String) : ∀ (es : List (V × V)), dHasKey n (absPairs es) = hasKey n es
  | [] => rfl
  | (k, v) :: es => by simp [absPairs, dHasKey, hasKey, abs_isKey, hasKey_abs n es]

theorem lookupLast_abs (n : String) : ∀ (es : List (V × V)),
    dLookupLast n (absPairs es) = (lookupLast n es).map V.abs
  | [] => rfl
  | (k, v) :: es => by
      simp only [absPairs, dLookupLast, lookupLast, abs_isKey, hasKey_abs, lookupLast_abs n es]
      split <;> simp

theorem sel_abs (n : String) (es : List (V × V)) :
    (if dAllStrKeys (absPairs es) then dLookupLast n (absPairs es) else none) =
      (if allStrKeys es then lookupLast n es else none).map V.abs := by
  rw [allStrKeys_abs, lookupLast_abs]; split <;> simp

theorem decodeLeaf_map_abs (tn s : String) (nid : Nat) : (decodeLeaf tn s nid).map V.abs = decodeLeafD tn s := by
  unfold decodeLeaf decodeLeafD
  split
  · cases unb64 s <;> rfl
  · split
    · cases parseSpan s <;> rfl
    · cases kindOfTypeName tn <;> rfl

/- the defining equations at a cons: the recursion through `v` is structural, so they hold by cases on `v` only -/
theorem cnvPVHash_cons (k v : D) (es : List (D × D)) :
    cnvPVHash ((k, v) :: es) =
      if k.isKey "__pvalue" && !dHasKey "__pvalue" es then
        (match v with
         | .arr xs => cnvFlat xs
         | _ => .error .badValue)
      else cnvPVHash es := by
  cases v <;> simp only [cnvPVHash]

theorem convPVHash_cons (k v : V) (es : List (V × V)) (ds : DS) :
    convPVHash ((k, v) :: es) ds =
      if k.isKey "__pvalue" && !hasKey "__pvalue" es then
        (match v with
         | .arr _ xs => convFlat xs ds
         | _ => .error .badValue)
      else convPVHash es ds := by
  cases v <;> simp only [convPVHash]

/-! ### the memo invariant: an entry under identity `i` is the conversion of the datum `G` gives to `i` -/

def MInv (G : Nat → Option D) (m : List (Nat × V)) : Prop :=
  ∀ (i : Nat) (r : V), m.lookup i = some r → ∃ a, G i = some a ∧ cnv a = .ok r.abs

theorem MInv.init (G : Nat → Option D) : MInv G DS.init.memo := fun i r h => by simp [DS.init] at h

theorem MInv.hit {G : Nat → Option D} {m : List (Nat × V)} (h : MInv G m) {id : Nat} {cv : V} {da a : D}
    (hl : m.lookup id = some cv) (hg : G id = some da) (hc : cnv da = .ok a) : cv.abs = a := by
  obtain ⟨a', h1, h2⟩ := h id cv hl
  rw [hg] at h1; cases h1
  rw [hc] at h2; cases h2; rfl

theorem MInv.add {G : Nat → Option D} {m : List (Nat × V)} (h : MInv G m) {id : Nat} {r : V} {da : D}
    (hg : G id = some da) (hc : cnv da = .ok r.abs) : MInv G ((id, r) :: m) := by
  intro i r' hl
  rw [List.lookup_cons] at hl
  split at hl
  · rename_i heq; cases hl; rw [eq_of_beq heq]; exact ⟨da, hg, hc⟩
  · exact h i r' hl

/-! ### a converter call succeeds with a result that abstracts to the given datum and keeps the memo invariant -/

def Conv (G : Nat → Option D) (res : Except DErr (V × DS)) (a : D) : Prop :=
  ∃ r ds', res = .ok (r, ds') ∧ r.abs = a ∧ MInv G ds'.memo

def ConvL (G : Nat → Option D) (res : Except DErr (List V × DS)) (as : List D) : Prop :=
  ∃ rs ds', res = .ok (rs, ds') ∧ absList rs = as ∧ MInv G ds'.memo

def ConvP (G : Nat → Option D) (res : Except DErr (List (V × V) × DS)) (as : List (D × D)) : Prop :=
  ∃ rs ds', res = .ok (rs, ds') ∧ absPairs rs = as ∧ MInv G ds'.memo

def ConvA (G : Nat → Option D) (res : Except DErr (List (String × V) × DS)) (as : List (String × D)) : Prop :=
  ∃ rs ds', res = .ok (rs, ds') ∧ absAttrs rs = as ∧ ∀ (i : Nat) (r : V), ds'.memo.lookup i = some r →
    ∃ a, G i = some a ∧ cnv a = .ok r.abs

theorem Conv.fresh {G : Nat → Option D} {id : Nat} {da a : D} {r : V} {ds' : DS} (hg : G id = some da)
    (hc : cnv da = .ok a) (hr : r.abs = a) (hM : MInv G ds'.memo) :
    Conv G (.ok (r, { ds' with memo := (id, r) :: ds'.memo })) a :=
  ⟨_, _, rfl, hr, hM.add hg (by rw [hc, hr])⟩

mutual
theorem convert_cnv (G : Nat → Option D) : ∀ (d : V) (ds : DS) (a : D), Cons G d → MInv G ds.memo →
    cnv d.abs = .ok a → Conv G (convert d ds) a
  | .arr id vs, ds, a, hC, hM, h => by
      simp only [convert]
      split
      · rename_i cv hl; exact ⟨cv, ds, rfl, hM.hit hl hC.1 h, hM⟩
      · simp only [V.abs, cnv] at h
        split at h
        · cases h
        · rename_i rs hrs
          cases h
          obtain ⟨vs', ds', h1, h2, h3⟩ := convList_cnv G vs { ds with next := ds.next + 1 } rs hC.2 hM hrs
          simp only [h1]; exact Conv.fresh hC.1 (by simp only [V.abs, cnv, hrs]) (by simp only [V.abs, h2]) h3
  | .hash id es, ds, a, hC, hM, h => by
      have done : ∀ {r : V} {ds' : DS}, r.abs = a → MInv G ds'.memo →
          Conv G (.ok (r, { ds' with memo := (id, r) :: ds'.memo })) a := Conv.fresh hC.1 h
      simp only [convert]
      split
      · rename_i cv hl; exact ⟨cv, ds, rfl, hM.hit hl hC.1 h, hM⟩
      · simp only [V.abs, cnv, sel_abs] at h
        cases hsel : (if allStrKeys es then lookupLast "__ptype" es else none) with
        | none =>
          rw [hsel] at h
          simp only [Option.map_none] at h
          split at h
          · cases h
          · rename_i rs hrs
            cases h
            obtain ⟨es', ds', h1, h2, h3⟩ := convPairs_cnv G es { ds with next := ds.next + 1 } rs hC.2 hM hrs
            simp only [h1]; exact done (by simp only [V.abs, h2]) h3
        | some pt =>
          rw [hsel] at h
          simp only [Option.map_some] at h
          cases pt with
          | str tn =>
            simp only [V.abs] at h
            dsimp only
            by_cases ht1 : tn = "Hash"
            · rw [if_pos ht1] at h ⊢
              split at h
              · cases h
              · rename_i rs hrs
                cases h
                obtain ⟨es', ds', h1, h2, h3⟩ := convPVHash_cnv G es { ds with next := ds.next + 1 } rs hC.2 hM hrs
                simp only [h1]; exact done (by simp only [V.abs, h2]) h3
            · rw [if_neg ht1] at h ⊢
              by_cases ht2 : tn = "Sensitive"
              · rw [if_pos ht2] at h ⊢
                split at h
                · cases h
                · rename_i rv hrv
                  cases h
                  obtain ⟨v', ds', h1, h2, h3⟩ := convPVSens_cnv G es { ds with next := ds.next + 1 } rv hC.2 hM hrv
                  simp only [h1]; exact done (by simp only [V.abs, h2]) h3
              · rw [if_neg ht2] at h ⊢
                by_cases ht3 : tn = "Default"
                · rw [if_pos ht3] at h ⊢
                  cases h
                  exact ⟨.dflt, ds, rfl, rfl, hM⟩
                · rw [if_neg ht3] at h ⊢
                  rw [lookupLast_abs] at h
                  cases hpv : lookupLast "__pvalue" es with
                  | none =>
                    rw [hpv] at h
                    simp only [Option.map_none] at h
                    by_cases ho : isObjType tn = true
                    · rw [if_pos ho] at h ⊢
                      split at h
                      · cases h
                      · rename_i ras hras
                        cases h
                        obtain ⟨as', ds', h1, h2, h3⟩ :=
                          convAttrs_cnv G es { ds with next := ds.next + 1 } ras hC.2 hM hras
                        simp only [h1]; exact done (by simp only [V.abs, h2]) h3
                    · simp [ho] at h
                  | some pv =>
                    rw [hpv] at h
                    simp only [Option.map_some] at h
                    cases pv with
                    | str s =>
                      simp only [V.abs] at h
                      rw [← decodeLeaf_map_abs tn s ds.next] at h
                      cases hd : decodeLeaf tn s ds.next with
                      | error e => rw [hd] at h; cases h
                      | ok r =>
                        rw [hd] at h; cases h
                        simp only [hd]; exact done (ds' := { ds with next := ds.next + 1 }) rfl hM
                    | _ => simp [V.abs] at h
          | _ => simp [V.abs] at h
  | .undef, ds, a, _, hM, h | .dflt, ds, a, _, hM, h | .bool _, ds, a, _, hM, h | .int _, ds, a, _, hM, h
  | .flt _, ds, a, _, hM, h | .str _, ds, a, _, hM, h | .bin _ _, ds, a, _, hM, h | .leaf _ _ _ _, ds, a, _, hM, h
  | .sens _ _, ds, a, _, hM, h | .obj _ _ _ _, ds, a, _, hM, h => by
      cases h; exact ⟨_, ds, rfl, rfl, hM⟩

theorem convList_cnv (G : Nat → Option D) : ∀ (vs : List V) (ds : DS) (as : List D), ConsList G vs → MInv G ds.memo →
    cnvList (absList vs) = .ok as → ConvL G (convList vs ds) as
  | [], ds, as, _, hM, h => by cases h; exact ⟨[], ds, rfl, rfl, hM⟩
  | v :: vs, ds, as, hC, hM, h => by
      simp only [absList, cnvList] at h
      split at h
      · cases h
      · rename_i r hr
        split at h
        · cases h
        · rename_i rs hrs
          cases h
          obtain ⟨v', ds1, h1, rfl, h3⟩ := convert_cnv G v ds r hC.1 hM hr
          obtain ⟨vs', ds2, h4, rfl, h6⟩ := convList_cnv G vs ds1 rs hC.2 h3 hrs
          exact ⟨v' :: vs', ds2, by simp only [convList, h1, h4], rfl, h6⟩

theorem convPairs_cnv (G : Nat → Option D) : ∀ (es : List (V × V)) (ds : DS) (as : List (D × D)), ConsPairs G es →
    MInv G ds.memo → cnvPairs (absPairs es) = .ok as → ConvP G (convPairs es ds) as
  | [], ds, as, _, hM, h => by cases h; exact ⟨[], ds, rfl, rfl, hM⟩
  | (k, v) :: es, ds, as, hC, hM, h => by
      simp only [absPairs, cnvPairs] at h
      split at h
      · cases h
      · rename_i rk hrk
        split at h
        · cases h
        · rename_i rv hrv
          split at h
          · cases h
          · rename_i rs hrs
            cases h
            obtain ⟨k', ds1, h1, rfl, h3⟩ := convert_cnv G k ds rk hC.1 hM hrk
            obtain ⟨v', ds2, h4, rfl, h6⟩ := convert_cnv G v ds1 rv hC.2.1 h3 hrv
            obtain ⟨es', ds3, h7, rfl, h9⟩ := convPairs_cnv G es ds2 rs hC.2.2 h6 hrs
            exact ⟨(k', v') :: es', ds3, by simp only [convPairs, h1, h4, h7], rfl, h9⟩

theorem convPVHash_cnv (G : Nat → Option D) : ∀ (es : List (V × V)) (ds : DS) (as : List (D × D)), ConsPairs G es →
    MInv G ds.memo → cnvPVHash (absPairs es) = .ok as → ConvP G (convPVHash es ds) as
  | [], ds, as, _, hM, h => by cases h; exact ⟨[], ds, rfl, rfl, hM⟩
  | (k, v) :: es, ds, as, hC, hM, h => by
      replace h : cnvPVHash ((k.abs, v.abs) :: absPairs es) = .ok as := h
      rw [cnvPVHash_cons, abs_isKey, hasKey_abs] at h
      rw [convPVHash_cons]
      split
      · rename_i hcond
        rw [if_pos hcond] at h
        cases v with
        | arr id xs => simp only [V.abs] at h; exact convFlat_cnv G xs ds as hC.2.1.2 hM h
        | _ => simp [V.abs] at h
      · rename_i hcond
        rw [if_neg hcond] at h
        exact convPVHash_cnv G es ds as hC.2.2 hM h

theorem convPVSens_cnv (G : Nat → Option D) : ∀ (es : List (V × V)) (ds : DS) (a : D), ConsPairs G es →
    MInv G ds.memo → cnvPVSens (absPairs es) = .ok a → Conv G (convPVSens es ds) a
  | [], ds, a, _, hM, h => by cases h; exact ⟨.undef, ds, rfl, rfl, hM⟩
  | (k, v) :: es, ds, a, hC, hM, h => by
      replace h : cnvPVSens ((k.abs, v.abs) :: absPairs es) = .ok a := h
      simp only [cnvPVSens, abs_isKey, hasKey_abs] at h
      simp only [convPVSens]
      split
      · rename_i hcond
        rw [if_pos hcond] at h
        exact convert_cnv G v ds a hC.2.1 hM h
      · rename_i hcond
        rw [if_neg hcond] at h
        exact convPVSens_cnv G es ds a hC.2.2 hM h

theorem convAttrs_cnv (G : Nat → Option D) : ∀ (es : List (V × V)) (ds : DS) (as : List (String × D)), ConsPairs G es →
    MInv G ds.memo → cnvAttrs (absPairs es) = .ok as → ConvA G (convAttrs es ds) as
  | [], ds, as, _, hM, h => by cases h; exact ⟨[], ds, rfl, rfl, hM⟩
  | (k, v) :: es, ds, as, hC, hM, h => by
      cases k with
      | str s =>
        replace h : cnvAttrs ((.str s, v.abs) :: absPairs es) = .ok as := h
        simp only [cnvAttrs] at h
        simp only [convAttrs]
        split
        · rename_i hs
          rw [if_pos hs] at h
          exact convAttrs_cnv G es ds as hC.2.2 hM h
        · rename_i hs
          rw [if_neg hs] at h
          split at h
          · cases h
          · rename_i rv hrv
            split at h
            · cases h
            · rename_i rs hrs
              cases h
              obtain ⟨v', ds1, h1, rfl, h3⟩ := convert_cnv G v ds rv hC.2.1 hM hrv
              obtain ⟨as', ds2, h4, rfl, h6⟩ := convAttrs_cnv G es ds1 rs hC.2.2 h3 hrs
              exact ⟨(s, v') :: as', ds2, by simp only [h1, h4], rfl, h6⟩
      | _ => simp [absPairs, V.abs, cnvAttrs] at h

theorem convFlat_cnv (G : Nat → Option D) : ∀ (xs : List V) (ds : DS) (as : List (D × D)), ConsList G xs →
    MInv G ds.memo → cnvFlat (absList xs) = .ok as → ConvP G (convFlat xs ds) as
  | [], ds, as, _, hM, h => by cases h; exact ⟨[], ds, rfl, rfl, hM⟩
  | [_], ds, as, _, _, h => by cases h
  | k :: v :: rest, ds, as, hC, hM, h => by
      simp only [absList, cnvFlat] at h
      split at h
      · cases h
      · rename_i rk hrk
        split at h
        · cases h
        · rename_i rv hrv
          split at h
          · cases h
          · rename_i rs hrs
            cases h
            obtain ⟨k', ds1, h1, rfl, h3⟩ := convert_cnv G k ds rk hC.1 hM hrk
            obtain ⟨v', ds2, h4, rfl, h6⟩ := convert_cnv G v ds1 rv hC.2.1 h3 hrv
            obtain ⟨es', ds3, h7, rfl, h9⟩ := convFlat_cnv G rest ds2 rs hC.2.2 h6 hrs
            exact ⟨(k', v') :: es', ds3, by simp only [convFlat, h1, h4, h7], rfl, h9⟩
end

end Pcore.Ser

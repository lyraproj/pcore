import Pcore.Proofs.ListFacts
import Pcore.Proofs.ListLoops
import Pcore.Proofs.LatWF
/-! `inst` without unfolding it: its list loops as quantifiers over their lists (the Tuple loop `instZip` by positions); `inst` at each
    composite type constructor as a statement about the value (`inst_array_iff` …), then at Undef, the string family and the two
    aliases; the Struct loop `instStruct` as the counting loop `matchCount` (ListLoops), hence as a relation between members and entries
    (`instStruct_full`, `instStruct_den`). -/
namespace Pcore.Lat
variable (cfg : Cfg) (sfh : Bool)

/-! ### the list loops of `inst` and of the two aliases, each as a quantifier over its list; the two key tests -/

theorem instDataL_iff (vs : List Val) : instDataL vs = true ↔ ∀ x ∈ vs, instData x = true := by
  induction vs with
  | nil => simp [instDataL]
  | cons v vs ih => simp [instDataL, ih]

theorem instDataE_iff (es : List (Val × Val)) :
    instDataE es = true ↔ ∀ e ∈ es, isStrKey e.1 = true ∧ instData e.2 = true := by
  induction es with
  | nil => simp [instDataE]
  | cons e es ih => obtain ⟨k, v⟩ := e; simp [instDataE, ih, and_assoc]

theorem isStrKey_iff (k : Val) : isStrKey k = true ↔ ∃ s, k = .str s := by
  cases k <;> simp [isStrKey]

theorem instRichL_iff (vs : List Val) : instRichL vs = true ↔ ∀ x ∈ vs, instRich x = true := by
  induction vs with
  | nil => simp [instRichL]
  | cons v vs ih => simp [instRichL, ih]

theorem instRichE_iff (es : List (Val × Val)) :
    instRichE es = true ↔ ∀ e ∈ es, isRichKey e.1 = true ∧ instRich e.2 = true := by
  induction es with
  | nil => simp [instRichE]
  | cons e es ih =>
    obtain ⟨k, v⟩ := e
    simp [instRichE, ih, and_assoc]

theorem isRichKey_iff (k : Val) :
    isRichKey k = true ↔ (∃ s, k = .str s) ∨ (∃ i, k = .int i) ∨ (∃ f, k = .float f) := by
  cases k <;> simp [isRichKey]

theorem instAll_iff (e : Ty) (vs : List Val) :
    instAll cfg sfh e vs = true ↔ ∀ x ∈ vs, inst cfg sfh e x = true := by
  induction vs with
  | nil => unfold instAll; simp
  | cons v vs ih => unfold instAll; simp [ih]

theorem instEntries_iff (k x : Ty) (es : List (Val × Val)) :
    instEntries cfg sfh k x es = true ↔ ∀ e ∈ es, inst cfg sfh k e.1 = true ∧ inst cfg sfh x e.2 = true := by
  induction es with
  | nil => unfold instEntries; simp
  | cons e es ih => obtain ⟨a, b⟩ := e; unfold instEntries; simp [ih, and_assoc]

theorem instAny_iff (ts : List Ty) (v : Val) :
    instAny cfg sfh ts v = true ↔ ∃ t ∈ ts, inst cfg sfh t v = true := by
  induction ts with
  | nil => unfold instAny; simp
  | cons t ts ih => unfold instAny; simp [ih]

theorem instZip_iff (ts : List Ty) (vs : List Val) (hts : ts ≠ []) :
    instZip cfg sfh ts vs = true ↔
      ∀ (i : Nat) (t : Ty) (x : Val), ts[min i (ts.length - 1)]? = some t → vs[i]? = some x → inst cfg sfh t x = true := by
  have step : ∀ F : Nat → Prop, (∀ i, F i) ↔ F 0 ∧ ∀ j, F (j + 1) :=
    fun F => ⟨fun h => ⟨h 0, fun j => h (j + 1)⟩, fun h i => by cases i; exact h.1; exact h.2 _⟩
  induction vs generalizing ts with
  | nil => unfold instZip; simp
  | cons v vs ih =>
    match ts, hts with
    | [t], _ =>
      unfold instZip
      rw [Bool.and_eq_true]
      refine (and_congr_right' (ih [t] (by simp))).trans (Iff.trans ?_ (step _).symm)
      simp only [clamp_single, List.getElem?_cons_zero, List.getElem?_cons_succ, Option.some.injEq, forall₂_eq]
    | t :: t' :: ts', _ =>
      unfold instZip
      rw [Bool.and_eq_true]
      refine (and_congr_right' (ih (t' :: ts') (by simp))).trans (Iff.trans ?_ (step _).symm)
      simp only [clamp_zero, clamp_succ, List.getElem?_cons_zero, List.getElem?_cons_succ, Option.some.injEq, forall₂_eq]

/-! ### `inst` at the composite type constructors, as statements about the value (proofs use these, not the definition) -/

theorem inst_of_isAny {e : Ty} (h : e.isAny = true) (x : Val) : inst cfg sfh e x = true := by
  cases e <;> first | (unfold inst; rfl) | cases h

theorem Val.array_iff (f : List Val → Bool) (v : Val) :
    (match v with | .array vs => f vs | _ => false) = true ↔ ∃ vs, v = .array vs ∧ f vs = true := by
  cases v <;> simp

theorem Val.hash_iff (f : List (Val × Val) → Bool) (v : Val) :
    (match v with | .hash es => f es | _ => false) = true ↔ ∃ es, v = .hash es ∧ f es = true := by
  cases v <;> simp

theorem inst_array_iff (e : Ty) (r : Rng) (v : Val) :
    inst cfg sfh (.array e r) v = true ↔
      ∃ vs, v = .array vs ∧ r.contains vs.length = true ∧ ∀ x ∈ vs, inst cfg sfh e x = true := by
  -- left side only: `inst e x` on the right, at a variable type, would unfold into all arms of `inst`
  conv => lhs; unfold inst
  refine (Val.array_iff _ v).trans (exists_congr fun vs => and_congr_right fun _ => ?_)
  rw [Bool.and_eq_true, Bool.or_eq_true, instAll_iff]
  exact and_congr_right fun _ => ⟨fun h => h.elim (fun ha x _ => inst_of_isAny cfg sfh ha x) id, Or.inr⟩

theorem inst_hash_iff (k x : Ty) (r : Rng) (v : Val) :
    inst cfg sfh (.hash k x r) v = true ↔
      ∃ es, v = .hash es ∧ r.contains es.length = true ∧
        ∀ e ∈ es, inst cfg sfh k e.1 = true ∧ inst cfg sfh x e.2 = true := by
  conv => lhs; unfold inst
  refine (Val.hash_iff _ v).trans (exists_congr fun es => and_congr_right fun _ => ?_)
  rw [Bool.and_eq_true, instEntries_iff]

/-- an empty type list describes no position, so there is no `ts.isEmpty` case -/
theorem inst_tuple_iff (ts : List Ty) (g : Option Rng) (v : Val) :
    inst cfg sfh (.tuple ts g) v = true ↔
      ∃ vs, v = .array vs ∧ (tupleSize ts g).contains vs.length = true ∧
        ∀ (i : Nat) (t : Ty) (x : Val), ts[min i (ts.length - 1)]? = some t → vs[i]? = some x → inst cfg sfh t x = true := by
  conv => lhs; unfold inst
  refine (Val.array_iff _ v).trans (exists_congr fun vs => and_congr_right fun _ => ?_)
  rw [Bool.and_eq_true]
  refine and_congr_right fun _ => ?_
  cases ts with
  | nil => exact ⟨fun _ i t x ht => (by simp at ht), fun _ => rfl⟩
  | cons t0 ts0 => exact instZip_iff cfg sfh _ vs (List.cons_ne_nil _ _)

theorem inst_struct_iff (ms : List Member) (v : Val) :
    inst cfg sfh (.struct ms) v = true ↔ ∃ es, v = .hash es ∧ instStruct cfg sfh ms es = some es.length := by
  conv => lhs; unfold inst
  exact (Val.hash_iff _ v).trans (exists_congr fun es => and_congr_right fun _ => beq_iff_eq)

theorem inst_sensitive_iff (t : Ty) (v : Val) :
    inst cfg sfh (.sensitive t) v = true ↔ ∃ x, v = .sensitive x ∧ inst cfg sfh t x = true := by
  conv => lhs; unfold inst
  cases v <;> simp

theorem inst_variant_iff (ts : List Ty) (v : Val) :
    inst cfg sfh (.variant ts) v = true ↔ ∃ t ∈ ts, inst cfg sfh t v = true := by
  conv => lhs; unfold inst
  exact instAny_iff cfg sfh ts v

theorem inst_optional_iff (t : Ty) (v : Val) :
    inst cfg sfh (.optional t) v = true ↔ v = .undef ∨ inst cfg sfh t v = true := by
  conv => lhs; unfold inst
  cases v <;> simp

theorem inst_notUndef_iff (t : Ty) (v : Val) :
    inst cfg sfh (.notUndef t) v = true ↔ v ≠ .undef ∧ inst cfg sfh t v = true := by
  conv => lhs; unfold inst
  cases v <;> simp

/-! ### `inst` at Undef, the string family and the two aliases -/

theorem inst_undef_eq {v : Val} (h : inst cfg sfh .undef v = true) : v = .undef := by
  unfold inst at h; cases v <;> simp at h; rfl

theorem inst_strfam {b : Ty} (hb : isStringFamily b = true) {v : Val} (h : inst cfg sfh b v = true) : ∃ s, v = .str s := by
  cases b <;> simp [isStringFamily] at hb <;> (unfold inst at h; cases v <;> simp at h <;> exact ⟨_, rfl⟩)

theorem inst_str_key_iff (v : Val) : inst cfg sfh .str v = true ↔ isStrKey v = true := by
  unfold inst; cases v <;> simp [isStrKey]

theorem inst_richkey_iff (v : Val) : inst cfg sfh (.variant [.str, .numeric]) v = true ↔ isRichKey v = true := by
  unfold inst
  unfold instAny; unfold instAny; unfold instAny
  unfold inst
  cases v <;> simp [isRichKey]

theorem inst_data (v : Val) : inst cfg sfh .data v = instData v := by unfold inst; rfl
theorem inst_richData (v : Val) : inst cfg sfh .richData v = instRich v := by unfold inst; rfl

/-! ### the Struct counting argument: `instStruct` is the counting loop `matchCount` -/

theorem hashGetW_eq_find (n : String) (t : Ty) (es : List (Val × Val)) :
    hashGetW cfg sfh n t es = (es.find? (keyIs n)).map fun e => inst cfg sfh t e.2 := by
  induction es with
  | nil => unfold hashGetW; rfl
  | cons e es ih =>
    obtain ⟨k, v⟩ := e
    unfold hashGetW
    rw [List.find?_cons, ih]
    change (if keyIs n (k, v) = true then _ else _) = _
    cases keyIs n (k, v) <;> rfl

theorem hashGetW_none (n : String) (t : Ty) (es : List (Val × Val)) :
    hashGetW cfg sfh n t es = none ↔ es.countP (keyIs n) = 0 := by
  rw [hashGetW_eq_find, Option.map_eq_none_iff, List.find?_eq_none, List.countP_eq_zero]

theorem hashGetW_mem (n : String) (t : Ty) (es : List (Val × Val)) (hn : KeysNodup es)
    (e : Val × Val) (he : e ∈ es) (hk : e.1 = .str n) :
    hashGetW cfg sfh n t es = some (inst cfg sfh t e.2) := by
  rw [hashGetW_eq_find, find?_eq_some_of_countP_le_one (hn n) he ((keyIs_iff n e).2 hk)]; rfl

theorem instStruct_eq (ms : List Member) (es : List (Val × Val)) :
    instStruct cfg sfh ms es = matchCount (fun m => hashGetW cfg sfh m.1 m.2.2 es) (·.2.1) ms := by
  induction ms with
  | nil => unfold instStruct; rfl
  | cons m ms ih => obtain ⟨n, o, t⟩ := m; unfold instStruct matchCount; rw [ih]; rfl

theorem instStruct_size (ms : List Member) (es : List (Val × Val))
    (h : instStruct cfg sfh ms es = some es.length) : (structSize ms).contains es.length = true := by
  rw [instStruct_eq] at h
  have := matchCount_bounds h
  simp [structSize, Rng.contains]
  omega

theorem instStruct_full (ms : List Member) (es : List (Val × Val)) (hn : KeysNodup es)
    (hnd : (ms.map (·.1)).Nodup) :
    instStruct cfg sfh ms es = some es.length ↔
      (∀ m ∈ ms, (∀ e ∈ es, e.1 = .str m.1 → inst cfg sfh m.2.2 e.2 = true) ∧ ((∀ e ∈ es, e.1 ≠ .str m.1) → m.2.1 = true)) ∧
      (∀ e ∈ es, ∃ m ∈ ms, e.1 = .str m.1) := by
  rw [instStruct_eq, matchCount_full _ _ (fun m : Member => m.1) keyIs (fun (m : Member) (e : Val × Val) => inst cfg sfh m.2.2 e.2) ms es
    (fun _ _ _ => keyIs_unique) hnd (fun m => hn m.1) (fun m => hashGetW_none cfg sfh _ _ es)
    (fun m e he hk => hashGetW_mem cfg sfh m.1 m.2.2 es hn e he ((keyIs_iff _ _).1 hk))]
  simp only [keyIs_iff, Bool.eq_false_iff, ne_eq]

theorem instStruct_den (ms : List Member) (es : List (Val × Val)) (hn : KeysNodup es)
    (hnd : (ms.map (·.1)).Nodup) :
    instStruct cfg sfh ms es = some es.length ↔
      (∀ e ∈ es, ∃ m, ∃ (_ : m ∈ ms), e.1 = .str m.1 ∧ inst cfg sfh m.2.2 e.2 = true) ∧
      (∀ m ∈ ms, m.2.1 = false → ∃ e ∈ es, e.1 = .str m.1) := by
  rw [instStruct_full cfg sfh ms es hn hnd]
  constructor
  · rintro ⟨hm, he⟩
    refine ⟨fun e he' => ?_, fun m hm' ho => Classical.byContradiction fun hne => ?_⟩
    · obtain ⟨m, hm', hk⟩ := he e he'
      exact ⟨m, hm', hk, (hm m hm').1 e he' hk⟩
    · rw [(hm m hm').2 fun e he' hk => hne ⟨e, he', hk⟩] at ho; cases ho
  · rintro ⟨hdecl, hreq⟩
    refine ⟨fun m hm => ⟨fun e he hk => ?_, fun hno => ?_⟩, fun e he => ?_⟩
    · obtain ⟨m', hm', hk', hi⟩ := hdecl e he
      cases nodup_key_inj hnd hm' hm (Val.str.inj (hk'.symm.trans hk))
      exact hi
    · cases ho : m.2.1 with
      | true => rfl
      | false => obtain ⟨e, he, hk⟩ := hreq m hm ho; exact absurd hk (hno e he)
    · obtain ⟨m, hm, hk, _⟩ := hdecl e he
      exact ⟨m, hm, hk⟩

end Pcore.Lat

import Pcore.Proofs.LatDen
/-! C02 main lemma: `inst t v ↔ Den t v` on the reference fragment, by induction on the type. -/
namespace Pcore.Lat
variable (cfg : Cfg) (sfh : Bool)

theorem inst_iff_den (t : Ty) : ∀ v : Val, Ty.WF cfg t → Ty.Ref t → Val.OK v → (inst cfg sfh t v = true ↔ Den cfg sfh t v) := by
  induction t using Ty.ind with
  | any | unit | callable _ _ _ _ _ _ | runtime _ _ _ | iterator _ _ => intro v _ _ _; unfold inst Den; simp
  | undef | dflt | scalarData | numeric | str | bin | float _ _ | regexp _ | typ _ _ =>
    intro v _ _ _; unfold inst Den; cases v <;> simp
  | int r | tspan r | tstamp r | strSz r | coll r => intro v _ _ _; unfold inst Den; cases v <;> simp [Rng.contains_iff]
  | scalar => intro v _ _ _; unfold inst Den; exact isScalarVal_iff v
  | data => intro v _ _ _; rw [inst_data]; unfold Den; exact instData_iff v
  | richData => intro v _ _ _; rw [inst_richData]; unfold Den; exact instRich_iff v
  | bool b => intro v _ _ _; unfold inst Den; cases b <;> cases v <;> simp <;> exact eq_comm
  | strVal s => intro v _ _ _; unfold inst Den; cases v <;> simp <;> exact eq_comm
  | enum vs ci =>
    intro v hwf _ _
    replace hwf := Ty.wf_enum.1 hwf
    unfold inst Den
    cases v <;> simp
    exact enumInst_iff cfg vs ci _ hwf
  | pattern rs => intro v _ _ _; unfold inst Den; cases v <;> simp [rxAny_iff, List.isEmpty_iff]
  | array e r ih =>
    intro v hwf href hv
    unfold Ty.Ref at href
    rw [inst_array_iff]; unfold Den
    refine exists_congr fun vs => and_congr_right fun hvs => and_congr (Rng.contains_iff _ _) ?_
    subst hvs
    exact forall₂_congr fun x hx => ih x hwf.elem href (hv.elems x hx)
  | hash k x r ihk ihx =>
    intro v hwf href hv
    unfold Ty.Ref at href
    rw [inst_hash_iff]; unfold Den
    refine exists_congr fun es => and_congr_right fun hes => and_congr (Rng.contains_iff _ _) ?_
    subst hes
    exact forall₂_congr fun e he => and_congr (ihk e.1 hwf.key href.1 (hv.keys e he)) (ihx e.2 hwf.val href.2 (hv.vals e he))
  | tuple ts g ih =>
    intro v hwf href hv
    unfold Ty.Ref at href
    rw [inst_tuple_iff]; unfold Den
    refine exists_congr fun vs => and_congr_right fun hvs => and_congr (Rng.contains_iff _ _) ?_
    subst hvs
    refine forall₃_congr fun i t' x => forall₂_congr fun ht hx => ?_
    have hm : t' ∈ ts := List.mem_of_getElem? ht
    exact ih t' hm x (hwf.mem_tuple hm) (href t' hm) (hv.elems x (List.mem_of_getElem? hx))
  | struct ms ih =>
    intro v hwf href hv
    unfold Ty.Ref at href
    rw [inst_struct_iff]; unfold Den
    refine exists_congr fun es => and_congr_right fun hes => ?_
    subst hes
    rw [instStruct_den cfg sfh ms es hv.nodup hwf.names]
    refine and_congr_left' (forall₂_congr fun e he => exists₂_congr fun m hm => and_congr_right fun _ => ?_)
    exact ih m hm e.2 (hwf.member hm) (href m hm) (hv.vals e he)
  | variant ts ih =>
    intro v hwf href hv
    unfold Ty.Ref at href
    rw [inst_variant_iff]; unfold Den
    exact exists_congr fun t' => ⟨fun ⟨hm, hi⟩ => ⟨hm, (ih t' hm v (hwf.mem_variant hm) (href t' hm) hv).1 hi⟩,
      fun ⟨hm, hi⟩ => ⟨hm, (ih t' hm v (hwf.mem_variant hm) (href t' hm) hv).2 hi⟩⟩
  | optional t' ih =>
    intro v hwf href hv
    unfold Ty.Ref at href
    rw [inst_optional_iff]; unfold Den
    exact or_congr_right (ih v (hwf.inner .optional) href hv)
  | notUndef t' ih =>
    intro v hwf href hv
    unfold Ty.Ref at href
    rw [inst_notUndef_iff]; unfold Den
    exact and_congr_right' (ih v (hwf.inner .notUndef) href hv)
  | sensitive t' ih =>
    intro v hwf href hv
    unfold Ty.Ref at href
    rw [inst_sensitive_iff]; unfold Den
    refine exists_congr fun x => and_congr_right fun hx => ?_
    subst hx
    exact ih x (hwf.inner .sensitive) href hv.inner
  | iterable t' _ => intro v _ href _; unfold Ty.Ref at href; exact absurd href id
  | object p =>
    intro v _ _ _
    unfold inst Den
    cases p with
    | none => cases v <;> simp
    | some pp => cases v <;> simp

end Pcore.Lat

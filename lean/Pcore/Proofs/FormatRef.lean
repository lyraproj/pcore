import Pcore.Proofs.FormatContainer
/-! A reference renderer for containers, written directly (delimiter ++ intercalate separator (elements) ++ delimiter,
    recursively), and the proof that the model's `fmtVal` — the state machine of `ToString2` with its indentation
    bookkeeping — computes exactly that for values of any depth in non-alt mode. -/
namespace Pcore.Format

mutual
/-- the reference: scalars by their kind's format, arrays and hashes by the documented law, recursively -/
def refVal (io : FloatIO) (m : FMap) : Val → Res
  | .array vs =>
    let f := (getFormat m .arr).f
    if !isArrayLetter f.letter then .reported .unsupported
    else match refElems io m (cfOf (getFormat m .arr)) vs with
      | .ok texts => .text ((delimPair f.ldelim '[').1 ++ (f.sep.getD [','] ++ [' ']).intercalate texts ++ (delimPair f.ldelim '[').2)
      | .err e => e
  | .hash es =>
    let f := (getFormat m .hash).f
    if !isHashLetter f.letter then .reported .unsupported
    else match refPairs io m (cfOf (getFormat m .hash)) es with
      | .ok texts => .text ((delimPair f.ldelim '{').1 ++
          (f.sep.getD [','] ++ [' ']).intercalate (texts.map (fun p => p.1 ++ f.sep2.getD " => ".toList ++ p.2)) ++
          (delimPair f.ldelim '{').2)
      | .err e => e
  | .undef => fmtUndef (getFormat m .undef).f
  | .dflt => fmtDefault (getFormat m .dflt).f
  | .bool b => fmtBool io (getFormat m .bool).f b
  | .int i => fmtInt io (getFormat m .int).f i
  | .float bits => fmtFloat io (getFormat m .float).f bits
  | .str s => fmtStr (getFormat m .str).f s
  | .regexp src => fmtRegexp (getFormat m .regexp).f src
  | .binary bs u => fmtBinary (getFormat m .bin).f bs u
/-- the elements: a container element keeps the map, any other element is formatted by the container formats -/
def refElems (io : FloatIO) (m cf : FMap) : List Val → ResL Str
  | [] => .ok []
  | v :: vs => ResL.cons (refVal io (if v.isContainer then m else cf) v) id (fun _ => refElems io m cf vs)
def refPairs (io : FloatIO) (m cf : FMap) : List Entry → ResL (Str × Str)
  | [] => .ok []
  | .mk k v :: es =>
    match refVal io (if k.isContainer then m else cf) k with
    | .text sk => ResL.cons (refVal io (if v.isContainer then m else cf) v) (fun sv => (sk, sv)) (fun _ => refPairs io m cf es)
    | e => .err e
end

/-- the container formats of the map are non-alt and the Hash format is not `a` (hash-as-array changes the map) -/
def PlainContainers (m : FMap) : Prop :=
  (getFormat m .arr).f.alt = false ∧ (getFormat m .hash).f.alt = false ∧ (getFormat m .hash).f.letter ≠ 'a'

instance (m : FMap) : Decidable (PlainContainers m) := by unfold PlainContainers; infer_instance

theorem map_fst_cons (r : Res) (rest1 : Unit → ResL (Str × Bool)) (rest2 : Unit → ResL Str) (b : Bool)
    (h : ∀ ps, rest1 () = .ok ps → rest2 () = .ok (ps.map (·.1))) (he : ∀ e, rest1 () = .err e → rest2 () = .err e) :
    (∀ ps, ResL.cons r (fun s => (s, b)) rest1 = .ok ps → ResL.cons r id rest2 = .ok (ps.map (·.1))) ∧
    (∀ e, ResL.cons r (fun s => (s, b)) rest1 = .err e → ResL.cons r id rest2 = .err e) := by
  constructor
  · intro ps hps
    obtain ⟨s, ys, hr, hys, rfl⟩ := (ResL.cons_eq_ok _ _ _ _).1 hps
    exact (ResL.cons_eq_ok _ _ _ _).2 ⟨s, _, hr, h ys hys, rfl⟩
  · intro e hh
    refine (ResL.cons_eq_err _ _ _ _).2 (((ResL.cons_eq_err _ _ _ _).1 hh).imp ?_ id)
    exact fun ⟨s, hr, hrest⟩ => ⟨s, hr, he e hrest⟩

mutual
/-- **containers, recursively**: for values of any depth, under any per-type format map whose container formats are
    non-alt, the model's rendering is the reference rendering.  (A scalar needs nothing of the map: both sides are its
    kind's method.) -/
theorem fmtVal_ref_of (io : FloatIO) : ∀ (v : Val) (m : FMap) (ind : Ind), ind.indenting = false →
    (v.isContainer = true → PlainContainers m) → fmtVal io m ind v = refVal io m v
  | .undef, m, ind, _, _ => rfl
  | .dflt, m, ind, _, _ => rfl
  | .bool _, m, ind, _, _ => rfl
  | .int _, m, ind, _, _ => rfl
  | .float _, m, ind, _, _ => rfl
  | .str _, m, ind, _, _ => rfl
  | .regexp _, m, ind, _, _ => rfl
  | .binary _ _, m, ind, _, _ => rfl
  | .array vs, m, ind, hi, hp => by
    have hp := hp rfl
    have ih := fmtElems_ref io vs m (cfOf (getFormat m .arr)) (arrayChildInd (getFormat m .arr).f ind)
      (by simp [arrayChildInd, Ind.increase, Ind.subsequent, Ind.withIndenting, hp.1]) hp
    simp only [fmtVal, refVal]
    split
    · rfl
    · cases hr : fmtElems io m (cfOf (getFormat m .arr)) (arrayChildInd (getFormat m .arr).f ind) vs with
      | ok parts =>
        rw [ih.1 parts hr]
        simp only
        rw [arrayAssemble_nonalt _ _ _ hp.1 hi]
      | err e => rw [ih.2 e hr]
  | .hash es, m, ind, hi, hp => by
    have hp := hp rfl
    have ih := fmtPairs_ref io es m (cfOf (getFormat m .hash)) (hashChildInd (getFormat m .hash).f ind)
      (by simp [hashChildInd, Ind.increase, Ind.withIndenting, hp.2.1]) hp
    simp only [fmtVal, refVal, if_neg hp.2.2, ih, hashAssemble_nonalt _ ind _ hp.2.1 hi]
    rfl

theorem fmtElems_ref (io : FloatIO) : ∀ (vs : List Val) (m cf : FMap) (ci : Ind), ci.indenting = false → PlainContainers m →
    (∀ ps, fmtElems io m cf ci vs = .ok ps → refElems io m cf vs = .ok (ps.map (·.1))) ∧
    (∀ e, fmtElems io m cf ci vs = .err e → refElems io m cf vs = .err e)
  | [], m, cf, ci, _, _ => by
    constructor
    · intro ps h; simp [fmtElems] at h; subst h; simp [refElems]
    · intro e h; simp [fmtElems] at h
  | v :: vs, m, cf, ci, hi, hp => by
    have ih := fmtElems_ref io vs m cf ci hi hp
    have hv := fmtVal_ref_of io v (if v.isContainer then m else cf) ci hi fun hc => by rw [if_pos hc]; exact hp
    simp only [fmtElems, refElems, hv]
    exact map_fst_cons _ _ _ _ ih.1 ih.2

theorem fmtPairs_ref (io : FloatIO) : ∀ (es : List Entry) (m cf : FMap) (ci : Ind), ci.indenting = false → PlainContainers m →
    fmtPairs io m cf ci es = refPairs io m cf es
  | [], m, cf, ci, _, _ => by simp [fmtPairs, refPairs]
  | .mk k v :: es, m, cf, ci, hi, hp => by
    have ih := fmtPairs_ref io es m cf ci hi hp
    have hk := fmtVal_ref_of io k (if k.isContainer then m else cf) ci hi fun hc => by rw [if_pos hc]; exact hp
    have hv := fmtVal_ref_of io v (if v.isContainer then m else cf) ci hi fun hc => by rw [if_pos hc]; exact hp
    simp only [fmtPairs, refPairs, hk, hv, ih]
    cases refVal io (if k.isContainer = true then m else cf) k <;> rfl
end

theorem fmtVal_ref (io : FloatIO) (v : Val) (m : FMap) (ind : Ind) (hi : ind.indenting = false) (hp : PlainContainers m) :
    fmtVal io m ind v = refVal io m v := fmtVal_ref_of io v m ind hi fun _ => hp

end Pcore.Format

import Pcore.Proofs.FormatLetters
import Pcore.Proofs.FormatBin
/-! What fmt understands (`GoOK0`, `VerbOK`, `FloatOK`, `GoOK`: the format strings pcore hands to fmt are directives with the
    record's fields; established in FormatParse / FormatUnparse), and, given that, width and padding side: every non-float
    path ends in a padding step that reaches the requested width with blanks on the left, or on the right with `-`. -/
namespace Pcore.Format

/-- what fmt makes of the format handed over agrees with the Format record (established for every parsed format by
    `parseFormat_goOK0`; decidable for a concrete format) -/
def GoOK0 (f : Fmt) : Prop :=
  match goParse (goFormat f) with
  | some g => g.verb = f.letter ∧ g.wid = f.width ∧ g.prec = f.prec ∧ g.minus = f.left ∧ g.sharp = f.alt ∧ g.zero = f.zeroPad ∧
      ((g.plus || g.space) = f.plus.isSome)
  | none => False

instance (f : Fmt) : Decidable (GoOK0 f) := by unfold GoOK0; split <;> infer_instance

/-- a format string handed to fmt parses to a directive with the verb `c` -/
def VerbOK (fm : Str) (c : Char) : Prop :=
  match goParse fm with
  | some g => g.verb = c
  | none => False

instance (fm : Str) (c : Char) : Decidable (VerbOK fm c) := by unfold VerbOK; split <;> infer_instance

theorem VerbOK.intro {fm : Str} {c : Char} {g : GoSpec} (hg : goParse fm = some g) (hv : g.verb = c) : VerbOK fm c := by
  unfold VerbOK; rw [hg]; exact hv

/-- the format strings the float path derives with `unParse` are understood by fmt too -/
def FloatOK (f : Fmt) : Prop :=
  VerbOK (goFormat (withoutWidth f)) f.letter ∧ VerbOK (goFormat (replaceFormatChar f 'e')) 'e' ∧
  VerbOK (goFormat (replaceFormatChar f 'E')) 'E'

instance (f : Fmt) : Decidable (FloatOK f) := by unfold FloatOK; infer_instance

/-- every format string pcore hands to fmt for this Format is a directive fmt understands, with the record's fields -/
def GoOK (f : Fmt) : Prop := GoOK0 f ∧ FloatOK f

instance (f : Fmt) : Decidable (GoOK f) := by unfold GoOK; infer_instance

/-- the directive fmt reads agrees with the Format record -/
structure GoSpec.Agrees (g : GoSpec) (f : Fmt) : Prop where
  verb : g.verb = f.letter
  wid : g.wid = f.width
  prec : g.prec = f.prec
  minus : g.minus = f.left
  sharp : g.sharp = f.alt
  zero : g.zero = f.zeroPad

theorem GoOK.spec {f : Fmt} (h' : GoOK f) : ∃ g, goParse (goFormat f) = some g ∧ g.Agrees f := by
  have h := h'.1
  unfold GoOK0 at h
  split at h
  · rename_i g hg; exact ⟨g, hg, h.1, h.2.1, h.2.2.1, h.2.2.2.1, h.2.2.2.2.1, h.2.2.2.2.2.1⟩
  · exact absurd h id

/-- the text `ApplyStringFlags` pads: quoted if asked for, cut to the precision -/
def strCore (f : Fmt) (s : Str) (q : Bool) : Str :=
  let s := if q then puppetQuote s else s
  match f.prec with
  | some p => s.take p
  | none => s

theorem applyStringFlags_field (f : Fmt) (s : Str) (q : Bool) :
    applyStringFlags f s q = field f.left f.width [] [] 0 (strCore f s q) := by
  unfold applyStringFlags strCore
  simp only []
  generalize (if q = true then puppetQuote s else s) = t
  by_cases h : hasStringFlags f = true
  · rw [if_pos h]; rfl
  · -- no flag at all: nothing is cut and nothing is padded
    rw [if_neg h]
    simp only [hasStringFlags, Bool.or_eq_true, not_or, Bool.not_eq_true, Option.isSome_eq_false_iff,
      Option.isNone_iff_eq_none] at h
    rw [h.1.2, field_none, h.2]
    rfl

theorem applyStringFlags_width (f : Fmt) (s : Str) (q : Bool) (w : Nat) (hw : f.width = some w) :
    w ≤ (applyStringFlags f s q).length := by
  rw [applyStringFlags_field, hw]; exact field_width _ _ _ _ _ _

theorem goInteger_width (g : GoSpec) (base : Nat) (upper : Bool) (i : Int) (w : Nat) (hw : g.wid = some w) :
    w ≤ (goInteger g base upper i).length := by
  unfold goInteger
  refine iteInduction (motive := fun s : Str => w ≤ s.length) (fun _ => ?_) fun _ => ?_
  · rw [hw]; exact goPad_length_ge _ _ _ _
  · rw [goAbs_field, hw]; exact field_width _ _ _ _ _ _

theorem exceptRes_text {r : Except FaultKind Str} {k : Str → Str} {s : Str} (h : exceptRes r k = .text s) :
    ∃ x, r = .ok x ∧ s = k x := by
  cases r with
  | ok x => cases h; exact ⟨x, rfl, rfl⟩
  | error e => cases h

theorem Flagged.width {f : Fmt} {ok : Bool} {r : Res} (h : Flagged f ok r) {w : Nat} (hw : f.width = some w) {s : Str}
    (hr : r = .text s) : w ≤ s.length := by
  cases h with
  | text t q => cases hr; exact applyStringFlags_width f t q w hw
  | unsupported => cases hr

/-- **width**, for every way the method of a scalar ends: each reaches the width by a padding step of its own.  The
    one thing not modelled is how wide fmt's float output is: `hfl` -/
theorem Ends.width {io : FloatIO} {f : Fmt} {ok : Bool} {r : Res} (h : Ends io f ok r) {w : Nat} (hw : f.width = some w)
    (hgo : GoOK f)
    (hfl : isFloatLetter f.letter = true → ∀ bits x,
      sprintfF io (goFormat f) bits = .ok x ∨ floatGFormat io f bits = .ok x → w ≤ x.length)
    {s : Str} (hr : r = .text s) : w ≤ s.length := by
  cases h with
  | flagged h => exact h.width hw hr
  | goInt i hl =>
    obtain ⟨g, hg, ha⟩ := hgo.spec
    obtain ⟨b, u, _, hi⟩ := goFmtInt_verbBase g i (ha.verb ▸ hl)
    rw [hg, hi] at hr; cases hr
    exact goInteger_width g b u i w (ha.wid.trans hw)
  | pbb i => cases hr; rw [intPbB_eq_pad, hw]; exact goPad_length_ge _ _ _ _
  | floatStr d bits q => obtain ⟨x, _, rfl⟩ := exceptRes_text hr; exact applyStringFlags_width f x q w hw
  | sci bits hl => obtain ⟨x, hx, hs⟩ := exceptRes_text hr; exact hs ▸ hfl hl bits x (.inl hx)
  | gen bits hl =>
    obtain ⟨x, hx, hs⟩ := exceptRes_text hr
    exact hs ▸ hfl (by rcases hl with h | h <;> rw [h] <;> rfl) bits x (.inr hx)

theorem Ends.width_noFloat {io : FloatIO} {f : Fmt} {ok : Bool} {r : Res} (h : Ends io f ok r) {w : Nat}
    (hw : f.width = some w) (hgo : GoOK f) (hfl : isFloatLetter f.letter = false) {s : Str} (hr : r = .text s) :
    w ≤ s.length :=
  h.width hw hgo (fun h' => absurd h' (by rw [hfl]; exact Bool.noConfusion)) hr

theorem applyStringFlags_pad (f : Fmt) (s : Str) (q : Bool) :
    applyStringFlags f s q =
      if f.left then strCore f s q ++ spaces (f.width.getD 0 - (strCore f s q).length)
      else spaces (f.width.getD 0 - (strCore f s q).length) ++ strCore f s q :=
  (applyStringFlags_field f s q).trans (field_pad _ _ _ _ _ _)

/-- the `0` flag of the hand-written branch is in effect -/
def pbbZeroFlag (f : Fmt) : Bool := f.zeroPad && !f.left && f.prec.isNone && f.letter ≠ 'p'

theorem intPbB_pad (f : Fmt) (i : Int) (hz : pbbZeroFlag f = false) :
    let core := intPbB { f with width := none } i
    intPbB f i = if f.left then core ++ spaces (f.width.getD 0 - core.length) else spaces (f.width.getD 0 - core.length) ++ core := by
  -- without the `0` flag the zero count does not look at the width
  have hzp : pbbZeroPad { f with width := none } i = pbbZeroPad f i := by
    have hzf : (f.zeroPad && !f.left && f.prec.isNone && decide (f.letter ≠ 'p')) = false := hz
    simp only [pbbZeroPad, hzf, Bool.false_eq_true, if_false]
    rfl
  simp only [intPbB_eq_pad { f with width := none } i, goPad_none, hzp]
  rw [intPbB_eq_pad, goPad_eq]
  rfl

theorem goInteger_pad (g : GoSpec) (base : Nat) (upper : Bool) (i : Int)
    (hz : ¬ (g.zero = true ∧ g.minus = false ∧ g.prec = none)) :
    let body := goInteger { g with wid := none } base upper i
    goInteger g base upper i =
      if g.minus then body ++ spaces (g.wid.getD 0 - body.length) else spaces (g.wid.getD 0 - body.length) ++ body := by
  -- without the `0` flag fmt's precision does not look at the width
  have hprec : ∀ neg, goPrec { g with wid := none } neg = goPrec g neg := by
    intro neg
    rw [goPrec_eq, goPrec_eq]
    cases hp : g.prec with
    | some p => rfl
    | none =>
      have : (g.zero && !g.minus) = false := by
        cases hzz : g.zero <;> cases hm : g.minus <;> first | rfl | exact absurd ⟨hzz, hm, hp⟩ hz
      simp only [this, Bool.false_eq_true, if_false]
  by_cases h0 : g.prec = some 0 ∧ i.natAbs = 0
  · simp only [goInteger, if_pos h0, goPad_none, goPad_eq]
  · have hfill : ∀ neg ds, goFill { g with wid := none } base neg ds = goFill g base neg ds := fun neg ds => by
      unfold goFill; rw [hprec]
    simp only [goInteger, if_neg h0, goAbs_field, hfill]
    exact field_pad _ _ _ _ _ _

end Pcore.Format

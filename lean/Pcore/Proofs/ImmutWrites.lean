import Pcore.Model.ImmutResolve
/-!
# Reviewed white lists for C08: field writes, serializer calls, mutator calls, alias accessors

`Generated.fieldWrites` (family fieldwrites of /verif/extract, regenerated on every run) lists every assignment to a field
of a struct behind a px.Value implementation in package `types`.  `FieldWritesSafe tbl`: every row of the table is one of
the rows REVIEWED below.  A new write — `e.arguments = …` in `(*deferred).Resolve`, a cache assigned outside its guard, a
field of `HashEntry` or `Sensitive` assigned anywhere — is a row this list does not have: the obligation
`C08_field_writes_safe` breaks and names it.  Removing a write, renaming locals, re-ordering statements or adding early
returns changes nothing (rows carry struct, field, function and kind only; the condition is inclusion).

`SerFactsSafe` (family sercalls): every method `serialization/serializer.go` invokes, and every target it assigns, is a
reviewed one.  `MutatorCallsSafe` (family mutatorcalls): the exported methods that assign a value's fields are called from
other packages at the reviewed places only.  `AliasAccessorsReviewed`: the exported accessors that hand out a slice / map of
the receiver as it is are the reviewed eight.
-/
namespace Pcore.Immut

def reviewedWrites : List FieldWrite := [
  -- the collections (the subject of C08_refine / C08_cache_coherent): lazily built caches `reducedType`, `detailedType`,
  -- `index` (filled once under `if f == nil`, from the content; the type object a fill creates is completed right after it
  -- is stored), construction in BuildArray / BuildHash, and the one mutator MutableHashValue.PutAll (storage + every cache reset)
  ⟨"Array", "detailedType", "Array.privateDetailedType", .lazyFill⟩,
  ⟨"Array", "elements", "BuildArray", .fresh⟩,
  ⟨"Array", "reducedType", "Array.privateReducedType", .lazyFill⟩,
  ⟨"ArrayType", "typ", "Array.privateReducedType", .write⟩,
  ⟨"Hash", "detailedType", "Hash.privateDetailedType", .lazyFill⟩,
  ⟨"Hash", "entries", "BuildHash", .fresh⟩,
  ⟨"Hash", "index", "Hash.valueIndex", .lazyFill⟩,
  ⟨"Hash", "reducedType", "Hash.privateReducedType", .lazyFill⟩,
  ⟨"HashType", "keyType", "Hash.privateReducedType", .write⟩,
  ⟨"HashType", "valueType", "Hash.privateReducedType", .write⟩,
  ⟨"MutableHashValue", "detailedType", "MutableHashValue.PutAll", .reset⟩,
  ⟨"MutableHashValue", "entries", "MutableHashValue.PutAll", .write⟩,
  ⟨"MutableHashValue", "index", "MutableHashValue.PutAll", .reset⟩,
  ⟨"MutableHashValue", "reducedType", "MutableHashValue.PutAll", .reset⟩,
  -- DeferredType: the memo `resolved` (filled once under `if dt.resolved == nil`; not shown by ToString / Equals / the walk),
  -- and the parser completing the DeferredType it has just created
  ⟨"DeferredType", "params", "parser.handleTypeArgs", .write⟩,
  ⟨"DeferredType", "resolved", "DeferredType.Resolve", .lazyFill⟩,
  -- construction: the object is created in the same function and filled before it is handed out
  ⟨"format", "alt", "format.WithoutWidth", .fresh⟩,
  ⟨"format", "formatChar", "format.ReplaceFormatChar", .fresh⟩,
  ⟨"format", "left", "format.WithoutWidth", .fresh⟩,
  ⟨"format", "origFmt", "format.ReplaceFormatChar", .fresh⟩,
  ⟨"format", "origFmt", "format.WithoutWidth", .fresh⟩,
  ⟨"format", "width", "format.WithoutWidth", .fresh⟩,
  ⟨"format", "zeroPad", "format.WithoutWidth", .fresh⟩,
  ⟨"typedName", "authority", "newTypedName2", .fresh⟩,
  ⟨"typedName", "canonical", "typedName.Parent", .fresh⟩,
  ⟨"typedName", "canonical", "typedName.child", .fresh⟩,
  ⟨"typedName", "name", "newTypedName2", .fresh⟩,
  ⟨"typedName", "namespace", "newTypedName2", .fresh⟩,
  ⟨"typedName", "parts", "typedName.Parent", .fresh⟩,
  ⟨"typedName", "parts", "typedName.child", .fresh⟩,
  -- object values: initialisation by the constructor functions of the object type (`Initialize` / `InitFromHash` are called on
  -- the object `New` has just allocated)
  ⟨"attributeSlice", "values", "attributeSlice.InitFromHash", .write⟩,
  ⟨"attributeSlice", "values", "attributeSlice.Initialize", .write⟩,
  ⟨"objectTypeExtension", "baseType", "objectTypeExtension.initialize", .write⟩,
  ⟨"objectTypeExtension", "parameters", "objectTypeExtension.initialize", .write⟩,
  ⟨"typedObject", "typ", "typedObject.valuesFromHash", .write⟩,
  -- other memo fields filled on first use from the receiver only
  ⟨"StructType", "hashedMembers", "StructType.HashedMembers", .lazyFill⟩,
  ⟨"TypeAliasType", "resolvedType", "TypeAliasType.Resolve", .lazyFill⟩,
  ⟨"objectType", "initType", "objectType.createInitType", .lazyFill⟩,
  ⟨"typedName", "canonical", "typedName.MapKey", .lazyFill⟩,
  ⟨"typedName", "parts", "typedName.Parts", .lazyFill⟩,
  -- types: a parsed type expression is completed IN PLACE by `Resolve` (type references replaced by the types they name,
  -- an Object / TypeSet initialised from its init hash) before the loader hands it out — construction phase two of a type;
  -- types are values, but no List / OrderedMap operation reaches these methods
  ⟨"ArrayType", "typ", "ArrayType.Resolve", .write⟩,
  ⟨"CallableType", "blockType", "CallableType.Resolve", .write⟩,
  ⟨"CallableType", "paramsType", "CallableType.Resolve", .write⟩,
  ⟨"CallableType", "returnType", "CallableType.Resolve", .write⟩,
  ⟨"HashType", "keyType", "HashType.Resolve", .write⟩,
  ⟨"HashType", "valueType", "HashType.Resolve", .write⟩,
  ⟨"InitType", "ctor", "InitType.Resolve", .write⟩,
  ⟨"IterableType", "typ", "IterableType.Resolve", .write⟩,
  ⟨"IteratorType", "typ", "IteratorType.Resolve", .write⟩,
  ⟨"LikeType", "resolved", "LikeType.Resolve", .lazyFill⟩,
  ⟨"NotUndefType", "typ", "NotUndefType.Resolve", .write⟩,
  ⟨"OptionalType", "typ", "OptionalType.Resolve", .write⟩,
  ⟨"SensitiveType", "typ", "SensitiveType.Resolve", .write⟩,
  ⟨"StructElement", "key", "StructElement.resolve", .write⟩,
  ⟨"StructElement", "value", "StructElement.resolve", .write⟩,
  ⟨"TupleType", "types", "TupleType.Resolve", .write⟩,
  ⟨"TypeAliasType", "loader", "TypeAliasType.Resolve", .write⟩,
  ⟨"TypeType", "typ", "TypeType.Resolve", .write⟩,
  ⟨"VariantType", "types", "VariantType.Resolve", .write⟩,
  ⟨"objectType", "attrInfo", "objectType.InitFromHash", .write⟩,
  ⟨"objectType", "attributes", "objectType.InitFromHash", .write⟩,
  ⟨"objectType", "creators", "objectType.setCreators", .write⟩,
  ⟨"objectType", "ctor", "objectType.createNewFunction", .write⟩,
  ⟨"objectType", "equality", "objectType.InitFromHash", .write⟩,
  ⟨"objectType", "equalityIncludeType", "objectType.InitFromHash", .write⟩,
  ⟨"objectType", "functions", "objectType.InitFromHash", .write⟩,
  ⟨"objectType", "goType", "objectType.Resolve", .write⟩,
  ⟨"objectType", "goType", "reflector.TypeFromTagged", .write⟩,
  ⟨"objectType", "initHashExpression", "BuildObjectType", .write⟩,
  ⟨"objectType", "initHashExpression", "MakeObjectType", .write⟩,
  ⟨"objectType", "initHashExpression", "newGoType", .write⟩,
  ⟨"objectType", "initHashExpression", "objectType.Resolve", .reset⟩,
  ⟨"objectType", "isInterface", "objectType.InitFromHash", .write⟩,
  ⟨"objectType", "loader", "newObjectType2", .write⟩,
  ⟨"objectType", "loader", "objectType.InitFromHash", .write⟩,
  ⟨"objectType", "name", "BuildObjectType", .write⟩,
  ⟨"objectType", "name", "MakeObjectType", .write⟩,
  ⟨"objectType", "name", "newGoType", .write⟩,
  ⟨"objectType", "name", "objectType.InitFromHash", .write⟩,
  ⟨"objectType", "parameters", "objectType.InitFromHash", .write⟩,
  ⟨"objectType", "parent", "BuildObjectType", .write⟩,
  ⟨"objectType", "parent", "MakeObjectType", .write⟩,
  ⟨"objectType", "parent", "objectType.InitFromHash", .lazyFill⟩,
  ⟨"objectType", "parent", "objectType.Resolve", .write⟩,
  ⟨"objectType", "serialization", "objectType.InitFromHash", .write⟩,
  ⟨"typeSet", "dcToCcMap", "typeSet.InitFromHash", .elem⟩,
  ⟨"typeSet", "deferredInit", "NewTypeSet", .write⟩,
  ⟨"typeSet", "deferredInit", "typeSet.Resolve", .reset⟩,
  ⟨"typeSet", "loader", "newTypeSetType2", .write⟩,
  ⟨"typeSet", "loader", "typeSet.Resolve", .write⟩,
  ⟨"typeSet", "name", "NewTypeSet", .write⟩,
  ⟨"typeSet", "name", "typeSet.InitFromHash", .write⟩,
  ⟨"typeSet", "nameAuthority", "NewTypeSet", .write⟩,
  ⟨"typeSet", "nameAuthority", "typeSet.InitFromHash", .write⟩,
  ⟨"typeSet", "nameAuthority", "typeSet.Resolve", .lazyFill⟩,
  ⟨"typeSet", "pcoreURI", "typeSet.InitFromHash", .write⟩,
  ⟨"typeSet", "pcoreVersion", "typeSet.InitFromHash", .write⟩,
  ⟨"typeSet", "references", "typeSet.InitFromHash", .write⟩,
  ⟨"typeSet", "typedName", "typeSet.Resolve", .write⟩,
  ⟨"typeSet", "types", "typeSet.InitFromHash", .write⟩,
  ⟨"typeSet", "types", "typeSet.Resolve", .write⟩,
  ⟨"typeSet", "version", "typeSet.InitFromHash", .write⟩,
  -- package initialisation
  ⟨"?", "typ", "init", .write⟩,
  ⟨"?", "valueType", "init", .write⟩,
  ⟨"format", "containerFormats", "init", .write⟩]

/-- calls of unexported helpers: (helper, caller, fields of the call's receiver that are empty at every such call) -/
abbrev HelperCalls := List (String × String × List String)

/-- ONE ROW is acceptable when
    * it is a reviewed row, or
    * it is a construction write (`.fresh`: the object was created in the same function — not a value anybody holds), or
    * it is a guarded lazy fill of a (struct, field) that is reviewed as a lazily filled field (whichever function holds the
      statement), or
    * it sits in an unexported HELPER and, for every caller of the helper (one level), the same write of the same
      (struct, field) is reviewed for that caller — with the same kind, or as a lazy fill when the helper is only called with
      that field empty (`if x.f == nil { x.fill() }`).
    So a new helper that assigns nothing, a statement moved inside its method, a lazy fill rewritten with a guard clause, or a
    reviewed statement extracted into an unexported helper create no unreviewed row; a NEW assignment does. -/
def rowOK (calls : HelperCalls) (w : FieldWrite) : Bool :=
  reviewedWrites.contains w ||
  w.kind == .fresh ||
  (w.kind == .lazyFill && reviewedWrites.any fun r => r.ty == w.ty && r.field == w.field && r.kind == .lazyFill) ||
  (let cs := calls.filter fun c => c.1 == w.fn
   !cs.isEmpty && cs.all fun c => reviewedWrites.any fun r =>
     r.ty == w.ty && r.field == w.field && r.fn == c.2.1 &&
       (r.kind == w.kind || (r.kind == .lazyFill && c.2.2.contains w.field)))

def fieldWritesSafeB (calls : HelperCalls) (t : List FieldWrite) : Bool := t.all (rowOK calls)

def FieldWritesSafe (calls : HelperCalls) (t : List FieldWrite) : Prop := fieldWritesSafeB calls t = true

instance (calls : HelperCalls) (t : List FieldWrite) : Decidable (FieldWritesSafe calls t) := by
  unfold FieldWritesSafe; infer_instance

theorem fieldWritesSafe_iff {calls : HelperCalls} {t : List FieldWrite} :
    FieldWritesSafe calls t ↔ ∀ w ∈ t, rowOK calls w = true := by
  simp only [FieldWritesSafe, fieldWritesSafeB, List.all_eq_true]

theorem fieldWritesSafe_cons {calls : HelperCalls} {w : FieldWrite} {t : List FieldWrite} :
    FieldWritesSafe calls (w :: t) ↔ rowOK calls w = true ∧ FieldWritesSafe calls t := by
  simp only [fieldWritesSafe_iff, List.forall_mem_cons]

theorem FieldWritesSafe.cons_call {c : String × String × List String} {calls : HelperCalls} {t : List FieldWrite}
    (ht : FieldWritesSafe calls t) (h : t.all (fun w => !(c.1 == w.fn)) = true) : FieldWritesSafe (c :: calls) t := by
  simp only [fieldWritesSafe_iff, List.all_eq_true, Bool.not_eq_true'] at *
  intro w hw
  -- the call of a helper has a part in the verdict on the rows of that helper only
  simp only [rowOK, List.filter_cons, h w hw, Bool.false_eq_true, if_false]
  exact ht w hw

theorem rowOK_ty {calls : HelperCalls} {w : FieldWrite} (h : rowOK calls w = true) (hk : (w.kind != .fresh) = true) :
    ∃ r ∈ reviewedWrites, r.ty = w.ty := by
  unfold rowOK at h
  simp only [Bool.or_eq_true, Bool.and_eq_true, List.any_eq_true, List.all_eq_true, beq_iff_eq, Bool.not_eq_true',
    List.isEmpty_eq_false_iff] at h
  rcases h with ((h | h) | h) | h
  · exact ⟨w, List.contains_iff_mem.mp h, rfl⟩
  · simp [h] at hk
  · obtain ⟨_, r, hr, hrr⟩ := h
    exact ⟨r, hr, hrr.1.1⟩
  · obtain ⟨hne, hall⟩ := h
    obtain ⟨c, cs', hc⟩ := List.exists_cons_of_ne_nil hne
    have hcm : c ∈ calls.filter (fun c => c.1 == w.fn) := by rw [hc]; exact List.mem_cons_self
    obtain ⟨r, hr, hrr⟩ := hall c hcm
    exact ⟨r, hr, hrr.1.1.1⟩

theorem safe_dfrArgs {calls : HelperCalls} {t : List FieldWrite} (h : FieldWritesSafe calls t) :
    (Writes.ofTable t).dfrArgs = false := by
  simp only [Writes.ofTable]
  rw [Bool.eq_false_iff]
  intro hc
  rw [List.any_eq_true] at hc
  obtain ⟨w, hw, hd⟩ := hc
  simp only [Bool.and_eq_true, beq_iff_eq] at hd
  obtain ⟨r, hr, hty⟩ := rowOK_ty (fieldWritesSafe_iff.mp h w hw) hd.2
  have := List.all_eq_true.mp (by decide : reviewedWrites.all (fun w => !(w.ty == "deferred")) = true) r hr
  rw [hty, hd.1.1] at this
  simp at this

/-! ### the serializer reads the value only (family sercalls: serialization/serializer.go)

The fields of every value struct are unexported: package `serialization` can change a value only through a method it
calls on it, or by writing through storage an accessor handed out.  `SerFactsSafe`: every method the serializer invokes is
a reviewed one — read-only methods of values and types, the emitting methods of the consumer (its OUTPUT), the serializer's
own (the functions the file declares itself are not listed: their bodies are scanned, so extracting a helper adds no
name) — and every assignment goes to the serializer's own state (`sc.values[value] = pos`: the memo table keyed by identity;
`sc.refIndex`, `sc.path`), to a plain local, or into storage the function created itself. -/

def reviewedSerCalls : List String := [
  -- read-only methods of values, types and attributes
  "AllKeysAreStrings", "Attributes", "AttributesInfo", "Bool", "CanSerializeAsString", "Default", "EachPair", "EachWithIndex",
  "Get", "Get5", "InitHash", "Int", "Interface", "Len", "MetaType", "Name", "PType", "RequiredCount", "SerializationString",
  "String", "ToString", "Unwrap",
  -- the consumer: what the serializer emits into, and what it asks it
  "Add", "AddArray", "AddHash", "AddRef", "CanDoBinary", "CanDoComplexKeys", "StringDedupThreshold",
  -- a bytes.Buffer of its own (the path text of a warning)
  "WriteByte", "WriteString",
  -- the serializer's own methods
  "addArray", "addData", "addHash", "isKnownType", "nonStringKeyedHashToData", "pathToString", "pcoreTypeToData", "process",
  "toData", "toKeyExtendedHash", "unknownToStringWithWarning", "valueToDataHash", "withPath"]

def reviewedSerTargets : List String := ["local", "fresh-through", "recv"]

def serFactsSafeB (calls : List String) (writes : List (String × String)) : Bool :=
  calls.all (fun c => reviewedSerCalls.contains c) && writes.all (fun w => reviewedSerTargets.contains w.2)

def SerFactsSafe (calls : List String) (writes : List (String × String)) : Prop := serFactsSafeB calls writes = true

instance (calls : List String) (writes : List (String × String)) : Decidable (SerFactsSafe calls writes) := by
  unfold SerFactsSafe; infer_instance

theorem SerFactsSafe.write_head {calls : List String} {w : String × String} {ws : List (String × String)}
    (h : SerFactsSafe calls (w :: ws)) : reviewedSerTargets.contains w.2 = true := by
  simp only [SerFactsSafe, serFactsSafeB, List.all_cons, Bool.and_eq_true] at h
  exact h.2.1

/-! ### calls of the exported mutators from other packages (family mutatorcalls)

Outside package `types` a value can be changed only by calling an exported method that assigns its fields.
`Generated.mutatorNames` are those names (computed from family fieldwrites, closed under receiver calls), `mutatorCalls` every
call of a method of such a name in any other package, per FILE (extracting or renaming a function inside a file adds no
row).  `MutatorCallsSafe`: every (file, method) is a reviewed one. -/

def reviewedMutatorCalls : List (String × String) := [
  -- hash.StringHash (a string-keyed ordered map of the Go API, not a px.Value): its own Put / PutAll
  ("hash/stringhash.go", "Put"), ("hash/stringhash.go", "PutAll"),
  -- the context completing parsed types / type sets / registered resolvables before anybody holds them
  ("internal/context.go", "Constructor"), ("internal/context.go", "Resolve"),
  -- a read (InitType.EachSignature completes its constructor list on first use)
  ("internal/typemismatchdescriber.go", "EachSignature"),
  -- the file loader resolving what it has just parsed
  ("loader/filebased.go", "Resolve"),
  -- the DEserializer building a new type / object (allocate, then InitFromHash / Resolve)
  ("serialization/deserializer.go", "InitFromHash"), ("serialization/deserializer.go", "Resolve")]

/-- exported accessors that hand out a slice / map of the receiver AS IT IS (`return dt.params`): a caller that writes into
    the result changes the value.  Reviewed: none belongs to Array / Hash / HashEntry (their accessors copy: `AppendTo`,
    `ToStringMap`, `AppendEntriesTo`); these eight are read by pcore itself only (no write through them: family fieldwrites
    would list an `.elem` row) — an application writing into `Binary.Bytes()` changes that Binary, by the API's design. -/
def reviewedAliasAccessors : List (String × String) := [
  ("Binary.Bytes", "bytes"), ("DeferredType.Parameters", "params"), ("EnumType.Strings", "values"),
  ("StructType.Elements", "elements"), ("StructType.HashedMembers", "hashedMembers"), ("TupleType.Types", "types"),
  ("VariantType.Types", "types"), ("typedName.Parts", "parts")]

def AliasAccessorsReviewed (accs : List (String × String)) : Prop :=
  (accs.all fun a => reviewedAliasAccessors.contains a) = true

instance (accs : List (String × String)) : Decidable (AliasAccessorsReviewed accs) := by
  unfold AliasAccessorsReviewed; infer_instance

def mutatorCallsSafeB (names : List String) (calls : List (String × String)) : Bool :=
  -- the two mutators of a DATA value are known by name, so that the list cannot silently lose them
  names.contains "Put" && names.contains "PutAll" && calls.all fun c => reviewedMutatorCalls.contains c

def MutatorCallsSafe (names : List String) (calls : List (String × String)) : Prop :=
  mutatorCallsSafeB names calls = true

instance (names : List String) (calls : List (String × String)) : Decidable (MutatorCallsSafe names calls) := by
  unfold MutatorCallsSafe; infer_instance

end Pcore.Immut

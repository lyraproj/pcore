import Pcore.Model.Quote
import Pcore.Proofs.Lex
import Pcore.Proofs.Digits
/-!
Layer 1 of C05 (characters): what `PuppetQuote` / `RegexpQuote` write, the lexer reads back — with an arbitrary
continuation `rest`, which is what the token-level lemmas consume.  Also the decimal rendering `natDigits`: it is the digits of
`Proofs/Digits.lean`, so its characters are digits and `parseInt` reads it back.
-/
namespace Pcore.Syntax

theorem isCtl_false {c : Char} (h : isCtl c = false) : ¬ c.toNat < 0x20 ∧ c ≠ runeError := by
  simp [isCtl] at h; exact ⟨by omega, h.2⟩


theorem syms_cons (c : Char) (cs : Str) : syms (c :: cs) = Sym.chr c :: syms cs := rfl
theorem syms_append (a b : Str) : syms (a ++ b) = syms a ++ syms b := by simp [syms]
@[simp] theorem syms_nil : syms [] = [] := rfl

theorem lexStr_bs (q : Char) (hq : q ≠ '\\') (acc : Str) (tl : List Sym) :
    lexStr q .norm acc (.chr '\\' :: tl) = lexStr q .esc acc tl := by
  have hb : (Sym.chr '\\').rune = some '\\' := by decide
  have b2 : ('\\' = '\x00') = False := by decide
  rw [lexStr, hb]; simp only [Ne.symm hq, b2, if_false, if_true]

theorem lexRx_bs (acc : Str) (tl : List Sym) : lexRx .norm acc (.chr '\\' :: tl) = lexRx .esc acc tl := by
  have hb : (Sym.chr '\\').rune = some '\\' := by decide
  have b1 : ('\\' = '/') = False := by decide
  rw [lexRx, hb]; simp only [b1, if_false, if_true]

/-- the two-character escapes of `consumeString`: after the backslash, `e` stands for `r` -/
theorem lexStr_esc (q : Char) (hq : q = '\'' ∨ q = '"') (e r : Char)
    (h : (e, r) ∈ [('n', '\n'), ('r', '\r'), ('t', '\t'), ('\\', '\\'), ('$', '$'), (q, q)]) (a : Str) (tl : List Sym) :
    lexStr q .norm a (.chr '\\' :: .chr e :: tl) = lexStr q .norm (r :: a) tl := by
  rw [lexStr_bs q (by rcases hq with rfl | rfl <;> decide)]
  simp only [List.mem_cons, Prod.mk.injEq, List.mem_nil_iff, or_false] at h
  rcases hq with rfl | rfl <;> rcases h with ⟨rfl, rfl⟩ | ⟨rfl, rfl⟩ | ⟨rfl, rfl⟩ | ⟨rfl, rfl⟩ | ⟨rfl, rfl⟩ | ⟨rfl, rfl⟩ <;>
    (rw [lexStr]; simp [Sym.rune, runeError])

theorem lexStr_sq (s acc : Str) (rest : List Sym) (h : s.any isCtl = false) :
    lexStr '\'' .norm acc (syms (sqBody s) ++ Sym.chr '\'' :: rest) = .tok ⟨.string, acc.reverse ++ s⟩ rest false := by
  induction s generalizing acc with
  | nil => simp [sqBody, lexStr, Sym.rune, runeError]
  | cons c cs ih =>
    simp only [List.any_cons, Bool.or_eq_false_iff] at h
    obtain ⟨hc, hcs⟩ := h
    obtain ⟨h20, hre⟩ := isCtl_false hc
    have ih' := fun a => ih a hcs
    unfold sqBody
    by_cases h1 : c = '\''
    · subst h1
      simp only [if_true, syms_cons, List.cons_append]
      rw [lexStr_esc _ (.inl rfl) '\'' '\'' (by simp)]
      simp [ih']
    · by_cases h2 : c = '\\'
      · subst h2
        simp only [h1, if_false, if_true, syms_cons, List.cons_append]
        rw [lexStr_esc _ (.inl rfl) '\\' '\\' (by simp)]
        simp [ih']
      · simp only [h1, h2, if_false, syms_cons, List.cons_append]
        rw [lexStr, rune_chr hre]; simp only
        have h0 : c ≠ '\x00' := by intro e; subst e; simp at h20
        have hn : c ≠ '\n' := by intro e; subst e; simp at h20
        simp [h1, h2, h0, hn, ih']

theorem hexDigitUpper_spec : ∀ d, d < 16 →
    isHex (hexDigitUpper d) = true ∧ hexVal (hexDigitUpper d) = d ∧ hexDigitUpper d ≠ '}' ∧
    (Sym.chr (hexDigitUpper d)).rune = some (hexDigitUpper d) := by decide

theorem hexUpper_eq_map (n : Nat) : hexUpper n = (Digits.digits 16 n).map hexDigitUpper :=
  Digits.map_digits_of_rec (by decide) _ _ (fun n => by rw [hexUpper, dite_eq_ite]) n

theorem lexStr_udig (q : Char) (acc : Str) (r : List Sym) : ∀ (ds : List Nat), (∀ d ∈ ds, d < 16) → ∀ (n v : Nat),
    n + ds.length ≤ 6 →
    lexStr q (.udig n v) acc (syms (ds.map hexDigitUpper) ++ r) =
      lexStr q (.udig (n + ds.length) (ds.foldl (fun a d => a * 16 + d) v)) acc r
  | [], _, n, v, _ => rfl
  | d :: ds, hd, n, v, hlen => by
    obtain ⟨hh, hv, hne, hr⟩ := hexDigitUpper_spec d (hd d List.mem_cons_self)
    have hn : n < 6 := by simp only [List.length_cons] at hlen; omega
    rw [List.map_cons, syms_cons, List.cons_append, lexStr, hr]
    simp only [hne, false_and, if_false, hn, hh, hv, and_self, if_true]
    rw [lexStr_udig q acc r ds (fun x hx => hd x (List.mem_cons_of_mem _ hx)) _ _ (by simp only [List.length_cons] at hlen; omega)]
    simp only [List.length_cons, List.foldl_cons, Nat.add_assoc, Nat.add_comm 1]

theorem hexUpper_length (k m : Nat) (h : m < 16 ^ (k + 1)) : 1 ≤ (hexUpper m).length ∧ (hexUpper m).length ≤ k + 1 := by
  rw [hexUpper_eq_map, List.length_map]
  exact ⟨List.length_pos_iff.2 (Digits.digits_ne_nil (by decide) m), Digits.length_digits_le (by decide) k m h⟩

theorem runeOfNat_toNat (c : Char) : runeOfNat c.toNat = c := by
  unfold runeOfNat
  have hv := c.valid
  have : c.toNat < 0xD800 ∨ (0xDFFF < c.toNat ∧ c.toNat < 0x110000) := by
    simp only [Char.toNat] at *
    rcases hv with h | h
    · left; exact h
    · right; exact h
  simp [this]

theorem lexStr_uEsc (q : Char) (c : Char) (acc : Str) (rest : List Sym) :
    lexStr q .esc acc (syms ('u' :: '{' :: (hexUpper c.toNat ++ ['}'])) ++ rest) = lexStr q .norm (c :: acc) rest := by
  have hu : (Sym.chr 'u').rune = some 'u' := by decide
  have ho : (Sym.chr '{').rune = some '{' := by decide
  have hcl : (Sym.chr '}').rune = some '}' := by decide
  have e : ('u' = '\x00') = False ∧ ('u' = 'n') = False ∧ ('u' = 'r') = False ∧ ('u' = 't') = False ∧
      ('u' = '\\') = False ∧ ('u' = '$') = False := by decide
  have hlen := hexUpper_length 5 c.toNat (Nat.lt_trans (by
    have := c.valid; simp only [Char.toNat] at *; rcases this with h | h <;> omega) (by decide : 0x110000 < 16 ^ 6))
  have hsy : syms ('u' :: '{' :: (hexUpper c.toNat ++ ['}'])) ++ rest =
      .chr 'u' :: .chr '{' :: (syms (hexUpper c.toNat) ++ (.chr '}' :: rest)) := by simp [syms]
  rw [hsy, lexStr, hu]
  simp only [e, if_false, if_true]
  rw [lexStr, ho]
  simp only [if_true]
  rw [hexUpper_eq_map, List.length_map] at hlen
  rw [hexUpper_eq_map, lexStr_udig q acc _ _ (Digits.digits_lt (by decide) _) 0 0 (by omega),
    Digits.foldl_digits (by decide), lexStr, hcl]
  simp [show 0 < (Digits.digits 16 c.toNat).length from hlen.1, runeOfNat_toNat]
theorem lexStr_dq (s acc : Str) (rest : List Sym) :
    lexStr '"' .norm acc (syms (dqBody s) ++ Sym.chr '"' :: rest) = .tok ⟨.string, acc.reverse ++ s⟩ rest false := by
  induction s generalizing acc with
  | nil => simp [dqBody, lexStr, Sym.rune, runeError]
  | cons c cs ih =>
    unfold dqBody
    -- the six two-character escapes
    have two : ∀ (e r : Char), (e, r) ∈ [('n', '\n'), ('r', '\r'), ('t', '\t'), ('\\', '\\'), ('$', '$'), ('"', '"')] →
        lexStr '"' .norm acc (syms ('\\' :: e :: dqBody cs) ++ Sym.chr '"' :: rest) =
          .tok ⟨.string, acc.reverse ++ r :: cs⟩ rest false := by
      intro e r h
      simp only [syms_cons, List.cons_append]
      rw [lexStr_esc _ (.inr rfl) e r h, ih]; simp
    by_cases h1 : c = '\t'
    · subst h1; simp only [if_true]
      exact two 't' '\t' (by simp)
    by_cases h2 : c = '\n'
    · subst h2; simp only [h1, if_false, if_true]
      exact two 'n' '\n' (by simp)
    by_cases h3 : c = '\r'
    · subst h3; simp only [h1, h2, if_false, if_true]
      exact two 'r' '\r' (by simp)
    by_cases h4 : c = '"'
    · subst h4; simp only [h1, h2, h3, if_false, if_true]
      exact two '"' '"' (by simp)
    by_cases h5 : c = '\\'
    · subst h5; simp only [h1, h2, h3, h4, if_false, if_true]
      exact two '\\' '\\' (by simp)
    by_cases h6 : c = '$'
    · subst h6; simp only [h1, h2, h3, h4, h5, if_false, if_true]
      exact two '$' '$' (by simp)
    simp only [h1, h2, h3, h4, h5, h6, if_false]
    by_cases h7 : isCtl c = true
    · simp only [h7, if_true, uEsc]
      simp only [List.cons_append, syms_cons]
      rw [lexStr_bs _ (by decide)]
      have := lexStr_uEsc '"' c acc (syms (dqBody cs) ++ Sym.chr '"' :: rest)
      simp only [syms_cons, List.cons_append, syms_append, List.append_assoc] at this ⊢
      rw [this, ih]; simp
    · have h7' : isCtl c = false := by simpa using h7
      obtain ⟨h20, hre⟩ := isCtl_false h7'
      simp only [h7', if_false, Bool.false_eq_true, syms_cons, List.cons_append]
      rw [lexStr, rune_chr hre]; simp only
      have h0 : c ≠ '\x00' := by intro e; subst e; simp at h20
      simp [h4, h5, h0, h2, ih]

theorem nextToken_puppetQuote (il : Char → Bool) (s : Str) (rest : List Sym) :
    nextToken il (syms (puppetQuote s) ++ rest) = .tok ⟨.string, s⟩ rest false := by
  unfold puppetQuote
  by_cases h : s.any isCtl = true
  · simp only [h, if_true, syms_cons, List.cons_append]
    rw [nextToken_chr il _ (by decide) (by decide) (by decide) (by decide)]
    unfold startTok
    have := lexStr_dq s [] rest
    simpa [syms_append, syms_cons] using this
  · have h' : s.any isCtl = false := by simpa using h
    simp only [h', Bool.false_eq_true, if_false, syms_cons, List.cons_append]
    rw [nextToken_chr il _ (by decide) (by decide) (by decide) (by decide)]
    unfold startTok
    have := lexStr_sq s [] rest h'
    simpa [syms_append, syms_cons] using this

/-- the regexp sources a regexp literal can denote (`esc` = the previous character was an unescaped backslash):
    no `\/`, no raw newline / NUL / U+FFFD, no NUL / U+FFFD after a backslash, no trailing lone backslash -/
def rxRep : Bool → Str → Bool
  | false, [] => true
  | true, [] => false
  | true, c :: cs => c ≠ '/' && c ≠ '\x00' && c ≠ runeError && rxRep false cs
  | false, c :: cs =>
    if c = '\\' then rxRep true cs else c ≠ '\n' && c ≠ '\x00' && c ≠ runeError && rxRep false cs

theorem lexRx_rxBody (s : Str) :
    (∀ acc rest, rxRep false s = true →
      lexRx .norm acc (syms (rxBody false s) ++ Sym.chr '/' :: rest) = .tok ⟨.regexp, acc.reverse ++ s⟩ rest false) ∧
    (∀ acc rest, rxRep true s = true →
      lexRx .esc acc (syms (rxBody true s) ++ Sym.chr '/' :: rest) = .tok ⟨.regexp, acc.reverse ++ '\\' :: s⟩ rest false) := by
  induction s with
  | nil =>
    refine ⟨?_, ?_⟩
    · intro acc rest _
      simp [rxBody, lexRx, Sym.rune, runeError]
    · intro acc rest h; simp [rxRep] at h
  | cons c cs ih =>
    obtain ⟨ihn, ihe⟩ := ih
    have hs : (Sym.chr '/').rune = some '/' := by decide
    refine ⟨?_, ?_⟩
    · intro acc rest h
      by_cases h1 : c = '\\'
      · subst h1
        simp only [rxRep, if_true] at h
        simp only [rxBody, if_true, syms_cons, List.cons_append]
        rw [lexRx_bs, ihe acc rest h]
      · simp only [rxRep, h1, if_false, Bool.and_eq_true, decide_eq_true_eq] at h
        obtain ⟨⟨⟨hn, h0⟩, hre⟩, hr⟩ := h
        by_cases h2 : c = '/'
        · subst h2
          simp only [rxBody, h1, if_false, if_true, syms_cons, List.cons_append]
          rw [lexRx_bs, lexRx, hs]; simp only
          have b2 : ('/' = '\x00') = False := by decide
          simp only [b2, if_false, if_true]
          rw [ihn _ rest hr]; simp
        · simp only [rxBody, h1, h2, hn, h0, hre, if_false, syms_cons, List.cons_append]
          rw [lexRx, rune_chr hre]; simp only
          simp only [h2, h1, h0, hn, if_false]
          rw [ihn _ rest hr]; simp
    · intro acc rest h
      simp only [rxRep, Bool.and_eq_true, decide_eq_true_eq] at h
      obtain ⟨⟨⟨hsl, h0⟩, hre⟩, hr⟩ := h
      simp only [rxBody, syms_cons, List.cons_append]
      rw [lexRx, rune_chr hre]; simp only
      simp only [h0, hsl, if_false]
      rw [ihn _ rest hr]; simp

theorem nextToken_regexpQuote (il : Char → Bool) (s : Str) (rest : List Sym) (h : rxRep false s = true) :
    nextToken il (syms (regexpQuote s) ++ rest) = .tok ⟨.regexp, s⟩ rest false := by
  unfold regexpQuote
  simp only [syms_cons, List.cons_append]
  rw [nextToken_chr il _ (by decide) (by decide) (by decide) (by decide)]
  unfold startTok
  have := (lexRx_rxBody s).1 [] rest h
  simpa [syms_append, syms_cons] using this

theorem digitVal_digitChar : ∀ d, d < 10 → digitVal (digitChar d) = some d ∧ isDigit (digitChar d) = true := by decide

theorem natDigits_eq_map (n : Nat) : natDigits n = (Digits.digits 10 n).map digitChar :=
  Digits.map_digits_of_rec (by decide) _ _ (fun n => by rw [natDigits, dite_eq_ite]) n

theorem digitsVal_natDigits (n : Nat) : digitsVal 10 0 (natDigits n) = some n := by
  rw [natDigits_eq_map]
  refine Digits.read_map_digits (by decide) digitChar (fun cs acc => digitsVal 10 acc cs) (fun _ => rfl) (fun x hx cs acc => ?_) n
  show digitsVal 10 acc (digitChar x :: cs) = digitsVal 10 (acc * 10 + x) cs
  rw [digitsVal, (digitVal_digitChar x hx).1]
  simp only [hx, if_true]

theorem natDigits_head (n : Nat) (hn : 0 < n) :
    ∃ d cs, natDigits n = digitChar d :: cs ∧ 1 ≤ d ∧ d < 10 := by
  obtain ⟨d, ds, e, hd⟩ := Digits.head_digits (b := 10) (by decide) hn
  exact ⟨d, ds.map digitChar, by rw [natDigits_eq_map, e]; rfl, hd⟩

theorem natDigits_digits (n : Nat) : ∀ c ∈ natDigits n, isDigit c = true := by
  rw [natDigits_eq_map]
  exact Digits.forall_map_digits (by decide) digitChar (fun k hk => (digitVal_digitChar k hk).2) n

theorem natDigits_ne_nil (n : Nat) : natDigits n ≠ [] := by
  rw [natDigits]; split <;> simp

theorem natDigits_cons (n : Nat) : ∃ c cs, natDigits n = c :: cs ∧ isDigit c = true ∧ ∀ d ∈ cs, isDigit d = true := by
  have hds := natDigits_digits n
  cases hnd : natDigits n with
  | nil => exact absurd hnd (natDigits_ne_nil n)
  | cons c cs => rw [hnd] at hds; exact ⟨c, cs, rfl, hds c (by simp), fun d hd => hds d (by simp [hd])⟩

theorem parseInt_natDigits (n : Nat) (hn : 0 < n) (neg : Bool) :
    parseInt (if neg then '-' :: natDigits n else natDigits n) =
      (if neg then (if n ≤ int64Bound then some (-(n : Int)) else none)
       else if n < int64Bound then some (n : Int) else none) := by
  obtain ⟨d, cs, hd, h1, h2⟩ := natDigits_head n hn
  have hv := digitsVal_natDigits n
  rw [hd] at hv ⊢
  have key : ∀ d, d < 10 → 1 ≤ d → digitChar d ≠ '-' ∧ digitChar d ≠ '+' ∧ digitChar d ≠ '0' := by decide
  obtain ⟨k1, k2, k3⟩ := key d h2 h1
  -- neither a sign nor the `0` of a base prefix: the digits are read in base 10
  cases neg <;> simp [parseInt, k1, k2, k3, hv]

theorem parseInt_intText (i : Int) (hlo : -(int64Bound : Int) ≤ i) (hhi : i < (int64Bound : Int)) :
    parseInt (intText i) = some i := by
  cases i with
  | ofNat n =>
    simp only [intText]
    by_cases hn : n = 0
    · subst hn
      rw [natDigits]
      simp only [show (0 < 10) by omega, dite_true]
      decide
    · have := parseInt_natDigits n (by omega) false
      simp only [Bool.false_eq_true, if_false] at this
      rw [this, if_pos (Int.ofNat_lt.mp hhi)]; rfl
  | negSucc n =>
    have := parseInt_natDigits (n + 1) (by omega) true
    simp only [if_true] at this
    have hb : n + 1 ≤ int64Bound := by
      have : -(int64Bound : Int) ≤ Int.negSucc n := hlo
      omega
    simp only [intText]
    rw [this, if_pos hb]
    simp [Int.negSucc_eq]

end Pcore.Syntax

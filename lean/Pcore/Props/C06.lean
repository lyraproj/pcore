import Pcore.Proofs.Parse
import Pcore.Proofs.Resolve
import Pcore.Proofs.LexLoops
import Pcore.Proofs.ArgCounts
import Pcore.Generated.LexLoops
import Pcore.Generated.CoreTypes
import Pcore.Generated.ArgCounts
/-!
# C06 — The parser is total: it terminates and fails only with located parse errors

Property (properties.jsonl): for every input text, parsing terminates and either returns a value or raises a reported
parse error whose line and column lie within the input; it never hangs and never lets a Go runtime fault (nil
dereference, index or slice out of range, failed type assertion) escape, whether raw or wrapped as a parse error.
Resolving the parsed expression to a type likewise returns a type or raises a reported error.

Model: `Pcore/Model/Lex.lean` (lexer over `List Sym`, `Sym = chr c | bad`), `Pcore/Model/Parse.lean` (recursive descent
parser, result `PR = ok | err (located) | fault | nofuel`), for ANY oracle `Env` (`unicode.IsLetter`, `regexp.Compile`
succeeds, `strconv.ParseFloat`) and ANY input — every sequence of decodable characters and undecodable bytes.

Full statement / proved / missing
* termination of lexing          — `lexStr`, `lexRx`, `lexNum`, `lexIdent`, `nextTok` are accepted by Lean as structural
                                   recursions on the remaining input (no fuel, no `partial`): every loop iteration of the
                                   Go lexer that does not return or panic consumes a symbol.  `C06_lex_progress`: a token
                                   other than `end` is produced only after consuming at least one symbol;
                                   `C06_lex_suffix`: what is left is a suffix of the input.
* second tie (regenerated facts) — `C06_loops_exit`: the loop-exit table that `extract/lexloops.go` regenerates from
                                   `types/lexer.go` on every check (for each `for { … }` loop: per switch arm, the reader
                                   results it is taken for and how each path through it ends) satisfies `loopsOK`, by
                                   `decide`; `C06_loops_progress` / `C06_loops_terminate`: for ANY table accepted by `loopOK`
                                   every iteration that returns to the loop head has consumed a character, so the loop
                                   terminates.  An arm that falls back to the loop head at end of input without leaving
                                   the loop (the shape that hung the original lexer) makes the `decide` fail.
                                   `C06_core_names` (the model's classification of core type names against the regenerated
                                   table `coreTypes` of `types/zinit.go`), `C06_core_names_not_loaded`; `C06_arg_counts` (the
                                   argument counts the creators declare against the model's maxima), `C06_over_max_refused`.
* termination of parsing         — `C06_terminates`: the fuel `2·|input| + 2` that `parseFile` hands to the mutually
                                   recursive `parseItem / arrayLoop / hashLoop` is never exhausted (each recursive call is
                                   preceded by a token read that consumed a symbol), i.e. the recursive descent terminates.
* no runtime fault               — `C06_no_fault`: the explicit fault sites (`PopLast().(*Array)`, slicing an empty
                                   parameter list) are unreachable.
* outcome                        — `C06_outcome`: value or located parse error, nothing else.
* location within the input      — `C06_location`: 1 ≤ line ≤ number of lines, column ≤ width of that line + 2.  (The
                                   reader counts the newline as column 1 of the next line and bumps the column once when
                                   it is asked for a symbol at the end, hence `+ 2`; columns are natural numbers — the
                                   implementation clamps at 0 since fix 153f591.)
* resolution                     — `Model/Resolve.lean`: the resolver's decision structure `resolveR : Expr → ok type |
                                   reported issue-code | outside | fault`, for the 22 parameterized core types of the C05
                                   fragment, the parameterless ones, unknown names and second spellings: which issue code
                                   each positional creator reports for arguments it refuses, in the implementation's order of
                                   evaluation (parameters first, left to right, depth first; then the creator's own tests);
                                   `newEnumType3` statement by statement with its self-sized slice (`enums[idx] = …`,
                                   `enums[:idx]`) as explicit fault sites.
                                   `C06_resolve_total`: NO fault result is reachable, for every expression and every oracle
                                   (in particular the index arithmetic of the Enum creator stays in range:
                                   `C06_enum_index_in_range`, and the recursion of the creators through nested array
                                   arguments ends); `C06_parse_type_outcome`: `Context.ParseType` on any input is a type, a
                                   reported issue, a located parse error, or outside the model — never a fault.
                                   `C06_resolve_agrees`: the accepting half is exactly the creator model of C05
                                   (`resolve`), so every type this resolver returns is the one whose print/parse round trip
                                   C05 proves; `C06_enum_low_agrees`: the statement-level Enum creator computes `enumArgs` +
                                   `NewEnumType`.  Arity lemmas per type name: `C06_arity_*`, `C06_not_parameterized`,
                                   `C06_unknown_name`, `C06_non_type`.
                                   `outside` (no claim): constructor calls, `Init[…]`, `Like`, `Object[…]`, `TypeSet[…]`,
                                   `Timespan/Timestamp/SemVer/SemVerRange/URI[…]`, names the loader may know, `type X = …`
                                   — for these the property is checked on the implementation only
                                   (direct predicate of harness/c06: type or reported error, never a Go fault).
* not provable in this model: stack exhaustion on very deep nestings (a resource of the Go runtime).
-/
namespace Pcore.Syntax

/-- lexer progress: `nextToken` either consumes input or is at the end -/
theorem C06_lex_progress (il : Char → Bool) (s : List Sym) (t : Tok) (rest : List Sym) (b : Bool)
    (h : nextToken il s = .tok t rest b) : rest.length < s.length ∨ t.k = .eoi :=
  nextTok_progress il false s t rest b h

/-- whatever the lexer leaves (after a token or at a panic) is a suffix of what it was given -/
theorem C06_lex_suffix (il : Char → Bool) (s : List Sym) : (nextToken il s).rest <:+ s :=
  nextTok_suffix il false s

/-- parsing yields a value or a located parse error -/
theorem C06_outcome (env : Env) (inp : List Sym) :
    (∃ e, parse env inp = .value e) ∨ (∃ l c, parse env inp = .parseError l c) := by
  have h := parseFile_fine env inp
  unfold parse
  cases hp : parseFile env inp <;> simp_all [PR.Fine]

/-- the recursive descent terminates: the fuel bound is never hit -/
theorem C06_terminates (env : Env) (inp : List Sym) : parse env inp ≠ .nofuel := by
  rcases C06_outcome env inp with ⟨e, h⟩ | ⟨l, c, h⟩ <;> simp [h]

/-- no Go runtime fault: the fault sites of the parser are unreachable -/
theorem C06_no_fault (env : Env) (inp : List Sym) : parse env inp ≠ .fault := by
  rcases C06_outcome env inp with ⟨e, h⟩ | ⟨l, c, h⟩ <;> simp [h]

/-- the location of a parse error lies within the input -/
theorem C06_location (env : Env) (inp : List Sym) (l c : Nat) (h : parse env inp = .parseError l c) :
    1 ≤ l ∧ l ≤ lineCount inp ∧ c ≤ lineWidth inp (l - 1) + 2 := by
  have hf := parseFile_fine env inp
  unfold parse at h
  cases hp : parseFile env inp with
  | ok e => simp [hp] at h
  | fault k => simp [hp] at h
  | nofuel => simp [hp] at h
  | err e =>
    rw [hp] at hf h
    have hb := pos_bound inp e.rest e.bumped hf
    simp only [locate, Outcome.parseError.injEq] at h
    obtain ⟨rfl, rfl⟩ := h
    refine ⟨hb.1, hb.2.1, ?_⟩
    have := hb.2.2
    omega

open Pcore.LexLoops in
/-- obligation over the regenerated table: no lexer loop has an arm that can return to the loop head without having
    consumed a character -/
theorem C06_loops_exit : loopsOK Pcore.Generated.lexLoops = true := by decide

open Pcore.LexLoops in
/-- for any accepted table: an iteration that returns to the loop head leaves strictly fewer characters -/
theorem C06_loops_progress (l : Loop) (hl : l ∈ Pcore.Generated.lexLoops) (n n' : Nat) (hs : Step l n (some n')) :
    n' < n :=
  loopOK_progress l (List.all_eq_true.1 C06_loops_exit l hl) n n' hs

open Pcore.LexLoops in
/-- hence every lexer loop terminates -/
theorem C06_loops_terminate (l : Loop) (hl : l ∈ Pcore.Generated.lexLoops) :
    ∀ n, Acc (fun n' n => Step l n (some n')) n :=
  loopOK_terminates l (List.all_eq_true.1 C06_loops_exit l hl)

open Pcore.LexLoops in
/-- the table of the original `consumeUnsignedInteger` (empty `case 0:`) is refuted; and the accepted loops are not
    trivially accepted: `consumeNumber` really has arms that go back to the loop head -/
example : loopOK { fn := "consumeUnsignedInteger", kind := .peek, arms := [
    { labels := [.runeError], outs := [.panic] }, { labels := [.zero], outs := [.loop false false] },
    { labels := [.char], outs := [.panic] }, { labels := [.dflt], outs := [.loop true true, .panic, .ret] }] } = false := by
  decide
open Pcore.LexLoops in
example : (Pcore.Generated.lexLoops.filter fun l => l.arms.any fun a => a.outs.any isLoopOut).length ≥ 8 := by decide

/-- **resolution is total**: no fault result is reachable from any parsed expression -/
theorem C06_resolve_total (env : Env) (e : Expr) (k : RFault) : resolveR env e ≠ .fault k := by
  unfold resolveR
  split
  · simp
  · exact evalR_no_fault env k e

/-- the statement-level model of `newEnumType3`: every index it writes and every bound it re-slices to lies within the
    slice it sized itself, whatever the arguments -/
theorem C06_enum_index_in_range (l : List Arg) (k : RFault) :
    enumLoop l.length l 0 (List.replicate l.length []) false ≠ .fault k :=
  enumLoop_no_fault l.length l 0 _ false (by simp) (fun _ => by simp) k

/-- … and it computes what the creator model of C05 computes -/
theorem C06_enum_low_agrees (args : List Arg) :
    enumLow (argDepth (.arr args) + 1) args =
      match enumArgs (argDepth (.arr args) + 1) args with
      | some (vs, f) => enumLow.fin vs f
      | none => .reported .argType :=
  enumLow_spec _ args (by omega)

/-- the accepting half of the resolver is the creator model whose print/parse round trip C05 proves -/
theorem C06_resolve_agrees (env : Env) (e : Expr) (t : Ty) (h : e.outsideB env = false) :
    resolveR env e = .ok t ↔ resolve env e = some t := by
  unfold resolveR
  simp only [h, Bool.false_eq_true, if_false]
  exact evalR_ok env e t

/-- `Context.ParseType(text)`: a type, a reported issue, a located parse error, or outside the model -/
theorem C06_parse_type_outcome (env : Env) (inp : List Sym) : parseTypeR env inp ≠ .fault := by
  unfold parseTypeR
  have h1 := C06_no_fault env inp
  have h2 := C06_terminates env inp
  cases hp : parse env inp with
  | value e =>
    simp only
    cases hr : resolveR env e with
    | fault k => exact absurd hr (C06_resolve_total env e k)
    | _ => simp
  | parseError l c => simp
  | fault => exact absurd hp h1
  | nofuel => exact absurd hp h2

/-- an expression that is not a type expression: `PCORE_FAILURE` -/
theorem C06_non_type (env : Env) (e : Expr) (h : ∀ n ps, e ≠ .dtype n ps) : evalR env e = .reported .failure := by
  cases e with
  | dtype n ps => exact absurd rfl (h n ps)
  | _ => simp [evalR]

/-- a core type without a positional creator refuses every parameter list -/
theorem C06_not_parameterized (env : Env) (n : Str) (args : List Arg) (h : n ∈ notParamNames) :
    createR env n args = .reported .notParam :=
  createR_notParam env n args h

/-- an unknown name is a TypeReference to itself; with parameters it takes those of `TypeReference` -/
theorem C06_unknown_name (env : Env) (n : Str) (hk : kindOf (canonName n) = none)
    (hp : canonName n ∉ plainNames) (hc : canonName n ∉ coreOther) (hu : env.unknown n = true) :
    evalR env (.dtype n none) = .ok (.typeRef n) ∧
    ∀ args, createR env n args = createKR env .typeRef args := by
  constructor
  · simp [evalR, nameR, resolveName, hk, hp, hc, hu]
  · intro args; simp [createR, hk, hp, hc, hu]

theorem C06_arity_wrap (env : Env) (k : WrapKind) (a b : Arg) (rest : List Arg) :
    createKR env (.wrap k) (a :: b :: rest) = .reported .argCount :=
  over_max_code env (.wrap k) 1 _ rfl (by simp)

theorem C06_arity_boolean (env : Env) (a b : Arg) (rest : List Arg) :
    createKR env .boolean (a :: b :: rest) = .reported .argCount :=
  over_max_code env .boolean 1 _ rfl (by simp)

theorem C06_arity_regexp (env : Env) (a b : Arg) (rest : List Arg) :
    createKR env .regexp (a :: b :: rest) = .reported .argCount :=
  over_max_code env .regexp 1 _ rfl (by simp)

theorem C06_arity_typeRef (env : Env) (a b : Arg) (rest : List Arg) :
    createKR env .typeRef (a :: b :: rest) = .reported .argCount :=
  over_max_code env .typeRef 1 _ rfl (by simp)

theorem C06_arity_collection (env : Env) (a b c : Arg) (rest : List Arg) :
    createKR env .collection (a :: b :: c :: rest) = .reported .argCount :=
  over_max_code env .collection 2 _ rfl (by simp)

theorem C06_arity_string (env : Env) (a b c : Arg) (rest : List Arg) :
    createKR env .string (a :: b :: c :: rest) = .reported .argCount :=
  over_max_code env .string 2 _ rfl (by simp)

/-- Integer: the first argument is looked at before the count -/
theorem C06_arity_integer (env : Env) (a b c : Arg) (rest : List Arg) :
    createKR env .integer (a :: b :: c :: rest) = .reported (if a.isIntOrD then .argCount else .argType) := by
  rw [over_max_code env .integer 2 _ rfl (by simp)]
  cases h : a.isIntOrD <;> simp [firstArgRefused, h]

theorem C06_arity_float (env : Env) (a b c : Arg) (rest : List Arg) :
    createKR env .float (a :: b :: c :: rest) = .reported (if a.isFloatOrD then .argCount else .argType) := by
  rw [over_max_code env .float 2 _ rfl (by simp)]
  cases h : a.isFloatOrD <;> simp [firstArgRefused, h]

theorem C06_arity_runtime (env : Env) (a b c d : Arg) (rest : List Arg) :
    createKR env .runtime (a :: b :: c :: d :: rest) = .reported .argCount :=
  over_max_code env .runtime 3 _ rfl (by simp)

theorem C06_arity_hash_one (env : Env) (a : Arg) : createKR env .hash [a] = .reported .argCount := by
  simp [createKR, createK, diagK]

theorem C06_arity_hash_many (env : Env) (a b c d e : Arg) (rest : List Arg) :
    createKR env .hash (a :: b :: c :: d :: e :: rest) = .reported .argCount :=
  over_max_code env .hash 4 _ rfl (by simp)

/-- Array: at most an element type and two size arguments -/
theorem C06_arity_array (env : Env) (a b c : Arg) (rest : List Arg) (h : ∀ t, a ≠ .ty t) :
    createKR env .array (a :: b :: c :: rest) = .reported .argCount := by
  cases a with
  | ty t => exact absurd rfl (h t)
  | _ => simp [createKR, createK, diagK]

theorem C06_arity_array_typed (env : Env) (t : Ty) (a b c : Arg) (rest : List Arg) :
    createKR env .array (.ty t :: a :: b :: c :: rest) = .reported .argCount :=
  over_max_code env .array 3 _ rfl (by simp)

/-- the model's classification of core type names (`kindOf`, `plainNames`, `coreOther`, `spellings`) agrees with the table
    `coreTypes` of the code as it is now: every name of the table is classified and bound to the default constructor of its
    canonical name, and the model classifies no core name that the table lacks -/
theorem C06_core_names : coreTableOK Pcore.Generated.coreTypes = true := by decide +kernel

/-- hence no name of `coreTypes` is ever taken for an unknown name (a TypeReference through the loader), whatever the
    context knows; proved for ANY table that satisfies the side condition -/
theorem C06_core_names_not_loaded (env : Env) (u : Str → Bool) (n c : String) (h : (n, c) ∈ Pcore.Generated.coreTypes) :
    resolveName env n.toList = resolveName { env with unknown := u } n.toList :=
  classified_not_loaded env u n.toList (((coreTableOK_iff _).1 C06_core_names).1 (n, c) h).1

example : ("Notundef", "DefaultNotUndefType") ∈ Pcore.Generated.coreTypes := by decide +kernel
/-- a table with a name the model does not classify, or a spelling bound to another type, is rejected -/
example : coreTableOK (Pcore.Generated.coreTypes ++ [("Newtype", "DefaultNewtypeType")]) = false :=
  Bool.eq_false_iff.2 fun h =>
    absurd (((coreTableOK_iff _).1 h).1 ("Newtype", "DefaultNewtypeType") (by simp)).1 (by decide +kernel)
example : coreTableOK (Pcore.Generated.coreTypes.map fun r => if r.1 = "Uri" then ("Uri", "DefaultStringType") else r) = false :=
  Bool.eq_false_iff.2 fun h =>
    absurd (((coreTableOK_iff _).1 h).1 ("Uri", "DefaultStringType")
      (List.mem_map.2 ⟨("Uri", "DefaultUriType"), by decide +kernel, rfl⟩)).2 (by decide +kernel)
example : coreTableOK (Pcore.Generated.coreTypes.filter fun r => r.1 != "Typeset") = false :=
  Bool.eq_false_iff.2 fun h => by
    obtain ⟨r, hr, he⟩ := ((coreTableOK_iff _).1 h).2 "Typeset".toList (by decide +kernel)
    simp [String.toList_inj.1 he] at hr

/-- second tie, arity: for every modelled kind whose creator can refuse an argument count, the count the creator DECLARES
    (the literal of its `illegalArgumentCount(label, counts, n)` call, regenerated from types/*.go) is the model's maximum
    (`modelMax`; Hash: the message says `0, 2, or 3`, the code and the model take four) -/
theorem C06_arg_counts : argCountsOK Pcore.Generated.argCounts = true := by decide +kernel

/-- above that maximum every creator of the model refuses — by count, or (Integer, Float: the first argument is looked at
    first) by the kind of the first argument; one statement for all kinds -/
theorem C06_over_max_refused (env : Env) (k : TKind) (n : Nat) (args : List Arg) (hk : modelMax k = some n)
    (hl : n < args.length) :
    createKR env k args = .reported .argCount ∨ createKR env k args = .reported .argType :=
  over_max_refused env k n args hk hl

example : modelMax .array = some 3 ∧ (3 : Nat) < [Arg.int 1, .int 2, .int 3, .int 4].length := by decide
/-- a table in which a creator declares another count is rejected -/
example : argCountsOK (Pcore.Generated.argCounts.map fun r => if r.2.1 = "Integer[]" then (r.1, r.2.1, "0 - 3") else r) = false := by
  decide +kernel
example : argCountsOK (Pcore.Generated.argCounts.filter fun r => r.2.1 != "Runtime[]") = false := by decide +kernel

/-- an oracle for examples: `Foo` is an unknown name -/
def envR : Env :=
  { isLetter := fun c => isUpper c || isLower c, rxOK := fun s => s ≠ ['('], pf := fun _ => none,
    unknown := fun n => n = "Foo".toList }

theorem foo_unknown : kindOf (canonName "Foo".toList) = none ∧ canonName "Foo".toList ∉ plainNames ∧
    canonName "Foo".toList ∉ coreOther ∧ envR.unknown "Foo".toList = true := by decide +kernel

/-- `Enum[['a', true], 'b']` (the input of seeded change C06-s10: a flag inside the array form followed by a string) is
    refused with ILLEGAL_ARGUMENT_TYPE — the Boolean is not the last argument of the flattened list -/
def enumMisplacedFlag : Expr := .dtype "Enum".toList (some [.arr [.str ['a'], .bool true], .str ['b']])
example : enumMisplacedFlag.outsideB envR = false := outsideB_kind envR .enum _
example : (match resolveR envR enumMisplacedFlag with | .reported .argType => true | _ => false) = true := by
  rw [enumMisplacedFlag, show "Enum".toList = TKind.enum.name from rfl, resolveR_kind]
  rfl
/-- accepted forms: `Enum[['a', 'B'], true]`, `Callable[[String], Integer[1, 2]]`, `Foo`, `Notundef['x']` -/
example : (match resolveR envR (.dtype "Enum".toList (some [.arr [.str ['a'], .str ['B']], .bool true])) with
    | .ok (.enum [['a'], ['b']] true) => true | _ => false) = true := by
  rw [show "Enum".toList = TKind.enum.name from rfl, resolveR_kind]
  decide +kernel
example : (match resolveR envR (.dtype "Callable".toList (some [.arr [.dtype "String".toList none],
      .dtype "Integer".toList (some [.int 1, .int 2])])) with
    | .ok (.callable (some ([.named _], none)) (some (.int 1 2)) none) => true | _ => false) = true := by decide +kernel
example : (match resolveR envR (.dtype "Foo".toList none) with | .ok (.typeRef _) => true | _ => false) = true := by
  obtain ⟨hk, hp, hc, hu⟩ := foo_unknown
  generalize "Foo".toList = n at *
  simp [resolveR, Expr.outsideB, nameModelled, hk, hp, hc, hu, (C06_unknown_name envR _ hk hp hc hu).1]
example : (match resolveR envR (.dtype "Notundef".toList (some [.str ['x']])) with
    | .ok (.wrap .notUndef (.strVal ['x'])) => true | _ => false) = true := by decide +kernel
/-- every issue code is reachable: count, type, range, regexp, go runtime, not parameterized, not a type; the first
    failing PARAMETER wins over the creator's own refusal -/
example : (match resolveR envR (.dtype "Integer".toList (some [.int 1, .int 2, .int 3])) with
    | .reported .argCount => true | _ => false) = true := by
  rw [show "Integer".toList = TKind.integer.name from rfl, resolveR_kind]
  rfl
example : (match resolveR envR (.dtype "Integer".toList (some [.str ['a'], .int 2, .int 3])) with
    | .reported .argType => true | _ => false) = true := by
  rw [show "Integer".toList = TKind.integer.name from rfl, resolveR_kind]
  rfl
example : (match resolveR envR (.dtype "Integer".toList (some [.int 2, .int 1])) with
    | .reported .args => true | _ => false) = true := by
  rw [show "Integer".toList = TKind.integer.name from rfl, resolveR_kind]
  rfl
example : (match resolveR envR (.dtype "Pattern".toList (some [.str ['a'], .str ['('], .int 1])) with
    | .reported .invalidRegexp => true | _ => false) = true := by
  rw [show "Pattern".toList = TKind.pattern.name from rfl, resolveR_kind]
  rfl
example : (match resolveR envR (.dtype "Runtime".toList (some [.str ['g', 'o'], .str ['x']])) with
    | .reported .goRuntime => true | _ => false) = true := by
  rw [show "Runtime".toList = TKind.runtime.name from rfl, resolveR_kind]
  rfl
example : (match resolveR envR (.dtype "Any".toList (some [.int 1])) with
    | .reported .notParam => true | _ => false) = true := by
  rw [resolveR_notParam envR _ _ (by decide +kernel)]
  rfl
example : (match resolveR envR (.int 1) with | .reported .failure => true | _ => false) = true := by decide +kernel
example : (match resolveR envR (.dtype "Any".toList (some [.dtype "Integer".toList (some [.int 2, .int 1])])) with
    | .reported .args => true | _ => false) = true := by decide +kernel
/-- outside the model: a constructor call, `Init[…]`, a name the loader may know -/
example : (match resolveR envR (.dtype "Array".toList (some [.call (some ['n', 'e', 'w']) [.str ['F']]])) with
    | .outside => true | _ => false) = true := by
  rw [show "Array".toList = TKind.array.name from rfl, resolveR_kind]
  rfl
example : (match resolveR envR (.dtype "Init".toList (some [.dtype "String".toList none])) with
    | .outside => true | _ => false) = true := by decide +kernel
example : (match resolveR envR (.dtype "Bar".toList none) with | .outside => true | _ => false) = true := by decide +kernel
/-- hypotheses of the lemmas above are satisfiable -/
example : "Any".toList ∈ notParamNames := by decide
example : kindOf (canonName "Foo".toList) = none ∧ canonName "Foo".toList ∉ plainNames ∧
    canonName "Foo".toList ∉ coreOther ∧ envR.unknown "Foo".toList = true := foo_unknown
example : ∀ t, Arg.int 1 ≠ .ty t := by intro t; simp
example : ∀ n ps, Expr.int 1 ≠ .dtype n ps := by intro n ps; simp

/-! ### non-vacuity: the inputs that broke the original code, on the model of the code as it is now -/

/-- an oracle for examples (kernel-evaluable): no letters beyond ASCII, every regexp compiles, floats read as 0 -/
def env0 : Env := { isLetter := fun c => isUpper c || isLower c, rxOK := fun _ => true, pf := fun _ => some 0 }

def ofChars (cs : List Char) : List Sym := cs.map .chr

/-- `1e5` at end of input (hung the original lexer): a float token -/
example : nextToken env0.isLetter (ofChars ['1', 'e', '5']) = .tok ⟨.float, ['1', 'e', '5']⟩ [] false := by decide
/-- an invalid first token (nil `p.lt` in the original `location`): a parse error at line 1, column 1 -/
example : (match parse env0 (ofChars ['\r']) with | .parseError 1 1 => true | _ => false) = true := by decide
/-- `Deferred()` (sliced `[1:0]` in the original): a parse error, not a fault -/
example : (match parse env0 (ofChars ['D', 'e', 'f', 'e', 'r', 'r', 'e', 'd', '(', ')']) with | .parseError 1 9 => true | _ => false) = true := by
  decide
/-- top level `a =>` (indexed an empty collector before fix 18fd032): a parse error -/
example : (match parse env0 (ofChars ['a', '=', '>']) with | .parseError 1 4 => true | _ => false) = true := by decide
/-- a parse that succeeds with nesting, so that `C06_outcome` is not vacuous on the value side -/
example : (match parse env0 (ofChars ['A', '[', 'b', ',', '{', 'c', '=', '>', '[', '1', ']', '}', ']']) with | .value _ => true | _ => false) = true := by decide
/-- an undecodable byte is a located error -/
example : (match parse env0 [.chr '[', .bad] with | .parseError 1 1 => true | _ => false) = true := by decide
/-- a location on a later line -/
example : (match parse env0 (ofChars ['[', '\n', '1', '\n', ' ', ')']) with | .parseError 3 2 => true | _ => false) = true := by
  decide

end Pcore.Syntax

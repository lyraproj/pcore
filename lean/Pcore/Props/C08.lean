import Pcore.Proofs.SliceHeapRefine
import Pcore.Proofs.Caches
import Pcore.Proofs.SliceHeapStable
import Pcore.Generated.SliceIdioms
import Pcore.Generated.CacheFacts
import Pcore.Proofs.ImmutResolve
import Pcore.Proofs.ImmutWrites
import Pcore.Generated.FieldWrites
import Pcore.Proofs.ImmutMutable
import Pcore.Generated.SerCalls
import Pcore.Generated.MutatorCalls
/-!
# C08 — Values are immutable: no operation disturbs a value obtained earlier

Property (properties.jsonl): no operation offered on a value (adding, deleting, merging, slicing, mapping, selecting,
sorting, flattening, de-duplicating, inferring its type, printing, hashing, serializing, resolving) changes what any
previously obtained value observably contains: not the receiver, not the arguments, not results returned by earlier
operations — for all sequences of List/OrderedMap operations applied to a pool of values, where each step may use any
earlier value or result as receiver or argument.

Model: `Model/Coll.lean` (pure: a value is a `List Val`) and `Model/SliceHeap.lean` (implementation layer: Go slice
headers over a heap of backing arrays, Go's `append`, each operation's storage behaviour selected by the idiom that the
fact extractor found at its return site in `types/arraytype.go` / `types/hashtype.go`).

Full statement / proved / missing
* `C08_idioms_safe` — the table regenerated from the Go source satisfies `IdiomsSafe` (by `decide +kernel`; THE obligation a
                      code change breaks: e.g. `Array.Add` back to `append(av.elements, ov)` gives `appendToReceiver`).
* `C08_refine`      — FULL statement, proved: for every growth / spare-capacity policy `P` (no hypothesis on it at all:
                      the model takes `max needed (grow cap needed)`, which subsumes `∀ n, n < grow n`), every table
                      with `IdiomsSafe`, every history `ops` over the complete operation set (constructors incl.
                      parser/collector-built values with spare capacity, the `Hash.new(tree)` constructor, add, addAll,
                      delete, deleteAll, slice, the slices `EachSlice` hands out, map, select, reject, sort, flatten,
                      unique, at/get of a nested container, merge, `Hash.AddAll(Array)`, keys, values, entries, asArray,
                      mapValues, select/rejectPairs, mutable-hash put/putAll, serializer → collector / deserializer
                      copies, `ResolveDeferred`, observers), every value `i` and every later time `j`:
                      `content (runHeap P tbl (ops.take j)) i = pureResult ops i`.
                      By induction over the op list with the sealing invariant (`step_refines`: a step is the pure step
                      on the represented state and keeps every slice header valid; under a safe table no cell of an
                      existing backing array is ever written — all writes go to arrays allocated by that step).
                      Observers (type inference, printing, hashing, serialising, iteration) are storage no-ops in the
                      model; that they are in the code is part of the table obligation: the extractor scans EVERY method
                      of Array / Hash / MutableHashValue for writes through receiver storage and `IdiomsSafe` rejects
                      any such row.
* `C08_sealed`      — the sealing invariant as a theorem of its own: extending a history leaves every existing backing
                      array untouched, cell by cell (`heap' = heap ++ new arrays`).
* `C08_new_results_fresh`, `C08_sort_fresh` — FRESH BACKING: the result of every operation that computes a new sequence
                      (Add, AddAll, Delete, Map, Select, Sort, Merge, Keys, MutableHashValue.Put … — all `NewSite`s) lives
                      in a backing array that the step allocated: no pool value that existed before has a slice of that
                      array, and the array holds exactly the result (then spare cells).  Instance for `Sort` on an Array
                      after an arbitrary history (`Array.Sort` copies, then sorts the copy).
* `C08_observers_heap_unchanged` — inferring a type, printing (any format, any format map), hashing, comparing, walking,
                      serialising to a streamer: the heap afterwards is identical (arrays, cells, capacities), for every
                      table.
* `C08_pointer_stable` — pointer = copy: what a reference to pool value `n` denotes (what `a.Add(b)` stores for `b`) is the
                      same at every later time; this is the theorem behind modelling a nested container by its content.
* `C08_stable`      — corollary: what value `i` holds at any two later times is the same.
* `C08_impl`        — `C08_refine` instantiated on the regenerated table.
* `C08_appendToReceiver_breaks`, `C08_resliceThenAppend_breaks`, `C08_inPlace_breaks` — the constructive converses:
                      for EVERY policy, a table whose `Array.Add` row is `appendToReceiver` (resp. `Hash.Delete` row
                      `resliceThenAppend`, resp. an in-place write row for `Array.Sort`) admits a concrete history of two
                      or three steps on which an earlier value's content changes (the `a.Add(2); a.Add(3)` shape with spare
                      capacity; these are the defects of tag `verif-base` and mutants of DESIGN Appendix E).
* `C08_caches_safe`, `C08_cache_coherent`, `C08_stale_cache_breaks` — the hidden per-value state (`Model/Caches.lean`):
                      the lazily built caches `reducedType`, `detailedType`, `index` belong to Go objects, hold the
                      content they were computed from, and are filled at ARBITRARY moments (a schedule parameter: any
                      operation, a snapshot, a printer may have asked).  `C08_cache_coherent`: for every policy, safe
                      table, cache facts with `CachesSafe`, schedule and history, whatever an observation of any live
                      value is computed from — the cached snapshot or the storage — is what the pure layer says the
                      value holds: inferring a type, printing, hashing, looking up never changes what is observed of
                      any value, and what they cached is never stale.  `CachesSafe` (by `decide +kernel` on the facts
                      regenerated from arraytype.go/hashtype.go: the hidden fields are exactly these, every write to
                      one is a guarded lazy fill or a reset, the only mutator `MutableHashValue.PutAll` resets ALL of
                      them) is the obligation that commit 01dc3ec made true; `C08_stale_cache_breaks` is its converse
                      (facts without the `reducedType` reset: a mutable hash whose type was asked for before a `Put`
                      answers from the old content afterwards).
* RESOLVING (`Model/ImmutResolve.lean`: `types.ResolveDeferred`, `Deferred.Resolve`, `DeferredType.Resolve` over lists and maps
                      that hold nested Deferred values; pure layer `resolve`, implementation layer `resolveW` in which every
                      field assignment the regenerated table `Generated.fieldWrites` attributes to the resolving methods is
                      executed on the object):
  `C08_field_writes_safe` — every assignment to a field of a struct behind a px.Value implementation, anywhere in package
                      `types` (family fieldwrites, regenerated on every run), is one of the REVIEWED rows (construction,
                      guarded lazy caches, the one mutator, in-place completion of parsed types); by `decide +kernel`.  THE
                      obligation seeded change C08-s11 breaks (`e.arguments = …` in `(*deferred).Resolve`).
  `C08_resolve_frame` — FULL statement for one resolution (`ResolveDeferred` and the `resolveValue` of DeferredType
                      parameters alike), proved: for every table with `FieldWritesSafe`, every scope and
                      every value whose memos are sound (true of every freshly built value), after `resolveW` the value
                      has the observable content it had (`erase`, hence the same walk / text), its memos are still sound,
                      and the answer is the pure `resolve sc v`.
  `C08_resolve_history_free` — FULL statement for resolutions IN SEQUENCE under arbitrary scopes: the value is observably
                      unchanged after all of them and the n-th answer is what `resolve` answers for the ORIGINAL value
                      under the n-th scope alone — resolution is a function of (value, scope), whatever was resolved before.
  `C08_resolve_impl`  — instantiated on the regenerated table.
  `C08_resolve_memo_breaks` — the constructive converse (seeded change C08-s11): for EVERY write policy in which
                      `(*deferred).Resolve` assigns `e.arguments`, the list `['x', Deferred('$v', [Deferred('$k')])]` reads
                      `['x', Deferred('$v', ['a'])]` after one resolution, and a second resolution in a scope where
                      `$k = 'b'` answers `['x', 1]` instead of `['x', 2]`.
                      DeferredTypes WITH parameters are inside the model (`resolveValue` with the empty scope,
                      `ResolveWithParams` for Array / Optional / Type / NotUndef / Tuple over type parameters; the memo is
                      filled on success only, a memo hit visits nothing).  Not modelled: other parameterised types
                      (harness predicate only, op resp), the same
                      Deferred object held at two places of one value (the implementation-layer model is a tree: exact for
                      the code as it is — by the frame theorem nothing is written, so sharing cannot be observed — and
                      only an approximation of a memoising mutant), functions other than the harness's `verif_list`.
* SERIALIZING reads the value only: in the model `ser` is a constructor of a fresh copy (covered by `C08_refine`); in the
                      code the fields of every value are unexported, so `serialization/serializer.go` could change a value
                      only through a method it calls or through storage an accessor hands out:
  `C08_serializer_reads_only` — every method the serializer invokes is a reviewed read-only / emitting / own method, and
                      every assignment in it goes to its own state (the memo table `sc.values` keyed by identity,
                      `refIndex`, `path`), to a plain local or into storage it created (`decide +kernel` on family sercalls).
  `C08_mutator_calls_safe` — the exported methods of value structs that assign their receiver's fields (names computed from
                      family fieldwrites) are called, outside package types, only at the reviewed places (family
                      mutatorcalls; `decide +kernel`).
  `C08_alias_accessors_reviewed` — the exported accessors returning a slice / map field of the receiver as it is are the eight
                      reviewed ones (Binary.Bytes, DeferredType.Parameters, …): no accessor of Array / Hash / HashEntry
                      hands out its storage.
* MUTABLEHASHVALUE AS AN OBJECT (`Model/ImmutMutable.lean`: one object whose storage `Put`/`PutAll` replace, plus the `Hash`
                      methods it inherits by embedding and — since /repo 1d333d3 — its own `Delete` / `DeleteAll` /
                      `Entries` / `Unique`; beyond the builder view of `Model/Coll.lean`):
  `MutableResultsImmutable frozen` — FULL statement (a `def … : Prop`): whatever a history over a builder hands out that is
                      not the builder itself — every entry typed as an immutable value — reads at every later time as
                      it read when it was obtained.
  `C08_mutable_frozen_immutable` — the full statement, PROVED for the code as it is now (`frozen := true`: the four sites
                      that used to `return hv` answer `hv.freeze()`).
  `C08_mutable_sites_frozen`, `C08_mutable_impl` — the obligation over the regenerated idiom table (`mutFrozen sliceIdioms`:
                      the four `MutableHashValue.<Method>/r0` rows exist and are fresh; removing an override removes its
                      row) and the full statement instantiated with it.
  `C08_mutable_results_partial` — for either behaviour: an answer with storage of its own is never affected later.
  `C08_mutable_alias_sites` — the only answers that were not such values came from `Delete` / `DeleteAll` / `Unique` /
                      `Entries`.
  `C08_mutable_alias_changes_before_fix`, `C08_mutable_alias_refutes_before_fix` — witness of the repaired defect
                      (finding C08-mutable-hash-answers-itself, fixed by 1d333d3): with `frozen := false`,
                      `m.Put(a, 1); u := m.Unique(); m.Put(b, 2)` leaves `u`, typed `*Hash`, reading two entries.
* missing / trusted — (1) the extractor's classification of Go expressions into idioms (DESIGN §5.4) — cross-checked on
                      every run by the storage-shape correspondence (which values share a backing array, read off the
                      real slice headers, against the model's headers); (2) nested containers inside a cell are pure
                      values in the model, i.e. `a.Add(b)` stores a copy of `b`'s content where Go stores a pointer to
                      `b`.  For a safe table this is not a loss: `b` is a pool value, so by `C08_refine`/`C08_stable`
                      what the pointer leads to at any later time IS that copy; the two models can differ only for an
                      unsafe table, where a one-level witness of the failure already exists (the converses below).
                      On the real code the snapshot predicate is deep (element walk, text, key);
                      (3) `Equals`/`ToKey` are modelled by one canonical key (their agreement is C07).
-/
namespace Pcore.Heap
open Pcore.Generated

theorem C08_idioms_safe : IdiomsSafe sliceIdioms := by
  -- `+kernel`, here and for the other regenerated tables: string comparisons are slow to evaluate, and plain `decide`
  -- has the elaborator evaluate them all before the kernel does
  decide +kernel

/-- FULL statement: every earlier value holds, at every later time, exactly what the pure layer says it holds -/
theorem C08_refine (P : Policy) (tbl : Table) (ht : IdiomsSafe tbl) (ops : List Op) :
    ∀ i j, i < j → j ≤ ops.length → content (runHeap P tbl (ops.take j)) i = pureResult ops i := by
  intro i j hij hj
  rw [content_abs, run_refines P tbl ht, ← pureResult_take ops hij hj]
  rfl

theorem C08_stable (P : Policy) (tbl : Table) (ht : IdiomsSafe tbl) (ops : List Op) :
    ∀ i j j', i < j → j ≤ ops.length → i < j' → j' ≤ ops.length →
      content (runHeap P tbl (ops.take j)) i = content (runHeap P tbl (ops.take j')) i := by
  intro i j j' h1 h2 h3 h4
  rw [C08_refine P tbl ht ops i j h1 h2, C08_refine P tbl ht ops i j' h3 h4]

/-- the sealing invariant, literally: continuing a history never writes a cell of a backing array that exists already
    (so no cell below — or above — the end of any live slice is ever written): the heap only grows by whole arrays -/
theorem C08_sealed (P : Policy) (tbl : Table) (ht : IdiomsSafe tbl) (ops more : List Op) :
    ∃ cs, (runHeap P tbl (ops ++ more)).heap = (runHeap P tbl ops).heap ++ cs := by
  unfold runHeap
  rw [List.foldl_append]
  obtain ⟨cs, hc⟩ := (foldl_refines P tbl ht more _ (run_WF P tbl ht ops)).2.2
  exact ⟨cs, hc.symm⟩

/-- POINTER = COPY.  Where Go stores a pointer to a container `b` inside another value (`a.Add(b)`, a hash value, a key),
    the model stores a copy of what `b` holds.  `b` is itself a pool value, so under a safe table the two cannot be told
    apart: whatever a reference to pool value `n` denotes at some time `j` it denotes at every later time `j'` (its
    cells are never written, and only mutable hashes — which are never nested — are ever retired).  Hence the content
    of a value as the model has it, nested containers included, is what a walk through the real pointers yields. -/
theorem C08_pointer_stable (P : Policy) (tbl : Table) (ht : IdiomsSafe tbl) (ops : List Op) :
    ∀ n j j' v, n < j → j ≤ j' → j' ≤ ops.length →
      elemVal (runHeap P tbl (ops.take j)).look (.ref n) = some v →
      elemVal (runHeap P tbl (ops.take j')).look (.ref n) = some v := by
  intro n j j' v hn hjj hj h
  rw [← abs_look, run_refines P tbl ht] at h ⊢
  simp only [elemVal] at h ⊢
  cases hl : (runPure (ops.take j)).look n with
  | none => rw [hl] at h; cases h
  | some p =>
    obtain ⟨k, xs⟩ := p
    rw [hl] at h
    cases k
    · rw [look_stable ops n j j' hn hjj hj .arr xs (by decide) hl]; exact h
    · rw [look_stable ops n j j' hn hjj hj .hsh xs (by decide) hl]; exact h
    · cases h

/-- a policy with spare capacity everywhere (used by the non-vacuity examples) -/
def samplePolicy' : Policy := ⟨fun c _ => 2 * c + 1, fun _ _ _ => 4⟩

/-- FRESH BACKING.  Under a safe table, a step that computes a new sequence stores it in an array allocated by that step:
    the new pool entry is a slice from cell 0 of a NEW array that holds the result followed by spare cells, the arrays
    that existed are as they were, and no earlier pool value has a slice of the new array. -/
theorem C08_new_results_fresh (P : Policy) (tbl : Table) (ht : IdiomsSafe tbl) (ops : List Op) (op : Op)
    (site : NewSite) (k : Kind) (r : Nat) (res : List Val) (kill : Bool)
    (h : opSem (runHeap P tbl ops).look op = .new site k r res kill) :
    ∃ sl sp, (runHeap P tbl (ops ++ [op])).pool = (runHeap P tbl ops).pool ++ [.val k sl] ∧
      (runHeap P tbl (ops ++ [op])).heap = (runHeap P tbl ops).heap ++ [res ++ List.replicate sp .undef] ∧
      sl = ⟨(runHeap P tbl ops).heap.length, 0, res.length, res.length + sp⟩ ∧
      (runHeap P tbl (ops ++ [op])).heap.read sl = res ∧
      ∀ e ∈ (runHeap P tbl ops).pool, ∀ k' sl', e = HEntry.val k' sl' → sl'.arr ≠ sl.arr := by
  obtain ⟨sp, hs⟩ := step_new_fresh P tbl ht (runHeap P tbl ops) op h
  rw [runHeap_snoc, hs]
  refine ⟨_, sp, rfl, rfl, rfl, ?_, ?_⟩
  · exact read_mkFresh _ res sp
  · intro e he k' sl' hk
    have := run_WF P tbl ht ops e he k' sl' hk
    simp only
    omega

theorem C08_sort_fresh (P : Policy) (tbl : Table) (ht : IdiomsSafe tbl) (ops : List Op) (r : Nat) (xs : List Val)
    (h : (runHeap P tbl ops).look r = some (.arr, xs)) :
    ∃ sl sp, (runHeap P tbl (ops ++ [.sort r])).pool = (runHeap P tbl ops).pool ++ [.val .arr sl] ∧
      (runHeap P tbl (ops ++ [.sort r])).heap = (runHeap P tbl ops).heap ++ [sortVals xs ++ List.replicate sp .undef] ∧
      (runHeap P tbl (ops ++ [.sort r])).heap.read sl = sortVals xs ∧
      ∀ e ∈ (runHeap P tbl ops).pool, ∀ k' sl', e = HEntry.val k' sl' → sl'.arr ≠ sl.arr := by
  have hop : opSem (runHeap P tbl ops).look (.sort r) = .new .arrSort .arr r (sortVals xs) false := by
    simp [opSem, Op.recv?, h, arrSem]
  obtain ⟨sl, sp, h1, h2, _, h4, h5⟩ := C08_new_results_fresh P tbl ht ops (.sort r) _ _ _ _ _ hop
  exact ⟨sl, sp, h1, h2, h4, h5⟩

/-- non-vacuity: after `[2, 1]` the receiver 0 is an array, so `C08_sort_fresh` applies (and its result is `[1, 2]`) -/
example : (runHeap samplePolicy' sliceIdioms [.lit (.arr [.int 2, .int 1])]).look 0 = some (.arr, [.int 2, .int 1]) ∧
    sortVals [.int 2, .int 1] = [.int 1, .int 2] := by
  constructor <;> rfl

/-- OBSERVERS (inferring a type, printing — with any format or format map —, hashing, comparing, walking, serialising to
    a streamer: every step whose answer is not a collection) are storage no-ops: the heap afterwards is the heap before,
    cell for cell and array for array (not only the contents of the values: their capacities and sharing too); the step's
    pool entry is a marker.  Holds for EVERY table (no side condition): the model has no other semantics for them; that
    the code has none either is the obligation `C08_field_writes_safe` + the write rows of `C08_idioms_safe`. -/
theorem C08_observers_heap_unchanged (P : Policy) (tbl : Table) (s : HState) (op : Op) (m : String)
    (h : opSem s.look op = .mark m) :
    (stepHeap P tbl s op).heap = s.heap ∧ (stepHeap P tbl s op).pool = s.pool ++ [.mark m] ∧
    (stepHeap P tbl s op).dead = s.dead := by
  rw [stepHeap_mark P tbl h]
  exact ⟨rfl, rfl, rfl⟩

/-- non-vacuity: printing / hashing an array, and comparing two values, are such steps -/
example : opSem (runHeap samplePolicy' sliceIdioms [.lit (.arr [.int 2, .int 1])]).look (.obs 0 none) = .mark "-" ∧
    opSem (runHeap samplePolicy' sliceIdioms [.lit (.arr [.int 2, .int 1])]).look (.obs 0 (some 0)) = .mark "-" := by
  constructor <;> rfl

theorem C08_impl (P : Policy) (ops : List Op) :
    ∀ i j, i < j → j ≤ ops.length → content (runHeap P sliceIdioms (ops.take j)) i = pureResult ops i :=
  C08_refine P sliceIdioms C08_idioms_safe ops

def samplePolicy : Policy := ⟨fun c _ => 2 * c + 1, fun _ _ _ => 4⟩

theorem C08_caches_safe : CachesSafe cacheFacts := by decide +kernel

/-- filling a cache never changes (and never falsifies) an observation: at any time, under any schedule of fills, what
    an observation of field `fld` of a live value `i` is computed from is what the pure layer says `i` holds -/
theorem C08_cache_coherent (P : Policy) (tbl : Table) (ht : IdiomsSafe tbl) (facts : CacheFacts) (hf : CachesSafe facts)
    (sched : Nat → List (Nat × CacheField)) (ops : List Op) :
    ∀ i j fld xs, i < j → j ≤ ops.length →
      observedContent (runC P tbl facts sched (ops.take j)) i fld = some xs → pureResult ops i = some xs := by
  intro i j fld xs hij hj hobs
  rw [observed_eq_look P tbl ht facts hf] at hobs
  cases hl : (runPure (ops.take j)).look i with
  | none => rw [hl] at hobs; cases hobs
  | some p =>
    rw [hl] at hobs
    cases hobs
    rw [← pureResult_take ops hij hj, pureResult, look_pool hl]

/-- the cache facts before "fix: MutableHashValue.Put/PutAll kept the cached inferred type" (commit 01dc3ec) -/
def factsBefore : CacheFacts where
  fields := cacheFacts.fields
  writes := cacheFacts.writes.filter (fun w => !(w.1 == "MutableHashValue.PutAll" && w.2.1 == "reducedType"))
  mutators := cacheFacts.mutators
example : ¬ CachesSafe factsBefore := by decide

/-- a new mutable hash, its type asked for (fill scheduled before step 1), then a `Put` -/
def putAfterAsk : List Op := [.mnew, .mput 0 (.lit (.int 1)) (.lit (.int 1))]
def askFirst : Nat → List (Nat × CacheField) := fun n => if n = 1 then [(0, .reduced)] else []

/-- without the reset of `reducedType` the changed hash answers "what is your type" from the content it had BEFORE the
    `Put` (the empty hash), although it holds `{1 => 1}` -/
theorem C08_stale_cache_breaks :
    (observedContent (runC samplePolicy sliceIdioms factsBefore askFirst putAfterAsk) 1 .reduced).map renderH = some "" ∧
    (pureResult putAfterAsk 1).map renderH = some " ((i 1) (i 1))" ∧
    (observedContent (runC samplePolicy sliceIdioms cacheFacts askFirst putAfterAsk) 1 .reduced).map renderH
      = some " ((i 1) (i 1))" := by
  refine ⟨by decide +kernel, by decide +kernel, ?_⟩
  -- with the facts as they are the observation is an instance of coherence: what is left to evaluate is the pure run
  rw [observed_eq_look _ _ C08_idioms_safe _ C08_caches_safe]
  decide +kernel

/-- a history that re-uses results: literal with spare capacity, two adds on the same receiver, a slice of a result,
    an add on the slice (whose capacity covers live cells of value 1), a delete, a hash with merge and delete -/
def sampleOps : List Op :=
  [.coll 4 (.arr [.int 1]), .add 0 (.lit (.int 2)), .add 0 (.lit (.int 3)), .slice 1 0 1, .add 3 (.lit (.int 9)),
   .delete 1 (.lit (.int 2)), .lit (.hsh [.ent (.int 1) (.int 1), .ent (.int 2) (.int 2)]), .delete 6 (.lit (.int 1)),
   .merge 6 7, .sort 2, .flatten 1, .unique 1, .obs 1 none]

example : IdiomsSafe sliceIdioms := C08_idioms_safe
/-- the values of the sample history are real values (not markers) and differ from each other -/
example : (runPure sampleOps).pool.length = 13 ∧
    pureResult sampleOps 1 = some [.int 1, .int 2] ∧ pureResult sampleOps 2 = some [.int 1, .int 3] ∧
    pureResult sampleOps 4 = some [.int 1, .int 9] ∧ pureResult sampleOps 7 = some [.ent (.int 2) (.int 2)] := by
  refine ⟨by rfl, by rfl, by rfl, by rfl, by rfl⟩
/-- … and after the whole history value 1 still holds `[1, 2]` in the heap model, although value 3 (a slice of it with
    spare capacity over its second cell) has been appended to -/
example : content (runHeap samplePolicy sliceIdioms (sampleOps.take 13)) 1 = some [.int 1, .int 2] :=
  (C08_impl samplePolicy sampleOps 1 13 (by decide) (by decide)).trans (by rfl)

/-! ### the constructive converses: an unsafe idiom admits a history on which an earlier value changes

Each is stated for EVERY policy `P` and EVERY table with the unsafe row: the spare capacity comes from the constructor
(`coll 2 [1]`: `BasicCollector.AddArray(2)` fed one element), not from any particular growth function. -/

/-- `coll 2 [1]` — one spare cell, as the parser/collector builds it; then two adds on the same receiver -/
def addTwice : List Op := [.coll 2 (.arr [.int 1]), .add 0 (.lit (.int 2)), .add 0 (.lit (.int 3))]

/-- with `Array.Add` appending to the receiver's slice (the code before commit 2eefdf3 "fix: Array.Add and AddAll
    appended into the receiver's backing slice"), value 1 = `a.Add(2)` holds `[1, 2]` after step 1 and `[1, 3]` after
    `a.Add(3)` -/
theorem C08_appendToReceiver_breaks (P : Policy) (tbl : Table) (h1 : tbl.find "Array.Add/r0" = .appendToReceiver)
    (h2 : tbl.writesInPlace "Array.Add" = false) :
    content (runHeap P tbl (addTwice.take 2)) 1 = some [.int 1, .int 2] ∧
    content (runHeap P tbl (addTwice.take 3)) 1 = some [.int 1, .int 3] ∧
    pureResult addTwice 1 = some [.int 1, .int 2] := by
  obtain ⟨m, hm⟩ : ∃ m, max (2 - 1) (P.spare "BuildArray/r0" 2 1) = m + 1 :=
    ⟨max (2 - 1) (P.spare "BuildArray/r0" 2 1) - 1, by omega⟩
  have s1 : stepHeap P tbl {} (.coll 2 (.arr [.int 1])) =
      { heap := [[.int 1, .undef] ++ List.replicate m .undef], pool := [.val .arr ⟨0, 0, 1, m + 2⟩], dead := [] } := by
    rw [stepHeap_alloc P tbl (show opSem _ (.coll 2 (.arr [.int 1])) = .alloc .buildArray .arr 2 [.int 1] from rfl)]
    simp [CtorSite.key, mkFresh, HState.push, hm, List.replicate_succ]
    omega
  -- whatever is in the spare cell and whoever else is in the pool, `Add` on value 0 writes that cell
  have step : ∀ (x : Val) (y : Int) (rest : List HEntry), stepHeap P tbl
      { heap := [[.int 1, x] ++ List.replicate m .undef], pool := .val .arr ⟨0, 0, 1, m + 2⟩ :: rest, dead := [] }
      (.add 0 (.lit (.int y))) =
      { heap := [[.int 1, .int y] ++ List.replicate m .undef],
        pool := .val .arr ⟨0, 0, 1, m + 2⟩ :: (rest ++ [.val .arr ⟨0, 0, 2, m + 2⟩]), dead := [] } := by
    intro x y rest
    rw [stepHeap_new P tbl (show opSem _ (.add 0 (.lit (.int y))) = .new .arrAdd .arr 0 [.int 1, .int y] false from rfl)]
    simp [HState.slice?, NewSite.key, NewSite.method, h1, h2, produce, Idiom.cls, goAppend, Heap.write, modifyNth, overwrite]
  refine ⟨?_, ?_, by rfl⟩
  · simp only [addTwice, List.take, runHeap, List.foldl]
    rw [s1, step]
    simp [content, Heap.read, Heap.cells]
  · simp only [addTwice, List.take, runHeap, List.foldl]
    rw [s1, step, step]
    simp [content, Heap.read, Heap.cells]

/-- … hence the refinement statement fails for such a table: the converse of `C08_refine` at this row -/
theorem C08_appendToReceiver_refutes (P : Policy) (tbl : Table) (h1 : tbl.find "Array.Add/r0" = .appendToReceiver)
    (h2 : tbl.writesInPlace "Array.Add" = false) :
    ∃ ops i j, i < j ∧ j ≤ ops.length ∧ content (runHeap P tbl (ops.take j)) i ≠ pureResult ops i := by
  refine ⟨addTwice, 1, 3, by decide, by decide, ?_⟩
  obtain ⟨_, h, h'⟩ := C08_appendToReceiver_breaks P tbl h1 h2
  rw [h, h']
  intro hc
  cases hc

/-- the table of tag `verif-base` for `Array.Add` -/
def tblAddBefore : Table := ("Array.Add/r0", .appendToReceiver) :: sliceIdioms
example : ¬ IdiomsSafe tblAddBefore := by decide
example : tblAddBefore.find "Array.Add/r0" = .appendToReceiver ∧ tblAddBefore.writesInPlace "Array.Add" = false := by decide

def deleteFirst : List Op :=
  [.lit (.hsh [.ent (.int 1) (.int 1), .ent (.int 2) (.int 2)]), .delete 0 (.lit (.int 1))]

/-- with `Hash.Delete` shifting the receiver's entries in place (`append(hv.entries[:i], hv.entries[i+1:]...)`, the code
    before commit 42e8fdd), the RECEIVER `{1 => 1, 2 => 2}` reads `{2 => 2, 2 => 2}` after `Delete(1)` -/
theorem C08_resliceThenAppend_breaks (P : Policy) (tbl : Table) (h1 : tbl.find "Hash.Delete/r0" = .resliceThenAppend)
    (h2 : tbl.writesInPlace "Hash.Delete" = false) :
    content (runHeap P tbl (deleteFirst.take 1)) 0 = some [.ent (.int 1) (.int 1), .ent (.int 2) (.int 2)] ∧
    content (runHeap P tbl (deleteFirst.take 2)) 0 = some [.ent (.int 2) (.int 2), .ent (.int 2) (.int 2)] := by
  generalize hm : P.spare "WrapHash/r0" 2 2 = m
  have s1 : stepHeap P tbl {} (.lit (.hsh [.ent (.int 1) (.int 1), .ent (.int 2) (.int 2)])) =
      { heap := [[.ent (.int 1) (.int 1), .ent (.int 2) (.int 2)] ++ List.replicate m .undef],
        pool := [.val .hsh ⟨0, 0, 2, m + 2⟩], dead := [] } := by
    have hd : (Val.hsh [.ent (.int 1) (.int 1), .ent (.int 2) (.int 2)]).dupKeys = false := by decide
    rw [stepHeap_alloc P tbl (show opSem _ (.lit (.hsh [.ent (.int 1) (.int 1), .ent (.int 2) (.int 2)])) =
      .alloc .wrapHash .hsh 2 [.ent (.int 1) (.int 1), .ent (.int 2) (.int 2)] from by simp [opSem, ctor, hd, Val.len])]
    simp [CtorSite.key, mkFresh, HState.push, hm]
    omega
  have hi : idxOf [Val.ent (.int 1) (.int 1), .ent (.int 2) (.int 2)] (Val.int 1).key = some 0 := by decide
  have hc : commonPrefix [(Val.ent (.int 1) (.int 1)).render, (Val.ent (.int 2) (.int 2)).render]
      [(Val.ent (.int 2) (.int 2)).render] = 0 := by decide
  have s2 : stepHeap P tbl
      { heap := [[.ent (.int 1) (.int 1), .ent (.int 2) (.int 2)] ++ List.replicate m .undef],
        pool := [.val .hsh ⟨0, 0, 2, m + 2⟩], dead := [] } (.delete 0 (.lit (.int 1))) =
      { heap := [[.ent (.int 2) (.int 2), .ent (.int 2) (.int 2)] ++ List.replicate m .undef],
        pool := [.val .hsh ⟨0, 0, 2, m + 2⟩, .val .hsh ⟨0, 0, 1, m + 2⟩], dead := [] } := by
    rw [stepHeap_new P tbl (show opSem _ (.delete 0 (.lit (.int 1))) = .new .hashDelete0 .hsh 0 [.ent (.int 2) (.int 2)] false from by
      simp [opSem, Op.recv?, HState.look, HState.slice?, hashSem, elemVal, Val.dupKeys, Heap.read, Heap.cells, hi])]
    simp [HState.slice?, NewSite.key, NewSite.method, h1, h2, produce, Idiom.cls, goAppend, Heap.write, modifyNth, overwrite,
      Heap.read, Heap.cells, hc]
  constructor
  · simp only [deleteFirst, List.take, runHeap, List.foldl]
    rw [s1]
    simp [content, Heap.read, Heap.cells]
  · simp only [deleteFirst, List.take, runHeap, List.foldl]
    rw [s1, s2]
    simp [content, Heap.read, Heap.cells]

def sortOnce : List Op := [.lit (.arr [.int 2, .int 1]), .sort 0]

/-- with `Array.Sort` sorting the receiver's slice directly (mutant of DESIGN Appendix E: an `inPlace` write row for
    `Array.Sort`, the result re-using the receiver's slice), the RECEIVER `[2, 1]` reads `[1, 2]` after `Sort` -/
theorem C08_inPlace_breaks (P : Policy) (tbl : Table) (h1 : tbl.writesInPlace "Array.Sort" = true)
    (h2 : (tbl.find "Array.Sort/r0").cls = .reslice ∨ (tbl.find "Array.Sort/r0").cls = .recv) :
    content (runHeap P tbl (sortOnce.take 1)) 0 = some [.int 2, .int 1] ∧
    content (runHeap P tbl (sortOnce.take 2)) 0 = some [.int 1, .int 2] := by
  generalize hm : P.spare "WrapValues/r0" 2 2 = m
  have s1 : stepHeap P tbl {} (.lit (.arr [.int 2, .int 1])) =
      { heap := [[.int 2, .int 1] ++ List.replicate m .undef], pool := [.val .arr ⟨0, 0, 2, m + 2⟩], dead := [] } := by
    rw [stepHeap_alloc P tbl (show opSem _ (.lit (.arr [.int 2, .int 1])) = .alloc .wrapValues .arr 2 [.int 2, .int 1] from rfl)]
    simp [CtorSite.key, mkFresh, HState.push, hm]
    omega
  have s2 : ∃ sl, stepHeap P tbl
      { heap := [[.int 2, .int 1] ++ List.replicate m .undef], pool := [.val .arr ⟨0, 0, 2, m + 2⟩], dead := [] } (.sort 0) =
      { heap := [[.int 1, .int 2] ++ List.replicate m .undef],
        pool := [.val .arr ⟨0, 0, 2, m + 2⟩, .val .arr sl], dead := [] } := by
    rw [stepHeap_new P tbl (show opSem _ (.sort 0) = .new .arrSort .arr 0 [.int 1, .int 2] false from rfl)]
    rcases h2 with h2 | h2 <;> exact ⟨_, by
      simp [HState.slice?, NewSite.key, NewSite.method, h1, h2, produce, Heap.write, modifyNth, overwrite]; rfl⟩
  obtain ⟨sl, s2⟩ := s2
  constructor
  · simp only [sortOnce, List.take, runHeap, List.foldl]
    rw [s1]
    simp [content, Heap.read, Heap.cells]
  · simp only [sortOnce, List.take, runHeap, List.foldl]
    rw [s1, s2]
    simp [content, Heap.read, Heap.cells]

/-- the table the extractor produces for that mutant meets the hypotheses of `C08_inPlace_breaks` -/
def tblSortInPlace : Table := ("Array.Sort/w0", .inPlace) :: ("Array.Sort/r0", .resliceReceiver) :: sliceIdioms
example : tblSortInPlace.writesInPlace "Array.Sort" = true ∧ (tblSortInPlace.find "Array.Sort/r0").cls = .reslice := by
  decide

/-- unsafe tables are refuted by the side condition -/
example : ¬ IdiomsSafe (("Hash.Delete/r0", .resliceThenAppend) :: sliceIdioms) := by decide
example : ¬ IdiomsSafe (("Array.Sort/w0", .inPlace) :: ("Array.Sort/r0", .resliceReceiver) :: sliceIdioms) := by decide
-- this row and the last one are safe in themselves: what refuses them is the site, which computes a new sequence
example : ¬ IdiomsSafe (("Array.Map/r0", .returnsReceiver) :: sliceIdioms) := fun h =>
  absurd (safe_new_strict h .arrMap) (by rw [show NewSite.arrMap.key = "Array.Map/r0" from rfl, find_head]; decide)
example : ¬ IdiomsSafe (("Array.Add/r0", .unknown "pool.Get()") :: sliceIdioms) := by decide
example : ¬ IdiomsSafe (("Array.Reject/r0", .wrapsArgument) :: sliceIdioms) := fun h =>
  absurd (safe_new_strict h .arrReject) (by rw [show NewSite.arrReject.key = "Array.Reject/r0" from rfl, find_head]; decide)

end Pcore.Heap

namespace Pcore.Immut
open Pcore.Generated

theorem C08_field_writes_safe : FieldWritesSafe helperCalls fieldWrites := by decide +kernel

/-- ONE resolution leaves the value as it was — same observable content, hence the same walk — keeps its memos sound,
    and answers what the pure function answers -/
theorem C08_resolve_frame (calls : HelperCalls) (tbl : List FieldWrite) (ht : FieldWritesSafe calls tbl) (deep : Bool) (sc : List RV) (v : RV)
    (hm : v.memoOK = true) :
    (resolveW (Writes.ofTable tbl) deep sc v).1.erase = v.erase ∧
    (resolveW (Writes.ofTable tbl) deep sc v).1.render = v.render ∧
    (resolveW (Writes.ofTable tbl) deep sc v).1.memoOK = true ∧
    (resolveW (Writes.ofTable tbl) deep sc v).2 = resolve deep sc v := by
  obtain ⟨h1, h2, h3⟩ := resolveW_frame (Writes.ofTable tbl) (safe_dfrArgs ht) deep sc v hm
  refine ⟨h1, ?_, h2, h3⟩
  rw [← render_erase, h1, render_erase]

/-- resolutions IN SEQUENCE under arbitrary scopes: the value is observably unchanged after all of them, and the n-th
    answer is what the ORIGINAL value resolves to under the n-th scope alone (a function of (value, scope)) -/
theorem C08_resolve_history_free (calls : HelperCalls) (tbl : List FieldWrite) (ht : FieldWritesSafe calls tbl) (v : RV) (hm : v.memoOK = true)
    (scs : List (List RV)) :
    (resolveSeq (Writes.ofTable tbl) v scs).1.render = v.render ∧
    (resolveSeq (Writes.ofTable tbl) v scs).2.map answerText = scs.map (fun sc => answerText (resolve false sc v)) := by
  obtain ⟨h1, _, h3⟩ := resolveSeq_frame (Writes.ofTable tbl) (safe_dfrArgs ht) scs v hm
  constructor
  · rw [← render_erase, h1, render_erase]
  · have := congrArg (List.map answerText) h3
    simpa [List.map_map, Function.comp_def, answerText_eraseR] using this

theorem C08_resolve_impl (v : RV) (hm : v.memoOK = true) (scs : List (List RV)) :
    (resolveSeq (Writes.ofTable fieldWrites) v scs).1.render = v.render ∧
    (resolveSeq (Writes.ofTable fieldWrites) v scs).2.map answerText = scs.map (fun sc => answerText (resolve false sc v)) :=
  C08_resolve_history_free helperCalls fieldWrites C08_field_writes_safe v hm scs

/-- `['x', Deferred('$v', [Deferred('$k')])]` -/
def seedList : RV := .arr [.str "x", .dfr "$v" [.dfr "$k" []]]
/-- `{'v' => {'a' => 1, 'b' => 2}, 'k' => k}` -/
def seedScope (k : String) : List RV :=
  [.ent (.str "v") (.hsh [.ent (.str "a") (.int 1), .ent (.str "b") (.int 2)]), .ent (.str "k") (.str k)]

/-- non-vacuity: the hypotheses of the two theorems above hold of the regenerated table and of a value with a nested
    Deferred whose two scopes give different answers -/
example : FieldWritesSafe helperCalls fieldWrites ∧ seedList.memoOK = true ∧
    (resolve false (seedScope "a") seedList).toOption.map RV.render = some "(a (s x78) (i 1))" ∧
    (resolve false (seedScope "b") seedList).toOption.map RV.render = some "(a (s x78) (i 2))" := by
  refine ⟨C08_field_writes_safe, by decide, by decide +kernel, by decide +kernel⟩

/-- a DeferredType WITH parameters inside a list: `[DeferredType(Array, [verif_first(DeferredType(Tuple, [Integer, Any]))])]`
    resolves to `[Array[Tuple[Integer, Any]]]`, its memos are sound before and after, and the frame theorem applies -/
def paramList : RV :=
  .arr [.dty "Array" [.dfr "verif_first" [.dty "Tuple" [.dty "Integer" [] none, .dty "Any" [] none] none]] none]
example : paramList.memoOK = true ∧
    (resolve false [] paramList).toOption.map RV.render =
      some "(a (t x41727261795b5475706c655b496e74656765722c20416e795d5d))" ∧
    (resolveW (Writes.ofTable fieldWrites) false [] paramList).1.render = paramList.render := by
  refine ⟨by decide +kernel, by decide +kernel, ?_⟩
  exact (C08_resolve_frame helperCalls fieldWrites C08_field_writes_safe false [] paramList (by decide +kernel)).2.1

/-- the constructive converse (seeded change C08-s11): when `(*deferred).Resolve` stores the resolved arguments into the
    Deferred, (1) the first answer is still right, (2) the LIST that was resolved holds `Deferred('$v', ['a'])`
    afterwards, (3) a second resolution in a scope with `$k = 'b'` answers the first scope's `['x', 1]`, where (4) the
    value as it was answers `['x', 2]` -/
theorem C08_resolve_memo_breaks (W : Writes) (hW : W.dfrArgs = true) :
    (resolveW W false (seedScope "a") seedList).2 = .ok (.arr [.str "x", .int 1]) ∧
    (resolveW W false (seedScope "a") seedList).1 = .arr [.str "x", .dfr "$v" [.str "a"]] ∧
    (resolveSeq W seedList [seedScope "a", seedScope "b"]).2 = [.ok (.arr [.str "x", .int 1]), .ok (.arr [.str "x", .int 1])] ∧
    resolve false (seedScope "b") seedList = .ok (.arr [.str "x", .int 2]) := by
  obtain ⟨a, b⟩ := W
  simp only at hW
  subst hW
  rcases b with _ | _ | _ <;> exact ⟨rfl, rfl, rfl, rfl⟩

/-- obligation over the regenerated serializer facts: the serializer reads the value only; its memo table (keyed by
    identity) and counters are its own state -/
theorem C08_serializer_reads_only : SerFactsSafe serCalls serWrites := by decide +kernel

/-- what the side condition refuses: a mutator called on the value, a write through something that is not the
    serializer's own -/
example : ¬ SerFactsSafe ("PutAll" :: serCalls) serWrites := by decide
example : ¬ SerFactsSafe serCalls (("context.toData", "param") :: serWrites) := fun h => absurd h.write_head (by decide)
example : ¬ SerFactsSafe serCalls (("context.process", "local-through") :: serWrites) :=
  fun h => absurd h.write_head (by decide)

/-- obligation over the regenerated mutator calls: outside package types, the exported methods that assign a value's
    fields (Put / PutAll of a MutableHashValue; Resolve / InitFromHash / Initialize / Constructor … of types and objects) are
    called only at the reviewed places — none of them in the serializer, the printer, the loader's lookups -/
theorem C08_mutator_calls_safe : MutatorCallsSafe mutatorNames mutatorCalls := by decide +kernel

/-- obligation: the exported accessors that hand out internal storage of a value are the eight reviewed ones (none of a
    list, a map or a hash entry) -/
theorem C08_alias_accessors_reviewed : AliasAccessorsReviewed aliasAccessors := by decide +kernel

example : ¬ AliasAccessorsReviewed (("Array.Elements", "elements") :: aliasAccessors) := by decide
example : ¬ MutatorCallsSafe mutatorNames (("serialization/serializer.go", "Put") :: mutatorCalls) := by decide
example : ¬ MutatorCallsSafe (mutatorNames.filter (· != "PutAll")) mutatorCalls := by decide

/-- the table of seeded change C08-s11 -/
def tblMemo : List FieldWrite := ⟨"deferred", "arguments", "deferred.Resolve", .write⟩ :: fieldWrites
example : ¬ FieldWritesSafe helperCalls tblMemo := by decide +kernel
example : (Writes.ofTable tblMemo).dfrArgs = true := by decide
/-- the same write extracted into a new unexported helper that `Resolve` calls is refused as well (no caller of the helper
    has a reviewed write of `deferred.arguments`), and the model still executes it -/
example : ¬ FieldWritesSafe (("deferred.resolveArgs", "deferred.Resolve", []) :: helperCalls)
    (⟨"deferred", "arguments", "deferred.resolveArgs", .write⟩ :: fieldWrites) := by decide +kernel
example : (Writes.ofTable (⟨"deferred", "arguments", "deferred.resolveArgs", .write⟩ :: fieldWrites)).dfrArgs = true := by
  decide
/-- harmless rewrites the side condition accepts: the DeferredType memo filled in a helper that `Resolve` calls under its
    guard; the key index filled lazily from one more method; a construction write -/
example : FieldWritesSafe (("DeferredType.fill", "DeferredType.Resolve", ["resolved"]) :: helperCalls)
    (⟨"DeferredType", "resolved", "DeferredType.fill", .write⟩ :: fieldWrites) :=
  fieldWritesSafe_cons.mpr ⟨by decide +kernel, C08_field_writes_safe.cons_call (by decide +kernel)⟩
example : FieldWritesSafe helperCalls (⟨"Hash", "index", "Hash.Lookup", .lazyFill⟩ :: fieldWrites) :=
  fieldWritesSafe_cons.mpr ⟨by decide +kernel, C08_field_writes_safe⟩
example : FieldWritesSafe helperCalls (⟨"HashEntry", "value", "CopyEntry", .fresh⟩ :: fieldWrites) :=
  fieldWritesSafe_cons.mpr ⟨by decide +kernel, C08_field_writes_safe⟩
/-- other writes the white list refuses: a hash entry's value, a cache assigned outside its guard, a Sensitive's value -/
example : ¬ FieldWritesSafe helperCalls (⟨"HashEntry", "value", "HashEntry.Value", .write⟩ :: fieldWrites) := by decide +kernel
example : ¬ FieldWritesSafe helperCalls (⟨"Hash", "index", "Hash.Merge", .write⟩ :: fieldWrites) := by decide +kernel
example : ¬ FieldWritesSafe helperCalls (⟨"Sensitive", "value", "Sensitive.Unwrap", .reset⟩ :: fieldWrites) := by decide +kernel

end Pcore.Immut

namespace Pcore.Mut
open Pcore.Heap

/-- FULL statement: everything a history over builders hands out — every pool entry other than a builder itself, i.e.
    everything typed as an immutable value — reads at every later time as it read when it was obtained -/
def MutableResultsImmutable (frozen : Bool) : Prop :=
  ∀ (ops : List MOp) (i j j' : Nat), i < j → j ≤ j' → j' ≤ ops.length →
    (mrun frozen (ops.take j)).isResult i = true →
    (mrun frozen (ops.take j')).read i = (mrun frozen (ops.take j)).read i

/-- for either behaviour: an answer with storage of its own is never affected by what happens later — in particular not
    by `Put`/`PutAll` on the builder it was derived from -/
theorem C08_mutable_results_partial (frozen : Bool) (ops : List MOp) (i j j' : Nat) (hij : i < j) (hjj : j ≤ j')
    (hj : j' ≤ ops.length) (k : Kind) (xs : List Val)
    (hv : (mrun frozen (ops.take j)).pool[i]? = some (.val k xs)) :
    (mrun frozen (ops.take j')).read i = some xs ∧ (mrun frozen (ops.take j)).read i = some xs := by
  have hp := mrun_prefix frozen ops i j j' hij hjj hj
  unfold MState.read
  rw [← hp, hv]
  exact ⟨rfl, rfl⟩

/-- the only answers that are NOT values of their own are those of `Delete` / `DeleteAll` / `Unique` / `Entries` -/
theorem C08_mutable_alias_sites (s : MState) (op : MOp) (o : Nat)
    (h : (mstep false s op).pool = s.pool ++ [.alias o]) : op.sameSite = true := by
  obtain ⟨e, he, ha⟩ := mstep_push false s op
  rw [he] at h
  cases List.singleton_inj.mp (List.append_cancel_left h)
  exact (ha rfl).1

/-- `m := NewMutableHash(); m.Put('a', 1); u := m.Unique(); m.Put('b', 2)` -/
def aliasHistory : List MOp := [.mnew, .put 0 (.str "a") (.int 1), .unique 0, .put 0 (.str "b") (.int 2)]

/-- non-vacuity of `C08_mutable_results_partial` and of `C08_mutable_alias_sites`: in the history above with `Keys`
    instead of `Unique` entry 2 is a value; with `Unique` it is an alias -/
example : (mrun false ([.mnew, .put 0 (.str "a") (.int 1), .keys 0, .put 0 (.str "b") (.int 2)].take 3)).pool[2]? =
    some (.val .arr [.str "a"]) := by rfl
example : (mstep false (mrun false (aliasHistory.take 2)) (.unique 0)).pool =
    (mrun false (aliasHistory.take 2)).pool ++ [.alias 0] := by rfl

/-- BEFORE the fix 1d333d3 (`frozen := false`): `u` is a result (typed `*Hash`), holds one entry after step 2 and two
    after the second `Put` -/
theorem C08_mutable_alias_changes_before_fix :
    (mrun false (aliasHistory.take 3)).isResult 2 = true ∧
    (mrun false (aliasHistory.take 3)).read 2 = some [.ent (.str "a") (.int 1)] ∧
    (mrun false (aliasHistory.take 4)).read 2 = some [.ent (.str "a") (.int 1), .ent (.str "b") (.int 2)] := by
  refine ⟨by rfl, by rfl, by rfl⟩

/-- … hence the full statement FAILED before the fix (finding C08-mutable-hash-answers-itself, fixed) -/
theorem C08_mutable_alias_refutes_before_fix : ¬ MutableResultsImmutable false := by
  intro h
  have h1 := h aliasHistory 2 3 4 (by decide) (by decide) (by decide) C08_mutable_alias_changes_before_fix.1
  rw [C08_mutable_alias_changes_before_fix.2.1, C08_mutable_alias_changes_before_fix.2.2] at h1
  cases h1

/-- MAIN STATEMENT, for the code as it is now (the four sites answer `hv.freeze()`): the full statement holds -/
theorem C08_mutable_frozen_immutable : MutableResultsImmutable true := by
  intro ops i j j' hij hjj hj hres
  unfold MState.isResult at hres
  cases he : (mrun true (ops.take j)).pool[i]? with
  | none => rw [he] at hres; cases hres
  | some e =>
    cases e with
    | val k xs =>
      obtain ⟨h1, h2⟩ := C08_mutable_results_partial true ops i j j' hij hjj hj k xs he
      rw [h1, h2]
    | alias o =>
      have := frozen_no_alias (ops.take j) (.alias o) (List.mem_of_getElem? he)
      cases this
    | obj o => rw [he] at hres; cases hres
    | mark m => rw [he] at hres; cases hres

/-- obligation over the regenerated idiom table: `MutableHashValue` has its own `Delete`, `DeleteAll`, `Entries`, `Unique`,
    each answering fresh storage -/
theorem C08_mutable_sites_frozen : mutFrozen Pcore.Generated.sliceIdioms = true := by decide +kernel

/-- the full statement for the behaviour the regenerated table selects (what the driver runs) -/
theorem C08_mutable_impl : MutableResultsImmutable (mutFrozen Pcore.Generated.sliceIdioms) := by
  rw [C08_mutable_sites_frozen]
  exact C08_mutable_frozen_immutable

/-- a table without one of the overrides selects the old behaviour -/
example : mutFrozen (Pcore.Generated.sliceIdioms.filter (fun r => r.1 != "MutableHashValue.Unique/r0")) = false :=
  mutFrozen_filter _ (by simp)

/-- after the fix the history of the finding leaves `u` alone -/
example : (mrun true (aliasHistory.take 4)).read 2 = some [.ent (.str "a") (.int 1)] ∧
    (mrun true (aliasHistory.take 3)).isResult 2 = true := by
  constructor <;> rfl

end Pcore.Mut

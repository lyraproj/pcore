import Pcore.Proofs.ReflectStruct
/-!
# C18 — The Go reflection bridge round-trips values and agrees with inferred types

Property (properties.jsonl): for every Go value of a reflectable shape (integers of all widths, floats, strings,
booleans, slices, maps, pointers used as optionals, nested and tagged structs), wrapping it and reflecting it back into
the same Go type reproduces a deeply equal Go value.  The pcore type derived from the Go type accepts the wrapped value,
and an object type derived from a struct constructs instances that convert back to equal structs.  Quantifier: all Go
types assembled with reflect and all values incl. zero values, nil pointers, empty and nil slices and maps, boundary
integers.

Full statement / proved / missing
* `C18_roundtrip_full`, `C18_type_accepts_full` — the property as stated, for every modelled type and every value.
  Both are FALSE of the code (and of the model, which mirrors it): `C18_roundtrip_full_fails`,
  `C18_type_accepts_full_fails`.
* `C18_roundtrip`      — PROVED for all types and values (induction over the well-typed pairs by shape; any nesting, any sizes) under
                         `RtOK`, which excludes exactly the shapes of the known findings
                         nil-slice-becomes-empty, nil-map-becomes-empty, ptr-to-nil-collapses, iface-int-width,
                         iface-float-width; each exclusion has a negation witness below.
* `C18_type_accepts`   — PROVED likewise under `TaOK`, which excludes exactly uint64-overflow, float-inf-rejected,
                         bytes-become-binary, nil-slice-undef-rejected, nil-map-undef-rejected; witnesses below.
* `C18_roundtrip_iff`, `C18_type_accepts_iff` — the exclusions are exact: on modelled types and well-typed values the
                         round trip succeeds IFF `RtOK`, the derived type accepts IFF `TaOK`.
* `C18_bridge`         — both halves at once under `Supported` (= `RtOK` and `TaOK`).
* `C18_scalar_roundtrip`, `C18_nil_pointer` — two readings of the property text that need NO exclusion: a scalar of any width always
                         round-trips; the nil pointer of any pointer type is undef, comes back nil, and the derived Optional accepts it.
* `C18_roundtrip_unsigned_wraps` — values ≥ 2^63 DO round-trip although their wrapped form is negative.
* `C18_int_width`, `C18_uint_width` — the arithmetic core: `SetInt`/`SetUint` truncation is the identity on the
  width's range, also after the `int64(uint64)` wrap-around.
* `C18_map_any_order`  — a Go map rebuilt from the entries of the sorted Hash, in whatever order `sortedMap` left
                         them, is the original map.
* `C18_struct`         — the attribute-list form (tags `name=>`, `value=>` = declared default): `px.New(T, InitHash(wrap s))`, `px.New(T,
                         full hash)` (named dispatch → PositionalFromHash cuts trailing defaults → setValues puts them
                         back), `px.New(T, attribute values…)` and the same without the trailing defaults (positional
                         dispatch) all reflect back to the field values of `s`, for every field list with distinct
                         attribute names whose fields are in both halves above.  `C18_defaults_restored`: cut + put back
                         is the identity for any attribute list whose declared defaults are exact (`exactDflt`).
* `C18_struct_value`, `C18_struct_ptr_value` — a value of a registered struct type (or a pointer to one) round-trips and
                         is accepted whatever it contains: the object holds the Go value; so the theorems above cover
                         nested structs, pointers to structs, slices / arrays / maps of structs with NO new exclusion
                         (`RtOK` / `TaOK` are `true` on struct types; `C18_roundtrip_iff` / `C18_type_accepts_iff` stay exact).
* `C18_parent_accepts`  — embedding: an instance of the child's type is an instance of every ancestor's type.
* `C18_promotion`       — embedding: the attribute view of a struct (the embedded parent's fields promoted, recursively)
                         and its inverse.
* `C18_struct_nested`   — `C18_struct` for struct TERMS: nested structs, pointers to structs, containers of structs,
                         embedded parents at any depth, embedded fields that are not the parent: all four construction
                         forms give back the same struct value.
* declared defaults of every value shape (`value=>` integers, floats, strings, booleans, undef, arrays, string-keyed
                         hashes, on fields of the matching Go type or pointers to it): `Equals` of the default is
                         modelled (`litEq`: floats by `==`, hashes regardless of order); the struct theorems hold under
                         `DefaultExact` (a value that counts as the default IS the default), automatic for exact
                         literals (`C18_default_exact`); without it the syntactic statement is false
                         (`C18_default_zero_sign`, `C18_defaults_restored_full_fails`) although the struct that comes back
                         is deeply equal — full statement kept as `C18_struct_nested_full` (not proved).
* tags `type=>T` (the attribute's type is the declared one: `Field.aty`; `C18_attr_type_derived` when there is none) and
                         `kind=>constant | derived | given_or_derived | reference`: constants and derived attributes
                         are not part of an instance (`Field.stored`): `C18_struct_stored` — the struct that comes back
                         has the Go zero value in those fields (`C18_constant_field_zeroed`), so `C18_struct_nested`
                         demands `UnstoredZero`; given_or_derived is optional (after the required ones, omitted when
                         undef).  Inconsistent tags are derivation errors the model reports by issue code (`deriveErr`,
                         regression anchors below); known finding `C18_given_or_derived_pointer`.
* `C18_iface_field`     — a struct field that is itself an interface{}: nil is undef, anything else is kept verbatim in a
                         Runtime value and comes back with its dynamic type (all widths, containers, nested
                         []interface{} / map[string]interface{} data, typed nils); attribute type Any.
* missing (partial): `reflect` itself is the model's parameter (trusted base) — MakeSlice, MakeMap, SetMapIndex, Set,
  truncating SetInt/SetUint, float32 conversion `r32` (assumed exact on float32 values: hypothesis `hr`); struct types
  that are not registered or derived anonymously, the registry-mapped path, an embedded POINTER to a struct and fields
  that shadow a field of an embedded struct (two known findings, implementation only), tag forms outside the
  grammar the driver reads (e.g. `type=>` with a type alias, Enum, Pattern …), non-puppet tags (annotations only),
  an interface{} field holding a struct, an interface{} holding containers that reaches `wrap`'s type switch (top level,
  element of []interface{}, value of map[string]interface{}: what comes back has an INFERRED Go type — known findings
  C18-iface-container-type, C18-iface-numeric-mix, ops `@refl` over JSON-like data), map keys other
  than integers / strings / booleans — all of these are only tested on the implementation (ops `@refl`/`@reflraw`/
  `@reflanon`/`@obj`/`@objreg`).
-/
namespace Pcore.Reflect

def C18_roundtrip_full : Prop :=
  ∀ (r32 : Nat → Nat), R32Exact r32 → ∀ (ty : GoTy) (v : GoVal), Modelled ty = true → hasType ty v = true →
    reflectTo r32 ty (wrap true ty v) = some v

def C18_type_accepts_full : Prop :=
  ∀ (ty : GoTy) (v : GoVal), Modelled ty = true → hasType ty v = true → inst (typeOf ty) (wrap true ty v) = true

/-- wrapping a Go value and reflecting it back into the same Go type reproduces the value -/
theorem C18_roundtrip (r32 : Nat → Nat) (hr : R32Exact r32) (ty : GoTy) (v : GoVal)
    (hm : Modelled ty = true) (h : hasType ty v = true) (hs : RtOK true ty v = true) :
    reflectTo r32 ty (wrap true ty v) = some v :=
  (rt_iff r32 hr (typed_of_hasType hm h) true).mpr hs

/-- the pcore type derived from the Go type accepts the wrapped value -/
theorem C18_type_accepts (ty : GoTy) (v : GoVal)
    (hm : Modelled ty = true) (h : hasType ty v = true) (hs : TaOK true ty v = true) :
    inst (typeOf ty) (wrap true ty v) = true :=
  (ta_eq (typed_of_hasType hm h) true).trans hs

/-- `RtOK` excludes EXACTLY the failing shapes: for a modelled type and a well-typed value the round trip reproduces the
    value if and only if `RtOK` holds (at every nesting depth, not only for the listed witnesses) -/
theorem C18_roundtrip_iff (r32 : Nat → Nat) (hr : R32Exact r32) (ty : GoTy) (v : GoVal)
    (hm : Modelled ty = true) (h : hasType ty v = true) :
    reflectTo r32 ty (wrap true ty v) = some v ↔ RtOK true ty v = true :=
  rt_iff r32 hr (typed_of_hasType hm h) true

/-- `TaOK` excludes EXACTLY the rejected shapes -/
theorem C18_type_accepts_iff (ty : GoTy) (v : GoVal) (hm : Modelled ty = true) (h : hasType ty v = true) :
    inst (typeOf ty) (wrap true ty v) = true ↔ TaOK true ty v = true :=
  ta_eq (typed_of_hasType hm h) true ▸ Iff.rfl

/-- `Supported` of DESIGN.md §4 (here of the type and the value): both halves at once -/
def Supported (ty : GoTy) (v : GoVal) : Bool := RtOK true ty v && TaOK true ty v

theorem C18_bridge (r32 : Nat → Nat) (hr : R32Exact r32) (ty : GoTy) (v : GoVal)
    (hm : Modelled ty = true) (h : hasType ty v = true) (hs : Supported ty v = true) :
    reflectTo r32 ty (wrap true ty v) = some v ∧ inst (typeOf ty) (wrap true ty v) = true := by
  simp only [Supported, Bool.and_eq_true] at hs
  exact ⟨C18_roundtrip r32 hr ty v hm h hs.1, C18_type_accepts ty v hm h hs.2⟩

/-- "integers of all widths, floats, strings, booleans": a scalar ALWAYS round-trips — no exclusion (`RtOK` is `true` on scalars) -/
theorem C18_scalar_roundtrip (r32 : Nat → Nat) (hr : R32Exact r32) (ty : GoTy) (v : GoVal)
    (hs : scalarTy ty = true) (h : hasType ty v = true) : reflectTo r32 ty (wrap true ty v) = some v := by
  exact scalar_rt r32 hr (scalarTyped_of hs (hasType_scalar hs v ▸ h)) true
example : scalarTy (.uint 64) = true ∧ hasType (.uint 64) (.int (2 ^ 64 - 1)) = true ∧
    scalarTy (.float 32) = true ∧ hasType (.float 32) (.flt 0x7FF0000000000000) = true := ⟨rfl, rfl, rfl, rfl⟩

/-- "pointers used as optionals": the nil pointer of ANY pointer type is undef, comes back as the nil pointer, and the derived
    Optional type accepts it -/
theorem C18_nil_pointer (r32 : Nat → Nat) (e : GoTy) :
    wrap true (.ptr e) .nil = .undef ∧ reflectTo r32 (.ptr e) (wrap true (.ptr e) .nil) = some .nil ∧
    inst (typeOf (.ptr e)) (wrap true (.ptr e) .nil) = true :=
  ⟨rfl, rfl, rfl⟩

/-- integer width lemma, signed: `intN(int64(x)) = x` for every x of the width -/
theorem C18_int_width (w : Nat) (hw : okWidth w = true) (i : Int) (h : hasType (.int w) (.int i) = true) :
    truncS (bitsOf w) i = i := by
  have h := Bool.and_eq_true_iff.mp h
  exact truncS_of_range (bitsOf_bounds hw).1 (of_decide_eq_true h.1) (of_decide_eq_true h.2)

/-- integer width lemma, unsigned: `uintN(int64(uint64(x))) = x` for every x of the width — including x ≥ 2^63, whose
    wrapped form `u2i x` is negative -/
theorem C18_uint_width (w : Nat) (hw : okWidth w = true) (i : Int) (h : hasType (.uint w) (.int i) = true) :
    truncU (bitsOf w) (u2i i) = i := by
  have h := Bool.and_eq_true_iff.mp h
  exact truncU_u2i (bitsOf_bounds hw).2 (of_decide_eq_true h.1) (of_decide_eq_true h.2)

/-- the Go value of an unsigned integer ≥ 2^63 round-trips (only its type acceptance fails) -/
theorem C18_roundtrip_unsigned_wraps (r32 : Nat → Nat) (i : Int) (h : hasType (.uint 64) (.int i) = true) :
    reflectTo r32 (.uint 64) (wrap true (.uint 64) (.int i)) = some (.int i) :=
  congrArg (fun i => some (GoVal.int i)) (C18_uint_width 64 rfl i h)

/-- a map rebuilt by `SetMapIndex` from any permutation of its (canonical) entries is the map -/
theorem C18_map_any_order (l₁ l : List (GoVal × GoVal)) (hp : l₁.Perm l) (hs : sortedKeys l = true) : mapOf l₁ = l :=
  mapOf_perm hp (sortedKeys_pairwise l hs)

/-- **structs** (attribute-list form; tags `name=>`, `value=>`):
    the object type derived from the struct constructs an instance that converts back to the same field values —
    from the init hash of the wrapped struct (attributes at their default omitted) and from the hash with every attribute,
    both through the named-argument dispatch, `PositionalFromHash` (trailing defaults cut) and `setValues` (declared
    defaults put back); and positionally from all attribute values and from the values without the trailing defaults.
    `FieldOK` = flat ∧ well typed ∧ `RtOK false` (a field goes through `wrapReflected`) ∧ accepted by the attribute's type
    (`TaOK false` suffices when the tag declares none: `C18_attr_type_derived`) ∧ `DefaultExact`. -/
theorem C18_struct (r32 : Nat → Nat) (hr : R32Exact r32) (fvs : List (Field × GoVal))
    (hn : (fvs.map (·.1.name)).Nodup) (hf : ∀ fv ∈ fvs, FieldOK fv) :
    newNamed r32 (fvs.map (·.1)) (initHash fvs) = some (fvs.map (·.2)) ∧
    newNamed r32 (fvs.map (·.1)) (fullHash fvs) = some (fvs.map (·.2)) ∧
    newPos r32 (fvs.map (·.1)) ((attrOrder (·.1) fvs).map fieldVal) = some (fvs.map (·.2)) ∧
    newPos r32 (fvs.map (·.1)) (trimDefaults (attrOrder id (fvs.map (·.1))) ((attrOrder (·.1) fvs).map fieldVal)) =
      some (fvs.map (·.2)) :=
  ⟨newNamed_ok r32 hr fvs hn hf _ (hashOf_init fvs hn), newNamed_ok r32 hr fvs hn hf _ (hashOf_full fvs hn),
   (newPos_ok r32 hr fvs hn hf).1, (newPos_ok r32 hr fvs hn hf).2⟩

/-- the trailing values that `PositionalFromHash` cuts off because they equal the attribute's default are exactly the
    ones `setValues` puts back (for any attribute list whose declared defaults are exact, `exactDflt`, and any value list of
    the same length) -/
theorem C18_defaults_restored (attrs : List Field) (vals : List Val) (h : vals.length = attrs.length)
    (hx : ∀ a ∈ attrs, a.exactDflt = true) :
    restore attrs (trimDefaults attrs vals) = vals :=
  restore_trim (List.forall₂_iff_zip.mpr ⟨h.symm, fun hab => defaultExact_of_exact (hx _ (List.of_mem_zip hab).1) _⟩)

/-- the statement without the exactness of the declared defaults: FALSE since declared defaults may be floats and
    hashes (for integer / string / boolean defaults `exactDflt` holds unless the attribute is given_or_derived) -/
def C18_defaults_restored_full : Prop :=
  ∀ (attrs : List Field) (vals : List Val), vals.length = attrs.length → restore attrs (trimDefaults attrs vals) = vals

/-- `value=>0.0` on a float field that holds -0.0: `Equals` is `==`, the value is cut as "the default" and +0.0 is put
    back.  reflect.DeepEqual compares floats with `==` too, so the struct that comes back IS deeply equal (`goEq`) — the
    property holds, the syntactic statement does not -/
theorem C18_default_zero_sign :
    restore [{ name := "a", ty := .float 64, dflt := some (.flt 0) }]
      (trimDefaults [{ name := "a", ty := .float 64, dflt := some (.flt 0) }] [.flt (2 ^ 63)]) = [.flt 0] ∧
    goEq (.st [.flt 0]) (.st [.flt (2 ^ 63)]) = true := ⟨by rfl, by rfl⟩

theorem C18_defaults_restored_full_fails : ¬ C18_defaults_restored_full := by
  intro h
  have := h [{ name := "a", ty := .float 64, dflt := some (.flt 0) }] [.flt (2 ^ 63)] rfl
  rw [C18_default_zero_sign.1] at this
  simp at this

/-- non-vacuity: `struct{A []uint8; B *int8 "name=>'f_b'"; C map[string]int; P uint16 "value=>8080"; D *string}` with
    P at its declared default and D nil: both are omitted from the init hash and cut from the value slice, and come back;
    a `[]byte` FIELD is an Array here (it does not pass through `wrap`'s arm) -/
def sampleStruct : List (Field × GoVal) :=
  [({ name := "a", ty := .slice (.uint 8) }, .slice [.int 255]), ({ name := "f_b", ty := .ptr (.int 8) }, .ptr (.int (-1))),
   ({ name := "c", ty := .map .string (.int 0) }, .map [(.str "k", .int 7)]),
   ({ name := "p", ty := .uint 16, dflt := some (.int 8080) }, .int 8080), ({ name := "d", ty := .ptr .string }, .nil)]
example : (sampleStruct.map (·.1.name)).Nodup := by decide
example : ∀ fv ∈ sampleStruct, FieldOK fv := by
  intro fv h
  simp only [sampleStruct, List.mem_cons, List.not_mem_nil, or_false] at h
  rcases h with rfl | rfl | rfl | rfl | rfl <;>
    exact ⟨by rfl, by rfl, by rfl, by rfl, defaultExact_of_exact (by rfl) _⟩
example : initHash sampleStruct =
    [(.str "a", .arr [.int 255]), (.str "c", .hsh [(.str "k", .int 7)]), (.str "f_b", .int (-1))] := by rfl
example : trimDefaults (attrOrder id (sampleStruct.map (·.1))) ((attrOrder (·.1) sampleStruct).map fieldVal) =
    [.arr [.int 255], .hsh [(.str "k", .int 7)], .int (-1)] := by rfl
/-- what goes wrong when `setValues` does not put the declared default back (the seeded change C18-s2): the field
    keeps the Go zero value -/
example : restore [{ name := "p", ty := .uint 16, dflt := some (.int 8080) }] [] = [.int 8080] ∧
    zeroOf (.uint 16) = .int 0 := ⟨rfl, rfl⟩

/-- a value of a registered struct type round-trips and is accepted by the derived object type WHATEVER it contains
    (also the shapes `RtOK` / `TaOK` exclude elsewhere): `FromReflectedValue` makes the object hold the Go value and
    `reflectedObject.ReflectTo` hands it back; `IsInstance` compares the types -/
theorem C18_struct_value (r32 : Nat → Nat) (S : GoTy) (via : Bool) (v : GoVal) (hs : isStruct S = true) :
    reflectTo r32 S (wrap via S v) = some v ∧ inst (typeOf S) (wrap via S v) = true :=
  ⟨struct_rt r32 hs via v, struct_ta hs via v⟩

/-- the same through a pointer: the registry is consulted before the pointer is dereferenced, the object holds the pointer;
    the nil pointer is undef, which the derived Optional[Object] accepts and which comes back as the nil pointer -/
theorem C18_struct_ptr_value (r32 : Nat → Nat) (S : GoTy) (via : Bool) (v : GoVal) (hs : isStruct S = true) :
    reflectTo r32 (.ptr S) (wrap via (.ptr S) (.ptr v)) = some (.ptr v) ∧
    inst (typeOf (.ptr S)) (wrap via (.ptr S) (.ptr v)) = true ∧
    reflectTo r32 (.ptr S) (wrap via (.ptr S) .nil) = some .nil ∧ inst (typeOf (.ptr S)) (wrap via (.ptr S) .nil) = true :=
  ⟨ptr_struct_rt r32 hs via v, ptr_struct_ta hs via v, rfl, rfl⟩

/-- what the opacity means: a nil `[]int` FIELD comes back nil (the same nil slice on its own comes back empty:
    `C18_nil_slice_becomes_empty`) and a `uint64` field ≥ 2^63 does not disturb the type's acceptance -/
example (r32 : Nat → Nat) :
    reflectTo r32 (.scons "A" {} (.slice (.int 0)) (.scons "B" {} (.uint 64) .snil))
      (wrap true (.scons "A" {} (.slice (.int 0)) (.scons "B" {} (.uint 64) .snil)) (.st [.nil, .int (2 ^ 63)])) =
      some (.st [.nil, .int (2 ^ 63)]) := (C18_struct_value r32 _ true _ rfl).1

/-- embedding: the object type of a struct whose first field is an embedded struct has that struct's type as its parent,
    so an instance of the child is an instance of every ancestor's type -/
theorem C18_parent_accepts (S P : GoTy) (v : GoVal) (hs : isStruct S = true) (hp : P ∈ ancestors S) :
    inst (typeOf P) (wrap true S v) = true := by
  rw [wrap_struct hs, typeOf_struct (ancestors_struct S P hp), inst_obj]
  exact Bool.or_eq_true_iff.mpr (.inr (List.contains_iff_mem.mpr hp))

/-- embedding: the attributes of the child are the parent's (recursively) and its own; reading them through Go's field
    promotion and writing them back — the parent's into the embedded struct — is the identity on well-typed structs -/
theorem C18_promotion (S : GoTy) (v : GoVal) (hs : isStruct S = true) (hv : hasType S v = true) :
    (flatVals S v).length = (attrsOf S).length ∧ (UnstoredZero S v → rebuild S (flatVals S v) = v) ∧
    ∀ fv ∈ objFVs S v, fieldHasType fv.1.ty fv.2 = true :=
  ⟨(promotion S v hv).1.symm, (promotion S v hv).2.2 hs, (promotion S v hv).2.1⟩

/-- what a struct (type term and value) must satisfy for the object-type round trip: derivable (`structWF`: distinct
    attribute and Go names along the chain of embedded parents, every attribute a modelled field), well typed, and every
    attribute value inside both halves of the bridge property as a FIELD (`via = false`); attributes whose type is a struct,
    a pointer to one, a slice / map of them … are inside by `C18_struct_value` -/
def StructOK0 (S : GoTy) (v : GoVal) : Prop :=
  isStruct S = true ∧ structWF S = true ∧ hasType S v = true ∧
  ∀ fv ∈ objFVs S v, RtOK false fv.1.ty fv.2 = true ∧ inst fv.1.aty (fieldVal fv) = true ∧ DefaultExact fv.1 (fieldVal fv)

/-- … and every field tagged `kind=>constant` / `kind=>derived` (such attributes are not part of an instance's state:
    `setValues` never touches the field) holds the Go zero value -/
def StructOK (S : GoTy) (v : GoVal) : Prop := StructOK0 S v ∧ UnstoredZero S v

/-- `StructOK` of a closed struct, by evaluation (`fieldChk` for the value-dependent part) -/
theorem structOK_of_chk {S : GoTy} {v : GoVal} (hs : isStruct S = true) (hw : structWF S = true) (hv : hasType S v = true)
    (hc : (objFVs S v).all fieldChk = true) (hz : UnstoredZero S v) : StructOK S v :=
  ⟨⟨hs, hw, hv, fun fv h => fieldChk_ok (List.all_eq_true.mp hc fv h)⟩, hz⟩

/-- all four constructions give `rebuild S (flatVals S v)`: the struct with its constant / derived fields zeroed -/
theorem C18_struct_stored (r32 : Nat → Nat) (hr : R32Exact r32) (S : GoTy) (v : GoVal) (h : StructOK0 S v) :
    newNamedS r32 S (initHash (objFVs S v)) = some (rebuild S (flatVals S v)) ∧
    newNamedS r32 S (fullHash (objFVs S v)) = some (rebuild S (flatVals S v)) ∧
    newPosS r32 S ((attrOrder (·.1) (objFVs S v)).map fieldVal) = some (rebuild S (flatVals S v)) ∧
    newPosS r32 S (trimDefaults (attrOrder id (attrsOf S)) ((attrOrder (·.1) (objFVs S v)).map fieldVal)) =
      some (rebuild S (flatVals S v)) := by
  obtain ⟨hs, hw, hv, hok⟩ := h
  obtain ⟨hl, ht, -⟩ := promotion S v hv
  have e1 : (objFVs S v).map (·.1) = attrsOf S := zipFG_fst _ _ hl
  have e2 : (objFVs S v).map (·.2) = flatVals S v := zipFG_snd _ _ hl
  simp only [structWF, Bool.and_eq_true, List.all_eq_true] at hw
  have hn : ((objFVs S v).map (·.1.name)).Nodup := by
    have : (objFVs S v).map (·.1.name) = (attrsOf S).map (·.name) := by rw [← e1, List.map_map]; rfl
    rw [this]; exact nodupS_nodup _ hw.1.2
  have hf : ∀ fv ∈ objFVs S v, FieldOK fv := by
    intro fv hfv
    have hm : fv.1 ∈ attrsOf S := by rw [← e1]; exact List.mem_map.mpr ⟨fv, hfv, rfl⟩
    exact ⟨hw.2 fv.1 hm, ht fv hfv, (hok fv hfv).1, (hok fv hfv).2.1, (hok fv hfv).2.2⟩
  obtain ⟨c1, c2, c3, c4⟩ := C18_struct r32 hr (objFVs S v) hn hf
  rw [e1, e2] at c1 c2 c3 c4
  simp only [newNamedS, newPosS, c1, c2, c3, c4, Option.map_some, and_self]

/-- **structs as terms** (nested structs, pointers to structs, slices and maps of structs, embedded parents at any depth,
    embedded fields that are not the parent, tags `name=>` / `value=>`): the object type derived from the struct type
    constructs — from the init hash, from the hash with every attribute, positionally with and without the trailing
    defaults — an instance that converts back to the SAME struct value, the parent's attributes landing in the embedded
    parent. -/
theorem C18_struct_nested (r32 : Nat → Nat) (hr : R32Exact r32) (S : GoTy) (v : GoVal) (h : StructOK S v) :
    newNamedS r32 S (initHash (objFVs S v)) = some v ∧
    newNamedS r32 S (fullHash (objFVs S v)) = some v ∧
    newPosS r32 S ((attrOrder (·.1) (objFVs S v)).map fieldVal) = some v ∧
    newPosS r32 S (trimDefaults (attrOrder id (attrsOf S)) ((attrOrder (·.1) (objFVs S v)).map fieldVal)) = some v := by
  obtain ⟨h0, hz⟩ := h
  have := C18_struct_stored r32 hr S v h0
  obtain ⟨hs, -, hv, -⟩ := h0
  rwa [(promotion S v hv).2.2 hs hz] at this

/-- tags `type=>` / `kind=>`: when the tag declares neither a type nor the kind given_or_derived nor `value=>undef`, the
    attribute's type is the one derived from the Go type, so the type-acceptance half of the bridge (`TaOK`, for a field:
    `via = false`) gives the `inst` hypothesis of `StructOK0` -/
theorem C18_attr_type_derived (n : String) (tg : FTag) (ft : GoTy) (v : GoVal)
    (h1 : tg.typ = none) (h2 : tg.kind ≠ .givenOrDerived) (h3 : tg.dflt ≠ some .undef)
    (hm : Modelled ft = true) (hv : fieldHasType ft v = true) (ht : TaOK false ft v = true) :
    (fieldOfDecl n tg ft).aty = typeOf ft ∧ inst (fieldOfDecl n tg ft).aty (fieldVal (fieldOfDecl n tg ft, v)) = true := by
  have ha : (fieldOfDecl n tg ft).aty = typeOf ft := by
    have hk : (tg.kind == Kind.givenOrDerived) = false := by simpa using h2
    have hd : (tg.dflt == some Lit.undef) = false := by simpa using h3
    simp [fieldOfDecl, tagType, h1, hk, hd]
  exact ⟨ha, ha ▸ (field_ta_eq hm hv).trans ht⟩

/-- a struct field that is itself an `interface{}`: whatever it holds — a scalar of ANY width, a slice, a map, nested
    `[]interface{}` / `map[string]interface{}` data, a typed nil — is kept verbatim in a Runtime value and comes back with
    its dynamic type (unlike an interface{} that reaches `wrap`'s type switch: `C18_iface_int_width`); nil is undef.
    The attribute type is Any. -/
theorem C18_iface_field (r32 : Nat → Nat) (v : GoVal) (h : ifaceField v = true) :
    reflectTo r32 .iface (wrap false .iface v) = some v ∧ inst (typeOf .iface) (wrap false .iface v) = true :=
  ⟨iface_field_rt r32 h, rfl⟩

/-- non-vacuity: `struct{ A interface{}; B interface{}; C interface{} }` holding `int8(5)`,
    `[]interface{}{int64(1), map[string]interface{}{"k": nil}}` and nil -/
def sampleIface : GoTy := .scons "A" {} .iface (.scons "B" {} .iface (.scons "C" {} .iface .snil))
def sampleIfaceVal : GoVal :=
  .st [.iface (.int 8) (.int 5),
       .iface (.slice .iface) (.slice [.iface (.int 64) (.int 1), .iface (.map .string .iface) (.map [(.str "k", .nil)])]),
       .nil]
example : StructOK sampleIface sampleIfaceVal :=
  structOK_of_chk rfl rfl rfl rfl (unstoredZero_of_allStored _ _ rfl)
example : initHash (objFVs sampleIface sampleIfaceVal) =
    [(.str "a", .rt (.int 8) (.int 5)),
     (.str "b", .rt (.slice .iface) (.slice [.iface (.int 64) (.int 1), .iface (.map .string .iface) (.map [(.str "k", .nil)])])),
     (.str "c", .undef)] := by rfl

/-- `kind=>constant`: the field is not part of an instance's state — `struct{A int8 "kind=>constant, value=>5"; B string}`
    holding A = 5 comes back with A = 0 (the Go zero value; the harness marks such inputs n/a) -/
theorem C18_constant_field_zeroed (r32 : Nat → Nat) :
    let S : GoTy := .scons "A" { kind := .constant, dflt := some (.int 5) } (.int 8) (.scons "B" {} .string .snil)
    structWF S = true ∧ hasType S (.st [.int 5, .str "a"]) = true ∧
    newNamedS r32 S (initHash (objFVs S (.st [.int 5, .str "a"]))) = some (.st [.int 0, .str "a"]) :=
  ⟨by rfl, by rfl, by rfl⟩

/-- known finding C18-given-or-derived-on-pointer: `kind=>given_or_derived` (likewise `derived`) on a field that can be
    nil: ReflectFieldTags adds the implicit `value => undef` of the Optional type, which attribute.go then refuses for
    these kinds — the type cannot be derived although the tag declares no value -/
theorem C18_given_or_derived_pointer :
    deriveErr (.scons "A" { kind := .givenOrDerived } (.ptr (.int 8)) .snil) = some "PCORE_ILLEGAL_KIND_VALUE_COMBINATION" ∧
    deriveErr (.scons "A" { kind := .derived } (.ptr (.int 8)) .snil) = some "PCORE_ILLEGAL_KIND_VALUE_COMBINATION" ∧
    deriveErr (.scons "A" { kind := .givenOrDerived } (.int 8) .snil) = none := ⟨rfl, rfl, rfl⟩

/-! regression anchors: what deriving the object type reports for tags that are inconsistent in themselves -/
example : deriveErr (.scons "A" { dflt := some .undef } (.int 8) .snil) = some "PCORE_IMPOSSIBLE_OPTIONAL" := by rfl
example : deriveErr (.scons "A" { typ := some (.opt .str) } .string .snil) = some "PCORE_IMPOSSIBLE_OPTIONAL" := by rfl
example : deriveErr (.scons "A" { dflt := some (.int 300) } (.int 8) .snil) = some "PCORE_TYPE_MISMATCH" := by rfl
example : deriveErr (.scons "A" { dflt := some (.int 1) } (.float 64) .snil) = some "PCORE_TYPE_MISMATCH" := by rfl
example : deriveErr (.scons "A" { typ := some (.int 0 10), dflt := some (.int 11) } (.int 8) .snil) = some "PCORE_TYPE_MISMATCH" := rfl
example : deriveErr (.scons "A" { kind := .constant } (.int 8) .snil) = some "PCORE_CONSTANT_REQUIRES_VALUE" := by rfl
example : deriveErr (.scons "A" { kind := .derived, dflt := some (.int 3) } (.int 8) .snil) =
    some "PCORE_ILLEGAL_KIND_VALUE_COMBINATION" := by rfl
/-- ImpossibleOptional (raised while the initializer is assembled) wins over an error of an earlier attribute -/
example : deriveErr (.scons "A" { kind := .constant } (.int 8) (.scons "B" { dflt := some .undef } (.int 8) .snil)) =
    some "PCORE_IMPOSSIBLE_OPTIONAL" := by rfl
/-- a clash with an attribute of the embedded parent: never derived with `override => true`; final when the parent's is a constant -/
example : deriveErr (.scons "Base" { anon := true } (.scons "PA" {} (.int 8) .snil) (.scons "B" { attr := some "pA" } .string .snil)) =
    some "PCORE_OVERRIDE_IS_MISSING" := by rfl
example : deriveErr (.scons "Base" { anon := true } (.scons "PC" { kind := .constant, dflt := some (.int 5) } (.int 8) .snil)
    (.scons "B" { attr := some "pC" } .string .snil)) = some "PCORE_OVERRIDE_OF_FINAL" := by rfl

/-- non-vacuity for declared types and kinds: `struct{ A int8 "type=>Integer[0,10]"; B *string "type=>Optional[String]";
    C int16 "kind=>given_or_derived"; D bool "kind=>reference, value=>true"; K uint8 "kind=>constant, value=>7" (zero);
    X []int8 "type=>Any" }` -/
def sampleKinds : GoTy :=
  .scons "A" { typ := some (.int 0 10) } (.int 8)
  (.scons "B" { typ := some (.opt .str) } (.ptr .string)
  (.scons "C" { kind := .givenOrDerived } (.int 16)
  (.scons "D" { kind := .reference, dflt := some (.bool true) } .bool
  (.scons "K" { kind := .constant, dflt := some (.int 7) } (.uint 8)
  (.scons "X" { typ := some .any } (.slice (.int 8)) .snil)))))
def sampleKindsVal : GoVal := .st [.int 10, .nil, .int (-3), .bool true, .int 0, .slice [.int 1]]
example : StructOK sampleKinds sampleKindsVal :=
  structOK_of_chk rfl rfl rfl rfl
    (by simp [UnstoredZero, TailZero, sampleKinds, sampleKindsVal, fieldOfDecl, Field.stored, isStruct, zeroOf])
example : (attrsOf sampleKinds).map (·.name) = ["a", "b", "c", "d", "x"] := by rfl
example : initHash (objFVs sampleKinds sampleKindsVal) =
    [(.str "a", .int 10), (.str "x", .arr [.int 1]), (.str "c", .int (-3))] := by rfl

/-- the struct theorems for deep equality instead of identity, WITHOUT `DefaultExact` — the property as stated (what
    comes back is `reflect.DeepEqual` to the original: `goEq`).  Not proved: it needs `reflectTo` / `rebuild` to respect
    `goEq`; the only inputs it adds are fields holding -0.0 / +0.0 against a declared default of the other sign and map
    fields against hash defaults written in another order (`C18_default_zero_sign`; both streams are generated and agree
    with the implementation). -/
def C18_struct_nested_full : Prop :=
  ∀ (r32 : Nat → Nat), R32Exact r32 → ∀ (S : GoTy) (v : GoVal),
    isStruct S = true → structWF S = true → hasType S v = true →
    (∀ fv ∈ objFVs S v, RtOK false fv.1.ty fv.2 = true ∧ inst fv.1.aty (fieldVal fv) = true) →
    ∃ back, newNamedS r32 S (initHash (objFVs S v)) = some back ∧
      goEq back (rebuild S (flatVals S v)) = true   -- `rebuild ∘ flatVals` zeroes the constant / derived fields

/-- `DefaultExact` is automatic for every declared default that is an exact literal (`Lit.exact`: integers, strings,
    booleans, undef, floats other than ±0, arrays of those, hashes of one entry) on an attribute that is not given_or_derived
    (`Field.exactDflt`) -/
theorem C18_default_exact (f : Field) (v : Val) (hx : f.exactDflt = true) : DefaultExact f v :=
  defaultExact_of_exact hx v

/-- non-vacuity for the declared defaults of every value shape:
    `struct{ F float64 "value=>1.5"; L []int16 "value=>[1,2]"; M map[string]bool "value=>{'k'=>true}"; P *string
    "value=>undef"; Q *[2]uint8 "value=>[7,8]"; Z float32 "value=>0.0" }` with F, L, M, P, Q at their defaults (all cut
    from the init hash) and Z = 2.5 (its default 0.0 is not exact, but the value is not a zero) -/
def sampleDefaults : GoTy :=
  .scons "F" { dflt := some (.flt 0x3FF8000000000000) } (.float 64)
  (.scons "L" { dflt := some (.acons (.int 1) (.acons (.int 2) .anil)) } (.slice (.int 16))
  (.scons "M" { dflt := some (.hcons (.str "k") (.bool true) .hnil) } (.map .string .bool)
  (.scons "P" { dflt := some .undef } (.ptr .string)
  (.scons "Q" { dflt := some (.acons (.int 7) (.acons (.int 8) .anil)) } (.ptr (.array 2 (.uint 8)))
  (.scons "Z" { dflt := some (.flt 0) } (.float 32) .snil)))))
def sampleDefaultsVal : GoVal :=
  .st [.flt 0x3FF8000000000000, .slice [.int 1, .int 2], .map [(.str "k", .bool true)], .nil, .ptr (.arr [.int 7, .int 8]),
       .flt 0x4004000000000000]
example : StructOK sampleDefaults sampleDefaultsVal :=
  structOK_of_chk rfl rfl rfl rfl (unstoredZero_of_allStored _ _ rfl)
example : initHash (objFVs sampleDefaults sampleDefaultsVal) = [(.str "z", .flt 0x4004000000000000)] := by rfl

/-- non-vacuity: `struct{ Base struct{ PID uint16 "value=>8080"; PL []string }; Name string; Addr *struct{Zip int32};
    Tags []struct{K string} ; Mix struct{M bool} (embedded, not first) }` with the parent's PID at its declared default -/
def sampleNested : GoTy :=
  .scons "Base" { anon := true }
    (.scons "PID" { dflt := some (.int 8080) } (.uint 16) (.scons "PL" {} (.slice .string) .snil))
  (.scons "Name" { attr := some "label" } .string
  (.scons "Addr" {} (.ptr (.scons "Zip" {} (.int 32) .snil))
  (.scons "Tags" {} (.slice (.scons "K" {} .string .snil))
  (.scons "Mix" { anon := true } (.scons "M" {} .bool .snil) .snil))))
def sampleNestedVal : GoVal :=
  .st [.st [.int 8080, .slice [.str "x"]], .str "n", .ptr (.st [.int (-5)]), .slice [.st [.str "k"]], .st [.bool true]]
example : Modelled sampleNested = true ∧ (structsIn sampleNested).all structWF = true := ⟨rfl, rfl⟩
example : StructOK sampleNested sampleNestedVal :=
  structOK_of_chk rfl rfl rfl rfl (unstoredZero_of_allStored _ _ rfl)
example : (attrsOf sampleNested).map (·.name) = ["pID", "pL", "label", "addr", "tags", "mix"] := by rfl
example : initHash (objFVs sampleNested sampleNestedVal) =
    [(.str "pL", .arr [.str "x"]), (.str "label", .str "n"), (.str "tags", .arr [.obj (.scons "K" {} .string .snil) false (.st [.str "k"])]),
     (.str "mix", .obj (.scons "M" {} .bool .snil) false (.st [.bool true])),
     (.str "addr", .obj (.scons "Zip" {} (.int 32) .snil) true (.st [.int (-5)]))] := by rfl
example : ancestors sampleNested = [.scons "PID" { dflt := some (.int 8080) } (.uint 16) (.scons "PL" {} (.slice .string) .snil)] := rfl

/-! ### non-vacuity: nested values that satisfy every hypothesis -/

/-- `map[uint64][]*int8` with a key ≥ 2^63 is excluded from type acceptance but round-trips; with small keys it is in both -/
def sampleTy : GoTy := .map (.uint 64) (.slice (.ptr (.int 8)))
def sampleVal : GoVal := .map [(.int 3, .slice [.ptr (.int (-128)), .nil]), (.int 10, .slice [])]
example : Modelled sampleTy = true ∧ hasType sampleTy sampleVal = true ∧ Supported sampleTy sampleVal = true := ⟨rfl, rfl, rfl⟩
example : wrap true sampleTy sampleVal =
    .hsh [(.int 10, .arr []), (.int 3, .arr [.int (-128), .undef])] := by rfl
example (r32 : Nat → Nat) (hr : R32Exact r32) :
    reflectTo r32 sampleTy (wrap true sampleTy sampleVal) = some sampleVal :=
  C18_roundtrip r32 hr _ _ (by rfl) (by rfl) (by rfl)
example : inst (typeOf sampleTy) (wrap true sampleTy sampleVal) = true :=
  C18_type_accepts _ _ (by rfl) (by rfl) (by rfl)

def sampleTy2 : GoTy := .array 2 (.ptr (.map .string (.slice (.uint 8))))
def sampleVal2 : GoVal := .arr [.ptr (.map [(.str "a", .slice [.int 255]), (.str "b", .slice [])]), .nil]
example : Modelled sampleTy2 = true ∧ hasType sampleTy2 sampleVal2 = true ∧ RtOK true sampleTy2 sampleVal2 = true := ⟨rfl, rfl, rfl⟩
example : hasType (.uint 64) (.int (2 ^ 64 - 1)) = true := by rfl
example : R32Exact id := fun _ _ => rfl

/-! ### negation witnesses — one per excluded shape (known findings) -/

/-- known finding C18-nil-slice-becomes-empty: a nil `[]int` comes back as an empty, non-nil slice -/
theorem C18_nil_slice_becomes_empty (r32 : Nat → Nat) :
    hasType (.slice (.int 0)) .nil = true ∧
    reflectTo r32 (.slice (.int 0)) (wrap true (.slice (.int 0)) .nil) = some (.slice []) := ⟨rfl, rfl⟩

/-- known finding C18-nil-map-becomes-empty: a nil `map[string]string` comes back as an empty, non-nil map -/
theorem C18_nil_map_becomes_empty (r32 : Nat → Nat) :
    hasType (.map .string .string) .nil = true ∧
    reflectTo r32 (.map .string .string) (wrap true (.map .string .string) .nil) = some (.map []) := ⟨rfl, rfl⟩

/-- known finding C18-ptr-to-nil-collapses: a non-nil pointer to a nil slice comes back as a nil pointer -/
theorem C18_ptr_to_nil_collapses (r32 : Nat → Nat) :
    hasType (.ptr (.slice .bool)) (.ptr .nil) = true ∧
    reflectTo r32 (.ptr (.slice .bool)) (wrap true (.ptr (.slice .bool)) (.ptr .nil)) = some .nil := ⟨rfl, rfl⟩

/-- known finding C18-iface-int-width: an `int8` inside an interface{} comes back as an `int64` -/
theorem C18_iface_int_width (r32 : Nat → Nat) :
    hasType .iface (.iface (.int 8) (.int 1)) = true ∧
    reflectTo r32 .iface (wrap true .iface (.iface (.int 8) (.int 1))) = some (.iface (.int 64) (.int 1)) := ⟨rfl, rfl⟩

/-- known finding C18-iface-float-width: a `float32` inside an interface{} comes back as a `float64` -/
theorem C18_iface_float_width (r32 : Nat → Nat) :
    hasType .iface (.iface (.float 32) (.flt 0)) = true ∧
    reflectTo r32 .iface (wrap true .iface (.iface (.float 32) (.flt 0))) = some (.iface (.float 64) (.flt 0)) := ⟨rfl, rfl⟩

theorem C18_roundtrip_full_fails : ¬ C18_roundtrip_full := by
  intro h
  have h1 := h id (fun _ _ => rfl) (.slice (.int 0)) .nil rfl rfl
  rw [(C18_nil_slice_becomes_empty id).2] at h1
  cases h1

/-- known finding C18-uint64-overflow: 2^63 wraps to -2^63, which the derived Integer[0, 2^63-1] rejects -/
theorem C18_uint64_overflow :
    hasType (.uint 64) (.int (2 ^ 63)) = true ∧ wrap true (.uint 64) (.int (2 ^ 63)) = .int (-(2 ^ 63)) ∧
    inst (typeOf (.uint 64)) (wrap true (.uint 64) (.int (2 ^ 63))) = false := ⟨by rfl, by rfl, by rfl⟩

/-- known finding C18-float-inf-rejected, what is left of it: +Inf held in a float32 wraps to a Float that the derived
    Float[-MaxFloat32, MaxFloat32] rejects.  For float64 the defect is repaired (/repo fix "an unbounded Float includes the
    infinities"): the derived type is the default Float, which has no bounds. -/
theorem C18_float_inf_rejected :
    hasType (.float 32) (.flt 0x7FF0000000000000) = true ∧
    inst (typeOf (.float 32)) (wrap true (.float 32) (.flt 0x7FF0000000000000)) = false := ⟨rfl, rfl⟩

theorem C18_float64_inf_repaired :
    hasType (.float 64) (.flt 0x7FF0000000000000) = true ∧ hasType (.float 64) (.flt 0xFFF0000000000000) = true ∧
    inst (typeOf (.float 64)) (wrap true (.float 64) (.flt 0x7FF0000000000000)) = true ∧
    inst (typeOf (.float 64)) (wrap true (.float 64) (.flt 0xFFF0000000000000)) = true := ⟨rfl, rfl, rfl, rfl⟩

/-- known finding C18-bytes-become-binary: `[]byte` wraps to a Binary that the derived Array[Integer[0,255]] rejects -/
theorem C18_bytes_become_binary :
    hasType (.slice (.uint 8)) (.slice [.int 1]) = true ∧
    wrap true (.slice (.uint 8)) (.slice [.int 1]) = .bin false [1] ∧
    typeOf (.slice (.uint 8)) = .array (.int 0 255) ∧
    inst (typeOf (.slice (.uint 8))) (wrap true (.slice (.uint 8)) (.slice [.int 1])) = false :=
  ⟨by rfl, by rfl, by rfl, by rfl⟩

/-- known finding C18-nil-slice-undef-rejected: a nil `[]int8` wraps to undef, which Array[Integer[-128,127]] rejects -/
theorem C18_nil_slice_undef_rejected :
    hasType (.slice (.int 8)) .nil = true ∧ wrap true (.slice (.int 8)) .nil = .undef ∧
    inst (typeOf (.slice (.int 8))) (wrap true (.slice (.int 8)) .nil) = false := ⟨by rfl, by rfl, by rfl⟩

/-- known finding C18-nil-map-undef-rejected: a nil `map[string]int` wraps to undef, which Hash[String,Integer] rejects -/
theorem C18_nil_map_undef_rejected :
    hasType (.map .string (.int 0)) .nil = true ∧ wrap true (.map .string (.int 0)) .nil = .undef ∧
    inst (typeOf (.map .string (.int 0))) (wrap true (.map .string (.int 0)) .nil) = false := ⟨by rfl, by rfl, by rfl⟩

theorem C18_type_accepts_full_fails : ¬ C18_type_accepts_full := by
  intro h
  have h1 := h (.uint 64) (.int (2 ^ 63)) rfl C18_uint64_overflow.1
  rw [C18_uint64_overflow.2.2] at h1
  cases h1

/-! ### defects fixed in /repo: the witnesses of the former findings round-trip (regression anchors) -/

/-- fix fdc5ca3 / bd96b25: a nil interface{} (top level, in a slice, as a map value) now round-trips -/
example (r32 : Nat → Nat) :
    reflectTo r32 (.slice .iface) (wrap true (.slice .iface) (.slice [.iface (.int 64) (.int 1), .nil])) =
      some (.slice [.iface (.int 64) (.int 1), .nil]) := rfl
example (r32 : Nat → Nat) :
    reflectTo r32 (.map .string .iface) (wrap true (.map .string .iface) (.map [(.str "a", .nil)])) =
      some (.map [(.str "a", .nil)]) := rfl
/-- fix c519cc2 / 63e30d0: Go arrays wrap and are reflected to -/
example (r32 : Nat → Nat) :
    reflectTo r32 (.array 2 (.int 0)) (wrap true (.array 2 (.int 0)) (.arr [.int 1, .int 2])) = some (.arr [.int 1, .int 2]) := rfl

/-! Instances of the hypotheses of the theorems above. -/

-- `C18_int_width` / `C18_uint_width`: the boundary values of a width (the wrapped form of the largest uint64 is -1)
example : okWidth 8 = true ∧ hasType (.int 8) (.int (-128)) = true ∧ truncS (bitsOf 8) (-128) = -128 := ⟨rfl, rfl, rfl⟩
example : okWidth 64 = true ∧ hasType (.uint 64) (.int (2 ^ 64 - 1)) = true ∧ u2i (2 ^ 64 - 1) = -1 ∧
    truncU (bitsOf 64) (u2i (2 ^ 64 - 1)) = 2 ^ 64 - 1 := ⟨rfl, rfl, rfl, rfl⟩

-- `C18_map_any_order`: the entries handed to SetMapIndex in another order than the canonical one
example : ([(.int 2, .str "b"), (.int 1, .str "a")] : List (GoVal × GoVal)).Perm [(.int 1, .str "a"), (.int 2, .str "b")] ∧
    sortedKeys [(.int 1, .str "a"), (.int 2, .str "b")] = true := ⟨List.Perm.swap _ _ _, by rfl⟩
example : mapOf [(.int 2, .str "b"), (.int 1, .str "a")] = [(.int 1, .str "a"), (.int 2, .str "b")] :=
  C18_map_any_order _ _ (List.Perm.swap _ _ _) (by rfl)

-- `C18_defaults_restored` / `C18_default_exact`: both attributes at their (exact) default are cut and put back; `value=>0.0` is NOT exact
example : ([{ name := "p", ty := .uint 16, dflt := some (.int 8080) }, { name := "d", ty := .ptr .string }] : List Field).all
    (·.exactDflt) = true ∧ ({ name := "z", ty := .float 64, dflt := some (.flt 0) } : Field).exactDflt = false := ⟨rfl, rfl⟩
example : trimDefaults [{ name := "p", ty := .uint 16, dflt := some (.int 8080) }, { name := "d", ty := .ptr .string }]
    [.int 8080, .undef] = [] := by rfl
example : restore [{ name := "p", ty := .uint 16, dflt := some (.int 8080) }, { name := "d", ty := .ptr .string }]
    (trimDefaults [{ name := "p", ty := .uint 16, dflt := some (.int 8080) }, { name := "d", ty := .ptr .string }]
      [.int 8080, .undef]) = [.int 8080, .undef] :=
  C18_defaults_restored _ _ rfl (by decide)

-- `C18_attr_type_derived`: an untagged `[]uint8` FIELD holding [255] (as a field it is an Array, and `TaOK false` holds)
example : ({} : FTag).typ = none ∧ ({} : FTag).kind ≠ .givenOrDerived ∧ ({} : FTag).dflt ≠ some .undef ∧
    Modelled (.slice (.uint 8)) = true ∧ fieldHasType (.slice (.uint 8)) (.slice [.int 255]) = true ∧
    TaOK false (.slice (.uint 8)) (.slice [.int 255]) = true := by decide
-- `C18_iface_field`: an interface{} field holding a []interface{} / a typed nil pointer; a struct inside is refused
example : ifaceField (.iface (.slice .iface) (.slice [.iface (.int 8) (.int 1), .nil])) = true ∧
    ifaceField (.iface (.ptr (.int 8)) .nil) = true ∧ ifaceField (.iface (.scons "A" {} .bool .snil) (.st [.bool true])) = false := ⟨rfl, rfl, rfl⟩
-- `C18_parent_accepts` / `C18_promotion` on `sampleNested` (its embedded first field `Base` is the parent)
example : inst (typeOf (.scons "PID" { dflt := some (.int 8080) } (.uint 16) (.scons "PL" {} (.slice .string) .snil)))
    (wrap true sampleNested sampleNestedVal) = true :=
  C18_parent_accepts sampleNested _ sampleNestedVal (by rfl) (by decide)
example : (flatVals sampleNested sampleNestedVal).length = (attrsOf sampleNested).length :=
  (C18_promotion sampleNested sampleNestedVal (by rfl) (by rfl)).1

/-- `C18_struct_value` has no typing hypothesis and needs none — `wrap` of a struct type is `.obj S false v` and
    `reflectTo` hands `v` back, so the theorem holds of an ILL-TYPED "struct value" just as well.  It states the model's reading of
    `FromReflectedValue` (the object HOLDS the reflect.Value), not a fact about struct contents; what is said about contents is
    `C18_struct_nested`. -/
example (r32 : Nat → Nat) :
    hasType (.scons "A" {} (.int 8) .snil) (.st [.str "not an int8", .bool true]) = false ∧
    reflectTo r32 (.scons "A" {} (.int 8) .snil) (wrap true (.scons "A" {} (.int 8) .snil) (.st [.str "not an int8", .bool true])) =
      some (.st [.str "not an int8", .bool true]) :=
  ⟨by rfl, (C18_struct_value r32 _ true _ rfl).1⟩

end Pcore.Reflect

import Pcore.Proofs.LatFam
import Pcore.Proofs.LatGen
import Pcore.Proofs.LatGenVar
import Pcore.Proofs.LatCommonAll
import Pcore.Proofs.LatFamT
/-!
# C04 — Inferred types contain their values; common type and generalisation are bounds

Property (properties.jsonl): every value is an instance of its own inferred type, both the generic and the detailed one.  Whenever a type
T accepts the detailed type inferred for a value, the value is an instance of T, and conversely for values that contain no undef-valued
hash entry.  The common type computed for two types accepts both of them, and the generalisation of a type accepts that type.

Model: `ptype` (`PType()`), `dtype` (`px.DetailedValueType`), `commonType` (`commonality.go`, the whole cascade in order, fuel = recursion
depth), `generalize` / `genericType` — `Pcore/Model/LatticeInfer.lean`, `LatticeInst.lean`; compared with the implementation on every
generated value / pair (ops `ptype dtype common gen infer`, byte-identical type terms).

Full statement / proved / missing
* `C04_ptype_full`, `C04_dtype_full`, `C04_common_full`, `C04_generalize_full`, `C04_accepts_sound_full`, `C04_accepts_complete_full` — the six laws as
  `def … : Prop`, kept visible.
* PROVED (unbounded): `C04_ptype_scalar` / `C04_dtype_scalar` — the law for every value that is not an Array or a Hash (scalars, regexps,
  binaries, timespans, types used as values — through reflexivity C03_refl —, object instances, Sensitive of those);
  `C04_dtype_struct` — the second law for arbitrarily nested, heterogeneous arrays and hashes keyed by pairwise different non-empty strings
  (the Tuple / Struct shape of `DetailedValueType`, where no `commonType` is involved), for both settings of the exempt rule;
  `C04_accepts_sound_partial` — the third law from C01_sound_partial (rule off, fragment `Ty.Frag`) for any value whose detailed type it
  is an instance of; `C04_common_unit` (Unit never absorbs: the repaired rule), `C04_common_accepts_left` and `commonF_left` / `commonF_right`
  (Proofs/LatFam) — the first two branches of `commonType` answer the argument that accepts the other, an upper bound given reflexivity; `C04_common_tail` — the Numeric/ScalarData/Scalar/Data/RichData/Any tail is an upper bound.
  `C04_ptype` — THE FIRST LAW, unconditional, for every value that holds no type value (nested heterogeneous arrays, hashes with any
  keys, Sensitive, objects, scalars), for the code's setting of the exempt rule: fold invariant "every element seen so far is an instance
  of the accumulator" + C01 + `C04_common_fam` (commonType is an upper bound on the family `Ty.Fam` of inferred types and stays inside it);
  `C04_ptype_of_family` — the same for values with type values, conditional on a family on which commonType is an upper bound;
  `C04_generalize_partial` — the sixth law for every type without Variant (Float bounds that are doubles, ±Inf included);
  `C04_common_partial` — THE FIFTH LAW for ALL well-formed types without Unit and Callable (and, under the code's setting of the rule, without Struct):
  every structural merge of `commonality.go` (Enum / String / Pattern / Integer / Float / Array / Tuple / Variant / Type / Iterable /
  Iterator / Runtime / NotUndef) and the tail; the result is again well-formed and in the fragment (corollary of `C03_trans_alias_partial`: the Tuple fold needs transitivity);
  `C04_generalize_variant_partial` — the sixth law WITH Variant at any nesting (its `Generic()` removes members that became `Equals`: the
  kept member accepts the removed one's original by transitivity, `C03_trans_alias_partial`), on the fragment of transitivity `Ty.TA` (no Unit, no Callable; no
  Struct under the code's setting of the rule; Data / RichData allowed);
  `C04_accepts_sound` — the third law with no hypothesis on the detailed type (rule off; same values as `C04_dtype`);
  `C04_dtype` — THE SECOND LAW, unconditional, for every value without type values and without a hash keyed by strings only with the
  empty string among them;
  `C04_ptype_typ`, `C04_dtype_typ`, `C04_accepts_sound_typ` — the FIRST, SECOND and THIRD law for values that HOLD TYPE VALUES at any
  depth (every type value a well-formed type without Unit and Callable, and without Struct under the code's setting of the rule), from C01 for
  `Type[T]` receivers (every `T` of `Ty.TA`) and `C04_common_famT` (`commonType(Type[x], Type[y]) = Type[commonType(x,y)]` is an upper bound by
  `C04_common_partial`);
* REPAIRED in /repo and proved of the repaired code: `C04_generalize_float_inf_repaired` (the default Float has no bounds),
  `C04_scalar_timespan_repaired` (Scalar, and through it RichData, accepts the Timespan types whose values it admits).
* FALSE of the code, with witnesses (known findings): `C04_accepts_complete_fails_object` (Object has every type value as an instance but
  rejects Type[..]), `C04_accepts_complete_fails_timestamp_before_year1`, `C04_dtype_full_fails_emptykey` (the second law on the class
  `C04_dtype` excludes), `C04_common_full_fails_unit` (the fifth law with Unit nested in an argument).
* missing: the first law for values holding a type value with Unit or a Callable inside (or a Struct, under the code's setting of the rule), the
  second law for hashes keyed by strings only with the empty string among them;
  `C04_common` with Unit nested inside an argument (Unit absorbs: e.g. a Variant with a Unit member accepts everything), a Callable, or a Struct under
  the code's setting of the rule; `C04_generalize` for a type that holds a Variant together with Unit / a Callable / a Struct under the rule; the FOURTH law (`C04_accepts_complete_full`) has no
  positive theorem, only the refutations above.  All six laws are evaluated on the
  implementation for every generated case.
-/
namespace Pcore.Lat

def C04_ptype_full : Prop := ∀ (cfg : Cfg) (v : Val), v.OK → inst cfg true (ptype cfg true v) v = true
def C04_dtype_full : Prop := ∀ (cfg : Cfg) (v : Val), v.OK → inst cfg true (dtype cfg true v) v = true
def C04_common_full : Prop :=
  ∀ (cfg : Cfg) (a b : Ty), Ty.WF cfg a → Ty.WF cfg b →
    asg cfg true (commonType cfg true a b) a = true ∧ asg cfg true (commonType cfg true a b) b = true
def C04_generalize_full : Prop := ∀ (cfg : Cfg) (t : Ty), Ty.WF cfg t → asg cfg true (generalize t) t = true
def C04_accepts_sound_full : Prop :=
  ∀ (cfg : Cfg) (t : Ty) (v : Val), Ty.WF cfg t → v.OK → asg cfg false t (dtype cfg false v) = true → inst cfg false t v = true
def C04_accepts_complete_full : Prop :=
  ∀ (cfg : Cfg) (t : Ty) (v : Val), Ty.WF cfg t → Ty.Ref t → v.OK → inst cfg true t v = true → asg cfg true t (dtype cfg true v) = true

def idCfg4 : Cfg := { rxMatch := fun _ _ => false, lower := id }

/-- first and second law for every value that is neither an Array nor a Hash (`Val.Leafy`: scalars, regexps, binaries, timespans, object
    instances, types used as values — through reflexivity C03_refl —, Sensitive of those) -/
theorem C04_ptype_scalar (cfg : Cfg) (sfh : Bool) (v : Val) (h : Val.Leafy cfg v) :
    inst cfg sfh (ptype cfg sfh v) v = true := ptype_leafy cfg sfh v h

theorem C04_dtype_scalar (cfg : Cfg) (sfh : Bool) (v : Val) (h : Val.Leafy cfg v) :
    inst cfg sfh (dtype cfg sfh v) v = true :=
  dtype_structy cfg sfh v (Val.Structy.leaf v h)

/-- non-vacuity -/
example : Val.Leafy idCfg4 (.sensitive (.typ (.array (.int ⟨0, 5⟩) ⟨1, 2⟩))) := by
  simp [Val.Leafy, Ty.WF]

/-- second law, unbounded, for every value built from arrays (any nesting, heterogeneous) and hashes keyed by pairwise different
    non-empty strings over such leaves: the detailed type (Tuple of detailed types, Struct of detailed member types with the
    Optional-key rule of `NewStructElement`) contains the value.  No `commonType` is involved for these values. -/
theorem C04_dtype_struct (cfg : Cfg) (sfh : Bool) (v : Val) (h : Val.Structy cfg sfh v) :
    inst cfg sfh (dtype cfg sfh v) v = true := dtype_structy cfg sfh v h

/-- non-vacuity -/
example : Val.Structy idCfg4 true (.array [.int 1, .hash [(.str "a", .array [.str "x", .undef]), (.str "b", .undef)]]) := by
  refine Val.Structy.array _ ?_
  intro x hx; simp at hx
  rcases hx with rfl | rfl
  · exact Val.Structy.leaf _ trivial
  · refine Val.Structy.hash _ ?_ ?_ ?_
    · intro n; simp [List.countP_cons, keyIs, keyIsStr]; split <;> split <;> (first | omega | (subst_vars; simp_all))
    · intro e he; simp at he; rcases he with rfl | rfl <;> simp
    · intro e he; simp at he
      rcases he with rfl | rfl
      · refine Val.Structy.array _ ?_
        intro y hy; simp at hy; rcases hy with rfl | rfl <;> exact Val.Structy.leaf _ trivial
      · exact Val.Structy.leaf _ trivial

/-- FIRST LAW, unconditional and unbounded, for both settings of the exempt rule (`sfh = true` is the code): every value that holds no
    type value — arbitrarily nested, heterogeneous arrays and hashes (any keys), Sensitive, object instances, all scalars — is an
    instance of its inferred type.  Proof: the fold invariant of `privateReducedType` ("every element seen so far is an instance of the
    accumulator") carried through by C01 (soundness), with `commonType` shown to be an upper bound on the family `Ty.Fam` of inferred
    types (`C04_common_fam`) — exactly where a `commonType` that returns the wrong argument, or lets Unit absorb, breaks the proof. -/
theorem C04_ptype (cfg : Cfg) (sfh : Bool) (hl : ∀ s, (cfg.lower s).length = s.length) (v : Val)
    (ok : v.OK) (tv : Val.TyOKS cfg sfh v) (nt : Val.AllTyp (fun _ => False) v) : inst cfg sfh (ptype cfg sfh v) v = true :=
  (ptype_inst cfg sfh hl Ty.Fam (fun _ => False) (fam_inferFam cfg sfh) v ok tv nt).1

/-- non-vacuity -/
example : Val.AllTyp (fun _ => False) (.array [.int 1, .hash [(.int 2, .str "a")], .array []]) := by
  refine Val.AllTyp.array _ ?_
  intro x hx; simp at hx
  rcases hx with rfl | rfl | rfl
  · constructor
  · refine Val.AllTyp.hash _ ?_ ?_ <;> (intro e he; simp at he; subst he; constructor)
  · exact Val.AllTyp.array _ (by intro x hx; cases hx)

/-- SECOND LAW, unconditional, for the code's setting of the rule: every value that holds no type value and no hash keyed by strings
    only with the empty string among them is an instance of its detailed type (Tuple of detailed types; Struct for hashes keyed by
    non-empty strings; the reduced type, by the first law, for hashes with a non-string key and for Sensitive) -/
theorem C04_dtype (cfg : Cfg) (sfh : Bool) (hl : ∀ s, (cfg.lower s).length = s.length) (v : Val)
    (ok : v.OK) (tv : Val.TyOKS cfg sfh v) (nt : Val.AllTyp (fun _ => False) v) (ne : Val.NoEmptyKey v) :
    inst cfg sfh (dtype cfg sfh v) v = true :=
  dtype_structy cfg sfh v (dtype_fam cfg sfh hl v ok tv nt ne)

theorem C04_common_fam (cfg : Cfg) (sfh : Bool) (a b : Ty) (ha : a.Fam) (hb : b.Fam) :
    (commonType cfg sfh a b).Fam ∧ asg cfg sfh (commonType cfg sfh a b) a = true ∧ asg cfg sfh (commonType cfg sfh a b) b = true :=
  common_fam cfg sfh _ a b ha hb

/-- the first law for values WITH type values, conditional on a family `G` on which `commonType` is a well-behaved upper bound
    (`InferFam`; `C04_ptype` is the instance `G = Ty.Fam` without type values) -/
theorem C04_ptype_of_family (cfg : Cfg) (sfh : Bool) (hl : ∀ s, (cfg.lower s).length = s.length) (G TV : Ty → Prop)
    (U : InferFam cfg sfh G TV) (v : Val) (ok : v.OK) (tv : Val.TyOKS cfg sfh v) (at' : Val.AllTyp TV v) :
    inst cfg sfh (ptype cfg sfh v) v = true :=
  (ptype_inst cfg sfh hl G TV U v ok tv at').1

def idCfg4' : Cfg := { rxMatch := fun _ _ => false, lower := id }

/-! ### the first three laws for values that HOLD TYPE VALUES (through C01 for `Type[T]`, every `T` of `Ty.TA`) -/
/-- FIRST LAW WITH TYPE VALUES, unconditional and unbounded, both settings of the rule: every value — arbitrarily nested heterogeneous
    arrays and hashes, Sensitive, objects, scalars AND types used as values at any depth — is an instance of its inferred type, provided
    every type value inside is a well-formed type without Unit and Callable (and without Struct under the code's setting of the rule): `Val.TyOKS`, the
    side condition of C01.  `PType()` of a type value `T` is `Type[T]`, and `commonType(Type[x], Type[y]) = Type[commonType(x, y)]` recurses
    into arbitrary types, where it is an upper bound by `C04_common_partial`; the fold invariant is carried by C01 for `Type[T]` receivers.
    Assumes `strings.ToLower` idempotent and character-wise (as `C04_common_partial`). -/
theorem C04_ptype_typ (cfg : Cfg) (sfh : Bool) (hl : ∀ s, (cfg.lower s).length = s.length)
    (hidem : ∀ s, cfg.lower (cfg.lower s) = cfg.lower s) (v : Val) (ok : v.OK) (tv : Val.TyOKS cfg sfh v) :
    inst cfg sfh (ptype cfg sfh v) v = true :=
  (ptype_famT cfg sfh hl hidem v ok tv).1

theorem C04_common_famT (cfg : Cfg) (sfh : Bool) (hl : ∀ s, (cfg.lower s).length = s.length)
    (hidem : ∀ s, cfg.lower (cfg.lower s) = cfg.lower s) (a b : Ty) (ha : a.FamT cfg sfh) (hb : b.FamT cfg sfh) :
    (commonType cfg sfh a b).FamT cfg sfh ∧ asg cfg sfh (commonType cfg sfh a b) a = true ∧
    asg cfg sfh (commonType cfg sfh a b) b = true :=
  common_famT cfg sfh hl hidem _ a b ha hb

/-- SECOND LAW WITH TYPE VALUES: as `C04_dtype`, type values allowed anywhere -/
theorem C04_dtype_typ (cfg : Cfg) (sfh : Bool) (hl : ∀ s, (cfg.lower s).length = s.length)
    (hidem : ∀ s, cfg.lower (cfg.lower s) = cfg.lower s) (v : Val) (ok : v.OK) (tv : Val.TyOKS cfg sfh v) (ne : Val.NoEmptyKey v) :
    inst cfg sfh (dtype cfg sfh v) v = true :=
  dtype_structy cfg sfh v (dtype_famT cfg sfh hl hidem v.w v (Nat.le_refl _) ok tv ne)

/-- THIRD LAW WITH TYPE VALUES (rule off): whatever fragment type accepts the detailed type of the value contains the value -/
theorem C04_accepts_sound_typ (cfg : Cfg) (hl : ∀ s, (cfg.lower s).length = s.length)
    (hidem : ∀ s, cfg.lower (cfg.lower s) = cfg.lower s) (t : Ty) (v : Val)
    (ft : t.Frag false) (wt : Ty.WF cfg t) (ok : v.OK) (tv : Val.TyOKS cfg false v) (ne : Val.NoEmptyKey v)
    (h : asg cfg false t (dtype cfg false v) = true) : inst cfg false t v = true :=
  accepts_sound_of cfg hl (famT_inferFam cfg false hl hidem) t v ft wt ok tv (Val.allTyp_of_tyOKS cfg false v tv) ne h

/-- non-vacuity: `[Struct[{a => Integer[0,9]}], Array[String,1,2], 7]` (two type values and an integer) — the side conditions hold,
    and the inferred type is `Array[Variant-free common type …]`; the fold passes through `commonType(Type[Struct..], Type[Array..])` -/
example : Val.TyOKS idCfg4' false (.array [.typ (.struct [("a", false, .int ⟨0, 9⟩)]), .typ (.array .str ⟨1, 2⟩), .int 7]) ∧
    (Val.array [.typ (.struct [("a", false, .int ⟨0, 9⟩)]), .typ (.array .str ⟨1, 2⟩), .int 7]).OK := by
  constructor
  · exact Val.TyOKS.array _ (by simp [I64.max]) (by
      intro x hx; simp at hx
      rcases hx with rfl | rfl | rfl
      · exact Val.TyOKS.typ _ (by simp [Ty.TA]) (by simp [Ty.WF])
      · exact Val.TyOKS.typ _ (by simp [Ty.TA]) (by simp [Ty.WF])
      · constructor)
  · exact Val.OK.array _ (by intro x hx; simp at hx; rcases hx with rfl | rfl | rfl <;> constructor)

set_option linter.unusedVariables false in
/-- sixth law: the generalisation (`px.Generalize`) and the generic type (`px.GenericType`) of a type accept that type — for every
    well-formed type without Variant and without Data/RichData nested inside, whose ranges are what the constructors allow (int64
    bounds, sizes ≥ 0) and whose Float bounds are doubles, the infinities included (`C04_generalize_float_inf_repaired`) -/
theorem C04_generalize_partial (cfg : Cfg) (sfh : Bool) (t : Ty) (wt : Ty.WF cfg t) (nt : t.NoAlias) (gt : t.GenOK) :
    asg cfg sfh (generalize t) t = true ∧ asg cfg sfh (genericType t) t = true :=
  gen_asg cfg sfh t wt gt

/-- non-vacuity -/
example : (Ty.struct [("a", true, .array (.strVal "x") ⟨1, 2⟩)]).GenOK := by simp [Ty.GenOK, Rng.isSize, I64.max]

/-- FIFTH LAW on the fragment `Ty.TA` of transitivity (corollary of `C03_trans_alias_partial`): the common type accepts both arguments — and is again
    well-formed and inside the fragment — for ALL well-formed types without Unit and Callable (`Ty.TA sfh`; under the code's setting `sfh = true` also
    without Struct), every structural merge of `commonality.go` included: Enum ∪ Enum / String literal (case-insensitive Enums too),
    String sizes, Pattern ∪ Pattern, Integer / Float hulls, Array, TUPLE (the element fold of `CommonElementType`: the accumulator
    accepts the earlier element types only by transitivity), VARIANT (`UniqueTypes` keeps one of two `Equals` members, which accepts the
    other), Type, Iterable, Iterator, Runtime, NotUndef, and the Numeric … Any tail.  `hidem`: `strings.ToLower` is idempotent (the merged case-insensitive
    Enum stores lower-cased values). -/
theorem C04_common_partial (cfg : Cfg) (sfh : Bool) (hl : ∀ s, (cfg.lower s).length = s.length)
    (hidem : ∀ s, cfg.lower (cfg.lower s) = cfg.lower s) (a b : Ty)
    (wa : Ty.WF cfg a) (wb : Ty.WF cfg b) (fa : a.TA sfh) (fb : b.TA sfh) :
    asg cfg sfh (commonType cfg sfh a b) a = true ∧ asg cfg sfh (commonType cfg sfh a b) b = true ∧
    Ty.WF cfg (commonType cfg sfh a b) ∧ (commonType cfg sfh a b).TA sfh := by
  obtain ⟨g, u1, u2⟩ := common_all cfg sfh hl hidem (a.w + b.w + 2) a b ⟨wa, fa⟩ ⟨wb, fb⟩
  exact ⟨u1, u2, g.1, g.2⟩

/-- non-vacuity: two Tuples whose merge folds over three element types, and two Variants sharing a member -/
example (cfg : Cfg) :
    (Ty.tuple [.int ⟨0, 5⟩, .strVal "a"] none).TA true ∧ (Ty.tuple [.float 0 1] none).TA true ∧
    (Ty.variant [.int ⟨0, 5⟩, .str]).TA true ∧ Ty.WF cfg (.variant [.int ⟨0, 5⟩, .float 0 1]) ∧
    commonType cfg true (.variant [.int ⟨0, 5⟩, .str]) (.variant [.int ⟨0, 5⟩, .float 0 1]) =
      .variant [.int ⟨0, 5⟩, .str, .float 0 1] := by
  refine ⟨by simp [Ty.TA, I64.max], by simp [Ty.TA, I64.max], by simp [Ty.TA], by simp [Ty.WF], ?_⟩
  unfold commonType commonF
  simp [Ty.isUnit, asg, asgRecv, asgAllR, asgAnyL, sameNullary, isStringFamily, uniqueTy, uniqueTyAux,
    mkVariant, tyEq, Rng.sub]

/-- sixth law WITH VARIANT (corollary of `C03_trans_alias_partial`): `Generic()` of a Variant generalises the members and removes those that became
    `Equals` to an earlier one (`UniqueTypes`); the kept member accepts the removed one's generalisation (equal types accept each other)
    and that accepts the original member, hence the kept one does, by TRANSITIVITY.  For every well-formed type of the fragment
    of transitivity `Ty.TA sfh` (no Unit, no Callable; with the code's setting `sfh = true` no Struct; Data / RichData allowed anywhere),
    ranges as the constructors allow (`Ty.GenOKV` = `Ty.GenOK` with Variant allowed, any nesting). -/
theorem C04_generalize_variant_partial (cfg : Cfg) (sfh : Bool) (hl : ∀ s, (cfg.lower s).length = s.length) (t : Ty)
    (wt : Ty.WF cfg t) (ft : t.TA sfh) (gt : t.GenOKV) :
    asg cfg sfh (generalize t) t = true ∧ asg cfg sfh (genericType t) t = true :=
  gen_asg_var cfg sfh hl t ⟨wt, ft⟩ gt

/-- non-vacuity: Variant[Integer[0,5], Integer[7,9], Array[String[1,1],0,3]] generalises to Variant[Integer, Array[String]] (the second
    Integer is removed as `Equals` to the first) -/
example (cfg : Cfg) :
    Ty.WF cfg (.variant [.int ⟨0, 5⟩, .int ⟨7, 9⟩, .array (.strSz ⟨1, 1⟩) ⟨0, 3⟩]) ∧
    (Ty.variant [.int ⟨0, 5⟩, .int ⟨7, 9⟩, .array (.strSz ⟨1, 1⟩) ⟨0, 3⟩]).TA true ∧
    (Ty.variant [.int ⟨0, 5⟩, .int ⟨7, 9⟩, .array (.strSz ⟨1, 1⟩) ⟨0, 3⟩]).GenOKV ∧
    generalize (.variant [.int ⟨0, 5⟩, .int ⟨7, 9⟩, .array (.strSz ⟨1, 1⟩) ⟨0, 3⟩]) = .variant [.int Rng.all, .array .str Rng.pos] := by
  refine ⟨by simp [Ty.WF], by simp [Ty.TA], ?_, ?_⟩
  · simp [Ty.GenOKV, Rng.inI64, Rng.isSize, I64.min, I64.max]
  · simp [generalize, generalizeL, uniqueTy, uniqueTyAux, mkVariant, tyEq, Ty.isAny, Rng.all, Rng.pos]

/-- third law, from C01: what accepts the detailed type contains the value (rule off, fragment of `C01_sound_partial`) -/
theorem C04_accepts_sound_partial (cfg : Cfg) (hl : ∀ s, (cfg.lower s).length = s.length) (t : Ty) (v : Val)
    (ft : t.Frag false) (fd : (dtype cfg false v).Frag false) (wt : Ty.WF cfg t) (wd : Ty.WF cfg (dtype cfg false v))
    (us : (dtype cfg false v).US) (ok : v.OK) (tv : Val.TyOKS cfg false v)
    (hd : inst cfg false (dtype cfg false v) v = true)
    (h : asg cfg false t (dtype cfg false v) = true) : inst cfg false t v = true :=
  sound cfg false hl ⟨ft, fd, wt, wd, us, ok, tv⟩ h hd

/-- THIRD LAW without hypotheses on the detailed type (rule off): for a value without type values and without empty-string keys,
    whatever fragment type accepts its detailed type contains the value -/
theorem C04_accepts_sound (cfg : Cfg) (hl : ∀ s, (cfg.lower s).length = s.length) (t : Ty) (v : Val)
    (ft : t.Frag false) (wt : Ty.WF cfg t) (ok : v.OK) (tv : Val.TyOKS cfg false v)
    (nt : Val.AllTyp (fun _ => False) v) (ne : Val.NoEmptyKey v)
    (h : asg cfg false t (dtype cfg false v) = true) : inst cfg false t v = true :=
  accepts_dtype_sound cfg hl t v ft wt ok tv nt ne h

/-! ### commonType: the branches that are bounds by themselves -/
theorem C04_common_unit (cfg : Cfg) (sfh : Bool) (n : Nat) (b : Ty) : commonF cfg sfh (n + 1) .unit b = b :=
  commonF_unit_l cfg sfh n b

theorem C04_common_accepts_left (cfg : Cfg) (sfh : Bool) (n : Nat) (a b : Ty) (ha : asg cfg sfh a a = true)
    (hau : a ≠ .unit) (hbu : b ≠ .unit) (h : asg cfg sfh a b = true) :
    asg cfg sfh (commonF cfg sfh (n + 1) a b) a = true ∧ asg cfg sfh (commonF cfg sfh (n + 1) a b) b = true := by
  have h1 : a.isUnit = false := by cases a <;> first | rfl | exact absurd rfl hau
  have h2 : b.isUnit = false := by cases b <;> first | rfl | exact absurd rfl hbu
  rw [commonF_left cfg sfh h1 h2 h]; exact ⟨ha, h⟩

theorem C04_common_tail (cfg : Cfg) (sfh : Bool) (a b : Ty) :
    asg cfg sfh (commonTail cfg sfh a b) a = true ∧ asg cfg sfh (commonTail cfg sfh a b) b = true :=
  (commonTail_cases cfg sfh a b (fun _ => True) trivial trivial trivial trivial trivial trivial).2

/-! ### the laws that are false of the code (known findings), with witnesses -/

/-- the former witness of finding C04-float-infinity (the default Float was bounded by ±MaxFloat64 and rejected Float[-Inf, Inf]; /repo
    fix "an unbounded Float includes the infinities"): the generalisation of every Float type whose bounds are doubles accepts it -/
theorem C04_generalize_float_inf_repaired (cfg : Cfg) (sfh : Bool) :
    asg cfg sfh (generalize (.float (-Fl.inf) Fl.inf)) (.float (-Fl.inf) Fl.inf) = true ∧
    asg cfg sfh (generalize (.float Fl.inf Fl.inf)) (.float Fl.inf Fl.inf) = true ∧
    inst cfg sfh floatAll (.float Fl.inf) = true ∧ inst cfg sfh floatAll (.float (-Fl.inf)) = true := by
  have inf0 : -Fl.inf ≤ Fl.inf := by
    have h1 := Fl.maxFinite_le_inf
    have h2 : (0 : Int) ≤ Fl.maxFinite := by decide +kernel
    omega
  refine ⟨(C04_generalize_partial cfg sfh _ (by simp [Ty.WF]) (by simp [Ty.NoAlias]) (by simp [Ty.GenOK])).1,
          (C04_generalize_partial cfg sfh _ (by simp [Ty.WF]) (by simp [Ty.NoAlias]) (by simp [Ty.GenOK]; exact inf0)).1, ?_, ?_⟩
  · unfold floatAll inst; simp only [Bool.and_eq_true, decide_eq_true_eq]
    rw [Fl.effLo_default, Fl.effHi_default]; exact ⟨inf0, Int.le_refl _⟩
  · unfold floatAll inst; simp only [Bool.and_eq_true, decide_eq_true_eq]
    rw [Fl.effLo_default, Fl.effHi_default]; exact ⟨Int.le_refl _, inf0⟩

/-- what a member of Scalar accepts, Scalar accepts, and RichData through Scalar -/
theorem scalar_rich_of_member (cfg : Cfg) (sfh : Bool) {m c : Ty} (hm : m ∈ scalarMembers) (hc : c.plainR = true)
    (h : asg cfg sfh m c = true) : asg cfg sfh .scalar c = true ∧ asg cfg sfh .richData c = true := by
  have hs := asg_of_recv cfg sfh (.inl hc) ((recv_scalar_iff cfg sfh c).2 (.inr (.inr ⟨m, hm, h⟩)))
  exact ⟨hs, asg_of_recv cfg sfh (.inl hc) (by unfold asgRecv; simp [hs])⟩

/-- the former witness of finding C04-incomplete-scalar-timespan (Scalar, and through it RichData, had Timespan values as instances
    but rejected the Timespan types; /repo fix "Scalar accepts the types of all the values it admits"): Scalar and RichData accept
    the detailed type of every Timespan value -/
theorem C04_scalar_timespan_repaired (cfg : Cfg) (sfh : Bool) (n : Int) (h1 : I64.min ≤ n) (h2 : n ≤ I64.max) :
    inst cfg sfh .scalar (.tspan n) = true ∧ asg cfg sfh .scalar (dtype cfg sfh (.tspan n)) = true ∧
    asg cfg sfh .richData (dtype cfg sfh (.tspan n)) = true := by
  refine ⟨by simp [inst, isScalarVal], ?_⟩
  simp only [dtype, ptype]
  refine scalar_rich_of_member cfg sfh (m := .tspan Rng.all) (by simp [scalarMembers]) rfl (asg_of_recv cfg sfh (.inl rfl) ?_)
  unfold asgRecv; simp only [Rng.sub, Rng.all, Bool.and_eq_true]; exact ⟨decide_eq_true h1, decide_eq_true h2⟩

/-! ### Timestamp (`Timestamp[min,max]`, instants counted in nanoseconds since 0001-01-01T00:00:00Z) -/
/-- Scalar, and RichData through it, accept the detailed type of every Timestamp value inside the default Timestamp type (from year 1 on) -/
theorem C04_scalar_timestamp (cfg : Cfg) (sfh : Bool) (n : Int) (h1 : tstampAll.lo ≤ n) (h2 : n ≤ tstampAll.hi) :
    inst cfg sfh .scalar (.tstamp n) = true ∧ asg cfg sfh .scalar (dtype cfg sfh (.tstamp n)) = true ∧
    asg cfg sfh .richData (dtype cfg sfh (.tstamp n)) = true := by
  refine ⟨by simp [inst, isScalarVal], ?_⟩
  simp only [dtype, ptype]
  refine scalar_rich_of_member cfg sfh (m := .tstamp tstampAll) (by simp [scalarMembers]) rfl (asg_of_recv cfg sfh (.inl rfl) ?_)
  unfold asgRecv; simp only [Rng.sub, Bool.and_eq_true]; exact ⟨decide_eq_true h1, decide_eq_true h2⟩

/-- OBSERVATION (defect candidate, notes/defects/defect-C04-timestamp-before-year1.md; model and implementation agree): an instant BEFORE year 1 is a
    Timestamp value (`time.Time` holds it, the text format parses it) that Scalar admits as an instance while rejecting its detailed type —
    the default Timestamp type starts at `MinTime` = year 1 — so the fourth law fails there.  The generators keep to the years 0001..9999. -/
theorem C04_accepts_complete_fails_timestamp_before_year1 :
    inst idCfg4 true .scalar (.tstamp (-5000000000)) = true ∧
    asg idCfg4 true .scalar (dtype idCfg4 true (.tstamp (-5000000000))) = false ∧
    inst idCfg4 true (.tstamp tstampAll) (.tstamp (-5000000000)) = false := by
  refine ⟨by simp [inst, isScalarVal], ?_, ?_⟩
  · simp [dtype, ptype, asg, asgRecv, sameNullary, isStringFamily, Rng.sub, tstampAll]
  · simp [inst, Rng.contains, tstampAll]

theorem C04_accepts_complete_fails_object :
    inst idCfg4 true (.object none) (.typ .str) = true ∧ asg idCfg4 true (.object none) (dtype idCfg4 true (.typ .str)) = false := by
  constructor
  · simp [inst]
  · simp [dtype, ptype, asg, asgRecv, sameNullary]

/-! ### known finding C04-dtype-emptykey-sfh: the SECOND law is false of the code on the class `C04_dtype` excludes.
    The detailed type of a hash keyed by strings only with the empty string among them is `Hash[Enum[keys], fold commonType over the
    detailed types of the values]`; `commonType` returns the argument that accepts the other one, and a Struct whose members are all
    optional accepts ANY Hash type of fitting size through the exempt Struct-from-Hash rule — so the fold answers a Struct that the
    other hash is not an instance of.  Witness (found by the thorough tier on the implementation):
    `{'B' => {'' => 0}, '' => {'ab' => undef}}`, detailed type `Hash[Enum['B',''], Struct[{Optional['ab'] => Undef}], 2, 2]`. -/
def ek_wv : Val := .hash [(.str "B", .hash [(.str "", .int 0)]), (.str "", .hash [(.str "ab", .undef)])]
theorem ek_uu : asg idCfg4 true .undef .undef = true := by simp [asg, sameNullary]
theorem ek_d1 : dtype idCfg4 true (.hash [(.str "", .int 0)]) = .hash (.strVal "") (.int ⟨0,0⟩) ⟨1,1⟩ := by
  simp [dtype, dtypeFoldK, dtypeFoldV, ptype, isStrKey, isEmptyStrKey, Rng.exact]
theorem ek_d2 : dtype idCfg4 true (.hash [(.str "ab", .undef)]) = .struct [("ab", true, .undef)] := by
  simp [dtype, dtypeM, ptype, isStrKey, isEmptyStrKey, keyName, ek_uu]
theorem ek_c1 : commonType idCfg4 true (Ty.strVal "B") (Ty.strVal "") = Ty.enum ["B", ""] false := by
  unfold commonType commonF
  simp [Ty.isUnit, asg, asgRecv, sameNullary]
theorem ek_a1 : asg idCfg4 true (Ty.struct [("ab", true, Ty.undef)]) ((Ty.strVal "").hash (Ty.int ⟨0,0⟩) ⟨1,1⟩) = true := by
  simp [asg, asgRecv, sameNullary, structReq, structSize, Rng.sub]
theorem ek_a2 : asg idCfg4 true ((Ty.strVal "").hash (Ty.int ⟨0,0⟩) ⟨1,1⟩) (Ty.struct [("ab", true, Ty.undef)]) = false := by
  simp [asg, asgRecv, sameNullary, structSize, Rng.sub]
theorem ek_c2 : commonType idCfg4 true ((Ty.strVal "").hash (Ty.int ⟨0,0⟩) ⟨1,1⟩) (Ty.struct [("ab", true, Ty.undef)]) = Ty.struct [("ab", true, Ty.undef)] := by
  unfold commonType commonF
  simp [Ty.isUnit, ek_a1, ek_a2]
theorem ek_d3 : dtype idCfg4 true ek_wv = .hash (.enum ["B", ""] false) (.struct [("ab", true, .undef)]) ⟨2,2⟩ := by
  simp [ek_wv, dtype, dtypeFoldK, dtypeFoldV, dtypeM, ptype, isStrKey, isEmptyStrKey, keyName, Rng.exact, ek_uu, ek_c1, ek_c2]
theorem ek_i3 : inst idCfg4 true (.hash (.enum ["B", ""] false) (.struct [("ab", true, .undef)]) ⟨2,2⟩) ek_wv = false := by
  simp [ek_wv, inst, instEntries, instStruct, hashGetW, keyIsStr, Rng.contains]
theorem ek_wvOK : ek_wv.OK := by
  unfold ek_wv
  refine Val.OK.hash _ ?_ ?_ ?_
  · intro n; simp [List.countP_cons, keyIs, keyIsStr]; split <;> split <;> (first | omega | (subst_vars; simp_all))
  · intro e he; simp at he; rcases he with rfl | rfl <;> exact Val.OK.str _
  · intro e he; simp at he
    rcases he with rfl | rfl
    · refine Val.OK.hash _ ?_ ?_ ?_
      · intro n; simp [List.countP_cons, keyIs, keyIsStr]; split <;> omega
      · intro e he; simp at he; subst he; exact Val.OK.str _
      · intro e he; simp at he; subst he; exact Val.OK.int _
    · refine Val.OK.hash _ ?_ ?_ ?_
      · intro n; simp [List.countP_cons, keyIs, keyIsStr]; split <;> omega
      · intro e he; simp at he; subst he; exact Val.OK.str _
      · intro e he; simp at he; subst he; exact Val.OK.undef
theorem C04_dtype_full_fails_emptykey : ¬ C04_dtype_full := by
  intro h
  have := h idCfg4 ek_wv ek_wvOK
  rw [ek_d3, ek_i3] at this
  exact absurd this (by decide)

/-! ### C04-common-iterable (REPAIRED in /repo: Iterable rules for Struct, Enum, Pattern): the former witness
    `commonType(Tuple[Hash[Any,Regexp[/b/],0,0], Struct[{}], 0, 2], Tuple[Iterable[Timespan[1,5]]])` is now a bound -/
theorem C04_common_iterable_repaired :
    asg idCfg4 true (.iterable (.tspan ⟨1, 5⟩)) (.struct []) = true := by
  simp [asg, asgRecv, sameNullary, iterMembers]

/-! ### known finding C04-common-unit (the exclusion of C01 / C03 seen through commonType): Unit is two-way assignable by definition,
    so a type that holds Unit (here a Variant with a Unit member) accepts every type and is accepted by every type; `commonType` returns
    the argument that accepts the other one, and the element fold of two Tuples passes through such a member to a type that rejects a
    declared element: `commonType(Tuple[Integer[0,7], Timespan[1,2]], Tuple[Variant[Pattern, Unit], Undef]) = Array[Scalar, 2, 2]`, which
    rejects the second Tuple (Undef is not a Scalar).  Found by the thorough tier on the implementation; `C04_common_partial` excludes
    exactly Unit (`Ty.TA`).  The statement of C04 has no exclusion for Unit, so the full fifth law is REFUTED of the code. -/
def cu_a : Ty := .tuple [.int ⟨0, 7⟩, .tspan ⟨1, 2⟩] none
def cu_b : Ty := .tuple [.variant [.pattern [], .unit], .undef] none
theorem cu_1 (n : Nat) : commonF idCfg4 true (n+1) (.int ⟨0, 7⟩) (.tspan ⟨1, 2⟩) = .scalar := by
  unfold commonF
  simp [commonTail, Ty.isUnit, asg, asgRecv, sameNullary, isStringFamily, Rng.sub, Rng.all, floatAll, I64.min, I64.max]
theorem cu_2 (n : Nat) : commonF idCfg4 true (n+1) (.variant [.pattern [], .unit]) .undef = .variant [.pattern [], .unit] := by
  unfold commonF
  simp [Ty.isUnit, asg, asgRecv, asgAnyL, sameNullary]
theorem cu_3 (n : Nat) : commonF idCfg4 true (n+1) .scalar (.variant [.pattern [], .unit]) = .scalar := by
  unfold commonF
  simp [Ty.isUnit, asg, asgRecv, asgAllR, sameNullary, isStringFamily]
theorem cu_c : commonType idCfg4 true cu_a cu_b = .array .scalar ⟨2, 2⟩ := by
  simp [commonType, cu_a, cu_b, Ty.w, Ty.wl]
  unfold commonF
  simp [Ty.isUnit, asg, asgRecv, asgAnyL, asgAllR, sameNullary, tupleSize, tupZip, Rng.sub, Rng.exact, foldCet, cu_1, cu_2,
    cu_3, Rng.hull]
theorem cu_r : asg idCfg4 true (.array .scalar ⟨2, 2⟩) cu_b = false := by
  simp [cu_b, asg, asgRecv, asgAllR, sameNullary, isStringFamily, tupleSize, tupZip, Rng.sub, Rng.exact]
theorem C04_common_full_fails_unit : ¬ C04_common_full := by
  intro h
  have := (h idCfg4 cu_a cu_b (by simp [cu_a, Ty.WF]) (by simp [cu_b, Ty.WF])).2
  rw [cu_c, cu_r] at this
  exact absurd this (by decide)

end Pcore.Lat

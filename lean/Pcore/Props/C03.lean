import Pcore.Proofs.LatMono
import Pcore.Proofs.LatTransFrag
import Pcore.Proofs.LatReflAll
import Pcore.Proofs.LatWeaken
import Pcore.Proofs.LatCtx
set_option linter.unusedSimpArgs false
/-!
# C03 — Assignability is a preorder, monotone per constructor, consistent with equality

Property (properties.jsonl): for all types: A accepts every type equal to A, including a separately constructed or re-parsed copy, and
equal types accept each other; if A accepts B and B accepts C then A accepts C; and if A accepts B then F[..A..] accepts F[..B..] for
every covariant position (Array element, Hash key and value, Tuple slot, Struct member, Variant member, Optional, NotUndef, Type,
Sensitive, Iterable), widening a size or numeric range never turns acceptance into rejection, Any accepts everything, Variant[..A..]
accepts A, and Optional[A] accepts A and Undef.  Quantifier: all triples of types, all one-hole contexts.

All theorems hold for both settings of the exempt rule (`sfh`), every matcher and every `lower`; they are unbounded (induction on the
weight of the term).  `Ty.WF` = what the constructors guarantee (Struct names pairwise different, case-insensitive Enum values stored
lower-cased); `Ty.NoAlias` / `Ty.NoAliasR` = no built-in recursive alias (Data / RichData) inside the term / at a position the
right-hand decomposition of `GuardedIsAssignable` descends into (Data and RichData themselves are reflexive by the identity shortcut).

Full statement / proved / missing
* reflexivity — `C03_refl` PROVED for every well-formed term without Data/RichData inside (every constructor, any nesting).  A
  separately constructed or re-parsed copy is the same term, so this is "A accepts a copy of A".  `C03_refl_eq` PROVED: types that are
  `Equals` (`tyEq`, the mirror of every `Equals` method) accept each other, also when they are not the same term — permuted
  Variant/Enum/Pattern members, Tuple size given vs implied; also checked on the implementation for every generated pair (`eq-not-asg-*`).
  `C03_refl_all` PROVED: A accepts A for EVERY well-formed type, Data / RichData nested anywhere (`wv_all` / `wo_all`: a Variant / Optional accepts what a part accepts, whatever stands on the
  right-hand side); likewise `C03_refl_eq_all` (equal types accept each other),
  `C03_variant_all`, `C03_optional_all`, `C03_mono_variant_all`, `C03_mono_optional_all` without the `NoAlias` / `NoAliasR` side conditions.
* laws — `C03_top`, `C03_unit`, `C03_variant`, `C03_optional` PROVED.
* monotonicity — PROVED for every covariant hole the property lists: `C03_mono_array`, `C03_mono_hash_key`, `C03_mono_hash_value`,
  `C03_mono_tuple` (any slot), `C03_mono_struct` (any member's value type), `C03_mono_variant`, `C03_mono_optional`, `C03_mono_notUndef`,
  `C03_mono_type`, `C03_mono_sensitive`, `C03_mono_iterable`, `C03_mono_iterator` (sibling parts reflexive by `C03_refl_all`).
* widening — PROVED for every range position: `C03_widen_int`, `_float`, `_timespan`, `_string`, `_collection`, `_array`, `_hash`, `_tuple`
  (an explicit Tuple size); `C03_widen_*_all`: the same for EVERY right-hand type (no `NoAliasR`: `left_weaken_all` takes the two aliases as
  extra hypotheses, vacuous for a receiver that rejects Undef).
* every one-hole context — `C03_mono_ctx` PROVED: `asg a b → asg (C.fill a) (C.fill b)` for every context `C` of covariant positions nested
  to any depth, siblings merely well-formed (aliases anywhere); `C03_mono_hash_key_all`, `_hash_value_all`, `_tuple_all`, `_struct_all` are
  the per-hole laws without `NoAlias`.
* transitivity — `C03_trans` is kept as a `def … : Prop`.  It is FALSE of the code: `C03_trans_fails_sfh` (PERMANENT: the by-specification
  Struct-from-Hash rule, known finding C03-trans-struct-from-hash).  The second former counterexample (Iterable had no Struct arm, finding
  C03-trans-iterable) was repaired in /repo: `C03_iterable_struct_repaired`.  `C03_trans_partial` is PROVED, unbounded, for both settings of the rule: on the fragment `Ty.TF` = hereditarily
  no Unit, Struct, Iterable, Data/RichData — i.e. Any, Undef, Default, Scalar, ScalarData, Numeric, Integer, Float, Boolean, Timespan,
  the whole String family (String, String[n,m], String['x'], Enum, Pattern), Regexp, Binary, Collection, Array, TUPLE, Hash,
  Variant, Optional, NotUndef (including its fall-through rule), Type, Sensitive, Object, arbitrarily nested — the right, then the middle
  type are decomposed exactly as `GuardedIsAssignable` does; Array and Tuple share one
  normal form (`recv_pos`: sizes, then the position loop over the declared types — `[elem]` for an Array, `[Any]` for an untyped Tuple),
  on which the loop is transitive because the bound of the second loop is the smaller one (`tupZip_trans`).  The Tuple stage was NOT
  provable of the original code: Array ⊒ Tuple and Tuple ⊒ Array compared declared types at positions no instance can have, and a typed
  Tuple rejected every untyped Tuple of non-zero size — three genuine transitivity defects, repaired in /repo (1901e0c).
  `C03_trans_struct_partial` PROVED, unbounded: the same on the fragment `Ty.TS sfh` = `Ty.TF` plus Iterable (both settings of the
  rule) plus, with the Struct-from-Hash rule OFF (`sfh = false`), Struct with members of any nesting, anywhere in the three terms; all
  three terms well-formed (the rules of Struct and Iterable receivers: Proofs/LatTransStruct, LatTransStep; how they compose is told at the theorem).
  With the rule ON a chain Iterable ⊒ Struct ⊒ Hash is a case of the permanent finding (Struct is outside `Ty.TS true`).
  `C03_trans_alias_partial` PROVED, unbounded, both settings of the rule: the fragment `Ty.TA sfh` = EVERY type of the model except
  Unit (two-way assignable by definition) and Callable — Data and RichData anywhere (receiver, middle, right, nested) — Struct only with the rule off,
  Tuple type lists of int64 length (every Go slice is; why it is needed is told at the theorem).
  ALL of these are instances, by inclusion of the fragment, of ONE theorem (`transU`, Proofs/LatTransU): `asg` is transitive on `Ty.TV` =
  everything but Unit, Struct with the rule on, and a Callable with a return type or block but no parameter list — aliases and Callables
  together, nested in each other.  Its induction is lexicographic: nesting level of Callables (carried by the fragment), weight of the left
  type, rank of the middle and right type (Proofs/LatTransD … LatTransDAlias, LatTransCall, over the receiver rules of Proofs/LatTransStep;
  the fragments of the property theorems and their inclusions: Proofs/LatTransFrag).
  `C03_trans_rule_off`: with the rule off `asg` is transitive on ALL well-formed types without Unit and Callable — among these the
  by-specification rule is the only source of intransitivity.  Missing from `transU`: nothing but Unit, with the rule ON Struct (permanent), and the Callable shape of
  `C03_trans_fails_callable` (permanent).  Transitivity is also checked on the implementation on related triples, sampled
  universe triples and EVERY triple of the positional universe (`lat.Positional`).
* second-tier types: Timestamp[min,max], Iterator[T], Runtime[runtime, name, pattern] are in ALL
  fragments (every theorem above covers them); CALLABLE[params, return, block] is inside the model (rule `callAcc`: parameters and block compared in
  reverse, absent parts) with reflexivity (`C03_refl_all`), equal types (`C03_refl_eq_all`), laws and monotonicity covering it, but OUTSIDE the
  fragment `Ty.TA`: `C03_trans_fails_callable` (known finding C03-trans-callable-top — a genuine intransitivity through the default Callable);
  `C03_trans_callable_partial` PROVED: transitivity on the fragment `Ty.TS` plus every Callable that is the default or has a parameter list — i.e.
  everywhere except the shape of the finding (`Ty.TSK` lies inside `Ty.TV`; the rule of a Callable receiver is `tr_callable_gen`, Proofs/LatTransCall.lean).
* no fault: `asg` and `tyEq` are total functions without a fault constructor; the nil dereference of `Tuple.Equals` was repaired (5e6c612).
-/
namespace Pcore.Lat

theorem C03_top (cfg : Cfg) (sfh : Bool) (b : Ty) : asg cfg sfh .any b = true := asg_any_l cfg sfh b
theorem C03_unit (cfg : Cfg) (sfh : Bool) (a : Ty) : asg cfg sfh a .unit = true := asg_unit_r cfg sfh a

/-! ### reflexivity and the Variant / Optional laws with the built-in aliases nested anywhere -/
/-- A accepts A for EVERY well-formed type: Data / RichData may be nested anywhere (below Variant / Optional / NotUndef included) -/
theorem C03_refl_all (cfg : Cfg) (sfh : Bool) (a : Ty) (hwf : Ty.WF cfg a) : asg cfg sfh a a = true :=
  asg_self cfg sfh a hwf

/-- equal types (`tyEq`, the mirror of every `Equals` method) accept each other — every well-formed pair, aliases nested anywhere -/
theorem C03_refl_eq_all (cfg : Cfg) (sfh : Bool) (a b : Ty) (wa : Ty.WF cfg a) (wb : Ty.WF cfg b)
    (h : tyEq a b = true) : asg cfg sfh a b = true ∧ asg cfg sfh b a = true :=
  asg_of_tyEq cfg sfh wa wb h

/-- non-vacuity: equal but different terms with an alias inside (permuted Variant members) -/
example : tyEq (.variant [.data, .tuple [.richData] none]) (.variant [.tuple [.richData] (some ⟨1, 1⟩), .data]) = true := by
  simp [tyEq, tyEqIncl, tyEqAny, tyEqL, tupleSize, Rng.exact]

theorem C03_variant_all (cfg : Cfg) (sfh : Bool) (ts : List Ty) (a : Ty) (hm : a ∈ ts) (hwf : Ty.WF cfg a) :
    asg cfg sfh (.variant ts) a = true := wv_all cfg sfh hm (C03_refl_all cfg sfh a hwf)

theorem C03_optional_all (cfg : Cfg) (sfh : Bool) (a : Ty) (hwf : Ty.WF cfg a) :
    asg cfg sfh (.optional a) a = true ∧ asg cfg sfh (.optional a) .undef = true :=
  ⟨wo_all cfg sfh (C03_refl_all cfg sfh a hwf), asg_optional_undef cfg sfh a⟩

/-- the two monotonicity laws that go through left-weakening, for any `b` (an alias on the right included) -/
theorem C03_mono_variant_all (cfg : Cfg) (sfh : Bool) (pre post : List Ty) (a b : Ty)
    (hsib : ∀ t ∈ pre ++ post, Ty.WF cfg t) (h : asg cfg sfh a b = true) :
    asg cfg sfh (.variant (pre ++ a :: post)) (.variant (pre ++ b :: post)) = true :=
  mono_variant cfg sfh pre post a b hsib h
theorem C03_mono_optional_all (cfg : Cfg) (sfh : Bool) (a b : Ty) (h : asg cfg sfh a b = true) :
    asg cfg sfh (.optional a) (.optional b) = true := mono_optional cfg sfh a b h

/-- non-vacuity: a well-formed type with both aliases below a Variant below an Optional -/
example (cfg : Cfg) : Ty.WF cfg (.optional (.variant [.data, .array .richData Rng.pos, .struct [("a", true, .data)]])) := by
  simp [Ty.WF]

/-! ### monotone per covariant hole (siblings merely well-formed), along every context; widening for every right-hand type -/
theorem C03_mono_hash_key_all (cfg : Cfg) (sfh : Bool) (k k' v : Ty) (r : Rng) (hwf : Ty.WF cfg v)
    (h : asg cfg sfh k k' = true) : asg cfg sfh (.hash k v r) (.hash k' v r) = true :=
  mono_hash cfg sfh k k' v v r h (C03_refl_all cfg sfh v hwf)
theorem C03_mono_hash_value_all (cfg : Cfg) (sfh : Bool) (k v v' : Ty) (r : Rng) (hwf : Ty.WF cfg k)
    (h : asg cfg sfh v v' = true) : asg cfg sfh (.hash k v r) (.hash k v' r) = true :=
  mono_hash cfg sfh k k v v' r (C03_refl_all cfg sfh k hwf) h
theorem C03_mono_tuple_all (cfg : Cfg) (sfh : Bool) (pre post : List Ty) (a b : Ty) (g : Option Rng)
    (hsib : ∀ t ∈ pre ++ post, Ty.WF cfg t) (h : asg cfg sfh a b = true) :
    asg cfg sfh (.tuple (pre ++ a :: post) g) (.tuple (pre ++ b :: post) g) = true :=
  mono_tuple cfg sfh pre post a b g hsib h
theorem C03_mono_struct_all (cfg : Cfg) (sfh : Bool) (pre post : List Member) (n : String) (o : Bool) (t t' : Ty)
    (hnd : NamesNodup (pre ++ (n, o, t) :: post))
    (hsib : ∀ m ∈ pre ++ post, Ty.WF cfg m.2.2) (h : asg cfg sfh t t' = true) :
    asg cfg sfh (.struct (pre ++ (n, o, t) :: post)) (.struct (pre ++ (n, o, t') :: post)) = true :=
  mono_struct cfg sfh pre post n o t t' hnd hsib h

/-- MONOTONE ALONG EVERY ONE-HOLE CONTEXT (the property's quantifier): `Ctx` = any nesting of the covariant positions (Array element,
    Hash key / value, Tuple slot, Struct member, Variant member, Optional, NotUndef, Type, Sensitive, Iterable); the sibling types along the
    path are well-formed (aliases allowed anywhere), Struct member names on the path pairwise different; `a`, `b` arbitrary -/
theorem C03_mono_ctx (cfg : Cfg) (sfh : Bool) (C : Ctx) (a b : Ty) (hC : C.WF cfg) (h : asg cfg sfh a b = true) :
    asg cfg sfh (C.fill a) (C.fill b) = true := mono_ctx cfg sfh a b h C hC

/-- non-vacuity: the context Array[Struct[{k => Variant[Data, Tuple[String, □]]}], 0, 5] is well-formed, and filled with Integer it is
    the expected type -/
example (cfg : Cfg) :
    (Ctx.array (.struct [] "k" false (.variant [.data] (.tuple [.str] .hole [] none) []) [("z", true, .richData)]) ⟨0, 5⟩).WF cfg ∧
    (Ctx.array (.struct [] "k" false (.variant [.data] (.tuple [.str] .hole [] none) []) [("z", true, .richData)]) ⟨0, 5⟩).fill (.int Rng.all)
      = .array (.struct [("k", false, .variant [.data, .tuple [.str, .int Rng.all] none]), ("z", true, .richData)]) ⟨0, 5⟩ := by
  constructor
  · simp [Ctx.WF, Ty.WF]
  · simp [Ctx.fill]

/-- widening a range in the receiver never turns acceptance into rejection — for EVERY right-hand type `b` (Data / RichData, or a Variant /
    Optional / NotUndef holding them, included): a range-carrying receiver rejects Undef, hence both aliases, so the alias cases of the
    left-weakening principle are vacuous (`left_weaken_nu`) -/
theorem C03_widen_int_all (cfg : Cfg) (sfh : Bool) (r r' : Rng) (hr : r'.sub r = true) (b : Ty)
    (h : asg cfg sfh (.int r) b = true) : asg cfg sfh (.int r') b = true := (Wider.int hr).accepts cfg sfh b h
theorem C03_widen_float_all (cfg : Cfg) (sfh : Bool) (lo hi lo' hi' : Fl) (hlo : lo' ≤ lo) (hhi : hi ≤ hi') (b : Ty)
    (h : asg cfg sfh (.float lo hi) b = true) : asg cfg sfh (.float lo' hi') b = true :=
  (Wider.float hlo hhi).accepts cfg sfh b h
theorem C03_widen_timespan_all (cfg : Cfg) (sfh : Bool) (r r' : Rng) (hr : r'.sub r = true) (b : Ty)
    (h : asg cfg sfh (.tspan r) b = true) : asg cfg sfh (.tspan r') b = true := (Wider.tspan hr).accepts cfg sfh b h
theorem C03_widen_string_all (cfg : Cfg) (sfh : Bool) (r r' : Rng) (hr : r'.sub r = true) (b : Ty)
    (h : asg cfg sfh (.strSz r) b = true) : asg cfg sfh (.strSz r') b = true := (Wider.strSz hr).accepts cfg sfh b h
theorem C03_widen_collection_all (cfg : Cfg) (sfh : Bool) (r r' : Rng) (hr : r'.sub r = true) (b : Ty)
    (h : asg cfg sfh (.coll r) b = true) : asg cfg sfh (.coll r') b = true := (Wider.coll hr).accepts cfg sfh b h
theorem C03_widen_array_all (cfg : Cfg) (sfh : Bool) (e : Ty) (r r' : Rng) (hr : r'.sub r = true) (b : Ty)
    (h : asg cfg sfh (.array e r) b = true) : asg cfg sfh (.array e r') b = true := (Wider.array e hr).accepts cfg sfh b h
theorem C03_widen_tuple_all (cfg : Cfg) (sfh : Bool) (ts : List Ty) (r r' : Rng) (hr : r'.sub r = true) (b : Ty)
    (h : asg cfg sfh (.tuple ts (some r)) b = true) : asg cfg sfh (.tuple ts (some r')) b = true :=
  (Wider.tuple ts hr).accepts cfg sfh b h
theorem C03_widen_hash_all (cfg : Cfg) (sfh : Bool) (k v : Ty) (r r' : Rng) (hr : r'.sub r = true) (b : Ty)
    (h : asg cfg sfh (.hash k v r) b = true) : asg cfg sfh (.hash k v r') b = true := (Wider.hash k v hr).accepts cfg sfh b h

/-- non-vacuity: `Collection[0,5] ⊒ Variant[Array[Data,1,2], Hash[String,RichData,0,3]]` (aliases below a Variant on the right) and
    `[0,5] ⊆ [0,9]` -/
example (cfg : Cfg) :
    asg cfg true (.coll ⟨0, 5⟩) (.variant [.array .data ⟨1, 2⟩, .hash .str .richData ⟨0, 3⟩]) = true ∧ Rng.sub ⟨0, 9⟩ ⟨0, 5⟩ = true := by
  constructor
  · simp [asg, asgRecv, asgAllR, sameNullary, Rng.sub]
  · simp [Rng.sub]

/-! ### reflexivity and the Variant / Optional laws with the side condition `NoAlias` (special cases of the laws above) -/
/-- A accepts A (hence every separately built or re-parsed copy, which is the same term) -/
theorem C03_refl (cfg : Cfg) (sfh : Bool) (a : Ty) (hwf : Ty.WF cfg a) (hna : a.NoAlias) : asg cfg sfh a a = true :=
  C03_refl_all cfg sfh a hwf

/-- non-vacuity: a well-formed term without aliases -/
def exT : Ty := .variant [.tuple [.int ⟨0, 5⟩, .optional .str] none, .struct [("a", false, .enum ["x"] true)]]
example (cfg : Cfg) (h : cfg.lower "x" = "x") : Ty.WF cfg exT ∧ exT.NoAlias := by
  constructor <;> simp [exT, Ty.WF, Ty.NoAlias, h]

/-- equal types accept each other: `tyEq` mirrors every `Equals` method (Variant / Enum / Pattern as equal length + inclusion both ways,
    Tuple by the given-or-implied size, Struct member by member), so this covers types that are equal without being the same term -/
theorem C03_refl_eq (cfg : Cfg) (sfh : Bool) (a b : Ty) (wa : Ty.WF cfg a) (wb : Ty.WF cfg b) (na : a.NoAlias) (nb : b.NoAlias)
    (h : tyEq a b = true) : asg cfg sfh a b = true ∧ asg cfg sfh b a = true :=
  C03_refl_eq_all cfg sfh a b wa wb h

/-- non-vacuity: equal but different terms (permuted Variant members, Tuple size given vs implied) -/
example : tyEq (.variant [.str, .tuple [.int ⟨0, 1⟩] none]) (.variant [.tuple [.int ⟨0, 1⟩] (some ⟨1, 1⟩), .str]) = true := by
  simp [tyEq, tyEqIncl, tyEqAny, tyEqL, tupleSize, Rng.exact]

theorem C03_variant (cfg : Cfg) (sfh : Bool) (ts : List Ty) (a : Ty) (hm : a ∈ ts) (hwf : Ty.WF cfg a) (hna : a.NoAlias) :
    asg cfg sfh (.variant ts) a = true :=
  C03_variant_all cfg sfh ts a hm hwf

theorem C03_optional (cfg : Cfg) (sfh : Bool) (a : Ty) (hwf : Ty.WF cfg a) (hna : a.NoAlias) :
    asg cfg sfh (.optional a) a = true ∧ asg cfg sfh (.optional a) .undef = true :=
  C03_optional_all cfg sfh a hwf

/-! ### monotone per covariant hole: the holes that need no sibling, and the laws above with the side conditions `NoAlias` / `NoAliasR` -/
theorem C03_mono_array (cfg : Cfg) (sfh : Bool) (a b : Ty) (r : Rng) (h : asg cfg sfh a b = true) :
    asg cfg sfh (.array a r) (.array b r) = true := mono_array cfg sfh a b r h
theorem C03_mono_hash_key (cfg : Cfg) (sfh : Bool) (k k' v : Ty) (r : Rng) (hwf : Ty.WF cfg v) (hna : v.NoAlias)
    (h : asg cfg sfh k k' = true) : asg cfg sfh (.hash k v r) (.hash k' v r) = true :=
  C03_mono_hash_key_all cfg sfh k k' v r hwf h
theorem C03_mono_hash_value (cfg : Cfg) (sfh : Bool) (k v v' : Ty) (r : Rng) (hwf : Ty.WF cfg k) (hna : k.NoAlias)
    (h : asg cfg sfh v v' = true) : asg cfg sfh (.hash k v r) (.hash k v' r) = true :=
  C03_mono_hash_value_all cfg sfh k v v' r hwf h
theorem C03_mono_variant (cfg : Cfg) (sfh : Bool) (pre post : List Ty) (a b : Ty) (hb : b.NoAliasR)
    (hsib : ∀ t ∈ pre ++ post, Ty.WF cfg t ∧ t.NoAlias) (h : asg cfg sfh a b = true) :
    asg cfg sfh (.variant (pre ++ a :: post)) (.variant (pre ++ b :: post)) = true :=
  C03_mono_variant_all cfg sfh pre post a b (fun t ht => (hsib t ht).1) h
theorem C03_mono_tuple (cfg : Cfg) (sfh : Bool) (pre post : List Ty) (a b : Ty) (g : Option Rng)
    (hsib : ∀ t ∈ pre ++ post, Ty.WF cfg t ∧ t.NoAlias) (h : asg cfg sfh a b = true) :
    asg cfg sfh (.tuple (pre ++ a :: post) g) (.tuple (pre ++ b :: post) g) = true :=
  C03_mono_tuple_all cfg sfh pre post a b g (fun t ht => (hsib t ht).1) h
theorem C03_mono_struct (cfg : Cfg) (sfh : Bool) (pre post : List Member) (n : String) (o : Bool) (t t' : Ty)
    (hnd : NamesNodup (pre ++ (n, o, t) :: post))
    (hsib : ∀ m ∈ pre ++ post, Ty.WF cfg m.2.2 ∧ m.2.2.NoAlias) (h : asg cfg sfh t t' = true) :
    asg cfg sfh (.struct (pre ++ (n, o, t) :: post)) (.struct (pre ++ (n, o, t') :: post)) = true :=
  C03_mono_struct_all cfg sfh pre post n o t t' hnd (fun m hm => (hsib m hm).1) h
theorem C03_mono_optional (cfg : Cfg) (sfh : Bool) (a b : Ty) (hb : b.NoAliasR) (h : asg cfg sfh a b = true) :
    asg cfg sfh (.optional a) (.optional b) = true :=
  C03_mono_optional_all cfg sfh a b h
theorem C03_mono_notUndef (cfg : Cfg) (sfh : Bool) (a b : Ty) (h : asg cfg sfh a b = true) :
    asg cfg sfh (.notUndef a) (.notUndef b) = true := mono_notUndef cfg sfh a b h
theorem C03_mono_type (cfg : Cfg) (sfh : Bool) (a b : Ty) (h : asg cfg sfh a b = true) :
    asg cfg sfh (.typ a) (.typ b) = true := mono_typ cfg sfh a b h
theorem C03_mono_sensitive (cfg : Cfg) (sfh : Bool) (a b : Ty) (h : asg cfg sfh a b = true) :
    asg cfg sfh (.sensitive a) (.sensitive b) = true := mono_sensitive cfg sfh a b h
theorem C03_mono_iterable (cfg : Cfg) (sfh : Bool) (a b : Ty) (h : asg cfg sfh a b = true) :
    asg cfg sfh (.iterable a) (.iterable b) = true := mono_iterable cfg sfh a b h
/-- Iterator[T] is one more covariant hole; it is also a constructor of `Ctx` (`C03_mono_ctx`) -/
theorem C03_mono_iterator (cfg : Cfg) (sfh : Bool) (a b : Ty) (h : asg cfg sfh a b = true) :
    asg cfg sfh (.iterator a) (.iterator b) = true := mono_iterator cfg sfh a b h

/-! ### widening with the side condition `NoAliasR` on the right-hand type -/
theorem C03_widen_int (cfg : Cfg) (sfh : Bool) (r r' : Rng) (hr : r'.sub r = true) (b : Ty) (hb : b.NoAliasR)
    (h : asg cfg sfh (.int r) b = true) : asg cfg sfh (.int r') b = true :=
  C03_widen_int_all cfg sfh r r' hr b h
/-- non-vacuity of the premises -/
example (cfg : Cfg) : asg cfg true (.int ⟨0, 9⟩) (.int ⟨1, 2⟩) = true ∧ (Rng.sub ⟨-5, 20⟩ ⟨0, 9⟩ = true) := by
  constructor
  · simp [asg, asgRecv, sameNullary, Rng.sub]
  · simp [Rng.sub]
theorem C03_widen_float (cfg : Cfg) (sfh : Bool) (lo hi lo' hi' : Fl) (hlo : lo' ≤ lo) (hhi : hi ≤ hi') (b : Ty) (hb : b.NoAliasR)
    (h : asg cfg sfh (.float lo hi) b = true) : asg cfg sfh (.float lo' hi') b = true :=
  C03_widen_float_all cfg sfh lo hi lo' hi' hlo hhi b h
theorem C03_widen_timespan (cfg : Cfg) (sfh : Bool) (r r' : Rng) (hr : r'.sub r = true) (b : Ty) (hb : b.NoAliasR)
    (h : asg cfg sfh (.tspan r) b = true) : asg cfg sfh (.tspan r') b = true :=
  C03_widen_timespan_all cfg sfh r r' hr b h
theorem C03_widen_string (cfg : Cfg) (sfh : Bool) (r r' : Rng) (hr : r'.sub r = true) (b : Ty) (hb : b.NoAliasR)
    (h : asg cfg sfh (.strSz r) b = true) : asg cfg sfh (.strSz r') b = true :=
  C03_widen_string_all cfg sfh r r' hr b h
theorem C03_widen_collection (cfg : Cfg) (sfh : Bool) (r r' : Rng) (hr : r'.sub r = true) (b : Ty) (hb : b.NoAliasR)
    (h : asg cfg sfh (.coll r) b = true) : asg cfg sfh (.coll r') b = true :=
  C03_widen_collection_all cfg sfh r r' hr b h
theorem C03_widen_array (cfg : Cfg) (sfh : Bool) (e : Ty) (r r' : Rng) (hr : r'.sub r = true) (b : Ty) (hb : b.NoAliasR)
    (h : asg cfg sfh (.array e r) b = true) : asg cfg sfh (.array e r') b = true :=
  C03_widen_array_all cfg sfh e r r' hr b h
theorem C03_widen_tuple (cfg : Cfg) (sfh : Bool) (ts : List Ty) (r r' : Rng) (hr : r'.sub r = true) (b : Ty) (hb : b.NoAliasR)
    (h : asg cfg sfh (.tuple ts (some r)) b = true) : asg cfg sfh (.tuple ts (some r')) b = true :=
  C03_widen_tuple_all cfg sfh ts r r' hr b h
theorem C03_widen_hash (cfg : Cfg) (sfh : Bool) (k v : Ty) (r r' : Rng) (hr : r'.sub r = true) (b : Ty) (hb : b.NoAliasR)
    (h : asg cfg sfh (.hash k v r) b = true) : asg cfg sfh (.hash k v r') b = true :=
  C03_widen_hash_all cfg sfh k v r r' hr b h

/-! ### transitivity on the fragment `Ty.TF` (Tuples included) -/
theorem C03_trans_partial (cfg : Cfg) (sfh : Bool) (hl : ∀ s, (cfg.lower s).length = s.length) (a b c : Ty)
    (fa : a.TF) (fb : b.TF) (fc : c.TF) (wb : Ty.WF cfg b) (wc : Ty.WF cfg c)
    (h1 : asg cfg sfh a b = true) (h2 : asg cfg sfh b c = true) : asg cfg sfh a c = true :=
  trans_all cfg sfh hl (a.w + b.w + c.w) a b c (Nat.le_refl _) ⟨fa, fb, fc, wb, wc⟩ h1 h2

/-- non-vacuity: a chain inside the fragment with both premises true -/
example (cfg : Cfg) :
    (Ty.optional (.variant [.scalar, .array .any Rng.pos])).TF ∧ (Ty.variant [.enum ["a"] false, .undef]).TF ∧
    asg cfg true (.optional (.variant [.scalar, .array .any Rng.pos])) (.variant [.enum ["a"] false, .undef]) = true ∧
    asg cfg true (.variant [.enum ["a"] false, .undef]) (.strVal "a") = true := by
  refine ⟨by simp [Ty.TF], by simp [Ty.TF], ?_, ?_⟩
  · simp [asg, asgRecv, asgAnyL, asgAllR, sameNullary, isStringFamily]
  · simp [asg, asgRecv, asgAnyL, sameNullary, enumInst]

/-- non-vacuity with Tuples, on the chain that the original code broke: Array[Integer[0,9],0,1] ⊒ Tuple[Integer[0,9]] ⊒
    Tuple[Integer[0,9],String,1,1] (the String sits at a position no instance has) -/
example (cfg : Cfg) :
    (Ty.tuple [.int ⟨0, 9⟩, .str] (some ⟨1, 1⟩)).TF ∧
    asg cfg true (.array (.int ⟨0, 9⟩) ⟨0, 1⟩) (.tuple [.int ⟨0, 9⟩] none) = true ∧
    asg cfg true (.tuple [.int ⟨0, 9⟩] none) (.tuple [.int ⟨0, 9⟩, .str] (some ⟨1, 1⟩)) = true ∧
    asg cfg true (.array (.int ⟨0, 9⟩) ⟨0, 1⟩) (.tuple [.int ⟨0, 9⟩, .str] (some ⟨1, 1⟩)) = true := by
  refine ⟨by simp [Ty.TF], ?_, ?_, ?_⟩ <;>
    simp [asg, asgRecv, tupZip, sameNullary, tupleSize, Rng.exact, Rng.sub]

/-! ### transitivity: Iterable, and Struct when the Struct-from-Hash rule is off, inside the fragment -/
/-- Transitivity on the fragment `Ty.TS sfh` = `Ty.TF` plus Iterable plus, for `sfh = false`, Struct with members of any nesting: Struct ⊒ Struct
    (member lookup by name, optional / required keys, value types, the count of matched members), Collection / Hash ⊒ Struct (size
    range `[#required, #members]`, the member loop through key and value type), Variant / Optional / NotUndef / Any / Type[..] around
    them; a Struct accepts nothing but Structs when the rule is off; Iterable[x] ⊒ Array / Tuple / Hash / Struct / String family /
    Binary / Iterable.  For `sfh = true` the fragment has no Struct: `C03_trans_partial` plus Iterable. -/
theorem C03_trans_struct_partial (cfg : Cfg) (sfh : Bool) (hl : ∀ s, (cfg.lower s).length = s.length) (a b c : Ty)
    (fa : a.TS sfh) (fb : b.TS sfh) (fc : c.TS sfh) (wa : Ty.WF cfg a) (wb : Ty.WF cfg b) (wc : Ty.WF cfg c)
    (h1 : asg cfg sfh a b = true) (h2 : asg cfg sfh b c = true) : asg cfg sfh a c = true :=
  transGK cfg sfh hl a b c (Ty.TS.tsK cfg sfh a fa) (Ty.TS.tsK cfg sfh b fb) (Ty.TS.tsK cfg sfh c fc) wa wb wc h1 h2

/-- non-vacuity: Hash[String, Variant[Integer,String], 1, 2] ⊒ Struct[{a=>Integer, Optional[b]=>String}] ⊒ Struct[{a=>Integer[0,9]}]
    (the optional member is dropped, the required one narrowed), all three in the fragment and well-formed -/
example (cfg : Cfg) :
    (Ty.hash .str (.variant [.int Rng.all, .str]) ⟨1, 2⟩).TS false ∧
    (Ty.struct [("a", false, .int Rng.all), ("b", true, .str)]).TS false ∧ (Ty.struct [("a", false, .int ⟨0, 9⟩)]).TS false ∧
    Ty.WF cfg (.struct [("a", false, .int Rng.all), ("b", true, .str)]) ∧
    asg cfg false (.hash .str (.variant [.int Rng.all, .str]) ⟨1, 2⟩) (.struct [("a", false, .int Rng.all), ("b", true, .str)]) = true ∧
    asg cfg false (.struct [("a", false, .int Rng.all), ("b", true, .str)]) (.struct [("a", false, .int ⟨0, 9⟩)]) = true := by
  refine ⟨by simp [Ty.TS], by simp [Ty.TS], by simp [Ty.TS], by simp [Ty.WF], ?_, ?_⟩
  · simp [asg, asgRecv, asgAnyL, sameNullary, asgMembers, structSize, Rng.sub, Rng.all, isStringFamily]
  · simp [asg, asgRecv, sameNullary, structAll, structMember, distinctCount, Rng.sub, Rng.all, I64.min, I64.max]

/-- non-vacuity, nested: Variant[Struct[{a=>Struct[{x=>Scalar}]}], Undef] ⊒ Optional[Struct[{a=>Struct[{x=>String}]}]] ⊒
    Struct[{a=>Struct[{x=>Enum['p']}]}] -/
example (cfg : Cfg) :
    (Ty.variant [.struct [("a", false, .struct [("x", false, .scalar)])], .undef]).TS false ∧
    asg cfg false (.variant [.struct [("a", false, .struct [("x", false, .scalar)])], .undef])
      (.optional (.struct [("a", false, .struct [("x", false, .str)])])) = true ∧
    asg cfg false (.optional (.struct [("a", false, .struct [("x", false, .str)])]))
      (.struct [("a", false, .struct [("x", false, .enum ["p"] false)])]) = true := by
  refine ⟨by simp [Ty.TS], ?_, ?_⟩
  · simp [asg, asgRecv, asgAnyL, sameNullary, structAll, structMember, distinctCount, isStringFamily]
  · simp [asg, asgRecv, asgAnyL, sameNullary, structAll, structMember, distinctCount, isStringFamily]

/-- non-vacuity with Iterable (in the fragment for both settings of the rule), on the chain that was the second former counterexample:
    Iterable[Tuple[Scalar, Any]] ⊒ Hash[String, Integer, 0, 5] ⊒ Struct[{a=>Integer[0,9]}] (rule off), and with the rule on
    Iterable[Scalar] ⊒ Array[String, 0, 3] ⊒ Tuple[Enum['a'], String[1,1]] -/
example (cfg : Cfg) :
    (Ty.iterable (.tuple [.scalar, .any] none)).TS false ∧ (Ty.iterable .scalar).TS true ∧
    asg cfg false (.iterable (.tuple [.scalar, .any] none)) (.hash .str (.int Rng.all) ⟨0, 5⟩) = true ∧
    asg cfg false (.hash .str (.int Rng.all) ⟨0, 5⟩) (.struct [("a", false, .int ⟨0, 9⟩)]) = true ∧
    asg cfg true (.iterable .scalar) (.array .str ⟨0, 3⟩) = true ∧
    asg cfg true (.array .str ⟨0, 3⟩) (.tuple [.enum ["a"] false, .strSz ⟨1, 1⟩] none) = true := by
  refine ⟨by simp [Ty.TS], by simp [Ty.TS], ?_, ?_, ?_, ?_⟩
  · simp [asg, asgRecv, tupZip, sameNullary, tupleSize, Rng.exact, Rng.sub, isStringFamily]
  · simp [asg, asgRecv, sameNullary, asgMembers, structSize, Rng.sub, Rng.all, I64.min, I64.max, isStringFamily]
  · simp [asg, asgRecv, sameNullary, isStringFamily]
  · simp [asg, asgRecv, tupZip, sameNullary, tupleSize, Rng.exact, Rng.sub, isStringFamily]

/-! ### transitivity: the built-in recursive aliases Data / RichData inside the fragment -/
/-- Transitivity on the fragment `Ty.TA sfh`: EVERY type of the model except Unit (hereditarily), with Struct only when the
    Struct-from-Hash rule is off, Tuple type lists of int64 length.  Data and RichData may stand anywhere — as the receiver (one of the
    scalar members accepts, or the alias' own `Array[al]` / `Hash[key, al]` member does), in the middle, on the right (every member is
    accepted; the unmodelled TypeSet / Deferred members of RichData as `accTypeSet` / `accDeferred`), nested.  The induction is
    lexicographic (weight of the left type, then a rank of the middle and right type in which the alias' own members rank below the
    alias); the model's specialised `asgToArr` / `asgToHash` / `asgToEntry` are shown to BE `asg` against the member written as a type
    term (`asgToArr_eq`, `asgToHash_eq`, `asgToEntry_eq`) — which needs the int64 bound on Tuple lengths: the model compares a Tuple with
    `Array[al, 0, MaxInt64]` at ALL its positions, the general Tuple-vs-Array rule only below MaxInt64. -/
theorem C03_trans_alias_partial (cfg : Cfg) (sfh : Bool) (hl : ∀ s, (cfg.lower s).length = s.length) (a b c : Ty)
    (fa : a.TA sfh) (fb : b.TA sfh) (fc : c.TA sfh) (wa : Ty.WF cfg a) (wb : Ty.WF cfg b) (wc : Ty.WF cfg c)
    (h1 : asg cfg sfh a b = true) (h2 : asg cfg sfh b c = true) : asg cfg sfh a c = true :=
  transD cfg sfh hl a b c fa fb fc wa wb wc h1 h2

/-- the rule-off relation: `asg false` is transitive on all well-formed types without Unit (Tuple lists of int64
    length) — the by-specification Struct-from-Hash rule is the ONLY source of intransitivity in the model (`C03_trans_fails_sfh`) -/
theorem C03_trans_rule_off (cfg : Cfg) (hl : ∀ s, (cfg.lower s).length = s.length) (a b c : Ty)
    (fa : a.TA false) (fb : b.TA false) (fc : c.TA false) (wa : Ty.WF cfg a) (wb : Ty.WF cfg b) (wc : Ty.WF cfg c)
    (h1 : asg cfg false a b = true) (h2 : asg cfg false b c = true) : asg cfg false a c = true :=
  C03_trans_alias_partial cfg false hl a b c fa fb fc wa wb wc h1 h2

def dataUnfolded : Ty := .variant [.scalarData, .undef, .array .data Rng.pos, .hash .str .data Rng.pos]

/-- non-vacuity with the aliases (rule on): the unfolded Data ⊒ Data ⊒ Array[Integer[0,9], 0, 5] -/
example (cfg : Cfg) :
    dataUnfolded.TA true ∧ Ty.data.TA true ∧ (Ty.array (.int ⟨0, 9⟩) ⟨0, 5⟩).TA true ∧
    asg cfg true dataUnfolded .data = true ∧ asg cfg true .data (.array (.int ⟨0, 9⟩) ⟨0, 5⟩) = true ∧
    asg cfg true dataUnfolded (.array (.int ⟨0, 9⟩) ⟨0, 5⟩) = true := by
  refine ⟨by simp [dataUnfolded, Ty.TA], by simp [Ty.TA], by simp [Ty.TA], ?_, ?_, ?_⟩
  · simp [dataUnfolded, asg, asgRecv, asgAnyL, asgToArr, asgToArrAny, asgToHash, asgToHashAny, sameNullary, isStringFamily, floatAll,
      Rng.sub, Rng.pos, Alias.ty, Alias.key]
  · simp [asg, asgRecv, sameNullary, isStringFamily, floatAll, Rng.sub, Rng.pos, Rng.all, I64.max, I64.min]
  · simp [dataUnfolded, asg, asgRecv, asgAnyL, sameNullary, isStringFamily, floatAll, Rng.sub, Rng.pos, Rng.all, I64.max, I64.min]

/-- non-vacuity (rule off, RichData, an alias in the middle under a Variant, a Struct on the right):
    Optional[RichData] ⊒ Variant[Data, Binary] ⊒ Struct[{a => Tuple[String, Undef]}] -/
example (cfg : Cfg) :
    (Ty.optional .richData).TA false ∧ (Ty.struct [("a", false, .tuple [.str, .undef] none)]).TA false ∧
    asg cfg false (.optional .richData) (.variant [.data, .bin]) = true ∧
    asg cfg false (.variant [.data, .bin]) (.struct [("a", false, .tuple [.str, .undef] none)]) = true := by
  refine ⟨by simp [Ty.TA], by simp [Ty.TA, I64.max], ?_, ?_⟩
  · simp [asg, asgRecv, asgAllR, asgAnyL, asgToArr, asgToArrAny, asgToHash, asgToHashAny, sameNullary, isStringFamily, floatAll,
      Rng.sub, Rng.pos, Alias.ty, Alias.key]
  · simp [asg, asgRecv, asgAllR, asgAnyL, asgMembers, tupZip, tupleSize, structSize, Rng.exact, sameNullary, isStringFamily, floatAll,
      Rng.sub, Rng.pos, Rng.all, I64.max, I64.min]

def C03_trans : Prop :=
  ∀ (cfg : Cfg) (sfh : Bool) (a b c : Ty), Ty.WF cfg a → Ty.WF cfg b → Ty.WF cfg c →
    asg cfg sfh a b = true → asg cfg sfh b c = true → asg cfg sfh a c = true

def idCfg3 : Cfg := { rxMatch := fun _ _ => false, lower := id }

/-- PERMANENT counterexample (no defect): Struct[{a=>Integer}] ⊒ Hash[String,Integer,1,1] ⊒ Struct[{b=>Integer}], not transitively -/
theorem C03_trans_fails_sfh :
    ∃ a b c : Ty, asg idCfg3 true a b = true ∧ asg idCfg3 true b c = true ∧ asg idCfg3 true a c = false :=
  ⟨.struct [("a", false, .int Rng.all)], .hash .str (.int Rng.all) ⟨1, 1⟩, .struct [("b", false, .int Rng.all)], by
    simp [asg, asgRecv, sameNullary, structReq, structSize, Rng.sub, Rng.all, isStringFamily], by
    simp [asg, asgRecv, sameNullary, asgMembers, structSize, Rng.sub, Rng.all, isStringFamily], by
    simp [asg, asgRecv, sameNullary, structAll, structMember, distinctCount]⟩

theorem C03_trans_false : ¬ C03_trans := by
  intro h
  have := h idCfg3 true (.struct [("a", false, .int Rng.all)]) (.hash .str (.int Rng.all) ⟨1, 1⟩)
    (.struct [("b", false, .int Rng.all)]) (by simp [Ty.WF]) (by simp [Ty.WF]) (by simp [Ty.WF])
    (by simp [asg, asgRecv, sameNullary, structReq, structSize, Rng.sub, Rng.all, isStringFamily])
    (by simp [asg, asgRecv, sameNullary, asgMembers, structSize, Rng.sub, Rng.all, isStringFamily])
  simp [asg, asgRecv, sameNullary, structAll, structMember, distinctCount] at this

/-- REPAIRED in /repo (fix: Iterable rules for Struct, Enum and Pattern): Iterable accepts Hash (through its entry tuple), Hash
    accepts Struct, and Iterable had no Struct rule — the former known finding
    C03-trans-iterable closes, as does the chain Iterable[String[1,1]] ⊒ String ⊒ Enum -/
theorem C03_iterable_struct_repaired :
    asg idCfg3 true (.iterable .any) (.hash .any .any Rng.pos) = true ∧
    asg idCfg3 true (.hash .any .any Rng.pos) (.struct [("a", false, .any)]) = true ∧
    asg idCfg3 true (.iterable .any) (.struct [("a", false, .any)]) = true ∧
    asg idCfg3 true (.iterable (.strSz ⟨1, 1⟩)) (.enum ["ab"] false) = true := by
  refine ⟨?_, ?_, ?_, ?_⟩
  · simp [asg, asgRecv, sameNullary]
  · simp [asg, asgRecv, sameNullary, asgMembers, structSize, Rng.sub, Rng.pos, I64.max]
  · simp [asg, asgRecv, sameNullary, iterMembers]
  · simp [asg, asgRecv, sameNullary, Rng.sub]

/-- KNOWN FINDING C03-trans-callable-top (defect report
    notes/defects/defect-C03-callable-return-only.md): `CallableType.IsAssignable` is not transitive through the default Callable.  A Callable that
    constrains only its return type — `Callable` with return type Any, parameters and block absent; only the Go constructor makes one —
    accepts the default Callable (return: Any accepts Any; parameters and block: both absent), the default accepts EVERY Callable (first
    test of the rule), but the first rejects `Callable[String]` (the other says something about its parameters, this one nothing).
    Holds for both settings of the Struct-from-Hash rule; Callable is therefore outside the fragments `Ty.TF`, `Ty.TS`, `Ty.TA`, and
    `C03_trans_callable_partial` admits every Callable but this shape. -/
theorem C03_trans_fails_callable (sfh : Bool) :
    asg idCfg3 sfh (.callable none (some .any) none) (.callable none none none) = true ∧
    asg idCfg3 sfh (.callable none none none) (.callable (some (.tuple [.str] none)) none none) = true ∧
    asg idCfg3 sfh (.callable none (some .any) none) (.callable (some (.tuple [.str] none)) none none) = false := by
  refine ⟨?_, ?_, ?_⟩ <;> simp [asg, asgRecv, sameNullary]

/-- TRANSITIVITY WITH CALLABLE, everywhere except the shape of the finding: on the fragment `Ty.TSK cfg sfh` = the fragment of `C03_trans_struct_partial` (`Ty.TS`:
    everything but Unit and the aliases; Struct with the rule off; Iterable) PLUS Callable types each of which is the default Callable or says
    something about its PARAMETERS (nested Callables — block types, Callables inside parameter lists — included).  The excluded Callables,
    with parameters absent but a return type or a block present, are exactly the left types of `C03_trans_fails_callable`.  The return types
    compose directly (an absent return type of the middle Callable stands for Any, and what accepts Any accepts everything); the parameter
    and block tests are made IN REVERSE and compose the other way round — the nesting level of Callables, carried by the fragment of `transU`,
    takes the swap: the parts lie one level down, where transitivity holds for every triple. -/
theorem C03_trans_callable_partial (cfg : Cfg) (sfh : Bool) (hl : ∀ s, (cfg.lower s).length = s.length) (a b c : Ty)
    (fa : a.TSK cfg sfh) (fb : b.TSK cfg sfh) (fc : c.TSK cfg sfh) (wa : Ty.WF cfg a) (wb : Ty.WF cfg b) (wc : Ty.WF cfg c)
    (h1 : asg cfg sfh a b = true) (h2 : asg cfg sfh b c = true) : asg cfg sfh a c = true :=
  transGK cfg sfh hl a b c fa fb fc wa wb wc h1 h2

/-- non-vacuity: Callable[[String], Scalar] ⊒ Callable[[Scalar], String] ⊒ Callable[[Any], String['a']] (blocks absent) — parameters
    widen, return types narrow; and nested under an Array -/
example (cfg : Cfg) :
    (Ty.array (.callable (some (.tuple [.str] none)) (some .scalar) none) Rng.pos).TSK cfg true ∧
    (Ty.callable (some (.tuple [.any] none)) (some (.strVal "a")) none).TSK cfg true ∧
    asg cfg true (.callable (some (.tuple [.str] none)) (some .scalar) none) (.callable (some (.tuple [.scalar] none)) (some .str) none) = true ∧
    asg cfg true (.callable (some (.tuple [.scalar] none)) (some .str) none) (.callable (some (.tuple [.any] none)) (some (.strVal "a")) none) = true := by
  refine ⟨by simp [Ty.TSK], by simp [Ty.TSK], ?_, ?_⟩ <;>
    simp [asg, asgRecv, tupZip, sameNullary, tupleSize, Rng.exact, Rng.sub, isStringFamily]

end Pcore.Lat

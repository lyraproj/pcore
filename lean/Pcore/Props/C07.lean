import Pcore.Proofs.ValueEqKey
import Pcore.Generated.KeyTable
import Pcore.Proofs.ValueEqCache
import Pcore.Generated.CacheFacts
/-!
# C07 — Equality is an equivalence relation and hash keys respect it

Property (properties.jsonl): equality between values (types included) is reflexive, symmetric and transitive, gives the
same answer whichever operand receives the call, and does not depend on hidden state.  Two values have the same hash
key exactly when they are equal, so a Hash finds a key iff it contains an equal key, and uniqueness / de-duplication
neither merge distinct values nor keep equal ones apart (NaN and Sensitive excepted).

Model: `Pcore/Model/ValueEq.lean` — `veq` (the `Equals` methods), `key`/`kb` (`px.ToKey` byte for byte), `hashGet`,
`unique`; Timespan (compared and keyed by whole seconds) and Timestamp values; types as values (`tyEq`, `tyKey`) for 38 type
kinds: Any Undef String String[size] String['v'] Integer Float Enum Array Variant Tuple Optional Type, Default Unit Scalar ScalarData
Numeric Binary Data RichData SemVerRange, Boolean Collection NotUndef Sensitive Iterable Iterator Regexp Pattern TypeReference
SemVer[range] Hash Like Runtime Callable Struct Init[T];
URI, SemVer, SemVerRange (`Model/ValueEqVer.lean`: `semver.NewVersion3`, `Version.Equals/ToString`, `VersionRange.Equals/ToNormalizedString`),
TypedName, Deferred, Parameter and instances of Object types (no hash key: `key = none`, i.e. `INVALID_MAP_KEY`);
the lazily built index of a Hash (`Model/ValueEqCache.lean`).
The value-level model has no hidden state: `Equals`/`ToKey` are functions of the value; the cache layer (`CHash`) adds the one
cache those methods read, and the theorems of the section "hidden state" say that it never matters; that the implementation
agrees with the model before and after forcing its caches is, beyond that, what the correspondence run checks.

`Comparable x` (`cmp`): integers are int64, floats are 64 bits and not NaN, no Sensitive anywhere (the two exceptions
the property states), a Tuple type has at most 2^63-1 members, every Hash is a well-formed map (no two entries indexed
under the same key bytes), a SemVer is one `NewVersion3` can return (`verOk`), and the value HAS a hash key (no TypedName,
Deferred or Parameter in it).  `EqComparable x` (`ecmp`) is the same without the last demand.
The hypotheses are defined beside their lemmas: `cmp` / `ecmp` in `Proofs/ValueEq`, `TyWF` in `Proofs/ValueEqTy`, `segOk` / `verOk`
in `Proofs/ValueEqVerStr`, `objWF` in `Proofs/ValueEqObj`, `TopSafe` and `TypeKeysAgree` in `Proofs/ValueEqKey`.

Full statement / proved / missing
* `C07_refl`, `C07_symm`, `C07_trans` — **proved** for all comparable values, every nesting, cross-kind Array/HashEntry
  pairs and types included.  `C07_symm` is the "whichever operand receives the call" clause: `veq x y` is `x.Equals(y)`.
* `C07_refl_all`, `C07_symm_all`, `C07_trans_all` — **proved** for all `EqComparable` values: the same three laws for the
  values that have an `Equals` but no hash key (TypedName, Deferred, Parameter, and everything that contains one).
* `C07_verStr_injective`, `C07_normStr_injective`, `C07_parseInt_intStr`, `C07_newVersion3_ok`, `C07_semver_key_iff`,
  `C07_range_key_iff` — **proved**: what makes SemVer and SemVerRange values `Comparable` (their keys are injective prints).
  `C07_range_original_repaired`: the former witnesses of finding C07-semver-range-original-key (found in this slice, /repo 2f932dc).
* `C07_key_inj` — **proved**: equal keys ⇒ equal values (nothing distinct is ever merged), for all comparable `x y`
  outside the raw-string class (`TopSafe`).
* `C07_key_iff_topsafe` — **proved**: `key x = key y ↔ veq x y` for all comparable values under `TopSafe x y`, the one
  hypothesis that excludes exactly the known finding C07-raw-string-key; `C07_key_iff_full` is the statement without it and
  `C07_key_iff_fails_raw_string` refutes it (`C07_not_key_iff_full`).  (`C07_key_iff` is the same with the further
  hypothesis `TypeKeysAgree`, which holds for all comparable values: `TypeKeysAgree_of_comparable`.)
* `C07_type_key_iff` — **proved**: the key of a type decides `Equals` EXACTLY (`tyKey a = tyKey b ↔ tyEq a b`), Variant and Enum
  included: their members enter the key as a set of a given size — the count, then the distinct element keys in ascending
  order (`appendUnorderedTypeParamKeys`, the /repo fix of the former finding C07-type-member-order; the canonical-form
  lemma is `dedupS_sortB_eq_iff`).  It ranges over the 38 type kinds listed above; `C07_member_order_repaired`,
  `C07_callable_key_iff`, `C07_semver_type_repaired`, `C07_runtime_repaired`, `C07_callable_repaired`,
  `C07_struct_key_repaired` are the former witnesses of the findings about types, all repaired in /repo.
* `C07_get_sound`, `C07_get_complete`, `C07_get` — **proved**: `Hash.Get` finds ⇔ an equal key is present, and returns
  that entry's value.
* `C07_unique_sub`, `C07_unique_cover`, `C07_unique_distinct` — **proved**: the survivors are a sub-sequence of the
  input, every input is equal to a survivor, no two survivors are equal.
* `C07_uvarint_prefix_code`, `C07_frame_prefix_code`, `C07_frames_injective` — **proved**: the length prefix of a container
  element is Go's uvarint (modelled bit for bit: 7-bit groups with continuation bit) and is a prefix code for every length;
  `C07_key_inj` rests on these, not on an assumption.
* `C07_no_fault` — **proved**: `px.ToKey` of a comparable value does not panic.
* `C07_key_table_ok`, `C07_prefixes_distinct`, `C07_type_names_ok` — **proved by `decide` over the table regenerated from /repo on every run**
  (`Generated/KeyTable.lean`: the `HkXxx` constants and the leading bytes each `ToKey` writes): they are the bytes the
  model writes, the sixteen kinds have pairwise distinct two-byte heads, and every type key starts with the name the Go
  `Name()` method returns.  A change of a prefix byte in the code breaks
  this obligation.
* `C07_get/includes/equals_cache_independent`, `C07_forced_same`, `C07_includes_key`, `C07_put_coherent`,
  `C07_stale_index_breaks`, `C07_cache_fields_ok` — **proved**: the hidden-state clause for the Hash index.
* missing: reflected objects; the types outside the model (URI[..], Init with arguments, Timespan / Timestamp ranges, TypeSet, Object
  and alias types): no theorem, only the harness predicate where generated (known findings
  there: C07-object-type-identity-key, C07-timestamp-type-zone-key, C07-uri-type-param-order).  The range grammar
  (`ParseVersionRange`), `net/url` and `objectType.Equals` are outside the model (an op states what they answer, checked on
  every run).  The caches other than the Hash index: by correspondence only.
-/
namespace Pcore.ValueEq

/-- equal type keys ⇒ Equal types, the direction of `tyKey_iff` that says no Hash or `Unique` merges two types -/
theorem tyKey_sound : ∀ a b, TyWF a = true → TyWF b = true → tyKey a = tyKey b → tyEq a b = true :=
  fun a b ha hb => (tyKey_iff a b ha hb).mp

/-! ## equivalence -/

theorem C07_refl (x : Val) (h : Comparable x) : veq x x = true := veq_refl_e x (ecmp_of_cmp x h)

theorem C07_symm (x y : Val) (hx : Comparable x) (hy : Comparable y) : veq x y = veq y x :=
  veq_symm_e x y (ecmp_of_cmp x hx) (ecmp_of_cmp y hy)

theorem C07_trans (x y z : Val) (hx : Comparable x) (hy : Comparable y)
    (h1 : veq x y = true) (h2 : veq y z = true) : veq x z = true :=
  veq_trans_e x y z (ecmp_of_cmp x hx) (ecmp_of_cmp y hy) h1 h2

/-! ### the same three laws for every value that HAS an `Equals`, whether or not it has a hash key

`EqComparable` is `Comparable` without "has a hash key": SemVer, SemVerRange (whatever string it was parsed from), TypedName,
Deferred and Parameter values and instances of Object types are inside (at any depth of arrays, hash VALUES, entries, Deferred
arguments, Parameter values, attribute values).  `C07_refl/symm/trans` are the special cases (`C07_eqComparable_of_comparable`). -/

theorem C07_eqComparable_of_comparable (x : Val) (h : Comparable x) : EqComparable x := ecmp_of_cmp x h

theorem C07_refl_all (x : Val) (h : EqComparable x) : veq x x = true := veq_refl_e x h

theorem C07_symm_all (x y : Val) (hx : EqComparable x) (hy : EqComparable y) : veq x y = veq y x := veq_symm_e x y hx hy

theorem C07_trans_all (x y z : Val) (hx : EqComparable x) (hy : EqComparable y)
    (h1 : veq x y = true) (h2 : veq y z = true) : veq x z = true := veq_trans_e x y z hx hy h1 h2

/-! instances of Object types are inside the three laws too (`EqComparable` asks of an instance what `px.New` guarantees: unique
    attribute names, distinct equality positions inside the type, one value per attribute).  `attributeSlice.Equals` compares by
    position for the same type and by attribute NAME across two types that both declare `equality_include_type => false`; both
    branches say "every participating name/value pair of the receiver has an Equal partner of the same name in the argument"
    (`veq_obj_view`), and symmetry is the counting argument between two views of the same size (`viewLe_symm`).
    Non-vacuity: `E{a, b; equality [a]}` and `F{b, a; equality [a]}`, neither including the type: `E(1, 2)`, `F(3, 1)`, `E(1, 9)`
    are pairwise Equal, `E(2, 2)` is not, nor is any instance of a type that includes its type in equality -/

def otE : OType := ⟨[0x45], false, [[0x61], [0x62]], [0]⟩
def otF : OType := ⟨[0x46], false, [[0x62], [0x61]], [1]⟩
def otA : OType := ⟨[0x41], true, [[0x61], [0x62]], [0, 1]⟩
example : EqComparable (.obj otE [.int 1, .int 2]) ∧ EqComparable (.obj otF [.int 3, .int 1]) ∧
    EqComparable (.array [.obj otA [.obj otE [.int 1, .int 2], .hash [(.str [0x61], .obj otF [.int 3, .int 1])]]]) ∧
    ¬ EqComparable (.obj otE [.int 1]) ∧ ¬ EqComparable (.obj ⟨[0x45], false, [[0x61], [0x61]], [0]⟩ [.int 1, .int 2]) := by decide
example : veq (.obj otE [.int 1, .int 2]) (.obj otF [.int 3, .int 1]) = true ∧
    veq (.obj otF [.int 3, .int 1]) (.obj otE [.int 1, .int 9]) = true ∧
    veq (.obj otE [.int 2, .int 2]) (.obj otF [.int 3, .int 1]) = false ∧
    veq (.obj otA [.int 1, .int 2]) (.obj otE [.int 1, .int 2]) = false ∧
    key (.obj otE [.int 1, .int 2]) = none := by decide
example : veq (.obj otF [.int 3, .int 1]) (.obj otE [.int 1, .int 2]) = true :=
  (C07_symm_all _ _ (by decide) (by decide)).symm.trans (by decide)
example : veq (.obj otE [.int 1, .int 2]) (.obj otE [.int 1, .int 9]) = true :=
  C07_trans_all _ (.obj otF [.int 3, .int 1]) _ (by decide) (by decide) (by decide) (by decide)

/-! the hypotheses are met by values that are not `Comparable`: a Deferred whose argument is a Hash with a
    SemVer value, a Parameter with a Variant type in another member order, a TypedName in another letter case -/

def sampleD : Val :=
  .deferred [0x66] [.hash [(.str [0x61], .semver ⟨1, 0, 0, some [.txt [0x72, 0x63], .num (-5)], none⟩)],
    .param [0x70] (.var [.str, .int 1 2]) true (.tname [] [0x74] [0x46, 0x6f, 0x6f]) false]
def sampleD' : Val :=
  .deferred [0x66] [.hash [(.str [0x61], .semver ⟨1, 0, 0, some [.txt [0x72, 0x63], .num (-5)], none⟩)],
    .param [0x70] (.var [.int 1 2, .str]) true (.tname [] [0x74] [0x66, 0x4f, 0x4f]) false]
example : EqComparable sampleD ∧ EqComparable sampleD' ∧ ¬ Comparable sampleD := by decide
example : veq sampleD sampleD' = true ∧ veq sampleD' sampleD = true := by decide
example : veq sampleD' sampleD = true := (C07_symm_all _ _ (by decide) (by decide)).symm.trans (by decide)
example : key sampleD = none := by decide

/-! ## the length framing: `binary.PutUvarint` is modelled, and proved to be a prefix code (nothing is assumed) -/

/-- `uvarint` (7-bit groups, least significant first, high bit = continuation — `Model.uvarintAux`) is uniquely
    decodable from the front of any byte string: for ALL lengths, whatever follows -/
theorem C07_uvarint_prefix_code (n m : Nat) (x y : Bytes) (h : uvarint n ++ x = uvarint m ++ y) : n = m ∧ x = y :=
  uvarint_decode h

/-- hence a framed element key `<uvarint length><key>` can be split off the front of a container key in one way only -/
theorem C07_frame_prefix_code (a b x y : Bytes) (h : frame a ++ x = frame b ++ y) : a = b ∧ x = y := frame_decode h

/-- and a concatenation of frames determines the list of framed keys -/
theorem C07_frames_injective (as bs : List Bytes) (h : flat (as.map frame) = flat (bs.map frame)) : as = bs :=
  flat_frames_inj as bs h

/-- the encoding at the boundaries of the length field (one, two and three bytes) is Go's -/
example : uvarint 0 = [0] ∧ uvarint 127 = [0x7f] ∧ uvarint 128 = [0x80, 0x01] ∧ uvarint 255 = [0xff, 0x01] ∧
    uvarint 256 = [0x80, 0x02] ∧ uvarint 300 = [0xac, 0x02] ∧ uvarint 16383 = [0xff, 0x7f] ∧
    uvarint 16384 = [0x80, 0x80, 0x01] := by decide
-- 64 booleans in a nested array (256 bytes of frames) do not collide with the regrouped `[[], true × 64]`
set_option maxRecDepth 20000 in
example : kb (.array [.array (List.replicate 64 (.bool true))]) ≠
    kb (.array (.array [] :: List.replicate 64 (.bool true))) := by decide

/-! ## keys -/

/-- `px.ToKey` of a comparable value does not panic -/
theorem C07_no_fault (x : Val) (h : Comparable x) : key x = some (kb x) := key_of_cmp h

/-- equal keys ⇒ equal: a Hash or `Unique` never takes two different values for one -/
theorem C07_key_inj (x y : Val) (hx : Comparable x) (hy : Comparable y) (ts : TopSafe x y)
    (h : key x = key y) : veq x y = true := by
  rw [key_of_cmp hx, key_of_cmp hy, Option.some.injEq] at h
  exact (kb_eq_iff_veq x y hx hy ts).mp h

set_option linter.unusedVariables false in
theorem C07_key_iff (x y : Val) (hx : Comparable x) (hy : Comparable y) (ts : TopSafe x y) (tk : TypeKeysAgree x y) :
    key x = key y ↔ veq x y = true := by
  rw [key_of_cmp hx, key_of_cmp hy, Option.some.injEq]
  exact kb_eq_iff_veq x y hx hy ts

/-- the property as stated, without the exclusion `TopSafe` -/
def C07_key_iff_full : Prop := ∀ x y : Val, Comparable x → Comparable y → (key x = key y ↔ veq x y = true)

/-- known finding C07-raw-string-key: the string `"\x01u"` has the key of `undef` -/
theorem C07_key_iff_fails_raw_string :
    ∃ x y : Val, Comparable x ∧ Comparable y ∧ key x = key y ∧ veq x y = false :=
  ⟨.str [1, 0x75], .undef, by decide, by decide, by decide, by decide⟩

/-- the former witnesses of finding C07-type-member-order (Variant / Enum equality looked at the members as a set, their keys
    listed them in order; /repo fix "the key of a Variant, Enum or Pattern type does not depend on the member order"):
    `Variant[Integer[1,2],String]` and `Variant[String,Integer[1,2]]` have one key, `Unique` keeps one of two Enums that
    differ in order only, and a repeated member does not matter beyond the count -/
theorem C07_member_order_repaired :
    key (.typ (.var [.int 1 2, .str])) = key (.typ (.var [.str, .int 1 2])) ∧
    (unique [.typ (.enum false [[0x61], [0x62]]), .typ (.enum false [[0x62], [0x61]])]).length = 1 ∧
    key (.typ (.var [.str, .str, .undef])) = key (.typ (.var [.str, .undef, .undef])) ∧
    veq (.typ (.var [.str, .str, .undef])) (.typ (.var [.str, .undef, .undef])) = true ∧
    key (.typ (.var [.str, .undef])) ≠ key (.typ (.var [.str, .undef, .undef])) := by decide

theorem C07_not_key_iff_full : ¬ C07_key_iff_full := by
  intro h
  obtain ⟨x, y, hx, hy, hk, hv⟩ := C07_key_iff_fails_raw_string
  have := (h x y hx hy).mp hk
  rw [hv] at this; cases this

/-- the former witnesses of finding C07-semver-range-original-key (the key of a SemVerRange was the string it was parsed from,
    `Equals` compares the parsed ranges; /repo fix 2f932dc "the key is the normalized form"): `SemVerRange('1.x')` and the
    same ranges without an original string are Equal and now have ONE key, `Unique` keeps one, a Hash keyed by one finds
    the other -/
def rangeOneX : Val := .vrange [0x31, 0x2e, 0x78] [.se ⟨.ge, ⟨1, 0, 0, none, none⟩⟩ ⟨.lt, ⟨2, 0, 0, none, none⟩⟩]
def rangeOneN : Val := .vrange [] [.se ⟨.ge, ⟨1, 0, 0, none, none⟩⟩ ⟨.lt, ⟨2, 0, 0, none, none⟩⟩]
theorem C07_range_original_repaired :
    Comparable rangeOneX ∧ Comparable rangeOneN ∧ veq rangeOneX rangeOneN = true ∧ veq rangeOneN rangeOneX = true ∧
    key rangeOneX = key rangeOneN ∧ (key rangeOneX).isSome = true ∧
    (unique [rangeOneX, rangeOneN]).length = 1 ∧ (hashGet [(rangeOneX, .int 1)] rangeOneN).isSome = true := by decide

/-- the same finding seen through `Hash.Get` and `Unique` -/
theorem C07_get_fails_raw_string :
    (hashGet [(.undef, .int 1)] (.str [1, 0x75])).isSome = true ∧ veq .undef (.str [1, 0x75]) = false := by decide
theorem C07_unique_fails_raw_string :
    (unique [.undef, .str [1, 0x75]]).length = 1 ∧ veq .undef (.str [1, 0x75]) = false := by decide

/-- sufficient conditions for the two hypotheses -/
theorem TopSafe_of_not_str {x y : Val} (hx : isStr x = false) (hy : isStr y = false) : TopSafe x y := by
  constructor
  · intro s h _; rw [h] at hx; simp [isStr] at hx
  · intro s h _; rw [h] at hy; simp [isStr] at hy

theorem TopSafe_of_str (s s' : Bytes) : TopSafe (.str s) (.str s') := by
  constructor
  · intro _ _ h; simp [isStr] at h
  · intro _ _ h; simp [isStr] at h

theorem TypeKeysAgree_of_no_types {x y : Val} (h : typesIn x = [] ∨ typesIn y = []) : TypeKeysAgree x y := by
  intro a ha b hb
  rcases h with h | h
  · rw [h] at ha; cases ha
  · rw [h] at hb; cases hb

/-! ## types: the key decides `Equals` exactly -/

theorem C07_type_key_iff (a b : Ty) (ha : TyWF a = true) (hb : TyWF b = true) :
    tyKey a = tyKey b ↔ tyEq a b = true := tyKey_iff a b ha hb

/-- these type kinds are inside `tyEq` / `tyKey` (so inside `C07_type_key_iff` and, as values, inside
    every theorem about `Comparable` values): Default Unit Scalar ScalarData Numeric Binary Data RichData SemVerRange,
    Boolean[v], Collection[size], NotUndef Sensitive Iterable Iterator, String[size], String['v'], Regexp[/p/], Pattern (a set of
    a given size, like Enum), TypeReference, SemVer[range].  Non-vacuity: member order of a Pattern, the String['v'] handed out
    as the string 'v' by Optional and NotUndef, a negative String size bound, a wrapper of Any -/
example : TyWF (.pattern [[0x61], [0x62], [0x61]]) = true ∧
    tyEq (.pattern [[0x61], [0x62], [0x61]]) (.pattern [[0x62], [0x61], [0x62]]) = true ∧
    tyKey (.pattern [[0x61], [0x62], [0x61]]) = tyKey (.pattern [[0x62], [0x61], [0x62]]) ∧
    tyKey (.pattern [[0x61], [0x62]]) ≠ tyKey (.pattern [[0x61], [0x62], [0x62]]) := by decide
example : tyKey (.opt (.strVal [0x61])) ≠ tyKey (.opt (.enum false [[0x61]])) ∧
    tyKey (.un .notUndef (.strVal [0x61])) ≠ tyKey (.un .sensitive (.strVal [0x61])) ∧
    tyKey (mkStr (-5) 2 []) = tyKey (mkStr 0 2 []) ∧ tyKey (mkStr 0 maxInt []) = tyKey .str := by decide
example : tyKey (.typ (.strVal [0x61])) = tyKey (.typ (.strVal [0x61])) :=
  (C07_type_key_iff _ _ (by decide) (by decide)).mpr (by decide)
example : tyEq (.un .notUndef (.var [.strVal [0x61], .nul .binary])) (.un .notUndef (.var [.nul .binary, .strVal [0x61]])) = true ∧
    TyWF (.un .notUndef (.var [.strVal [0x61], .nul .binary])) = true := by decide
example : tyKey (.un .notUndef (.var [.strVal [0x61], .nul .binary])) = tyKey (.un .notUndef (.var [.nul .binary, .strVal [0x61]])) :=
  (C07_type_key_iff _ _ (by decide) (by decide)).mpr (by decide)

/-- the former witnesses of finding C07-semver-type-all-equal (`SemVerType.Equals` was a bare type assertion: any two SemVer types
    were Equal, their keys differed; /repo fix 1eb7fb4): `SemVer['1.x']` and `SemVer['2.x']` are no longer Equal, neither is the
    default `SemVer`; `SemVer['1.x']` and the same ranges written `>=1.0.0 <2.0.0` are Equal and have ONE key -/
def semverOneX : Ty := .semverT [0x31, 0x2e, 0x78] [.se ⟨.ge, ⟨1, 0, 0, none, none⟩⟩ ⟨.lt, ⟨2, 0, 0, none, none⟩⟩]
def semverOneN : Ty := .semverT [] [.se ⟨.ge, ⟨1, 0, 0, none, none⟩⟩ ⟨.lt, ⟨2, 0, 0, none, none⟩⟩]
def semverTwoX : Ty := .semverT [0x32, 0x2e, 0x78] [.se ⟨.ge, ⟨2, 0, 0, none, none⟩⟩ ⟨.lt, ⟨3, 0, 0, none, none⟩⟩]
theorem C07_semver_type_repaired :
    TyWF semverOneX = true ∧ TyWF semverTwoX = true ∧ TyWF (.semverT [0x2a] matchAllR) = true ∧
    tyEq semverOneX semverTwoX = false ∧ tyEq (.semverT [0x2a] matchAllR) semverOneX = false ∧
    tyEq semverOneX semverOneN = true ∧ tyKey semverOneX = tyKey semverOneN ∧ tyKey semverOneX ≠ tyKey semverTwoX ∧
    tyKey (.semverT [0x2a] matchAllR) = [1, 0x74] ++ ekStr [0x53, 0x65, 0x6d, 0x56, 0x65, 0x72] := by decide

/-- Hash[K, V, size], Like[T, 'nav'] and Runtime['rt', 'name', Regexp[/p/]] are inside `tyEq` / `tyKey` too.  Non-vacuity: the
    default Hash, the empty Hash type `Hash[0, 0]` (Unit, Unit, [0,0]: its parameters are the two integers), member order inside -/
example : TyWF (.hash (.var [.str, .undef]) (.int 1 2) 0 3) = true ∧
    tyEq (.hash (.var [.str, .undef]) (.int 1 2) 0 3) (.hash (.var [.undef, .str]) (.int 1 2) 0 3) = true := by decide
example : tyKey (.hash (.var [.str, .undef]) (.int 1 2) 0 3) = tyKey (.hash (.var [.undef, .str]) (.int 1 2) 0 3) :=
  (C07_type_key_iff _ _ (by decide) (by decide)).mpr (by decide)
example : tyKey (.hash .any .any 0 maxInt) ≠ tyKey (.hash (.nul .unit) (.nul .unit) 0 0) ∧
    tyKey (.hash (.nul .unit) (.nul .unit) 0 0) ≠ tyKey (.hash .any (.nul .unit) 0 0) ∧
    tyKey (.like .str [0x61]) ≠ tyKey (.like .str [0x62]) ∧ tyKey (.like .any []) ≠ tyKey (.like .any [0x61]) := by decide

/-- the former witnesses of the findings C07-runtime-empty-name-key and C07-runtime-equals-nil-pattern (/repo fix 1cd0d3f):
    `Runtime['', 'x']`, `Runtime['', 'y']` and `Runtime` are pairwise not Equal and now have three keys;
    a Runtime with a pattern against the same without one is not Equal, in both orders, without a fault -/
theorem C07_runtime_repaired :
    tyEq (.runtime [] [0x78] none) (.runtime [] [0x79] none) = false ∧ tyEq (.runtime [] [0x78] none) (.runtime [] [] none) = false ∧
    tyKey (.runtime [] [0x78] none) ≠ tyKey (.runtime [] [0x79] none) ∧ tyKey (.runtime [] [0x78] none) ≠ tyKey (.runtime [] [] none) ∧
    tyKey (.runtime [] [0x79] none) ≠ tyKey (.runtime [] [] none) ∧
    tyEq (.runtime [0x72] [0x78] (some [0x79])) (.runtime [0x72] [0x78] none) = false ∧
    tyEq (.runtime [0x72] [0x78] none) (.runtime [0x72] [0x78] (some [0x79])) = false ∧
    tyKey (.runtime [0x72] [0x78] (some [0x79])) ≠ tyKey (.runtime [0x72] [0x78] none) ∧
    tyKey (.runtime [0x72] [] (some [0x78])) ≠ tyKey (.runtime [0x72] [0x78] none) := by decide

/-- Struct types are inside `tyEq` / `tyKey` (`C07_type_key_iff`): members compared IN ORDER by key type and value type; the key
    is the number of members, then per member its entry key (the plain name, or the type `Optional['name']` / `NotUndef['name']`
    when "optional key" and "the value accepts undef" disagree) and its value type, each delimited.
    The former witnesses of finding C07-type-param-hash-undelimited (the entry keys were written as printed text, undelimited;
    /repo fix 61b915c): a member name that swallows "\x03<framed Integer key>b", and a member literally named `Optional['a']`
    against the optional member `a` — never Equal, and now with different keys -/
def structAB : Ty := .struct [([0x61], false, .int minInt maxInt), ([0x62], false, .str)]
def structSwallow : Ty :=
  .struct [([0x61, 0x03, 0x0c, 0x01, 0x74, 0x09, 0x01, 0x73, 0x49, 0x6e, 0x74, 0x65, 0x67, 0x65, 0x72, 0x62], false, .str)]
theorem C07_struct_key_repaired :
    TyWF structAB = true ∧ TyWF structSwallow = true ∧ tyEq structAB structSwallow = false ∧ tyKey structAB ≠ tyKey structSwallow ∧
    tyEq (.struct [([0x61], true, .int 1 2)]) (.struct [([0x4f, 0x70, 0x74, 0x69, 0x6f, 0x6e, 0x61, 0x6c, 0x5b, 0x27, 0x61, 0x27, 0x5d], false, .int 1 2)]) = false ∧
    tyKey (.struct [([0x61], true, .int 1 2)]) ≠
      tyKey (.struct [([0x4f, 0x70, 0x74, 0x69, 0x6f, 0x6e, 0x61, 0x6c, 0x5b, 0x27, 0x61, 0x27, 0x5d], false, .int 1 2)]) ∧
    tyKey (.struct [([0x61], false, .int 1 2), ([0x62], false, .str)]) ≠ tyKey (.struct [([0x62], false, .str), ([0x61], false, .int 1 2)]) := by decide
example : tyKey (.struct [([0x61], true, .var [.str, .undef])]) = tyKey (.struct [([0x61], true, .var [.undef, .str])]) :=
  (C07_type_key_iff _ _ (by decide) (by decide)).mpr (by decide)
example : acceptsUndef (.var [.str, .undef]) = true ∧ acceptsUndef (.var [.str, .int 1 2]) = false ∧
    (mkStructElem [0x61] 0 (.opt .str)).2.1 = true ∧ (mkStructElem [0x61] 0 .str).2.1 = false := by decide

/-- the former witnesses of the findings C07-callable-all-equal (`CallableType.Equals` was a bare type assertion; /repo fix
    3d635fb) and C07-callable-parameters-key (the key was built from `Parameters()`, which drops Unit members and an implied
    Tuple size; /repo fix a044786): `Callable` and `Callable[String]` are no longer Equal; `Callable[Unit, String]` and
    `Callable[String]` (never Equal) now have different keys; `Unique` keeps what is distinct, a Hash finds what is equal -/
def calD : Ty := .callable false [] false .any false .any
def calT (ts : List Ty) : Ty := .callable true ts false .any false .any
theorem C07_callable_repaired :
    tyEq calD (calT [.str]) = false ∧ tyEq (calT [.str]) calD = false ∧
    tyEq (calT [.str]) (calT [.int 1 2]) = false ∧ tyEq (calT [.str]) (calT [.str]) = true ∧
    tyKey calD ≠ tyKey (calT [.str]) ∧
    tyEq (calT [.nul .unit, .str]) (calT [.str]) = false ∧
    tyKey (calT [.nul .unit, .str]) ≠ tyKey (calT [.str]) ∧
    tyKey (calT [.str, .nul .unit]) ≠ tyKey (calT [.nul .unit, .str]) ∧
    tyKey (calT []) ≠ tyKey calD ∧
    (unique [.typ (calT [.str]), .typ (calT [.nul .unit, .str]), .typ (calT [.str])]).length = 2 ∧
    (hashGet [(.typ (calT [.str]), .int 1)] (.typ (calT [.nul .unit, .str]))).isSome = false ∧
    TyWF (calT [.nul .unit, .str]) = true := by decide

/-- the full statement for the Callable family: an instance of `C07_type_key_iff` -/
def C07_callable_key_iff_full : Prop :=
  ∀ (h h' : Bool) (ts us : List Ty) (hr hr' : Bool) (r r' : Ty) (hb hb' : Bool) (b b' : Ty),
    TyWF (.callable h ts hr r hb b) = true → TyWF (.callable h' us hr' r' hb' b') = true →
    (tyKey (.callable h ts hr r hb b) = tyKey (.callable h' us hr' r' hb' b') ↔
      tyEq (.callable h ts hr r hb b) (.callable h' us hr' r' hb' b') = true)
theorem C07_callable_key_iff : C07_callable_key_iff_full := fun _ _ _ _ _ _ _ _ _ _ _ _ ha hb => C07_type_key_iff _ _ ha hb
/-- with a return and a block type: `Callable[[String], Variant[String,Undef], Callable[String]]` in another member order -/
example : tyKey (.callable true [.str] true (.var [.str, .undef]) true (calT [.str])) =
    tyKey (.callable true [.str] true (.var [.undef, .str]) true (calT [.str])) :=
  (C07_type_key_iff _ _ (by decide) (by decide)).mpr (by decide)
example : tyKey (.callable true [.str] true .str false .any) ≠ tyKey (.callable true [.str] false .any true .str) ∧
    tyEq (.callable true [.str] true .str false .any) (.callable true [.str] false .any false .any) = false ∧
    tyEq (.callable false [] true .str false (.int 1 2)) (.callable false [.undef] true .str false .str) = true := by decide
example : tyKey (calT [.var [.str, .undef], .int 1 2]) = tyKey (calT [.var [.undef, .str], .int 1 2]) :=
  (C07_type_key_iff _ _ (by decide) (by decide)).mpr (by decide)

/-- `Init` / `Init[T]` (without arguments) is inside too: the absent type is not the type Any -/
example : tyEq (.init false .any) (.init true .any) = false ∧ tyKey (.init false .any) ≠ tyKey (.init true .any) ∧
    tyEq (.init true (.var [.str, .undef])) (.init true (.var [.undef, .str])) = true := by decide
example : tyKey (.init true (.var [.str, .undef])) = tyKey (.init true (.var [.undef, .str])) :=
  (C07_type_key_iff _ _ (by decide) (by decide)).mpr (by decide)

/-- two values have the same hash key exactly when they are equal — for all comparable values outside the raw-string class -/
theorem C07_key_iff_topsafe (x y : Val) (hx : Comparable x) (hy : Comparable y) (ts : TopSafe x y) :
    key x = key y ↔ veq x y = true :=
  C07_key_iff x y hx hy ts (TypeKeysAgree_of_comparable hx hy)

/-! ## URI, SemVer, SemVerRange

A URI, a SemVer as `semver.NewVersion3` makes it (`verOk`: Go ints, parts matching the two part patterns, a part that
`strconv.ParseInt` accepts held as an int) and a SemVerRange of such versions (`arOk`), whatever string it was parsed from,
are `Comparable`, so every
theorem above and below speaks about them at any nesting depth.  What that rests on: the printed form of a version and the
normalized form of a range are injective (`%d` is read back by `ParseInt`; the separators `.` `-` `+` blank `||` cannot occur
inside a part). -/

/-- `version.ToString` determines the version: distinct versions never print alike -/
theorem C07_verStr_injective (a b : Ver) (ha : verOk a = true) (hb : verOk b = true) (h : verStr a = verStr b) : a = b :=
  verStr_inj ha hb h

/-- `ToNormalizedString` determines the list of ranges -/
theorem C07_normStr_injective (rs qs : List ARange) (hr : ∀ r ∈ rs, arOk r = true) (hq : ∀ q ∈ qs, arOk q = true)
    (h : normStr rs = normStr qs) : rs = qs := normStr_inj hr hq h

/-- `strconv.ParseInt` reads back what `%d` wrote: a pre-release part is an int exactly when its text is an int's -/
theorem C07_parseInt_intStr (i : Int) (h1 : -9223372036854775808 ≤ i) (h2 : i ≤ 9223372036854775807) :
    parseInt64 (intStr i) = some i := parseInt64_intStr i h1 h2

/-- every version `semver.NewVersion3` returns (Go ints in, any two strings) is well-formed: the `(ver …)` operands of the
    correspondence run are `Comparable` -/
theorem C07_newVersion3_ok (ma mi pa : Int) (p q : Bytes) (v : Ver) (h : newVersion3 ma mi pa p q = some v)
    (h1 : ma ≤ 9223372036854775807) (h2 : mi ≤ 9223372036854775807) (h3 : pa ≤ 9223372036854775807) : verOk v = true :=
  newVersion3_ok h h1 h2 h3
example : (newVersion3 1 0 0 [0x72, 0x63, 0x2e, 0x2d, 0x30, 0x35] [0x30, 0x30, 0x37]).isSome = true ∧
    newVersion3 1 0 0 [0x30, 0x30, 0x37] [] = none := by decide

theorem C07_semver_key_iff (a b : Ver) (ha : verOk a = true) (hb : verOk b = true) :
    key (.semver a) = key (.semver b) ↔ veq (.semver a) (.semver b) = true :=
  C07_key_iff_topsafe _ _ (by simpa [Comparable, cmp] using ha) (by simpa [Comparable, cmp] using hb) (TopSafe_of_not_str rfl rfl)

/-- full statement for SemVerRanges: whatever string they were parsed from -/
def C07_range_key_iff_full : Prop := ∀ (o o' : Bytes) (rs qs : List ARange), (∀ r ∈ rs, arOk r = true) → (∀ q ∈ qs, arOk q = true) →
  (key (.vrange o rs) = key (.vrange o' qs) ↔ veq (.vrange o rs) (.vrange o' qs) = true)

/-- the full statement holds since the /repo fix 2f932dc (it was refuted by `1.x` against the same ranges without an original
    string while the key was the original string) -/
theorem C07_range_key_iff : C07_range_key_iff_full := fun _ _ rs qs hr hq =>
  C07_key_iff_topsafe _ _ (by simpa [Comparable, cmp] using hr) (by simpa [Comparable, cmp] using hq) (TopSafe_of_not_str rfl rfl)

/-- ranges without an original string -/
theorem C07_range_key_iff_partial (rs qs : List ARange) (hr : ∀ r ∈ rs, arOk r = true) (hq : ∀ q ∈ qs, arOk q = true) :
    key (.vrange [] rs) = key (.vrange [] qs) ↔ veq (.vrange [] rs) (.vrange [] qs) = true :=
  C07_range_key_iff [] [] rs qs hr hq

/-- non-vacuity: `1.0.0-rc.-5+b1` in an array beside a URI, as a hash key; two different builds; a two-range SemVerRange -/
def sampleV : Ver := ⟨1, 0, 0, some [.txt [0x72, 0x63], .num (-5)], some [[0x62, 0x31]]⟩
example : verOk sampleV = true ∧ verOk verMin = true ∧ verOk ⟨1, 0, 0, some [.txt [0x35]], none⟩ = false := by decide
example : Comparable (.hash [(.array [.semver sampleV, .uri [0x61]], .int 1)]) := by decide
example : key (.array [.semver sampleV, .uri [0x61]]) = key (.entry (.semver sampleV) (.uri [0x61])) :=
  (C07_key_iff_topsafe _ _ (by decide) (by decide) (TopSafe_of_not_str rfl rfl)).mpr (by decide)
example : key (.semver ⟨1, 0, 0, none, some [[0x62, 0x31]]⟩) ≠ key (.semver ⟨1, 0, 0, none, some [[0x62, 0x32]]⟩) := fun h =>
  absurd (C07_key_inj _ _ (by decide) (by decide) (TopSafe_of_not_str rfl rfl) h) (by decide)
example : (hashGet [(.semver verMin, .int 1)] (.semver ⟨0, 0, 0, none, none⟩)).isSome = false := by decide
def sampleR : List ARange := [.se ⟨.ge, ⟨1, 0, 0, none, none⟩⟩ ⟨.lt, ⟨2, 0, 0, none, none⟩⟩, .simple ⟨.eq, ⟨3, 0, 0, none, none⟩⟩]
example : Comparable (.vrange [] sampleR) ∧ Comparable (.vrange [0x31] sampleR) := by decide
example : key (.array [.vrange [] sampleR]) = key (.array [.vrange [] sampleR]) ∧
    key (.vrange [] sampleR) ≠ key (.vrange [] [.simple ⟨.eq, ⟨3, 0, 0, none, none⟩⟩]) := by decide

/-! ## Hash.Get -/

/-- found ⇒ some key of the hash is equal to the argument, and the answer is that entry's value -/
theorem C07_get_sound (es : List (Val × Val)) (k v : Val) (hh : Comparable (.hash es)) (hk : Comparable k)
    (ts : ∀ e ∈ es, TopSafe e.1 k) (h : hashGet es k = some v) : ∃ e ∈ es, veq e.1 k = true ∧ e.2 = v := by
  obtain ⟨e, he, h1, h2⟩ := hashGet_some h
  exact ⟨e, he, (kb_eq_iff_veq e.1 k ((cmp_hash hh).1 e he).1 hk (ts e he)).mp h1, h2⟩

/-- `Hash.Get` finds a key exactly when the hash contains an equal key — all comparable keys outside the raw-string class, types
    of every member order included -/
theorem C07_get_topsafe (es : List (Val × Val)) (k : Val) (hh : Comparable (.hash es)) (hk : Comparable k)
    (ts : ∀ e ∈ es, TopSafe e.1 k) : (hashGet es k).isSome = true ↔ ∃ e ∈ es, veq e.1 k = true := by
  rw [hashGet_isSome]
  exact exists_congr fun e => and_congr_right fun he =>
    kb_eq_iff_veq e.1 k ((cmp_hash hh).1 e he).1 hk (ts e he)

set_option linter.unusedVariables false in
/-- an equal key is present ⇒ found -/
theorem C07_get_complete (es : List (Val × Val)) (k : Val) (hh : Comparable (.hash es)) (hk : Comparable k)
    (ts : ∀ e ∈ es, TopSafe e.1 k) (tk : ∀ e ∈ es, TypeKeysAgree e.1 k)
    (h : ∃ e ∈ es, veq e.1 k = true) : (hashGet es k).isSome = true := (C07_get_topsafe es k hh hk ts).mpr h

set_option linter.unusedVariables false in
theorem C07_get (es : List (Val × Val)) (k : Val) (hh : Comparable (.hash es)) (hk : Comparable k)
    (ts : ∀ e ∈ es, TopSafe e.1 k) (tk : ∀ e ∈ es, TypeKeysAgree e.1 k) :
    (hashGet es k).isSome = true ↔ ∃ e ∈ es, veq e.1 k = true := C07_get_topsafe es k hh hk ts

/-! ## Unique -/

theorem C07_unique_sub (vs : List Val) : (unique vs).Sublist vs := uniqueAux_sublist [] vs

/-- nothing is lost: every input is equal to a survivor -/
theorem C07_unique_cover (vs : List Val) (hc : ∀ v ∈ vs, Comparable v) (ts : ∀ u ∈ vs, ∀ v ∈ vs, TopSafe u v) :
    ∀ v ∈ vs, ∃ u ∈ unique vs, veq u v = true := by
  intro v hv
  rcases uniqueAux_cover [] vs v hv with h | ⟨u, hu, h⟩
  · cases h
  · have hu' := (C07_unique_sub vs).subset hu
    exact ⟨u, hu, (kb_eq_iff_veq u v (hc u hu') (hc v hv) (ts u hu' v hv)).mp h⟩

/-- no two survivors of `Unique` are equal — all comparable values outside the raw-string class -/
theorem C07_unique_distinct_topsafe (vs : List Val) (hc : ∀ v ∈ vs, Comparable v) (ts : ∀ u ∈ vs, ∀ v ∈ vs, TopSafe u v) :
    (unique vs).Pairwise (fun a b => veq a b = false) := by
  have sub := (C07_unique_sub vs).subset
  have := (uniqueAux_distinct [] vs).1
  refine List.Pairwise.imp_of_mem ?_ this
  intro a b ha hb hne
  cases h : veq a b with
  | false => rfl
  | true =>
    exact absurd ((kb_eq_iff_veq a b (hc a (sub ha)) (hc b (sub hb)) (ts a (sub ha) b (sub hb))).mpr h) hne

set_option linter.unusedVariables false in
/-- nothing equal is kept apart: no two survivors are equal -/
theorem C07_unique_distinct (vs : List Val) (hc : ∀ v ∈ vs, Comparable v) (ts : ∀ u ∈ vs, ∀ v ∈ vs, TopSafe u v)
    (tk : ∀ u ∈ vs, ∀ v ∈ vs, TypeKeysAgree u v) : (unique vs).Pairwise (fun a b => veq a b = false) :=
  C07_unique_distinct_topsafe vs hc ts

/-! ## hidden state: the lazily built index of a Hash

`Model/ValueEqCache.lean` gives a Hash its hidden `index` (absent until `valueIndex` is first asked; built by the forward loop
with overwrite; kept), and `Get` / `IncludesKey` / `Equals` as the code computes them — THROUGH the index.  The invariant the
implementation maintains is `Coherent`: the index, if present, is the index of the present entries (entries are never changed
behind an index — C08's subject; `MutableHashValue.PutAll` resets it).  Under it no answer depends on the hidden state. -/

/-- `Hash.Get` through the index is `hashGet` whatever the state of the cache, and asking leaves the hash coherent and unchanged -/
theorem C07_get_cache_independent (h : CHash) (c : h.Coherent) (k : Val) :
    (h.get k).2 = hashGet h.entries k ∧ (h.get k).1.entries = h.entries ∧ (h.get k).1.Coherent := get_coherent c k

theorem C07_includes_cache_independent (h : CHash) (c : h.Coherent) (k : Val) :
    (h.includesKey k).2 = (hashGet h.entries k).isSome ∧ (h.includesKey k).1.entries = h.entries ∧ (h.includesKey k).1.Coherent :=
  includesKey_coherent c k

/-- `IncludesKey` answers true exactly when the hash contains an equal key (the corollary of `C07_get_topsafe` for the method
    that only asks the index) -/
theorem C07_includes_key (h : CHash) (c : h.Coherent) (k : Val) (hh : Comparable (.hash h.entries)) (hk : Comparable k)
    (ts : ∀ e ∈ h.entries, TopSafe e.1 k) : (h.includesKey k).2 = true ↔ ∃ e ∈ h.entries, veq e.1 k = true := by
  rw [(includesKey_coherent c k).1]
  exact C07_get_topsafe h.entries k hh hk ts

/-- `Hash.Equals`, computed through the two indexes as the code does, is the model's `veq` on the two hashes — before the
    caches were built, after, or with only one of them built: equality does not depend on the hidden state -/
theorem C07_equals_cache_independent (h o : CHash) (ch : h.Coherent) (co : o.Coherent) :
    (h.equals o).2 = veq (.hash h.entries) (.hash o.entries) ∧
    (h.equals o).1.1.entries = h.entries ∧ (h.equals o).1.2.entries = o.entries ∧
    (h.equals o).1.1.Coherent ∧ (h.equals o).1.2.Coherent := by
  obtain ⟨e1, e2, e3, e4, e5⟩ := equals_coherent ch co
  exact ⟨e1.trans (equals_index_spec _ _), e2, e3, e4, e5⟩

/-- before vs after every lazy cache was forced: the same answers -/
theorem C07_forced_same (h o : CHash) (ch : h.Coherent) (co : o.Coherent) (k : Val) :
    (h.force.get k).2 = (h.get k).2 ∧ (h.force.includesKey k).2 = (h.includesKey k).2 ∧
    (h.force.equals o.force).2 = (h.equals o).2 ∧ (h.force.equals o).2 = (h.equals o).2 ∧ (h.equals o.force).2 = (h.equals o).2 := by
  obtain ⟨f1, f2, _⟩ := force_coherent ch
  obtain ⟨g1, g2, _⟩ := force_coherent co
  refine ⟨?_, ?_, ?_, ?_, ?_⟩
  · rw [(get_coherent f2 k).1, (get_coherent ch k).1, f1]
  · rw [(includesKey_coherent f2 k).1, (includesKey_coherent ch k).1, f1]
  · rw [(C07_equals_cache_independent _ _ f2 g2).1, (C07_equals_cache_independent _ _ ch co).1, f1, g1]
  · rw [(C07_equals_cache_independent _ _ f2 co).1, (C07_equals_cache_independent _ _ ch co).1, f1]
  · rw [(C07_equals_cache_independent _ _ ch g2).1, (C07_equals_cache_independent _ _ ch co).1, g1]

/-- the one mutator: a `MutableHashValue.Put` leaves a coherent hash (it resets the index), whatever it was before -/
theorem C07_put_coherent (h : CHash) (k v : Val) : (h.put k v).Coherent := put_coherent h k v

/-- the invariant is needed: with a stale index (the entries changed behind it) `Get` answers from the old position -/
theorem C07_stale_index_breaks :
    let stale : CHash := { entries := [(.int 2, .str [0x62]), (.int 1, .str [0x61])], index := some (buildIndex [(.int 1, .str [0x61])]) }
    ¬ stale.Coherent ∧ ((stale.get (.int 1)).2).map kb = some [0x62] ∧ (hashGet stale.entries (.int 1)).map kb = some [0x61] := by
  refine ⟨?_, by decide, by decide⟩
  intro h
  rcases h with h | h
  · cases h
  · exact absurd h (by decide)

/-- which caches exist, and who writes the index: regenerated from the Go sources on every run (`Generated.cacheFacts`).  The
    Hash struct has the three cache fields the model knows (`index` is the one `Equals`/`Get`/`IncludesKey` read), the Array
    struct the two type caches; the index is written by `valueIndex` (a lazy fill) and `PutAll` (a reset) and by nothing else -/
def cacheFieldsOk (f : Pcore.Heap.CacheFacts) : Bool :=
  f.fields == [("Array", ["reducedType", "detailedType"]), ("Hash", ["reducedType", "detailedType", "index"]),
    ("MutableHashValue", ["embedded Hash"])] &&
  (f.writes.filter (fun w => w.2.1 == "index")) ==
    [("Hash.valueIndex", "index", Pcore.Heap.CacheWrite.lazyFill), ("MutableHashValue.PutAll", "index", Pcore.Heap.CacheWrite.reset)]

theorem C07_cache_fields_ok : cacheFieldsOk Pcore.Generated.cacheFacts = true := by decide

/-- non-vacuity: a three-entry hash asked before and after forcing, and against a permuted copy with its index built -/
def sampleH : CHash := { entries := [(.str [0x61], .int 1), (.semver verMin, .int 2), (.typ (calT [.str]), .int 3)] }
def sampleH' : CHash := ({ entries := [(.typ (calT [.str]), .int 3), (.str [0x61], .int 1), (.semver verMin, .int 2)] } : CHash).force
example : sampleH.Coherent ∧ sampleH'.Coherent ∧ sampleH'.index.isSome = true := ⟨Or.inl rfl, Or.inr rfl, rfl⟩
example : (sampleH.equals sampleH').2 = true ∧ ((sampleH.get (.semver verMin)).2).map kb = some (kb (.int 2)) ∧
    (sampleH'.includesKey (.typ (calT [.str]))).2 = true ∧ (sampleH'.includesKey (.typ calD)).2 = false := by decide

/-! ## second tie: the kind prefixes and the type names regenerated from the Go sources are the ones the model writes -/

/-- the leading bytes the model writes, listed by the Go method they mirror -/
def modelHeads : List (String × List Nat) := [
  ("Array", (kb (.array [])).map (·.toNat)),
  ("HashEntry", ((kb (.entry .undef .undef)).take 2).map (·.toNat)),
  ("Hash", (kb (.hash [])).map (·.toNat)),
  ("Binary", (kb (.binary [])).map (·.toNat)),
  ("integerValue", ((kb (.int 0)).take 2).map (·.toNat)),
  ("floatValue", ((kb (.float 0)).take 2).map (·.toNat)),
  ("Regexp", (kb (.regexp [])).map (·.toNat)),
  ("TupleType", ((tyKey (.tup [] none)).take 2).map (·.toNat)),
  ("Timespan", ((kb (.timespan 0)).take 2).map (·.toNat)),
  ("Timestamp", ((kb (.timestamp 0 0)).take 2).map (·.toNat)),
  ("UriValue", (kb (.uri [])).map (·.toNat)),
  ("SemVer", ((kb (.semver verMin)).take 2).map (·.toNat)),
  ("SemVerRange", (kb (.vrange [] [])).map (·.toNat)),
  ("UndefValue", (kb .undef).map (·.toNat)),
  ("DefaultValue", (kb .dflt).map (·.toNat)),
  ("hkTrue", (kb (.bool true)).map (·.toNat)),
  ("hkFalse", (kb (.bool false)).map (·.toNat)),
  ("appendKey(type)", ((tyKey .any).take 2).map (·.toNat)),
  ("appendElementKey(string)", (mark (.str [])).map (·.toNat))]

theorem C07_key_table_ok : Pcore.Generated.keyHeads = modelHeads := by decide +kernel

/-- the name every type key starts with is the literal the Go `Name()` method returns (regenerated on every run) -/
def bytesStr (bs : Bytes) : String := String.ofList (bs.map fun c => Char.ofNat c.toNat)
def modelTypeNames : List (String × String) := [
  ("AnyType", bytesStr Ty.any.name), ("UndefType", bytesStr Ty.undef.name), ("stringType", bytesStr Ty.str.name),
  ("IntegerType", bytesStr (Ty.int 0 0).name), ("FloatType", bytesStr (Ty.flt 0 0).name), ("EnumType", bytesStr (Ty.enum false []).name),
  ("ArrayType", bytesStr (Ty.arr .any 0 0).name), ("VariantType", bytesStr (Ty.var []).name), ("TupleType", bytesStr (Ty.tup [] none).name),
  ("OptionalType", bytesStr (Ty.opt .any).name), ("TypeType", bytesStr (Ty.typ .any).name), ("DefaultType", bytesStr (Ty.nul .dflt).name),
  ("UnitType", bytesStr (Ty.nul .unit).name), ("ScalarType", bytesStr (Ty.nul .scalar).name), ("ScalarDataType", bytesStr (Ty.nul .scalarData).name),
  ("NumericType", bytesStr (Ty.nul .numeric).name), ("BinaryType", bytesStr (Ty.nul .binary).name), ("SemVerRangeType", bytesStr (Ty.nul .semverRange).name),
  ("BooleanType", bytesStr (Ty.bool none).name), ("CollectionType", bytesStr (Ty.coll 0 0).name), ("NotUndefType", bytesStr (Ty.un .notUndef .any).name),
  ("SensitiveType", bytesStr (Ty.un .sensitive .any).name), ("IterableType", bytesStr (Ty.un .iterable .any).name),
  ("IteratorType", bytesStr (Ty.un .iterator .any).name), ("RegexpType", bytesStr (Ty.rx []).name), ("PatternType", bytesStr (Ty.pattern []).name),
  ("TypeReferenceType", bytesStr (Ty.tref []).name), ("SemVerType", bytesStr (Ty.semverT [] []).name), ("HashType", bytesStr (Ty.hash .any .any 0 0).name),
  ("LikeType", bytesStr (Ty.like .any []).name), ("CallableType", bytesStr calD.name), ("RuntimeType", bytesStr (Ty.runtime [] [] none).name),
  ("StructType", bytesStr (Ty.struct []).name), ("InitType", bytesStr (Ty.init false .any).name)]
theorem C07_type_names_ok : Pcore.Generated.typeNames = modelTypeNames := by decide +kernel

/-- sixteen kinds, sixteen different two-byte heads (Array = HashEntry, Tuple = every other type, true/false share one) -/
theorem C07_prefixes_distinct : ((Pcore.Generated.keyHeads.map (·.2.take 2)).eraseDups).length = 16 := by decide

/-! ## non-vacuity: the hypotheses are met by non-trivial cases -/

/-- two hashes with the same entries in different insertion order, a nested array, `0.0` against `-0.0`, and an entry
    against the two-element array it equals -/
def sampleX : Val :=
  .hash [(.str [0x61], .int 1), (.str [0x62], .array [.float 0, .entry (.int 1) (.str [])]), (.array [.array [.int 1], .int 2], .undef)]
def sampleY : Val :=
  .hash [(.array [.array [.int 1], .int 2], .undef), (.str [0x62], .array [.float 9223372036854775808, .array [.int 1, .str []]]), (.str [0x61], .int 1)]
/-- the regrouped array `[[1,2]]` in the place of `[[1],2]` -/
def sampleZ : Val :=
  .hash [(.str [0x61], .int 1), (.str [0x62], .array [.float 0, .entry (.int 1) (.str [])]), (.array [.array [.int 1, .int 2]], .undef)]

example : Comparable sampleX ∧ Comparable sampleY ∧ Comparable sampleZ := by decide
example : TopSafe sampleX sampleY := TopSafe_of_not_str rfl rfl
example : TypeKeysAgree sampleX sampleY := TypeKeysAgree_of_no_types (Or.inl (by decide))
example : veq sampleX sampleY = true ∧ veq sampleY sampleX = true ∧ veq sampleX sampleZ = false := by decide
example : key sampleX = key sampleY :=
  (C07_key_iff _ _ (by decide) (by decide) (TopSafe_of_not_str rfl rfl) (TypeKeysAgree_of_no_types (Or.inl (by decide)))).mpr
    (by decide)
example : key sampleX ≠ key sampleZ := fun h =>
  absurd (C07_key_inj _ _ (by decide) (by decide) (TopSafe_of_not_str rfl rfl) h) (by decide)
/-- a Timespan is compared and keyed by its whole seconds (1s = 1.5s, both ways), a Timestamp by seconds and nanoseconds -/
example : key (.array [.timespan 1000000000, .timestamp 1 0]) = key (.array [.timespan 1500000000, .timestamp 1 0]) :=
  (C07_key_iff _ _ (by decide) (by decide) (TopSafe_of_not_str rfl rfl) (TypeKeysAgree_of_no_types (Or.inl (by decide)))).mpr
    (by decide)
example : veq (.timestamp 1 0) (.timestamp 1 500000000) = false ∧ veq (.timespan (-1500000000)) (.timespan (-1000000000)) = true := by
  decide
/-- transitivity through a cross-kind step: entry = array = entry -/
example : veq (.entry (.int 1) (.int 2)) (.entry (.int 1) (.int 2)) = true :=
  C07_trans (.entry (.int 1) (.int 2)) (.array [.int 1, .int 2]) _ (by decide) (by decide) (by decide) (by decide)
/-- types: a Tuple with the implied size spelled out, inside an array -/
example : key (.array [.typ (.tup [.int 1 2] none)]) = key (.array [.typ (.tup [.int 1 2] (some (1, 1)))]) :=
  (C07_key_iff _ _ (by decide) (by decide) (TopSafe_of_not_str rfl rfl)
    (fun a ha b hb _ => by
      simp only [typesIn, typesInL, List.append_nil, List.mem_singleton] at ha hb
      subst ha; subst hb; decide)).mpr (by decide)
example : (hashGet [(.array [.str [0x61], .str [0x62]], .int 1)] (.array [.str [0x61, 0x62]])).isSome = false := by decide
example : ∃ e ∈ [((.float 0 : Val), (.int 7 : Val))], veq e.1 (.float 9223372036854775808) = true := ⟨_, List.mem_cons_self, by decide⟩
example : (hashGet [(.float 0, .int 7)] (.float 9223372036854775808)).isSome = true :=
  C07_get_complete _ _ (by decide) (by decide) (fun e he => by
      simp only [List.mem_singleton] at he; subst he; exact TopSafe_of_not_str rfl rfl)
    (fun e he => by simp only [List.mem_singleton] at he; subst he; exact TypeKeysAgree_of_no_types (Or.inl rfl))
    ⟨_, List.mem_cons_self, by decide⟩
example : (unique [.array [.array [.int 1], .int 2], .array [.array [.int 1, .int 2]], .array [.array [.int 1], .int 2]]).length = 2 := by
  decide
example : TyWF (.tup [.int 1 2, .var [.str, .undef]] none) = true ∧
    tyEq (.tup [.int 1 2, .var [.str, .undef]] none) (.tup [.int 1 2, .var [.undef, .str]] (some (2, 2))) = true ∧
    tyKey (.tup [.int 1 2, .var [.str, .undef]] none) = tyKey (.tup [.int 1 2, .var [.undef, .str]] (some (2, 2))) := by decide

end Pcore.ValueEq

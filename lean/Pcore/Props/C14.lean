import Pcore.Proofs.GidFacts
import Pcore.Proofs.TlsExec
import Pcore.Proofs.TlsGhost
import Pcore.Proofs.TlsFuel
import Pcore.Model.TlsFacts
import Pcore.Generated.GidFacts
/-!
# C14 — Contexts are confined to their goroutine and dynamic scope

Property (properties.jsonl): the current context observed inside Do, DoWithContext, Fork and Go is always the one
established for that goroutine and nesting level, it is restored when the body returns or panics, and it is never
observed from another goroutine.  Definitions, loader changes, stack frames and variables made in a forked context are
invisible to its parent and siblings while the parent's are visible to the child, and goroutine-local storage is released
when a forked goroutine ends.  Quantifier: all nestings of Do/DoWithContext/DoWithLoader/Fork/Go with and without
panics, executed by many goroutines under arbitrary scheduling.

Model: `Pcore/Model/Tls.lean` (`exec .now` = the code of /repo as it is now).  All theorems are for EVERY program,
EVERY scheduling oracle and EVERY fuel (induction on the fuel in `Proofs/TlsExec.lean: exec_all`); nothing is decided
over a sample.  `Pre g c w` = goroutine `g` runs a body that was handed `c`, `c` is its current context, `w` is
well-formed (`Inv`).

Full statement / proved / missing
* `C14_current`, `C14_current_exec` — every `px.CurrentContext()` anywhere in an execution (any goroutine, any nesting
  level of Do/DoWithContext/DoWithLoader/Fork/Go, before or after inner scopes returned or panicked, whatever ran in
  between) is the context handed to the innermost enclosing body.                                        **proved**
* `C14_restore`, `C14_restore_do`, `C14_restore_try`, `C14_restore_loader` — the goroutine-local tables after ANY program are exactly the
  tables before it (function equality), for the outcomes normal, panicked and out-of-fuel alike; `DoWithLoader` puts the
  loader back.                                                                                              **proved**
* `C14_confined` — a context that a goroutine observes as current was made current for that goroutine and for no other
  (ghost `World.estab`: written at the two places where a context is installed — DoWithContext entry and the start of a
  Fork goroutine).                                                                                          **proved**
  `C14_never_observed_by_two`, `C14s_never_observed_by_two` — the same without the ghost: no context is observed as
  current by two goroutines.                                                                                **proved**
* `C14_fork_view` — the forked goroutine's context holds the parent's variables and stack as they are at the `Fork`
  call and a fresh loader whose parent chain is the parent's.                                               **proved**
  `C14_fork_sees_parent_defs` — whatever the parent can `Load` at the `Fork` call the child can.            **proved**
  `C14_fork_isolated_partial` — while anybody runs (any program, any goroutine, any number of other goroutines run to
  completion in between), every context object that existed before, other than the running body's own and those of
  goroutines that ran, is unchanged: so a child's `Set/StackPush/DoWithLoader` never reach its parent or a sibling, and a
  waiting child still has the view of the `Fork` call whenever it starts.                                   **proved**
  `C14_fork_isolated_defs`, `C14_child_defs_invisible`, `C14_loads_unaffected` — the same for loader entries
  (definitions): only the running body's own defining loader, the defining loaders of goroutines that were waiting, and
  fresh loaders are written; a `Load` through a chain of untouched loaders answers as before.               **proved**
  `C14_fork_isolated` = `C14_fork_isolated_full` (context objects ∧ loader entries).                        **proved**
  `C14_linv_init`, `C14_linv_exec`, `C14_linv_do`, `C14_parent_loads_unaffected` — the loader-chain invariant `LInv` (a
  waiting goroutine's defining loader is fresh: on no other context's chain) holds throughout, hence what a parent or any
  non-waiting context can `Load` is exactly the same before and after a child ran.                         **proved**
* `C14_released`, `C14_released_goroutine` — after the op (Do on a fresh goroutine, every forked goroutine joined) no
  goroutine-local table is left; a forked goroutine's table is gone when it ends.                           **proved**
* witnesses on `Ver.before` (the original code): context left set and table never released after `Do`; a nested `Do`
  replaces the caller's current context; `Fork` copies the parent's variables when the child starts.
* ARBITRARY INTERLEAVINGS — `Model/TlsSmall.lean` is a small-step semantics (per-goroutine continuation + shared heaps; any
  goroutine that has not ended may take the next micro-step); `Reachable p c` = reached by any sequence of micro-steps.  As
  invariants of `Reachable` (`Proofs/TlsSmall.lean: stepG_spec`, `Proofs/TlsReach.lean: cinv_step, reachable_inv`):
  `C14s_current` (every observation), `C14s_current_state` (at every point, also mid-unwinding, the current context is the
  one the next body frame was handed — this is current AND restore), `C14s_confined`, `C14s_tls_local` (a step never
  touches another goroutine's table), `C14s_step_frame` / `C14s_other_goroutines_contexts` / `C14s_waiting_child_view` /
  `C14s_fork_view` (fork isolation of context objects per step: only contexts installed for the stepping goroutine are
  written; a waiting child keeps the view of the Fork call), `C14s_released_goroutine`, `C14s_released`.     **proved**
  `C14s_defs_step`: a micro-step writes only the defining loader of the stepping goroutine's current body context.  **proved**
  REFINEMENT big-step ⊆ small-step — `C14_refines_partial` (`Proofs/TlsRefine.lean: sim_exec, run_refines`): for every program
  and oracle, whenever the big-step run does not run out of fuel, a schedule of micro-steps leads from `Cfg.init p` to a
  configuration with every goroutine ended whose shared state (tables, context objects, loader entries, log, `estab`, counters) IS
  the big-step result; `C14_refines_reachable`, `C14_refines_log`.  So every big-step behaviour is a behaviour of the small-step
  model and the `C14s_*` invariants hold of big-step runs too (`C14_run_current_via_small`).                          **proved**
  Full statement `C14_refines_full` (no fuel hypothesis) = `C14_refines`: `C14_fuel_enough` proves that the fuel of the op always
  suffices (`Proofs/TlsFuel.lean: exec_fuel, run_oof` — a chain of nested goroutine runs shares one budget, and no node of the
  program is executed twice).                                                                                 **proved**
  LOADER ENTRIES under arbitrary interleavings (`Proofs/TlsGhost.lean`): every reachable configuration is decorated with two ghost
  maps the semantics never reads (`own l` = the goroutine loader `l` was allocated for, `par b` = the goroutine that started `b`;
  `C14s_ghost`); invariant `GInv` of every decorated reachable configuration (`ginv_step`): loaders on the chain of a context of
  `b` are the environment loader or belong to an ancestor-or-self of `b`, the defining loader of a body context belongs to the
  goroutine that runs the body.  `C14s_defs_owned`: a micro-step of `g` writes only loaders of `g` (never the environment loader);
  `C14s_defs_isolated`: it changes neither the context objects nor any `Load` answer of a goroutine that does not descend from
  `g`; `C14s_defs_invisible_to_older`: in particular of every OLDER goroutine — the parent, older siblings, their ancestors —
  at every point of every interleaving; `C14s_younger_invisible`: over any number of micro-steps of younger goroutines. **proved**
  Atomicity of a micro-step: one call into pcore up to where it calls back the actor, or one deferred function.
* SECOND TIE — `C14_facts_now` + `C14_facts_*`: the shape table regenerated from px/context.go, internal/context.go,
  internal/runtime.go, threadlocal/gid.go on every run (family `ctxfacts`) equals the shape the model mirrors; it selects
  the model variant the driver runs (`implVer`, `C14_impl_ver`, `C14_impl_*`).
* GOROUTINE IDS — `C14_getg`, `C14_getg_injective`, `C14_getg_iff`: the digit loop of `threadlocal.getg()` returns the id the
  runtime printed, for all ids below 2^63 (sharp), so distinct goroutines get distinct table keys (`Model/Gid.lean`).
  `C14_gid_facts_std`, `C14_gid_facts_roomy`, `C14_getg_impl`, `C14_getg_impl_injective`: the same over the constants REGENERATED from
  `threadlocal/gid.go` on every run (family `gidfacts`: buffer size, slice handed to `runtime.Stack`, prefix length, digit bounds,
  radix): the obligation is `prefixLen + 19 ≤ min stackLen bufLen`.  `C14_getg_buffer_iff`: for every standard table that bound
  is EXACTLY what makes the parser exact below 2^63; `C14_getg_first_cut` / `C14_getg_collide`: when it fails the id
  `10^(room-10) < 2^63` is cut to its leading digits and it and its successor share one goroutine-local table.       **proved**
* missing / trusted (DESIGN §5): that `runtime.Stack` prints "goroutine N [" with N the goroutine's unique id and that ids are
  not reused while a table exists; Go's memory model (the lock-protected `tls` map is assumed linearizable; a micro-step is
  atomic); free-running goroutines are exercised on the implementation only (`@free`).
-/
namespace Pcore.Tls

/-! ## the big-step model (`exec .now`, `run .now`: a forked goroutine runs from start to end at a scheduling point): current,
restore, confined, the forked goroutine's view and its isolation -/

/-- local form: started in a good state, any execution only ever logs observations `cur = the body's own context` -/
theorem C14_current_exec (f : Nat) (p : Prog) (g c : Nat) (w : World) (h : Pre g c w) (hl : LogOK w) :
    LogOK (exec .now f p g c w).2 :=
  (exec_all f p g c w h).eff.full.s.logOK hl

/-- the whole op: every observation by every goroutine at every nesting level returns the context handed to the body -/
theorem C14_current (sched : List Nat) (p : Prog) (g : Gid) (cur : Option CtxId) (lex : CtxId) (tag : Option Nat)
    (st : List Nat) (h : (g, Ev.obs cur lex tag st) ∈ (run .now sched p).log) : cur = some lex := by
  have hl : LogOK (run .now sched p) := (run_eff sched p).full.s.logOK (fun _ h => by simp at h)
  exact (hl _ h).1

/-- non-vacuity: three nesting levels on the root goroutine, one forked goroutine with a nested scope that panics, run
    while the parent is inside a nested `Do`; afterwards the parent observes its own contexts again (5, then 3) -/
def sampleNest : Prog :=
  .seq .obs (.seq (.fork (.seq .obs (.doctx 2 (.seq .obs .panic))))
    (.doctx 1 (.seq .obs (.seq (.recover (.dodo 3 (.seq .obs .panic))) .obs))))

example : ((run .now [0, 0, 1] sampleNest).log.filterMap fun ge =>
    match ge.2 with | .obs cur lex _ _ => some (ge.1, cur, lex) | _ => none) =
    [(0, some 1, 1), (0, some 3, 3), (1, some 2, 2), (1, some 6, 6), (0, some 5, 5), (0, some 3, 3)] := by decide +kernel

/-- whatever the program and however it ends (normally, by panic, out of fuel), the goroutine-local tables of ALL
    goroutines are afterwards what they were before -/
theorem C14_restore (f : Nat) (p : Prog) (g c : Nat) (w : World) (h : Pre g c w) :
    (exec .now f p g c w).2.tls = w.tls :=
  (exec_all f p g c w h).eff.tls

/-- in particular for `DoWithContext` -/
theorem C14_restore_doctx (f : Nat) (id : Nat) (p : Prog) (g c : Nat) (w : World) (h : Pre g c w) :
    tlGet g ctxKey (exec .now f (.doctx id p) g c w).2 = some c :=
  (tlGet_congr (congrFun (C14_restore f (.doctx id p) g c w h) g)).trans h.cur

/-- `pcore.Do` called by a goroutine with or without a current context -/
theorem C14_restore_do (f : Nat) (id : Nat) (p : Prog) (g c : Nat) (w : World) (hi : Inv w) (hg : g < w.nextGid)
    (hp : g ∉ pendGids w) : (exec .now f (.dodo id p) g c w).2.tls = w.tls :=
  (exec_do_eff false hi hg hp).tls

/-- `pcore.Try` likewise (the body's panic is turned into the returned error after the inner scope was left) -/
theorem C14_restore_try (f : Nat) (id : Nat) (p : Prog) (g c : Nat) (w : World) (hi : Inv w) (hg : g < w.nextGid)
    (hp : g ∉ pendGids w) : (exec .now f (.dotry id p) g c w).2.tls = w.tls :=
  (exec_do_eff true hi hg hp).tls

/-- `DoWithLoader` puts the context's loader back, also when the body panics -/
theorem C14_restore_loader (f : Nat) (p : Prog) (g c : Nat) (w : World) :
    ((exec .now (f + 1) (.doloader p) g c w).2.ctxs c).loader = (w.ctxs c).loader := by
  simp [exec, ctxUpd]

/-- non-vacuity: a panicking body inside DoWithContext inside Do — outcome `panicked`, tables as before -/
example : (exec .now 9 (.dodo 1 (.doctx 2 (.seq (.set "a" 1) .panic))) 0 0 {}).1 = .panicked := by decide +kernel
/-- `C14_restore_loader` only unfolds `exec` (the deferred restore is the last thing the model does); a concrete instance
    where it matters: the body of `DoWithLoader` defines `X`, sees it, and PANICS; after the recovered panic
    the context has its loader back — `X` is no longer visible — and the current context is still the body's own -/
example : (exec .now 9 (.dodo 1 (.seq (.recover (.doloader (.seq (.deftype "X") (.seq (.load "X") .panic))))
      (.seq (.load "X") .obs))) 0 0 {}).2.log =
    [(0, .load "X" true), (0, .recovered), (0, .load "X" false), (0, .obs (some 1) 1 (some 1) [])] := by decide +kernel
/-- non-vacuity of `Pre`: the state right after `DoWithContext` installed context 0 on the fresh goroutine 0 -/
example : Pre 0 0 (note 0 0 (tlFresh 0 0 { nextCtx := 1 })) := by
  have en := dwcEnter_spec (g := 0) (cx := 0) (w := { nextCtx := 1 }) (dwcEnter_of_no_table rfl) (Inv.of_empty (fun _ => rfl) rfl rfl) (by decide) (by simp [pendGids])
    ⟨by decide, by simp [pendCtxs], fun g' h => by simp at h⟩
  exact ⟨en.s.inv, en.cur, by decide, by simp [pendGids, note, tlFresh], en.est⟩

/-- a context observed as current by goroutine `g` was made current for `g` — and for no other goroutine -/
theorem C14_confined (sched : List Nat) (p : Prog) (g g' : Gid) (c lex : CtxId) (tag : Option Nat) (st : List Nat)
    (h : (g, Ev.obs (some c) lex tag st) ∈ (run .now sched p).log) :
    (g, c) ∈ (run .now sched p).estab ∧ ((g', c) ∈ (run .now sched p).estab → g' = g) :=
  ((run_eff sched p).full.s.logOK (fun _ h => by simp at h)).confined (run_eff sched p).full.s.inv h g'

/-- non-vacuity: two goroutines, seven contexts, each made current for exactly one goroutine -/
example : (run .now [0, 0, 1] sampleNest).estab = [(0, 0), (0, 1), (0, 3), (0, 4), (0, 5), (1, 2), (1, 6)] := by decide +kernel

/-- the property's own sentence ("it is never observed from another goroutine") WITHOUT the ghost `estab`
    that `C14_confined` speaks about: one context is never observed as current by two different goroutines -/
theorem C14_never_observed_by_two (sched : List Nat) (p : Prog) (g g' : Gid) (c lex lex' : CtxId) (tag tag' : Option Nat)
    (st st' : List Nat) (h : (g, Ev.obs (some c) lex tag st) ∈ (run .now sched p).log)
    (h' : (g', Ev.obs (some c) lex' tag' st') ∈ (run .now sched p).log) : g' = g :=
  (C14_confined sched p g g' c lex tag st h).2 (C14_confined sched p g' g c lex' tag' st' h').1
-- non-vacuity: in the run of `sampleNest` both goroutines observe (six observations, see above), and no context occurs in the
-- observations of both
example : ((run .now [0, 0, 1] sampleNest).log.filterMap fun ge =>
    match ge.2 with | .obs (some cur) _ _ _ => some (ge.1, cur) | _ => none) =
    [(0, 1), (0, 3), (1, 2), (1, 6), (0, 5), (0, 3)] := by decide +kernel

/-- `px.Fork(c, p)` (and `px.Go` with the current context): the child's context is a new object holding the parent's
    variables and stack as they are NOW and a fresh loader on top of the parent's chain; the child waits -/
theorem C14_fork_view (c : CtxId) (p : Prog) (w : World) :
    ∃ t, (spawn .now c p w).pending = w.pending ++ [t] ∧ t.gid = w.nextGid ∧ t.ctx = w.nextCtx ∧ t.prog = p ∧
      ((spawn .now c p w).ctxs t.ctx).vars = (w.ctxs c).vars ∧
      ((spawn .now c p w).ctxs t.ctx).stack = (w.ctxs c).stack ∧
      ((spawn .now c p w).ctxs t.ctx).loader = w.nextLoader :: (w.ctxs c).loader ∧
      (spawn .now c p w).defs w.nextLoader = [] :=
  ⟨{ gid := w.nextGid, ctx := w.nextCtx, prog := p }, rfl, rfl, rfl, rfl,
   by simp [spawn_now, forkCtx_ctxs], by simp [spawn_now, forkCtx_ctxs], by simp [spawn_now, forkCtx_ctxs],
   by simp [spawn_now, forkCtx_defs_eq]⟩

/-- full statement of fork isolation -/
def C14_fork_isolated_full : Prop :=
  ∀ (f : Nat) (p : Prog) (g c : Nat) (w : World), Pre g c w →
    -- context objects (variables, stack, loader field)
    (∀ i, i < w.nextCtx → i ≠ c → (i ∉ pendCtxs w ∨ i ∈ pendCtxs (exec .now f p g c w).2) →
      (exec .now f p g c w).2.ctxs i = w.ctxs i) ∧
    -- loader entries (definitions): only the body's own loader, loaders of goroutines that were waiting, fresh ones
    (∀ l, l < w.nextLoader → some l ≠ (w.ctxs c).loader.head? →
      (∀ t ∈ w.pending, some l ≠ (w.ctxs t.ctx).loader.head?) →
      (exec .now f p g c w).2.defs l = w.defs l)

/-- whoever runs and whatever runs in between: a context object other than the running body's own, and other than those
    of waiting goroutines that have run meanwhile, is untouched.  Instances: the parent's and the siblings' contexts
    while a child runs (`C14_child_invisible`), a waiting child's context while the parent goes on
    (`C14_child_view_stable`). -/
theorem C14_fork_isolated_partial (f : Nat) (p : Prog) (g c : Nat) (w : World) (h : Pre g c w)
    (i : Nat) (hi : i < w.nextCtx) (hic : i ≠ c)
    (hp : i ∉ pendCtxs w ∨ i ∈ pendCtxs (exec .now f p g c w).2) :
    (exec .now f p g c w).2.ctxs i = w.ctxs i :=
  (exec_all f p g c w h).eff.full.s.frame i hi (by simpa using hic) hp

/-- a goroutine that is still waiting after the step has exactly the context it was given at the `Fork` call -/
theorem C14_child_view_stable (f : Nat) (p : Prog) (g c : Nat) (w : World) (h : Pre g c w) (t : Task)
    (ht : t ∈ w.pending) (ht' : t ∈ (exec .now f p g c w).2.pending) :
    (exec .now f p g c w).2.ctxs t.ctx = w.ctxs t.ctx := by
  apply C14_fork_isolated_partial f p g c w h t.ctx (h.inv.pendCtxLt t ht)
  · exact fun hc => h.cnp (hc ▸ ctx_mem_pend ht)
  · exact Or.inr (ctx_mem_pend ht')

/-- a whole goroutine (child) runs, with whatever it starts and whatever else the oracle lets run meanwhile: every
    context that is not its own and not one of another waiting goroutine that ran — the parent's, the suspended
    goroutines', the still waiting siblings' — is untouched, and so are all goroutine-local tables -/
theorem C14_child_invisible (f : Nat) (w : World) (i : Nat) (t : Task) (hinv : Inv w) (ht : w.pending[i]? = some t)
    (j : Nat) (hj : j < w.nextCtx)
    (hp : j ∉ pendCtxs w ∨ j ∈ pendCtxs (runTask .now (exec .now f) t { w with pending := w.pending.eraseIdx i })) :
    (runTask .now (exec .now f) t { w with pending := w.pending.eraseIdx i }).ctxs j = w.ctxs j ∧
    (runTask .now (exec .now f) t { w with pending := w.pending.eraseIdx i }).tls = w.tls :=
  ⟨(runTask_eff (exec_all f) hinv ht).full.s.frame j hj (by simp) hp, (runTask_eff (exec_all f) hinv ht).tls⟩

/-- non-vacuity / end-to-end: the parent sets a=1, forks a child that reads and overwrites `a`, pushes a frame and defines
    `B`; the parent then sets a=2.  Under EVERY oracle shown the child reads 1, the parent reads 2 and does not see the
    child's frame nor `B`, the child sees the parent's `A`. -/
def sampleFork : Prog :=
  .seq (.set "a" 1) (.seq (.deftype "A") (.seq (.fork (.seq (.get "a") (.seq (.set "a" 5) (.seq (.push 7) (.seq (.deftype "B") (.seq (.load "A") (.load "B")))))))
    (.seq (.set "a" 2) (.seq (.get "a") (.seq .obs (.load "B"))))))

example : ∀ s ∈ [[], [1], [0, 0, 0, 1], [0, 0, 0, 0, 1], [0, 0, 0, 0, 0, 0, 1]],
    ((run .now s sampleFork).log.filter fun ge => ge.1 = 1) =
      [(1, .get "a" (some 1)), (1, .load "A" true), (1, .load "B" true), (1, .done .normal)] ∧
    ((run .now s sampleFork).log.filter fun ge => ge.1 = 0) =
      [(0, .get "a" (some 2)), (0, .obs (some 1) 1 (some 1000) []), (0, .load "B" false), (0, .done .normal)] := by decide +kernel

/-- whoever runs and whatever runs in between: an entry table that existed before is unchanged unless it is the running
    body's defining loader or the defining loader of a goroutine that was waiting -/
theorem C14_fork_isolated_defs (f : Nat) (p : Prog) (g c : Nat) (w : World) (h : Pre g c w)
    (l : Nat) (hl : l < w.nextLoader) (hne : some l ≠ (w.ctxs c).loader.head?)
    (hp : ∀ t ∈ w.pending, some l ≠ (w.ctxs t.ctx).loader.head?) :
    (exec .now f p g c w).2.defs l = w.defs l :=
  (exec_all f p g c w h).eff.full.d.dframe l hl hne hp

theorem C14_fork_isolated : C14_fork_isolated_full :=
  fun f p g c w h =>
    ⟨fun i hi hic hp => C14_fork_isolated_partial f p g c w h i hi hic hp,
     fun l hl hne hp => C14_fork_isolated_defs f p g c w h l hl hne hp⟩

/-- a whole goroutine (child) runs: entry tables other than the defining loaders of waiting goroutines (its own included)
    are untouched — in particular every loader on the chain of its parent and of suspended goroutines -/
theorem C14_child_defs_invisible (f : Nat) (w : World) (i : Nat) (t : Task) (hinv : Inv w) (ht : w.pending[i]? = some t)
    (l : Nat) (hl : l < w.nextLoader) (hp : ∀ t' ∈ w.pending, some l ≠ (w.ctxs t'.ctx).loader.head?) :
    (runTask .now (exec .now f) t { w with pending := w.pending.eraseIdx i }).defs l = w.defs l :=
  (runTask_eff (exec_all f) hinv ht).full.d.dframe l hl (by simp) hp

/-- `px.Load` through a chain of loaders whose entry tables are the same answers the same -/
theorem C14_loads_unaffected (d d' : LoaderId → List (String × Bool)) (chain : List LoaderId) (n : String)
    (h : ∀ l ∈ chain, d' l = d l) : loadEntry d' chain n = loadEntry d chain n :=
  loadEntry_congr d d' chain n h

/-- "the parent's [definitions] are visible to the child" as a theorem (`C14_fork_view` gives the chain,
    the examples show one run): whatever the forking context can `Load` at the `Fork` call, the forked context can `Load` —
    its fresh loader sits on top of the parent's chain and the parent's entry tables are untouched by the call.  `hlt` (the
    parent's chain is allocated) is `LInv.chainLt`, an invariant (`C14_linv_exec`). -/
theorem C14_fork_sees_parent_defs (c : CtxId) (p : Prog) (w : World) (n : String)
    (hlt : ∀ l ∈ (w.ctxs c).loader, l < w.nextLoader)
    (h : loadEntry w.defs (w.ctxs c).loader n = some true) :
    loadEntry (spawn .now c p w).defs ((spawn .now c p w).ctxs w.nextCtx).loader n = some true := by
  have hl : ((spawn .now c p w).ctxs w.nextCtx).loader = w.nextLoader :: (w.ctxs c).loader := by
    simp [spawn_now, forkCtx_ctxs]
  have hd : ∀ l ∈ (w.ctxs c).loader, (spawn .now c p w).defs l = w.defs l :=
    fun l hm => forkCtx_defs c w l (Nat.ne_of_lt (hlt l hm))
  rw [hl]
  simp only [loadEntry]
  rw [C14_loads_unaffected w.defs (spawn .now c p w).defs (w.ctxs c).loader n hd, h]
-- non-vacuity: a context whose own loader 1 (child of the environment loader 0) holds `A`
example : let w : World := { ctxs := fun _ => { loader := [1, 0] }, defs := fun l => if l = 1 then [("A", true)] else [],
                             nextLoader := 2, nextCtx := 1 }
    (∀ l ∈ (w.ctxs 0).loader, l < w.nextLoader) ∧ loadEntry w.defs (w.ctxs 0).loader "A" = some true := by decide +kernel

/-! ## the loader-chain invariant (closes the hypothesis of `C14_loads_unaffected`) -/

/-- `LInv`: every waiting goroutine's defining loader is allocated, is not the shared environment loader, and occurs in the
    chain of no other context.  It holds initially … -/
theorem C14_linv_init (sched : List Nat) : LInv { sched := sched } :=
  ⟨Nat.le_refl _, fun i hi => by simp at hi, fun t ht => by simp at ht⟩

/-- … `Fork`/`Go` establish it for the goroutine they start (its loader is fresh) and every execution maintains it -/
theorem C14_linv_exec (f : Nat) (p : Prog) (g c : Nat) (w : World) (h : Pre g c w) (hl : LInv w) :
    LInv (exec .now f p g c w).2 := (exec_all f p g c w h).eff.linv hl

/-- … also a top-level `Do` on a goroutine without current context -/
theorem C14_linv_do (f : Nat) (id : Nat) (p : Prog) (g c : Nat) (w : World) (hi : Inv w) (hg : g < w.nextGid)
    (hp : g ∉ pendGids w) (hl : LInv w) : LInv (exec .now f (.dodo id p) g c w).2 :=
  (exec_do_eff false hi hg hp).linv hl

/-- definitions made by a forked goroutine — and by everything it starts or lets run — are invisible to its parent and to
    every other context that is not waiting: whatever such a context could `Load` before the child ran it can `Load` after,
    and nothing more (its chain and all entry tables on it are untouched).  No hypothesis about loaders is left: `LInv`. -/
theorem C14_parent_loads_unaffected (f : Nat) (w : World) (i : Nat) (t : Task) (hinv : Inv w) (hl : LInv w)
    (ht : w.pending[i]? = some t) (c : Nat) (hc : c < w.nextCtx) (hnp : c ∉ pendCtxs w) (n : String) :
    ((runTask .now (exec .now f) t { w with pending := w.pending.eraseIdx i }).ctxs c).loader = (w.ctxs c).loader ∧
    loadEntry (runTask .now (exec .now f) t { w with pending := w.pending.eraseIdx i }).defs (w.ctxs c).loader n =
      loadEntry w.defs (w.ctxs c).loader n := by
  refine ⟨by rw [(C14_child_invisible f w i t hinv ht c hc (Or.inl hnp)).1], ?_⟩
  apply C14_loads_unaffected
  intro l hm
  apply C14_child_defs_invisible f w i t hinv ht l (hl.chainLt c hc l hm)
  exact fun t' ht' heq => hl.not_on_chain ht' heq.symm hc hnp hm

/-! ## released: no goroutine-local table outlives its goroutine (big-step model) -/

/-- after the op — `Do` returned or panicked on a fresh goroutine, every forked goroutine ended — no goroutine-local
    table exists, for every program and every oracle -/
theorem C14_released (sched : List Nat) (p : Prog) :
    (∀ g, (run .now sched p).tls g = none) ∧ live (run .now sched p) = 0 := by
  have h : ∀ g, (run .now sched p).tls g = none := fun g => by rw [(run_eff sched p).tls]
  exact ⟨h, live_of_no_table h⟩

/-- the table of a forked goroutine is gone when the goroutine ends (normally or by panic of its body) -/
theorem C14_released_goroutine (ex : Prog → Gid → CtxId → World → Outcome × World) (t : Task) (w : World) :
    (runTask .now ex t w).tls t.gid = none := by
  rw [runTask_now]; simp [tlCleanup]

/-- non-vacuity: goroutines did run and did hold tables (five goroutines were created and ended) -/
example : (run .now [1, 1, 1] (.seq (.fork (.go (.fork .obs))) (.seq (.go .panic) (.fork (.dodo 1 .obs))))).nextGid = 6 := by decide +kernel

/-! ## arbitrary interleavings: the small-step semantics (`Model/TlsSmall.lean`)

`Reachable p c`: `c` is reached from the initial configuration of the op (`pcore.Do(p)` on a fresh goroutine) by ANY sequence of
micro-steps of ANY goroutines that exist at that point.  The theorems below are invariants of `Reachable`. -/

theorem init_log (p : Prog) : (Cfg.init p).w.log = [] := rfl

/-- current, as an observation: whatever the interleaving, every `CurrentContext()` returned the context handed to the body -/
theorem C14s_current {p : Prog} {c : Cfg} (h : Reachable p c) (g : Gid) (cur : Option CtxId) (lex : CtxId) (tag : Option Nat)
    (st : List Nat) (hm : (g, Ev.obs cur lex tag st) ∈ c.w.log) : cur = some lex :=
  ((reachable_winv h).2 _ hm).1

/-- current and restore, as a state invariant: at EVERY point of EVERY interleaving — before and after inner scopes returned
    or panicked, in the middle of unwinding — the goroutine's current context is the one its next body frame was handed, and it
    was installed for this goroutine (the only exception: the root goroutine before it has entered `Do`) -/
theorem C14s_current_state {p : Prog} {c : Cfg} (h : Reachable p c) (hne : c ≠ Cfg.init p) (g : GS) (hg : g ∈ c.gs)
    (hs : g.started = true) (q : Prog) (cx : CtxId) (k : List Frame) (hk : g.k = .run q cx :: k) :
    tlGet g.gid ctxKey c.w = some cx ∧ (g.gid, cx) ∈ c.w.estab := by
  have := ((h.cinv hne).gok g hg).st hs
  rw [hk] at this
  exact ⟨this.1, this.2.1⟩

/-- the small-step form of `C14_confined` -/
theorem C14s_confined {p : Prog} {c : Cfg} (h : Reachable p c) (g g' : Gid) (ctx lex : CtxId) (tag : Option Nat) (st : List Nat)
    (hm : (g, Ev.obs (some ctx) lex tag st) ∈ c.w.log) :
    (g, ctx) ∈ c.w.estab ∧ ((g', ctx) ∈ c.w.estab → g' = g) :=
  (reachable_winv h).2.confined (reachable_winv h).1 hm g'

/-- a step of one goroutine never touches another goroutine's table -/
theorem C14s_tls_local {p : Prog} {c : Cfg} (h : Reachable p c) (i : Nat) (g : GS) (hi : c.gs[i]? = some g) (gid : Gid)
    (hne : gid ≠ g.gid) : (c.step i).w.tls gid = c.w.tls gid := by
  rw [Cfg.step_w hi]
  exact (reachable_step_spec h hi).loc.tls gid hne

/-- fork isolation, per step: a micro-step of goroutine `g` changes no context object other than those installed for `g`
    (and the one made for it, before it starts) -/
theorem C14s_step_frame {p : Prog} {c : Cfg} (h : Reachable p c) (i : Nat) (g : GS) (hi : c.gs[i]? = some g)
    (j : Nat) (hj : j < c.w.nextCtx) (hne : (g.gid, j) ∉ c.w.estab) (h0 : ¬(g.started = false ∧ j = g.ctx0)) :
    (c.step i).w.ctxs j = c.w.ctxs j := by
  rw [Cfg.step_w hi]
  exact (reachable_step_spec h hi).frame j hj hne h0

/-- … in particular: contexts installed for ANOTHER goroutine (parent, child, sibling — running, suspended, ended) -/
theorem C14s_other_goroutines_contexts {p : Prog} {c : Cfg} (h : Reachable p c) (hn : c ≠ Cfg.init p) (i : Nat) (g : GS)
    (hi : c.gs[i]? = some g) (g' : Gid) (j : CtxId) (hj : (g', j) ∈ c.w.estab) (hne : g' ≠ g.gid) :
    (c.step i).w.ctxs j = c.w.ctxs j := by
  rw [Cfg.step_w hi]; exact (h.cinv hn).frame_of_ctxOf hi (Or.inl hj) hne

/-- … and the context made for a goroutine that has not started yet: whoever steps (its parent included), the waiting
    child's view stays the one of the `Fork` call -/
theorem C14s_waiting_child_view {p : Prog} {c : Cfg} (h : Reachable p c) (hn : c ≠ Cfg.init p) (i : Nat) (g : GS)
    (hi : c.gs[i]? = some g) (n : GS) (hnm : n ∈ c.gs) (hns : n.started = false) (hne : n.gid ≠ g.gid) :
    (c.step i).w.ctxs n.ctx0 = c.w.ctxs n.ctx0 := by
  rw [Cfg.step_w hi]; exact (h.cinv hn).frame_of_ctxOf hi (Or.inr ⟨n, hnm, hns, rfl, rfl⟩) hne

/-- the view at the `Fork`/`Go` call: the step that starts a goroutine gives it a new context object holding the caller's
    variables and stack of that moment; the new goroutine has not started and owns no table -/
theorem C14s_fork_view {p : Prog} {c : Cfg} (h : Reachable p c) (hn : c ≠ Cfg.init p) (g : GS) (hg : g ∈ c.gs) (n : GS)
    (hsp : (stepG g c.w).spawned = some n) (q : Prog) (cx : CtxId) (k : List Frame) (hk : g.k = .run q cx :: k) :
    n.gid = c.w.nextGid ∧ n.started = false ∧ n.ctx0 = c.w.nextCtx ∧ (stepG g c.w).w.tls n.gid = none ∧
    ((stepG g c.w).w.ctxs n.ctx0).vars = (c.w.ctxs cx).vars ∧ ((stepG g c.w).w.ctxs n.ctx0).stack = (c.w.ctxs cx).stack := by
  have hh := h.cinv hn
  have sp := (stepG_spec hh.winv hh.nopend (hh.gok g hg)).spawned n hsp
  rw [hk] at sp
  exact ⟨sp.1, sp.2.2.1, sp.2.2.2.1, (sp.2.1.unst sp.2.2.1).1, sp.2.2.2.2.1, sp.2.2.2.2.2⟩

/-- loader entries, per step (no invariant needed): a micro-step writes an existing loader's entry table only if it is the
    defining loader of the context of the stepping goroutine's next body frame — definitions go nowhere else -/
theorem C14s_defs_step (c : Cfg) (i : Nat) (g : GS) (hi : c.gs[i]? = some g) (l : Nat) (hl : l < c.w.nextLoader)
    (hne : ∀ q cx k, g.k = .run q cx :: k → some l ≠ (c.w.ctxs cx).loader.head?) :
    (c.step i).w.defs l = c.w.defs l := by
  rw [Cfg.step_w hi]
  exact stepG_defs g c.w l hl hne

/-- released: a goroutine that has ended has no goroutine-local table — at every point of every interleaving -/
theorem C14s_released_goroutine {p : Prog} {c : Cfg} (h : Reachable p c) (g : GS) (hg : g ∈ c.gs) (hd : g.done = true) :
    c.w.tls g.gid = none := by
  simp only [GS.done, Bool.and_eq_true, List.isEmpty_iff] at hd
  rcases reachable_inv h with hh | hh
  · subst hh; simp [Cfg.init] at hg; subst hg; simp at hd
  · have := (hh.gok g hg).st hd.1
    rw [hd.2] at this
    exact (tlGet_none_iff hh.winv).1 this

/-- … and when all have ended no table is left -/
theorem C14s_released {p : Prog} {c : Cfg} (h : Reachable p c) (hall : ∀ g ∈ c.gs, g.done = true) :
    (∀ gid, c.w.tls gid = none) ∧ live c.w = 0 := by
  have hnone : ∀ gid, c.w.tls gid = none := by
    intro gid
    rcases reachable_inv h with hh | hh
    · subst hh; rfl
    · cases ht : c.w.tls gid with
      | none => rfl
      | some t =>
        obtain ⟨g, hg, hgid, _⟩ := hh.cover gid (by rw [ht]; simp)
        have := C14s_released_goroutine h g hg (hall g hg)
        rw [hgid, ht] at this; cases this
  exact ⟨hnone, live_of_no_table hnone⟩

/-- non-vacuity (and an end-to-end instance): the parent sets a=1, forks, sets a=2 — and only THEN the child starts and reads
    `a`: it reads 1 while the parent's context holds 2; both goroutines hold a table.  Later both have ended (the child by a
    panic inside a nested DoWithContext), every table is gone, and each goroutine logged only its own contexts. -/
def sampleInter : Prog :=
  .seq (.set "a" 1) (.seq (.fork (.seq (.get "a") (.seq (.set "a" 5) (.doctx 1 (.seq .obs .panic)))))
    (.seq (.set "a" 2) (.seq (.get "a") .obs)))
def sampleSched1 : List Nat := [0, 0, 0, 0, 0, 0, 0, 0, 1, 1, 1]
def sampleSched2 : List Nat := sampleSched1 ++ [1, 1, 1, 1, 1, 1, 1, 0, 0, 0, 1, 1, 1, 1, 0, 0, 0, 0, 0, 0, 0]

example : Reachable sampleInter (Cfg.steps sampleSched1 (Cfg.init sampleInter)) := reachable_steps _ Reachable.init
example : (Cfg.steps sampleSched1 (Cfg.init sampleInter)).w.log = [(1, .get "a" (some 1))] ∧
    aget "a" ((Cfg.steps sampleSched1 (Cfg.init sampleInter)).w.ctxs 1).vars = some 2 ∧
    ((List.range 3).map fun g => ((Cfg.steps sampleSched1 (Cfg.init sampleInter)).w.tls g).isSome) = [true, true, false] := by
  decide +kernel
example : ((Cfg.steps sampleSched2 (Cfg.init sampleInter)).gs.map fun g => (g.gid, g.done)) = [(0, true), (1, true)] ∧
    (Cfg.steps sampleSched2 (Cfg.init sampleInter)).w.log =
      [(1, .get "a" (some 1)), (1, .obs (some 3) 3 (some 1) []), (0, .get "a" (some 2)), (0, .obs (some 1) 1 (some 1000) []),
       (1, .done .panicked), (0, .done .normal)] ∧
    (Cfg.steps sampleSched2 (Cfg.init sampleInter)).w.estab = [(0, 0), (0, 1), (1, 2), (1, 3)] := by decide +kernel
example : ∀ gid, (Cfg.steps sampleSched2 (Cfg.init sampleInter)).w.tls gid = none :=
  (C14s_released (reachable_steps _ Reachable.init) (by decide +kernel)).1

/-! ### the hypotheses of `C14s_fork_view` and `C14s_waiting_child_view` on concrete reachable configurations -/

/-- `sampleInter` after five micro-steps of the root goroutine: its next micro-step is the `Fork` -/
def forkPoint : Cfg := Cfg.steps (List.replicate 5 0) (Cfg.init sampleInter)
def runCtx (g : GS) : Option CtxId := match g.k with | .run _ cx :: _ => some cx | _ => none
example : Reachable sampleInter forkPoint := reachable_steps _ Reachable.init
-- non-vacuity of C14s_fork_view: goroutine 0 is at a body frame handed context 1 (`hk`), its next step starts a goroutine
-- (`hsp`): id 1 = nextGid, not started, context 2 = nextCtx; the caller's `a` is 1 at that moment
example : (forkPoint.gs.map fun g => (g.gid, runCtx g)) = [(0, some 1)] ∧
    (forkPoint.gs.map fun g => (stepG g forkPoint.w).spawned.map fun n => (n.gid, n.started, n.ctx0)) = [some (1, false, 2)] ∧
    forkPoint.w.nextGid = 1 ∧ forkPoint.w.nextCtx = 2 ∧ aget "a" (forkPoint.w.ctxs 1).vars = some 1 := by decide +kernel
/-- … and after `n` micro-steps of the root goroutine only -/
def waitPoint (n : Nat) : Cfg := Cfg.steps (List.replicate n 0) (Cfg.init sampleInter)
-- non-vacuity of C14s_waiting_child_view (and its conclusion): after 6 and after 8 steps goroutine 1 exists and has NOT started
-- (`hnm`, `hns`, `hne`: the stepping goroutine is 0); in between the parent has set a=2 in its own context 1 while the
-- waiting child's context 2 still holds the a=1 of the `Fork` call; the child owns no table yet
example : ((waitPoint 6).gs.map fun g => (g.gid, g.started, g.ctx0)) = [(0, true, 0), (1, false, 2)] ∧
    ((waitPoint 8).gs.map fun g => (g.gid, g.started, g.ctx0)) = [(0, true, 0), (1, false, 2)] ∧
    aget "a" ((waitPoint 6).w.ctxs 1).vars = some 1 ∧ aget "a" ((waitPoint 8).w.ctxs 1).vars = some 2 ∧
    aget "a" ((waitPoint 6).w.ctxs 2).vars = some 1 ∧ aget "a" ((waitPoint 8).w.ctxs 2).vars = some 1 ∧
    (waitPoint 8).w.tls 1 = none := by decide +kernel

/-- `C14_never_observed_by_two` under ARBITRARY interleavings: at every reachable configuration no context
    has been observed as current by two different goroutines -/
theorem C14s_never_observed_by_two {p : Prog} {c : Cfg} (h : Reachable p c) (g g' : Gid) (ctx lex lex' : CtxId)
    (tag tag' : Option Nat) (st st' : List Nat) (hm : (g, Ev.obs (some ctx) lex tag st) ∈ c.w.log)
    (hm' : (g', Ev.obs (some ctx) lex' tag' st') ∈ c.w.log) : g' = g :=
  (C14s_confined h g g' ctx lex tag st hm).2 (C14s_confined h g' g ctx lex' tag' st' hm').1

/-! ## loader entries under arbitrary interleavings (`Proofs/TlsGhost.lean`) -/

/-- every reachable configuration has a decoration (who a loader was allocated for, who started whom); the semantics never reads it -/
theorem C14s_ghost {p : Prog} {c : Cfg} (h : Reachable p c) : ∃ gh, ReachG p c gh := reachable_ghost h

/-- a micro-step of goroutine `g` writes the entry table of a loader only if that loader was allocated for `g`; the shared
    environment loader `0` is never written -/
theorem C14s_defs_owned {p : Prog} {c : Cfg} {gh : Ghost} (h : ReachG p c gh) (hn : c ≠ Cfg.init p) (i : Nat) (g : GS)
    (hi : c.gs[i]? = some g) (l : LoaderId) (hl : l < c.w.nextLoader) (hne : gh.own l ≠ g.gid ∨ l = 0) :
    (c.step i).w.defs l = c.w.defs l :=
  defs_owned (h.inv_of_ne hn).1 (h.inv_of_ne hn).2 hi hl hne

/-- definitions made by `g` — and everything else `g` does in a micro-step — are invisible to every goroutine `b` that does not
    descend from `g`: the contexts of `b` (installed for it, or made for it while it waits to start) keep their state and every
    `px.Load` through them answers as before.  At every point of EVERY interleaving. -/
theorem C14s_defs_isolated {p : Prog} {c : Cfg} {gh : Ghost} (h : ReachG p c gh) (i : Nat) (g : GS) (hi : c.gs[i]? = some g)
    (b : Gid) (j : CtxId) (hj : CtxOf c b j) (hna : ¬ Anc gh.par g.gid b) (n : String) :
    (c.step i).w.ctxs j = c.w.ctxs j ∧
    loadEntry (c.step i).w.defs (c.w.ctxs j).loader n = loadEntry c.w.defs (c.w.ctxs j).loader n :=
  loads_isolated (h.inv_of_ctxOf hj).1 (h.inv_of_ctxOf hj).2 hi hj hna n

/-- … in particular to every goroutine OLDER than `g` (goroutine ids are handed out in order of creation): the goroutine that
    started `g`, `g`'s older siblings, all their ancestors -/
theorem C14s_defs_invisible_to_older {p : Prog} {c : Cfg} {gh : Ghost} (h : ReachG p c gh) (i : Nat) (g : GS)
    (hi : c.gs[i]? = some g) (b : Gid) (j : CtxId) (hj : CtxOf c b j) (hb : b < g.gid) (n : String) :
    (c.step i).w.ctxs j = c.w.ctxs j ∧
    loadEntry (c.step i).w.defs (c.w.ctxs j).loader n = loadEntry c.w.defs (c.w.ctxs j).loader n :=
  C14s_defs_isolated h i g hi b j hj (not_anc_of_lt (h.inv_of_ctxOf hj).2 hb) n

/-- the same over ANY number of micro-steps: whatever goroutines younger than `b` do, in any order and interleaved in any way
    (`YoungerOnly b is c`: every step of the schedule `is` is taken by a goroutine with a larger id), the contexts of `b` keep their
    state and every `px.Load` through them answers as before — a child, its siblings started later and all their descendants can
    define whatever they like -/
theorem C14s_younger_invisible {p : Prog} {c : Cfg} {gh : Ghost} (h : ReachG p c gh) (hn : c ≠ Cfg.init p) (is : List Nat)
    (b : Gid) (j : CtxId) (hj : CtxOf c b j) (hy : YoungerOnly b is c) (n : String) :
    (Cfg.steps is c).w.ctxs j = c.w.ctxs j ∧
    loadEntry (Cfg.steps is c).w.defs (c.w.ctxs j).loader n = loadEntry c.w.defs (c.w.ctxs j).loader n :=
  younger_invisible is h hn hj hy n

/-- non-vacuity: in `sampleInter` after `sampleSched1` (the parent has forked and gone on, the child has started) goroutine 1 was
    started by goroutine 0, context 1 is installed for goroutine 0, goroutine 1 is at index 1 and is younger -/
example : ReachG sampleInter (Cfg.steps sampleSched1 (Cfg.init sampleInter)) (ghSteps sampleSched1 (Cfg.init sampleInter) {}) :=
  reachG_steps _ ReachG.init
example : (ghSteps sampleSched1 (Cfg.init sampleInter) {}).par 1 = 0 ∧
    CtxOf (Cfg.steps sampleSched1 (Cfg.init sampleInter)) 0 1 ∧
    ((Cfg.steps sampleSched1 (Cfg.init sampleInter)).gs[1]?.map (·.gid)) = some 1 ∧ (0 : Gid) < 1 := by
  refine ⟨by decide +kernel, Or.inl (by decide +kernel), by decide +kernel, by decide⟩

example : YoungerOnly 0 [1] (Cfg.steps sampleSched1 (Cfg.init sampleInter)) := by
  refine ⟨fun g hg => ?_, trivial⟩
  have h1 : ((Cfg.steps sampleSched1 (Cfg.init sampleInter)).gs[1]?.map (·.gid)) = some 1 := by decide +kernel
  rw [hg] at h1
  have : g.gid = 1 := by simpa using h1
  rw [this]; exact Nat.zero_lt_one
example : Cfg.steps sampleSched1 (Cfg.init sampleInter) ≠ Cfg.init sampleInter := by
  intro h
  have : (Cfg.steps sampleSched1 (Cfg.init sampleInter)).gs.length = (Cfg.init sampleInter).gs.length := by rw [h]
  revert this; decide +kernel

/-! ## refinement: every big-step run is an execution of the small-step model (`Proofs/TlsRefine.lean`) -/

/-- full statement: for EVERY program and oracle the big-step run of the harness op is realised by a schedule of micro-steps of
    the small-step semantics that ends with every goroutine ended and the same shared state -/
def C14_refines_full : Prop :=
  ∀ (sched : List Nat) (p : Prog), ∃ steps : List Nat,
    (Cfg.steps steps (Cfg.init p)).w = strip (run .now sched p) ∧
    (∀ g ∈ (Cfg.steps steps (Cfg.init p)).gs, g.done = true)

/-- the statement under the hypothesis that the big-step run did not run out of fuel (`oof`; the driver prints `fuel` then);
    `C14_fuel_enough` discharges it (`C14_refines`).  `strip` forgets only the big-step model's own scheduling bookkeeping (`pending`, which
    is empty at the end, and the unconsumed rest of the oracle). -/
theorem C14_refines_partial (sched : List Nat) (p : Prog) (hok : (run .now sched p).oof = false) :
    ∃ steps : List Nat,
      (Cfg.steps steps (Cfg.init p)).w = strip (run .now sched p) ∧
      (∀ g ∈ (Cfg.steps steps (Cfg.init p)).gs, g.done = true) ∧ (run .now sched p).pending = [] :=
  run_refines sched p hok

/-- the fuel the op gives (`fuelFor p = 2·size p + 8`) is enough for EVERY program and oracle: the driver never answers `fuel` -/
theorem C14_fuel_enough (sched : List Nat) (p : Prog) : (run .now sched p).oof = false := run_oof sched p

/-- **the refinement at full strength** -/
theorem C14_refines : C14_refines_full := fun sched p =>
  let ⟨steps, h1, h2, _⟩ := run_refines_all sched p
  ⟨steps, h1, h2⟩

/-- … hence the result of a big-step run is the shared state of a REACHABLE final configuration of the small-step model -/
theorem C14_refines_reachable (sched : List Nat) (p : Prog) (hok : (run .now sched p).oof = false) :
    ∃ c : Cfg, Reachable p c ∧ c.w = strip (run .now sched p) ∧ (∀ g ∈ c.gs, g.done = true) :=
  run_reachable sched p

/-- the observations are the same: log, goroutine-local tables, context objects, loader entries -/
theorem C14_refines_log (sched : List Nat) (p : Prog) (hok : (run .now sched p).oof = false) :
    ∃ c : Cfg, Reachable p c ∧ c.w.log = (run .now sched p).log ∧ c.w.tls = (run .now sched p).tls ∧
      c.w.ctxs = (run .now sched p).ctxs ∧ c.w.defs = (run .now sched p).defs ∧ c.w.estab = (run .now sched p).estab := by
  obtain ⟨c, hr, hw, _⟩ := C14_refines_reachable sched p hok
  refine ⟨c, hr, ?_⟩
  generalize run .now sched p = r at hw
  rw [hw]
  exact ⟨rfl, rfl, rfl, rfl, rfl⟩

/-- an instance of the transfer: `current` for big-step runs, obtained from the small-step invariant `C14s_current` (every
    reachable configuration) through the refinement (it is also proved directly: `C14_current`) -/
theorem C14_run_current_via_small (sched : List Nat) (p : Prog) (hok : (run .now sched p).oof = false)
    (g : Gid) (cur : Option CtxId) (lex : CtxId) (tag : Option Nat) (st : List Nat)
    (hm : (g, Ev.obs cur lex tag st) ∈ (run .now sched p).log) : cur = some lex := by
  obtain ⟨c, hr, hl, _⟩ := C14_refines_log sched p hok
  exact C14s_current hr g cur lex tag st (by rw [hl]; exact hm)

/-- non-vacuity: the runs of the samples above do not run out of fuel -/
example : (run .now [0, 0, 1] sampleNest).oof = false ∧ (run .now [0, 0, 0, 1] sampleFork).oof = false := by decide +kernel

/-! ## second tie: the regenerated shape table selects the model variant -/

/-- obligation over the table regenerated from px/context.go, internal/context.go, internal/runtime.go, threadlocal/gid.go on every
    run: the code has the shape the model `Ver.now` mirrors (deferred restore in DoWithContext, Init paired with a deferred
    Cleanup, `c.Fork()` before the `go` statement, goroutine body `defer Cleanup(); Init(); Set`, stack and vars copied into
    fresh storage by `pxContext.Fork`, loader wrapped, Do/Try through a scoped root …).  A change of any of these statements
    breaks THIS theorem (and the harness then looks for a failing program). -/
theorem C14_facts_now : Pcore.CtxFacts.classify Pcore.Generated.ctxFacts = .now := by decide +kernel

/-- seven of the nine named obligations separately (so that a broken build says which one); `parentForkedAndScoped` and
    `tlsGuarded` are covered by `C14_facts_now` only -/
theorem C14_facts_restoresCurrent : Pcore.CtxFacts.restoresCurrent Pcore.Generated.ctxFacts = true := by decide +kernel
theorem C14_facts_releasesTable : Pcore.CtxFacts.releasesTable Pcore.Generated.ctxFacts = true := by decide +kernel
theorem C14_facts_forkCopiesInCaller : Pcore.CtxFacts.forkCopiesInCaller Pcore.Generated.ctxFacts = true := by decide +kernel
theorem C14_facts_goroutineReleases : Pcore.CtxFacts.goroutineReleases Pcore.Generated.ctxFacts = true := by decide +kernel
theorem C14_facts_ctxForkCopies : Pcore.CtxFacts.ctxForkCopies Pcore.Generated.ctxFacts = true := by decide +kernel
theorem C14_facts_loaderRestored : Pcore.CtxFacts.loaderRestored Pcore.Generated.ctxFacts = true := by decide +kernel
theorem C14_facts_doUsesScopedRoot : Pcore.CtxFacts.doUsesScopedRoot Pcore.Generated.ctxFacts = true := by decide +kernel

/-- the variant the driver runs is the one the theorems are about -/
theorem C14_impl_ver : implVer = .now := by
  unfold implVer; rw [C14_facts_now]; rfl

/-- … so they hold of it: instances on the model selected by the table -/
theorem C14_impl_restore (f : Nat) (p : Prog) (g c : Nat) (w : World) (h : Pre g c w) :
    (exec implVer f p g c w).2.tls = w.tls := by rw [C14_impl_ver]; exact C14_restore f p g c w h
theorem C14_impl_current (sched : List Nat) (p : Prog) (g : Gid) (cur : Option CtxId) (lex : CtxId) (tag : Option Nat)
    (st : List Nat) (h : (g, Ev.obs cur lex tag st) ∈ (run implVer sched p).log) : cur = some lex := by
  rw [C14_impl_ver] at h; exact C14_current sched p g cur lex tag st h
theorem C14_impl_released (sched : List Nat) (p : Prog) :
    (∀ g, (run implVer sched p).tls g = none) ∧ live (run implVer sched p) = 0 := by
  rw [C14_impl_ver]; exact C14_released sched p

/-- the hand-written shape of the original code is what `Ver.before` mirrors; it fails the repaired obligations
    (these three and no other: `CtxFacts.obligations_before`) -/
example : verOf (Pcore.CtxFacts.classify Pcore.CtxFacts.factsBefore) = .before := by decide +kernel
example : Pcore.CtxFacts.releasesTable Pcore.CtxFacts.factsBefore = false ∧
    Pcore.CtxFacts.forkCopiesInCaller Pcore.CtxFacts.factsBefore = false ∧
    Pcore.CtxFacts.doUsesScopedRoot Pcore.CtxFacts.factsBefore = false := by decide +kernel

/-! ## goroutine ids: `threadlocal.getg()` parses what the runtime prints (`Model/Gid.lean`) -/

/-- the digit loop of `getg()` applied to the first 64 bytes of `runtime.Stack` output ("goroutine N [status]:…") returns N,
    for every goroutine id 0 < N < 2^63 (int64 arithmetic, no overflow) -/
theorem C14_getg {n : Nat} (h0 : 0 < n) (hn : n < 2 ^ 63) {rest : List UInt8} (hr : Pcore.Gid.stops rest = true) :
    Pcore.Gid.getg64 (Pcore.Gid.stackBuf n rest) = some (n : Int) := Pcore.Gid.getg64_stackBuf h0 hn hr

/-- distinct goroutines get distinct keys of the goroutine-local table -/
theorem C14_getg_injective {n m : Nat} (h0 : 0 < n) (hn : n < 2 ^ 63) (h0' : 0 < m) (hm : m < 2 ^ 63) {rest rest' : List UInt8}
    (hr : Pcore.Gid.stops rest = true) (hr' : Pcore.Gid.stops rest' = true)
    (h : Pcore.Gid.getg64 (Pcore.Gid.stackBuf n rest) = Pcore.Gid.getg64 (Pcore.Gid.stackBuf m rest')) : n = m :=
  Pcore.Gid.getg64_injective h0 hn h0' hm hr hr' h

/-- the bound is sharp: from 2^63 on the int64 accumulator wraps -/
theorem C14_getg_iff {n : Nat} (h0 : 0 < n) (hn : n < 10 ^ 54) {rest : List UInt8} (hr : Pcore.Gid.stops rest = true) :
    Pcore.Gid.getg64 (Pcore.Gid.stackBuf n rest) = some (n : Int) ↔ n < 2 ^ 63 := Pcore.Gid.getg64_stackBuf_iff h0 hn hr

example : Pcore.Gid.stops (0x20 :: []) = true := by decide +kernel

/-! ### … over the constants regenerated from `threadlocal/gid.go` (`Generated/GidFacts.lean`, `Model/GidFacts.lean`) -/

/-- obligation over the regenerated table: `getg()` is the modelled idiom with the standard digit-loop constants (loop from
    byte 10, digits `'0'..'9'`, radix ten from 0, panic on 0); no statement was left unrecognised -/
theorem C14_gid_facts_std : Pcore.Generated.gidFacts.std = true := by decide +kernel

/-- obligation over the regenerated table: the slice handed to `runtime.Stack` holds `"goroutine "` and the 19 digits of the
    largest `int64` id.  A smaller buffer breaks THIS theorem (the driver's `hi`/`gidlive` ops then name the first id that is
    cut and the harness looks for live goroutines that share a table). -/
theorem C14_gid_facts_roomy : Pcore.Generated.gidFacts.roomy = true := by decide +kernel

/-- the code as it is (constants from the sources): `getg()` returns the printed id for every goroutine id below 2^63 -/
theorem C14_getg_impl {n : Nat} (h0 : 0 < n) (hn : n < 2 ^ 63) {rest : List UInt8} (hr : Pcore.Gid.stops rest = true) :
    Pcore.GidFacts.getg64F Pcore.Generated.gidFacts (Pcore.GidFacts.stackBufF Pcore.Generated.gidFacts n rest) = some (n : Int) :=
  Pcore.GidFacts.getg64F_exact C14_gid_facts_std C14_gid_facts_roomy h0 hn hr

/-- … so goroutines that are alive together never share a goroutine-local table -/
theorem C14_getg_impl_injective {n m : Nat} (h0 : 0 < n) (hn : n < 2 ^ 63) (h0' : 0 < m) (hm : m < 2 ^ 63)
    {rest rest' : List UInt8} (hr : Pcore.Gid.stops rest = true) (hr' : Pcore.Gid.stops rest' = true)
    (h : Pcore.GidFacts.getg64F Pcore.Generated.gidFacts (Pcore.GidFacts.stackBufF Pcore.Generated.gidFacts n rest) =
         Pcore.GidFacts.getg64F Pcore.Generated.gidFacts (Pcore.GidFacts.stackBufF Pcore.Generated.gidFacts m rest')) : n = m :=
  Pcore.GidFacts.getg64F_injective C14_gid_facts_std C14_gid_facts_roomy h0 hn h0' hm hr hr' h

example : 0 < 1234567 ∧ 1234567 < 2 ^ 63 ∧ Pcore.Gid.stops Pcore.GidFacts.restRunning = true := by decide +kernel
/-- the CONCLUSIONS on concrete ids — a seven-digit id and the largest `int64` id are read back exactly (the
    latter over the regenerated constants); on the 16-byte table of `C14_getg_collide` the id after the first cut one is read as
    the same key 100 000 -/
example : Pcore.Gid.getg64 (Pcore.Gid.stackBuf 1234567 Pcore.GidFacts.restRunning) = some 1234567 ∧
    Pcore.GidFacts.keyOf Pcore.Generated.gidFacts (2 ^ 63 - 1) = some (2 ^ 63 - 1 : Int) ∧
    Pcore.GidFacts.keyOf Pcore.GidFacts.factsBuf16 1000001 = some 100000 := by decide +kernel

/-- the bound of the obligation is sharp, for EVERY table with the standard loop constants: the parser is exact on all ids
    below 2^63 iff `prefixLen + 19 ≤ min stackLen bufLen` -/
theorem C14_getg_buffer_iff {f : Pcore.GidFacts.Facts} (hs : f.std = true) :
    (∀ (n : Nat) (rest : List UInt8), 0 < n → n < 2 ^ 63 → Pcore.Gid.stops rest = true →
      Pcore.GidFacts.getg64F f (Pcore.GidFacts.stackBufF f n rest) = some (n : Int)) ↔ f.roomy = true :=
  Pcore.GidFacts.getg64F_exact_iff hs

/-- when it fails, the concrete id: `10^(room-10)` is a legal id (below 2^63) whose key is its first `room-10` digits (or
    `getg()` panics: no room for a digit); every smaller id is still exact (`C14_getg_below_cut`) -/
theorem C14_getg_first_cut {f : Pcore.GidFacts.Facts} (hs : f.std = true) (hr : f.roomy = false) (rest : List UInt8) :
    0 < f.firstCut ∧ f.firstCut < 2 ^ 63 ∧
    Pcore.GidFacts.getg64F f (Pcore.GidFacts.stackBufF f f.firstCut rest) ≠ some (f.firstCut : Int) ∧
    Pcore.GidFacts.getg64F f (Pcore.GidFacts.stackBufF f f.firstCut rest) =
      if f.room ≤ 10 then none else some ((10 ^ (f.room - 11) : Nat) : Int) :=
  Pcore.GidFacts.getg64F_firstCut hs hr rest

theorem C14_getg_below_cut {f : Pcore.GidFacts.Facts} (hs : f.std = true) {n : Nat} (h0 : 0 < n) (hn : n < 2 ^ 63)
    (hc : n < f.firstCut) {rest : List UInt8} (hst : Pcore.Gid.stops rest = true) :
    Pcore.GidFacts.getg64F f (Pcore.GidFacts.stackBufF f n rest) = some (n : Int) :=
  Pcore.GidFacts.getg64F_exact_below hs h0 hn hc hst

/-- … and two consecutive ids — goroutines started back to back — then share one goroutine-local table -/
theorem C14_getg_collide {f : Pcore.GidFacts.Facts} (hs : f.std = true) (hr : f.roomy = false) (h10 : 10 < f.room)
    (rest rest' : List UInt8) :
    f.firstCut + 1 < 2 ^ 63 ∧
    Pcore.GidFacts.getg64F f (Pcore.GidFacts.stackBufF f f.firstCut rest) =
      Pcore.GidFacts.getg64F f (Pcore.GidFacts.stackBufF f (f.firstCut + 1) rest') :=
  Pcore.GidFacts.getg64F_collide hs hr h10 rest rest'

/-- non-vacuity: the table of the seeded change C14-s8 (16-byte buffer) is standard, not roomy, longer than the prefix; its
    first cut id is 1 000 000, read as 100 000 -/
example : Pcore.GidFacts.factsBuf16.std = true ∧ Pcore.GidFacts.factsBuf16.roomy = false ∧ 10 < Pcore.GidFacts.factsBuf16.room ∧
    Pcore.GidFacts.factsBuf16.firstCut = 1000000 ∧
    Pcore.GidFacts.keyOf Pcore.GidFacts.factsBuf16 1000000 = some 100000 := by decide +kernel
/-- non-vacuity of `C14_getg_below_cut` on that table -/
example : 0 < 999999 ∧ 999999 < 2 ^ 63 ∧ 999999 < Pcore.GidFacts.factsBuf16.firstCut := by decide +kernel

/-- for the table written by hand from /repo HEAD the parametrised model IS `Model/Gid.lean`'s `getg64` (so `C14_getg` is the
    instance of the general statement at the 64-byte buffer).  Deliberately NOT an obligation over the regenerated table: a
    larger buffer is a harmless change (selftest/C14/harmless-gid-buf128-rename.diff stays green). -/
theorem C14_getg_now_is_getg64 (buf : List UInt8) :
    Pcore.GidFacts.getg64F Pcore.GidFacts.factsNow buf = Pcore.Gid.getg64 buf := Pcore.GidFacts.getg64F_now buf

/-- the driver's guard (`hi`, `gidlive`): on the regenerated table no id in any range below 2^63 is inexact -/
theorem C14_gid_guard (start count : Nat) (h0 : 0 < start) (hlt : start + count ≤ 2 ^ 63) :
    Pcore.GidFacts.firstInexact Pcore.Generated.gidFacts start count = none :=
  Pcore.GidFacts.firstInexact_none C14_gid_facts_std C14_gid_facts_roomy start count h0 hlt
example : 0 < 1000000 ∧ 1000000 + 64 ≤ 2 ^ 63 := by decide +kernel

/-! ## the original code (`Ver.before`, tag verif-base) violates the property — witnesses -/

/-- `Do` left its root context set and the table allocated (fixed by 304610f) -/
theorem C14_before_not_released :
    (run .before [] .skip).tls 0 ≠ none ∧ tlGet 0 ctxKey (run .before [] .skip) = some 0 ∧ live (run .before [] .skip) = 1 := by
  decide +kernel

/-- `Try` likewise, also when the body panics -/
theorem C14_before_try_not_released :
    tlGet 0 ctxKey (exec .before 9 (.dotry 1 .panic) 0 0 {}).2 = some 0 ∧ (exec .before 9 (.dotry 1 .panic) 0 0 {}).1 = .normal ∧
    tlGet 0 ctxKey (exec .now 9 (.dotry 1 .panic) 0 0 {}).2 = none ∧ (exec .now 9 (.dotry 1 .panic) 0 0 {}).1 = .normal := by
  decide +kernel

/-- a nested `Do` replaced the caller's current context by its own root and did not put it back -/
theorem C14_before_nested_do_not_restored :
    (0, Ev.obs (some 2) 1 none []) ∈ (run .before [] (.seq (.dodo 1 .skip) .obs)).log := by decide +kernel

/-- `Fork` copied the parent's context when the child started: the child sees what the parent stored AFTER the call -/
theorem C14_before_fork_copy_late :
    (1, Ev.get "a" (some 2)) ∈ (run .before [] (.seq (.set "a" 1) (.seq (.fork (.get "a")) (.set "a" 2)))).log ∧
    (1, Ev.get "a" (some 1)) ∈ (run .now [] (.seq (.set "a" 1) (.seq (.fork (.get "a")) (.set "a" 2)))).log := by decide +kernel

/-- … and `C14_fork_view` fails for it: the waiting goroutine holds the parent's own context object -/
theorem C14_before_fork_shares_context (c : CtxId) (p : Prog) (w : World) :
    ∃ t, (spawn .before c p w).pending = w.pending ++ [t] ∧ t.ctx = c :=
  ⟨{ gid := w.nextGid, ctx := c, prog := p }, rfl, rfl⟩

end Pcore.Tls

import Pcore.Proofs.LoaderConc
import Pcore.Proofs.LoaderConcDisc
import Pcore.Model.Lockset
import Pcore.Generated.Locksets
import Pcore.Proofs.LazyCache
import Pcore.Generated.CacheSites
import Pcore.Proofs.InstantiateOnce
import Pcore.Proofs.ConcQueueStep
import Pcore.Generated.QueueSites
/-!
# C13 — Shared loaders, types and values are safe under concurrent use

Property (properties.jsonl): under every interleaving of goroutines that load, define, query and discover through a
shared loader hierarchy, or that concurrently read, infer the type of, print, hash and type-check shared values and
types, there is no data race and no crash, and every operation returns what some sequential ordering of the same
operations would return: all goroutines agree on the single value bound to a name, a lazily file-loaded definition is
instantiated exactly once, and an inferred type is never observed half-built.

Model: `Pcore.LoaderConc` (`Model/LoaderConc.lean`): atomic steps at the synchronisation boundaries of loader.go at HEAD,
`Reachable` = every interleaving of every number of threads running programs of every length.  The four further models (file-based
loading, type caches, lock sets, the declare / resolve queue) are named at their bullets; the parts of this file stand in the
order of the bullets.

Full statement / proved / missing
* `C13_full` (a `def … : Prop`): every quiescent reachable configuration is explained by one sequential order of all
  operations (program order kept) run against the C12 model.  It is FALSE of the model and of the code
  (`C13_full_fails`, known finding C13-chain-walk-not-atomic: a lookup through a chain reads the levels at different
  times); the schedule of the witness is replayed on the implementation through the yield points on every check.
* proved, as inductive invariants over `Reachable` (unbounded threads, programs, steps):
  `C13_writeonce` / `C13_writeonce_reach` — the shared state only grows: a binding, once made, is never changed or removed;
  `C13_agree` (with `C13_found_has_source`) — all threads agree on the single value bound to a name in a loader: two
      answers that handed out the value of (loader level, key) handed out the same value, and every `found` answer has
      such a source; NOT per loader asked — `C13_agree_is_per_level`: two lookups of one name through one loader
      can be handed the values of two different levels (the known finding below);
  `C13_nocrash` — no operation ends in a fault: in particular the placeholder `SetEntry` in load's miss window never
      raises, whatever was defined in the window (`C13_miss_window_crash_before_fix`: it did before fix e398ee4);
  `C13_sc_partial` — towards `C13_full`: when a lookup has read its last level, its answer is `resolve` of the CURRENT
      shared state provided no level it passed as unbound has gained a binding since ("no ancestor gains a binding");
      this gives the linearisation point of every lookup outside the known finding's class.
  `C13_discover_sandwich` (with `C13_discover_answer`) — the answer of a concurrent discovery contains every name the
      sequential discovery answered when the operation began and only names it answers when the operation ends.
* file-based loading (`Model/InstantiateOnce.lean`: the lock-table / name-mutex / double-check protocol of
  `fileBasedLoader.instantiate`, including the deletion of the mutex from the table after unlocking):
  `C13_once` — under every interleaving the instantiator of a name runs at most once; `C13_once_bound` — and exactly once
  for every name that is bound, whose value is the one its file holds; `C13_once_errors` / `C13_broken_never_bound` — the
  same with files whose instantiator raises (parse error, wrong definition): read at most once, never bound;
  `C13_placeholder_visible` — the known finding
  C13-placeholder-of-running-instantiation-visible is real in the model: a lookup answers not-found for a name with a file.
* lazily built type caches (`Model/LazyCache.lean`): `C13_lazy_caches` — for a table of publication sites that satisfies
  `publishAfterInit` (the publishing write is the last write to the object) no reader, under any interleaving, observes a
  half-built type; the table regenerated from types/*.go does NOT satisfy it (`C13_publish_order_fails`, known finding
  C13-type-cache-published-before-init) — but every site outside the five recorded functions does (`C13_publish_ok`:
  all lazily initialised fields are found by shape, so a new "assign, then complete in place" breaks the obligation) and the model built from that table exhibits the half-built answer
  (`C13_cache_half_built`), as the implementation does under the same schedule.
  Completion writes: `C13_publish_completion_ok` — every write through a published cache pointer (second regenerated
  table) assigns its location once, with the final value; `C13_cache_never_narrow` — for any tables satisfying that no
  reader is ever handed a type that is NOT a type of the value (the half-built answers of the known finding are sound
  placeholders), also when a fill is preempted inside its fold (slow elements); refuted for an in-place fold:
  `C13_cache_fold_narrow`.
* second tie (`Model/Lockset.lean`): `C13_lockset_ok` — the table of every read/write site of the shared loader fields with
  the mutexes held there, regenerated from loader/*.go on every run, satisfies the lock discipline (`decide`);
  `C13_lockset_norace` — for ANY table satisfying it no two conflicting accesses can overlap (they share a mutex, one side
  exclusively).
* the runtime's loaders (`internal/runtime.go`, `rt.lock`): `C13_rt_lockset_ok` / `C13_rt_norace` over the second lock-set
  table (a write needs the lock held exclusively, also through one level of unexported helpers);
  `C13_rt_lockset_clean` — no exempted site; `C13_rt_systemloader_read_raced_before_fix` — the read of `rt.SystemLoader`
  after its `Unlock`, repaired by fix 27da6a6, was a race with `rt.Reset`.
* the declare / resolve queue (`Model/ConcQueue.lean`: `types.resolvableTypes` — appended to under `resolvableTypesLock`,
  POPPED under the lock by `PopDeclaredTypes` and CONSUMED outside it by `internal.resolveResolvables`; Go slices with
  explicit backing arrays, any initial capacity and growth policy): full clause `C13_queue_full` (a `def … : Prop`: once all
  goroutines have finished every declared type is still pending, or bound exactly once and resolved exactly once);
  proved for the variant the code has, over every interleaving of any number of goroutines:
  `C13_queue_exactly_once` (= `C13_queue_full` of the `fresh` variant), `C13_queue_once` (never bound / resolved twice, at
  every moment), `C13_queue_declared_only`, `C13_queue_bound_before_resolve` (a type is resolved only after every type
  taken over with it is bound), `C13_queue_reads_popped` (what is read through the popped slice outside the lock is what
  it held when popped; no nil read); REFUTED for the variant that keeps the backing array (`q = q[:0]`) and for the
  variant that does not empty the queue: `C13_queue_reslice_loses`, `C13_queue_keep_resolves_twice`,
  `C13_queue_full_fails_reslice`, `C13_queue_full_fails_keep`.  Tie: `C13_queue_sites_ok` — the table of every site of
  the four guarded package-level queues regenerated from the Go sources satisfies the escape discipline (`decide`);
  `C13_queue_cfg_of_table` — ANY table satisfying it configures the model with the `fresh` variant, hence
  `C13_queue_impl_exactly_once`.
* missing (stated, not hidden): what `Resolve` does inside (its lookups through the loader), the mappings / constructor /
  function queues as executable models (their sites are in the table); the instantiator's nested lookups, parse errors and
  type sets of file-based loading; nested containers and the other read paths (hash keys, type checks) of shared values; the Go memory model,
  the real scheduler, torn reads and `-race` findings cannot be exhibited by an interleaving model at all — the lock-set
  table is syntactic and trusted.
-/
/-! ### the loaders (`Model/LoaderConc.lean`): what holds of every reachable configuration and of every step -/
namespace Pcore.LoaderConc
open Pcore.LoaderSeq

/-- every step of every thread leaves every existing binding as it is (and the hierarchy fixed) -/
theorem C13_writeonce (ps : List (Option Nat)) (progs : List (List Op)) (c : Config)
    (hr : Reachable (Config.init ps progs) c) (i : Nat) : Mono c.sh (stepAt c i).sh :=
  stepAt_mono c i

/-- … hence over any execution: a binding observed in any reachable configuration is there in every later one -/
theorem C13_writeonce_reach (c0 c : Config) (h0 : Inv c0) (hr : Reachable c0 c) (l : Nat) (k : Key) (v : V)
    (hb : bound c0.sh l k = some v) : bound c.sh l k = some v :=
  (Mono_reachable hr).2.2 l k v hb

/-- all goroutines agree on the single value bound to a name in a loader -/
theorem C13_agree (ps : List (Option Nat)) (progs : List (List Op)) (c : Config)
    (hr : Reachable (Config.init ps progs) c) (t t' : Thread) (ht : t ∈ c.th) (ht' : t' ∈ c.th)
    (e e' : Ans × Src) (he : e ∈ t.log) (he' : e' ∈ t'.log) (x : Nat) (k : Key) (v v' : V)
    (hs : e.2 = some (x, k, v)) (hs' : e'.2 = some (x, k, v')) : v = v' := by
  have hi := Inv_reachable (Inv_init ps progs) hr
  have h1 := (hi t ht).2.src e he x k v hs
  have h2 := (hi t' ht').2.src e' he' x k v' hs'
  rw [h1] at h2; cases h2; rfl

/-- every value a lookup answers was read from a loader level that binds it (then, now and ever after) -/
theorem C13_found_has_source (ps : List (Option Nat)) (progs : List (List Op)) (c : Config)
    (hr : Reachable (Config.init ps progs) c) (t : Thread) (ht : t ∈ c.th) (e : Ans × Src) (he : e ∈ t.log) (v : V)
    (hv : e.1 = .found v) : ∃ x k, e.2 = some (x, k, v) ∧ bound c.sh x k = some v := by
  have hi := Inv_reachable (Inv_init ps progs) hr t ht
  obtain ⟨x, k, hs⟩ := hi.2.found_src e he v hv
  exact ⟨x, k, hs, hi.2.src e he x k v hs⟩

/-- no operation ends in a fault -/
theorem C13_nocrash (ps : List (Option Nat)) (progs : List (List Op)) (c : Config)
    (hr : Reachable (Config.init ps progs) c) (t : Thread) (ht : t ∈ c.th) (e : Ans × Src) (he : e ∈ t.log) :
    e.1 ≠ .fault :=
  (Inv_reachable (Inv_init ps progs) hr t ht).2.no_fault e he

/-- a lookup that has read its last level answers `resolve` of the current state, provided no level it passed as
    unbound has gained a binding since -/
theorem C13_sc_partial (ps : List (Option Nat)) (progs : List (List Op)) (c : Config)
    (hr : Reachable (Config.init ps progs) c) (t : Thread) (ht : t ∈ c.th) (l : Nat) (n : Name) (st : WalkSt)
    (hpc : t.pc = .loadWalk l n [] st) (hq : ∀ y ∈ st.nones, bound c.sh y (canon n) = none) :
    walkAns st = ansOf (resolve c.sh l (canon n)) := by
  have hw := (Inv_reachable (Inv_init ps progs) hr t ht).1
  rw [hpc] at hw
  cases st with
  | searching nones last =>
    simp only [WalkOK, List.append_nil] at hw
    have hn : nones.findSome? (fun a => bound c.sh a (canon n)) = none := List.findSome?_eq_none_iff.mpr hq
    simp only [walkAns, resolve, hw.1, hn, ansOf]
  | foundAt nones x v =>
    simp only [WalkOK, List.append_nil] at hw
    obtain ⟨⟨sk, hs⟩, hb⟩ := hw
    have hn : nones.findSome? (fun a => bound c.sh a (canon n)) = none := List.findSome?_eq_none_iff.mpr hq
    simp only [walkAns, resolve, hs, List.findSome?_append, hn, List.findSome?_cons, hb, Option.none_or, ansOf]

/-- the answer logged by the return step is `walkAns` (or the walk goes on to the miss window, which logs not-found) -/
theorem C13_load_answer (s : Sys) (t : Thread) (l : Nat) (n : Name) (st : WalkSt) (hpc : t.pc = .loadWalk l n [] st) :
    (∃ src, (stepThread s t).2.log = t.log ++ [(walkAns st, src)]) ∨ (stepThread s t).2.pc = .loadMiss l n := by
  unfold stepThread
  rw [hpc]
  cases st with
  | searching nones last =>
    cases last with
    | none => exact Or.inr rfl
    | some o => exact Or.inl ⟨_, rfl⟩
  | foundAt nones x v => exact Or.inl ⟨_, rfl⟩

/-- the answer of a concurrent discovery: when a discovery is at its last level, what it is about to answer contains every
    name the sequential discovery (C12: `discC`) answered in the state `snap` in which the operation began, and only names
    the sequential discovery answers in the current state — and `snap` is a past of the current state (every binding of
    it is still there).  No single moment need give exactly this answer (known finding C13-chain-walk-not-atomic). -/
theorem C13_discover_sandwich (ps : List (Option Nat)) (progs : List (List Op)) (c : Config)
    (hr : Reachable (Config.init ps progs) c) (t : Thread) (ht : t ∈ c.th) (l : Nat) (p : Key → Bool) (x : Nat)
    (passed : List Nat) (found : List Key) (snap : Sys) (hpc : t.pc = .discWalk l p [x] passed found snap) :
    Mono snap c.sh ∧
    (∀ k, k ∈ discC snap.es p (chain c.sh.ps l) → k ∈ discLevel c.sh.es x found p) ∧
    (∀ k, k ∈ discLevel c.sh.es x found p → k ∈ discC c.sh.es p (chain c.sh.ps l)) := by
  obtain ⟨hwf, hd⟩ := Reachable.invariant DInv_step (DInv_init ps progs) hr
  have hd := hd t ht
  rw [hpc] at hd
  -- the walk's invariant after the last level, whose `found` is the answer: its clauses are the two inclusions
  obtain ⟨h1, h2, h3, h4, h5⟩ := DiscOK_level c.sh hwf l p x [] passed found snap hd
  have hch : ∀ y, y ∈ chain c.sh.ps l ↔ y ∈ x :: passed := by
    intro y
    rw [← List.mem_reverse, h1, List.append_nil, List.mem_reverse]
  refine ⟨h4, fun k hk => ?_, fun k hk => ?_⟩
  · obtain ⟨hp, a, ha, hb⟩ := (mem_discC snap h5 p _ k).mp hk
    exact h3 a ((hch a).mp ha) k hp hb
  · obtain ⟨hp, y, hy, hb⟩ := h2 k hk
    exact (mem_discC c.sh hwf p _ k).mpr ⟨hp, y, (hch y).mpr hy, hb⟩

/-- … and that is the answer the next step logs -/
theorem C13_discover_answer (s : Sys) (t : Thread) (l : Nat) (p : Key → Bool) (x : Nat) (passed : List Nat) (found : List Key)
    (snap : Sys) (hpc : t.pc = .discWalk l p [x] passed found snap) :
    (stepThread s t).2.log = t.log ++ [(.keys (discLevel s.es x found p), none)] := by
  unfold stepThread
  rw [hpc]

/-! ### the full statement: sequential consistency with respect to the C12 model -/

/-- choose a thread whose history is not exhausted: its next element and the histories without it -/
def picks {α : Type} (ls : List (List α)) : List (α × List (List α)) :=
  (List.range ls.length).filterMap fun i =>
    match ls[i]? with
    | some (a :: r) => some (a, ls.set i r)
    | _ => none

def interleavingsAux {α : Type} : Nat → List (List α) → List (List α)
  | 0, _ => [[]]
  | n + 1, ls =>
    if ls.all List.isEmpty then [[]]
    else (picks ls).flatMap fun (a, ls') => (interleavingsAux n ls').map (a :: ·)

/-- all merges of the threads' histories that keep every thread's own order -/
def interleavings {α : Type} (ls : List (List α)) : List (List α) :=
  interleavingsAux (ls.map List.length).sum ls

example : interleavings [[1, 2], [3]] = [[1, 2, 3], [1, 3, 2], [3, 1, 2]] := by decide +kernel

def Quiescent (c : Config) : Prop := ∀ t ∈ c.th, t.finished = true

instance (c : Config) : Decidable (Quiescent c) := by unfold Quiescent; infer_instance

/-- per thread: its operations with the answers it got -/
def history (progs : List (List Op)) (c : Config) : List (List (Op × Ans)) :=
  List.zipWith (fun p t => p.zip (t.log.map (·.1))) progs c.th

/-- the C12 model, run on the operations in this order, gives exactly these answers -/
abbrev SeqExplains (ps : List (Option Nat)) (σ : List (Op × Ans)) : Prop :=
  (run (Sys.init ps) (σ.map (·.1))).2 = σ.map (·.2)

/-- the property's sentence: every operation returns what some sequential ordering of the same operations would return -/
def C13_full : Prop :=
  ∀ (ps : List (Option Nat)) (progs : List (List Op)) (c : Config),
    Reachable (Config.init ps progs) c → Quiescent c → ∃ σ ∈ interleavings (history progs c), SeqExplains ps σ

def nA : Name := ⟨runtimeAuthority, "type", "A"⟩
def na : Name := ⟨runtimeAuthority, "type", "a"⟩

/-- the witness of the known finding: thread 0 looks `a` up through loader 1 (child of loader 0) and is past level 0 when
    thread 1 defines `A` in loader 0 and then `a` in loader 1 -/
def raceProgs : List (List Op) := [[.load 1 na], [.define 0 nA (.ty 1), .define 1 na (.ty 2)]]
def raceConfig : Config := execute [none, some 0] raceProgs [0, 0, 1, 1]

/-- thread 1 looks `A` up, thread 2 `a`, after thread 0 has defined `a` in loader 0 -/
def agreeConfig : Config :=
  execute [none, some 0] [[.define 0 na (.ty 1)], [.load 1 nA], [.get 0 na, .load 0 na]] [0, 1, 2, 1, 2, 1]

/-- the schedule of `raceConfig` with a third thread that looks `a` up through loader 1 afterwards -/
def perLevelConfig : Config :=
  execute [none, some 0] [[.load 1 na], [.define 0 nA (.ty 1), .define 1 na (.ty 2)], [.load 1 na]] [0, 0, 1, 1]

theorem canon_na : canon na = "http://puppet.com/2016.1/runtime/type/a" := by decide +kernel

/-- Three runs in which a lookup of `a` meets the entry defined as `A`, or the other way round: no sequential order explains
    `raceConfig`; the value sources in `agreeConfig`; the answers and value sources in `perLevelConfig`. -/
theorem folded_key_runs :
    (¬ ∃ σ ∈ interleavings (history raceProgs raceConfig), SeqExplains [none, some 0] σ) ∧
    (agreeConfig.th.map fun t => t.log.map (·.2)) =
      [[none], [some (0, canon na, .ty 1)], [some (0, canon na, .ty 1), some (0, canon na, .ty 1)]] ∧
    (Quiescent perLevelConfig ∧
      (perLevelConfig.th.map fun t => t.log.map (·.1)) = [[.found (.ty 2)], [.ok, .ok], [.found (.ty 1)]] ∧
      (perLevelConfig.th.map fun t => t.log.map (·.2)) =
        [[some (1, canon na, .ty 2)], [none, none], [some (0, canon na, .ty 1)]]) := by
  -- one declaration for the three runs: comparing the unevaluated keys `canon na` / `canon nA` inside a run is slow to
  -- check, and is shared this way (`canon_na` reaches a key in a goal, not one compared inside a run)
  decide +kernel

/-- `C13_full` is false: the lookup answers loader 1's value although loader 0 was bound first (known finding
    C13-chain-walk-not-atomic; the same schedule is a witness op of the finding and is replayed on the implementation) -/
theorem C13_full_fails : ¬ C13_full := by
  intro h
  have hq : Quiescent raceConfig := by decide +kernel
  exact folded_key_runs.1 (h [none, some 0] raceProgs raceConfig (reachable_execute _ _ _) hq)

-- what the threads saw
example : (raceConfig.th.map fun t => t.log.map (·.1)) = [[.found (.ty 2)], [.ok, .ok]] := by decide +kernel
-- … while the hypothesis of C13_sc_partial fails for exactly this walk: level 0 was passed as unbound and has gained a binding
example : bound raceConfig.sh 0 (canon na) = some (.ty 1) := by
  rw [canon_na]
  decide +kernel
-- non-vacuity of C13_sc_partial: a walk that passed level 0 as unbound, found the value at level 1 and whose hypothesis
-- holds (level 0 is still unbound): it answers `resolve`
def atLastLevel (t : Thread) : Option (Nat × Name × List Nat × Ans) :=
  match t.pc with
  | .loadWalk l n [] st => some (l, n, st.nones, walkAns st)
  | _ => none
def calmConfig : Config :=
  stepAt (runSched (Config.init [none, some 0] [[.load 1 na], [.define 1 na (.ty 2)]]) [1, 0, 0]) 0
example : calmConfig.th.map atLastLevel = [some (1, na, [0], .found (.ty 2)), none] ∧
    bound calmConfig.sh 0 (canon na) = none ∧ resolve calmConfig.sh 1 (canon na) = some (.ty 2) := by decide +kernel
-- non-vacuity of C13_agree / C13_found_has_source: two threads are handed the value of (loader 0, key a)
example : (agreeConfig.th.map fun t => t.log.map (·.2)) =
    [[none], [some (0, canon na, .ty 1)], [some (0, canon na, .ty 1), some (0, canon na, .ty 1)]] := folded_key_runs.2.1

-- non-vacuity of C13_discover_sandwich, strictly between: thread 0 discovers through loader 1 and has passed level 0 (empty)
-- when thread 1 defines `b` in loader 0 and `a` in loader 1; parked at its last level it is about to answer [a] — the
-- sequential answer was [] when it began and is [a, b] now
def nb : Name := ⟨runtimeAuthority, "type", "b"⟩
def discConfig : Config :=
  runSched (Config.init [none, some 0] [[.discover 1 fun _ => true], [.define 0 nb (.ty 1), .define 1 na (.ty 2)]]) [0, 0, 1, 1]
def discView (t : Thread) : Option (Nat × List Nat × List Key × List Key) :=
  match t.pc with
  | .discWalk l p [x] passed _ snap => some (x, passed, discC snap.es p (chain snap.ps l), discC discConfig.sh.es p (chain snap.ps l))
  | _ => none
example : discConfig.th.map discView = [some (1, [0], [], [canon na, canon nb]), none] ∧
    ((stepAt discConfig 0).th.map fun t => t.log.map (·.1)) = [[.keys [canon na]], [.ok, .ok]] := by decide +kernel

/-- before fix e398ee4 ("a nil re-definition is a no-op"): offering the placeholder over a Type that another goroutine
    defined inside the miss window went on to the type assertion `nv.(px.Type)` on a nil value -/
def setEntryBeforeFix (es : Ents) (k : Key) (nv : Option V) : Option (Ents × SetRes) :=
  match lk k es, nv with
  | some (some ov), none => if ov.isType then none else some (es, .redefine)     -- none = fault
  | _, _ => some (setEntry es k nv)

theorem C13_miss_window_crash_before_fix :
    setEntryBeforeFix [("k", some (.ty 1))] "k" none = none ∧ (setEntry [("k", some (.ty 1))] "k" none).2 = .kept := by
  decide +kernel

-- non-vacuity of C13_nocrash / C13_writeonce INSIDE the miss window (the whole schedule, not only `setEntry`): thread 0 looks
-- `a` up in loader 0, finds nothing and is parked at "load.miss-window"; thread 1 defines `a`; thread 0 then offers its
-- placeholder over the definition: it answers not-found (a legal sequential answer: its lookup came first), no fault, and the
-- binding made in the window is still there
def isMiss (t : Thread) : Bool := match t.pc with | .loadMiss _ _ => true | _ => false
def missWindowConfig : Config := runSched (Config.init [none] [[.load 0 na], [.define 0 na (.ty 1)]]) [0, 0, 1]
example : Reachable (Config.init [none] [[.load 0 na], [.define 0 na (.ty 1)]]) missWindowConfig :=
  reachable_runSched _ _ _ Reachable.init
example : missWindowConfig.th.map isMiss = [true, false] ∧ bound missWindowConfig.sh 0 (canon na) = some (.ty 1) ∧
    ((stepAt missWindowConfig 0).th.map fun t => t.log.map (·.1)) = [[.notfound], [.ok]] ∧
    bound (stepAt missWindowConfig 0).sh 0 (canon na) = some (.ty 1) := by decide +kernel

-- non-trivial instance of C13_writeonce: a step that CHANGES the shared state (a definition), then a step that tries to
-- re-define the name with another value: it is answered by the redefinition error and the binding stays
def redefConfig : Config :=
  stepAt (Config.init [none, some 0] [[.define 0 nA (.ty 1), .define 0 nA (.ty 9)], [.load 1 na]]) 0
example : bound (Config.init [none, some 0] [[.define 0 nA (.ty 1), .define 0 nA (.ty 9)], [.load 1 na]]).sh 0 (canon nA) = none ∧
    bound redefConfig.sh 0 (canon nA) = some (.ty 1) ∧ bound (stepAt redefConfig 0).sh 0 (canon nA) = some (.ty 1) ∧
    ((stepAt redefConfig 0).th.map fun t => t.log.map (·.1)) = [[.ok, .reported "PCORE_ATTEMPT_TO_REDEFINE_TYPE"], []] := by
  decide +kernel

/-- WHAT `C13_agree` DOES NOT SAY: the agreement is per (loader LEVEL, key) — the ghost source of an answer — not per
    (loader asked, name).  Two goroutines that look the SAME name up through the SAME loader can be handed DIFFERENT values:
    the schedule of `C13_full_fails` with a third thread that looks `a` up through loader 1 afterwards.  Thread 0 is handed
    loader 1's value, thread 2 loader 0's (same key: `A` and `a` fold to one key).  Both answers have a source that still
    binds the value (`C13_found_has_source`), so `C13_agree` holds of them — vacuously, the levels differ.  This is the known
    finding C13-chain-walk-not-atomic seen from the "all goroutines agree" clause of the property. -/
theorem C13_agree_is_per_level :
    let c := execute [none, some 0] [[.load 1 na], [.define 0 nA (.ty 1), .define 1 na (.ty 2)], [.load 1 na]] [0, 0, 1, 1]
    Quiescent c ∧ (c.th.map fun t => t.log.map (·.1)) = [[.found (.ty 2)], [.ok, .ok], [.found (.ty 1)]] ∧
    (c.th.map fun t => t.log.map (·.2)) = [[some (1, canon na, .ty 2)], [none, none], [some (0, canon na, .ty 1)]] :=
  folded_key_runs.2.2

end Pcore.LoaderConc

/-! ### file-based loading (`Model/InstantiateOnce.lean`): the file of a name is read at most once, and what is bound is what it holds -/
namespace Pcore.Instantiate
open Pcore.LoaderSeq

/-- a lazily file-loaded definition is instantiated at most once, whatever the interleaving, the number of goroutines
    and the names they look up — also when its instantiator RAISES (`broken`: a parse error, a definition of another name):
    the panic unwinds through `instantiate`, the name mutex is released, and the placeholder that stays installed keeps
    every later lookup away from the file -/
theorem C13_once_errors (files : List (Key × V)) (broken : List (Key × String)) (progs : List (List FOp)) (c : Config)
    (hr : Reachable (Config.initB files broken progs) c) (k : Key) : c.reads.count k ≤ 1 :=
  (Inv_reachable (Inv_initB files broken progs) hr).i7 k

/-- the case in which every file can be instantiated -/
theorem C13_once (files : List (Key × V)) (progs : List (List FOp)) (c : Config)
    (hr : Reachable (Config.init files progs) c) (k : Key) : c.reads.count k ≤ 1 :=
  C13_once_errors files [] progs c hr k

/-- … and exactly once for a name that is bound; what is bound is what the file holds -/
theorem C13_once_bound (files : List (Key × V)) (progs : List (List FOp)) (c : Config)
    (hr : Reachable (Config.init files progs) c) (k : Key) (v : V) (hb : lk k c.es = some (some v)) :
    c.reads.count k = 1 ∧ fileOf k c.files = some v := by
  have h1 := C13_once files progs c hr k
  have h2 := Reachable.invariant Sourced_step (Sourced_initB files [] progs) hr k v hb
  have h3 : 0 < c.reads.count k := List.count_pos_iff.mpr h2.1
  exact ⟨by omega, h2.2⟩

/-- … what is bound is still what a (good) file holds, so the name of a file that only raises is never bound -/
theorem C13_broken_never_bound (files : List (Key × V)) (broken : List (Key × String)) (progs : List (List FOp)) (c : Config)
    (hr : Reachable (Config.initB files broken progs) c) (k : Key) (hk : fileOf k c.files = none) (v : V) :
    lk k c.es ≠ some (some v) := by
  intro hb
  have := (Reachable.invariant Sourced_step (Sourced_initB files broken progs) hr k v hb).2
  rw [hk] at this
  cases this

-- non-vacuity: the file of `a` does not parse; both threads have missed the entry; thread 0 runs the instantiator and
-- re-raises, thread 1 (which then gets the name mutex and finds the placeholder) answers not-found; the file was read once
-- and `a` stays a placeholder
example : let c := executeB [] [("a", "PARSE_ERROR")] [[.load "a"], [.load "a"]] [1, 1, 0, 0, 0, 0, 1, 1]
    c.th.map (·.log) = [[.reported "PARSE_ERROR"], [.notfound]] ∧ c.reads.count "a" = 1 ∧ lk "a" c.es = some none ∧
    fileOf "a" c.files = none := by
  decide +kernel

def fileA : List (Key × V) := [("a", .al "A" 1)]
/-- thread 1 looks `a` up and runs until it is parked between the placeholder and the instantiator; thread 0 then looks
    `a` up: it meets the placeholder -/
def visibleConfig : Config := iter (Config.init fileA [[.load "a"], [.load "a"]]) [1, 1, 1, 1, 1, 1, 1, 0]

/-- the known finding in the model: a name that HAS a file is answered not-found while its instantiation is in progress
    (the schedule `1 1` of the finding's witness op) -/
theorem C13_placeholder_visible :
    Reachable (Config.init fileA [[.load "a"], [.load "a"]]) visibleConfig ∧ fileOf "a" visibleConfig.files = some (.al "A" 1) ∧
    (visibleConfig.th.map (·.log)) = [[.notfound], []] ∧ (visibleConfig.th.map (·.pc)) = [.idle, .instRun "a" 0] :=
  ⟨reachable_iter _ _ _ Reachable.init, by decide +kernel, by decide +kernel, by decide +kernel⟩

-- non-vacuity of C13_once_bound: after both threads have finished the name is bound and was read once
example : let c := iter visibleConfig [1, 1, 1, 1]
    lk "a" c.es = some (some (.al "A" 1)) ∧ c.reads.count "a" = 1 ∧ c.th.map (·.log) = [[.notfound], [.found (.al "A" 1)]] := by
  decide +kernel

end Pcore.Instantiate

/-! ### lazily built type caches (`Model/LazyCache.lean`, tables `Generated/CacheSites.lean`): published last, never seen half-built;
    no in-place fold, never narrowed -/
namespace Pcore.LazyCache

/-- a table that satisfies the discipline and knows the four fill functions configures the model with publication last -/
theorem C13_cfg_of_table (tbl : List CacheSite) (h : publishAfterInit tbl = true)
    (hk : ∀ fn ∈ ["Array.privateReducedType", "Array.privateDetailedType", "Hash.privateReducedType", "Hash.privateDetailedType"],
      tbl.any (·.fn == fn) = true) : Cfg.ofTable tbl = cleanCfg := by
  have hall : ∀ fn, (tbl.filter (·.fn == fn)).all (·.publishLast) = true := by
    intro fn
    rw [List.all_eq_true]
    intro x hx
    exact List.all_eq_true.mp h x (List.mem_filter.mp hx).1
  simp only [Cfg.ofTable, fnPublishesLast, hall, Bool.and_true, cleanCfg]
  rw [hk _ (by simp), hk _ (by simp), hk _ (by simp), hk _ (by simp)]
  rfl

/-- publication last ⇒ an inferred type is never observed half-built: under every interleaving of any number of threads
    every `PType()` / `DetailedValueType` / `String()` of the shared value answers what a single goroutine gets — also for
    Arrays that hold any number of slow elements (the fill can be preempted inside its fold) -/
theorem C13_lazy_caches_slow (tbl : List CacheSite) (h : publishAfterInit tbl = true)
    (hk : ∀ fn ∈ ["Array.privateReducedType", "Array.privateDetailedType", "Hash.privateReducedType", "Hash.privateDetailedType"],
      tbl.any (·.fn == fn) = true)
    (k : Kind) (n slow : Nat) (progs : List (List COp)) (c : Config)
    (hr : Reachable (Cfg.ofTable tbl) (Config.init k n progs slow) c) : ∀ t ∈ c.th, ∀ o ∈ t.log, o = .full := by
  rw [C13_cfg_of_table tbl h hk] at hr
  exact (Reachable.invariant CInv_step (CInv_init k n progs slow) hr).2

/-- … without slow elements -/
theorem C13_lazy_caches (tbl : List CacheSite) (h : publishAfterInit tbl = true)
    (hk : ∀ fn ∈ ["Array.privateReducedType", "Array.privateDetailedType", "Hash.privateReducedType", "Hash.privateDetailedType"],
      tbl.any (·.fn == fn) = true)
    (k : Kind) (n : Nat) (progs : List (List COp)) (c : Config)
    (hr : Reachable (Cfg.ofTable tbl) (Config.init k n progs) c) : ∀ t ∈ c.th, ∀ o ∈ t.log, o = .full :=
  C13_lazy_caches_slow tbl h hk k n 0 progs c hr

/-- the code as it is does not follow the discipline (known finding C13-type-cache-published-before-init) … -/
theorem C13_publish_order_fails : publishAfterInit Pcore.Generated.cacheSites = false := by decide +kernel

/-- every OTHER lazily initialised field found in the anchored type and value files (StructType.hashedMembers, the
    typedName caches, Hash.index, objectType.ctor …) is only ever assigned a complete value: the obligation a change like
    "store the empty map, then fill it in place" breaks -/
theorem C13_publish_ok : publishOKExcept knownPublishFirst Pcore.Generated.cacheSites = true := by decide +kernel

-- the shape it rejects: the field assigned, the object completed afterwards (e.g. double-checked locking around a map
-- that is published empty)
example : publishOKExcept knownPublishFirst
    (Pcore.Generated.cacheSites ++ [{ fn := "StructType.HashedMembers", field := "hashedMembers", publishLast := false }]) = false := by decide +kernel

/-- … and a second reader does see the half-built type: thread 0 is parked right after publishing the reduced type of a
    one-element Array when thread 1 asks for it (the schedule `0 1` of the finding's first witness op) -/
theorem C13_cache_half_built :
    ∃ c, Reachable (Cfg.ofTable Pcore.Generated.cacheSites) (Config.init .arr 1 [[.ptype], [.ptype]]) c ∧
      ∃ t ∈ c.th, Obs.half ∈ t.log :=
  ⟨_, Reachable.step 1 (Reachable.step 0 Reachable.init), by decide +kernel⟩

/-- obligation over the regenerated table of COMPLETION WRITES (the writes through a published cache pointer, between the
    publication and the return of the five recorded fill functions): every location of a published object is written at
    most once, with its final value — `once`, or slot i of a slice inside the loop over i.  An in-place fold
    (`av.reducedType.typ = commonType(av.reducedType.typ, …)` in the loop over the elements) breaks it. -/
theorem C13_publish_completion_ok : completionOK Pcore.Generated.cacheWrites = true := by decide +kernel

/-- for ANY pair of tables whose completion writes satisfy the discipline — whether or not the publications come last —
    no reader, under any interleaving, with any number of slow elements, is ever handed a type that is not a type of the
    value: what a reader of a half-built cache gets is the placeholder or a final component (`half`: imprecise, never
    `narrow`) -/
theorem C13_cache_never_narrow (sites : List CacheSite) (writes : List CacheWrite) (h : completionOK writes = true)
    (k : Kind) (n slow : Nat) (progs : List (List COp)) (c : Config)
    (hr : Reachable (Cfg.ofTables sites writes) (Config.init k n progs slow) c) : ∀ t ∈ c.th, Obs.narrow ∉ t.log :=
  Reachable.invariant (NInv_step (NoFold_ofTables sites writes h)) (NInv_init k n progs slow) hr

/-- instantiated on the code as it is now (the model the `cache` lines run on the Lean side) -/
theorem C13_impl_never_narrow (k : Kind) (n slow : Nat) (progs : List (List COp)) (c : Config)
    (hr : Reachable (Cfg.ofTables Pcore.Generated.cacheSites Pcore.Generated.cacheWrites) (Config.init k n progs slow) c) :
    ∀ t ∈ c.th, Obs.narrow ∉ t.log :=
  C13_cache_never_narrow _ _ C13_publish_completion_ok k n slow progs c hr

/-- the table the extractor emits for an in-place fold of the Array's element type -/
def foldWrites : List CacheWrite :=
  [{ fn := "Array.privateReducedType", target := "av.reducedType.typ", shape := .repeated },
   { fn := "Array.privateReducedType", target := "av.reducedType.typ", shape := .repeated }]

/-- REFUTED DISCIPLINE: with an in-place fold a second reader is handed a type that is not a type of the Array — thread 0
    is parked inside its fold (at the slow element) when thread 1 asks -/
theorem C13_cache_fold_narrow :
    completionOK foldWrites = false ∧
    ∃ c, Reachable (Cfg.ofTables Pcore.Generated.cacheSites foldWrites) (Config.init .arr 2 [[.ptype], [.ptype]] 1) c ∧
      ∃ t ∈ c.th, Obs.narrow ∈ t.log :=
  ⟨by decide +kernel, _, Reachable.step 1 (Reachable.step 0 (Reachable.step 0 Reachable.init)), by decide +kernel⟩

-- non-vacuity of C13_cache_never_narrow: the same schedule under the current tables: thread 1 gets the placeholder (`half`)
example : (stepAt (Cfg.ofTables Pcore.Generated.cacheSites Pcore.Generated.cacheWrites)
      (stepAt (Cfg.ofTables Pcore.Generated.cacheSites Pcore.Generated.cacheWrites)
        (stepAt (Cfg.ofTables Pcore.Generated.cacheSites Pcore.Generated.cacheWrites) (Config.init .arr 2 [[.ptype], [.ptype]] 1) 0) 0) 1).th.map (·.log)
    = [[], [.half]] := by decide +kernel
-- the current table has completion writes of both accepted shapes
example : (Pcore.Generated.cacheWrites.map (·.shape)).contains .once = true ∧ (Pcore.Generated.cacheWrites.map (·.shape)).contains .perIndex = true := by decide +kernel

-- non-vacuity of C13_lazy_caches: the table the extractor would emit for publication-last code meets the hypotheses
def fixedSites : List CacheSite := Pcore.Generated.cacheSites.map fun s => { s with publishLast := true }
example : publishAfterInit fixedSites = true ∧ Cfg.ofTable fixedSites = cleanCfg := by decide +kernel
-- and the current table configures the model with publication first in all four functions
example : Cfg.ofTable Pcore.Generated.cacheSites = { arrRed := true, arrDet := true, hshRed := true, hshDet := true } := by decide +kernel
-- the CONCLUSION of C13_lazy_caches on a concrete run — the schedule of `C13_cache_half_built` (thread 0
-- parked right after its first step, thread 1 asks) under the publication-last table answers `full`, under the current table `half`
example : (stepAt (Cfg.ofTable fixedSites) (stepAt (Cfg.ofTable fixedSites) (Config.init .arr 1 [[.ptype], [.ptype]]) 0) 1).th.map (·.log)
      = [[], [.full]] ∧
    (stepAt (Cfg.ofTable Pcore.Generated.cacheSites) (stepAt (Cfg.ofTable Pcore.Generated.cacheSites)
      (Config.init .arr 1 [[.ptype], [.ptype]]) 0) 1).th.map (·.log) = [[], [.half]] := by decide +kernel

end Pcore.LazyCache

/-! ### second tie: the regenerated lock-set tables (`Model/Lockset.lean`, tables `Generated/Locksets.lean`; the loaders', then the
    runtime's): two accesses of a table that keeps the discipline cannot race -/
namespace Pcore.Lockset

/-- a data race between two access sites: same field, at least one write, both after initialisation, nothing excludes them -/
def Race (a b : Access) : Prop :=
  a.field = b.field ∧ (a.write = true ∨ b.write = true) ∧ a.init = false ∧ b.init = false ∧ excl a b = false

instance (a b : Access) : Decidable (Race a b) := by unfold Race; infer_instance

theorem holds_iff (a : Access) (m : String) (md : Mode) : holds a m md = true ↔ (m, md) ∈ a.held := by
  simp [holds]

theorem excl_of_held (a b : Access) (m : String) (ma mb : Mode) (ha : (m, ma) ∈ a.held) (hb : (m, mb) ∈ b.held)
    (hw : ma = .w ∨ mb = .w) : excl a b = true := by
  unfold excl
  rw [List.any_eq_true]
  refine ⟨(m, ma), ha, ?_⟩
  rw [List.any_eq_true]
  refine ⟨(m, mb), hb, ?_⟩
  rcases hw with rfl | rfl <;> simp

theorem accessOK_eq {a : Access} (hi : a.init = false) :
    accessOK a = match disciplineOf a.field with
      | some (.guardedBy m) => if a.write then holds a m .w else (holds a m .w || holds a m .r)
      | some .immutable => !a.write
      | none => false := by
  unfold accessOK
  rw [hi, Bool.false_or]
  rfl   -- the `match` of the statement and that of `accessOK` are two auxiliary definitions with the same body

theorem guarded_holds (a : Access) (m : String) (hi : a.init = false) (hd : disciplineOf a.field = some (.guardedBy m))
    (ok : accessOK a = true) : (a.write = true → (m, Mode.w) ∈ a.held) ∧ ∃ md, (m, md) ∈ a.held := by
  rw [accessOK_eq hi, hd] at ok
  by_cases hw : a.write = true
  · simp only [hw, if_true] at ok
    have := (holds_iff a m .w).mp ok
    exact ⟨fun _ => this, .w, this⟩
  · simp only [hw, Bool.false_eq_true, if_false, Bool.or_eq_true] at ok
    refine ⟨fun h => absurd h hw, ?_⟩
    rcases ok with ok | ok
    · exact ⟨.w, (holds_iff a m .w).mp ok⟩
    · exact ⟨.r, (holds_iff a m .r).mp ok⟩

/-- for ANY table that satisfies the discipline: no two conflicting accesses with non-excluding lock sets -/
theorem C13_lockset_norace (tbl : List Access) (h : locksetOK tbl = true) :
    ∀ a ∈ tbl, ∀ b ∈ tbl, ¬ Race a b := by
  intro a ha b hb ⟨hf, hw, hia, hib, hex⟩
  have oka : accessOK a = true := List.all_eq_true.mp h a ha
  have okb : accessOK b = true := List.all_eq_true.mp h b hb
  cases hd : disciplineOf a.field with
  | none => rw [accessOK_eq hia, hd] at oka; cases oka
  | some d =>
    cases d with
    | immutable =>
      rw [accessOK_eq hia, hd] at oka; rw [accessOK_eq hib, ← hf, hd] at okb
      simp only [Bool.not_eq_true'] at oka okb
      rcases hw with hw | hw
      · rw [hw] at oka; cases oka
      · rw [hw] at okb; cases okb
    | guardedBy m =>
      have ga := guarded_holds a m hia hd oka
      have gb := guarded_holds b m hib (hf ▸ hd) okb
      have hcontra : excl a b = true := by
        rcases hw with hw | hw
        · obtain ⟨md, g⟩ := gb.2
          exact excl_of_held a b m .w md (ga.1 hw) g (Or.inl rfl)
        · obtain ⟨md, g⟩ := ga.2
          exact excl_of_held a b m md .w g (gb.1 hw) (Or.inr rfl)
      rw [hcontra] at hex; cases hex

/-- obligation over the regenerated table (this is what a code change breaks) -/
theorem C13_lockset_ok : locksetOK Pcore.Generated.locksets = true := by decide +kernel

/-- instantiated on the code as it is now -/
theorem C13_impl_norace : ∀ a ∈ Pcore.Generated.locksets, ∀ b ∈ Pcore.Generated.locksets, ¬ Race a b :=
  C13_lockset_norace _ C13_lockset_ok

/-- the runtime's lazily created loaders and its settings (`internal/runtime.go`, `rt.lock`): every site of the
    regenerated table — outside the recorded read sites (`knownUnlockedReads`: none since fix 27da6a6) — follows the discipline; a WRITE needs the lock held
    exclusively (`Lock`), so a lazy create-and-store reached under `RLock` — directly or through an unexported helper such as
    `ensureSystemLoader`, whose lock set is the weakest its call sites give — breaks this obligation -/
theorem C13_rt_lockset_ok : locksetOKExcept knownUnlockedReads Pcore.Generated.rtLocksets = true := by decide +kernel

/-- … hence no two of those sites race -/
theorem C13_rt_norace : ∀ a ∈ withoutKnown knownUnlockedReads Pcore.Generated.rtLocksets,
    ∀ b ∈ withoutKnown knownUnlockedReads Pcore.Generated.rtLocksets, ¬ Race a b :=
  C13_lockset_norace _ C13_rt_lockset_ok

/-- since fix 27da6a6 no site is exempted: the WHOLE table follows the discipline -/
theorem C13_rt_lockset_clean : locksetOK Pcore.Generated.rtLocksets = true := by decide +kernel

/-- repaired (fix 27da6a6): before it `rt.SystemLoader` returned `p.systemLoader` AFTER `p.lock.Unlock()` — the row the
    extractor emitted for that read is rejected by the discipline and races with the write of `rt.Reset` (the check run
    against the pre-fix tree reports the broken obligation and the `lockrace` line names the pair; no schedule can be
    replayed: there is no instrumented line between the `Unlock` and the `return`) -/
theorem C13_rt_systemloader_read_raced_before_fix :
    accessOK { fn := "rt.SystemLoader", field := "rt.systemLoader", write := false, held := [], init := false } = false ∧
    Race { fn := "rt.Reset", field := "rt.systemLoader", write := true, held := [("lock", .w)], init := false }
         { fn := "rt.SystemLoader", field := "rt.systemLoader", write := false, held := [], init := false } ∧
    (∃ a ∈ Pcore.Generated.rtLocksets, a.fn = "rt.Reset" ∧ a.field = "rt.systemLoader" ∧ a.write = true ∧ a.held = [("lock", .w)]) := by
  decide +kernel

-- the shape the obligation rejects: the create-and-store of ensureSystemLoader reached with the lock held shared
example : accessOK { fn := "rt.ensureSystemLoader", field := "rt.systemLoader", write := true, held := [("lock", .r)], init := false } = false := by decide +kernel
-- … while a read under the shared lock is fine (rt.Get, rt.Set read the settings map that way)
example : accessOK { fn := "rt.Get", field := "rt.settings", write := false, held := [("lock", .r)], init := false } = true := by decide +kernel
-- non-vacuity of C13_rt_norace: the table has a write/write pair on the system loader that only the exclusive lock keeps apart
example : ∃ a ∈ withoutKnown knownUnlockedReads Pcore.Generated.rtLocksets, ∃ b ∈ withoutKnown knownUnlockedReads Pcore.Generated.rtLocksets,
    a.field = b.field ∧ a.write = true ∧ b.write = true ∧ a.fn = "rt.Reset" ∧ b.fn = "rt.ensureSystemLoader" := by decide +kernel

-- non-vacuity: the table has conflicting pairs (a write and a read of the entry map) that only the lock keeps apart
example : ∃ a ∈ Pcore.Generated.locksets, ∃ b ∈ Pcore.Generated.locksets,
    a.field = b.field ∧ a.write = true ∧ b.write = false ∧ a.fn = "basicLoader.SetEntry" ∧ b.fn = "basicLoader.GetEntry" := by
  decide +kernel
-- the discipline rejects the pre-fix shapes: the unlocked iteration of Discover, the in-place overwrite of a handed-out
-- entry, an unknown idiom
example : accessOK { fn := "basicLoader.Discover", field := "basicLoader.namedEntries", write := false, held := [], init := false } = false := by decide +kernel
example : accessOK { fn := "basicLoader.SetEntry", field := "loaderEntry.value", write := true, held := [("lock", .w)], init := false } = false := by decide +kernel
example : accessOK { fn := "f", field := "unknown: x.index in f", write := false, held := [("lock", .w)], init := false } = false := by decide +kernel
example : Race { fn := "basicLoader.SetEntry", field := "loaderEntry.value", write := true, held := [("lock", .w)], init := false }
    { fn := "loaderEntry.Value", field := "loaderEntry.value", write := false, held := [], init := false } := by decide +kernel

end Pcore.Lockset

/-! ### the declare / resolve queue (`Model/ConcQueue.lean`, table `Generated/QueueSites.lean`) -/
namespace Pcore.ConcQueue

/-- obligation over the regenerated table of the guarded package-level queues (types.resolvableTypes, resolvableMappings,
    constructorsDecls, internal.resolvableFunctions): every site holds the queue's mutex, every site that hands the slice
    out of its critical section re-points the guarded variable at a new array, and no site re-slices a queue that is
    handed out anywhere.  This is what a change like `resolvableTypes = resolvableTypes[:0]` breaks. -/
theorem C13_queue_sites_ok : queueSitesOK Pcore.Generated.queueSites = true := by decide +kernel

/-- the current table configures the model with the `fresh` variant -/
theorem C13_queue_cfg_current : (Cfg.ofTable Pcore.Generated.queueSites).variant = .fresh := by decide +kernel

def qsite (fn : String) (kind : SiteKind) (rebind : Rebind := .na) : QueueSite :=
  { fn := fn, var := "types.resolvableTypes", kind := kind, rebind := rebind, held := ["resolvableTypesLock"], init := false }
/-- the shape of the code as it is -/
def freshSites : List QueueSite := [qsite "register" .append, qsite "Pop" .escape .freshIfNonEmpty, qsite "Pop" .fresh]
/-- the table the extractor emits for "no need to allocate a fresh slice every time the list is popped" (`q = q[:0]`) -/
def resliceSites : List QueueSite := [qsite "register" .append, qsite "Pop" .escape .reslice, qsite "Pop" .reslice]
/-- … and for a pop that does not empty the queue (or empties it in a second critical section) -/
def keepSites : List QueueSite := [qsite "register" .append, qsite "Pop" .escape .none]

example : queueSitesOK freshSites = true ∧ (Cfg.ofTable freshSites).variant = .fresh := by decide +kernel
-- the discipline rejects both, and the model is configured with the matching variant
example : queueSitesOK resliceSites = false ∧ (Cfg.ofTable resliceSites).variant = .reslice := by decide +kernel
example : queueSitesOK keepSites = false ∧ (Cfg.ofTable keepSites).variant = .keep := by decide +kernel
-- a copy handed out and the queue re-sliced is fine (nothing escapes), so is `= nil`; an access outside the lock is not
example : siteOK [] { fn := "Pop", var := "types.resolvableTypes", kind := .reslice, rebind := .na, held := ["resolvableTypesLock"], init := false } = true := by decide +kernel
example : siteOK [] { fn := "Pop", var := "types.resolvableTypes", kind := .escape, rebind := .fresh, held := ["resolvableTypesLock"], init := false } = true := by decide +kernel
example : siteOK [] { fn := "f", var := "types.resolvableTypes", kind := .read, rebind := .na, held := [], init := false } = false := by decide +kernel
example : siteOK [] { fn := "f", var := "types.someNewQueue", kind := .append, rebind := .na, held := ["resolvableTypesLock"], init := false } = false := by decide +kernel

/-- for ANY table of sites that satisfies the discipline the model is the `fresh` variant: the theorems below apply -/
theorem C13_queue_cfg_of_table (tbl : List QueueSite) (h : queueSitesOK tbl = true) : (Cfg.ofTable tbl).variant = .fresh :=
  variantOf_fresh tbl _ h

/-- the clause of the property for the declare / resolve queue: whatever the interleaving, once every goroutine has
    finished, every declared type is either still pending (once, untouched) or was bound exactly once and resolved exactly
    once -/
def C13_queue_full (cfg : Cfg) : Prop :=
  ∀ (pend : Nat) (progs : List (List QOp)) (c : Config), Reachable cfg (Config.init cfg pend progs) c → Quiescent c →
    allItemsOK c.sh = true

/-- under EVERY interleaving of any number of goroutines that declare and resolve (any initial capacity, any growth policy
    of `append`): no declared type is ever bound twice or resolved twice -/
theorem C13_queue_once (cfg : Cfg) (hv : cfg.variant = .fresh) (pend : Nat) (progs : List (List QOp)) (c : Config)
    (hr : Reachable cfg (Config.init cfg pend progs) c) (x : Nat) : c.sh.bound.count x ≤ 1 ∧ c.sh.resolved.count x ≤ 1 := by
  have h := (Inv_reachable cfg hv (Inv_init cfg pend progs) hr).counts_le x
  split at h <;> omega

/-- … and only declared types are ever bound or resolved -/
theorem C13_queue_declared_only (cfg : Cfg) (hv : cfg.variant = .fresh) (pend : Nat) (progs : List (List QOp)) (c : Config)
    (hr : Reachable cfg (Config.init cfg pend progs) c) (x : Nat) (hx : x ∈ c.sh.bound ∨ x ∈ c.sh.resolved ∨ x ∈ qItems c.sh) :
    x < c.sh.next := by
  have h := (Inv_reachable cfg hv (Inv_init cfg pend progs) hr).counts_le x
  have hc : 0 < c.sh.bound.count x ∨ 0 < c.sh.resolved.count x ∨ 0 < (qItems c.sh).count x :=
    hx.imp List.count_pos_iff.mpr (Or.imp List.count_pos_iff.mpr List.count_pos_iff.mpr)
  split at h
  · assumption
  · omega

/-- the full clause holds of the variant the code has -/
theorem C13_queue_exactly_once (cfg : Cfg) (hv : cfg.variant = .fresh) : C13_queue_full cfg := by
  intro pend progs c hr hq
  have hi := Inv_reachable cfg hv (Inv_init cfg pend progs) hr
  have hidle : ∀ t ∈ c.th, t.pc = .idle := by
    intro t ht
    have := hq t ht
    simp only [Thread.finished, Bool.and_eq_true, decide_eq_true_eq] at this
    exact this.1
  unfold allItemsOK
  rw [List.all_eq_true]
  intro x hx
  have hx' : x < c.sh.next := List.mem_range.mp hx
  have h1 := hi.a1 x
  have h2 := hi.a2 x
  have h3 := hi.a3 x
  rw [occ_idle batch rfl x _ hidle] at h1
  rw [occ_idle bdone rfl x _ hidle] at h2
  rw [occ_idle rdone rfl x _ hidle] at h3
  simp only [hx', if_true] at h1
  unfold itemOK
  by_cases hq0 : (qItems c.sh).count x = 0
  · have : c.sh.fin.count x = 1 := by omega
    rw [hq0, h2, h3, this]
    rfl
  · have hq1 : (qItems c.sh).count x = 1 := by omega
    have : c.sh.fin.count x = 0 := by omega
    rw [hq1, h2, h3, this]
    rfl

/-- when a type is about to be resolved, it and every type taken over together with it are bound already (the reason
    `resolveResolvables` has two loops: a type may refer to another one of the same batch by name) -/
theorem C13_queue_bound_before_resolve (cfg : Cfg) (hv : cfg.variant = .fresh) (pend : Nat) (progs : List (List QOp)) (c : Config)
    (hr : Reachable cfg (Config.init cfg pend progs) c) (t : Thread) (ht : t ∈ c.th) (s : Slice) (b : List Item) (j : Nat) (y : Item)
    (ev : List Ev) (hpc : t.pc = .resCall s b j y ev) : y ∈ b ∧ ∀ z ∈ b, z ∈ c.sh.bound := by
  have hi := Inv_reachable cfg hv (Inv_init cfg pend progs) hr
  have hp := hi.p t ht
  rw [hpc] at hp
  refine ⟨List.mem_of_getElem? hp.2, fun z hz => ?_⟩
  have h2 := hi.a2 z
  have hge := occ_ge bdone z c.th t ht
  rw [hpc] at hge
  have : 0 < b.count z := List.count_pos_iff.mpr hz
  simp only [bdone] at hge
  exact List.count_pos_iff.mp (by omega)

/-- what a goroutine reads through the slice it took over — outside the lock — is what the slice held when it was popped,
    whatever has been declared since; and reading it never faults -/
theorem C13_queue_reads_popped (cfg : Cfg) (hv : cfg.variant = .fresh) (pend : Nat) (progs : List (List QOp)) (c : Config)
    (hr : Reachable cfg (Config.init cfg pend progs) c) (t : Thread) (ht : t ∈ c.th) :
    (∀ ev, Ans.fault ev ∉ t.log) ∧
    (∀ s b j ev, (t.pc = .bindRead s b j ev ∨ t.pc = .resRead s b j ev) → j < s.len → slotAt c.sh.heap s j = b[j]? ∧ j < b.length) := by
  have hi := Inv_reachable cfg hv (Inv_init cfg pend progs) hr
  refine ⟨hi.f t ht, fun s b j ev hpc hj => ?_⟩
  have hp := hi.p t ht
  rcases hpc with hpc | hpc <;>
    (rw [hpc] at hp; obtain ⟨x, hx, hb⟩ := slotAt_some hp.1 hj; exact ⟨hx.trans hb.symm, (List.getElem?_eq_some_iff.mp hb).1⟩)

/-- instantiated on the code as it is now (the model the `declq` lines run on the Lean side) -/
theorem C13_queue_impl_exactly_once : C13_queue_full (Cfg.ofTable Pcore.Generated.queueSites) :=
  C13_queue_exactly_once _ (C13_queue_cfg_of_table _ C13_queue_sites_ok)

def resliceCfg : Cfg := { cleanCfg with variant := .reslice }
def keepCfg : Cfg := { cleanCfg with variant := .keep }

/-- one type is pending; thread 0 takes the list over and is parked before it binds the type; thread 1 declares a second
    type; thread 0 goes on -/
def lostConfig : Config := execute resliceCfg 1 [[.resolve], [.decl]] [0, 1, 0, 0]

/-- REFUTED VARIANT (shared backing array): the declaration of thread 1 lands in slot 0 of the array thread 0 is still
    reading — type 0 is bound but NEVER resolved by anybody (it is no longer pending), type 1 is resolved although it is
    still pending (whoever pops next resolves it a second time).  The same schedule is run on the implementation by every
    check (`declq (pend 1) (threads (th resolve) (th decl)) (sched 0 1 0 0)`). -/
theorem C13_queue_reslice_loses :
    Reachable resliceCfg (Config.init resliceCfg 1 [[.resolve], [.decl]]) lostConfig ∧ Quiescent lostConfig ∧
    lostConfig.sh.next = 2 ∧ qItems lostConfig.sh = [1] ∧ lostConfig.sh.bound = [0] ∧ lostConfig.sh.resolved = [1] ∧
    allItemsOK lostConfig.sh = false :=
  ⟨reachable_execute _ _ _ _, by decide +kernel, by decide +kernel, by decide +kernel, by decide +kernel, by decide +kernel,
    by decide +kernel⟩

/-- REFUTED VARIANT (the queue is never emptied): two goroutines that resolve one after the other both resolve type 0 -/
theorem C13_queue_keep_resolves_twice :
    let c := execute keepCfg 1 [[.resolve], [.resolve]] []
    Quiescent c ∧ c.sh.resolved = [0, 0] ∧ allItemsOK c.sh = false := by
  decide +kernel

-- the same two runs in the variant the code has: everything is accounted for
example : allItemsOK (execute cleanCfg 1 [[.resolve], [.decl]] [0, 1, 0, 0]).sh = true ∧
    allItemsOK (execute cleanCfg 1 [[.resolve], [.resolve]] []).sh = true := by decide +kernel

/-- the full clause is FALSE of both refuted variants -/
theorem C13_queue_full_fails_reslice : ¬ C13_queue_full resliceCfg := by
  intro h
  have := h 1 [[.resolve], [.decl]] lostConfig C13_queue_reslice_loses.1 C13_queue_reslice_loses.2.1
  rw [C13_queue_reslice_loses.2.2.2.2.2.2] at this
  cases this

theorem C13_queue_full_fails_keep : ¬ C13_queue_full keepCfg := by
  intro h
  have := h 1 [[.resolve], [.resolve]] (execute keepCfg 1 [[.resolve], [.resolve]] []) (reachable_execute _ _ _ _)
    C13_queue_keep_resolves_twice.1
  rw [C13_queue_keep_resolves_twice.2.2] at this
  cases this

-- non-vacuity of C13_queue_bound_before_resolve / C13_queue_reads_popped: thread 0 took two types over, has bound both and
-- is parked before the first Resolve while thread 1 has declared a third type into the (new) queue array
def midConfig : Config := runSched cleanCfg (Config.init cleanCfg 2 [[.resolve], [.decl]]) [0, 0, 0, 1]
example : (midConfig.th.map (·.pc)) = [.resCall ⟨0, 2⟩ [0, 1] 0 0 [.bind 0, .bind 1], .idle] ∧ midConfig.sh.bound = [0, 1] ∧
    qItems midConfig.sh = [2] ∧ midConfig.sh.q = ⟨1, 1⟩ := by decide +kernel
-- non-vacuity of C13_queue_exactly_once: a quiescent run in which one type stays pending and three were resolved, the
-- first array (capacity 2 here) having overflowed
example : let c := execute { cleanCfg with cap0 := 2 } 3 [[.resolve], [.decl]] [0, 1, 0, 0]
    Quiescent c ∧ qItems c.sh = [3] ∧ c.sh.resolved = [0, 1, 2] ∧ c.sh.heap.length = 3 := by decide +kernel
-- non-vacuity of the SECOND conjunct of C13_queue_reads_popped (`midConfig` is parked at `resCall`, where
-- that conjunct has no instance): thread 0 has popped two types and is about to READ slot 0 outside the lock (`bindRead`,
-- not a yield point of the scheduler, hence `stepAt`) when thread 1 declares a third type — the popped slice still shows
-- what it held when popped, the new type went into the new queue array
def readConfig : Config := stepAt cleanCfg (stepAt cleanCfg (Config.init cleanCfg 2 [[.resolve], [.decl]]) 0) 1
example : (readConfig.th.map (·.pc)) = [.bindRead ⟨0, 2⟩ [0, 1] 0 [], .idle] ∧ readConfig.sh.next = 3 ∧
    slotAt readConfig.sh.heap ⟨0, 2⟩ 0 = some 0 ∧ slotAt readConfig.sh.heap ⟨0, 2⟩ 1 = some 1 ∧ qItems readConfig.sh = [2] := by
  decide +kernel

end Pcore.ConcQueue

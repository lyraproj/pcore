import Pcore.Proofs.LatFam
import Pcore.Proofs.DescribeWF
import Pcore.Proofs.DescribeSig
set_option linter.unusedSimpArgs false
/-!
# C19 — Type-mismatch reporting is total and agrees with the lattice

Property (properties.jsonl): for every expected type and every actual type or value, the mismatch description is produced without
crashing, is empty exactly when the actual is assignable to the expected, and otherwise names the subject it was given.  An instance
assertion raises a reported type-mismatch error exactly when the value is not an instance, and inferring the detailed type needed
for the message never fails.

Models.
* `Pcore/Model/LatticeInst.lean`: `descEmpty e a` — the decision skeleton of `describe` (TypeReference scan, assignability guard, never-empty
  fallback); `assertOk t v` = `px.AssertInstance`; `dtype` = `px.DetailedValueType`.
* `Pcore/Model/Describe.lean` (namespace `Pcore.Desc`): the STRUCTURE of the describer of internal/typemismatchdescriber.go AS IT IS NOW —
  `describe e a p : Res` = `ok (ms : List Mismatch)` | `fault k`: one `Mismatch` constructor per Go mismatch struct, carrying its path
  (list of path elements: subject / entry / key of entry / index / variant / …) and the types, names or size ranges it holds;
  `internalDescribe` with one arm per case of the Go type switch (describeVariantType with the member loop, its early return and
  mergeDescriptions / mergeMismatch / chopPath; describeTypeAliasType for the built-in aliases Data and RichData; describeOptionalType;
  describeStructType / describeHashType / describeArrayType / describeTuple with their loops; Enum / Pattern / default), the guard and the
  fallback of `describe`.  `Pcore/Model/DescribeText.lean`: what the canonical observation keeps of `text()`.
* The predicates of the statements — `Reach`, `Local`, `Pos`: Proofs/DescribePos.lean; `plain`: Proofs/DescribeTm.lean; `noMerge`:
  Proofs/DescribeLeaf.lean; `SigOK`, `ArgsOK`: Proofs/DescribeSig.lean.  The skeleton theorems are in `Pcore.Lat`, the describer theorems in
  `Pcore.Desc`.

Full statement / proved / missing
* `C19_empty_iff`, `C19_nonempty_iff`, `C19_assert_iff`, `C19_assert_sound` — PROVED (the skeleton and the assertion).
* `C19_assert_described` (def, full statement: the error an assertion raises has a non-empty description) — FALSE
  (`C19_assert_described_fails_iterable_binary`, the known finding C19-assert-empty-description); `C19_assert_described_partial` — PROVED on the
  fragment of the third law of C04 (rule off, fragment types, values without type values and without empty-string keys).
* `C19_describe_total`        — PROVED: no fault.  The Go fault sites of the modelled code are explicit `fault` results (`mismatches[0]` of an
                                empty slice in mergeDescriptions, `expected.Types()[exl-1]` of a Tuple without types in describeTuple) and are
                                unreachable for ALL type terms; the nil-size and type-assertion sites of `from()/to()/text()` are discharged by
                                the typing of the model (sizes are `Rng`, never nil; see the header of Describe.lean).
* `C19_describe_empty_iff`    — PROVED for the whole modelled describer: `describe e a p = ok [] ↔ asg e a` (and `C19_describe_nonempty`).
* `C19_describe_justified`    — PROVED: every reported mismatch has the path `p ++ s` where `s` is a walk (`Reach`) through the expected and the
                                actual type, and the soundness condition of its kind (`Local`) holds where the walk ends.
* `C19_path_valid`            — PROVED: every path is a valid position (`Pos`) of the expected type — whatever was merged or chopped.
* `C19_prefix_kept`, `C19_names_subject` — PROVED: the given path stays a prefix; the subject element (first) is kept: "names the subject".
* `C19_missingKey_real`, `C19_extraneousKey_real` — PROVED (the first for well-formed expected types; `C19_missingKey_real_any` without).
* `C19_skeleton_agrees` — PROVED: the structure model answers `ok []` exactly when the skeleton says "empty".  `C19_assert_message_partial` —
  PROVED: the property's sentence about values, assembled from its parts: when the assertion raises, the description of the expected type
  against the detailed type of the value is a non-empty list of mismatches, each starting with the subject (on the fragment of
  `C19_assert_described_partial`).
* `C19_sizeMismatch_real_partial`, `C19_countMismatch_real_partial` — PROVED: for an expected type without Variant / Data / RichData / Callable
  (`noMerge`) the actual range of every reported size / count mismatch is not inside the expected range.
* `C19_sizeMismatch_real` (def, full statement: the reported actual range is never inside the reported expected range) — FALSE of the code:
  mergeMismatch replaces the expected range of merged size mismatches by the HULL of the members' ranges, which may contain the actual
  range (`C19_sizeMismatch_merged_hull`: Variant[Array[String,0,1], Array[String,5,6]] against Array[String,3,3] reports "size 0..6, got 3").
  Not a violation of C19's own text (the description is non-empty and names the subject); recorded here, not as a finding.
* `C19_typeMismatch_real_partial`, `C19_patternMismatch_real_partial` — PROVED: for a `noMerge` expectation and a `plain` actual type (no Unit /
  NotUndef / Optional / Variant / alias at a reached position, no optional Struct key) the reported expected type does not accept the
  reported actual type.
* `C19_typeMismatch_real` (def, full statement: the reported expected type does not accept the reported actual type) — FALSE of the code for
  nested positions: the container arms report a type mismatch for every actual type of another kind WITHOUT asking IsAssignable, so a
  NotUndef / Variant / alias wrapper around an acceptable type is reported (`C19_typeMismatch_nested_wrapper`); the top level is protected by
  the guard of `describe`.  Same remark.
* `C19_signatures_total`      — PROVED: `describeSignatures` (the argument-error description of a dispatch, model `DescribeSig.lean`: signatures with
                                lattice parameter types, call without or WITH a block: describeSignatureBlock, unexpectedBlock, the block's signature described against the block type) never faults for a call that respects the contract of
                                px.DescribeSignatures (`SigOK`: a parameter tuple with matching names that declares a type unless it takes no
                                argument; `ArgsOK`: a Tuple / Array type that can have as many elements as it declares).  WITHOUT the contract the
                                faults are real, in the model and in the code (`C19_signatures_fault_*`, replayed from corpus/C19/structure.ops):
                                an argument type that is no Tuple/Array leaves `aSize` nil and IntegerType.IsAssignable dereferences it; the
                                default Callable has no parameter tuple (type assertion on nil); a parameter tuple without types that takes an
                                argument is indexed at -1.
* Callable expectations       — `Ty.callable` (lattice model) + the `.callable` arm of `internalDescribe` (describeCallableType: parameters, return
                                type, block): covered by every theorem above except the four `_real_partial` ones (`noMerge` is false on a Callable), at the top of
                                the expectation or nested anywhere.
* missing: the English of `text()` (article, "or"-lists, detailed vs short type names, quoting); Init expectations and unresolved
  TypeReferences are not in the term language, user-defined aliases only as one-member Variants (header of Describe.lean); harness-side
  tests: `@cdesc`, `@cassert`, `@sigs`, `t2-*`.
* "inferring the detailed type never fails" has no theorem (notes/audit-C19.md): `dtype` is a total Lean function without a fault
  constructor (total by construction; only the implementation-side check speaks about it).  `C19_empty_iff` / `C19_assert_iff` unfold
  `descEmpty := asg`, `assertOk := inst`.  `Local` in `C19_describe_justified` is `True` for every kind but missing / unrecognised key.
-/
namespace Pcore.Lat

/-- `descEmpty := !hasTypeRef e && asg …` and the term language has no TypeReference: the model function IS the claim, for either
    setting of the Struct-from-Hash rule -/
theorem C19_empty_iff_anyrule (cfg : Cfg) (sfh : Bool) (e a : Ty) : descEmpty cfg sfh e a = asg cfg sfh e a := by
  simp [descEmpty, hasTypeRef]

theorem C19_empty_iff (cfg : Cfg) (e a : Ty) : descEmpty cfg true e a = asg cfg true e a :=
  C19_empty_iff_anyrule cfg true e a

theorem C19_assert_iff (cfg : Cfg) (t : Ty) (v : Val) : assertOk cfg true t v = false ↔ inst cfg true t v = false := by
  simp [assertOk]

/-- an empty description is never produced for a non-assignable pair, a non-empty one never for an assignable pair -/
theorem C19_nonempty_iff (cfg : Cfg) (e a : Ty) : descEmpty cfg true e a = false ↔ asg cfg true e a = false := by
  rw [C19_empty_iff]

theorem C19_assert_sound (cfg : Cfg) (hl : ∀ s, (cfg.lower s).length = s.length) (a b : Ty) (v : Val)
    (fa : a.Frag false) (fb : b.Frag false) (wa : Ty.WF cfg a) (wb : Ty.WF cfg b) (us : b.US) (ok : v.OK) (tv : Val.TyOK cfg v)
    (h : descEmpty cfg false a b = true) (hb : assertOk cfg false b v = true) : assertOk cfg false a v = true := by
  rw [C19_empty_iff_anyrule] at h
  exact sound cfg false hl ⟨fa, fb, wa, wb, us, ok, tv⟩ h hb

/-- full statement: the type-mismatch error an assertion raises always has something to say (the description of the expected type against
    the detailed type of the value is not empty) -/
def C19_assert_described (cfg : Cfg) (sfh : Bool) : Prop :=
  ∀ (t : Ty) (v : Val), Ty.WF cfg t → v.OK → assertOk cfg sfh t v = false → descEmpty cfg sfh t (dtype cfg sfh v) = false

/-- PROVED part (the contrapositive of the third law of C04, `accepts_dtype_sound`: rule off, fragment types, values without type values
    and without empty-string keys) -/
theorem C19_assert_described_partial (cfg : Cfg) (hl : ∀ s, (cfg.lower s).length = s.length) (t : Ty) (v : Val)
    (ft : t.Frag false) (wt : Ty.WF cfg t) (ok : v.OK) (tv : Val.TyOK cfg v)
    (nt : Val.AllTyp (fun _ => False) v) (ne : Val.NoEmptyKey v)
    (h : assertOk cfg false t v = false) : descEmpty cfg false t (dtype cfg false v) = false := by
  rw [C19_empty_iff_anyrule]
  exact Bool.eq_false_iff.mpr fun h' => Bool.eq_false_iff.mp h (accepts_dtype_sound cfg hl t v ft wt ok tv nt ne h')

/-- the known finding C19-assert-empty-description: Iterable accepts the Binary type, no Binary value is an Iterable instance, so the
    assertion raises an error whose description is empty -/
theorem C19_assert_described_fails_iterable_binary :
    ¬ C19_assert_described { rxMatch := fun _ _ => false, lower := id } true := by
  intro h
  have := h (.iterable (.int ⟨0, 255⟩)) (.binary [1, 2]) (by simp [Ty.WF]) (Val.OK.binary _) (by simp [assertOk, inst, elemType])
  simp [descEmpty, hasTypeRef, dtype, ptype, asg, asgRecv, sameNullary, Rng.sub] at this

/-! non-vacuity -/
example (cfg : Cfg) : descEmpty cfg true (.variant [.str, .int Rng.all]) (.int ⟨1, 2⟩) = true := by
  simp [descEmpty, hasTypeRef, asg, asgRecv, asgAnyL, sameNullary, Rng.sub, Rng.all, I64.min, I64.max, isStringFamily]
example (cfg : Cfg) : descEmpty cfg true (.int ⟨1, 2⟩) (.variant [.str, .int Rng.all]) = false := by
  simp [descEmpty, hasTypeRef, asg, asgRecv, asgAllR, sameNullary]
example (cfg : Cfg) : assertOk cfg true (.int ⟨1, 2⟩) (.str "a") = false := by simp [assertOk, inst]

/-! non-vacuity of ALL hypotheses of `C19_assert_sound` by a nested case (an Array of a Variant against a Tuple, a two-element array), and
    the conclusion is a non-trivial fact about it -/
def audCfg : Cfg := { rxMatch := fun _ _ => false, lower := id }
def audA : Ty := .array (.variant [.int ⟨0, 9⟩, .optional .str]) ⟨0, 5⟩
def audB : Ty := .tuple [.int ⟨1, 2⟩, .strVal "a"] none
def audV : Val := .array [.int 2, .str "a"]
/-- rejected by `audA` (11 is outside Integer[0,9] and no Optional[String]) -/
def audW : Val := .array [.int 11, .str "a"]

theorem audV_OK : audV.OK := Val.OK.array _ (by intro x hx; simp at hx; rcases hx with rfl | rfl <;> constructor)
theorem audV_TyOK : Val.TyOK audCfg audV :=
  Val.TyOKS.array _ (by simp [I64.max]) (by intro x hx; simp at hx; rcases hx with rfl | rfl <;> constructor)
theorem audW_OK : audW.OK := Val.OK.array _ (by intro x hx; simp at hx; rcases hx with rfl | rfl <;> constructor)
theorem audW_TyOK : Val.TyOK audCfg audW :=
  Val.TyOKS.array _ (by simp [I64.max]) (by intro x hx; simp at hx; rcases hx with rfl | rfl <;> constructor)

theorem audA_frag : audA.Frag false := by simp [audA, Ty.Frag]
theorem audB_frag : audB.Frag false := by simp [audB, Ty.Frag]
theorem audA_wf : Ty.WF audCfg audA := by simp [audA, Ty.WF]
theorem audB_wf : Ty.WF audCfg audB := by simp [audB, Ty.WF]
theorem audB_us : audB.US := by simp [audB, Ty.US]
theorem audAB_empty : descEmpty audCfg false audA audB = true := by
  simp [descEmpty, hasTypeRef, audA, audB, asg, asgRecv, asgAllR, asgAnyL, tupZip, sameNullary, Rng.sub, tupleSize, Rng.exact,
    isStringFamily]
theorem audBV_ok : assertOk audCfg false audB audV = true := by
  simp [assertOk, audB, audV, inst, instZip, tupleSize, Rng.exact, Rng.contains]

example : audA.Frag false ∧ audB.Frag false ∧ Ty.WF audCfg audA ∧ Ty.WF audCfg audB ∧ audB.US :=
  ⟨audA_frag, audB_frag, audA_wf, audB_wf, audB_us⟩
example : descEmpty audCfg false audA audB = true := audAB_empty
example : assertOk audCfg false audB audV = true := audBV_ok
/-- the theorem applied to the instance: the wider type's assertion passes too -/
example : assertOk audCfg false audA audV = true :=
  C19_assert_sound audCfg (fun _ => rfl) audA audB audV audA_frag audB_frag audA_wf audB_wf audB_us audV_OK audV_TyOK audAB_empty audBV_ok

/-! non-vacuity of ALL hypotheses of `C19_assert_described_partial`: `audA` against the array [11, 'a'] -/
theorem audW_noTyp : Val.AllTyp (fun _ => False) audW :=
  Val.AllTyp.array _ (by intro x hx; simp at hx; rcases hx with rfl | rfl <;> constructor)
theorem audW_noEmptyKey : Val.NoEmptyKey audW :=
  Val.NoEmptyKey.array _ (by intro x hx; simp at hx; rcases hx with rfl | rfl <;> exact Val.NoEmptyKey.leaf _ trivial)
theorem audW_rejected : assertOk audCfg false audA audW = false := by
  simp [assertOk, audA, audW, inst, instAll, instAny, Ty.isAny, Rng.contains]
/-- the theorem applied to the instance: the description of `audA` against the detailed type of [11, 'a'] is not empty -/
theorem audW_described : descEmpty audCfg false audA (dtype audCfg false audW) = false :=
  C19_assert_described_partial audCfg (fun _ => rfl) audA audW audA_frag audA_wf
    audW_OK audW_TyOK audW_noTyp audW_noEmptyKey audW_rejected

end Pcore.Lat

namespace Pcore.Desc
open Pcore.Lat

section
variable (cfg : Cfg) (sfh : Bool)

/-- NO FAULT: none of the Go runtime faults the model makes explicit (`mismatches[0]` of an empty slice in mergeDescriptions,
    `expected.Types()[exl-1]` of a Tuple without types in describeTuple) is reachable — `describe` always returns normally. -/
theorem C19_describe_total (e a : Ty) (p : Path) : ∃ ms, describe cfg sfh e a p = .ok ms :=
  describe_ok cfg sfh e a p

/-- EMPTY IFF ASSIGNABLE, for the whole modelled describer (TypeReference scan, guard, internalDescribe with all its loops and
    merges, fallback): the description is empty exactly when the actual type is assignable — and it is always produced. -/
theorem C19_describe_empty_iff (e a : Ty) (p : Path) : describe cfg sfh e a p = .ok [] ↔ asg cfg sfh e a = true := by
  obtain ⟨ms, h, hiff, _⟩ := describe_spec cfg sfh e a p
  rw [h, Res.ok.injEq]
  exact hiff

/-- what is reported when the actual type is not assignable is never empty -/
theorem C19_describe_nonempty (e a : Ty) (p : Path) (h : asg cfg sfh e a = false) :
    ∃ m ms, describe cfg sfh e a p = .ok (m :: ms) := by
  obtain ⟨r, hr⟩ := C19_describe_total cfg sfh e a p
  cases r with
  | nil => rw [C19_describe_empty_iff] at hr; simp [hr] at h
  | cons m ms => exact ⟨m, ms, hr⟩

/-- EVERY REPORTED MISMATCH IS JUSTIFIED: its path is the given path followed by a walk `s` through the expected and the actual type
    (`Reach`: entry / key / index steps descend into BOTH types, variant steps and Optional unwrapping into the expected one), and
    the soundness condition of its kind (`Local`) holds of the pair of sub-terms the walk ends at. -/
theorem C19_describe_justified (e a : Ty) (p : Path) (ms : List Mismatch) (h : describe cfg sfh e a p = .ok ms) :
    ∀ m ∈ ms, ∃ s x a', m.path = p ++ s ∧ Reach e a false s x a' ∧ Local m.kk x a' := by
  intro m hm
  obtain ⟨s, x, a', hp, hreach, hloc⟩ := (describe_rep_top h m hm).just
  exact ⟨s, x, a', hp, hreach.drop_isOptional, hloc⟩

/-- EVERY PATH IS A VALID POSITION OF THE EXPECTED TYPE (whatever mergeDescriptions merged and chopPath chopped) -/
theorem C19_path_valid (e a : Ty) (p : Path) (ms : List Mismatch) (h : describe cfg sfh e a p = .ok ms) :
    ∀ m ∈ ms, ∃ s, m.path = p ++ s ∧ Pos e false s := by
  intro m hm
  obtain ⟨s, x, a', hp, hreach, _⟩ := C19_describe_justified cfg sfh e a p ms h m hm
  exact ⟨s, hp, hreach.toPos⟩

/-- the path a mismatch was described under is kept as a prefix by every merge and chop -/
theorem C19_prefix_kept (e a : Ty) (p : Path) (ms : List Mismatch) (h : describe cfg sfh e a p = .ok ms) :
    ∀ m ∈ ms, p <+: m.path := by
  intro m hm
  obtain ⟨s, hp, _⟩ := C19_path_valid cfg sfh e a p ms h m hm
  exact ⟨s, hp.symm⟩

/-- NAMES THE SUBJECT: every mismatch `px.DescribeMismatch(name, e, a)` formats starts with the subject element it was given -/
theorem C19_names_subject (name : String) (e a : Ty) (ms : List Mismatch) (h : describe cfg sfh e a (subjectPath name) = .ok ms) :
    ∀ m ∈ ms, m.path.head? = some ⟨.subject, "function " ++ name ++ ":"⟩ := by
  intro m hm
  obtain ⟨s, hs⟩ := C19_prefix_kept cfg sfh e a _ ms h m hm
  rw [← hs]; rfl

/-- `expects a value for key k` at `p ++ s` is reported only if the walk `s` ends at an expected Struct of which `k` is a REQUIRED member
    and an actual Struct that has no member `k`, OR the expected Struct names a member twice (the second occurrence finds its key
    already deleted from the map) -/
theorem C19_missingKey_real_any (e a : Ty) (p q : Path) (k : String) (ms : List Mismatch)
    (h : describe cfg sfh e a p = .ok ms) (hm : Mismatch.missingKey q k ∈ ms) :
    ∃ s ems ams, q = p ++ s ∧ Reach e a false s (.ty (.struct ems)) (.struct ams) ∧
      (∃ t, (k, false, t) ∈ ems) ∧ ((∀ m ∈ ams, m.1 ≠ k) ∨ ¬ (ems.map (·.1)).Nodup) := by
  obtain ⟨s, x, a', hp, hreach, ems, ams, rfl, rfl, ht, hor⟩ := C19_describe_justified cfg sfh e a p ms h _ hm
  exact ⟨s, ems, ams, hp, hreach, ht, hor.imp lookupLast_none.mp id⟩

/-- A MISSING KEY IS REAL: for a well-formed expected type (member names pairwise different, what a hash literal / the constructors
    establish; inherited along the walk) only the first alternative is left: `k` is a REQUIRED member of the expected Struct the walk
    ends at, and the actual Struct there has no member `k`. -/
theorem C19_missingKey_real (e a : Ty) (p q : Path) (k : String) (ms : List Mismatch) (hw : Ty.WF cfg e)
    (h : describe cfg sfh e a p = .ok ms) (hm : Mismatch.missingKey q k ∈ ms) :
    ∃ s ems ams, q = p ++ s ∧ Reach e a false s (.ty (.struct ems)) (.struct ams) ∧
      (∃ t, (k, false, t) ∈ ems) ∧ ∀ m ∈ ams, m.1 ≠ k := by
  obtain ⟨s, ems, ams, hp, hreach, ht, hor⟩ := C19_missingKey_real_any cfg sfh e a p q k ms h hm
  exact ⟨s, ems, ams, hp, hreach, ht, hor.resolve_right (not_not_intro (hreach.wf hw).names)⟩

/-- AN UNRECOGNISED KEY IS REAL: `unrecognized key k` at `p ++ s` is reported only if the walk ends at an actual Struct that has a member
    `k` and an expected Struct that has none -/
theorem C19_extraneousKey_real (e a : Ty) (p q : Path) (k : String) (ms : List Mismatch)
    (h : describe cfg sfh e a p = .ok ms) (hm : Mismatch.extraneousKey q k ∈ ms) :
    ∃ s ems ams, q = p ++ s ∧ Reach e a false s (.ty (.struct ems)) (.struct ams) ∧
      (∃ m ∈ ams, m.1 = k) ∧ ∀ m ∈ ems, m.1 ≠ k := by
  obtain ⟨s, x, a', hp, hreach, ems, ams, rfl, rfl, hin, hno⟩ := C19_describe_justified cfg sfh e a p ms h _ hm
  exact ⟨s, ems, ams, hp, hreach, hin, hno⟩

end

/-! non-vacuity of the hypotheses of the theorems above (a description with a missing and an unrecognised key; one with a nested path) -/
example (cfg : Cfg) :
    describe cfg true (.struct [("a", false, .int ⟨1, 2⟩)]) (.struct [("b", false, .str)]) (subjectPath "x")
      = .ok [.missingKey (subjectPath "x") "a", .extraneousKey (subjectPath "x") "b"] := by
  simp [describe, internalDescribe, descAll, structItems, lookupLast, distinctNames, Res.append,
    asg, asgRecv, sameNullary, structAll, structMember, distinctCount]
example (cfg : Cfg) : Ty.WF cfg (.struct [("a", false, .int ⟨1, 2⟩)]) := by simp [Ty.WF]
theorem describe_nested_index (cfg : Cfg) :
    describe cfg true (.array (.int ⟨1, 2⟩) ⟨0, 5⟩) (.tuple [.int ⟨1, 1⟩, .str] none) (subjectPath "x")
      = .ok [.typeMismatch (subjectPath "x" ++ [PE.nat .index 1]) (.ofTy (.int ⟨1, 2⟩)) .str] := by
  simp [describe, internalDescribe, descAll, arrTupItems, Res.append, tupleSize, Rng.exact,
    asg, asgRecv, sameNullary, tupZip, Rng.sub, subjectPath]
example (cfg : Cfg) :
    describe cfg true (.array (.int ⟨1, 2⟩) ⟨0, 5⟩) (.tuple [.int ⟨1, 1⟩, .str] none) (subjectPath "x")
      = .ok [.typeMismatch (subjectPath "x" ++ [PE.nat .index 1]) (.ofTy (.int ⟨1, 2⟩)) .str] :=
  describe_nested_index cfg
example (cfg : Cfg) : asg cfg true (.int ⟨1, 2⟩) .str = false := by simp [asg, asgRecv, sameNullary]

/-- `C19_names_subject` / `C19_prefix_kept` / `C19_path_valid` quantify over the members of `ms`: with `ms = []` they say nothing.  The list
    is non-empty exactly in the case the property speaks of (`C19_describe_nonempty`); an instance whose mismatch lies BELOW the subject
    (so "head of the path" is not "the whole path"): -/
example (cfg : Cfg) : ∀ m ∈ [Mismatch.typeMismatch (subjectPath "x" ++ [PE.nat .index 1]) (.ofTy (.int ⟨1, 2⟩)) .str],
    m.path.head? = some ⟨.subject, "function x:"⟩ :=
  C19_names_subject cfg true "x" (.array (.int ⟨1, 2⟩) ⟨0, 5⟩) (.tuple [.int ⟨1, 1⟩, .str] none) _ (describe_nested_index cfg)

/-- the two models of `describe` agree on emptiness: the structure model (every loop, merge and chop) answers `ok []` exactly when the
    decision skeleton of Model/LatticeInst.lean says "empty".  NOTE what carries this and `C19_describe_empty_iff`: the guard
    `if IsAssignable(expected, actual) return NoMismatch` and the fallback `if len(ds) == 0 { ds = typeMismatch }` of `describe`, plus
    totality of `internalDescribe` — NOT an agreement of the element-wise loops of `internalDescribe` with `asg` (no such theorem exists;
    DESIGN.md §4 C19 announced one). -/
theorem C19_skeleton_agrees (cfg : Cfg) (sfh : Bool) (e a : Ty) (p : Path) :
    describe cfg sfh e a p = .ok [] ↔ descEmpty cfg sfh e a = true := by
  rw [C19_describe_empty_iff, C19_empty_iff_anyrule]

/-- the property's sentence about VALUES, assembled from its parts ("the description of an expected type against a value that is not an
    instance is produced without crashing, is not empty and names the subject"): when `px.AssertInstance(name, t, v)` raises, what
    `px.DescribeMismatch(name, t, DetailedValueType(v))` formats is a non-empty list of mismatches, each starting with the subject element —
    on the fragment of `C19_assert_described_partial` (rule off, no Iterable, no type values, no empty-string keys).  Outside the fragment
    the first half is false: `C19_assert_described_fails_iterable_binary`. -/
theorem C19_assert_message_partial (cfg : Cfg) (hl : ∀ s, (cfg.lower s).length = s.length) (name : String) (t : Ty) (v : Val)
    (ft : t.Frag false) (wt : Ty.WF cfg t) (ok : v.OK) (tv : Val.TyOK cfg v)
    (nt : Val.AllTyp (fun _ => False) v) (ne : Val.NoEmptyKey v) (h : assertOk cfg false t v = false) :
    ∃ m ms, describe cfg false t (dtype cfg false v) (subjectPath name) = .ok (m :: ms) ∧
      ∀ m' ∈ m :: ms, m'.path.head? = some ⟨.subject, "function " ++ name ++ ":"⟩ := by
  have hd := C19_assert_described_partial cfg hl t v ft wt ok tv nt ne h
  rw [C19_empty_iff_anyrule] at hd
  obtain ⟨m, ms, hm⟩ := C19_describe_nonempty cfg false t (dtype cfg false v) (subjectPath name) hd
  exact ⟨m, ms, hm, C19_names_subject cfg false name t _ _ hm⟩

/-- inhabited: `audA` = Array[Variant[Integer[0,9], Optional[String]], 0, 5] against the value [11, 'a'] -/
example : ∃ m ms, describe audCfg false audA (dtype audCfg false audW) (subjectPath "f") = .ok (m :: ms) ∧
    ∀ m' ∈ m :: ms, m'.path.head? = some ⟨.subject, "function f:"⟩ :=
  C19_assert_message_partial audCfg (fun _ => rfl) "f" audA audW audA_frag audA_wf
    audW_OK audW_TyOK audW_noTyp audW_noEmptyKey audW_rejected

/-! ### full-strength soundness of size and type mismatches: false of the code, with witnesses -/
/-- full statement: a reported size mismatch is real -/
def C19_sizeMismatch_real (cfg : Cfg) (sfh : Bool) : Prop :=
  ∀ e a p ms, describe cfg sfh e a p = .ok ms → ∀ q er ar, Mismatch.sizeMismatch q er ar ∈ ms → er.sub ar = false

/-- the merged size mismatch of two Variant members carries the hull of their ranges -/
theorem C19_sizeMismatch_merged_hull (cfg : Cfg) :
    describe cfg true (.variant [.array .str ⟨0, 1⟩, .array .str ⟨5, 6⟩]) (.array .str ⟨3, 3⟩) (subjectPath "x")
      = .ok [.sizeMismatch (subjectPath "x") ⟨0, 6⟩ ⟨3, 3⟩] := by
  simp [describe, internalDescribe, descVar, descAll, variantTail, mergeDescriptions, tryClasses, foldMerge, mergeMismatch,
    canonPath, chopPath, VRes.cons, Res.append, Mismatch.cls, Mismatch.path, Mismatch.setPath, subjectPath, PE.nat, isOptional, isAlias,
    asg, asgRecv, asgAnyL, sameNullary, Rng.sub, Rng.hull, isStringFamily]
  constructor <;> omega

/-- PROVED part: for an expected type without Variant / Data / RichData / Callable at any position the describer can reach (`noMerge`: nothing is ever
    merged) every reported size mismatch is real — the actual range is not inside the expected one … -/
theorem C19_sizeMismatch_real_partial (cfg : Cfg) (sfh : Bool) (e a : Ty) (p q : Path) (er ar : Rng) (ms : List Mismatch)
    (hnm : noMerge e = true) (h : describe cfg sfh e a p = .ok ms) (hm : Mismatch.sizeMismatch q er ar ∈ ms) : er.sub ar = false :=
  (describe_rep_top h _ hm).sizeReal hnm

/-- … and so is every count mismatch (what a Tuple expectation reports for a size that does not fit) -/
theorem C19_countMismatch_real_partial (cfg : Cfg) (sfh : Bool) (e a : Ty) (p q : Path) (er ar : Rng) (ms : List Mismatch)
    (hnm : noMerge e = true) (h : describe cfg sfh e a p = .ok ms) (hm : Mismatch.countMismatch q er ar ∈ ms) : er.sub ar = false :=
  (describe_rep_top h _ hm).sizeReal hnm

/-- the hypotheses are satisfiable: Array[String, 0, 5] against Array[String, 0, 7] -/
example (cfg : Cfg) : noMerge (.array .str ⟨0, 5⟩) = true ∧
    describe cfg true (.array .str ⟨0, 5⟩) (.array .str ⟨0, 7⟩) (subjectPath "x") = .ok [.sizeMismatch (subjectPath "x") ⟨0, 5⟩ ⟨0, 7⟩] := by
  simp [noMerge, describe, internalDescribe, asg, asgRecv, sameNullary, Rng.sub, isStringFamily]

theorem C19_sizeMismatch_real_false (cfg : Cfg) : ¬ C19_sizeMismatch_real cfg true := by
  intro h
  have := h _ _ _ _ (C19_sizeMismatch_merged_hull cfg) _ _ _ List.mem_cons_self
  simp [Rng.sub] at this

/-- full statement: the expected type a type mismatch reports does not accept the actual type it reports -/
def C19_typeMismatch_real (cfg : Cfg) (sfh : Bool) : Prop :=
  ∀ e a p ms, describe cfg sfh e a p = .ok ms → ∀ q t act, Mismatch.typeMismatch q (.ofTy t) act ∈ ms → asg cfg sfh t act = false

/-- Struct[{a => Array[String]}] against Struct[{a => NotUndef[Array[String]], z => String}]: besides the unrecognised key `z` the entry
    `a` is reported as a type mismatch although Array[String] accepts NotUndef[Array[String]] -/
theorem C19_typeMismatch_nested_wrapper (cfg : Cfg) :
    describe cfg true (.struct [("a", false, .array .str Rng.pos)])
        (.struct [("a", false, .notUndef (.array .str Rng.pos)), ("z", false, .str)]) (subjectPath "x")
      = .ok [.typeMismatch (subjectPath "x" ++ [⟨.entry, "a"⟩]) (.ofTy (.array .str Rng.pos)) (.notUndef (.array .str Rng.pos)),
             .extraneousKey (subjectPath "x") "z"] := by
  simp [describe, internalDescribe, descAll, structItems, lookupLast, distinctNames, Res.append,
    asg, asgRecv, sameNullary, structAll, structMember, distinctCount, subjectPath, Rng.sub, Rng.pos, I64.max]

/-- PROVED part: when nothing is merged (`noMerge` expectation) and the actual type is `plain` — no Unit / NotUndef / Optional / Variant /
    alias at any position the describer reaches and no optional Struct key: the kinds GuardedIsAssignable decomposes on the right —
    the expected type every type mismatch reports does not accept the actual type it reports … -/
theorem C19_typeMismatch_real_partial (cfg : Cfg) (sfh : Bool) (e a : Ty) (p q : Path) (t act : Ty) (ms : List Mismatch)
    (hnm : noMerge e = true) (hpl : plain a = true) (h : describe cfg sfh e a p = .ok ms)
    (hm : Mismatch.typeMismatch q (.ofTy t) act ∈ ms) : asg cfg sfh t act = false :=
  (describe_rep_top h _ hm).tmReal hnm hpl (.inl rfl) t rfl

/-- … and neither does the expected type of a pattern mismatch -/
theorem C19_patternMismatch_real_partial (cfg : Cfg) (sfh : Bool) (e a : Ty) (p q : Path) (t act : Ty) (ms : List Mismatch)
    (hnm : noMerge e = true) (hpl : plain a = true) (h : describe cfg sfh e a p = .ok ms)
    (hm : Mismatch.patternMismatch q t act ∈ ms) : asg cfg sfh t act = false :=
  (describe_rep_top h _ hm).tmReal hnm hpl (.inl rfl)

/-- the hypotheses are satisfiable by a description with a nested type mismatch (the example further up: Array[Integer[1,2],0,5]
    against Tuple[Integer[1,1], String]) -/
example : noMerge (.array (.int ⟨1, 2⟩) ⟨0, 5⟩) = true ∧ plain (.tuple [.int ⟨1, 1⟩, .str] none) = true := by
  simp [noMerge, plain, plainL]

theorem C19_typeMismatch_real_false (cfg : Cfg) : ¬ C19_typeMismatch_real cfg true := by
  intro h
  have := h _ _ _ _ (C19_typeMismatch_nested_wrapper cfg) _ _ _ List.mem_cons_self
  simp [asg, asgRecv, sameNullary, Rng.sub, Rng.pos, isStringFamily] at this

/-- NO FAULT in the argument-error description of a dispatch, for every call that respects the contract -/
theorem C19_signatures_total (cfg : Cfg) (sfh : Bool) (sigs : List Sig) (args : Ty) (blk : Option Ty)
    (hs : ∀ sg ∈ sigs, SigOK sg) (ha : ArgsOK args) : ∀ k, describeSignatures cfg sfh sigs args blk ≠ .fault k := by
  intro k
  obtain ⟨argErrs, he⟩ := sigAllArgs_ok cfg sfh args ha sigs hs 0
  obtain ⟨blockArrays, hb⟩ := sigAllBlocks_ok cfg sfh blk sigs 0
  unfold describeSignatures
  rw [he]
  simp only [hb, Except.map]
  split
  · rename_i h; split at h <;> cases h
  · split
    · simp
    · exact sigFinish_ok _ k

/-- the hypotheses are satisfiable: (String, Integer…) called with ('a', 1, 2) — and it is described without fault -/
example : SigOK { params := some ([.str, .int Rng.all], ⟨1, I64.max⟩), names := ["1", "2"], block := none } :=
  ⟨_, _, rfl, rfl, by simp⟩
example : ArgsOK (.tuple [.strVal "a", .int ⟨1, 1⟩, .int ⟨2, 2⟩] none) := by simp [ArgsOK, tupleSize, Rng.exact]

/-- outside the contract the faults are real: an argument type that is not the type of an argument list -/
theorem C19_signatures_fault_nilSize (cfg : Cfg) :
    describeSignatures cfg true [{ params := some ([.str], ⟨1, 1⟩), names := ["1"], block := none }] (.int ⟨1, 1⟩) none = .fault .nilSize := by
  simp [describeSignatures, sigAllArgs, sigArguments]
/-- … the default Callable as a signature -/
theorem C19_signatures_fault_nilParams (cfg : Cfg) :
    describeSignatures cfg true [{ params := none, names := [], block := none }] (.tuple [.strVal "a"] none) none = .fault .nilParams := by
  simp [describeSignatures, sigAllArgs, sigArguments]
/-- … a parameter tuple without types that takes an argument (Callable[1, 1]) -/
theorem C19_signatures_fault_paramIndex (cfg : Cfg) :
    describeSignatures cfg true [{ params := some ([], ⟨1, 1⟩), names := [], block := none }] (.tuple [.strVal "a"] none) none = .fault .paramIndex := by
  simp [describeSignatures, sigAllArgs, sigArguments, sigArgLoop, tupleSize, Rng.exact, Rng.sub]

/-- `C19_signatures_total` on a call that does NOT match — (String, Integer…) called with (1, 2): inside the contract (`SigOK` is the example
    beside the theorem), and the answer is a single mismatch, the fault-free outcome the theorem promises, computed -/
example : ArgsOK (.tuple [.int ⟨1, 1⟩, .int ⟨2, 2⟩] none) := by simp [ArgsOK, tupleSize, Rng.exact]
example (cfg : Cfg) : ∃ m, describeSignatures cfg true
    [{ params := some ([.str, .int Rng.all], ⟨1, I64.max⟩), names := ["1", "2"], block := none }]
    (.tuple [.int ⟨1, 1⟩, .int ⟨2, 2⟩] none) none = .single m := by
  simp [describeSignatures, sigAllArgs, sigArguments, sigArgLoop, tupleSize, Rng.exact, Rng.sub, describe, internalDescribe, asg, asgRecv,
    sameNullary, Rng.all, I64.max, I64.min, isStringFamily, sigStrip, sigFinish, mergeDescriptions, tryClasses, foldMerge, argIsOneStruct,
    Mismatch.cls, List.filter]

/-! ### Callable expectations: `Ty.callable` is a type term like any other, so every theorem above except the four `_real_partial` ones (`noMerge` is
    false on a Callable) covers a Callable at the top of the expectation or nested anywhere in it (describeCallableType is the `.callable` arm of
    `internalDescribe`) -/
/-- a Callable that promises a return type against one that declares none: described below a `return` path element (what the seeded
    change C19-s8 crashed on) -/
example (cfg : Cfg) :
    describe cfg true (.callable (some (.tuple [.str] none)) (some (.int Rng.all)) none) (.callable (some (.tuple [.str] none)) none none)
        (subjectPath "x")
      = .ok [.typeMismatch (subjectPath "x" ++ [⟨.ret, ""⟩]) (.ofTy (.int Rng.all)) .any] := by
  simp [describe, internalDescribe, callTail, callBlock, Res.orElse, tyEq, tyEqL, tupleSize, asg, asgRecv, sameNullary, subjectPath]

end Pcore.Desc

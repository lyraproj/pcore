import Pcore.Proofs.ObjectAccepts
import Pcore.Proofs.ObjectSchema
import Pcore.Proofs.ObjectInitHash
import Pcore.Proofs.ObjectClosure
import Pcore.Proofs.ObjectFuncs
import Pcore.Proofs.ObjectEquals
import Pcore.Proofs.ObjectLiskov
import Pcore.Generated.ObjectSchema
import Mathlib.Data.List.Perm.Subperm
/-!
# C17 — Object types: constructors, init-hash, equality and inheritance cohere

Property (properties.jsonl): for every object type definition (attributes with defaults and kinds, inheritance, equality
and serialization lists) and all attribute values: positional and named construction yield equal objects, rebuilding an
object from its init-hash yields an equal object, and each attribute reads back the value given or its default.  Objects
compare equal exactly when their declared equality attributes are equal, an instance of a subtype is an instance of every
ancestor and never the reverse, and every definition the declared schema admits is accepted.

All theorems are about the executable model `Pcore.Model.Object` (tied to the code by the correspondence run) and are
unbounded: ANY type `t : OType` (any number of levels, attributes, any equality / serialization lists) satisfying the layout
invariant `WF t`, any value list.  `WF t` (names of the positional attributes distinct, every position from the required
count on optional, no given_or_derived attribute with a declared value) is what `InitFromHash` establishes:
`C17_wf_define` proves it for EVERY definition accepted by `define` over an environment of accepted definitions,
`C17_wf_env` for every type of every accepted list of definitions (any inheritance depth), given only the shape the
driver's universe guarantees (`DefShape`: the keys of `attributes` and of `constants` distinct — hash literals).

Full statement / proved / missing
* `C17_get`            — proved: `get (newPos t vs) a = vs[pos a]` or, beyond the given values, the default
                         (`undef` for given_or_derived);  `C17_get_named` the same for the named constructor;
                         `C17_get_constant`: a constant reads back its value (after the fix "Get of a constant attribute …").
* `C17_pos_named`      — proved: `newNamed t (toHash t vs)` succeeds and is `equals` to `newPos t vs` (both directions), and
                         denotes the same value at EVERY position (not only the ones Equals looks at).
* `C17_inithash`       — proved: `newNamed t (initHash o)` succeeds, is `equals` to `o`, same value at every position.
* `C17_equality`       — proved at FULL strength (after the fix 2607361 "equality_include_type => false was ignored"):
                         `equals o o' = true ↔ (types Equal ∧ ∀ a ∈ eqAttrNames t, get o a = get o' a) ∨ (types differ ∧
                         both say equality_include_type => false ∧ both compare equally many attributes ∧ every equality
                         attribute of `o`'s type is one of `o'`'s type with the same value)`; `equals` never faults
                         (`C17_equals_total`); the relation is symmetric (`C17_equality_symmetric`: the name lists are
                         duplicate-free, so "equally many and included" is "the same set").  `eqAttrNames` = the equality
                         lists declared through the chain, each name once, that have a position (a derived / unlisted
                         attribute is skipped, an explicitly empty list is a declaration), or every positional attribute
                         when none is declared.  Hypothesis `hname`: a name identifies a type within a loader (`tyEq` implies
                         same type).  `C17_include_type_honoured`: the former known finding, replayed in the model.
* `C17_equality_default`, `C17_equality_default_all` — proved: with no equality declared anywhere in the chain the compared
                         attributes are all positional ones, i.e. (without a serialization list) every attribute of the chain
                         that is neither constant nor derived.
* `C17_valid_named`, `C17x_valid`, `C17_typed_define`, `C17_typed_env` — proved: accepted definitions hold well-typed defaults
                         (`TypeTyped`), hence EVERY instance either constructor builds (named, fall-through, parameterized)
                         is `Valid` — the hypothesis of `C17_equality` / `C17_equals_total` / `C17_inithash` is met by every
                         constructed object, not only by positional ones.
* `C17_names_identify`, `C17_equality_env` — proved, END TO END: for any accepted list of definitions (`defineAll [] ds = ok env`,
                         hash-literal shape `DefShape`), any two of its types and any two instances made by either
                         constructor, `Equals` is total and characterised as in `C17_equality` — the hypotheses `WF`, `Valid`
                         and `hname` are all discharged (`C17_wf_env`, `C17_typed_env`, `C17_valid_named`, `C17_names_identify`).
* `C17x_equality_env`  — the same end to end with type parameters (instances of `T` and of `T[p => v]`).
* `C17_laws_env`       — proved, END TO END: for any accepted list of definitions, any of its types and any values — Get = given or
                         default, positional = named, and the init-hash round trip for every instance EITHER constructor makes.
* `C17_subtype`        — proved: an ancestor (any non-empty suffix of the level list) accepts every instance;
                         `C17_subtype_strict`: a type never accepts an instance of a proper ancestor.
* `C17_instance_closure` — proved: among the types of one loader (`defineAll [] ds = .ok env`, any number of definitions)
                         `isInstance env[i] o` for an object of type `env[j]` holds exactly when `i` is reached from `j`
                         by following `parent` (Relation.ReflTransGen of `parentRel ds`); `C17_assignable_closure` the same
                         for `IsAssignable`.  (Interfaces — attribute-less types with functions, matched structurally —
                         are not nominal: see "member functions / interfaces" below, `C17f_*`.)
* `C17_schema`         — proved: every `WellFormedDef` (attributes well-formed on their own, each a fresh name or a proper
                         override; equality names non-constant attributes not already in an inherited equality;
                         serialization names positional attributes, each once, with required never after optional) whose names match
                         MemberNamePattern passes the schema assertion AND the definition proper (`defineChecked`), for ANY
                         member table satisfying the decidable side condition `schemaOKb` (no member listed twice, all
                         optional, the nine members of the universe with the value types `sinst` implements, every key
                         `InitFromHash` reads declared, the pinned source texts of TypeEquality & co.).
                         `C17_schema_table_ok` discharges the side condition by evaluation on the table REGENERATED from
                         types/objecttype.go on every run (second tie: duplicating a member — the defect repaired by
                         54779d2 — breaks this obligation, and the model, which uses the same table, then reproduces the
                         TYPE_MISMATCH: see `schemaBefore`).  `C17_schema_admits`: the Struct instance test
                         (StructType.IsInstance, `structInst`) accepts the init-hash of every definition of the universe;
                         `C17_schema_partial`: the definition proper.  Missing: the text parser (C05) and the general
                         instance relation of Pattern/Variant/Hash types (C02) — `sinst` implements them on the value shapes
                         an object definition holds only.
* `C17_type_inithash`  — every accepted definition re-created from the InitHash of the type it defined (`typeDef`:
                         attribute.initHash / objectType.initHash) is accepted again and is the same type up to the order of
                         the own attributes (`constants` last) — in full since the fix 86875be (a constant writes its
                         value even when it is undef); `C17_type_inithash_partial`: the same under the exclusion that was
                         necessary before the fix (a corollary); `C17_type_inithash_same`: the re-created type has the
                         same layout (`attrInfo`), member lookup, `Get` and init-hashes.  `C17_type_inithash_before_fix`:
                         the fixed finding C17-type-inithash-constant-undef replayed — what the type printed as before the
                         fix (`typeDefBefore`) is rejected with CONSTANT_REQUIRES_VALUE, what it prints as now is accepted.
* type parameters    — inside the model (Model/ObjectParams: `newPosX`, `newNamedX`, `equalsX`; an instance carries the bindings
                         of its type, `T[p => v]`).  `C17x_plain`: on a type without type parameters the X constructors and
                         `Equals` ARE the plain ones (every theorem above applies); `C17x_get`: Get = given or default on any
                         type; `C17x_equality`: the full equality statement with "same type" = same definition and same
                         bindings; `C17x_pos_named` (FULL, a `def`): positional = named on parameterized types — FALSE of
                         model and code (known finding C17-tparam-explicit-default: a NON-undef default given explicitly;
                         negation `C17x_pos_named_explicit_default`); proved part `C17x_pos_named_partial`: … when no
                         parameter's attribute is given its default explicitly, an undef excepted (the undef face,
                         C17-tparam-explicit-undef, is fixed by de95e71: `bindParams` binds no undef,
                         `C17x_pos_named_before_fix` / `C17x_inithash_before_fix` replay it).  `C17x_inithash` (FULL, a `def`): the init-hash round trip
                         on parameterized types, refuted by the same finding (`C17x_inithash_explicit_default`); proved part
                         `C17x_inithash_partial` for every instance whose bindings are those of its own init-hash (`ExtOK`),
                         which every positional construction is (`C17x_extOK_pos`).  Missing: `IsInstance` of a
                         parameterized type `T[p => v]` itself (implementation-only `@tparam`).
* `C17_asg_sound`      — proved: the assignability of the override check (`asg`, the model of GuardedIsAssignable on the alphabet) is
                         sound for `inst`; `C17_override_sound`: in every accepted definition an overriding attribute admits
                         only values the overridden declaration admits (inheritance coheres attribute by attribute).
* `C17_liskov_attributes` — proved, along the WHOLE chain: for every type of an accepted list of definitions and every ancestor
                         (any depth), each attribute of the ancestor is by name an attribute of the subtype, and the
                         subtype's declaration admits only values the ancestor's admits (`C17_chain_env`: the invariant).
* `C17_get_typed`, `C17_get_liskov` — proved: `Get` of a positional attribute of a `Valid` instance is an instance of the attribute's
                         type, hence of the type ANY ancestor declares for that attribute.
* the attribute-type alphabet is Integer, String, Boolean, Float, Any, Undef, Optional[T], NotUndef[T], Variant[A,B], Array[T]
  (`inst`, `asg`, `tyInit` tied to pcore by the ops `tinst` / `asg` on every pair of 85 type expressions).
* member functions / interfaces — inside the model (Model/ObjectFuncs: `isInterface`, `allFuncs`, `memberFn`, `implements`,
                         `isAssignableF`).  `C17f_not_interface`: a receiver that is no interface (every type of a chain
                         without functions) accepts what the nominal `isAssignable` accepts, so the theorems above apply;
                         `C17f_instance_closure`: the closure theorem for such receivers with functions in the universe;
                         `C17f_subtype` (FULL, a `def`): every ancestor, interface or not, accepts the subtype — FALSE of model
                         and code (known finding C17-iface-override-covariant, negation `C17f_iface_override_covariant`);
                         proved part `C17f_subtype_partial`: … unless a function of the interface is re-declared at another
                         type.  Not claimed: "never the reverse" for interfaces (an interface accepts every type that has its
                         functions, descendant or not — that is what an interface is; asserted on the implementation by `@ifacex`).
* missing altogether: annotations (implementation-only stream `@objd`; name clashes between functions and attributes / constants and
  `equality` / `serialization` naming a function ARE modelled: `fnShadow`, `attrShadow`, `memberAttr`, `checkEqualityF`), Go-reflected objects (`reflectedObject`); the Go-implemented object types are checked on the
  implementation only (`@goobj`).
-/
namespace Pcore.Object

/-! ### what `InitFromHash` establishes: every accepted definition satisfies the layout invariant -/

theorem C17_wf_define {env : List OType} {d : Def} {t : OType} (henv : ∀ t' ∈ env, TypeOK t') (hd : DefShape d)
    (h : define env d = .ok t) : TypeOK t ∧ WF t :=
  define_wf henv hd h

/-- any number of definitions, any inheritance depth: every type of the resulting environment is well laid out -/
theorem C17_wf_env {env0 env : List OType} {ds : List Def} (h0 : ∀ t ∈ env0, TypeOK t ∧ WF t)
    (hds : ∀ d ∈ ds, DefShape d) (h : defineAll env0 ds = .ok env) : ∀ t ∈ env, TypeOK t ∧ WF t :=
  defineAll_forall (fun _ d hd _ henv hdef => C17_wf_define (fun t' ht' => (henv t' ht').1) (hds d hd) hdef) h0 h

theorem C17_wf_noSerialization {l : Level} {p : OType} (hok : TypeOK (l :: p)) (hs : l.serialization = none) :
    WF (l :: p) := wf_noSerialization hok hs

/-! ### every definition the declared schema admits is accepted -/

/-- model-level statement of "every definition the schema admits is accepted".  Missing (not modelled): that the parsed
    text / init-hash of such a definition is an instance of the Struct `TypeObjectInitHash` (checked by the
    correspondence run, predicate class `schema-admitted-rejected`). -/
theorem C17_schema_partial {env : List OType} {d : Def} (h : WellFormedDef env d) : ∃ t, define env d = .ok t :=
  define_succeeds h

/-! ### … and its init-hash is an instance of the declared schema `TypeObjectInitHash` (regenerated table) -/

/-- obligation over the regenerated member table of `TypeObjectInitHash` (types/objecttype.go): this is what a change of
    the schema breaks (e.g. listing `equality` twice, the defect repaired by 54779d2) -/
theorem C17_schema_table_ok : schemaOKb Pcore.Generated.objectSchema = true := by
  -- the source texts are the same literals; the conditions on the member table are evaluated
  have htd : Pcore.Generated.objectSchema.typeDefs = expectedTypeDefs := rfl
  unfold schemaOKb
  rw [htd, beq_self_eq_true, Bool.and_true]
  decide +kernel

/-- for ANY member table satisfying the side condition, the init-hash of every definition of the universe — as parsed
    text (no `name`/`parent` entry) or as a complete init-hash — is an instance of the Struct, whatever the definition
    declares (StructType.IsInstance modelled by `structInst`) -/
theorem C17_schema_admits (s : Schema) (hs : schemaOKb s = true) (d : Def) (hd : DefNamesValid d)
    (name : Option String) (hn : ∀ n, name = some n → typeName n = true) (pk : Bool) :
    structInst s.members (defHash name pk d) = true :=
  structInst_defHash s hs d hd name hn pk

/-- every definition the declared schema admits is accepted: a well-formed definition passes the schema assertion (for any
    table satisfying the side condition) and the definition proper.  Instantiated on the regenerated table below. -/
theorem C17_schema (s : Schema) (hs : schemaOKb s = true) {env : List OType} {d : Def} (h : WellFormedDef env d)
    (hd : DefNamesValid d) : ∃ t, defineChecked s.members env d = .ok t := by
  unfold defineChecked
  rw [C17_schema_admits s hs d hd none (by intro n hn; cases hn) d.parent.isSome]
  exact C17_schema_partial h

theorem C17_schema_impl {env : List OType} {d : Def} (h : WellFormedDef env d) (hd : DefNamesValid d) :
    ∃ t, defineChecked Pcore.Generated.objectSchema.members env d = .ok t :=
  C17_schema _ C17_schema_table_ok h hd

/-- the table before the fix 54779d2 (`equality` listed twice): the side condition is refuted and the model reproduces the
    defect — the (well-formed) definition `{equality => []}` is rejected with TYPE_MISMATCH -/
def schemaBefore : Schema := { Pcore.Generated.objectSchema with
  members := Pcore.Generated.objectSchema.members ++ [{ name := "equality", optional := true, ty := .equality }] }
example : schemaOKb schemaBefore = false := by decide
example : defineChecked schemaBefore.members []
    { parent := none, attrs := [], equality := .many [], includeType := none, serialization := none } =
    .error .typeMismatch := by decide
example : ∃ t, defineChecked Pcore.Generated.objectSchema.members []
    { parent := none, attrs := [], equality := .many [], includeType := none, serialization := none } = .ok t :=
  ⟨_, rfl⟩

/-! ### each attribute reads back the value given or its default -/

theorem C17_get {t : OType} {vs : List Val} {o : Obj} (hw : WF t) (hn : newPos t vs = .ok o)
    {i : Nat} {a : Attr} (ha : (posAttrs t)[i]? = some a) :
    get o a.name = .ok (some ((vs[i]?).getD a.implicitT)) := by
  obtain ⟨rfl, hv⟩ := newPos_ok hn
  exact get_eq hw hv.req ha

/-- (`memberAttr`: the member `Member(n)` finds is the attribute `a` — the nearest attribute of that name, not hidden by a
    function of the same name at a nearer level; without functions of that name this is `findAttr`) -/
theorem C17_get_constant {o : Obj} {n : String} {a : Attr} (hf : memberAttr o.typ n = some a) (hk : a.kind = .constant)
    (hp : ∀ b ∈ posAttrs o.typ, b.name ≠ n) : get o n = .ok a.value := by
  unfold get
  simp [nameToPos_none.mpr hp, hf, hk]

theorem memberAttr_eq_findAttr {t : OType} {n : String} (h : ∀ l ∈ t, l.funcs.any (fun f => f.name == n) = false) :
    memberAttr t n = findAttr t n := by
  induction t with
  | nil => rfl
  | cons l p ih =>
    unfold memberAttr findAttr
    cases l.attrs.find? (fun a => a.name == n) with
    | some a => rfl
    | none =>
      simp only [h l (by simp), Bool.false_eq_true, if_false]
      exact ih (fun x hx => h x (by simp [hx]))

/-! ### positional and named construction yield equal objects -/

theorem C17_pos_named {t : OType} {vs : List Val} {o : Obj} (h : Val) (hw : WF t) (hn : newPos t vs = .ok o) :
    ∃ o', newNamed t (toHash (posAttrs t) vs) h = .ok o' ∧ o'.typ = t ∧
      equals o o' = .ok true ∧ equals o' o = .ok true ∧
      den (posAttrs t) o'.values = den (posAttrs t) o.values := by
  obtain ⟨rfl, hv⟩ := newPos_ok hn
  exact named_of_spells h hw hv (spells_toHash hw hv)

/-- the named constructor: every positional attribute reads back the value of its key, or its default.  `hm`: the hash is
    an instance of the init Struct; `hc`: every given value is an instance of its attribute's OWN type (the init Struct
    writes `NotUndef[T]` as `Optional[T]` — `typeAndInit` —, so it admits an undef that the attribute type rejects; the named
    creator then fails to coerce it: `C17_named_notundef_undef`).  For attribute types without `NotUndef` the second
    hypothesis follows from the first (`coerceOk_of_plain`, `C17_get_named_plain`). -/
theorem C17_get_named {t : OType} {es : List (String × Val)} {h : Val} (hw : WF t)
    (hm : namedMatches (attrInfo t) es = true) (hc : coerceOk (attrInfo t) es = true)
    {i : Nat} {a : Attr} (ha : (posAttrs t)[i]? = some a) :
    ∃ o, newNamed t es h = .ok o ∧ get o a.name = .ok (some ((es.lookup a.name).getD a.implicitT)) := by
  have hs := spells_filled hm hc
  refine ⟨_, newNamed_of_spells hs h, ?_⟩
  rw [get_pos hw (stored_length hs.length_le) ha, den_stored hw hs.length_le, ← hs.values, filled, List.getElem?_map, ha]
  rfl

/-- attribute types in which `NotUndef` does not occur: `typeAndInit` leaves them as they are -/
def Ty.plain : Ty → Bool
  | .opt t => t.plain
  | .notUndef _ => false
  | .variant a b => a.plain && b.plain
  | .array t => t.plain
  | _ => true

theorem tyInit_plain {t : Ty} (h : t.plain = true) : tyInit t = t := by
  induction t with
  | opt t ih => simp only [Ty.plain] at h; simp [tyInit, ih h]
  | notUndef t _ => simp [Ty.plain] at h
  | variant a b iha ihb =>
    simp only [Ty.plain, Bool.and_eq_true] at h
    simp [tyInit, iha h.1, ihb h.2]
  | array t ih => simp only [Ty.plain] at h; simp [tyInit, ih h]
  | _ => rfl

/-- for attribute types without `NotUndef` the init Struct admits exactly what the attribute types admit -/
theorem coerceOk_of_plain {t : OType} {es : List (String × Val)} (hw : WF t)
    (hp : ∀ a ∈ posAttrs t, a.ty.plain = true) (hm : namedMatches (attrInfo t) es = true) :
    coerceOk (attrInfo t) es = true := by
  refine coerceOk_iff.mpr fun a ha v hl => ?_
  obtain ⟨b, hb, hi⟩ := (namedMatches_iff.mp hm).1 _ (mem_of_lookup hl)
  obtain rfl : b = a := Option.some.inj (hb.symm.trans ((find_key_iff hw.nodup).mpr ⟨ha, rfl⟩))
  exact tyInit_plain (hp b ha) ▸ hi

/-- `C17_get_named` for attribute types without `NotUndef`: the second hypothesis is not needed -/
theorem C17_get_named_plain {t : OType} {es : List (String × Val)} {h : Val} (hw : WF t)
    (hp : ∀ a ∈ posAttrs t, a.ty.plain = true) (hm : namedMatches (attrInfo t) es = true)
    {i : Nat} {a : Attr} (ha : (posAttrs t)[i]? = some a) :
    ∃ o, newNamed t es h = .ok o ∧ get o a.name = .ok (some ((es.lookup a.name).getD a.implicitT)) :=
  C17_get_named hw hm (coerceOk_of_plain hw hp hm) ha

def lvNU : Level :=
  { id := 0, attrs := [{ name := "a", ty := .notUndef .int, kind := .normal, value := none }], equality := none,
    includeType := true, serialization := none }

/-- the quirk the second hypothesis of `C17_get_named` is about, replayed in the model: for an attribute of type
    `NotUndef[Integer]` the init Struct of the named constructor says `Optional[Integer]` (objecttype.go typeAndInit), so
    `new(T, {a => undef})` passes the dispatcher and fails in the creator (INSTANCE_DOES_NOT_RESPOND), while the positional
    `new(T, undef)` is refused by the dispatcher (ILLEGAL_ARGUMENTS).  Both are refused: no ill-typed object exists. -/
theorem C17_named_notundef_undef :
    namedMatches (attrInfo [lvNU]) [("a", .undef)] = true ∧
    newNamed [lvNU] [("a", .undef)] (.hash "") = .error .instanceDoesNotRespond ∧
    newPos [lvNU] [.undef] = .error .illegalArguments := by
  refine ⟨by decide, by decide, by decide⟩

/-! ### rebuilding an object from its init-hash yields an equal object -/

theorem C17_inithash {o : Obj} (h : Val) (hw : WF o.typ) (hv : Valid o) :
    ∃ o', newNamed o.typ (initHash o) h = .ok o' ∧ o'.typ = o.typ ∧
      equals o' o = .ok true ∧ equals o o' = .ok true ∧
      den (posAttrs o.typ) o'.values = den (posAttrs o.typ) o.values := by
  obtain ⟨o', h1, h2, h3, h4, h5⟩ := named_of_spells h hw hv (spells_initHash hw hv)
  exact ⟨o', h1, h2, h4, h3, h5⟩

/-! ### objects compare equal exactly when their declared equality attributes are equal -/

theorem C17_equals_total {o o' : Obj} (hw : WF o.typ) (hw' : WF o'.typ) (hv : Valid o) (hv' : Valid o')
    (hname : tyEq o.typ o'.typ = true → o'.typ = o.typ) : ∃ b, equals o o' = .ok b := by
  obtain ⟨t, vs⟩ := o
  obtain ⟨t', vs'⟩ := o'
  simp only at hw hw' hv hv' hname ⊢
  by_cases ht : tyEq t t' = true
  · have := hname ht
    subst this
    exact ⟨_, equals_same vs vs' ▸ equalsWith_den hw hv.req hv'.req⟩
  · unfold equals
    rw [Bool.eq_false_iff.mpr ht]
    exact ⟨_, equalsWith_cross hw hw' hv.req hv'.req⟩

/-- FULL statement (after the fix "equality_include_type => false was ignored by Equals").  Objects compare equal exactly
    when their equality attributes are equal: for one type by `equalityWith_same`; across types only when BOTH types say
    `equality_include_type => false` and compare the same attributes.  `hname`: a name identifies a type within a loader. -/
theorem C17_equality {o o' : Obj} (hw : WF o.typ) (hw' : WF o'.typ) (hv : Valid o) (hv' : Valid o')
    (hname : tyEq o.typ o'.typ = true → o'.typ = o.typ) :
    equals o o' = .ok true ↔
      ((tyEq o.typ o'.typ = true ∧ ∀ n ∈ eqAttrNames o.typ, get o n = get o' n) ∨
       (tyEq o.typ o'.typ = false ∧ includesType o.typ = false ∧ includesType o'.typ = false ∧
          (eqAttrNames o.typ).length = (eqAttrNames o'.typ).length ∧
          ∀ n ∈ eqAttrNames o.typ, n ∈ eqAttrNames o'.typ ∧ get o n = get o' n)) :=
  equalityWith _ hw hw' hv hv' hname

/-- the compared name lists are duplicate-free, so "equally many and every one of the receiver's is one of the other's"
    says that both types compare the same SET of attributes: the relation is symmetric -/
theorem C17_equality_symmetric {o o' : Obj} (hw : WF o.typ) (hw' : WF o'.typ) (hv : Valid o) (hv' : Valid o')
    (hname : tyEq o.typ o'.typ = true → o'.typ = o.typ) (hname' : tyEq o'.typ o.typ = true → o.typ = o'.typ)
    (hsym : tyEq o.typ o'.typ = tyEq o'.typ o.typ) (h : equals o o' = .ok true) : equals o' o = .ok true := by
  rw [C17_equality hw hw' hv hv' hname] at h
  rw [C17_equality hw' hw hv' hv hname']
  rcases h with ⟨ht, hall⟩ | ⟨ht, h1, h2, hl, hall⟩
  · left
    have hT := hname ht
    refine ⟨hsym ▸ ht, ?_⟩
    intro n hn
    rw [hT] at hn
    exact (hall n hn).symm
  · right
    refine ⟨hsym ▸ ht, h2, h1, hl.symm, ?_⟩
    -- an injective map between duplicate-free lists of equal length is onto
    have hsub : ∀ n ∈ eqAttrNames o.typ, n ∈ eqAttrNames o'.typ := fun n hn => (hall n hn).1
    have honto : ∀ n ∈ eqAttrNames o'.typ, n ∈ eqAttrNames o.typ := by
      have hnd := eqAttrNames_nodup hw.nodup
      have hnd' := eqAttrNames_nodup hw'.nodup
      have hsubl : (eqAttrNames o.typ).Subperm (eqAttrNames o'.typ) := hnd.subperm (fun n hn => hsub n hn)
      have hperm := hsubl.perm_of_length_le (by omega)
      intro n hn
      exact hperm.mem_iff.mpr hn
    intro n hn
    have hn' := honto n hn
    exact ⟨hn', ((hall n hn').2).symm⟩

def lvA (id : Nat) : Level :=
  { id := id, attrs := [{ name := "a", ty := .int, kind := .normal, value := none }], equality := none,
    includeType := false, serialization := none }

/-- the former known finding C17-equality-include-type, now repaired: two identically shaped types (different names) with
    `equality_include_type => false` and equal attribute values are Equal; with a different value they are not -/
theorem C17_include_type_honoured :
    equals { typ := [lvA 0], values := [.int 1] } { typ := [lvA 1], values := [.int 1] } = .ok true ∧
    equals { typ := [lvA 0], values := [.int 1] } { typ := [lvA 1], values := [.int 2] } = .ok false := by
  constructor <;> rfl

/-- "all non-constant attributes when no list is declared anywhere in the chain": with no `equality` declared by the type or
    any ancestor, `Equals` compares EVERY positional attribute — and without a `serialization` list those are exactly the
    attributes of the chain (an overriding one in place of the overridden) that are neither constant nor derived -/
theorem C17_equality_default {t : OType} (hd : equalityDeclared t = false) :
    eqAttrNames t = (posAttrs t).map (·.name) := by
  simp [eqAttrNames, hd]

theorem C17_equality_default_all {l : Level} {p : OType} (hs : l.serialization = none) (n : String) :
    n ∈ (posAttrs (l :: p)).map (·.name) ↔ ∃ a ∈ eachAttribute (l :: p), a.settable = true ∧ a.name = n := by
  simp only [List.mem_map, (posAttrs_perm hs).mem_iff, List.mem_filter, and_assoc]

example : equalityDeclared [lvA 0] = false ∧ eqAttrNames [lvA 0] = ["a"] := ⟨by decide, by decide⟩

/-! ### an instance of a subtype is an instance of every ancestor and never the reverse -/

/-- `p` is `t` or an ancestor of `t` (a non-empty suffix of its level list): every instance of `t` is an instance of `p` -/
theorem C17_subtype {p t : OType} (hp : p ≠ []) (h : p <:+ t) (o : Obj) (ho : o.typ = t) : isInstance p o = true := by
  unfold isInstance; rw [ho]; exact isAssignable_suffix hp h

/-- never the reverse: an instance of a proper ancestor is not an instance of the subtype -/
theorem C17_subtype_strict {p t : OType} (h : p <:+ t) (hne : p ≠ t) (o : Obj) (ho : o.typ = p) :
    isInstance t o = false := by
  unfold isInstance; rw [ho]
  cases hc : isAssignable t p with
  | false => rfl
  | true =>
    exfalso
    have hl := isAssignable_length hc
    have hle := h.length_le
    exact hne (h.eq_of_length (by omega))

/-- instance-of is the REFLEXIVE-TRANSITIVE CLOSURE of `parent`: among the types of one loader (ANY accepted list of
    definitions, any depth, forks and unrelated roots included) an object of type `j` is an instance of type `i` exactly
    when `i` is reached from `j` by following the declared parent zero or more times — every ancestor accepts, and
    nothing else does (no descendant, no sibling, no stranger).  `parentRel ds p j`: definition `j` names the earlier
    definition `p` as its parent. -/
theorem C17_instance_closure {ds : List Def} {env : List OType} (h : defineAll [] ds = .ok env) {i j : Nat}
    {ti tj : OType} (hi : env[i]? = some ti) (hj : env[j]? = some tj) (o : Obj) (ho : o.typ = tj) :
    isInstance ti o = true ↔ Relation.ReflTransGen (parentRel ds) i j := by
  unfold isInstance
  rw [ho]
  exact isAssignable_closure (goodEnv_of_defineAll h) hi j tj hj

/-- the same for types: `IsAssignable` -/
theorem C17_assignable_closure {ds : List Def} {env : List OType} (h : defineAll [] ds = .ok env) {i j : Nat}
    {ti tj : OType} (hi : env[i]? = some ti) (hj : env[j]? = some tj) :
    isAssignable ti tj = true ↔ Relation.ReflTransGen (parentRel ds) i j :=
  isAssignable_closure (goodEnv_of_defineAll h) hi j tj hj

/-! ### member functions and INTERFACES (Model/ObjectFuncs) -/

/-- a type that is no interface — in particular every type of a chain that declares no function
    (`isInterface_of_noFuncs`) — accepts exactly what the nominal `IsAssignable` accepts: every theorem about `isAssignable` /
    `isInstance` above is a theorem about the instance-of the driver computes (`isInstanceF`) -/
theorem C17f_not_interface {t : OType} (h : isInterface t = false) (o : Obj) (ho : o.typ ≠ []) :
    isInstanceF t o = isInstance t o := by
  unfold isInstanceF isInstance
  exact isAssignableF_of_not_interface h ho

/-- the closure theorem with functions in the universe: for a receiver that is no interface, instance-of is the
    reflexive-transitive closure of `parent` -/
theorem C17f_instance_closure {ds : List Def} {env : List OType} (h : defineAll [] ds = .ok env) {i j : Nat}
    {ti tj : OType} (hi : env[i]? = some ti) (hj : env[j]? = some tj) (hni : isInterface ti = false)
    (o : Obj) (ho : o.typ = tj) :
    isInstanceF ti o = true ↔ Relation.ReflTransGen (parentRel ds) i j := by
  obtain ⟨l, r, htj, -⟩ := good_head (goodEnv_of_defineAll h) hj
  rw [C17f_not_interface hni o (by rw [ho, htj]; simp)]
  exact C17_instance_closure h hi hj o ho

/-- FULL statement with interfaces: every ancestor — interface or not — accepts the subtype.  FALSE of model and code: the
    known finding C17-iface-override-covariant (`C17f_iface_override_covariant`). -/
def C17f_subtype : Prop :=
  ∀ (p : OType) (pre : List Level), p ≠ [] → (∀ l ∈ pre ++ p, (l.funcs.map (·.name)).Nodup) →
    isAssignableF p (pre ++ p) = true

/-- proved part: an ancestor that is no interface accepts every subtype; an INTERFACE ancestor accepts a subtype none of
    whose additional levels declares an attribute named like one of the interface's functions (impossible in the universe)
    or re-declares one of them at ANOTHER type.  Missing: exactly the finding (an override at a narrower type). -/
theorem C17f_subtype_partial {p : OType} {pre : List Level} (hp : p ≠ [])
    (hnd : ∀ l ∈ p, (l.funcs.map (·.name)).Nodup)
    (hpre : isInterface p = true → ∀ l ∈ pre, ∀ f ∈ allFuncs p, l.attrs.any (fun a => a.name == f.name) = false ∧
      ∀ g ∈ l.funcs, g.name = f.name → g.ret = f.ret) :
    isAssignableF p (pre ++ p) = true := by
  have hne : pre ++ p ≠ [] := by simp [hp]
  by_cases hi : isInterface p = true
  · unfold isAssignableF
    cases hpp : pre ++ p with
    | nil => exact absurd hpp hne
    | cons l q =>
      simp only [hi, if_true]
      rw [← hpp]
      exact implements_suffix (isInterface_attrs hi) hnd pre (hpre hi)
  · have hf : isInterface p = false := by simpa using hi
    rw [isAssignableF_of_not_interface hf hne]
    exact isAssignable_suffix hp ⟨pre, rfl⟩

/-- every type accepts itself, interface or not -/
theorem C17f_reflexive {t : OType} (ht : t ≠ []) (hnd : ∀ l ∈ t, (l.funcs.map (·.name)).Nodup) :
    isAssignableF t t = true := by
  have := C17f_subtype_partial (p := t) (pre := []) ht hnd (fun _ l hl => by simp at hl)
  simpa using this

def lvI : Level :=
  { id := 0, attrs := [], equality := none, includeType := true, serialization := none,
    funcs := [{ name := "fx", ret := .any }] }
def lvC : Level :=
  { id := 1, attrs := [], equality := none, includeType := true, serialization := none,
    funcs := [{ name := "fx", ret := .int, override := true }] }

/-- the known finding C17-iface-override-covariant, replayed in the model: `I = {functions => {fx => Callable[[0,0],Any]}}` is an
    interface, its subtype `C` overrides `fx` at `Callable[[0,0],Integer]` (the override check admits it: `asg any int`), and
    `I` does not accept `C` -/
theorem C17f_iface_override_covariant : ¬ C17f_subtype := by
  intro h
  have := h [lvI] [lvC] (by simp) (by decide)
  revert this
  decide

/-- hypotheses of `C17f_subtype_partial` / `C17f_instance_closure`: the definition of `C` is ACCEPTED on top of `I` (the
    override is proper), `I` is an interface, a subtype that re-declares `fx` at the same type is accepted by it, and a
    type with an attribute is no interface -/
def defC : Def :=
  { parent := some 0, attrs := [], equality := .absent, includeType := none, serialization := none,
    funcs := [{ name := "fx", ret := .int, override := true }] }
def lvCsame : Level := { lvC with funcs := [{ name := "fx", ret := .any, override := true }] }
example : define [[lvI]] defC = .ok [lvC, lvI] := by decide
example : isInterface [lvI] = true ∧ isInterface [lvC, lvI] = true ∧ isInterface [lvA 0] = false ∧
    isAssignableF [lvI] [lvCsame, lvI] = true := by decide

/-! ### inheritance coheres at the attribute level: an override may only narrow, at one level and hence along the whole chain -/

/-- the assignability the override check uses (`asg`: types.go GuardedIsAssignable with the `IsAssignable` methods of the
    alphabet's types) is SOUND for the instance relation: every instance of `b` is an instance of `a` -/
theorem C17_asg_sound {a b : Ty} (h : asg a b = true) {v : Val} (hv : inst b v = true) : inst a v = true :=
  asg_sound h hv

/-- every attribute of an accepted definition that overrides an inherited one admits only values the inherited
    declaration admits: an instance of the subtype, read through an ancestor's declaration of the attribute, is well-typed
    (the value of an overriding attribute — given, default or constant — is an instance of the overridden attribute's type) -/
theorem C17_override_sound {env : List OType} {d : Def} {l : Level} {p : OType} (h : define env d = .ok (l :: p))
    {a pa : Attr} (ha : a ∈ l.attrs) (hf : findAttr p a.name = some pa) {v : Val} (hv : inst a.ty v = true) :
    inst pa.ty v = true :=
  define_override_sound h a ha pa hf v hv

/-- hypotheses of `C17_asg_sound` / `C17_override_sound`: narrowing overrides the check admits (and one it refuses) -/
example : asg (.opt .int) .int = true ∧ asg (.variant .int .undefT) (.opt .int) = true ∧
    asg (.opt (.array (.opt .int))) (.array (.notUndef .int)) = true ∧ asg (.notUndef .any) (.opt .int) = false ∧
    asg .int (.variant .int .str) = false := by decide
def lvOptA : Level :=
  { id := 0, attrs := [{ name := "a", ty := .opt .int, kind := .normal, value := some .undef }],
    equality := none, includeType := true, serialization := none }
def defNarrowA : Def :=
  { parent := some 0, attrs := [{ name := "a", ty := .int, kind := .normal, dflt := some (.int 3), override := true }],
    equality := .absent, includeType := none, serialization := none }
example : ∃ l p, define [[lvOptA]] defNarrowA = .ok (l :: p) ∧
    ∃ a ∈ l.attrs, ∃ pa, findAttr p a.name = some pa ∧ pa.ty = .opt .int ∧ a.ty = .int :=
  ⟨_, _, rfl, _, List.mem_cons_self, _, rfl, rfl, rfl⟩

/-- every type of an accepted list of definitions satisfies the chain invariant (distinct names at every level, every
    override admits only what it overrides admits) -/
theorem C17_chain_env {env0 env : List OType} {ds : List Def} (h0 : ∀ t ∈ env0, ChainOK t)
    (hds : ∀ d ∈ ds, DefShape d) (h : defineAll env0 ds = .ok env) : ∀ t ∈ env, ChainOK t :=
  defineAll_forall (fun _ d hd _ henv hdef => define_chainOK henv (hds d hd).names (hds d hd).constNames hdef) h0 h

/-- INHERITANCE COHERES ATTRIBUTE BY ATTRIBUTE, along the whole chain: for every type `t` of an accepted list of definitions
    and every ancestor `p` of `t` (any depth), every attribute of `p` is — by name — an attribute of `t` (the inherited one,
    or the one that overrides it, possibly several levels down), and every value `t`'s declaration of it admits, `p`'s
    declaration admits.  An instance of a subtype, read through ANY ancestor's declarations, is well-typed. -/
theorem C17_liskov_attributes {ds : List Def} {env : List OType} (h : defineAll [] ds = .ok env)
    (hds : ∀ d ∈ ds, DefShape d) {t p : OType} (ht : t ∈ env) (hp : p <:+ t) :
    ∀ a ∈ eachAttribute p, ∃ a' ∈ eachAttribute t, a'.name = a.name ∧ ∀ v, inst a'.ty v = true → inst a.ty v = true := by
  obtain ⟨pre, rfl⟩ := hp
  exact chain_sound pre (C17_chain_env (env0 := []) (by simp) hds h _ ht)

/-! ### instances of types that declare TYPE PARAMETERS (Model/ObjectParams) -/

/-- on a type WITHOUT type parameters (none declared along the chain) the constructors and `Equals` of Model/ObjectParams
    are those of Model/Object: every theorem above applies to the instances the driver builds -/
theorem C17x_plain {t : OType} (hp : isParameterized t = false) :
    (∀ vs, newPosX t vs = (match newPos t vs with | .ok o => .ok { obj := o, ext := [] } | .error c => .error c)) ∧
    (∀ es h, newNamedX t es h =
      (match newNamed t es h with | .ok o => .ok { obj := o, ext := [] } | .error c => .error c)) ∧
    (∀ o o' : Obj, equalsX { obj := o, ext := [] } { obj := o', ext := [] } = equals o o') := by
  have h1 : ∀ vs, newPosX t vs =
      (match newPos t vs with | .ok o => .ok { obj := o, ext := [] } | .error c => .error c) := by
    intro vs
    unfold newPosX newPos
    by_cases hm : posMatches (attrInfo t) vs = true <;> simp [hm, hp]
  refine ⟨h1, ?_, ?_⟩
  · intro es h
    unfold newNamedX newNamed
    by_cases hm : namedMatches (attrInfo t) es = true
    · by_cases hc : coerceOk (attrInfo t) es = true
      · simp only [hm, hc, if_true]
        cases positionalFromHash (attrInfo t) es with
        | error c => rfl
        | ok va => simp [bindParams_plain hp]
      · simp [hm, hc]
    · simp only [hm, Bool.false_eq_true, if_false]
      exact h1 _
  · intro o o'
    simp [equalsX, equals, sameTypeX]

/-- no type parameter's attribute is given (positionally) the value that is its default — unless that value is undef
    (since the fix de95e71 an undef binds nothing, given or left out) -/
def NoParamDefault (t : OType) (vs : List Val) : Prop :=
  ∀ q ∈ typeParams t, ∀ (i : Nat) (a : Attr) (v : Val),
    (posAttrs t)[i]? = some a → a.name = q.1 → vs[i]? = some v → skips a v = false ∨ v = .undef

theorem bound_toHash {t : OType} {vs : List Val} (hw : WF t) (hnd : NoParamDefault t vs) :
    ∀ q ∈ typeParams t, bound (toHash (posAttrs t) vs) q.1 = bound (makeValueHash (posAttrs t) vs) q.1 := by
  intro q hq
  unfold bound
  rw [toHash_eq, mvh_eq]
  by_cases hex : ∃ (i : Nat) (a : Attr), (posAttrs t)[i]? = some a ∧ a.name = q.1
  · obtain ⟨i, a, hi, han⟩ := hex
    rw [← han, lookup_hashOf hw.nodup hi, lookup_hashOf hw.nodup hi]
    cases hvi : vs[i]? with
    | none => rfl
    | some v =>
      rcases hnd q hq i a v hi han hvi with hs | rfl
      · simp [hs]
      · cases hs : skips a .undef <;> simp [hs, Option.filter]
  · have hno : ∀ a ∈ posAttrs t, a.name ≠ q.1 := fun a ha han =>
      let ⟨i, hi⟩ := List.getElem?_of_mem ha
      hex ⟨i, a, hi, han⟩
    rw [lookup_hashOf_none hno, lookup_hashOf_none hno]

/-- FULL statement for parameterized types: positional and named construction yield Equal objects (of the same
    parameterized type).  FALSE of model and code — known finding C17-tparam-explicit-default
    (`C17x_pos_named_explicit_default`; its undef face, C17-tparam-explicit-undef, is fixed by de95e71:
    `C17x_pos_named_before_fix`). -/
def C17x_pos_named : Prop :=
  ∀ (t : OType) (vs : List Val) (o : PObj) (h : Val), WF t → newPosX t vs = .ok o →
    ∃ o', newNamedX t (toHash (posAttrs t) vs) h = .ok o' ∧ equalsX o o' = .ok true ∧ equalsX o' o = .ok true

/-- proved part: … when no type parameter's attribute is given its default explicitly — an undef excepted, since the fix
    de95e71 (`NoParamDefault`; trivially true of a type without type parameters).  Then the named twin exists, has the same bindings (the same parameterized type),
    denotes the same value at every position and is Equal in both directions.  Missing: exactly the finding. -/
theorem C17x_pos_named_partial {t : OType} {vs : List Val} {o : PObj} (h : Val) (hw : WF t)
    (hn : newPosX t vs = .ok o) (hnd : NoParamDefault t vs) :
    ∃ o', newNamedX t (toHash (posAttrs t) vs) h = .ok o' ∧ equalsX o o' = .ok true ∧ equalsX o' o = .ok true ∧
      den (posAttrs t) o'.obj.values = den (posAttrs t) o.obj.values ∧ o'.ext = o.ext := by
  obtain ⟨hv, hcase⟩ := newPosX_ok hw hn
  obtain ⟨va, ext, rfl, hreq, hden⟩ := newPosX_den hw hn
  refine namedX_of_spells h hw (spells_toHash hw hv) hreq hden ?_
  rcases hcase with ⟨heq, hnp⟩ | heq <;> cases heq
  · rcases hnp with rfl | hnp
    · rw [toHash_eq, hashOf_nil]
      exact bindParams_nil _ _
    · exact bindParams_plain hnp _ _
  · exact bindParams_congr (bound_toHash hw hnd) rfl

/-- objects compare equal exactly when their equality attributes are equal — instances of parameterized types included:
    "the same type" is the same definition AND the same bindings of the type parameters (`sameTypeX`) -/
theorem C17x_equality {o o' : PObj} (hw : WF o.obj.typ) (hw' : WF o'.obj.typ) (hv : Valid o.obj) (hv' : Valid o'.obj)
    (hname : tyEq o.obj.typ o'.obj.typ = true → o'.obj.typ = o.obj.typ) :
    equalsX o o' = .ok true ↔
      ((sameTypeX o o' = true ∧ ∀ n ∈ eqAttrNames o.obj.typ, get o.obj n = get o'.obj n) ∨
       (sameTypeX o o' = false ∧ includesType o.obj.typ = false ∧ includesType o'.obj.typ = false ∧
          (eqAttrNames o.obj.typ).length = (eqAttrNames o'.obj.typ).length ∧
          ∀ n ∈ eqAttrNames o.obj.typ, n ∈ eqAttrNames o'.obj.typ ∧ get o.obj n = get o'.obj n)) :=
  equalityWith _ hw hw' hv hv' (fun hs => hname (Bool.and_eq_true_iff.mp hs).1)

def lvP : Level :=
  { id := 0, attrs := [{ name := "a", ty := .int, kind := .normal, value := none },
                       { name := "p", ty := .opt .int, kind := .normal, value := some .undef }],
    equality := none, includeType := true, serialization := none, params := [("p", .int)] }

theorem wf_lvP : WF [lvP] :=
  wf_single rfl (by decide) (by decide)

/-- on `lvP` only the second position belongs to a type parameter (`p`, an `Optional[Integer]` with the implicit default undef) -/
theorem noParamDefault_lvP {x v : Val}
    (h : skips { name := "p", ty := .opt .int, kind := .normal, value := some .undef } v = false ∨ v = .undef) :
    NoParamDefault [lvP] [x, v] := by
  intro q hq i a w hi han hw
  have hp : posAttrs [lvP] = lvP.attrs := rfl
  simp only [typeParams, lvP, List.nil_append, List.mem_cons, List.not_mem_nil, or_false] at hq
  subst hq
  rw [hp] at hi
  rcases i with _ | _ | i
  · simp [lvP] at hi; subst hi; simp at han
  · simp [lvP] at hi hw; subst hi; subst hw; exact h
  · simp [lvP] at hi

/-- `T3 = {type_parameters => {p => Integer}, a => Integer, p => {type => Integer, value => 3}}` -/
def lvP3 : Level :=
  { id := 0, attrs := [{ name := "a", ty := .int, kind := .normal, value := none },
                       { name := "p", ty := .int, kind := .normal, value := some (.int 3) }],
    equality := none, includeType := true, serialization := none, params := [("p", .int)] }

theorem wf_lvP3 : WF [lvP3] :=
  wf_single rfl (by decide) (by decide)

/-- the known finding C17-tparam-explicit-default (what the fix de95e71 left), replayed in the model: `new(T3, 1, 3)` is a
    `T3` (makeValueHash leaves the value equal to the default out), its named twin `new(T3, {a => 1, p => 3})` a
    `T3[p => 3]`, and the two are not Equal -/
theorem C17x_pos_named_explicit_default : ¬ C17x_pos_named := by
  intro h
  have h1 : newPosX [lvP3] [.int 1, .int 3] = .ok { obj := { typ := [lvP3], values := [.int 1] }, ext := [] } := by decide
  obtain ⟨o', hn, he, -⟩ := h [lvP3] [.int 1, .int 3] _ (.hash "") wf_lvP3 h1
  have h2 : newNamedX [lvP3] (toHash (posAttrs [lvP3]) [.int 1, .int 3]) (.hash "") =
      .ok { obj := { typ := [lvP3], values := [.int 1] }, ext := [("p", .int 3)] } := by decide
  rw [h2] at hn
  cases hn
  have h3 : equalsX { obj := { typ := [lvP3], values := [.int 1] }, ext := [] }
      { obj := { typ := [lvP3], values := [.int 1] }, ext := [("p", .int 3)] } = .ok false := by decide
  rw [h3] at he
  cases he

/-- the finding C17-tparam-explicit-undef (fixed by de95e71), replayed: `T = {type_parameters => {p => Integer}, a => Integer,
    p => Optional[Integer]}`; `new(T, 1, undef)` is a `T`; BEFORE the fix the bindings of its named twin
    `new(T, {a => 1, p => undef})` were `p => undef` (`bindParamsBefore`: a `T[p => undef]`, not Equal); now the twin is a
    `T` too and Equal -/
theorem C17x_pos_named_before_fix :
    newPosX [lvP] [.int 1, .undef] = .ok { obj := { typ := [lvP], values := [.int 1] }, ext := [] } ∧
    bindParamsBefore [lvP] (toHash (posAttrs [lvP]) [.int 1, .undef]) [.int 1] = [("p", .undef)] ∧
    newNamedX [lvP] (toHash (posAttrs [lvP]) [.int 1, .undef]) (.hash "") =
      .ok { obj := { typ := [lvP], values := [.int 1] }, ext := [] } ∧
    NoParamDefault [lvP] [.int 1, .undef] := by
  exact ⟨by decide, by decide, by decide, noParamDefault_lvP (Or.inr rfl)⟩

/-- hypotheses of `C17x_pos_named_partial` / `C17x_get` / `C17x_equality` on a parameterized type: a construction that BINDS
    the parameter (`new(T, 1, 5)` is a `T[p => 5]`), its named twin, and an instance of another parameterized type of the
    same definition (`T[p => 6]`): not Equal, although no equality attribute... is declared (all attributes compare) -/
example : newPosX [lvP] [.int 1, .int 5] =
    .ok { obj := { typ := [lvP], values := [.int 1, .int 5] }, ext := [("p", .int 5)] } := by decide
example : NoParamDefault [lvP] [.int 1, .int 5] := noParamDefault_lvP (Or.inl rfl)
example : sameTypeX { obj := { typ := [lvP], values := [.int 1, .int 5] }, ext := [("p", .int 5)] }
    { obj := { typ := [lvP], values := [.int 1, .int 6] }, ext := [("p", .int 6)] } = false := by decide
example : isParameterized [lvP] = true := by decide

/-- the bindings of the instance's type are those its own init-hash yields -/
def ExtOK (o : PObj) : Prop := o.ext = bindParams o.obj.typ (initHash o.obj) o.obj.values

/-- every POSITIONAL construction is `ExtOK` (its values went through `makeValueHash`) -/
theorem C17x_extOK_pos {t : OType} {vs : List Val} {o : PObj} (hw : WF t) (hn : newPosX t vs = .ok o) : ExtOK o := by
  obtain ⟨hv, ⟨rfl, hnp⟩ | rfl⟩ := newPosX_ok hw hn <;> unfold ExtOK initHash <;> simp only [attrInfo_attrs]
  · rcases hnp with rfl | hnp
    · rw [mvh_nil]
      exact (bindParams_nil _ _).symm
    · exact (bindParams_plain hnp _ _).symm
  · -- the init-hash of the stored values is that of the values given
    rw [mvh_stored hw hv]

/-- FULL statement for parameterized types: the object rebuilt from its init-hash is Equal to the original, whichever
    constructor made it.  FALSE of model and code — the known finding C17-tparam-explicit-default again
    (`C17x_inithash_explicit_default`: the init-hash leaves the default out, the rebuilt object has the plain type; the
    undef face is fixed by de95e71, `C17x_inithash_before_fix`). -/
def C17x_inithash : Prop :=
  ∀ (t : OType) (es : List (String × Val)) (h : Val) (o : PObj), WF t → newNamedX t es h = .ok o → Valid o.obj →
    ∃ o', newNamedX t (initHash o.obj) h = .ok o' ∧ equalsX o' o = .ok true

/-- proved part: … for every instance whose bindings are those of its own init-hash (`ExtOK`: every positional construction —
    `C17x_extOK_pos` —, and every named one that does not give a parameter's attribute its default).  The rebuilt object
    exists, has the same bindings (the same parameterized type), denotes the same value at every position and is Equal in
    both directions. -/
theorem C17x_inithash_partial {o : PObj} (h : Val) (hw : WF o.obj.typ) (hv : Valid o.obj) (hx : ExtOK o) :
    ∃ o', newNamedX o.obj.typ (initHash o.obj) h = .ok o' ∧ equalsX o' o = .ok true ∧ equalsX o o' = .ok true ∧
      den (posAttrs o.obj.typ) o'.obj.values = den (posAttrs o.obj.typ) o.obj.values ∧ o'.ext = o.ext := by
  obtain ⟨⟨t, vs⟩, ext⟩ := o
  have hx : ext = bindParams t (makeValueHash (posAttrs t) vs) vs := hx
  -- the bindings of the rebuilt object: they depend on the stored values only through whether there are any
  have hext : bindParams t (makeValueHash (posAttrs t) vs) (stored t vs) = ext := by
    rw [hx]
    by_cases he : makeValueHash (posAttrs t) vs = []
    · exact he ▸ (bindParams_nil t _).trans (bindParams_nil t _).symm
    · have h1 : vs ≠ [] := fun h0 => he (h0 ▸ mvh_nil _)
      have h2 : stored t vs ≠ [] := fun h0 => he (by rw [← mvh_stored hw hv, h0, mvh_nil])
      exact bindParams_congr (fun _ _ => rfl)
        ((List.isEmpty_eq_false_iff.mpr h2).trans (List.isEmpty_eq_false_iff.mpr h1).symm)
  obtain ⟨o', h1, h2, h3, h4⟩ := namedX_of_spells h hw (spells_initHash hw hv) hv.req rfl hext
  exact ⟨o', h1, h3, h2, h4⟩

/-- the known finding, second face: `new(T3, {a => 1, p => 3})` is a `T3[p => 3]`; its init-hash is `{a => 1}`; the
    object rebuilt from it is a plain `T3` and not Equal to the original -/
theorem C17x_inithash_explicit_default : ¬ C17x_inithash := by
  intro h
  have h1 : newNamedX [lvP3] [("a", .int 1), ("p", .int 3)] (.hash "") =
      .ok { obj := { typ := [lvP3], values := [.int 1] }, ext := [("p", .int 3)] } := by decide
  obtain ⟨o', hn, he⟩ := h [lvP3] _ (.hash "") _ wf_lvP3 h1 ⟨by decide, by decide⟩
  have h2 : newNamedX [lvP3] (initHash { typ := [lvP3], values := [.int 1] }) (.hash "") =
      .ok { obj := { typ := [lvP3], values := [.int 1] }, ext := [] } := by decide
  rw [h2] at hn
  cases hn
  have h3 : equalsX { obj := { typ := [lvP3], values := [.int 1] }, ext := [] }
      { obj := { typ := [lvP3], values := [.int 1] }, ext := [("p", .int 3)] } = .ok false := by decide
  rw [h3] at he
  cases he

/-- the fixed undef face: `new(T, {a => 1, p => undef})` was a `T[p => undef]` (`bindParamsBefore`) whose init-hash `{a => 1}`
    rebuilt a plain `T`; now it is a plain `T`, `ExtOK`, and `C17x_inithash_partial` applies -/
theorem C17x_inithash_before_fix :
    bindParamsBefore [lvP] [("a", .int 1), ("p", .undef)] [.int 1] = [("p", .undef)] ∧
    newNamedX [lvP] [("a", .int 1), ("p", .undef)] (.hash "") =
      .ok { obj := { typ := [lvP], values := [.int 1] }, ext := [] } ∧
    ExtOK { obj := { typ := [lvP], values := [.int 1] }, ext := [] } := by
  refine ⟨by decide, by decide, ?_⟩
  unfold ExtOK
  decide

/-- hypotheses of `C17x_inithash_partial`: a positional construction that binds the parameter is `ExtOK` -/
example : ExtOK { obj := { typ := [lvP], values := [.int 1, .int 5] }, ext := [("p", .int 5)] } :=
  C17x_extOK_pos wf_lvP (by decide : newPosX [lvP] [.int 1, .int 5] =
    .ok { obj := { typ := [lvP], values := [.int 1, .int 5] }, ext := [("p", .int 5)] })

/-- each attribute reads back the value given or its default — also on a parameterized type -/
theorem C17x_get {t : OType} {vs : List Val} {o : PObj} (hw : WF t) (hn : newPosX t vs = .ok o)
    {i : Nat} {a : Attr} (ha : (posAttrs t)[i]? = some a) :
    get o.obj a.name = .ok (some ((vs[i]?).getD a.implicitT)) := by
  obtain ⟨va, ext, rfl, hreq, hden⟩ := newPosX_den hw hn
  rw [get_pos hw hreq ha, hden, den_get ha]

example : get { typ := [lvP], values := [.int 1, .int 5] } "p" = .ok (some (.int 5)) :=
  C17x_get (i := 1) wf_lvP (by decide : newPosX [lvP] [.int 1, .int 5] =
    .ok { obj := { typ := [lvP], values := [.int 1, .int 5] }, ext := [("p", .int 5)] }) rfl

/-! ### every constructed instance is `Valid`: the hypotheses of the equality theorems hold for the NAMED constructor too -/

/-- `InitFromHash` leaves well-typed defaults: every attribute of an accepted definition holds a declared value that is an
    instance of its type, and a given_or_derived attribute's type accepts undef (`TypeTyped`) -/
theorem C17_typed_define {env : List OType} {d : Def} {t : OType} (henv : ∀ t' ∈ env, TypeTyped t')
    (h : define env d = .ok t) : TypeTyped t := define_typed henv h

theorem C17_typed_env {env0 env : List OType} {ds : List Def} (h0 : ∀ t ∈ env0, TypeTyped t)
    (h : defineAll env0 ds = .ok env) : ∀ t ∈ env, TypeTyped t :=
  defineAll_forall (fun _ _ _ _ henv hdef => C17_typed_define henv hdef) h0 h

/-- whatever the named constructor builds — from a hash that matches the init Struct, or through the fall-through to the
    positional signature — stores, at every position, an instance of the attribute's type, and at least the required
    positions: it is `Valid`, like every positional construction (`newPos_ok`).  So `C17_equality`, `C17_equals_total`,
    `C17_inithash` … apply to every instance either constructor can make. -/
theorem C17_valid_named {t : OType} {es : List (String × Val)} {h : Val} {o : Obj} (hw : WF t) (ht : TypeTyped t)
    (hn : newNamed t es h = .ok o) : Valid o :=
  (made_valid ht (Or.inr ⟨es, h, hn⟩)).2

/-- the same for instances of parameterized types (either constructor of Model/ObjectParams) -/
theorem C17x_valid {t : OType} (hw : WF t) (ht : TypeTyped t) :
    (∀ vs o, newPosX t vs = .ok o → Valid o.obj) ∧ (∀ es h o, newNamedX t es h = .ok o → Valid o.obj) := by
  exact ⟨fun vs _ hn => (madeX_valid hw ht (Or.inl ⟨vs, hn⟩)).2, fun es h _ hn => (madeX_valid hw ht (Or.inr ⟨es, h, hn⟩)).2⟩

/-! ### one loader, end to end: the side conditions of the theorems above are met by everything `defineAll` accepts -/

theorem env_ok {ds : List Def} {env : List OType} (h : defineAll [] ds = .ok env) (hds : ∀ d ∈ ds, DefShape d) :
    ∀ t ∈ env, WF t ∧ TypeTyped t := fun t ht =>
  ⟨(C17_wf_env (env0 := []) (fun _ h0 => nomatch h0) hds h t ht).2, C17_typed_env (env0 := []) (fun _ h0 => nomatch h0) h t ht⟩

/-- within one loader a name identifies a type: two types of an accepted list of definitions that `objectType.Equals`
    equates are the same type — the hypothesis `hname` of `C17_equality` / `C17_equals_total` / `C17_equality_symmetric` -/
theorem C17_names_identify {ds : List Def} {env : List OType} (h : defineAll [] ds = .ok env) {i j : Nat}
    {t t' : OType} (hi : env[i]? = some t) (hj : env[j]? = some t') (he : tyEq t t' = true) : t' = t := by
  obtain rfl := (tyEq_env_iff (goodEnv_of_defineAll h) hi hj).mp he
  exact Option.some.inj (hj.symm.trans hi)

/-- END TO END: for ANY list of definitions the model of `InitFromHash` accepts (hash literals: `DefShape`), any two of its
    types, and any two instances made by either constructor: `Equals` answers (never faults), and answers true exactly when
    `Get` agrees on every equality attribute and either the two types are the same type or both leave the type out of
    equality and compare the same attributes.  No side condition is left but the shape of the input. -/
theorem C17_equality_env {ds : List Def} {env : List OType} (h : defineAll [] ds = .ok env)
    (hds : ∀ d ∈ ds, DefShape d) {i j : Nat} {t t' : OType} (hi : env[i]? = some t) (hj : env[j]? = some t')
    {o o' : Obj} (ho : (∃ vs, newPos t vs = .ok o) ∨ (∃ es hv, newNamed t es hv = .ok o))
    (ho' : (∃ vs, newPos t' vs = .ok o') ∨ (∃ es hv, newNamed t' es hv = .ok o')) :
    (∃ b, equals o o' = .ok b) ∧
    (equals o o' = .ok true ↔
      ((tyEq o.typ o'.typ = true ∧ ∀ n ∈ eqAttrNames o.typ, get o n = get o' n) ∨
       (tyEq o.typ o'.typ = false ∧ includesType o.typ = false ∧ includesType o'.typ = false ∧
          (eqAttrNames o.typ).length = (eqAttrNames o'.typ).length ∧
          ∀ n ∈ eqAttrNames o.typ, n ∈ eqAttrNames o'.typ ∧ get o n = get o' n))) := by
  obtain ⟨hwt, hty⟩ := env_ok h hds t (List.mem_of_getElem? hi)
  obtain ⟨hwt', hty'⟩ := env_ok h hds t' (List.mem_of_getElem? hj)
  obtain ⟨hot, hov⟩ := made_valid hty ho
  obtain ⟨hot', hov'⟩ := made_valid hty' ho'
  have hw : WF o.typ := hot ▸ hwt
  have hw' : WF o'.typ := hot' ▸ hwt'
  have hname : tyEq o.typ o'.typ = true → o'.typ = o.typ := by
    rw [hot, hot']
    exact C17_names_identify h hi hj
  exact ⟨C17_equals_total hw hw' hov hov' hname, C17_equality hw hw' hov hov' hname⟩

/-- END TO END, the construction laws: for any accepted list of definitions, any of its types `t` and any values:
    (1) a positional construction reads every attribute back as the value given or the default, (2) its named twin exists and
    is Equal in both directions, and (3) EVERY instance — made by either constructor — is rebuilt from its init-hash into an
    Equal instance -/
theorem C17_laws_env {ds : List Def} {env : List OType} (h : defineAll [] ds = .ok env)
    (hds : ∀ d ∈ ds, DefShape d) {t : OType} (ht : t ∈ env) (hv : Val) :
    (∀ vs o, newPos t vs = .ok o →
      (∀ (i : Nat) (a : Attr), (posAttrs t)[i]? = some a → get o a.name = .ok (some ((vs[i]?).getD a.implicitT))) ∧
      (∃ o', newNamed t (toHash (posAttrs t) vs) hv = .ok o' ∧ equals o o' = .ok true ∧ equals o' o = .ok true)) ∧
    (∀ o, ((∃ vs, newPos t vs = .ok o) ∨ (∃ es hv', newNamed t es hv' = .ok o)) →
      ∃ o', newNamed t (initHash o) hv = .ok o' ∧ equals o' o = .ok true ∧ equals o o' = .ok true) := by
  obtain ⟨hw, hty⟩ := env_ok h hds t ht
  constructor
  · intro vs o hn
    refine ⟨fun i a ha => C17_get hw hn ha, ?_⟩
    obtain ⟨o', h1, -, h2, h3, -⟩ := C17_pos_named hv hw hn
    exact ⟨o', h1, h2, h3⟩
  · intro o ho
    have hot := made_valid hty ho
    obtain ⟨hto, hvo⟩ := hot
    obtain ⟨o', h1, -, h2, h3, -⟩ := C17_inithash hv (by rw [hto]; exact hw) hvo
    rw [hto] at h1
    exact ⟨o', h1, h2, h3⟩

/-- END TO END with type parameters: for any accepted list of definitions, any two of its types and any two instances
    made by either constructor of Model/ObjectParams (so: instances of `T` and of `T[p => v]`), `Equals` is characterised as
    in `C17x_equality`, no side condition left -/
theorem C17x_equality_env {ds : List Def} {env : List OType} (h : defineAll [] ds = .ok env)
    (hds : ∀ d ∈ ds, DefShape d) {i j : Nat} {t t' : OType} (hi : env[i]? = some t) (hj : env[j]? = some t')
    {o o' : PObj} (ho : (∃ vs, newPosX t vs = .ok o) ∨ (∃ es hv, newNamedX t es hv = .ok o))
    (ho' : (∃ vs, newPosX t' vs = .ok o') ∨ (∃ es hv, newNamedX t' es hv = .ok o')) :
    equalsX o o' = .ok true ↔
      ((sameTypeX o o' = true ∧ ∀ n ∈ eqAttrNames o.obj.typ, get o.obj n = get o'.obj n) ∨
       (sameTypeX o o' = false ∧ includesType o.obj.typ = false ∧ includesType o'.obj.typ = false ∧
          (eqAttrNames o.obj.typ).length = (eqAttrNames o'.obj.typ).length ∧
          ∀ n ∈ eqAttrNames o.obj.typ, n ∈ eqAttrNames o'.obj.typ ∧ get o.obj n = get o'.obj n)) := by
  obtain ⟨hwt, hty⟩ := env_ok h hds t (List.mem_of_getElem? hi)
  obtain ⟨hwt', hty'⟩ := env_ok h hds t' (List.mem_of_getElem? hj)
  obtain ⟨hot, hov⟩ := madeX_valid hwt hty ho
  obtain ⟨hot', hov'⟩ := madeX_valid hwt' hty' ho'
  exact C17x_equality (hot ▸ hwt) (hot' ▸ hwt') hov hov' (by rw [hot, hot']; exact C17_names_identify h hi hj)

/-! ### `Get` is well-typed — through any ancestor's declaration -/

/-- what `Get` answers for a positional attribute of a `Valid` instance is an instance of the attribute's type: the stored
    value (checked by the dispatcher) or the implicit one (a well-typed default, or undef for a given_or_derived attribute) -/
theorem C17_get_typed {t : OType} (hw : WF t) (hty : TypeTyped t) {o : Obj} (ho : o.typ = t) (hv : Valid o)
    {i : Nat} {a : Attr} (ha : (posAttrs t)[i]? = some a) :
    ∃ v, get o a.name = .ok (some v) ∧ inst a.ty v = true := by
  obtain ⟨t', vs⟩ := o
  simp only at ho
  subst ho
  have hreq : requiredCount t' ≤ vs.length := hv.req
  rw [get_eq hw hreq ha]
  refine ⟨_, rfl, ?_⟩
  cases hvi : vs[i]? with
  | some v => simpa using allInst_get hv.inst ha hvi
  | none =>
    simp only [Option.getD_none]
    have hge : vs.length ≤ i := List.getElem?_eq_none_iff.mp hvi
    exact inst_implicitT (hty a (posAttrs_mem_each (List.mem_of_getElem? ha))) (hw.tailOpt i a ha (by omega))

/-- … and so, read through ANY ancestor's declaration: for a type `t` of an accepted list of definitions, an ancestor `p`
    and an attribute `a` of `p`, the attribute of that name in `t` — when it has a position — reads back, on every instance
    either constructor makes, a value that `p`'s declaration of `a` admits -/
theorem C17_get_liskov {ds : List Def} {env : List OType} (h : defineAll [] ds = .ok env)
    (hds : ∀ d ∈ ds, DefShape d) {t p : OType} (ht : t ∈ env) (hp : p <:+ t) {a : Attr} (ha : a ∈ eachAttribute p)
    {o : Obj} (ho : o.typ = t) (hv : Valid o) :
    ∃ a' ∈ eachAttribute t, a'.name = a.name ∧
      ∀ i : Nat, (posAttrs t)[i]? = some a' → ∃ v, get o a.name = .ok (some v) ∧ inst a.ty v = true := by
  obtain ⟨a', ha', hn, hs⟩ := C17_liskov_attributes h hds ht hp a ha
  refine ⟨a', ha', hn, ?_⟩
  intro i hi
  obtain ⟨hw, hty⟩ := env_ok h hds t ht
  obtain ⟨v, hg, hi'⟩ := C17_get_typed hw hty ho hv hi
  rw [hn] at hg
  exact ⟨v, hg, hs v hi'⟩

/-! ### the definition re-created from the InitHash of the type it defined -/

/-- every accepted definition, re-created from the InitHash of the type it defined (`typeDef`, what
    `objectType.InitHash()` / `String()` / the serializer print), is accepted again and yields the same type — the own
    attributes in the order of the printed definition, `constants` last (`reorder`).  Proved at full strength since the
    fix 86875be (finding C17-type-inithash-constant-undef, now fixed: `C17_type_inithash_before_fix` replays it).
    (`hfk`: a function shares its name only with a constant that is printed under `constants` — the only attribute a
    function can share its name with is a `constants` entry, and in the universe of the driver every such entry is
    `constLike`.) -/
theorem C17_type_inithash {env : List OType} {d : Def} {l : Level} {p : OType} (hd : DefShape d)
    (h : define env d = .ok (l :: p))
    (hfk : ∀ f ∈ l.funcs, ∀ a ∈ l.attrs, a.name = f.name → a.constLike = true) :
    define env (typeDef d.parent l) = .ok ({ l with attrs := reorder l.attrs } :: p) :=
  define_typeDef hd.names hd.constNames h hfk

/-- the conclusion of `C17_type_inithash` under the exclusion that was necessary before the fix 86875be: no constant of an
    `Optional[…]` type whose value is undef (a corollary) -/
theorem C17_type_inithash_partial {env : List OType} {d : Def} {l : Level} {p : OType} (hd : DefShape d)
    (h : define env d = .ok (l :: p)) (_hu : ∀ a ∈ l.attrs, a.undefConstant = false)
    (hfk : ∀ f ∈ l.funcs, ∀ a ∈ l.attrs, a.name = f.name → a.constLike = true) :
    define env (typeDef d.parent l) = .ok ({ l with attrs := reorder l.attrs } :: p) :=
  C17_type_inithash hd h hfk

/-- the re-created type lays out, finds and compares its attributes exactly like the original: same positional attributes,
    required count and equality positions (`attrInfo`), same member lookup — hence the same constructors, `Get`,
    init-hashes and equality on the same value lists -/
theorem C17_type_inithash_same {env : List OType} {d : Def} {l : Level} {p : OType} (hd : DefShape d)
    (h : define env d = .ok (l :: p)) :
    attrInfo ({ l with attrs := reorder l.attrs } :: p) = attrInfo (l :: p) ∧
    (∀ n, findAttr ({ l with attrs := reorder l.attrs } :: p) n = findAttr (l :: p) n) ∧
    (∀ vs n, get { typ := { l with attrs := reorder l.attrs } :: p, values := vs } n =
      get { typ := l :: p, values := vs } n) ∧
    (∀ vs, initHash { typ := { l with attrs := reorder l.attrs } :: p, values := vs } =
      initHash { typ := l :: p, values := vs }) :=
  reorder_same (define_attrs_nodup hd h)

/-- the finding C17-type-inithash-constant-undef (fixed by 86875be), replayed in the model:
    `{a => {type => Optional[Integer], kind => constant, value => undef}}` is accepted; the definition its type printed
    as BEFORE the fix (`typeDefBefore`: the undef of every attribute of an Optional type left out) is rejected with
    CONSTANT_REQUIRES_VALUE; the one it prints as now is accepted and gives the same type -/
def undefConstDef : Def :=
  { parent := none, attrs := [{ name := "a", ty := .opt .int, kind := .constant, dflt := some .undef }],
    equality := .absent, includeType := none, serialization := none }
def undefConstLevel : Level :=
  { id := 0, attrs := [{ name := "a", ty := .opt .int, kind := .constant, value := some .undef, final := true }],
    equality := none, includeType := true, serialization := none }

theorem C17_type_inithash_before_fix :
    define [] undefConstDef = .ok [undefConstLevel] ∧
    define [] (typeDefBefore undefConstDef.parent undefConstLevel) = .error .constantRequiresValue ∧
    define [] (typeDef undefConstDef.parent undefConstLevel) = .ok [undefConstLevel] := by decide

/-! ### non-vacuity: a three-level chain with a constant, an Optional attribute, a given_or_derived attribute, a default,
    a declared equality and a serialization order meets every hypothesis used above -/

def sampleDefs : List Def := [
  { parent := none,
    attrs := [{ name := "a", ty := .int, kind := .normal, dflt := none }],
    constants := [("k", .int 7)],          -- `constants => {k => 7}`: type inferred, kind constant
    equality := .many ["a"], includeType := none, serialization := none },
  { parent := some 0,
    attrs := [{ name := "b", ty := .opt .str, kind := .normal, dflt := none },
              { name := "g", ty := .int, kind := .givenOrDerived, dflt := none }],
    equality := .absent, includeType := some false, serialization := none },
  { parent := some 1,
    attrs := [{ name := "c", ty := .bool, kind := .reference, dflt := some (.bool true) }],
    equality := .one "c", includeType := none, serialization := some ["a", "c", "b", "g"] },
  -- a sibling that overrides the inherited required `a` to give it a default
  { parent := some 0,
    attrs := [{ name := "z", ty := .str, kind := .normal, dflt := none },
              { name := "a", ty := .int, kind := .normal, dflt := some (.int 3), override := true }],
    equality := .absent, includeType := none, serialization := none }]

def sampleEnv : List OType :=
  match defineAll [] sampleDefs with
  | .ok env => env
  | .error _ => []

def sampleT0 : OType := (sampleEnv[0]?).getD []
def sampleT2 : OType := (sampleEnv[2]?).getD []
def sampleT3 : OType := (sampleEnv[3]?).getD []

/-- the levels the four sample definitions resolve to, written out (`sampleEnv_eq`): the examples below evaluate on these
    instead of running `defineAll` again each -/
def sampleL0 : Level :=
  { id := 0, attrs := [{ name := "a", ty := .int, kind := .normal, value := none },
                       { name := "k", ty := .int, kind := .constant, value := some (.int 7), final := true }],
    equality := some ["a"], includeType := true, serialization := none }
def sampleL1 : Level :=
  { id := 1, attrs := [{ name := "b", ty := .opt .str, kind := .normal, value := some .undef },
                       { name := "g", ty := .opt .int, kind := .givenOrDerived, value := some .undef }],
    equality := none, includeType := false, serialization := none }
def sampleL2 : Level :=
  { id := 2, attrs := [{ name := "c", ty := .bool, kind := .reference, value := some (.bool true) }],
    equality := some ["c"], includeType := true, serialization := some ["a", "c", "b", "g"] }
def sampleL3 : Level :=
  { id := 3, attrs := [{ name := "z", ty := .str, kind := .normal, value := none },
                       { name := "a", ty := .int, kind := .normal, value := some (.int 3), override := true }],
    equality := none, includeType := true, serialization := none }

theorem sampleDefs_ok : defineAll [] sampleDefs =
    .ok [[sampleL0], [sampleL1, sampleL0], [sampleL2, sampleL1, sampleL0], [sampleL3, sampleL0]] := rfl
theorem sampleEnv_eq : sampleEnv =
    [[sampleL0], [sampleL1, sampleL0], [sampleL2, sampleL1, sampleL0], [sampleL3, sampleL0]] := by
  rw [sampleEnv, sampleDefs_ok]
theorem sampleT0_eq : sampleT0 = [sampleL0] := by rw [sampleT0, sampleEnv_eq]; rfl
theorem sampleT2_eq : sampleT2 = [sampleL2, sampleL1, sampleL0] := by rw [sampleT2, sampleEnv_eq]; rfl
theorem sampleT3_eq : sampleT3 = [sampleL3, sampleL0] := by rw [sampleT3, sampleEnv_eq]; rfl

theorem sample_ok : defineAll [] sampleDefs = .ok sampleEnv := by rw [sampleEnv_eq]; exact sampleDefs_ok
theorem sampleT0_at : sampleEnv[0]? = some sampleT0 := by rw [sampleT0_eq, sampleEnv_eq]; rfl
theorem sampleT2_at : sampleEnv[2]? = some sampleT2 := by rw [sampleT2_eq, sampleEnv_eq]; rfl
theorem sampleT3_at : sampleEnv[3]? = some sampleT3 := by rw [sampleT3_eq, sampleEnv_eq]; rfl
theorem sampleT2_mem : sampleT2 ∈ sampleEnv := List.mem_of_getElem? sampleT2_at
theorem sampleT3_mem : sampleT3 ∈ sampleEnv := List.mem_of_getElem? sampleT3_at

example : defineAll [] sampleDefs = .ok sampleEnv := sample_ok
example : sampleEnv.length = 4 ∧ sampleT2.length = 3 := by rw [sampleT2_eq, sampleEnv_eq]; exact ⟨rfl, rfl⟩
example : (posAttrs sampleT2).map (·.name) = ["a", "c", "b", "g"] ∧ requiredCount sampleT2 = 1 := by
  rw [sampleT2_eq]; exact ⟨rfl, rfl⟩

theorem sampleShape : ∀ d ∈ sampleDefs, DefShape d := by
  intro d hd
  simp only [sampleDefs, List.mem_cons, List.not_mem_nil, or_false] at hd
  rcases hd with rfl | rfl | rfl | rfl <;> exact ⟨by decide, by decide⟩

theorem sampleWF : WF sampleT2 := (env_ok sample_ok sampleShape sampleT2 sampleT2_mem).1

/-- an overriding attribute takes the place of the one it overrides (one position, now optional) -/
theorem sampleWF3 : WF sampleT3 := (env_ok sample_ok sampleShape sampleT3 sampleT3_mem).1
example : (posAttrs sampleT3).map (·.name) = ["z", "a"] ∧ requiredCount sampleT3 = 1 := by
  rw [sampleT3_eq]; exact ⟨rfl, rfl⟩
example : get { typ := sampleT3, values := [.str "x"] } "a" = .ok (some (.int 3)) := by
  rw [sampleT3_eq]
  exact C17_get (i := 1) (sampleT3_eq ▸ sampleWF3) (rfl : newPos _ [.str "x"] = .ok _) rfl

/-- hypotheses of `C17_equality_env` / `C17_names_identify`: two types of the sample, one instance made positionally, one by
    name; `Equals` answers -/
example : ∃ b, equals { typ := sampleT2, values := [.int 1] } { typ := sampleT0, values := [.int 1] } = .ok b :=
  (C17_equality_env sample_ok sampleShape (i := 2) (j := 0) sampleT2_at sampleT0_at
    (Or.inl ⟨[.int 1], by rw [sampleT2_eq]; rfl⟩) (Or.inr ⟨[("a", .int 1)], .hash "", by rw [sampleT0_eq]; rfl⟩)).1

/-- hypotheses of `C17_laws_env`: the grand-child of the sample; the round trip of an instance made BY NAME -/
example : ∃ o', newNamed sampleT2 (initHash { typ := sampleT2, values := [.int 1, .bool false] }) (.hash "") = .ok o' ∧
    equals o' { typ := sampleT2, values := [.int 1, .bool false] } = .ok true := by
  obtain ⟨o', h1, h2, -⟩ := (C17_laws_env sample_ok sampleShape sampleT2_mem (.hash "")).2
    { typ := sampleT2, values := [.int 1, .bool false] }
    (Or.inr ⟨[("c", .bool false), ("a", .int 1)], .hash "", by rw [sampleT2_eq]; rfl⟩)
  exact ⟨o', h1, h2⟩

/-- hypotheses of `C17_liskov_attributes`: the sibling branch of the sample overrides the root's required `a : Integer` by
    `a : Integer` with a default; the root is an ancestor; the theorem hands back the overriding attribute -/
example : ∃ a' ∈ eachAttribute sampleT3, a'.name = "a" ∧ ∀ v, inst a'.ty v = true → inst Ty.int v = true :=
  C17_liskov_attributes sample_ok sampleShape (t := sampleT3) (p := sampleT0) sampleT3_mem
    ⟨[sampleL3], by rw [sampleT3_eq, sampleT0_eq]; rfl⟩ { name := "a", ty := .int, kind := .normal, value := none }
    (by rw [sampleT0_eq]; decide)

/-- hypotheses of `C17_valid_named`: the types of the sample hold well-typed defaults; a named construction on the grand-child -/
theorem sampleTyped : TypeTyped [sampleL2, sampleL1, sampleL0] :=
  sampleT2_eq ▸ (env_ok sample_ok sampleShape sampleT2 sampleT2_mem).2
example : TypeTyped sampleT2 := sampleT2_eq ▸ sampleTyped
example : Valid { typ := sampleT2, values := [.int 1, .bool false] } := by
  rw [sampleT2_eq]
  exact C17_valid_named (es := [("c", .bool false), ("a", .int 1)]) (h := .hash "") (sampleT2_eq ▸ sampleWF) sampleTyped rfl

/-- hypotheses of `C17_type_inithash_partial` / `C17_type_inithash_same`: the root of the sample (an attribute and a
    `constants` entry) and its grand-child (a default, a serialization order, an equality) are re-created from what they
    print as; the constant moves behind the attribute -/
example : ∃ l p, define [] (sampleDefs.headD default) = .ok (l :: p) ∧ (∀ a ∈ l.attrs, a.undefConstant = false) ∧
    (typeDef none l).constants = [("k", .int 7)] := ⟨_, _, rfl, by decide, rfl⟩
example : define [] (typeDef none (sampleT0.headD default)) = .ok sampleT0 := by rw [sampleT0_eq]; decide

/-- hypotheses of `C17_get` / `C17_pos_named` hold; the conclusions, instantiated: an omitted trailing attribute reads back
    its default, a given_or_derived one `undef`, the constant its value -/
theorem sampleNew : newPos [sampleL2, sampleL1, sampleL0] [.int 1] =
    .ok { typ := [sampleL2, sampleL1, sampleL0], values := [.int 1] } := rfl
example : newPos sampleT2 [.int 1] = .ok { typ := sampleT2, values := [.int 1] } := by rw [sampleT2_eq]; exact sampleNew
example : get { typ := sampleT2, values := [.int 1] } "c" = .ok (some (.bool true)) := by
  rw [sampleT2_eq]; exact C17_get (i := 1) (sampleT2_eq ▸ sampleWF) sampleNew rfl
example : get { typ := sampleT2, values := [.int 1] } "g" = .ok (some .undef) := by
  rw [sampleT2_eq]; exact C17_get (i := 3) (sampleT2_eq ▸ sampleWF) sampleNew rfl
example : get { typ := sampleT2, values := [.int 1] } "k" = .ok (some (.int 7)) := by rw [sampleT2_eq]; rfl
example : ∃ o', newNamed sampleT2 [("a", .int 1)] (.hash "") = .ok o' ∧
    equals { typ := sampleT2, values := [.int 1] } o' = .ok true := by
  rw [sampleT2_eq]
  obtain ⟨o', h1, _, h2, _⟩ := C17_pos_named (.hash "") (sampleT2_eq ▸ sampleWF) sampleNew
  exact ⟨o', h1, h2⟩
/-- hypotheses of `C17_inithash` / `C17_equality`: an object with a default-valued and a non-default trailing value -/
example : Valid { typ := sampleT2, values := [.int 1, .bool true, .str "x"] } := by
  rw [sampleT2_eq]; exact ⟨by decide, rfl⟩
example : initHash { typ := sampleT2, values := [.int 1, .bool true, .str "x"] } = [("a", .int 1), ("b", .str "x")] := by
  rw [sampleT2_eq]; rfl
example : eqAttrNames sampleT2 = ["c", "a"] := by rw [sampleT2_eq]; rfl
/-- hypotheses of the cross-type half of `C17_equality`: two types that are not Equal, both well laid out, both leaving the
    type out of equality -/
theorem wf_lvA (id : Nat) : WF [lvA id] :=
  wf_single (l := lvA id) rfl (by simp [lvA]) (by simp [lvA])
example : tyEq [lvA 0] [lvA 1] = false ∧ includesType [lvA 0] = false ∧ includesType [lvA 1] = false ∧
    eqAttrNames [lvA 0] = ["a"] ∧ eqAttrNames [lvA 1] = ["a"] := ⟨rfl, rfl, rfl, rfl, rfl⟩
example : equals { typ := [lvA 1], values := [.int 1] } { typ := [lvA 0], values := [.int 1] } = .ok true :=
  C17_equality_symmetric (wf_lvA 0) (wf_lvA 1) ⟨by decide, rfl⟩ ⟨by decide, rfl⟩
    (by intro h; cases h) (by intro h; cases h) rfl C17_include_type_honoured.1

/-- hypotheses of `C17_subtype` / `C17_subtype_strict`: the grand-parent is a proper ancestor -/
example : sampleT0 ≠ [] ∧ sampleT0 <:+ sampleT2 ∧ sampleT0 ≠ sampleT2 := by
  rw [sampleT0_eq, sampleT2_eq]; exact ⟨by decide, ⟨[sampleL2, sampleL1], rfl⟩, by decide⟩
example : isInstance sampleT0 { typ := sampleT2, values := [.int 1] } = true ∧
    isInstance sampleT2 { typ := sampleT0, values := [.int 1] } = false := by
  rw [sampleT0_eq, sampleT2_eq]; exact ⟨rfl, rfl⟩
/-- hypotheses of `C17_instance_closure` on the sample (0 ← 1 ← 2, 0 ← 3): the grand-parent is reached from the grand-child in
    two steps, so it accepts its instances; the sibling branch 3 is not reached from 2 (the theorem turns the model's
    `false` into the statement about the closure) -/
example : parentRel sampleDefs 1 2 ∧ parentRel sampleDefs 0 1 ∧ parentRel sampleDefs 0 3 :=
  ⟨⟨by decide, _, rfl, rfl⟩, ⟨by decide, _, rfl, rfl⟩, ⟨by decide, _, rfl, rfl⟩⟩
example : isInstance sampleT0 { typ := sampleT2, values := [.int 1] } = true :=
  (C17_instance_closure sample_ok (i := 0) (j := 2) sampleT0_at sampleT2_at _ rfl).mpr
    ((Relation.ReflTransGen.single ⟨by decide, _, rfl, rfl⟩).tail ⟨by decide, _, rfl, rfl⟩)
example : ¬ Relation.ReflTransGen (parentRel sampleDefs) 3 2 := fun hr =>
  absurd ((C17_instance_closure sample_ok (i := 3) (j := 2) sampleT3_at sampleT2_at
    { typ := sampleT2, values := [.int 1] } rfl).mpr hr) (by rw [sampleT3_eq, sampleT2_eq]; decide)

/-- hypotheses of `C17_schema_partial`: the first sample definition is well-formed in the model's terms -/
example : WellFormedDef [] (sampleDefs.headD default) := by
  have hdecls : (sampleDefs.headD default).decls (parentOf [] (sampleDefs.headD default)) =
      [{ name := "a", ty := .int, kind := .normal, dflt := none },
       { name := "k", ty := .int, kind := .constant, dflt := some (.int 7) }] := rfl
  refine ⟨rfl, rfl, rfl, ?_, ?_, ?_, ?_, ?_⟩
  · intro as _ n hn
    simp only [sampleDefs, List.headD_cons, EqDecl.toList?, Option.getD_some, Option.getD_none, List.append_nil,
      List.mem_cons, List.not_mem_nil, or_false] at hn
    subst hn
    simp [isFnName, sampleDefs, parentOf, fnShadow]
  · intro a ha
    rw [hdecls] at ha
    simp only [List.mem_cons, List.not_mem_nil, or_false] at ha
    rcases ha with rfl | rfl <;> simp [AttrDeclOK, inst]
  · intro a ha
    rw [hdecls] at ha
    simp only [List.mem_cons, List.not_mem_nil, or_false] at ha
    rcases ha with rfl | rfl <;> simp [OverrideOK, parentOf, findAttr, fnShadow, sampleDefs]
  · intro as has n hn
    obtain rfl : as = sampleL0.attrs := (Except.ok.inj has).symm
    simp only [sampleDefs, List.headD_cons, EqDecl.toList?, Option.getD_some, List.mem_cons, List.not_mem_nil,
      or_false] at hn
    subst hn
    exact ⟨_, rfl, by decide, by simp [parentOf, sampleDefs, equalityAttributes]⟩
  · intro as _ ser hs
    simp [sampleDefs] at hs

end Pcore.Object

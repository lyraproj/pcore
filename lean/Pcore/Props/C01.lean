import Pcore.Proofs.LatSoundMain
import Pcore.Proofs.LatSfh
import Pcore.Proofs.LatSoundTyp
import Pcore.Proofs.LatTransFrag
set_option linter.unusedSimpArgs false
/-!
# C01 — Assignability is sound: what is assignable never admits a foreign instance

Property (properties.jsonl): whenever a type A answers that a type B is assignable to it, every value that is an instance of B is
also an instance of A — for all value-describing types (scalars and ranges, enums, patterns, collections, tuples, structs, variants,
Optional/NotUndef, Type[T], Sensitive, Iterable, aliases such as Data, object types); the only exclusions are the Unit type and the
by-specification rule that lets a Struct accept a Hash type on key type and size alone.  Quantifier: all pairs (A, B), all values v.

Model: `asg sfh a b` mirrors `GuardedIsAssignable` + the ~35 `IsAssignable` methods, `inst` the `IsInstance` methods
(`Pcore/Model/LatticeAsg.lean`, `LatticeInst.lean`); `sfh` switches the exempt Struct-from-Hash rule (`sfh = true` is the code).

Full statement / proved / missing
* `C01_full` (a `def … : Prop`, kept visible): for every matcher, every length-preserving `lower`, all well-formed A, B with B
  `UnitSafe` (Unit only as element type of zero-size collections, the shape inferred for empty arrays/hashes), all values:
  `asg false A B → inst B v → inst A v`.
* `C01_sound_partial` — PROVED, unbounded (strong induction on the summed weight, receiver rule by receiver rule), for BOTH settings of the
  exempt rule: with the rule off it is `C01_full` restricted to the fragment `Ty.Frag false` = hereditarily no `Iterable[..]`; with the
  rule ON — the code as it is, `C01_sound_rule_on` — the fragment `Ty.Frag true` additionally has no `Struct` (the stated exclusion:
  only a Struct can use the rule).  The fragment covers Any, Undef, Default, Scalar, ScalarData, Numeric,
  Integer, Float, Boolean, Timespan, Timestamp (as a type: no value holding a Timestamp meets `Val.OK`), String (all three forms), Enum,
  Pattern, Regexp, Binary, Collection, Array, Hash, Tuple, Struct, Variant, Optional, NotUndef, Sensitive, Object, Iterator, Runtime,
  Callable, the built-in recursive aliases Data and RichData (as receivers and on the right-hand
  side, through the specialised `asgToArr` / `asgToHash` members), arbitrarily nested, and `Type[T]` AT ANY NESTING for every `T` of
  the model except Unit — `T ∈ Ty.TA sfh`: Struct (rule off), Iterable, Data / RichData, Tuples (type list of int64 length, as every Go
  slice) inside `T` — because soundness for `Type[..]` IS transitivity `X ⊒ Y ⊒ u` and C03 (`C03_trans_alias_partial`, `transD`)
  proves transitivity on all of `Ty.TA`; types used as values are then well-formed members of `Ty.TA sfh`, and container lengths fit
  an int64 as Go's do (`Val.TyOKS`).
* `C01_sound_type_receiver` — PROVED (corollary of `C03_trans_alias_partial`): soundness of the receiver `Type[x]` for every `x` of
  `Ty.TA` against every right-hand type of `Ty.TA` (Iterable allowed on the RIGHT too, which `Ty.Frag` excludes).
* missing, and why:
  - `Iterable` as a receiver or on the right of another receiver: its instance rule asks an assignability
    question about an INFERRED type and is genuinely unsound in the code: witnesses
    `C01_full_fails_iterable_elem` (inferred element type wider than any Variant member; known finding C01-iterable-inferred-elem)
    and `C01_full_fails_iterable_binary` (Iterable accepts Binary, whose values are not Iterable instances; C01-iterable-binary).
  - Unit inside the content of a `Type[T]` or inside a type VALUE (Unit is the stated exclusion; transitivity is false through it).
  - the exempt rule: `C01_sfh_witness` shows it is genuinely unsound when switched on (this is the stated exclusion, not a finding).
    With the rule on `C01_sound_rule_on` excludes every pair that contains a Struct anywhere; the finer statement is
    `C01_unsound_only_by_rule` — PROVED: for types without `Type[..]` / `Iterable[..]` (Structs included) the instance relation does
    not depend on the rule (`inst_sfh`, through C02), and wherever the code is unsound the rule-off relation rejects the pair: every
    unsound acceptance of the code is one that only the Struct-from-Hash arm grants.  (Not proved: a syntactic localisation such as the
    harness class `unsound-sfh` = "A contains a Struct and B a Hash type".)
  - second-tier types (Like, Init, TypeReference, SemVer, URI, Runtime with a Go type) and user recursive aliases: not in the model;
    harness-side tests only.
  Iterator[T], Runtime[runtime, name, pattern] and Callable[params, return, block] have no instance in the value language, so their
  soundness is vacuous and what is checked of them is assignability, equality, generalisation, commonType.
-/
namespace Pcore.Lat

/-- the full statement (exempt rule off) -/
def C01_full : Prop :=
  ∀ (cfg : Cfg), LowerLen cfg → ∀ (a b : Ty) (v : Val), Ty.WF cfg a → Ty.WF cfg b → b.US → v.OK →
    asg cfg false a b = true → inst cfg false b v = true → inst cfg false a v = true

/-- proved part: the same statement on the fragment `Ty.Frag` -/
theorem C01_sound_partial (cfg : Cfg) (sfh : Bool) (hl : LowerLen cfg) (a b : Ty) (v : Val)
    (fa : a.Frag sfh) (fb : b.Frag sfh) (wa : Ty.WF cfg a) (wb : Ty.WF cfg b) (us : b.US) (ok : v.OK) (tv : Val.TyOKS cfg sfh v)
    (h : asg cfg sfh a b = true) (hi : inst cfg sfh b v = true) : inst cfg sfh a v = true :=
  sound cfg sfh hl ⟨fa, fb, wa, wb, us, ok, tv⟩ h hi

/-- the code as it is (rule ON), for every pair without a Struct: instance of the theorem at `sfh = true` -/
theorem C01_sound_rule_on (cfg : Cfg) (hl : LowerLen cfg) (a b : Ty) (v : Val)
    (fa : a.Frag true) (fb : b.Frag true) (wa : Ty.WF cfg a) (wb : Ty.WF cfg b) (us : b.US) (ok : v.OK) (tv : Val.TyOKS cfg true v)
    (h : asg cfg true a b = true) (hi : inst cfg true b v = true) : inst cfg true a v = true :=
  C01_sound_partial cfg true hl a b v fa fb wa wb us ok tv h hi

/-- the test "accepts Undef" used by the NotUndef and Struct rules is complete -/
theorem C01_undef_complete (cfg : Cfg) (sfh : Bool) (b : Ty) (h : inst cfg sfh b .undef = true) :
    asg cfg sfh b .undef = true :=
  inst_undef_asg cfg sfh b h

/-! ### non-vacuity: hypotheses of `C01_sound_partial` met by a nested case with `asg` and `inst` both true -/
def exA : Ty := .array (.variant [.int ⟨0, 9⟩, .optional .str, .typ .scalar]) ⟨0, 5⟩
def exB : Ty := .tuple [.int ⟨1, 2⟩, .strVal "a", .typ .numeric] none
def exV : Val := .array [.int 2, .str "a", .typ (.int ⟨0, 5⟩)]

example (cfg : Cfg) : exA.Frag true ∧ exB.Frag true ∧ Ty.WF cfg exA ∧ Ty.WF cfg exB ∧ exB.US := by
  refine ⟨?_, ?_, ?_, ?_, ?_⟩ <;> simp [exA, exB, Ty.Frag, Ty.TA, Ty.WF, Ty.US]
example : exV.OK := Val.OK.array _ (by intro x hx; simp at hx; rcases hx with rfl | rfl | rfl <;> constructor)
example (cfg : Cfg) : Val.TyOKS cfg true exV := by
  unfold exV
  exact Val.TyOKS.array _ (by simp [exV, I64.max]) (by
    intro x hx; simp [exV] at hx
    rcases hx with rfl | rfl | rfl
    · constructor
    · constructor
    · exact Val.TyOKS.typ _ (by simp [Ty.TA]) (by simp [Ty.WF]))
example (cfg : Cfg) : asg cfg true exA exB = true := by
  simp [exA, exB, asg, asgRecv, asgAllR, asgAnyL, tupZip, sameNullary, Rng.sub, tupleSize, Rng.exact, isStringFamily]
example (cfg : Cfg) : inst cfg true exB exV = true := by
  simp [exB, exV, inst, instZip, tupleSize, Rng.exact, Rng.contains, asg, asgRecv, sameNullary]

/-! non-vacuity of the `Type[T]` clause (rule off): `Type[Struct[{a => Data}]]` and `Type[Iterable[..]]` NESTED inside an Array
    receiver, against a Tuple of `Type[Struct[..]]` / `Type[Array[..]]`, and a value holding the type values `Struct[{a => Integer[0,9]}]`
    and `Array[String, 1, 2]` -/
def exA2 : Ty := .array (.variant [.typ (.struct [("a", false, .data)]), .typ (.iterable .scalar)]) ⟨0, 5⟩
def exB2 : Ty := .tuple [.typ (.struct [("a", false, .int Rng.all)]), .typ (.array .str Rng.pos)] none
def exV2 : Val := .array [.typ (.struct [("a", false, .int ⟨0, 9⟩)]), .typ (.array .str ⟨1, 2⟩)]
example (cfg : Cfg) : exA2.Frag false ∧ exB2.Frag false ∧ Ty.WF cfg exA2 ∧ Ty.WF cfg exB2 ∧ exB2.US := by
  refine ⟨?_, ?_, ?_, ?_, ?_⟩ <;> simp [exA2, exB2, Ty.Frag, Ty.TA, Ty.WF, Ty.US]
example (cfg : Cfg) : Val.TyOKS cfg false exV2 := by
  unfold exV2
  exact Val.TyOKS.array _ (by simp [I64.max]) (by
    intro x hx; simp at hx
    rcases hx with rfl | rfl
    · exact Val.TyOKS.typ _ (by simp [Ty.TA]) (by simp [Ty.WF])
    · exact Val.TyOKS.typ _ (by simp [Ty.TA]) (by simp [Ty.WF]))
example (cfg : Cfg) : asg cfg false exA2 exB2 = true := by
  simp [exA2, exB2, asg, asgRecv, asgAllR, asgAnyL, tupZip, sameNullary, Rng.sub, tupleSize, Rng.exact, isStringFamily, structAll,
    structMember, distinctCount, floatAll, Rng.pos, Rng.all, I64.max, I64.min]
example (cfg : Cfg) : inst cfg false exB2 exV2 = true := by
  simp [exB2, exV2, inst, instZip, tupleSize, Rng.exact, Rng.contains, asg, asgRecv, sameNullary, structAll, structMember,
    distinctCount, Rng.sub, Rng.all, Rng.pos, I64.max, I64.min, isStringFamily]

/-- non-vacuity with the recursive alias: `Data ⊒ Hash[String, Array[Integer]]` and a conforming value -/
example (cfg : Cfg) :
    asg cfg false .data (.hash .str (.array (.int Rng.all) Rng.pos) Rng.pos) = true ∧
    inst cfg false (.hash .str (.array (.int Rng.all) Rng.pos) Rng.pos) (.hash [(.str "k", .array [.int 1])]) = true := by
  constructor
  · simp [asg, asgRecv, sameNullary, Rng.sub, Rng.pos, Rng.all, I64.max, I64.min, isStringFamily, floatAll]
  · simp [inst, instEntries, instAll, Ty.isAny, Rng.contains, Rng.pos, Rng.all, I64.max, I64.min]

/-! ### the full statement fails for Iterable: two known findings, with witnesses -/
def idCfg : Cfg := { rxMatch := fun _ _ => false, lower := id }

def wA : Ty := .iterable (.variant [.int ⟨1, 1⟩, .int ⟨3, 3⟩])
def wB : Ty := .array (.variant [.int ⟨1, 1⟩, .int ⟨3, 3⟩]) ⟨0, 5⟩
def wV : Val := .array [.int 1, .int 3]

/-- `Iterable[Variant[Integer[1,1],Integer[3,3]]]` accepts `Array[Variant[…]]` but rejects its instance `[1, 3]`, whose inferred
    element type `Integer[1,3]` no Variant member accepts (known finding C01-iterable-inferred-elem) -/
theorem C01_full_fails_iterable_elem : ¬ C01_full := by
  intro h
  have := h idCfg (fun _ => rfl) wA wB wV (by simp [wA, Ty.WF]) (by simp [wB, Ty.WF]) (by simp [wB, Ty.US])
    (Val.OK.array _ (by intro x hx; simp [wV] at hx; rcases hx with rfl | rfl <;> constructor))
    (by simp [wA, wB, asg, asgRecv, asgAllR, asgAnyL, sameNullary, Rng.sub])
    (by simp [wB, wV, inst, instAll, instAny, Ty.isAny, Rng.contains])
  have hf : inst idCfg false wA wV = false := by
    simp [wA, wV, inst, elemType, ptype, ptypeFold, commonType, commonF, asg, asgRecv, asgAllR, asgAnyL, sameNullary,
      Rng.sub, Rng.exact, Rng.hull, Ty.isUnit]
    omega
  rw [hf] at this; cases this

/-- `Iterable[Integer[0,255]]` accepts `Binary`, but no Binary value is an instance of an Iterable type
    (known finding C01-iterable-binary) -/
theorem C01_full_fails_iterable_binary :
    ∃ (a b : Ty) (v : Val), asg idCfg false a b = true ∧ inst idCfg false b v = true ∧ inst idCfg false a v = false :=
  ⟨.iterable (.int ⟨0, 255⟩), .bin, .binary [1, 2], by
    simp [asg, asgRecv, sameNullary, Rng.sub], by simp [inst], by simp [inst, elemType]⟩

/-- the exempt rule (Struct accepts a Hash type on key type and size alone) is unsound when switched on: the stated exclusion -/
theorem C01_sfh_witness :
    ∃ (a b : Ty) (v : Val), asg idCfg true a b = true ∧ inst idCfg true b v = true ∧ inst idCfg true a v = false :=
  ⟨.struct [("a", false, .int Rng.all)], .hash .str (.int Rng.all) ⟨1, 1⟩, .hash [(.str "b", .int 1)], by
    simp [asg, asgRecv, sameNullary, structReq, structSize, Rng.sub, Rng.all, isStringFamily], by
    simp [inst, instEntries, Rng.contains, Rng.all, I64.min, I64.max], by
    simp [inst, instStruct, hashGetW, keyIsStr]⟩

/-- the intransitivity of Callable through the default Callable (C03_trans_fails_callable, known finding C03-trans-callable-top) seen one
    level up, where soundness for `Type[..]` IS transitivity (known finding C01-type-of-callable-top); `Ty.Frag` asks the content of a
    `Type[T]` to lie in `Ty.TA`, which has no Callable -/
theorem C01_type_callable_witness :
    ∃ (a b : Ty) (v : Val), asg idCfg true a b = true ∧ inst idCfg true b v = true ∧ inst idCfg true a v = false :=
  ⟨.typ (.callable none (some .any) none), .typ (.callable none none none), .typ (.callable (some (.tuple [.str] none)) none none), by
    simp [asg, asgRecv, sameNullary], by simp [inst, asg, asgRecv, sameNullary], by simp [inst, asg, asgRecv, sameNullary]⟩

/-- THE EXCLUSION IS THE ONLY SOURCE: for types without `Type[..]` / `Iterable[..]` (`Ty.Plain`, where the instance relation does not
    depend on the rule: `inst_sfh`), wherever the code's assignability is unsound — `v` is an instance of `b` but not of `a` — the
    relation with the exempt rule switched OFF does not accept `b`; i.e. every unsound acceptance of the code is one that only the
    Struct-from-Hash rule grants (the two relations differ in that one arm of `StructType.IsAssignable` only). -/
theorem C01_unsound_only_by_rule (cfg : Cfg) (hl : LowerLen cfg) (a b : Ty) (v : Val)
    (pa : a.Plain) (pb : b.Plain) (wa : Ty.WF cfg a) (wb : Ty.WF cfg b) (us : b.US) (ok : v.OK) (tv : Val.TyOKS cfg false v)
    (hi : inst cfg true b v = true) (hn : inst cfg true a v = false) : asg cfg false a b = false := by
  cases h : asg cfg false a b with
  | false => rfl
  | true =>
    have hi' : inst cfg false b v = true := by rw [← inst_sfh cfg b v wb pb ok]; exact hi
    have := C01_sound_partial cfg false hl a b v (Ty.Plain.frag a pa) (Ty.Plain.frag b pb)
      wa wb us ok tv h hi'
    rw [← inst_sfh cfg a v wa pa ok, hn] at this
    cases this

/-- non-vacuity: the hypotheses hold on the witness of the exclusion (and there the rule-off relation indeed rejects) -/
example : (Ty.struct [("a", false, .int Rng.all)]).Plain ∧ (Ty.hash .str (.int Rng.all) ⟨1, 1⟩).Plain ∧
    inst idCfg true (.hash .str (.int Rng.all) ⟨1, 1⟩) (.hash [(.str "b", .int 1)]) = true ∧
    inst idCfg true (.struct [("a", false, .int Rng.all)]) (.hash [(.str "b", .int 1)]) = false ∧
    asg idCfg false (.struct [("a", false, .int Rng.all)]) (.hash .str (.int Rng.all) ⟨1, 1⟩) = false := by
  refine ⟨by simp [Ty.Plain], by simp [Ty.Plain], ?_, ?_, ?_⟩
  · simp [inst, instEntries, Rng.contains, Rng.all, I64.min, I64.max]
  · simp [inst, instStruct, hashGetW, keyIsStr]
  · simp [asg, asgRecv, sameNullary]

/-! ### `Type[T]` as the receiver, with Struct (rule off) / Iterable / Data / RichData inside `T` (from `C03_trans_alias_partial`) -/
/-- Soundness of the receiver `Type[x]` for EVERY `x` of `Ty.TA`, the fragment of `C03_trans_alias_partial` (all types but Unit; Struct
    with the rule off): whatever `Type[x]` accepts — after the right-hand decomposition a `Type[y]` with `x ⊒ y`, under Variant / NotUndef —
    has only instances of `Type[x]`.  The right-hand type `b` ranges over the whole fragment; type values `u` inside `v` lie in the
    fragment and are well-formed.  (`C01_sound_partial` covers the same `Type[T]`, nested anywhere; here the
    right-hand type may in addition hold Iterable.) -/
theorem C01_sound_type_receiver (cfg : Cfg) (sfh : Bool) (hl : LowerLen cfg) (x b : Ty) (v : Val)
    (fx : x.TA sfh) (fb : b.TA sfh) (wx : Ty.WF cfg x) (wb : Ty.WF cfg b) (tv : ∀ u, v = .typ u → u.TA sfh ∧ Ty.WF cfg u)
    (h : asg cfg sfh (.typ x) b = true) (hi : inst cfg sfh b v = true) : inst cfg sfh (.typ x) v = true :=
  typ_recv_sound_of cfg sfh x (Ty.TA sfh) (by unfold Ty.TA; exact id) (fun _ h => by unfold Ty.TA at h; exact h)
    (fun _ h => by unfold Ty.TA at h; exact h) (fun _ h => by unfold Ty.TA at h; exact h)
    (fun y u fy fu wy wu => transD cfg sfh hl x y u fx fy fu wx wy wu) b fb wb v tv h hi

/-- non-vacuity: Type[Struct[{a => Data}]] ⊒ Variant[Type[Struct[{a => Integer}]], Type[Struct[{a => Array[String]}]]], and the type
    value Struct[{a => Integer[0,9]}] is an instance of the Variant -/
example (cfg : Cfg) :
    (Ty.struct [("a", false, .data)]).TA false ∧
    (Ty.variant [.typ (.struct [("a", false, .int Rng.all)]), .typ (.struct [("a", false, .array .str Rng.pos)])]).TA false ∧
    asg cfg false (.typ (.struct [("a", false, .data)]))
      (.variant [.typ (.struct [("a", false, .int Rng.all)]), .typ (.struct [("a", false, .array .str Rng.pos)])]) = true ∧
    inst cfg false (.variant [.typ (.struct [("a", false, .int Rng.all)]), .typ (.struct [("a", false, .array .str Rng.pos)])])
      (.typ (.struct [("a", false, .int ⟨0, 9⟩)])) = true := by
  refine ⟨by simp [Ty.TA], by simp [Ty.TA], ?_, ?_⟩
  · simp [asg, asgRecv, asgAllR, sameNullary, structAll, structMember, distinctCount, isStringFamily, floatAll, Rng.sub, Rng.pos,
      Rng.all, I64.max, I64.min]
  · simp [inst, instAny, asg, asgRecv, sameNullary, structAll, structMember, distinctCount, Rng.sub, Rng.all, I64.max, I64.min]

/-! ### `Type[T]` with Callable inside `T` (from `C03_trans_callable_partial`) -/
/-- Soundness of the receiver `Type[x]` for every `x` of `Ty.TSK cfg sfh` — the fragment `Ty.TS` of `C03_trans_struct_partial` plus every
    Callable that is the default Callable or has a parameter list, nested anywhere in `x`, in the right-hand type and in the type
    values: the Callable types of which `C01_type_callable_witness` (parameters absent, a return type present) is NOT one -/
theorem C01_sound_type_receiver_callable (cfg : Cfg) (sfh : Bool) (hl : LowerLen cfg) (x b : Ty) (v : Val)
    (fx : x.TSK cfg sfh) (fb : b.TSK cfg sfh) (wx : Ty.WF cfg x) (wb : Ty.WF cfg b)
    (tv : ∀ u, v = .typ u → u.TSK cfg sfh ∧ Ty.WF cfg u)
    (h : asg cfg sfh (.typ x) b = true) (hi : inst cfg sfh b v = true) : inst cfg sfh (.typ x) v = true :=
  typ_recv_sound_of cfg sfh x (Ty.TSK cfg sfh) (by unfold Ty.TSK; exact id) (fun _ h => by unfold Ty.TSK at h; exact h)
    (fun _ h => by unfold Ty.TSK at h; exact h) (fun _ h => by unfold Ty.TSK at h; exact h)
    (fun y u fy fu wy wu => transGK cfg sfh hl x y u fx fy fu wx wy wu) b fb wb v tv h hi

/-- non-vacuity: Type[Callable[[String], Scalar]] ⊒ Type[Callable[[Scalar], String]], and the type value Callable[[Any], String['a']] is an
    instance of the second -/
example (cfg : Cfg) :
    (Ty.callable (some (.tuple [.str] none)) (some .scalar) none).TSK cfg true ∧
    asg cfg true (.typ (.callable (some (.tuple [.str] none)) (some .scalar) none))
      (.typ (.callable (some (.tuple [.scalar] none)) (some .str) none)) = true ∧
    inst cfg true (.typ (.callable (some (.tuple [.scalar] none)) (some .str) none))
      (.typ (.callable (some (.tuple [.any] none)) (some (.strVal "a")) none)) = true := by
  refine ⟨by simp [Ty.TSK], ?_, ?_⟩ <;>
    simp [inst, asg, asgRecv, tupZip, sameNullary, tupleSize, Rng.exact, Rng.sub, isStringFamily]

end Pcore.Lat

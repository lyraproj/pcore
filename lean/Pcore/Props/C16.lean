import Pcore.Proofs.DispatchRun
import Pcore.Proofs.DispatchCtors
import Pcore.Proofs.DispatchStruct
import Pcore.Proofs.CtorNum
import Pcore.Proofs.CtorNew
import Pcore.Proofs.CtorCoerce
import Pcore.Proofs.CtorHash
import Pcore.Proofs.CtorBinary
import Pcore.Proofs.CtorTimespan
import Pcore.Proofs.CtorInit
import Pcore.Proofs.CtorCanCoerce
import Pcore.Proofs.DispatchBlocks
import Pcore.Model.CtorNew
import Pcore.Generated.FnFacts
/-!
# C16 — Dispatch and construction are type-safe

Property (properties.jsonl): for every function assembled from typed dispatches and every argument list and block, the
body that runs is that of the first dispatch whose declared parameter types, arity and block requirement the arguments
satisfy, no body ever runs with arguments outside its declaration, and when no dispatch matches a reported argument error
is raised.  Creating an instance of a type with `new` yields an instance of that type or a reported error, never a value
outside the type.

All theorems are for ARBITRARY parameter types `T`, values `V`, membership `inst : T → V → Bool`, block types `BT`, blocks
`B` and block acceptance `binst : BT → B → Bool`, any table, any argument list (inductions over lists).

Full statement / proved / missing
* `C16_builder_inv`    — after any accepted sequence of builder calls the state is the declaration's: `types` are the
                         declared parameter types in order, the kinds have the shape required* optional* (repeated |
                         required-repeated-without-optionals)?, `min` = #required, `max` = #parameters or unbounded, and the
                         block fields hold the one declared block (or none).
* `C16_builder_arith`  — the same in plain arithmetic: `min ≤ max`, `types.length = #params`, bounded ⇒ `max = #params` and no
                         repeated parameter, unbounded ⇒ the *last* parameter, and only it, is repeated.
* `C16_builder_rejects`— required after optional, anything after repeated, a second block, `Function` with a block and
                         `Function2` without one are rejected (the panics), for any prefix.
* `C16_resolves`       — `createDispatch` of an accepted builder never hits the `NewIntegerType(min > max)` error.
* `C16_first`          — `call = ran i` ⇒ dispatch `i` exists, is callable, and no earlier one is; `C16_first_conv` the converse.
* `C16_safe`           — `callableWith d args blk` ⇔ arity within `[min,max]`, every argument `j` an instance of type
                         `min(j,last)`, block requirement met (both directions: nothing outside the declaration is accepted,
                         nothing inside it is refused).
* `Alpha.C16_block_accepts` — for a declared block type with parameter types, `Callable[T1,…,Tn,a,b]`: the block is accepted IFF
                         it takes every call the declaration allows (every count in `[a,b]`, argument `j` of type
                         `T[min(j,last)]`); the acceptance test compares the LONGER of the two type lists.
* `C16_nomatch`        — `call = reported` ⇔ no dispatch is callable.
* `C16_call_stateless`, `C16_call_history_free`, `C16_runSeq_first` — a sequence of calls on ONE resolved function object
                         (`callSeq` threads the object through `callStep`) is the single-call semantics applied call by call:
                         the answer is a function of (table, arguments, block) only, the same arguments get the same answer at
                         every position, and each call runs the first creator whose declaration it satisfies.  (The model's
                         `goFunction` has the fields the code has — `name`, `dispatchers` — and `Call` writes none: `C16_fn_facts`, by
                         `decide` over the facts regenerated from internal/function.go on every run; the op
                         `calls` compares whole sequences with the implementation.)
* `C16_decl`           — for a dispatch built by an accepted builder sequence the tuple test equals the *positional reading of
                         the declaration* (`DeclAccepts`: every required parameter receives an argument, no surplus arguments
                         without a repeated parameter, argument `j` ∈ type of parameter `min(j,last)`), which does not mention
                         `min`/`max` at all.
* `C16_run_first`, `C16_run_nomatch`, `C16_run_no_fault` — end to end over the builder calls of a whole table: the body that
                         runs belongs to the first creator whose declaration the arguments and block satisfy; `reported` iff
                         none; the resolve error is unreachable.
* `C16_new`            — `newInstance recv args = value r` ⇒ `r` is an instance of the receiver (of the contained type for
                         `Init[T]`), for every constructor function, hence never a value outside the type; `C16_new_outside`:
                         a constructor result outside the type becomes `reported TYPE_MISMATCH`.
* `Alpha.C16_newm`, `Alpha.C16_ctor_no_fault` — for the constructors modelled end to end on the driver's alphabet
                         (Integer, Float, Numeric, Boolean, Binary, Timespan, Array/Tuple, Hash/Struct with the tree-array dispatch: dispatch
                         table built by the same builder, body, assertion; also through
                         `Init[T]`): the value that comes out is in the receiver type, and no type assertion / index of a body
                         can fail because a body only runs with arguments its declaration accepts (compared value by value
                         with the real constructors by the op `newm`).
* `Alpha.C16_new_struct` — `Struct[{…}].new` (also through `Init`), for every argument list and every dispatch of the
                         modelled Hash constructor: the result has only declared keys and every member is present with a
                         value of its type or optional and absent — the final assertion is on the result VALUE (a hash with
                         an empty / non-string / undeclared key is reported although its inferred `Hash[K,V,n,n]` type is
                         one the Struct is assignable from).  Rests on `inst_struct` (Proofs/DispatchStruct.lean): the count
                         `matched == Len()` of `StructType.IsInstance` read declaratively.
* `Alpha.C16_float_new`, `Alpha.C16_numeric_new`, `Alpha.C16_float_ctor`, `Alpha.C16_numeric_ctor` — the Float and Numeric
                         constructors (positional and named-argument dispatch, `fromConvertible`, `abs`; `strconv.ParseFloat`
                         is an arbitrary function `pf`): the body answers a float (Float) / an integer or a float (Numeric)
                         or the reported argument error, for ANY argument list; hence `Numeric.new` never ends in
                         TYPE_MISMATCH and what `Float[lo,hi].new` returns is a float within the bounds (never NaN).
* `Alpha.C16_float_named_positional`, `Alpha.C16_numeric_named_positional` — `T.new({from => x, abs => a})` is
                         `T.new(x, a)` for ANY values `x`, `a`, and `T.new({from => x})` is `T.new(x)` for every `x` that
                         is not itself a hash.
* `Alpha.C16_number_abs` — with `abs = true` the Numeric / Float constructor answers a non-negative integer (or the minimum
                         integer, whose negation wraps) or `|f|` of a float, which is never `< 0` (`F64.abs_not_neg`).
* `Alpha.C16_string_signature` — the String constructor's signature `(Any, Optional[Variant[Default, String[1], TypeMap]])`: every
                         value alone is accepted (every value is an instance of `Init[String]`); the body is modelled for the
                         format-less scalar cases only (formatting is C20's subject).
* `Alpha.C16_timespan_new`, `Alpha.C16_timespan_fields` — the Timespan constructor (five dispatches: seconds as Integer / Float,
                         a string in one of the eight default formats, positional fields, `{string}`, named fields; int64
                         wrap-around; user-supplied formats are NOT modelled): the result is a Timespan within the bounds;
                         `Timespan.new(n)` is `n·10^9` ns whenever that fits; named fields ≡ positional fields.
* `Alpha.C16_binary_roundtrip`, `Alpha.C16_binary_named_forms` — the Binary constructor (four dispatches; `%b` / `%u` / `%B`
                         base64 with Go's newline skipping and padding rules, `%s` / `%r`; the strict decoder is the codec of
                         the serialization model, reused): `Binary.new(base64 text of bs)` = `Binary.new(bytes of bs)` = bs;
                         and the two named forms that the code answers with an error for every input.
* `Alpha.C16_hash_pairs`, `Alpha.C16_hash_tree` — `Hash[…].new([[k1,v1],…,[kn,vn]])` is the hash with exactly these entries in
                         this order, asserted against the receiver, whichever dispatch takes the array; the tree walk
                         (`tree` / `hash_tree`, Model/CtorHashTree.lean) answers a hash; its type assertions cannot fail
                         (`C16_ctor_no_fault`), its result is asserted like every other (`C16_newm`, `C16_new_struct`).
* `Alpha.C16_wrapper_new` — `new` on `Optional[T]`, `NotUndef[T]`, `Variant[…]` or an alias reports
                         INSTANCE_DOES_NOT_RESPOND and on `Init[wrapper, …]` CTOR_NOT_FOUND for ANY arguments (no constructor is
                         registered under the wrapper's name; the wrapped type's constructor is not consulted).
* `Alpha.C16_init_args`, `Alpha.C16_init_plain` — `Init[T, a…].new(x…) = T.new(x…, a…)`; without init arguments
                         `Init[T].new(x…) = T.new(x…)` when a signature accepts `x…`, else `T.new(*x)` for a single array; in
                         every case the result is asserted against T (`C16_newm` covers `Init[T, a…]`).
* `Alpha.C16_init_instance`, `Alpha.C16_init_type_quirks` — `InitType.IsInstance`: `v` is an instance of `Init[T, a…]` IFF the
                         call `Init[T, a…].new(v)` makes (`createArgs`) is accepted by a signature of T's constructor; then the
                         body of a creator whose declaration the arguments satisfy runs, otherwise `new` is the dispatch's
                         ILLEGAL_ARGUMENTS.  `Init[wrapper]` raises CTOR_NOT_FOUND from `IsInstance`; the default `Init`
                         accepts every value; `IsAssignable` with a contained type is false for every type (as the code is).
* `Alpha.C16_can_coerce_complete`, `Alpha.C16_can_coerce_not_sound` — `types.CanCoerce`: whatever `CoerceTo(T, v)` converts,
                         `CanCoerce(T, v)` answered true (induction over the type, Struct members included; distinct member
                         names); the converse fails in the code (witnesses: a non-array for an Array type, sizes, an array
                         `Init[T]` would expand, a missing member).
* `Alpha.C16_coerce`, `Alpha.C16_coerce_shape`, `Alpha.C16_coerce_wrapper` — `types.CoerceTo(T, v)` (instance test, ONE
                         `Optional` removed, Array / Hash / Struct element-wise, else `new(T', v)`): the result is an instance
                         of the REQUESTED type T; instances are returned unchanged; `Optional[T]` picks T's constructor;
                         `NotUndef`, `Variant`, aliases and a second `Optional` are not looked into.
* missing / trusted    — the other constructors' bodies (String with a format or a container — C20's subject —, Timespan with
                         user-supplied formats, Timestamp, SemVer, SemVerRange, Regexp, URI, Type, Sensitive, object types) and
                         the Object arm of `CoerceTo` are not modelled: `C16_new` quantifies over an arbitrary constructor
                         function, and the general `new` op of the correspondence run is implementation-only (a test with the
                         direct predicate, not a proof); tree-array keys that contain a hash are refused by the model.
                         `strconv.ParseInt`, `strconv.ParseFloat` on decimal text (an arbitrary function in the theorems),
                         `float64`↔`int64` conversion (amd64 for out-of-range values), `encoding/base64` and the regular
                         expressions of the default Timespan formats are modelled, not verified.  Receiver resolution from a *string* (`px.Load`), the
                         mismatch describer that builds the error text, and `block.PType() == nil` are outside the model.
                         Block types are modelled for the shapes `Callable`, `Callable[min,max]` and `Callable[T1,…,Tn,min,max]` (`BTy`; the
                         last is the subject of `C16_block_accepts`); the generic theorems hold for any `binst`.
-/
namespace Pcore.Dispatch

section
variable {T BT V B : Type}

theorem C16_builder_inv (ops : List (BOp T BT)) (b : Builder T BT) (h : steps Builder.init ops = .ok b) :
    ParamInv b (paramsOf ops) ∧ BlockInv b (blocksOf ops) := builder_inv ops b h

theorem C16_builder_arith (ops : List (BOp T BT)) (b : Builder T BT) (h : steps Builder.init ops = .ok b) :
    leMax b.min b.max = true ∧ b.types = (paramsOf ops).map (·.2) ∧ b.types.length = (paramsOf ops).length ∧
    b.min ≤ b.types.length ∧
    (∀ m, b.max = some m → m = b.types.length ∧ ∀ p ∈ paramsOf ops, p.1.repeated = false) ∧
    (b.max = none → ∃ pre p, paramsOf ops = pre ++ [p] ∧ p.1.repeated = true ∧ ∀ q ∈ pre, q.1.repeated = false) := by
  obtain ⟨⟨hty, a, o, tl, hk, -, -, hmax⟩, _⟩ := C16_builder_inv ops b h
  have htl : b.types.length = (paramsOf ops).length := by simp [hty]
  refine ⟨?_, hty, htl, ?_, ?_, ?_⟩
  · exact builder_le ops b h
  · rw [htl]; exact ((C16_builder_inv ops b h).1.min_le_iff _).2 fun _ _ hj _ => (List.getElem?_eq_some_iff.mp hj).1
  · intro m hm
    have hp := (C16_builder_inv ops b h).1
    by_cases hnr : ∀ p ∈ paramsOf ops, p.1.repeated = false
    · rw [hp.max_eq.1 hnr] at hm; exact ⟨by rw [htl]; exact (Option.some.inj hm).symm, hnr⟩
    · rw [hp.max_eq.2 (by simpa using hnr)] at hm; cases hm
  · intro hm
    rw [hmax] at hm
    have key : ∀ k : PKind, k.repeated = true →
        (paramsOf ops).map (·.1) = (List.replicate a .req ++ List.replicate o .opt) ++ [k] →
        ∃ pre p, paramsOf ops = pre ++ [p] ∧ p.1.repeated = true ∧ ∀ q ∈ pre, q.1.repeated = false := by
      intro k hkr hmap
      obtain ⟨l1, l2, hl, h1, h2⟩ := List.map_eq_append_iff.mp hmap
      obtain ⟨p, rfl, hp⟩ := List.map_eq_singleton_iff.mp h2
      refine ⟨l1, p, hl, by rw [hp]; exact hkr, ?_⟩
      intro q hq
      have : q.1 ∈ List.replicate a PKind.req ++ List.replicate o PKind.opt := by
        rw [← h1]; exact List.mem_map.mpr ⟨q, hq, rfl⟩
      simp at this
      rcases this with ⟨_, h'⟩ | ⟨_, h'⟩ <;> rw [h'] <;> rfl
    cases tl with
    | none => simp [tailMax] at hm
    | rep => exact key .rep rfl (by simpa [shapeKinds, Tail.kinds] using hk)
    | reqrep => exact key .reqrep rfl (by simpa [shapeKinds, Tail.kinds] using hk)

/-- the panics: for ANY accepted prefix -/
theorem C16_builder_rejects (pre : List (BOp T BT)) (b : Builder T BT) (h : steps Builder.init pre = .ok b) (t : T) (bt : BT) :
    -- anything after a repeated parameter
    ((∃ p ∈ paramsOf pre, p.1.repeated = true) →
        step b (.param t) = .error .afterRepeated ∧ step b (.optional t) = .error .afterRepeated ∧
        step b (.repeated t) = .error .afterRepeated ∧ step b (.requiredRepeated t) = .error .afterRepeated) ∧
    -- required (plain or repeated) after optional
    ((∃ p ∈ paramsOf pre, p.1 = .opt) → (∀ p ∈ paramsOf pre, p.1.repeated = false) →
        step b (.param t) = .error .requiredAfterOptional ∧ step b (.requiredRepeated t) = .error .requiredAfterOptional) ∧
    -- a second block
    (blocksOf pre ≠ [] → step b (.block bt) = .error .blockTwice ∧ step b (.optionalBlock bt) = .error .blockTwice) ∧
    -- Function with a declared block, Function2 without
    (blocksOf pre ≠ [] → finish b .fn = .error .requiresBlock) ∧
    (blocksOf pre = [] → finish b .fn2 = .error .noBlockExpected) := by
  obtain ⟨⟨hty, a, o, tl, hk, hro, hmin, hmax⟩, hb⟩ := C16_builder_inv pre b h
  have hmem : ∀ k, (∃ p ∈ paramsOf pre, p.1 = k) ↔ k ∈ shapeKinds a o tl := by
    intro k; rw [← hk]; simp [List.mem_map]
  have hsome : blocksOf pre ≠ [] → b.blockType.isSome = true := hb.isSome_iff.mpr
  refine ⟨?_, ?_, ?_, ?_, ?_⟩
  · intro hr
    simp [step, (C16_builder_inv pre b h).1.max_eq.2 hr]
  · rintro ⟨p, hp, hopt⟩ hnr
    obtain rfl := (no_repeated_iff hk).mp hnr
    have ho : 0 < o := by
      have := (hmem .opt).mp ⟨p, hp, hopt⟩
      simp [shapeKinds, Tail.kinds] at this
      omega
    have hlt : ltMax b.min b.max = true := by simp [hmin, hmax, tailMin, tailMax, ltMax]; omega
    have hmax' : b.max = some (a + o) := by simp [hmax, tailMax]
    rw [hmax'] at hlt
    simp [step, hmax', hlt]
  · intro hne
    simp [step, block2, hsome hne, Except.map]
  · intro hne
    simp [finish, hsome hne]
  · intro he
    rw [he] at hb
    simp [finish, hb.1]

/-- `createDispatch` of an accepted builder state never reaches `NewIntegerType(min > max)` -/
theorem C16_resolves (ops : List (BOp T BT)) (b : Builder T BT) (k : FnKind) (h : steps Builder.init ops = .ok b) :
    ∃ d, createDispatch b k = .ok d ∧ d.types = b.types ∧ d.min = b.min ∧ d.max = b.max := resolves ops b k h

variable (inst : T → V → Bool) (binst : BT → B → Bool)

def Satisfies (d : Dispatch T BT) (args : List V) (blk : Option B) : Prop :=
  d.min ≤ args.length ∧ (∀ m, d.max = some m → args.length ≤ m) ∧
  (d.types = [] ∨ ∀ j v, args[j]? = some v → ∃ t, d.types[min j (d.types.length - 1)]? = some t ∧ inst t v = true) ∧
  BlockSat binst d.block blk

theorem C16_first (ds : List (Dispatch T BT)) (args : List V) (blk : Option B) (i : Nat)
    (h : call inst binst ds args blk = .ran i) :
    ∃ d, ds[i]? = some d ∧ callableWith inst binst d args blk = true ∧
      ∀ j, j < i → ∀ d', ds[j]? = some d' → callableWith inst binst d' args blk = false :=
  (call_ran_iff inst binst ds args blk i).mp h

theorem C16_first_conv (ds : List (Dispatch T BT)) (args : List V) (blk : Option B) (i : Nat) (d : Dispatch T BT)
    (hd : ds[i]? = some d) (hc : callableWith inst binst d args blk = true)
    (hall : ∀ j, j < i → ∀ d', ds[j]? = some d' → callableWith inst binst d' args blk = false) :
    call inst binst ds args blk = .ran i :=
  (call_ran_iff inst binst ds args blk i).mpr ⟨d, hd, hc, hall⟩

theorem C16_safe (d : Dispatch T BT) (args : List V) (blk : Option B) :
    callableWith inst binst d args blk = true ↔ Satisfies inst binst d args blk := by
  have hmax : leMax args.length d.max = true ↔ ∀ m, d.max = some m → args.length ≤ m := by
    cases d.max <;> simp [leMax]
  unfold callableWith Satisfies
  rw [Bool.and_eq_true, blockOK_iff, tupleInst_iff, hmax]
  constructor
  · rintro ⟨hb, h1, h2, h3⟩; exact ⟨h1, h2, h3, hb⟩
  · rintro ⟨h1, h2, h3, hb⟩; exact ⟨hb, h1, h2, h3⟩

theorem C16_nomatch (ds : List (Dispatch T BT)) (args : List V) (blk : Option B) :
    (∀ d ∈ ds, callableWith inst binst d args blk = false) ↔ call inst binst ds args blk = .reported :=
  (call_reported_iff inst binst ds args blk).symm

/-- the tuple test of a dispatch built by an accepted builder sequence is the positional reading of the declaration
    (`DeclAccepts`, Proofs/DispatchDecl.lean) -/
theorem C16_decl (ops : List (BOp T BT)) (b : Builder T BT) (h : steps Builder.init ops = .ok b) (args : List V) :
    tupleInst inst b.types b.min b.max args = true ↔ DeclAccepts inst (paramsOf ops) args :=
  decl_iff inst b _ (builder_inv ops b h).1 args

/-! ### end to end: from the builder calls of a table to the body that runs
`CreatorAccepts c args blk` (Proofs/DispatchRun.lean) = `DeclAccepts` of the creator's parameter calls ∧ `BlockSat` of its
(only) block call. -/

/-- the body that runs is that of the FIRST creator whose declaration the arguments and the block satisfy -/
theorem C16_run_first (cs : List (Creator T BT)) (args : List V) (blk : Option B) (i : Nat)
    (h : run inst binst cs args blk = .called (.ran i)) :
    ∃ c, cs[i]? = some c ∧ CreatorAccepts inst binst c args blk ∧
      ∀ j, j < i → ∀ c', cs[j]? = some c' → ¬ CreatorAccepts inst binst c' args blk := by
  cases hb : buildAll cs with
  | error p => simp [run, hb] at h
  | ok bs => exact (run_ran_iff inst binst hb args blk i).mp h

/-- an argument error is reported exactly when no declaration is satisfied -/
theorem C16_run_nomatch (cs : List (Creator T BT)) (args : List V) (blk : Option B)
    (hacc : ∃ bs, buildAll cs = .ok bs) :
    run inst binst cs args blk = .called .reported ↔ ∀ c ∈ cs, ¬ CreatorAccepts inst binst c args blk := by
  obtain ⟨bs, hb⟩ := hacc
  exact run_nomatch inst binst hb args blk

/-- obligation over the facts regenerated from internal/function.go: `goFunction` has no field beyond `name` and
    `dispatchers` and none of its methods writes (or takes the address of) a receiver field — the function object carries
    no call history.  A code change that adds such state breaks this obligation -/
theorem C16_fn_facts : FnStateless Pcore.Generated.fnFacts = true := by decide

/-- the answer to a call is a function of (table, arguments, block) only: in any sequence of calls on one resolved function
    the `k`-th answer is `call` of the `k`-th arguments — whatever was called before -/
theorem C16_call_stateless (s : FnState T BT) (calls : List (List V × Option B)) :
    callSeq inst binst s calls = calls.map fun c => call inst binst s.dispatchers c.1 c.2 := by
  induction calls generalizing s with
  | nil => rfl
  | cons c rest ih => obtain ⟨a, b⟩ := c; simp [callSeq, callStep, ih]

/-- hence the same arguments and block get the same answer at every position of every sequence -/
theorem C16_call_history_free (s : FnState T BT) (calls : List (List V × Option B)) (i j : Nat) (c : List V × Option B)
    (hi : calls[i]? = some c) (hj : calls[j]? = some c) :
    (callSeq inst binst s calls)[i]? = (callSeq inst binst s calls)[j]? := by
  simp [C16_call_stateless, List.getElem?_map, hi, hj]

/-- and end to end: the body that runs for call `k` of a sequence is that of the first creator whose declaration its
    arguments and block satisfy -/
theorem C16_runSeq_first (cs : List (Creator T BT)) (calls : List (List V × Option B)) (os : List Outcome)
    (h : runSeq inst binst cs calls = .called os) (k i : Nat) (hk : os[k]? = some (.ran i)) :
    ∃ c, calls[k]? = some c ∧ run inst binst cs c.1 c.2 = .called (.ran i) := by
  unfold runSeq at h
  cases hb : buildAll cs with
  | error p => simp [hb] at h
  | ok bs =>
    simp only [hb] at h
    cases hr : resolveAll bs with
    | error e => simp [hr] at h
    | ok ds =>
      simp only [hr] at h
      cases h
      rw [C16_call_stateless, List.getElem?_map] at hk
      cases hc : calls[k]? with
      | none => simp [hc] at hk
      | some c =>
        simp [hc] at hk
        exact ⟨c, rfl, by simp [run, hb, hr, hk]⟩

/-- an accepted table always resolves: the `NewIntegerType` error of `createDispatch` is unreachable -/
theorem C16_run_no_fault (cs : List (Creator T BT)) (args : List V) (blk : Option B) (e : ResolveError) :
    run inst binst cs args blk ≠ .resolveFailed e :=
  run_no_fault inst binst cs args blk e


end

section
variable {T V : Type} (inst : T → V → Bool)

/-- (`Recv.type?`, Proofs/CtorNew.lean: the type a `new` on this receiver must produce an instance of — the receiver, the
    contained type for `Init[T]`) -/
theorem C16_new (recv : Recv T V) (args : List V) (r : V) (h : newInstance inst recv args = .value r) :
    ∃ t, recv.type? = some t ∧ inst t r = true := newInstance_value inst recv args r h

/-- a constructor result outside the type is turned into a reported error -/
theorem C16_new_outside (t : T) (f : List V → CtorResult V) (args : List V) (v : V) (hf : f args = .value v)
    (ho : inst t v = false) :
    newInstance inst (.ctor t f) args = .reported "TYPE_MISMATCH" ∧
    newInstance inst (.init t f) args = .reported "TYPE_MISMATCH" := by
  simp [newInstance, hf, assertInstance, ho]

end

namespace Alpha

/-- a declared block type `Callable[T1,…,Tn,a,b]` accepts a block IFF the block takes every call the declaration allows — every
    argument count in `[a,b]`, argument `j` of the declared type at position `min(j, last)`: `binst` (the model of
    `CallableType.IsAssignable` over `TupleType.IsAssignable` that `CallableWith` uses, with its position loop over the LONGER of
    the two type lists) is exactly that meaning.  With `C16_safe` / `C16_first`: a body whose dispatch declares a typed block
    runs only with a block it can call in every declared way -/
theorem C16_block_accepts (ts : List BP) (hts : ts ≠ []) (a : Nat) (b : Option Nat) (hab : leMax a b = true) (k : Blk) :
    binst (.typed ts a b) k = true ↔ ∀ n, a ≤ n → leMax n b = true → TakesCall k n (typeAt ts) :=
  binst_typed_iff ts hts a b hab k

-- `Callable[String,Integer,2,3]`: a block (String, Integer, Integer?) is accepted, (String, Integer, String?) — incompatible
-- only beyond the declared list — and the shorter (String, Integer) are refused; a longer declaration against a shorter block
example : [BP.str, BP.int] ≠ [] ∧ leMax 2 (some 3) = true := by decide
example : binst (.typed [.str, .int] 2 (some 3)) { min := 2, max := some 3, types := [.str, .int, .int] } = true := by decide
example : binst (.typed [.str, .int] 2 (some 3)) { min := 2, max := some 3, types := [.str, .int, .str] } = false := by decide
example : binst (.typed [.str, .int] 2 (some 3)) { min := 2, max := some 2, types := [.str, .int] } = false := by decide
example : binst (.typed [.str, .int] 2 (some 3)) { min := 1, max := none, types := [.str, .num] } = true := by decide
example : binst (.typed [.str, .int, .bool] 1 (some 2)) { min := 1, max := some 3, types := [.str, .int, .str] } = true := by decide
example : binst (.typed [.num, .bool] 1 none) { min := 1, max := none, types := [.num] } = false := by decide
example : run inst binst
    [ { ops := [.param (.str 0 none), .block (.typed [.str, .int] 2 (some 3))], kind := .fn2 }, { ops := [.repeated .any], kind := .fn } ]
    [.str "a"] (some { min := 2, max := some 3, types := [.str, .int, .str] }) = .called .reported := by decide

/-! ### the modelled constructors on the alphabet values: `new` end to end
`pf` is `strconv.ParseFloat(·, 64)` as a function from the text to the bits of the result: every theorem is for an ARBITRARY
`pf`; the driver (and the examples) use the exact reader of Model/Num.lean. -/

section
variable (pf : List Char → Option Nat)

/-- what `new` returns is an instance of the receiver (of the contained type for `Init[T]`) — for every modelled
    constructor (`ctorOf`): the assertion is made on the constructor's result VALUE -/
theorem C16_newm (r : RecvTy) (args : List Val) (v : Val) (h : newModel pf r args = some (.value v)) :
    ∃ t, r.type? = some t ∧ inst t v = true := newModel_value pf r args v h

theorem ctorOf_sound (t : Ty) (c : Ctor) (h : ctorOf pf t = .some c) :
    (∃ bs, buildAll c.creators = .ok bs) ∧ ∀ a, ctorCall c a ≠ .fault := by
  unfold ctorOf at h
  split at h <;> cases h
  · exact ⟨⟨_, rfl⟩, integer_no_fault⟩
  · exact ⟨⟨_, rfl⟩, fun a => float_call pf a ▸ numberCall_no_fault pf false a⟩
  · exact ⟨⟨_, rfl⟩, fun a => numeric_call pf a ▸ numberCall_no_fault pf true a⟩
  · exact ⟨⟨_, rfl⟩, boolean_no_fault⟩
  · exact ⟨⟨_, rfl⟩, binary_no_fault⟩
  · exact ⟨⟨_, rfl⟩, timespan_no_fault⟩
  · exact ⟨⟨_, rfl⟩, array_no_fault⟩
  · exact ⟨⟨_, rfl⟩, array_no_fault⟩
  · exact ⟨⟨_, rfl⟩, hash_no_fault⟩
  · exact ⟨⟨_, rfl⟩, hash_no_fault⟩
  · exact ⟨⟨_, rfl⟩, string_no_fault⟩

theorem ctorOf_no_fault (t : Ty) (c : Ctor) (h : ctorOf pf t = .some c) : ∀ a, ctorCall c a ≠ .fault :=
  (ctorOf_sound pf t c h).2

theorem ctorOf_builds (t : Ty) (c : Ctor) (h : ctorOf pf t = .some c) : ∃ bs, buildAll c.creators = .ok bs :=
  (ctorOf_sound pf t c h).1

/-- no type assertion or index in the bodies of the modelled constructors can fail: a body runs only with arguments its
    declaration accepts -/
theorem C16_ctor_no_fault (r : RecvTy) (args : List Val) : newModel pf r args ≠ some .fault := by
  intro h
  obtain ⟨recv, hr, hn⟩ := newModel_some pf r args _ h
  refine newInstance_no_fault inst recv args (fun t f hrf => ?_) hn
  obtain ⟨c, hc, rfl | ⟨ia, rfl⟩⟩ := (recvOf_some pf hr).2 t f hrf
  · exact ctorOf_no_fault pf _ c hc args
  · exact initCall_no_fault c (ctorOf_no_fault pf _ c hc) _ args
/-- `Struct[{…}].new` (distinct member names), whichever dispatch of the Hash constructor produced the hash and whatever
    its keys are: what comes out has only declared keys, and every member is present with a value of its type or is
    optional and absent.  The assertion looks at the VALUE: a hash with an empty, a non-string or an undeclared key is
    never returned, although its inferred type `Hash[K,V,n,n]` is one the Struct type is assignable from -/
theorem C16_new_struct (ms : List (String × Bool × Ty)) (hnd : (ms.map (·.1)).Nodup) (init : Bool) (ia args : List Val) (v : Val)
    (h : newModel pf (if init then .init (.struct ms) ia else .plain (.struct ms)) args = some (.value v)) :
    ∃ es, v = .hash es ∧ (∀ e ∈ es, ∃ m ∈ ms, e.1 = .str m.1) ∧
      ∀ m ∈ ms, (∃ x, lookupKey m.1 es = some x ∧ inst m.2.2 x = true) ∨ (m.2.1 = true ∧ lookupKey m.1 es = none) := by
  cases init
  · exact inst_struct ms hnd v (newModel_plain_value pf h)
  · exact inst_struct ms hnd v (newModel_init_value pf h)

/-- the Float constructor (before the final assertion) answers a float or the reported argument error, for ANY arguments -/
theorem C16_float_ctor (args : List Val) :
    (∃ b, ctorCall (floatCtor pf) args = .value (.float b)) ∨ ctorCall (floatCtor pf) args = .reported "ILLEGAL_ARGUMENTS" := by
  rcases float_ctor_cases pf args with ⟨v, hv, hf⟩ | h
  · cases v <;> simp [isFloat] at hf
    exact Or.inl ⟨_, hv⟩
  · exact Or.inr h

/-- the Numeric constructor answers an integer or a float, or the reported argument error -/
theorem C16_numeric_ctor (args : List Val) :
    (∃ v, ctorCall (numericCtor pf) args = .value v ∧ inst .numeric v = true) ∨
    ctorCall (numericCtor pf) args = .reported "ILLEGAL_ARGUMENTS" := by
  rcases numeric_ctor_cases pf args with ⟨v, hv, hn⟩ | h
  · refine Or.inl ⟨v, hv, ?_⟩
    cases v <;> simp [isNumber] at hn <;> simp [inst]
  · exact Or.inr h

/-- `Float[lo,hi].new(…)` returns a float within the (effective) bounds, never NaN -/
theorem C16_float_new (lo hi : Int) (args : List Val) (v : Val)
    (h : newModel pf (.plain (.float lo hi)) args = some (.value v)) :
    ∃ b, v = .float b ∧ F64.inRange lo hi b = true ∧ F64.isNaN b = false := by
  obtain ⟨b, rfl, hr⟩ := inst_float.mp (newModel_plain_value pf h)
  refine ⟨b, rfl, hr, ?_⟩
  cases hn : F64.isNaN b
  · rfl
  · simp [F64.inRange, F64.key, hn] at hr

/-- `Numeric.new(…)` is an integer, a float or the argument error: the final assertion never fails, no TYPE_MISMATCH -/
theorem C16_numeric_new (args : List Val) :
    (∃ v, newModel pf (.plain .numeric) args = some (.value v) ∧ inst .numeric v = true) ∨
    newModel pf (.plain .numeric) args = some (.reported "ILLEGAL_ARGUMENTS") := by
  rcases C16_numeric_ctor pf args with ⟨v, hv, hn⟩ | h
  · exact Or.inl ⟨v, by simp [newModel_plain_eq, ctorOf, newOut, hv, assertInstance, hn], hn⟩
  · exact Or.inr (by simp [newModel_plain_eq, ctorOf, newOut, h])

/-- the named-argument form is the positional form: `Float[lo,hi].new({from => x, abs => a}) = Float[lo,hi].new(x, a)` for
    ANY two values, and `Float[lo,hi].new({from => x}) = Float[lo,hi].new(x)` for every `x` that is not itself a hash -/
theorem C16_float_named_positional (lo hi : Int) (x a : Val) :
    newModel pf (.plain (.float lo hi)) [.hash [(.str "from", x), (.str "abs", a)]] =
      newModel pf (.plain (.float lo hi)) [x, a] ∧
    ((∀ es, x ≠ .hash es) →
      newModel pf (.plain (.float lo hi)) [.hash [(.str "from", x)]] = newModel pf (.plain (.float lo hi)) [x]) := by
  constructor
  · simp only [newModel_plain_eq, ctorOf, float_call, numberCall_named2]
  · intro hx
    simp only [newModel_plain_eq, ctorOf, float_call, numberCall_named1 pf false x hx]

theorem C16_numeric_named_positional (x a : Val) :
    newModel pf (.plain .numeric) [.hash [(.str "from", x), (.str "abs", a)]] = newModel pf (.plain .numeric) [x, a] ∧
    ((∀ es, x ≠ .hash es) →
      newModel pf (.plain .numeric) [.hash [(.str "from", x)]] = newModel pf (.plain .numeric) [x]) := by
  constructor
  · simp only [newModel_plain_eq, ctorOf, numeric_call, numberCall_named2]
  · intro hx
    simp only [newModel_plain_eq, ctorOf, numeric_call, numberCall_named1 pf true x hx]

/-- `abs = true`: what the body of the Numeric (`tryInt`) or Float constructor answers is a non-negative integer (or the
    minimum integer) or `floatValue.Abs` of a float — and that is never `< 0` for a double -/
theorem C16_number_abs (from_ : Val) (tryInt : Bool) (v : Val)
    (h : numberBody pf from_ (some (.bool true)) tryInt = .value v) :
    AbsResult v ∧ ∀ b, b < 2 ^ 64 → F64.ltZero (F64.abs b) = false := by
  refine ⟨?_, F64.abs_not_neg⟩
  unfold numberBody at h
  rcases fromConvertible_cases pf from_ tryInt with ⟨w, hw, hn, _⟩ | hr
  · rw [hw] at h
    cases w <;> simp [isNumber] at hn <;> simp [asBool] at h <;> subst h
    · exact absInt_nonneg _
    · exact ⟨_, rfl⟩
  · rw [hr] at h; cases h

/-- `Hash[K,V,…].new([[k1,v1],…,[kn,vn]])` (n ≥ 1; also for a Struct receiver): the hash with exactly these entries in this
    order — asserted against the receiver — whichever dispatch takes the array (the tree-array dispatch does when every key
    is an array; with one argument it wraps the pairs just the same).  Equal keys are not merged -/
theorem C16_hash_pairs (t : Ty) (hc : ctorOf pf t = .some hashCtor) (es : List (Val × Val)) (hne : es ≠ []) :
    newModel pf (.plain t) [.arr (es.map pairArr)] =
      some (if inst t (.hash es) then .value (.hash es) else .reported "TYPE_MISMATCH") := by
  simp only [newModel_plain pf hc, hashCtor_pairs es hne, newOut, assertInstance]

/-- with the `tree` / `hash_tree` option the body answers a hash (the frozen tree) or refuses a key that contains a hash
    (not modelled); no fault (C16_ctor_no_fault) -/
theorem C16_hash_tree (entries : List Val) (option r : Val) (h : treeBody entries option = .value r) : ∃ es, r = .hash es := by
  unfold treeBody at h
  cases option <;> simp at h
  exact treeLoop_hash _ entries [] r h

/-- `Binary.new` of the (strict, padded) base64 text of a byte string — with the default format and with `%B` — and of the
    byte string as an array of integers is that byte string -/
theorem C16_binary_roundtrip (bs : List UInt8) :
    newModel pf (.plain .binary) [.str (Pcore.Ser.b64 bs)] = some (.value (.binary bs)) ∧
    newModel pf (.plain .binary) [.str (Pcore.Ser.b64 bs), .str "%B"] = some (.value (.binary bs)) ∧
    newModel pf (.plain .binary) [.arr (bs.map fun b => .int b.toNat)] = some (.value (.binary bs)) := by
  have hnew : ∀ args, ctorCall binaryCtor args = .value (.binary bs) →
      newModel pf (.plain .binary) args = some (.value (.binary bs)) := fun args h => by
    simp [newModel_plain_eq, ctorOf, newOut, h, assertInstance, inst]
  have body1 : ∀ s, binaryCtor.body 0 [.str s] = binaryFromString s "%B" := fun _ => rfl
  have body2 : ∀ s f, binaryCtor.body 0 [.str s, .str f] = binaryFromString s f := fun _ _ => rfl
  refine ⟨hnew _ ?_, hnew _ ?_, hnew _ ?_⟩
  · rw [ctorCall_ran (i := 0) (by
      rw [binary_run]
      simp [tupleInst, sizeOK, instLoop, leMax, inst]), body1, binaryFromString_b64]
  · rw [ctorCall_ran (i := 0) (by
      rw [binary_run]
      simp [tupleInst, sizeOK, instLoop, leMax, inst, encodingTy]), body2,
      binaryFromString_b64]
  · rw [ctorCall_ran (i := 1) (by
      rw [binary_run]
      simp [tupleInst, sizeOK, instLoop, leMax, byteArray_inst bs]
      simp [inst])]
    simp [binaryCtor, binaryFromList_bytes]

/-- the named forms as the code has them (both reported errors, so the property holds; recorded as observations):
    `Binary.new({value => s})` without a format is ILLEGAL_ARGUMENT for EVERY string (the format handed on is
    `undef.String()`), and `Binary.new({value => [b1,…]})` is an error for EVERY array (the hash itself is read as the byte
    list) -/
theorem C16_binary_named_forms (s : String) (vs : List Val) :
    newModel pf (.plain .binary) [.hash [(.str "value", .str s)]] = some (.reported "ILLEGAL_ARGUMENT") ∧
    (newModel pf (.plain .binary) [.hash [(.str "value", .arr vs)]] = some (.reported "ILLEGAL_ARGUMENT") ∨
     newModel pf (.plain .binary) [.hash [(.str "value", .arr vs)]] = some (.reported "ILLEGAL_ARGUMENTS")) := by
  have hs : ctorCall binaryCtor [.hash [(.str "value", .str s)]] = .reported "ILLEGAL_ARGUMENT" := by
    rw [(ctorCall_of_run (binary_run_hash _)).1]
    have h1 : inst stringHashTy (.hash [(.str "value", .str s)]) = true := by
      simp [stringHashTy, inst, instMembers, lookupKey, leMax]
    simp [h1, binaryCtor, lookupKey, strOf, binaryFromString]
  have hv : ctorCall binaryCtor [.hash [(.str "value", .arr vs)]] = .reported "ILLEGAL_ARGUMENT" ∨
      ctorCall binaryCtor [.hash [(.str "value", .arr vs)]] = .reported "ILLEGAL_ARGUMENTS" := by
    rw [(ctorCall_of_run (binary_run_hash _)).1]
    have h1 : inst stringHashTy (.hash [(.str "value", .arr vs)]) = false := by
      simp [stringHashTy, inst, instMembers, lookupKey]
    by_cases h2 : inst arrayHashTy (.hash [(.str "value", .arr vs)]) = true
    · left; simp [h1, h2, binaryCtor]
    · right; simp [h1, h2]
  exact ⟨by simp [newModel_plain_eq, ctorOf, newOut, hs], hv.imp (fun h => by simp [newModel_plain_eq, ctorOf, newOut, h])
    (fun h => by simp [newModel_plain_eq, ctorOf, newOut, h])⟩

/-- the String constructor takes ANY single value (so every value is an instance of `Init[String]`), and a second argument
    exactly when it is `default`, a non-empty string or — on the alphabet, which has no `Type` values — the empty hash -/
theorem C16_string_signature (v f : Val) :
    anyCallable stringCtor [v] = true ∧ (anyCallable stringCtor [v, f] = inst stringFormatsTy f) ∧
    initIsInstance pf (.init (.str 0 none) []) v = .ok true := by
  have h1 : anyCallable stringCtor [v] = true := by
    rw [(ctorCall_of_run (string_run _)).2]; simp [tupleInst, sizeOK, instLoop, leMax, inst]
  refine ⟨h1, ?_, ?_⟩
  · rw [(ctorCall_of_run (string_run _)).2]
    cases hf : inst stringFormatsTy f <;> simp [tupleInst, sizeOK, instLoop, leMax, inst, hf]
  · simp [initIsInstance, ctorOf, initInstTest, h1]

/-- what `Timespan[lo,hi].new(…)` returns is a Timespan within the bounds -/
theorem C16_timespan_new (lo hi : Int) (args : List Val) (v : Val)
    (h : newModel pf (.plain (.timespan lo hi)) args = some (.value v)) : ∃ n, v = .timespan n ∧ lo ≤ n ∧ n ≤ hi := by
  obtain ⟨n, rfl, hn⟩ := inst_timespan.mp (newModel_plain_value pf h)
  exact ⟨n, rfl, by simpa using hn⟩

/-- `Timespan.new(n)` is `n` seconds (int64 arithmetic: exact whenever `n·10^9` fits); the seven positional fields and the
    hash of named fields are the same polynomial `fromFields`, so
    `Timespan.new({days => d, …, nanoseconds => ns, negative => false}) = Timespan.new(d, h, m, s, ms, us, ns)` -/
theorem C16_timespan_fields (neg : Bool) (n d h m s ms us ns : Int) :
    ctorCall timespanCtor [.int n] = .value (.timespan (F64.wrap64 (n * 1000000000))) ∧
    (F64.minInt ≤ n * 1000000000 → n * 1000000000 ≤ F64.maxInt → ctorCall timespanCtor [.int n] = .value (.timespan (n * 1000000000))) ∧
    ctorCall timespanCtor [.int d, .int h, .int m, .int s, .int ms, .int us, .int ns] =
      .value (.timespan (fromFields false d h m s ms us ns)) ∧
    ctorCall timespanCtor [fieldsHash neg d h m s ms us ns] = .value (.timespan (fromFields neg d h m s ms us ns)) := by
  have h0 : ctorCall timespanCtor [.int n] = .value (.timespan (F64.wrap64 (n * 1000000000))) :=
    ctorCall_ran (i := 0) (by
      rw [timespan_run]
      simp [tupleInst, sizeOK, instLoop, leMax, secondsTy, inst, instAny, inRange])
  refine ⟨h0, fun h1 h2 => ?_, ctorCall_ran (i := 2) (by
    rw [timespan_run]
    simp [tupleInst, sizeOK, instLoop, leMax, secondsTy, inst, instAny, inRange]), ?_⟩
  · have : F64.wrap64 (n * 1000000000) = n * 1000000000 := by
      unfold F64.wrap64
      simp [F64.minInt, F64.maxInt] at h1 h2
      omega
    rw [h0, this]
  · rw [ctorCall_ran (i := 4) (by
      rw [timespan_run]
      simp [fieldsHash, tupleInst, sizeOK, instLoop, leMax, secondsTy, inst, instAny,
        spanStringHash, spanFieldsHash, instMembers, lookupKey, inRange])]
    show CtorResult.value (Val.timespan (fieldsOfHash _)) = _
    simp [fieldsOfHash, intArg, boolArg, lookupKey]

/-- a type that wraps another: `Optional[T]`, `NotUndef[T]`, `Variant[…]`, an alias -/
def IsWrapper : Ty → Prop
  | .opt _ => True
  | .notUndef _ => True
  | .var _ => True
  | .alias _ => True
  | _ => False

theorem ctorOf_wrapper (w : Ty) (hw : IsWrapper w) : ctorOf pf w = .none := by
  cases w with
  | opt t | notUndef t | alias t => rfl
  | var ts => rfl
  | _ => exact hw.elim

/-- `new` on a wrapper never reaches the wrapped type's constructor: the wrapper's own name has none.  `W.new(…)` reports
    INSTANCE_DOES_NOT_RESPOND and `Init[W, …].new(…)` CTOR_NOT_FOUND, whatever the arguments — in particular nothing comes
    out that could be outside the type -/
theorem C16_wrapper_new (w : Ty) (hw : IsWrapper w) (ia args : List Val) :
    newModel pf (.plain w) args = some (.reported "INSTANCE_DOES_NOT_RESPOND") ∧
    newModel pf (.init w ia) args = some (.reported "CTOR_NOT_FOUND") :=
  newModel_noCtor pf (ctorOf_wrapper pf w hw) ia args

/-- `Init[T, a…].new(x…)` with init arguments is `T.new(x…, a…)`: the constructor of T, the given arguments followed by the
    init arguments, the result asserted against T -/
theorem C16_init_args (t : Ty) (c : Ctor) (hc : ctorOf pf t = .some c) (ia args : List Val) (hia : ia ≠ []) :
    newModel pf (.init t ia) args = newModel pf (.plain t) (args ++ ia) := by
  have : ia.isEmpty = false := by cases ia <;> simp at hia ⊢
  simp [newModel_init pf hc, newModel_plain pf hc, initCall, this]

/-- `Init[T].new(x…)` without init arguments: `T.new(x…)` when some signature of the constructor accepts the arguments as
    given; otherwise a single array argument is expanded: `T.new(*array)` -/
theorem C16_init_plain (t : Ty) (c : Ctor) (hc : ctorOf pf t = .some c) (args : List Val) :
    (anyCallable c args = true → newModel pf (.init t []) args = newModel pf (.plain t) args) ∧
    (∀ vs, args = [.arr vs] → anyCallable c args = false → newModel pf (.init t []) args = newModel pf (.plain t) vs) := by
  constructor
  · intro h
    simp [newModel_init pf hc, newModel_plain pf hc, initCall, h]
  · rintro vs rfl h
    simp [newModel_init pf hc, newModel_plain pf hc, initCall, h]

/-- `v` is an instance of `Init[T, ia…]` IFF the call that `Init[T, ia…].new(v)` makes — `createArgs`: the value followed by
    the init arguments, or the value alone, or its elements when it is an array that no signature accepts whole — is
    accepted by some signature of T's constructor.  Then `new` runs the body of a creator whose declaration the arguments
    satisfy; otherwise `new` is the dispatch's ILLEGAL_ARGUMENTS -/
theorem C16_init_instance (t : Ty) (c : Ctor) (hc : ctorOf pf t = .some c) (ia : List Val) (v : Val) :
    (initIsInstance pf (.init t ia) v = .ok true ↔ anyCallable c (createArgs c ia [v]) = true) ∧
    (initIsInstance pf (.init t ia) v = .ok true →
      ∃ i cr, c.creators[i]? = some cr ∧ CreatorAccepts inst binst cr (createArgs c ia [v]) (none : Option Blk) ∧
        initCall c ia [v] = c.body i (createArgs c ia [v])) ∧
    (initIsInstance pf (.init t ia) v = .ok false →
      newModel pf (.init t ia) [v] = some (.reported "ILLEGAL_ARGUMENTS")) := by
  have hshape : initIsInstance pf (.init t ia) v = .ok (anyCallable c (createArgs c ia [v])) := by
    simp only [initIsInstance, hc, initInstTest_eq]
  rw [hshape]
  refine ⟨?_, ?_, ?_⟩
  · constructor
    · intro h; exact Except.ok.inj h
    · intro h; rw [h]
  · intro h
    obtain ⟨i, cr, hcr, hacc, hbody⟩ := anyCallable_true c (ctorOf_builds pf t c hc) _ (Except.ok.inj h)
    exact ⟨i, cr, hcr, hacc, by rw [initCall_eq, hbody]⟩
  · intro h
    have := anyCallable_false c (ctorOf_builds pf t c hc) _ (Except.ok.inj h)
    simp [newModel_init pf hc, newOut, initCall_eq, this]

/-- `Init[W]` around a type without constructor raises CTOR_NOT_FOUND from `IsInstance` too; the default `Init` accepts every
    value of the alphabet (RichData); `IsAssignable` of an `Init[T, …]` with a contained type is false for every type -/
theorem C16_init_type_quirks (w : Ty) (hw : IsWrapper w) (t o : Ty) (c : Ctor) (hc : ctorOf pf t = .some c) (ia : List Val)
    (v : Val) :
    initIsInstance pf (.init w ia) v = .error "CTOR_NOT_FOUND" ∧ initIsInstance pf .initDefault v = .ok true ∧
    initIsAssignable pf t ia o = .ok false := by
  refine ⟨?_, rfl, by simp [initIsAssignable, hc]⟩
  simp [initIsInstance, ctorOf_wrapper pf w hw]

/-- what `CoerceTo(T, v)` returns is an instance of the REQUESTED type `T` — through `Optional`, into the elements of
    arrays, the keys and values of hashes and the members of structs, and through every constructor it ends in -/
theorem C16_coerce (t : Ty) (v r : Val) (h : coerceTo pf t v = .value r) : inst t r = true :=
  ((coerce_spec_aux pf _ t (Nat.lt_succ_self _) v r).1 h).1

/-- an instance is returned as it is; anything else goes to the switch with ONE `Optional` removed: `Optional[T]` picks the
    constructor of `T` (`coerceCore T` is `new(T, v)` unless `T` is an Array, Hash or Struct type), and the result is an
    instance of `T`, hence of `Optional[T]` -/
theorem C16_coerce_shape (t : Ty) (v : Val) :
    (inst t v = true → coerceTo pf t v = .value v) ∧
    (inst (.opt t) v = false → coerceTo pf (.opt t) v = coerceCore pf t v) := by
  constructor
  · intro h; rw [coerceTo_eq]; simp [h]
  · intro h; rw [coerceTo_eq]; simp [h, unwrapOpt]

/-- `CanCoerce` is COMPLETE for `CoerceTo`: whatever `CoerceTo(T, v)` converts, `CanCoerce(T, v)` answered `true` (for types
    whose Struct types have distinct member names).  The converse is false in the code (`C16_can_coerce_not_sound`) -/
theorem C16_can_coerce_complete (t : Ty) (hnd : t.NodupNames) (v r : Val) (h : coerceTo pf t v = .value r) :
    canCoerce pf t v = .ok true :=
  ((coerce_spec_aux pf _ t (Nat.lt_succ_self _) v r).1 h).2 hnd

/-- the wrappers `CoerceTo` does not look into: a value that is not an instance of `NotUndef[T]`, `Variant[…]`, an alias
    or a doubly optional type is refused, even when the wrapped type's constructor would have converted it -/
theorem C16_coerce_wrapper (w : Ty) (hw : IsWrapper w) (v : Val) :
    (inst w v = false → (∀ t, w ≠ .opt t) → coerceTo pf w v = .reported "INSTANCE_DOES_NOT_RESPOND") ∧
    (inst (.opt w) v = false → coerceTo pf (.opt w) v = .reported "INSTANCE_DOES_NOT_RESPOND") := by
  -- the switch sends a wrapper to `new`, which finds no constructor
  have hcore : coerceCore pf w v = .reported "INSTANCE_DOES_NOT_RESPOND" := by
    have hnew : newOne pf w v = .reported "INSTANCE_DOES_NOT_RESPOND" := by
      simp [newOne, (newModel_noCtor pf (ctorOf_wrapper pf w hw) [] [v]).1]
    cases w with
    | opt t | notUndef t | alias t => exact hnew
    | var ts => exact hnew
    | _ => exact hw.elim
  constructor
  · intro h hno
    have : unwrapOpt w = w := by
      cases w with
      | opt t => exact absurd rfl (hno t)
      | _ => rfl
    rw [coerceTo_eq, this, hcore]
    simp [h]
  · intro h
    rw [coerceTo_eq]
    simp [h, unwrapOpt, hcore]

end

/-- the exact decimal reader of Model/Num.lean: what the driver uses for `strconv.ParseFloat` -/
def pfx : List Char → Option Nat := fun cs => Pcore.Syntax.parseFloat cs

-- non-vacuity and the excluded values: a declared hash is returned; '' / non-string / undeclared keys and a missing
-- member are reported, through the hash, the key-value-array and the flat-array dispatch
def structA : Ty := .struct [("a", false, .int none none)]
def structAB : Ty := .struct [("a", false, .int none none), ("b", true, .bool)]
example : newModel pfx (.plain structA) [.hash [(.str "a", .int 1)]] = some (.value (.hash [(.str "a", .int 1)])) := by rfl
example : newModel pfx (.plain structAB) [.arr [.arr [.str "b", .bool true], .arr [.str "a", .int 1]]] =
    some (.value (.hash [(.str "b", .bool true), (.str "a", .int 1)])) := by rfl
example : newModel pfx (.plain structA) [.hash [(.str "", .int 1)]] = some (.reported "TYPE_MISMATCH") := by rfl
example : newModel pfx (.plain structA) [.arr [.str "", .int 1]] = some (.reported "TYPE_MISMATCH") := by rfl
example : newModel pfx (.plain (.struct [("a", true, .int none none)])) [.hash [(.int 1, .bool true)]] =
    some (.reported "TYPE_MISMATCH") := by rfl
example : newModel pfx (.plain structAB) [.hash [(.str "a", .int 1), (.str "", .int 2)]] = some (.reported "TYPE_MISMATCH") := by rfl
example : newModel pfx (.plain structAB) [.hash [(.str "a", .int 1), (.str "a", .int 2)]] = some (.reported "TYPE_MISMATCH") := by rfl
example : newModel pfx (.init structA []) [.hash [(.str "z", .int 1)]] = some (.reported "TYPE_MISMATCH") := by rfl
example : newModel pfx (.plain (.hash (.int none none) .any 1 (some 1))) [.arr [.int 1, .undef]] =
    some (.value (.hash [(.int 1, .undef)])) := by rfl

example : newModel pfx (.plain (.int none none)) [.int 3] = some (.value (.int 3)) := by rfl
example : newModel pfx (.plain (.int none none)) [.int (-3), .default, .bool true] = some (.value (.int 3)) := by rfl
example : newModel pfx (.plain (.int (some 0) (some 5))) [.bool true] = some (.value (.int 1)) := by rfl
example : newModel pfx (.init (.int (some 0) (some 5)) []) [.int 7] = some (.reported "TYPE_MISMATCH") := by rfl
example : newModel pfx (.plain (.arr (.int none none) 1 none)) [.arr [.int 1], .bool true] = some (.reported "TYPE_MISMATCH") := by rfl
example : newModel pfx (.plain (.arr .any 1 none)) [.arr [.int 1], .bool true] = some (.value (.arr [.arr [.int 1]])) := by rfl
example : newModel pfx (.plain .bool) [.int 0] = some (.value (.bool false)) := by rfl
example : newModel pfx (.plain (.opt (.int none none))) [.int 0] = some (.reported "INSTANCE_DOES_NOT_RESPOND") := by rfl

-- String: plain scalars, asserted against the receiver
example : outText (newModel pfx (.plain (.str 0 none)) [.int (-12)]) = "value (s -12)" := by decide +kernel
example : outText (newModel pfx (.plain (.str 2 none)) [.int 3]) = "reported TYPE_MISMATCH" := by decide +kernel
example : outText (newModel pfx (.plain (.str 0 none)) [.bool true]) = "value (s true)" := by decide +kernel
example : outText (newModel pfx (.plain (.str 0 none)) [.int 3, .int 4]) = "reported ILLEGAL_ARGUMENTS" := by decide +kernel
example : outText (newModel pfx (.plain (.str 0 none)) [.int 3, .str "%x"]) = "unmodelled" := by decide +kernel

-- Timespan: seconds (integer, float), the default formats, fields, wrap-around; a Timespan as `from` of the numeric constructors
def anySpan : Ty := .timespan F64.minInt F64.maxInt
example : outText (newModel pfx (.plain anySpan) [.float 0x3FF8000000000000]) = "value (ts 1500000000)" := by decide +kernel
example : outText (newModel pfx (.plain anySpan) [.str "1-02:03:04.5"]) = "value (ts 93784500000000)" := by decide +kernel
example : outText (newModel pfx (.plain anySpan) [.str "-03:04.05"]) = "value (ts -184050000000)" := by decide +kernel
example : outText (newModel pfx (.plain anySpan) [.str "1-2"]) = "reported TIMESPAN_CANNOT_BE_PARSED" := by decide +kernel
example : outText (newModel pfx (.plain anySpan) [.int 9223372037]) = "value (ts -9223372036709551616)" := by decide +kernel
example : outText (newModel pfx (.plain (.timespan 0 10000000000)) [.int 11]) = "reported TYPE_MISMATCH" := by decide +kernel
example : outText (newModel pfx (.plain anySpan) [.hash [(.str "seconds", .int 3), (.str "negative", .bool true)]]) =
    "value (ts -3000000000)" := by decide +kernel
example : outText (newModel pfx (.plain (.int none none)) [.timespan 2500000000]) = "value (i 2)" := by decide +kernel
example : outText (newModel pfx (.plain (.float (-F64.maxFiniteKey) F64.maxFiniteKey)) [.timespan 2500000000]) =
    "value (f 4612811918334230528)" := by decide +kernel
example : F64.minInt ≤ (5 : Int) * 1000000000 ∧ (5 : Int) * 1000000000 ≤ F64.maxInt := by decide

-- Binary: the three base64 variants, the raw forms, the named form with a format
example : outText (newModel pfx (.plain .binary) [.str "YWJj"]) = "value (bin [97, 98, 99])" := by decide +kernel
example : outText (newModel pfx (.plain .binary) [.str "YR=="]) = "reported ILLEGAL_ARGUMENT" := by decide +kernel
example : outText (newModel pfx (.plain .binary) [.str "YR==", .str "%b"]) = "value (bin [97])" := by decide +kernel
example : outText (newModel pfx (.plain .binary) [.str "YW\nJj"]) = "value (bin [97, 98, 99])" := by decide +kernel
example : outText (newModel pfx (.plain .binary) [.str "-_-_", .str "%u"]) = "value (bin [251, 255, 191])" := by decide +kernel
example : outText (newModel pfx (.plain .binary) [.str "-_-_", .str "%b"]) = "reported ILLEGAL_ARGUMENT" := by decide +kernel
example : outText (newModel pfx (.plain .binary) [.str "é", .str "%s"]) = "value (bin [195, 169])" := by decide +kernel
example : outText (newModel pfx (.plain .binary) [.hash [(.str "value", .str "YWJj"), (.str "format", .str "%B")]]) =
    "value (bin [97, 98, 99])" := by decide +kernel
example : outText (newModel pfx (.plain .binary) [.arr [.int 256]]) = "reported ILLEGAL_ARGUMENTS" := by decide +kernel

-- Hash from pairs / tree arrays (C16_hash_pairs, C16_hash_tree)
example : ctorOf pfx (.hash .any .any 0 none) = .some hashCtor ∧ ctorOf pfx structA = .some hashCtor := ⟨rfl, rfl⟩
example : outText (newModel pfx (.plain (.hash .any .any 0 none))
    [.arr [.arr [.arr [.str "a", .str "b"], .int 1], .arr [.arr [.str "a", .str "c"], .int 2]], .str "tree"]) =
    "value (h ((s a) (h ((s b) (i 1)) ((s c) (i 2)))))" := by decide +kernel
example : outText (newModel pfx (.plain (.hash .any .any 0 none))
    [.arr [.arr [.arr [], .arr [.int 5]], .arr [.arr [.int 0, .int 3], .str "x"]], .str "tree"]) = "value (h ((i 0) (i 5)))" := by
  decide +kernel
example : outText (newModel pfx (.plain (.hash .any .any 0 none))
    [.arr [.arr [.arr [.int 0], .arr [.int 1]]], .str "hash_tree"]) = "value (h ((i 0) (h ((i 0) (i 1)))))" := by decide +kernel
example : outText (newModel pfx (.plain structA) [.arr [.arr [.arr [.str "a"], .int 1]], .str "tree"]) =
    "value (h ((s a) (i 1)))" := by decide +kernel
example : outText (newModel pfx (.plain structA) [.arr [.arr [.arr [.str "a", .str "b"], .int 1]], .str "tree"]) =
    "reported TYPE_MISMATCH" := by decide +kernel

-- CanCoerce: complete (C16_can_coerce_complete; a nested type with distinct member names, a conversion that succeeds), not sound
example : (Ty.arr (.struct [("a", false, .int none none), ("b", true, .opt (.int none none))]) 0 none).NodupNames := by
  simp [Ty.NodupNames, nodupMs]
example : outText (some (coerceTo pfx (.arr (.struct [("a", false, .int none none)]) 0 none) (.arr [.hash [(.str "a", .str "7")]]))) =
    "value (a (h ((s a) (i 7))))" := by decide +kernel
/-- `CanCoerce` says yes where `CoerceTo` fails: a non-array asked against the element type, a size that is not looked at, an
    array that `Init[T]` would expand, a missing Struct member -/
theorem C16_can_coerce_not_sound :
    (canCoerce pfx (.arr (.int none none) 0 none) (.str "3")).toOption = some true ∧
      outText (some (coerceTo pfx (.arr (.int none none) 0 none) (.str "3"))) = "reported TYPE_MISMATCH" ∧
    (canCoerce pfx (.arr (.int none none) 1 (some 1)) (.arr [.str "3", .str "4"])).toOption = some true ∧
      outText (some (coerceTo pfx (.arr (.int none none) 1 (some 1)) (.arr [.str "3", .str "4"]))) = "reported TYPE_MISMATCH" ∧
    (canCoerce pfx (.int none none) (.arr [.str "11", .int 2])).toOption = some true ∧
      outText (some (coerceTo pfx (.int none none) (.arr [.str "11", .int 2]))) = "reported ILLEGAL_ARGUMENTS" ∧
    (canCoerce pfx (.struct [("a", false, .int none none), ("b", false, .int none none)]) (.hash [(.str "a", .str "7")])).toOption = some true ∧
      outText (some (coerceTo pfx (.struct [("a", false, .int none none), ("b", false, .int none none)]) (.hash [(.str "a", .str "7")]))) =
        "reported TYPE_MISMATCH" := by decide +kernel

-- Init[T] as a type (C16_init_instance): '0x1F' is an instance of Init[Integer,16] and of Init[Integer] through the
-- expanded array ['0x1F', 16]; ['0x1F', 16] is NOT an instance of Init[Integer,16] (one argument followed by 16)
example : (initIsInstance pfx (.init (.int none none) [.int 16]) (.str "0x1F")).toOption = some true := by decide +kernel
example : (initIsInstance pfx (.init (.int none none) []) (.arr [.str "0x1F", .int 16])).toOption = some true := by decide +kernel
example : (initIsInstance pfx (.init (.int none none) [.int 16]) (.arr [.str "0x1F", .int 16])).toOption = some false := by
  decide +kernel
example : (initIsInstance pfx (.init (.int none none) []) (.str "z")).toOption = some false := by decide +kernel

-- wrappers, Init[T, args], CoerceTo (hypotheses of C16_init_args / C16_init_plain / C16_coerce / C16_coerce_shape / _wrapper)
example : outText (newModel pfx (.init (.int none none) [.int 16]) [.str "0x1F"]) = "value (i 31)" := by decide +kernel
example : ctorOf pfx (.int none none) = .some integerCtor ∧ [Val.int 16] ≠ [] := ⟨rfl, by simp⟩
example : anyCallable integerCtor [.arr [.str "0x1F", .int 16]] = false ∧ anyCallable integerCtor [.str "7"] = true := by
  decide +kernel
example : outText (newModel pfx (.init (.int none none) []) [.arr [.str "0x1F", .int 16]]) = "value (i 31)" := by decide +kernel
example : IsWrapper (.opt (.int none none)) ∧ IsWrapper (.alias .bool) := ⟨trivial, trivial⟩
example : outText (some (coerceTo pfx (.opt (.int none none)) (.str "3"))) = "value (i 3)" := by decide +kernel
example : inst (.opt (.int none none)) (.str "3") = false := by decide +kernel
example : outText (some (coerceTo pfx (.arr (.int none none) 0 none) (.arr [.str "3", .int 4, .float 0x4004000000000000]))) =
    "value (a (i 3) (i 4) (i 2))" := by decide +kernel
example : outText (some (coerceTo pfx (.hash (.int none none) (.int none none) 0 none)
    (.hash [(.str "1", .int 1), (.int 1, .int 2)]))) = "value (h ((i 1) (i 1)) ((i 1) (i 2)))" := by decide +kernel
example : outText (some (coerceTo pfx (.struct [("a", false, .int none none)]) (.hash [(.str "a", .str "7")]))) =
    "value (h ((s a) (i 7)))" := by decide +kernel
example : outText (some (coerceTo pfx (.opt (.int (some 0) (some 5))) (.str "7"))) = "reported TYPE_MISMATCH" := by
  decide +kernel
example : outText (some (coerceTo pfx (.notUndef (.int none none)) (.str "3"))) = "reported INSTANCE_DOES_NOT_RESPOND" := by
  decide +kernel
example : inst (.notUndef (.int none none)) (.str "3") = false := by decide +kernel

-- Float and Numeric: strings through strconv, the named form, abs, NaN (C16_float_new: never returned by a Float type)
def dfltFloat : Ty := .float (-F64.maxFiniteKey) F64.maxFiniteKey
example : outText (newModel pfx (.plain .numeric) [.str "0x1F"]) = "value (i 31)" := by decide +kernel
example : outText (newModel pfx (.plain .numeric) [.str "0777"]) = "value (i 511)" := by decide +kernel
example : outText (newModel pfx (.plain .numeric) [.str "1.5"]) = "value (f 4609434218613702656)" := by decide +kernel
example : outText (newModel pfx (.plain .numeric) [.str "9223372036854775808"]) = "value (f 4890909195324358656)" := by
  decide +kernel
example : outText (newModel pfx (.plain dfltFloat) [.str "0777"]) = "value (f 4650045780097236992)" := by decide +kernel
example : outText (newModel pfx (.plain dfltFloat) [.str "0x1F"]) = "reported ILLEGAL_ARGUMENTS" := by decide +kernel
example : outText (newModel pfx (.plain dfltFloat) [.str "- 5"]) = "reported ILLEGAL_ARGUMENTS" := by decide +kernel
example : outText (newModel pfx (.plain dfltFloat) [.int 9007199254740993]) = "value (f 4845873199050653696)" := by
  decide +kernel
example : outText (newModel pfx (.plain .numeric) [.hash [(.str "from", .str "-4.5"), (.str "abs", .bool true)]]) =
    "value (f 4616752568008179712)" := by decide +kernel
example : outText (newModel pfx (.plain .numeric) [.int (-9223372036854775808), .bool true]) =
    "value (i -9223372036854775808)" := by decide +kernel
example : outText (newModel pfx (.plain dfltFloat) [.float 0x7FF8000000000001]) = "reported TYPE_MISMATCH" := by
  decide +kernel
example : outText (newModel pfx (.plain .numeric) [.float 0x7FF8000000000001]) = "value (f 9221120237041090561)" := by
  decide +kernel
example : outText (newModel pfx (.plain (.float 0 F64.maxFiniteKey)) [.str "-1.5"]) = "reported TYPE_MISMATCH" := by
  decide +kernel
example : outText (newModel pfx (.plain (.int none none)) [.hash [(.str "from", .str "11"), (.str "radix", .int 2)]]) =
    "value (i 3)" := by decide +kernel
example : outText (newModel pfx (.plain (.int none none)) [.float 0xC004000000000000]) = "value (i -2)" := by decide +kernel
example : outText (newModel pfx (.plain (.int none none)) [.float 0x7FF0000000000000]) = "value (i -9223372036854775808)" := by
  decide +kernel
example : ∀ es, Val.str "1.5" ≠ .hash es := by intro es h; cases h   -- hypothesis of C16_*_named_positional, second part
example : resText (numberBody pfx (.float 0xC004000000000000) (some (.bool true)) false) = "value (f 4612811918334230528)" := by
  decide +kernel

/-- `Param(Integer[0,5]); OptionalParam(Boolean); OptionalBlock(Callable[1,1]); RepeatedParam(Variant[Integer,Undef])` -/
def sampleOps : List (BOp Ty BTy) :=
  [.param (.int (some 0) (some 5)), .optional .bool, .optionalBlock (.range 1 (some 1)),
   .repeated (.var [.int none none, .undef])]

def sampleTable : List (Creator Ty BTy) :=
  [ { ops := [.param (.arr (.int none none) 0 none)], kind := .fn },
    { ops := sampleOps, kind := .fn2 },
    { ops := [.repeated .any], kind := .fn } ]

-- the builder accepts the sample, with min 1 and an unbounded max (C16_builder_inv / C16_decl have an inhabitant)
example : ∃ b, steps Builder.init sampleOps = .ok b ∧ b.min = 1 ∧ b.max = none ∧ b.types.length = 3 :=
  ⟨_, rfl, rfl, rfl, rfl⟩
example : (paramsOf sampleOps).map (·.1) = [.req, .opt, .rep] ∧ (blocksOf sampleOps).length = 1 := ⟨rfl, rfl⟩
-- a prefix with a repeated parameter rejects everything, one with an optional parameter rejects a required one
-- (hypotheses of C16_builder_rejects)
example : (steps Builder.init (sampleOps ++ [.optional .any]) : Except Panic (Builder Ty BTy)) = .error .afterRepeated := rfl
example : (steps Builder.init [.optional .any, .requiredRepeated .any] : Except Panic (Builder Ty BTy)) =
    .error .requiredAfterOptional := rfl
example : buildOne ({ ops := [.block .any], kind := .fn } : Creator Ty BTy) = .error .requiresBlock := rfl
-- C16_run_first: the second dispatch runs for (3, true, 7) with a one-argument block; the first one (Array[Integer]) rejects 3
example : run inst binst sampleTable [.int 3, .bool true, .int 7] (some { min := 1, max := some 1 }) = .called (.ran 1) := by decide
-- the same arguments without the block still pick dispatch 1 (optional block); with a two-argument block dispatch 1 and
-- every other one reject: reported (C16_run_nomatch, both directions inhabited)
example : run inst binst sampleTable [.int 3, .bool true, .int 7] none = .called (.ran 1) := by decide
example : run inst binst sampleTable [.int 3, .bool true, .int 7] (some { min := 2, max := some 2 }) = .called .reported := by decide
-- Integer[0,5] rejects 6, so the catch-all third dispatch is the first match; an array goes to the first
example : run inst binst sampleTable [.int 6] none = .called (.ran 2) := by decide
example : run inst binst sampleTable [.arr [.int 1, .int 2]] none = .called (.ran 0) := by decide
-- C16_call_stateless on overlapping dispatches (Integer[0,5] before Integer before Any): 50 goes to dispatch 1, and 3
-- goes to dispatch 0 before and after it
example : runSeq inst binst
    [ { ops := [.param (.int (some 0) (some 5))], kind := .fn }, { ops := [.param (.int none none)], kind := .fn },
      { ops := [.repeated .any], kind := .fn } ]
    [([.int 3], (none : Option Blk)), ([.int 50], none), ([.int 3], none), ([.bool true], none), ([.int 3], none)] =
    .called [.ran 0, .ran 1, .ran 0, .ran 2, .ran 0] := by rfl
-- C16_new: a constructor that returns 7 whatever it is given — accepted by Integer, refused by Integer[0,5] and Init[Integer[0,5]]
example : newInstance inst (.ctor (.int none none) fun _ => .value (.int 7)) [] = .value (.int 7) := rfl
example : newInstance inst (.ctor (.int (some 0) (some 5)) fun _ => .value (.int 7)) [] = .reported "TYPE_MISMATCH" := rfl
example : newInstance inst (.init (.int (some 0) (some 5)) fun _ => .value (.int 7)) [] = .reported "TYPE_MISMATCH" := rfl

/-! ### instances of the hypotheses of the theorems above (notes/audit-C16.md) -/

/-- a RESOLVED table written by hand (`C16_first`, `C16_first_conv`, `C16_safe`, `C16_nomatch` speak of ANY dispatch list, built or not):
    `(Integer[0,5])`, `(Integer, String…) with an optional block`, and a dispatch the builder can NOT produce — no types, `max = 2` -/
def audDs : List (Dispatch Ty BTy) :=
  [ { types := [.int (some 0) (some 5)], min := 1, max := some 1, block := .none },
    { types := [.int none none, .str 0 none], min := 1, max := none, block := .optional .any },
    { types := [], min := 0, max := some 2, block := .none } ]
-- hypothesis of `C16_first`: dispatch 1 runs for (7, 'a', 'b') with a block; dispatch 0 refuses 7 (hypotheses of `C16_first_conv`)
example : call inst binst audDs [.int 7, .str "a", .str "b"] (some { min := 0, max := none }) = .ran 1 := by decide
example : audDs[1]? = some ⟨[.int none none, .str 0 none], 1, none, .optional .any⟩ ∧
    callableWith inst binst ⟨[.int none none, .str 0 none], 1, none, .optional .any⟩ [.int 7, .str "a", .str "b"] (some { min := 0, max := none }) = true ∧
    callableWith inst binst ⟨[.int (some 0) (some 5)], 1, some 1, BlockReq.none⟩ [.int 7, .str "a", .str "b"] (some { min := 0, max := none }) = false :=
  ⟨rfl, by decide, by decide⟩
-- both sides of `C16_nomatch`: three arguments without a block and a non-string in the tail match nothing
example : call inst binst audDs [.int 7, .str "a", .undef] none = .reported := by decide
/-- OBSERVATION on `C16_safe`: `Satisfies` has the disjunct `d.types = []` (the code's `IsInstance3` with no types tests sizes only), so for
    a dispatch that is NOT the product of the builder "every argument is an instance of its parameter type" can be void: the third
    dispatch accepts ('x', undef).  `C16_built_empty_types` below closes the gap for built dispatches. -/
example : call inst binst audDs [.str "x", .undef] none = .ran 2 := by decide

-- hypotheses of `C16_builder_rejects`: an accepted prefix with a repeated parameter and a block; one with an optional parameter only
example : (∃ b, steps Builder.init sampleOps = .ok b) ∧ (∃ p ∈ paramsOf sampleOps, p.1.repeated = true) ∧ blocksOf sampleOps ≠ [] :=
  ⟨⟨_, rfl⟩, ⟨(.rep, .var [.int none none, .undef]), by simp [sampleOps, paramsOf, BOp.param?], rfl⟩, by simp [sampleOps, blocksOf, BOp.block?]⟩
example : (∃ b, steps Builder.init ([.param .bool, .optional .any] : List (BOp Ty BTy)) = .ok b) ∧
    (∃ p ∈ paramsOf ([.param .bool, .optional .any] : List (BOp Ty BTy)), p.1 = .opt) ∧
    (∀ p ∈ paramsOf ([.param .bool, .optional .any] : List (BOp Ty BTy)), p.1.repeated = false) :=
  ⟨⟨_, rfl⟩, ⟨(.opt, .any), by simp [paramsOf, BOp.param?], rfl⟩, by simp [paramsOf, BOp.param?, PKind.repeated]⟩
-- hypothesis of `C16_run_nomatch`: the sample table is accepted by the builder
example : ∃ bs, buildAll sampleTable = .ok bs := ⟨_, rfl⟩
-- hypotheses of `C16_call_history_free`: the same call at positions 0 and 2 of a sequence
example : ([([Val.int 3], (none : Option Blk)), ([.int 50], none), ([.int 3], none)])[0]? = some ([.int 3], none) ∧
    ([([Val.int 3], (none : Option Blk)), ([.int 50], none), ([.int 3], none)])[2]? = some ([.int 3], none) := ⟨rfl, rfl⟩
-- hypothesis `Nodup` of `C16_new_struct` for the two sample Struct types (the `newModel … = value` hypothesis: the examples above)
example : (["a"].Nodup) ∧ (["a", "b"].Nodup) := by decide
-- hypothesis of `C16_hash_tree`, on the body itself: one tree entry [['a','b'], 1]
example : treeBody [.arr [.arr [.str "a", .str "b"], .int 1]] (.str "tree") =
    .value (.hash [(.str "a", .hash [(.str "b", .int 1)])]) := by rfl
-- hypotheses of `C16_can_coerce_complete` on ONE type: distinct names, a conversion that succeeds, and CanCoerce's answer
example : (Ty.arr (.struct [("a", false, .int none none)]) 0 none).NodupNames := by simp [Ty.NodupNames, nodupMs]
example : (canCoerce pfx (.arr (.struct [("a", false, .int none none)]) 0 none) (.arr [.hash [(.str "a", .str "7")]])).toOption =
    some true := by decide +kernel

end Alpha

/-! ### the `types = []` disjunct of `Satisfies` is harmless on BUILT dispatches -/
section
variable {T BT V : Type} (inst : T → V → Bool)

/-- a dispatch built by an accepted builder sequence that declares no parameter type accepts the EMPTY argument list only: the escape
    `d.types = []` of `Satisfies` (`C16_safe`) never lets an argument through unchecked (`Builder.max` is `some 0` then) -/
theorem C16_built_empty_types (ops : List (BOp T BT)) (b : Builder T BT) (h : steps Builder.init ops = .ok b) (ht : b.types = [])
    (args : List V) (hc : tupleInst inst b.types b.min b.max args = true) : args = [] := by
  have hps : paramsOf ops = [] := by
    have := (C16_builder_arith ops b h).2.1
    rw [ht] at this
    exact List.map_eq_nil_iff.mp this.symm
  have hd := (C16_decl inst ops b h args).mp hc
  rw [hps] at hd
  exact hd.nil

end

end Pcore.Dispatch

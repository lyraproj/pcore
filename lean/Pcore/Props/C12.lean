import Pcore.Proofs.LoaderSeq
import Pcore.Proofs.LoaderTS
import Pcore.Proofs.LoaderDep
import Pcore.Proofs.LoaderKey
import Pcore.Proofs.LoaderStatic
/-!
# C12 — Loader resolution: parents first, bindings are write-once, misses are not sticky

Property (properties.jsonl): for every history of define, load, has-entry and discover operations over a hierarchy of
loaders: a lookup through a loader answers with the binding of the outermost ancestor that has one, otherwise with the
loader's own binding, otherwise not-found.  A loader's own binding is write-once (re-defining it with an equal value is a
no-op, with a different value it is rejected with a reported error), so as long as no ancestor gains a binding a name
that resolved once resolves to the same value ever after.  A failed lookup followed by a definition makes the name
resolvable, names differing only in letter case denote one entry, and discovery returns exactly the bound names
satisfying the predicate, each once, in sorted order.

The model is `Pcore.LoaderSeq` (`Model/LoaderSeq.lean`, mirrors loader.go after the fixes named below); the specification is
`bound` (own non-placeholder entry) and `resolve` (first binding along the ancestor chain taken outermost first).
The other notions the statements are written in are defined in the Proofs module named like the model file: `ancestors`,
`WF` (Proofs/LoaderSeq), `tsResolve`, `TSReach` (Proofs/LoaderTS), `depSpec`, `PartsOK`, `DepChain`, `fillD` (Proofs/LoaderDep),
`LenStable` and the pre-fix methods (Proofs/LoaderKey), `LowerOK` (Proofs/LoaderCase); `eqFold` stands below.
All theorems hold for EVERY state `s` (any hierarchy shape and depth, any contents — in particular every state reachable
by any history), any loader, any name; there is no bound on the history.

Full statement / proved / missing
* `C12_load`, `C12_load_foreign`, `C12_has`, `C12_get` — every lookup answers what `resolve` / `bound` say;
  `C12_lookups_pure` — and changes no binding and no resolution (a miss leaves a placeholder only).             proved
* `C12_writeonce` (one step), `C12_writeonce_run` (any history) — a binding never changes or vanishes.            proved
* `C12_redefine`, `C12_redefine_equal`, `C12_define_new` — different value: reported error and the state is
  unchanged; equal value: accepted and the state is unchanged; unbound: bound now.                                proved
* `C12_stable` — over any history in which no proper ancestor gains a binding for the name, a name that resolved
  keeps resolving to the same value; `C12_stable_ops` the same with the syntactic hypothesis "no definition of
  that name is addressed to a proper ancestor".                                                                   proved
* `C12_miss_then_define` — a failed lookup followed by a definition makes the name resolvable.                    proved
* `C12_case`, `C12_case_ops` — lower-casing is idempotent, names equal up to letter case have one key and every
  operation treats them alike.                                                                                    proved
* `C12_discover` — the answer is sorted, duplicate free, and holds exactly the keys bound in the loader or an
  ancestor that satisfy the predicate (for well-formed states: unique keys per map, `WF`, an invariant of every
  history: `C12_wf_run`).                                                                                          proved
* `C12_assertion_fault_before_fix` — the pre-fix `SetEntry` (non-Type over a bound Type) is witnessed to crash;
  `C12_discover_placeholder_before_fix` — the pre-fix `Discover` answered placeholders, and a shadowed name twice.
* type-set loaders as leaves (`Model/LoaderTS.lean`, `stepT`): `C12_ts_load` — a lookup through the leaf answers the
  specification `tsResolve` (ancestors outermost first, else the member the name denotes, else the name relative to the
  type set) provided no member name it reaches is also bound along the chain; without that hypothesis the statement is
  false (`C12_ts_member_shadows`, known finding C12-typeset-member-before-ancestors: the type set is asked first);
  `C12_ts_has` — HasEntry is `tsResolve ≠ none`, unconditionally; `C12_ts_lookups_pure` — lookups through the leaf change
  no binding; `C12_ts_define` — a definition through the leaf is the definition in its parent (so C12_writeonce /
  C12_redefine apply there); `C12_ts_other` — every other loader behaves as without type-set leaves.              proved
* dependency loaders as roots over plain module loaders (`Model/LoaderDep.lean`, `stepD`): `C12_dep_load_refines` — a lookup
  through a chain rooted in a dependency loader is the LAZY BINDING of the name in that root (`fillD`, characterised by
  `C12_dep_fill`) followed by the plain lookup, so it answers `resolve` on the filled state (`C12_dep_load`);
  `C12_dep_first` — the first lookup answers the binding of the first loader in dependency order that binds the name (the
  named module for a qualified name) and binds it; `C12_dep_cached`, `C12_dep_stable`, `C12_dep_stable_chain` — what was
  answered once is answered ever after; `C12_dep_writeonce(_run)`; `C12_dep_invalid_name` — reported error, no trace;
  `C12_dep_queries`, `C12_dep_other`, `C12_dep_wf_run`, `C12_dep_discover` — everything else is the plain model;
  `C12_dep_miss_then_define_partial` — miss, then definition in the dependency loader: resolvable.                  proved
  FULL statement `C12_dep_load_full` (a lookup answers what the dependencies bind whenever the dependency loader holds no
  value, in every reachable state) HOLDS since fix 9d272bd: `C12_dep_load_full_holds`, `C12_dep_load_unbound`,
  `C12_dep_miss_then_define` (misses are not sticky; the history answer by answer: `C12_dep_miss_not_sticky_history`);
  `C12_dep_load_partial` is the case "no entry"; pre-fix witness `C12_dep_miss_sticky_before_fix`.  FALSE is
  "discovery = union over the dependencies" (`C12_dep_discover_union_full`, `C12_dep_discover_unloaded`,
  `C12_dep_discover_history`).
* letter case: `lower` is Go's `strings.ToLower` (`unicode.ToLower` over the case table regenerated from $GOROOT; idempotent
  by `toLower_idem` + `caseRanges_lowerOK`), so `C12_case` / `C12_case_ops` speak about the real folding.  The typed name as
  a struct with caches (`Model/LoaderKey.lean`): `C12_key_is_canon`.
  FULL statement `C12_key_derived_full` (every name, cached key or not: a name derived by `Child()`/`Parent()` has the
  right key) HOLDS since fix 50062c5: `C12_key_derived`, `C12_key_derived_any` (special cases, whose extra hypothesis is not
  needed: `C12_key_derived_fresh_partial`, `C12_key_derived_lenstable_partial`, `C12_key_derived_ascii`); pre-fix:
  `C12_key_derived_lenstable_before_fix`, witnesses `C12_key_derived_wrong_before_fix`, `C12_key_derived_fault_before_fix`.
* the global level (`Model/LoaderStatic.lean`): `C12_define_ancestor_after_miss` — after a miss a definition in any loader
  of the chain, the static root included, makes the name resolve to that value; `ResolveResolvables` = the definitions of
  the declared types in order, ended by the first rejection: `C12_rr_loop`, `C12_rr_ok`, `C12_rr_queue`,
  `C12_rr_writeonce(_run)`, `C12_rr_plain`, witness `C12_rr_drops_rest`.                                              proved
* type sets as providers of names (`px.AddTypes` of a TypeSet, `addTypeSet`): `C12_addts_refines` (refinement: a member
  that resolves is skipped, any other defined), `C12_addts_members`, `C12_addts_after_miss` (misses are not sticky for
  type sets), witness `C12_addts_known_member_kept`.                                                               proved
* missing / outside the model: type-set loaders with children or references or beside dependency loaders, dependency
  loaders over anything but plain loaders, file-based loaders (C15); names that are not valid UTF-8; the preloaded
  contents of the static loader other than `Integer` (checked disjoint from the names used by the harness per line).
Tie: differential execution of whole histories (harness/c12).
-/
namespace Pcore.LoaderSeq

/-- `px.Load` answers the binding of the outermost ancestor that has one, otherwise the loader's own, otherwise not-found -/
theorem C12_load (s : Sys) (l : Nat) (n : Name) (ha : n.auth = runtimeAuthority) :
    (step s (.load l n)).2 = ansOf (resolve s l (canon n)) := by
  show (load s l n).2 = _
  rw [load_eq s l n ha]; cases resolve s l (canon n) <;> rfl

/-- a loader answers only for names of its own authority, and such a lookup leaves no trace -/
theorem C12_load_foreign (s : Sys) (l : Nat) (n : Name) (ha : n.auth ≠ runtimeAuthority) :
    step s (.load l n) = (s, .notfound) :=
  load_foreign s l n ha

/-- a lookup changes no binding of any loader under any name (a miss leaves a placeholder, never a value): lookups,
    queries and discoveries are invisible to every later resolution -/
theorem C12_lookups_pure (s : Sys) (op : Op) (hop : ∀ l n v, op ≠ .define l n v) (l' : Nat) (k' : Key) :
    bound (step s op).1 l' k' = bound s l' k' ∧ resolve (step s op).1 l' k' = resolve s l' k' := by
  have hb : ∀ a k, bound (step s op).1 a k = bound s a k := by
    intro a k
    cases op with
    | load l n => exact bound_load s l n a k
    | define l n v => exact absurd rfl (hop l n v)
    | has _ _ => rfl
    | get _ _ => rfl
    | discover _ _ => rfl
  exact ⟨hb l' k', resolve_congr (step_grows s op).ps (fun a => hb a k') l'⟩

theorem C12_has (s : Sys) (l : Nat) (n : Name) :
    step s (.has l n) = (s, .bool (resolve s l (canon n)).isSome) := by
  simp only [step, hasC_eq]

theorem C12_get (s : Sys) (l : Nat) (n : Name) :
    (step s (.get l n)).1 = s ∧ ∃ e, (step s (.get l n)).2 = .entry e ∧ e.join = bound s l (canon n) :=
  ⟨rfl, _, rfl, rfl⟩

/-- own bindings are write-once: no operation changes or removes a binding (of any loader, under any name) -/
theorem C12_writeonce (s : Sys) (op : Op) (l : Nat) (k : Key) (v : V) (h : bound s l k = some v) :
    bound (step s op).1 l k = some v := (step_grows s op).keeps l k v h

theorem C12_writeonce_run (s : Sys) (ops : List Op) (l : Nat) (k : Key) (v : V) (h : bound s l k = some v) :
    bound (run s ops).1 l k = some v := (run_grows s ops).keeps l k v h

/-- a different value for a bound name is rejected with a reported error and changes nothing -/
theorem C12_redefine (s : Sys) (l : Nat) (n : Name) (v v' : V) (h : bound s l (canon n) = some v) (hne : v' ≠ v) :
    (step s (.define l n v')).1 = s ∧
    ((step s (.define l n v')).2 = .reported "PCORE_ATTEMPT_TO_REDEFINE_TYPE" ∨
     (step s (.define l n v')).2 = .reported "PCORE_ATTEMPT_TO_REDEFINE") := by
  simp only [step]
  rw [define_bound s l n v' v h, if_neg (Ne.symm hne)]
  refine ⟨rfl, ?_⟩
  split
  · exact Or.inl rfl
  · exact Or.inr rfl

/-- re-defining with an equal value is a no-op -/
theorem C12_redefine_equal (s : Sys) (l : Nat) (n : Name) (v : V) (h : bound s l (canon n) = some v) :
    step s (.define l n v) = (s, .ok) := by
  simp only [step]
  rw [define_bound s l n v v h, if_pos rfl]

/-- defining an unbound name of an existing loader is accepted and binds it (there and nowhere else) -/
theorem C12_define_new (s : Sys) (l : Nat) (n : Name) (v : V) (hl : l < s.es.length) (h : bound s l (canon n) = none) :
    (step s (.define l n v)).2 = .ok ∧ bound (step s (.define l n v)).1 l (canon n) = some v ∧
    ∀ l' k', (l' ≠ l ∨ k' ≠ canon n) → bound (step s (.define l n v)).1 l' k' = bound s l' k' :=
  ⟨(define_unbound s l n v hl h).1, (define_unbound s l n v hl h).2, fun l' k' => define_bound_frame s l n v l' k'⟩

/-- as long as no proper ancestor gains a binding for the name, a name that resolved once resolves to the same value
    ever after — whatever else the history does (lookups, misses, definitions and rejected re-definitions anywhere) -/
theorem C12_stable (s : Sys) (ops : List Op) (l : Nat) (k : Key) (v : V) (h : resolve s l k = some v)
    (hanc : ∀ a ∈ ancestors s.ps l, bound s a k = none → bound (run s ops).1 a k = none) :
    resolve (run s ops).1 l k = some v :=
  (run_grows s ops).resolve_stable hanc h

/-- the same with a hypothesis on the operations: no definition of that name is addressed to a proper ancestor -/
theorem C12_stable_ops (s : Sys) (ops : List Op) (l : Nat) (k : Key) (v : V) (h : resolve s l k = some v)
    (hops : ∀ op ∈ ops, ∀ a n v', op = .define a n v' → a ∈ ancestors s.ps l → canon n ≠ k) :
    resolve (run s ops).1 l k = some v :=
  C12_stable s ops l k v h fun a ha hn =>
    bound_run_none s ops a k hn fun op hop n v' he => hops op hop a n v' he ha

/-- misses are not sticky: a failed lookup followed by a definition makes the name resolvable -/
theorem C12_miss_then_define (s : Sys) (l : Nat) (n : Name) (v : V) (hl : l < s.es.length)
    (h : resolve s l (canon n) = none) :
    (run s [.load l n, .define l n v]).2 = [.notfound, .ok] ∧
    resolve (run s [.load l n, .define l n v]).1 l (canon n) = some v :=
  load_then_define s l l n v (by rw [chain_eq]; exact List.mem_cons_self) hl h

/-- two names that differ only in letter case (of the name or the namespace) -/
def eqFold (n m : Name) : Prop :=
  lower n.auth = lower m.auth ∧ lower n.ns = lower m.ns ∧ lower (stripColons n.name) = lower (stripColons m.name)

/-- the key is already folded, and names that differ only in letter case have the same key -/
theorem C12_case (n m : Name) : lower (canon n) = canon n ∧ (eqFold n m → canon n = canon m) := by
  refine ⟨lower_idem _, ?_⟩
  rintro ⟨h1, h2, h3⟩
  simp only [canon, lower_append, h1, h2, h3]

/-- … hence denote one entry: every operation treats them alike (the authority must match exactly for `load`) -/
theorem C12_case_ops (s : Sys) (l : Nat) (n m : Name) (v : V) (h : eqFold n m) (ha : n.auth = m.auth) :
    step s (.load l n) = step s (.load l m) ∧ step s (.define l n v) = step s (.define l m v) ∧
    step s (.has l n) = step s (.has l m) ∧ step s (.get l n) = step s (.get l m) := by
  have hk := (C12_case n m).2 h
  simp [step, load, define, hk, ha]

theorem C12_wf_run (ps : List (Option Nat)) (ops : List Op) : WF (run (Sys.init ps) ops).1 :=
  (run_grows _ _).wf (WF_init ps)

/-- discovery returns exactly the bound names (of the loader or an ancestor) satisfying the predicate,
    each once, in sorted order -/
theorem C12_discover (s : Sys) (h : WF s) (l : Nat) (p : Key → Bool) :
    ∃ ks, step s (.discover l p) = (s, .keys ks) ∧
      ks.Pairwise (fun a b => keyLe a b = true) ∧ ks.Nodup ∧
      ∀ k, k ∈ ks ↔ p k = true ∧ ∃ a ∈ chain s.ps l, (bound s a k).isSome = true :=
  ⟨_, rfl, discC_sorted s p _, discC_nodup s h p _, mem_discC s h p _⟩

/-! ### non-vacuity: a three-level chain with a binding in the middle, a placeholder below, a shadowed binding -/

def nA : Name := ⟨runtimeAuthority, "type", "A"⟩
def na : Name := ⟨runtimeAuthority, "type", "a"⟩
def nb : Name := ⟨runtimeAuthority, "type", "b"⟩
def sample : Sys :=
  (run (Sys.init [none, some 0, some 1]) [.load 2 na, .define 1 nA (.ty 1), .define 2 na (.ty 2), .define 2 nb (.str 1)]).1

/-! The examples about `sample` are instances of lemmas about the same history over ANY three names `a`, `a'`, `b` such
    that `a'` has the key of `a` and `b` another one.  Those are proved by rewriting with the model's equations: with
    variables for the names there is no string left to compare (the kernel is slow on strings), and what a history's outcome
    depends on is said in `SampleNames`. -/

def sampleOf (a a' b : Name) : Sys :=
  (run (Sys.init [none, some 0, some 1]) [.load 2 a, .define 1 a' (.ty 1), .define 2 a (.ty 2), .define 2 b (.str 1)]).1

def SampleNames (a a' b : Name) : Prop :=
  a.auth = runtimeAuthority ∧ a'.auth = runtimeAuthority ∧ b.auth = runtimeAuthority ∧ canon a' = canon a ∧
  canon a ≠ canon b ∧ canon b ≠ canon a ∧ keyLe (canon a) (canon b) = true

theorem sampleNames : SampleNames na nA nb :=
  ⟨rfl, rfl, rfl, (canon_eq_iff _ _ _ _).mpr (by decide +kernel), mt (canon_eq_iff _ _ _ _).mp (by decide +kernel),
    mt (canon_eq_iff _ _ _ _).mp (by decide +kernel), (keyLe_canon _ _ _ _).trans (by decide +kernel)⟩

theorem sampleOf_wf (a a' b : Name) : WF (sampleOf a a' b) := C12_wf_run _ _

section
variable {a a' b : Name} (h : SampleNames a a' b)
include h
-- the model's equations, with which the histories below are evaluated
attribute [local simp] sampleOf run_cons run_nil step load define setEntry lk put Sys.init chain chainAux loadEntryC
  Sys.ents Sys.setEnts resolve bound hasC ownHas V.isType ancestors discC ownAdded sortKeys insertKey

theorem sample_outcomes :
    (resolve (sampleOf a a' b) 2 (canon a) = some (.ty 1) ∧ bound (sampleOf a a' b) 2 (canon a) = some (.ty 2) ∧
      bound (sampleOf a a' b) 1 (canon a') = some (.ty 1) ∧ resolve (sampleOf a a' b) 0 (canon a) = none) ∧
    (a.auth = runtimeAuthority ∧ (step (sampleOf a a' b) (.load 2 a)).2 = .found (.ty 1) ∧
      (step (sampleOf a a' b) (.has 0 a)).2 = .bool false) ∧
    ((step (sampleOf a a' b) (.define 2 a (.ty 3))).2 = .reported "PCORE_ATTEMPT_TO_REDEFINE_TYPE" ∧
      (step (sampleOf a a' b) (.define 2 a (.str 3))).2 = .reported "PCORE_ATTEMPT_TO_REDEFINE" ∧
      (step (sampleOf a a' b) (.define 2 b (.ty 3))).2 = .reported "PCORE_ATTEMPT_TO_REDEFINE" ∧
      (step (sampleOf a a' b) (.define 2 a' (.ty 2))).2 = .ok) ∧
    resolve (run (sampleOf a a' b) [.define 0 a (.ty 7)]).1 2 (canon a) = some (.ty 7) ∧
    (0 < (sampleOf a a' b).es.length ∧ resolve (sampleOf a a' b) 0 (canon b) = none ∧
      resolve (run (sampleOf a a' b) [.load 0 b, .define 0 b (.al "b" 1)]).1 0 (canon b) = some (.al "b" 1)) ∧
    ((step (sampleOf a a' b) (.discover 2 fun _ => true)).2 = .keys [canon a, canon b] ∧
      (step (sampleOf a a' b) (.discover 0 fun _ => true)).2 = .keys []) := by
  obtain ⟨ha, hA, hb, e, ne, ne', _⟩ := h
  simp [*]

theorem sample_quiet :
    resolve (run (sampleOf a a' b) [.define 2 a (.ty 9), .load 0 a, .define 0 b (.ty 3), .define 2 b (.ty 3), .load 1 b]).1
      2 (canon a) = some (.ty 1) := by
  refine C12_stable _ _ 2 (canon a) (.ty 1) (sample_outcomes h).1.1 ?_
  obtain ⟨ha, hA, hb, e, ne, ne', _⟩ := h
  simp [*]

end

example : resolve sample 2 (canon na) = some (.ty 1) ∧ bound sample 2 (canon na) = some (.ty 2) ∧
    bound sample 1 (canon nA) = some (.ty 1) ∧ resolve sample 0 (canon na) = none ∧ WF sample :=
  have ⟨h1, h2, h3, h4⟩ := (sample_outcomes sampleNames).1
  ⟨h1, h2, h3, h4, sampleOf_wf na nA nb⟩

-- C12_load / C12_has: the lookup through loader 2 answers the ancestor's binding, not its own
example : na.auth = runtimeAuthority ∧ (step sample (.load 2 na)).2 = .found (.ty 1) ∧
    (step sample (.has 0 na)).2 = .bool false := (sample_outcomes sampleNames).2.1
-- C12_redefine / C12_redefine_equal: both error codes occur, the equal value is accepted
example : (step sample (.define 2 na (.ty 3))).2 = .reported "PCORE_ATTEMPT_TO_REDEFINE_TYPE" ∧
    (step sample (.define 2 na (.str 3))).2 = .reported "PCORE_ATTEMPT_TO_REDEFINE" ∧
    (step sample (.define 2 nb (.ty 3))).2 = .reported "PCORE_ATTEMPT_TO_REDEFINE" ∧
    (step sample (.define 2 nA (.ty 2))).2 = .ok := (sample_outcomes sampleNames).2.2.1
-- C12_stable: its hypotheses hold for a history that defines, re-defines and misses everywhere but in an ancestor …
def quietOps : List Op := [.define 2 na (.ty 9), .load 0 na, .define 0 nb (.ty 3), .define 2 nb (.ty 3), .load 1 nb]
example : resolve (run sample quietOps).1 2 (canon na) = some (.ty 1) := sample_quiet sampleNames
-- … and the hypothesis is needed: once the root gains a binding the name resolves to that one
example : resolve (run sample [.define 0 na (.ty 7)]).1 2 (canon na) = some (.ty 7) :=
  (sample_outcomes sampleNames).2.2.2.1
-- C12_miss_then_define
example : 0 < sample.es.length ∧ resolve sample 0 (canon nb) = none ∧
    resolve (run sample [.load 0 nb, .define 0 nb (.al "b" 1)]).1 0 (canon nb) = some (.al "b" 1) :=
  (sample_outcomes sampleNames).2.2.2.2.1
-- C12_case
example : eqFold nA na ∧ nA ≠ na :=
  ⟨⟨rfl, rfl, by decide +kernel⟩, fun h => absurd (congrArg Name.name h) (by decide +kernel)⟩
example : eqFold ⟨runtimeAuthority, "type", "::M::a"⟩ ⟨runtimeAuthority, "Type", "m::A"⟩ :=
  ⟨rfl, String.toList_inj.mp (by rw [lower_toList, lower_toList]; decide +kernel),
    String.toList_inj.mp (by rw [lower_stripColons_toList, lower_stripColons_toList]; decide +kernel)⟩
-- C12_discover: both loaders' bindings, the shadowed name once, the placeholder-free answer sorted
example : (step sample (.discover 2 fun _ => true)).2 = .keys [canon na, canon nb] ∧
    (step sample (.discover 0 fun _ => true)).2 = .keys [] := (sample_outcomes sampleNames).2.2.2.2.2

section
-- From here to the end of the file `segsOf`, and from the dependency loaders on `canon` too, are not unfolded: it keeps the
-- unifier from evaluating their string functions on a variable name.
attribute [local irreducible] segsOf

/-- a lookup through a type-set leaf answers the specification, provided no member name it reaches is also bound along
    the chain (and no name it can take relative has a cached miss in the leaf — see `TSReach`) -/
theorem C12_ts_load (tss : List (Option TypeSet)) (s : Sys) (l : Nat) (t : TypeSet) (n : Name)
    (ht : tsOf tss l = some t) (ha : n.auth = runtimeAuthority) (hne : segsOf n ≠ [])
    (h : TSReach s l t n (segsOf n)) :
    (stepT tss s (.load l n)).2 = ansOf (tsResolve s l t n (segsOf n)) := by
  have hs := tsLoadEntry_spec s l t n (segsOf n) h
  rw [stepT_load tss s l t n ht ha]
  exact congrArg ansOf hs

/-- HasEntry through the leaf: the name resolves — with or without shadowing -/
theorem C12_ts_has (tss : List (Option TypeSet)) (s : Sys) (l : Nat) (t : TypeSet) (n : Name) (ht : tsOf tss l = some t) :
    stepT tss s (.has l n) = (s, .bool (tsResolve s l t n (segsOf n)).isSome) := by
  rw [stepT_has tss s l t n ht, tsHas_spec]

/-- lookups and queries through the leaf change no binding of any loader -/
theorem C12_ts_lookups_pure (tss : List (Option TypeSet)) (s : Sys) (l : Nat) (t : TypeSet) (n : Name)
    (ht : tsOf tss l = some t) (l' : Nat) (k' : Key) :
    bound (stepT tss s (.load l n)).1 l' k' = bound s l' k' ∧ (stepT tss s (.has l n)).1 = s := by
  refine ⟨?_, by rw [stepT_has tss s l t n ht]⟩
  by_cases ha : n.auth = runtimeAuthority
  · rw [stepT_load tss s l t n ht ha]; exact bound_tsLoadEntry s l t n _ l' k'
  · rw [stepT_load_foreign tss s l t n ht ha]

/-- a definition through the leaf is the definition in its parent -/
theorem C12_ts_define (tss : List (Option TypeSet)) (s : Sys) (l p : Nat) (t : TypeSet) (n : Name) (v : V)
    (ht : tsOf tss l = some t) (hp : s.ps.getD l none = some p) :
    stepT tss s (.define l n v) = step s (.define p n v) :=
  stepT_define tss s l p t n v ht hp

/-- every loader that is not a type-set leaf behaves exactly as in a hierarchy without them -/
theorem C12_ts_other (tss : List (Option TypeSet)) (s : Sys) (op : Op) (h : tsOf tss op.loader = none) :
    stepT tss s op = step s op := stepT_plain tss s op h

def demoTS : TypeSet := { name := "my", members := [("foo", .al "My::Foo" 1), ("bar", .al "My::Bar" 2)] }
def demoTss : List (Option TypeSet) := [none, none, some demoTS]
def nMyFoo : Name := ⟨runtimeAuthority, "type", "My::Foo"⟩
def nFoo : Name := ⟨runtimeAuthority, "type", "Foo"⟩
/-- the history of the seeded change C12-s2: a miss through the ancestor, then the lookup through the leaf -/
def tsSample : Sys := (runT demoTss (Sys.init [none, some 0, some 1]) [.load 0 nMyFoo]).1

def tsSampleOf (f : Name) : Sys := (runT demoTss (Sys.init [none, some 0, some 1]) [.load 0 f]).1

/-- what the lookups of `f` through the type-set leaf depend on: a type name of the runtime authority with the segments
    `my`, `foo`; re-made from its segments it has its own key, taken relative to the type set another one -/
def TsNames (f : Name) : Prop :=
  f.auth = runtimeAuthority ∧ f.ns = "type" ∧ segsOf f = ["my", "foo"] ∧ canon (withSegs f ["my", "foo"]) = canon f ∧
  canon (withSegs f ["foo"]) ≠ canon f ∧ canon f ≠ canon (withSegs f ["foo"])

theorem tsNames : TsNames nMyFoo :=
  ⟨rfl, rfl, by decide +kernel, (canon_eq_iff _ _ _ _).mpr (by decide +kernel),
    mt (canon_eq_iff _ _ _ _).mp (by decide +kernel), mt (canon_eq_iff _ _ _ _).mp (by decide +kernel)⟩

section
variable {f : Name} (h : TsNames f)
include h
attribute [local simp] tsSampleOf demoTss runT_cons runT_nil stepT tsOf step load setEntry lk put Sys.init chain
  chainAux loadEntryC Sys.ents Sys.setEnts demoTS tsLoadEntry tsGetType memberOf tsResolve resolve bound ansOf TSReach

theorem ts_outcomes :
    (tsOf demoTss 2 = some demoTS ∧ lk (canon f) ((tsSampleOf f).ents 0) = some none ∧
      (stepT demoTss (tsSampleOf f) (.load 2 f)).2 = .found (.al "My::Foo" 1) ∧
      tsResolve (tsSampleOf f) 2 demoTS f (segsOf f) = some (.al "My::Foo" 1)) ∧
    segsOf f = ["my", "foo"] ∧ TSReach (tsSampleOf f) 2 demoTS f (segsOf f) := by
  obtain ⟨ha, hn, hs, e, ne, ne'⟩ := h
  simp [*]

end

theorem ts_shadows {g : Name} (ha : g.auth = runtimeAuthority) (hn : g.ns = "type") (hs : segsOf g = ["foo"])
    (e : canon (withSegs g ["foo"]) = canon g) :
    let s := (runT demoTss (Sys.init [none, some 0, some 1]) [.define 0 g (.ty 7)]).1
    (stepT demoTss s (.load 2 g)).2 = .found (.al "My::Foo" 1) ∧
    tsResolve s 2 demoTS g (segsOf g) = some (.ty 7) := by
  simp [demoTss, demoTS, runT_cons, runT_nil, stepT, tsOf, tsLoadEntry, tsGetType, memberOf, tsResolve, resolve, bound, ansOf,
    step, define, setEntry, lk, put, Sys.init, chain, chainAux, Sys.ents, Sys.setEnts, *]

-- non-vacuity of C12_ts_load: after the miss in the ancestor (its miss marker is in loader 0) the hypotheses hold and the
-- lookup through the leaf still finds the member by its qualified path
example : tsOf demoTss 2 = some demoTS ∧ lk (canon nMyFoo) (tsSample.ents 0) = some none ∧
    (stepT demoTss tsSample (.load 2 nMyFoo)).2 = .found (.al "My::Foo" 1) ∧
    tsResolve tsSample 2 demoTS nMyFoo (segsOf nMyFoo) = some (.al "My::Foo" 1) := (ts_outcomes tsNames).1
example : segsOf nMyFoo = ["my", "foo"] ∧ TSReach tsSample 2 demoTS nMyFoo (segsOf nMyFoo) := (ts_outcomes tsNames).2

/-- the hypothesis is needed (known finding C12-typeset-member-before-ancestors): with `Foo` bound in the root, the lookup
    through the leaf answers the member, the specification the root's binding -/
theorem C12_ts_member_shadows :
    let s := (runT demoTss (Sys.init [none, some 0, some 1]) [.define 0 nFoo (.ty 7)]).1
    (stepT demoTss s (.load 2 nFoo)).2 = .found (.al "My::Foo" 1) ∧
    tsResolve s 2 demoTS nFoo (segsOf nFoo) = some (.ty 7) :=
  ts_shadows rfl rfl (by decide +kernel) ((canon_eq_iff _ _ _ _).mpr (by decide +kernel))

/-! ### dependency loaders (`Model/LoaderDep.lean`, `stepD`)

A dependency loader `d` over the modules `mods` is a root of the hierarchy.  Its own bindings are made LAZILY: the first
lookup of a name that reaches it binds the name in `d` to what the dependencies bind (`depSpec`: the module a qualified
name names by its first segment, otherwise the first module in dependency order that resolves it) — or caches the miss.
From then on the hierarchy behaves as `LoaderSeq` says (`C12_dep_load_refines`), so every theorem above applies to the
state `fillD … s l n` the lazy binding leaves. -/

section
attribute [local irreducible] canon

/-- REFINEMENT: a lookup through a chain rooted in a dependency loader is the lazy binding in that root followed by the
    plain parent-first lookup of `LoaderSeq` -/
theorem C12_dep_load_refines (dps : List (Option Mods)) (s : Sys) (l d : Nat) (mods : Mods) (n : Name)
    (hc : DepChain dps (chain s.ps l) d mods) (hlen : d < s.es.length) (ha : n.auth = runtimeAuthority)
    (hp : PartsOK mods n) : stepD dps s (.load l n) = step (fillD dps s l n) (.load l n) :=
  loadD_root dps s l d mods n hc hlen ha (depLoadEntry_ne_bad s d mods n hp)

/-- what the lazy binding binds: the name asked for, in the dependency loader, to what the dependencies bind — and only
    if the dependency loader held no VALUE for it (a recorded miss does not stand in the way: fix 9d272bd); every other
    binding of every loader is as before -/
theorem C12_dep_fill (dps : List (Option Mods)) (s : Sys) (l d : Nat) (mods : Mods) (n : Name)
    (hc : DepChain dps (chain s.ps l) d mods) (hlen : d < s.es.length) (hp : PartsOK mods n) (l' : Nat) (k' : Key) :
    bound (fillD dps s l n) l' k' =
      if l' = d ∧ k' = canon n ∧ bound s d (canon n) = none then depSpec s mods n else bound s l' k' := by
  rw [fillD_eq dps s l d mods n hc hlen]
  exact bound_depLoadEntry s d mods n hlen hp l' k'

/-- … hence the lookup answers the binding of the outermost ancestor — the dependency loader with its lazy binding
    included — that has one, otherwise the loader's own, otherwise not-found -/
theorem C12_dep_load (dps : List (Option Mods)) (s : Sys) (l d : Nat) (mods : Mods) (n : Name)
    (hc : DepChain dps (chain s.ps l) d mods) (hlen : d < s.es.length) (ha : n.auth = runtimeAuthority)
    (hp : PartsOK mods n) :
    (stepD dps s (.load l n)).2 = ansOf (resolve (fillD dps s l n) l (canon n)) := by
  rw [C12_dep_load_refines dps s l d mods n hc hlen ha hp]
  exact C12_load _ l n ha

/-- a lookup through the dependency loader — in ANY state — of a name it holds no value for answers what the dependencies
    bind NOW: recorded misses are not final -/
theorem C12_dep_load_unbound (dps : List (Option Mods)) (s : Sys) (d : Nat) (mods : Mods) (n : Name)
    (hr : s.ps.getD d none = none) (hd : dps.getD d none = some mods) (ha : n.auth = runtimeAuthority)
    (hp : PartsOK mods n) (hb : bound s d (canon n) = none) :
    (stepD dps s (.load d n)).2 = ansOf (depSpec s mods n) := by
  show (loadD dps s d n).2 = _
  rw [loadD_eq dps s d n ha, loadEntryD_self dps s d mods n hr hd, depLoadEntry_unbound s d mods n hp hb]
  cases depSpec s mods n <;> rfl

/-- a lookup through the dependency loader itself of a name it holds NO VALUE for — the first one, or one after any number
    of misses — answers the binding of the first loader in dependency order that binds the name (the named module for a
    qualified name), and binds the name to it in the dependency loader -/
theorem C12_dep_first (dps : List (Option Mods)) (s : Sys) (d : Nat) (mods : Mods) (n : Name)
    (hr : s.ps.getD d none = none) (hd : dps.getD d none = some mods) (hlen : d < s.es.length)
    (ha : n.auth = runtimeAuthority) (hp : PartsOK mods n) (hfresh : bound s d (canon n) = none) :
    (stepD dps s (.load d n)).2 = ansOf (depSpec s mods n) ∧
    bound (stepD dps s (.load d n)).1 d (canon n) = depSpec s mods n := by
  have hc := depChain_root dps s d mods hr hd
  have hfill := C12_dep_fill dps s d d mods n hc hlen hp d (canon n)
  simp only [hfresh, and_self, if_true] at hfill
  refine ⟨C12_dep_load_unbound dps s d mods n hr hd ha hp hfresh, ?_⟩
  · rw [C12_dep_load_refines dps s d d mods n hc hlen ha hp]
    rw [(C12_lookups_pure _ (.load d n) (by intro _ _ _ h; cases h) d (canon n)).1]
    exact hfill

/-- once the dependency loader holds a binding it answers with it and nothing changes -/
theorem C12_dep_cached (dps : List (Option Mods)) (s : Sys) (d : Nat) (mods : Mods) (n : Name) (v : V)
    (hr : s.ps.getD d none = none) (hd : dps.getD d none = some mods) (ha : n.auth = runtimeAuthority)
    (hb : bound s d (canon n) = some v) : stepD dps s (.load d n) = (s, .found v) := by
  show loadD dps s d n = _
  rw [loadD_eq dps s d n ha, loadEntryD_self dps s d mods n hr hd, depLoadEntry_cached s d mods n v hb]

/-- an ill-formed qualified name (a segment that is not an identifier) that the dependency loader holds no value for is
    rejected with a reported error and leaves no trace — it is never a fault -/
theorem C12_dep_invalid_name (dps : List (Option Mods)) (s : Sys) (l d : Nat) (mods : Mods) (n : Name)
    (hc : DepChain dps (chain s.ps l) d mods) (hlen : d < s.es.length) (ha : n.auth = runtimeAuthority)
    (hp : ¬ PartsOK mods n) (hfresh : bound s d (canon n) = none) :
    stepD dps s (.load l n) = (s, .reported "PCORE_INVALID_CHARACTERS_IN_NAME") := by
  show loadD dps s l n = _
  rw [loadD_eq dps s l n ha, loadEntryD_depChain s n hc hlen, depLoadEntry_bad_of s d mods n hfresh hp]

/-- write-once holds for every loader of a hierarchy with dependency loaders, the lazily made bindings included -/
theorem C12_dep_writeonce (dps : List (Option Mods)) (s : Sys) (op : Op) (l : Nat) (k : Key) (v : V)
    (h : bound s l k = some v) : bound (stepD dps s op).1 l k = some v := (stepD_grows dps s op).keeps l k v h

theorem C12_dep_writeonce_run (dps : List (Option Mods)) (s : Sys) (ops : List Op) (l : Nat) (k : Key) (v : V)
    (h : bound s l k = some v) : bound (runD dps s ops).1 l k = some v := (runD_grows dps s ops).keeps l k v h

/-- what the dependency loader answered once it answers ever after — whatever the history does, in particular whatever
    its modules and their ancestors gain later -/
theorem C12_dep_stable (dps : List (Option Mods)) (s : Sys) (ops : List Op) (d : Nat) (mods : Mods) (n : Name) (v : V)
    (hr : s.ps.getD d none = none) (hd : dps.getD d none = some mods) (ha : n.auth = runtimeAuthority)
    (hb : bound s d (canon n) = some v) :
    stepD dps (runD dps s ops).1 (.load d n) = ((runD dps s ops).1, .found v) :=
  C12_dep_cached dps _ d mods n v (by rw [runD_ps]; exact hr) hd ha ((runD_grows dps s ops).keeps d (canon n) v hb)

/-- stability along a chain, as `C12_stable`: as long as no proper ancestor — a dependency loader's lazy bindings count —
    gains a binding, a name that resolved keeps resolving to the same value -/
theorem C12_dep_stable_chain (dps : List (Option Mods)) (s : Sys) (ops : List Op) (l : Nat) (k : Key) (v : V)
    (h : resolve s l k = some v)
    (hanc : ∀ a ∈ ancestors s.ps l, bound s a k = none → bound (runD dps s ops).1 a k = none) :
    resolve (runD dps s ops).1 l k = some v :=
  (runD_grows dps s ops).resolve_stable hanc h

/-- every operation but `load` is the one of `LoaderSeq` whatever the hierarchy (HasEntry, GetEntry, Discover and SetEntry
    of a dependency loader are the basic loader's): C12_has, C12_get, C12_redefine, C12_redefine_equal, C12_define_new and
    C12_discover hold verbatim … -/
theorem C12_dep_queries (dps : List (Option Mods)) (s : Sys) (op : Op) (h : ∀ l n, op ≠ .load l n) :
    stepD dps s op = step s op := by
  cases op with
  | load l n => exact absurd rfl (h l n)
  | define _ _ _ => rfl
  | has _ _ => rfl
  | get _ _ => rfl
  | discover _ _ => rfl

/-- … and on a chain without dependency loader so is `load` -/
theorem C12_dep_other (dps : List (Option Mods)) (s : Sys) (op : Op)
    (h : ∀ a ∈ chain s.ps op.loader, dps.getD a none = none) : stepD dps s op = step s op := stepD_plain dps s op h

theorem C12_dep_wf_run (dps : List (Option Mods)) (ps : List (Option Nat)) (ops : List Op) :
    WF (runD dps (Sys.init ps) ops).1 := (runD_grows dps _ _).wf (WF_init ps)

/-- discovery through (a descendant of) a dependency loader: sorted, duplicate free, exactly the names BOUND along the
    chain that satisfy the predicate — for the dependency loader: the names looked up through it so far -/
theorem C12_dep_discover (dps : List (Option Mods)) (s : Sys) (h : WF s) (l : Nat) (p : Key → Bool) :
    ∃ ks, stepD dps s (.discover l p) = (s, .keys ks) ∧
      ks.Pairwise (fun a b => keyLe a b = true) ∧ ks.Nodup ∧
      ∀ k, k ∈ ks ↔ p k = true ∧ ∃ a ∈ chain s.ps l, (bound s a k).isSome = true :=
  C12_discover s h l p

/-- misses are not sticky WHEN THE DEFINITION IS MADE IN THE DEPENDENCY LOADER: a failed lookup through it followed by
    a definition in it makes the name resolvable -/
theorem C12_dep_miss_then_define_partial (dps : List (Option Mods)) (s : Sys) (d : Nat) (mods : Mods) (n : Name) (v : V)
    (hr : s.ps.getD d none = none) (hd : dps.getD d none = some mods) (hlen : d < s.es.length)
    (ha : n.auth = runtimeAuthority) (hp : PartsOK mods n) (hfresh : lk (canon n) (s.ents d) = none)
    (hmiss : depSpec s mods n = none) :
    (runD dps s [.load d n, .define d n v]).2 = [.notfound, .ok] ∧
    stepD dps (runD dps s [.load d n, .define d n v]).1 (.load d n) =
      ((runD dps s [.load d n, .define d n v]).1, .found v) := by
  have hb0 : bound s d (canon n) = none := bound_of_lk_none hfresh
  obtain ⟨h1, h2⟩ := C12_dep_first dps s d mods n hr hd hlen ha hp hb0
  rw [hmiss] at h1 h2
  have hl1 : d < (stepD dps s (.load d n)).1.es.length := by rw [(stepD_grows dps s _).length]; exact hlen
  obtain ⟨d1, d2⟩ := define_unbound (stepD dps s (.load d n)).1 d n v hl1 h2
  have hrun : runD dps s [.load d n, .define d n v] =
      ((define (stepD dps s (.load d n)).1 d n v).1, [(stepD dps s (.load d n)).2, (define (stepD dps s (.load d n)).1 d n v).2]) := rfl
  rw [hrun]
  refine ⟨by simp only [h1, d1]; rfl, ?_⟩
  apply C12_dep_cached dps _ d mods n v _ hd ha d2
  rw [define_ps, stepD_ps]; exact hr

/-- FULL STATEMENT (the property's sentence "a lookup answers …" read for a dependency loader without its cache): in
    every state a history produces, a lookup through the dependency loader of a name it holds no value for answers what
    the dependencies bind.  TRUE since fix 9d272bd of finding C12-dependency-miss-sticky: `C12_dep_load_full_holds` (from
    `C12_dep_load_unbound`, which needs no reachability).  Before the fix it failed in the states with a recorded miss:
    `C12_dep_miss_sticky_before_fix`. -/
def C12_dep_load_full : Prop :=
  ∀ (ps : List (Option Nat)) (dps : List (Option Mods)) (ops : List Op) (d : Nat) (mods : Mods) (n : Name),
    depShapeOK ps dps = true → dps.getD d none = some mods → n.auth = runtimeAuthority → PartsOK mods n →
    bound (runD dps (Sys.init ps) ops).1 d (canon n) = none →
    (stepD dps (runD dps (Sys.init ps) ops).1 (.load d n)).2 = ansOf (depSpec (runD dps (Sys.init ps) ops).1 mods n)

/-- FULL STATEMENT of "discovery = the union over the dependencies": every name a dependency binds is discovered
    through the dependency loader.  FALSE — `C12_dep_discover_unloaded`; what holds is `C12_dep_discover`. -/
def C12_dep_discover_union_full : Prop :=
  ∀ (ps : List (Option Nat)) (dps : List (Option Mods)) (ops : List Op) (d : Nat) (mods : Mods) (n : Name) (ks : List Key),
    depShapeOK ps dps = true → dps.getD d none = some mods → PartsOK mods n →
    (depSpec (runD dps (Sys.init ps) ops).1 mods n).isSome = true →
    (stepD dps (runD dps (Sys.init ps) ops).1 (.discover d fun _ => true)).2 = .keys ks → canon n ∈ ks

/-! #### non-vacuity: root 0, the modules 1 (`m`) and 2 (`n`) parented on it, the dependency loader 3 over them, its child 4 -/

def depPs : List (Option Nat) := [none, some 0, some 0, none, some 3]
def depMods : Mods := [("m", 1), ("n", 2)]
def depDps : List (Option Mods) := [none, none, none, some depMods, none]
def nMq : Name := ⟨runtimeAuthority, "type", "M::q"⟩
def nBad : Name := ⟨runtimeAuthority, "type", "m::1q"⟩
/-- `b` bound in both modules, `M::q` in the wrong one only, `a` in the root, `A` (= `a`) in the child of the dependency loader -/
def depSample : Sys :=
  (runD depDps (Sys.init depPs)
    [.define 1 nb (.ty 1), .define 2 nb (.ty 2), .define 2 nMq (.ty 4), .define 0 na (.ty 5), .define 4 nA (.ty 6)]).1

def depSampleOf (a a' b q : Name) : Sys :=
  (runD depDps (Sys.init depPs)
    [.define 1 b (.ty 1), .define 2 b (.ty 2), .define 2 q (.ty 4), .define 0 a (.ty 5), .define 4 a' (.ty 6)]).1

theorem depSampleOf_ps (a a' b q : Name) : (depSampleOf a a' b q).ps = depPs := by rw [depSampleOf, runD_ps]; rfl

/-- what the lookups over `depSampleOf a a' b q` depend on: `a'` has the key of `a`; the keys of `a`, `b`, `q` differ; `q` is
    qualified, with first segment `m` (a module's name), the other names are not -/
def DepNames (a a' b q : Name) : Prop :=
  a.auth = runtimeAuthority ∧ a'.auth = runtimeAuthority ∧ b.auth = runtimeAuthority ∧ q.auth = runtimeAuthority ∧
  canon a' = canon a ∧ canon a ≠ canon b ∧ canon a ≠ canon q ∧ canon b ≠ canon q ∧
  isQualified a = false ∧ isQualified a' = false ∧ isQualified b = false ∧ isQualified q = true ∧
  segsOf q = ["m", "q"] ∧ partsOf q = some ["m", "q"]

theorem depNames : DepNames na nA nb nMq :=
  ⟨rfl, rfl, rfl, rfl, (canon_eq_iff _ _ _ _).mpr (by decide +kernel), mt (canon_eq_iff _ _ _ _).mp (by decide +kernel),
    mt (canon_eq_iff _ _ _ _).mp (by decide +kernel), mt (canon_eq_iff _ _ _ _).mp (by decide +kernel), by decide +kernel,
    by decide +kernel, by decide +kernel, by decide +kernel, by decide +kernel, by decide +kernel⟩

section
variable {a a' b q bad : Name} (h : DepNames a a' b q)
  (hbad : bad.auth = runtimeAuthority ∧ isQualified bad = true ∧ partsOf bad = none)
include h hbad
attribute [local simp] depSampleOf depPs runD_cons runD_nil stepD step define setEntry lk put Sys.init Sys.ents
  Sys.setEnts depSpec namedModule resolve bound depDps depMods loadD loadEntryD depLoadEntry depFind depLoop
  modLoadEntry indexOf indexEmpty chain chainAux loadEntryC

theorem dep_outcomes :
    (depSpec (depSampleOf a a' b q) depMods b = some (.ty 1) ∧
      (stepD depDps (depSampleOf a a' b q) (.load 3 b)).2 = .found (.ty 1) ∧
      lk (canon b) ((depSampleOf a a' b q).ents 3) = none ∧
      depSpec (depSampleOf a a' b q) depMods q = none ∧ (stepD depDps (depSampleOf a a' b q) (.load 3 q)).2 = .notfound ∧
      depSpec (depSampleOf a a' b q) depMods a' = some (.ty 5)) ∧
    ((stepD depDps (depSampleOf a a' b q) (.load 4 a)).2 = .found (.ty 5) ∧
      bound (depSampleOf a a' b q) 4 (canon a) = some (.ty 6) ∧
      bound (stepD depDps (depSampleOf a a' b q) (.load 4 a)).1 3 (canon a) = some (.ty 5) ∧
      bound (depSampleOf a a' b q) 3 (canon a) = none) ∧
    (runD depDps (depSampleOf a a' b q) [.load 3 b, .define 0 b (.ty 9), .load 1 b, .load 3 b]).2 =
      [.found (.ty 1), .ok, .found (.ty 9), .found (.ty 1)] ∧
    ((stepD depDps (depSampleOf a a' b q) (.load 4 bad)).2 = .reported "PCORE_INVALID_CHARACTERS_IN_NAME" ∧
      (stepD depDps (depSampleOf a a' b q) (.load 4 bad)).1.es = (depSampleOf a a' b q).es ∧
      lk (canon bad) ((depSampleOf a a' b q).ents 3) = none) ∧
    (lk (canon q) ((depSampleOf a a' b q).ents 3) = none ∧ depSpec (depSampleOf a a' b q) depMods q = none ∧
      (runD depDps (depSampleOf a a' b q) [.load 3 q, .define 3 q (.ty 8), .load 3 q]).2 =
        [.notfound, .ok, .found (.ty 8)]) := by
  obtain ⟨ha, hA, hb, hq, e, ab, aq, bq, qa, qA, qb, qq, sq, pq⟩ := h
  obtain ⟨hbad, qbad, pbad⟩ := hbad
  have ba := ab.symm
  have qa' := aq.symm
  have qb' := bq.symm
  simp [*]

end

theorem dep_nBad : nBad.auth = runtimeAuthority ∧ isQualified nBad = true ∧ partsOf nBad = none :=
  ⟨rfl, by decide +kernel, by decide +kernel⟩

example : depShapeOK depPs depDps = true ∧ DepChain depDps (chain depSample.ps 4) 3 depMods ∧
    DepChain depDps (chain depSample.ps 3) 3 depMods ∧ PartsOK depMods nMq ∧ PartsOK depMods nb ∧ ¬ PartsOK depMods nBad := by
  rw [show depSample = depSampleOf na nA nb nMq from rfl, depSampleOf_ps]; decide +kernel
-- C12_dep_first: dependency order (module 1 before 2), the named module alone for a qualified name, a root's binding
-- through a module
example : depSpec depSample depMods nb = some (.ty 1) ∧ (stepD depDps depSample (.load 3 nb)).2 = .found (.ty 1) ∧
    lk (canon nb) (depSample.ents 3) = none ∧
    depSpec depSample depMods nMq = none ∧ (stepD depDps depSample (.load 3 nMq)).2 = .notfound ∧
    depSpec depSample depMods nA = some (.ty 5) := (dep_outcomes depNames dep_nBad).1
-- C12_dep_load / C12_dep_fill through the child: the lazy binding of the ancestor wins over the child's own binding
example : (stepD depDps depSample (.load 4 na)).2 = .found (.ty 5) ∧ bound depSample 4 (canon na) = some (.ty 6) ∧
    bound (stepD depDps depSample (.load 4 na)).1 3 (canon na) = some (.ty 5) ∧ bound depSample 3 (canon na) = none :=
  (dep_outcomes depNames dep_nBad).2.1
-- C12_dep_cached / C12_dep_stable: once `b` is bound in 3, a binding gained by the modules' root does not change the answer
example : (runD depDps depSample [.load 3 nb, .define 0 nb (.ty 9), .load 1 nb, .load 3 nb]).2 =
    [.found (.ty 1), .ok, .found (.ty 9), .found (.ty 1)] := (dep_outcomes depNames dep_nBad).2.2.1
-- C12_dep_invalid_name
example : (stepD depDps depSample (.load 4 nBad)).2 = .reported "PCORE_INVALID_CHARACTERS_IN_NAME" ∧
    (stepD depDps depSample (.load 4 nBad)).1.es = depSample.es ∧ lk (canon nBad) (depSample.ents 3) = none :=
  (dep_outcomes depNames dep_nBad).2.2.2.1
-- C12_dep_miss_then_define_partial: its hypotheses hold for a name nobody binds
example : lk (canon nMq) (depSample.ents 3) = none ∧ depSpec depSample depMods nMq = none ∧
    (runD depDps depSample [.load 3 nMq, .define 3 nMq (.ty 8), .load 3 nMq]).2 = [.notfound, .ok, .found (.ty 8)] :=
  (dep_outcomes depNames dep_nBad).2.2.2.2
-- C12_dep_load_partial: after a history that defines and looks up elsewhere, `b` has no entry in 3
example : depShapeOK depPs depDps = true ∧ 3 < depPs.length ∧
    lk (canon nb) ((runD depDps (Sys.init depPs) [.define 2 nb (.ty 2), .load 1 nb, .load 3 nMq]).1.ents 3) = none ∧
    (stepD depDps (runD depDps (Sys.init depPs) [.define 2 nb (.ty 2), .load 1 nb, .load 3 nMq]).1 (.load 3 nb)).2 =
      .found (.ty 2) := by decide +kernel
-- C12_dep_other: the modules and the root are plain loaders
example : ∀ a ∈ chain depSample.ps 2, depDps.getD a none = none := by
  rw [show depSample = depSampleOf na nA nb nMq from rfl, depSampleOf_ps]; decide +kernel

/-- `C12_dep_load_full` holds (before fix 9d272bd it was refuted: `C12_dep_miss_sticky_before_fix`) -/
theorem C12_dep_load_full_holds : C12_dep_load_full := by
  intro ps dps ops d mods n hshape hd ha hp hb
  apply C12_dep_load_unbound dps _ d mods n _ hd ha hp hb
  rw [runD_ps]
  exact depShape_root hshape hd

/-- the case of `C12_dep_load_full` with NO ENTRY instead of no value (the part that held before the fix too) -/
theorem C12_dep_load_partial (ps : List (Option Nat)) (dps : List (Option Mods)) (ops : List Op) (d : Nat) (mods : Mods)
    (n : Name) (hshape : depShapeOK ps dps = true) (hd : dps.getD d none = some mods) (hlt : d < ps.length)
    (ha : n.auth = runtimeAuthority) (hp : PartsOK mods n)
    (hfresh : lk (canon n) ((runD dps (Sys.init ps) ops).1.ents d) = none) :
    (stepD dps (runD dps (Sys.init ps) ops).1 (.load d n)).2 = ansOf (depSpec (runD dps (Sys.init ps) ops).1 mods n) :=
  C12_dep_load_full_holds ps dps ops d mods n hshape hd ha hp (bound_of_lk_none hfresh)

/-- MISSES ARE NOT STICKY through a dependency loader: after a failed lookup through it and a definition in another loader
    (one of its modules, say), the next lookup through it answers what the dependencies bind then -/
theorem C12_dep_miss_then_define (dps : List (Option Mods)) (s : Sys) (d m : Nat) (mods : Mods) (n : Name) (v : V)
    (hr : s.ps.getD d none = none) (hd : dps.getD d none = some mods) (hlen : d < s.es.length)
    (ha : n.auth = runtimeAuthority) (hp : PartsOK mods n) (hb : bound s d (canon n) = none) (hmd : m ≠ d)
    (hmiss : depSpec s mods n = none) :
    (stepD dps s (.load d n)).2 = .notfound ∧
    (stepD dps (runD dps s [.load d n, .define m n v]).1 (.load d n)).2 =
      ansOf (depSpec (runD dps s [.load d n, .define m n v]).1 mods n) := by
  obtain ⟨h1, h2⟩ := C12_dep_first dps s d mods n hr hd hlen ha hp hb
  rw [hmiss] at h1 h2
  refine ⟨h1, ?_⟩
  have hrun : (runD dps s [.load d n, .define m n v]).1 = (define (stepD dps s (.load d n)).1 m n v).1 := rfl
  rw [hrun]
  apply C12_dep_load_unbound dps _ d mods n _ hd ha hp
  · rw [define_bound_frame _ m n v d (canon n) (Or.inl (Ne.symm hmd))]; exact h2
  · rw [define_ps, stepD_ps]; exact hr

/-- the history of the repaired defect, answer by answer — the lookup after the definition in module 1 finds it, `HasEntry`
    says so from then on — and the same history with the definition FIRST -/
theorem C12_dep_miss_not_sticky_history :
    (runD depDps (Sys.init depPs) [.load 3 nb, .define 1 nb (.ty 1), .load 1 nb, .has 3 nb, .load 3 nb, .has 3 nb]).2 =
      [.notfound, .ok, .found (.ty 1), .bool false, .found (.ty 1), .bool true] ∧
    (runD depDps (Sys.init depPs) [.define 1 nb (.ty 1), .load 3 nb, .has 3 nb]).2 = [.ok, .found (.ty 1), .bool true] := by
  decide +kernel
-- C12_dep_miss_then_define: its hypotheses hold at the start of that history, and the dependencies bind `b` afterwards
example : depSpec (Sys.init depPs) depMods nb = none ∧ bound (Sys.init depPs) 3 (canon nb) = none ∧ (1 : Nat) ≠ 3 ∧
    depSpec (runD depDps (Sys.init depPs) [.load 3 nb, .define 1 nb (.ty 1)]).1 depMods nb = some (.ty 1) := by
  decide +kernel

/-- `dependencyLoader.LoadEntry` BEFORE fix 9d272bd: any own entry — a recorded miss included — was final -/
def depLoadEntryBeforeFix (s : Sys) (d : Nat) (mods : Mods) (n : Name) : Sys × LE :=
  match lk (canon n) (s.ents d) with
  | some e => (s, .ok (some e))
  | none =>
    match depFind s d mods n with
    | .bad => (s, .bad)
    | .ok e => (s.setEnts d (setEntry (s.ents d) (canon n) e.join).1, .ok (some e.join))

/-- MISSES WERE STICKY (finding C12-dependency-miss-sticky, fixed): after a failed lookup through the dependency loader and a
    definition in module 1, the dependencies bind the name, the dependency loader holds no value for it — and the pre-fix
    `LoadEntry` answered its recorded miss where the repaired one answers the module's binding -/
theorem C12_dep_miss_sticky_before_fix :
    bound (runD depDps (Sys.init depPs) [.load 3 nb, .define 1 nb (.ty 1)]).1 3 (canon nb) = none ∧
    depSpec (runD depDps (Sys.init depPs) [.load 3 nb, .define 1 nb (.ty 1)]).1 depMods nb = some (.ty 1) ∧
    (depLoadEntryBeforeFix (runD depDps (Sys.init depPs) [.load 3 nb, .define 1 nb (.ty 1)]).1 3 depMods nb).2 =
      .ok (some none) ∧
    (depLoadEntry (runD depDps (Sys.init depPs) [.load 3 nb, .define 1 nb (.ty 1)]).1 3 depMods nb).2 =
      .ok (some (some (.ty 1))) := by decide +kernel

/-- discovery through a dependency loader is NOT the union over its dependencies: a name bound in a module is discovered
    (and `HasEntry` says so) only after it was looked up through the dependency loader -/
theorem C12_dep_discover_unloaded : ¬ C12_dep_discover_union_full := by
  intro h
  have := h depPs depDps [.define 1 nb (.ty 1)] 3 depMods nb [] (by decide +kernel) rfl (by decide +kernel)
    (by decide +kernel) (by decide +kernel)
  revert this
  decide +kernel

theorem C12_dep_discover_history :
    (runD depDps (Sys.init depPs) [.define 1 nb (.ty 1), .discover 3 (fun _ => true), .has 3 nb, .load 3 nb,
      .discover 3 (fun _ => true), .has 4 nb]).2 =
      [.ok, .keys [], .bool false, .found (.ty 1), .keys [canon nb], .bool true] := by decide +kernel

/-! ### typed names beyond ASCII, and the typed name as a struct with caches (`Model/LoaderKey.lean`) -/

-- `C12_case` is about Go's `strings.ToLower` over the table regenerated from $GOROOT: É/é, the Kelvin sign / k / K and
-- İ / i / I denote one entry each (and the byte length of the key differs from the name's for two of them)
example : canon ⟨runtimeAuthority, "type", "\u00c9"⟩ = canon ⟨runtimeAuthority, "type", "\u00e9"⟩ ∧
    canon ⟨runtimeAuthority, "type", "\u212a"⟩ = canon ⟨runtimeAuthority, "type", "K"⟩ ∧
    canon ⟨runtimeAuthority, "type", "\u0130x"⟩ = canon ⟨runtimeAuthority, "type", "Ix"⟩ ∧
    canon ⟨runtimeAuthority, "type", "\u0131"⟩ ≠ canon ⟨runtimeAuthority, "type", "I"⟩ :=
  ⟨(canon_eq_iff _ _ _ _).mpr (by decide +kernel), (canon_eq_iff _ _ _ _).mpr (by decide +kernel),
    (canon_eq_iff _ _ _ _).mpr (by decide +kernel), mt (canon_eq_iff _ _ _ _).mp (by decide +kernel)⟩
example : eqFold ⟨runtimeAuthority, "type", "M::\u212a"⟩ ⟨runtimeAuthority, "Type", "::m::k"⟩ :=
  ⟨rfl, String.toList_inj.mp (by rw [lower_toList, lower_toList]; decide +kernel),
    String.toList_inj.mp (by rw [lower_stripColons_toList, lower_stripColons_toList]; decide +kernel)⟩

/-- the byte-level key of `Model/LoaderKey.lean` is the UTF-8 encoding of `canon` -/
theorem C12_key_is_canon (ns name auth : String) :
    (TN.mk' ns.toList name.toList auth.toList).freshKey = enc (canon ⟨auth, ns, name⟩).toList := by
  simp [TN.freshKey, TN.mk', canon, lower, lowerL, stripColons, String.toList_append, String.toList_ofList]

/-- FULL STATEMENT ("one name, one key"): a typed name derived with `Child()` / `Parent()` from a name made by
    `newTypedName2` — whether or not `MapKey()` was called on that name before — has the key of a fresh typed name of its
    three strings, and deriving it never faults.  TRUE since fix 50062c5 of finding C12-typedname-derived-key:
    `C12_key_derived`.  Before the fix it was false (`C12_key_derived_wrong_before_fix`, `C12_key_derived_fault_before_fix`)
    outside the class of `C12_key_derived_lenstable_before_fix`. -/
def C12_key_derived_full : Prop :=
  ∀ (ns name auth : List Char) (keyed : Bool) (t' : TN),
    let t := if keyed then (TN.mk' ns name auth).mapKey.1 else TN.mk' ns name auth
    t.child ≠ .fault ∧ t.parent ≠ .fault ∧ ((t.child = .ok t' ∨ t.parent = .ok t') → t'.mapKey.2 = t'.freshKey)

/-- a derived name carries no cached key, so its key is computed afresh — for EVERY typed name, whatever it has cached -/
theorem C12_key_derived_any (t t' : TN) :
    t.child ≠ .fault ∧ t.parent ≠ .fault ∧ ((t.child = .ok t' ∨ t.parent = .ok t') → t'.mapKey.2 = t'.freshKey) :=
  ⟨t.child_spec.1, t.parent_spec.1, fun h => t'.mapKey_snd (Or.inl (h.elim (t.child_spec.2 t') (t.parent_spec.2 t')))⟩

/-- `C12_key_derived_full` holds (before fix 50062c5 it was refuted: `C12_key_derived_wrong_before_fix`) -/
theorem C12_key_derived : C12_key_derived_full := by
  intro ns name auth keyed t'
  exact C12_key_derived_any _ t'

/-- special cases of `C12_key_derived_any`; the extra hypothesis is not needed: without a cached key … -/
theorem C12_key_derived_fresh_partial (t t' : TN) (_h : t.canonical = []) :
    t.child ≠ .fault ∧ t.parent ≠ .fault ∧ ((t.child = .ok t' ∨ t.parent = .ok t') → t'.mapKey.2 = t'.freshKey) :=
  C12_key_derived_any t t'

/-- … and with a cached key when lower-casing keeps the UTF-8 length of every letter -/
theorem C12_key_derived_lenstable_partial (ns name auth : List Char) (keyed : Bool) (t' : TN)
    (_hs : LenStable (auth ++ ns ++ stripColonsL name)) :
    let t := if keyed then (TN.mk' ns name auth).mapKey.1 else TN.mk' ns name auth
    t.child ≠ .fault ∧ t.parent ≠ .fault ∧ ((t.child = .ok t' ∨ t.parent = .ok t') → t'.mapKey.2 = t'.freshKey) :=
  C12_key_derived ns name auth keyed t'

theorem C12_key_derived_ascii (ns name auth : List Char) (keyed : Bool) (t' : TN)
    (_h : ∀ c ∈ auth ++ ns ++ stripColonsL name, c.toNat < 128) :
    let t := if keyed then (TN.mk' ns name auth).mapKey.1 else TN.mk' ns name auth
    t.child ≠ .fault ∧ t.parent ≠ .fault ∧ ((t.child = .ok t' ∨ t.parent = .ok t') → t'.mapKey.2 = t'.freshKey) :=
  C12_key_derived ns name auth keyed t'

def rtChars : List Char := runtimeAuthority.toList
-- not vacuous: `Kx::Foo` with its key cached has the child `Foo`, whose key is the fresh one
example : ((TN.mk' "type".toList "\u212ax::Foo".toList rtChars).mapKey.1).child =
      .ok (TN.mk' "type".toList "Foo".toList rtChars) ∧
    ((TN.mk' "type".toList "\u212ax::Foo".toList rtChars).mapKey.1).parent =
      .ok (TN.mk' "type".toList "\u212ax".toList rtChars) ∧
    (TN.mk' "type".toList "\u212ax::Foo".toList rtChars).mapKey.1.canonical ≠ [] := by decide +kernel
example : LenStable ("http://x".toList ++ "type".toList ++ stripColonsL "\u00c9a::Foo".toList) ∧
    ¬ LenStable "\u212a".toList ∧ ∀ c ∈ rtChars ++ "type".toList ++ stripColonsL "::Ab::c".toList, c.toNat < 128 := by
  decide +kernel

/-! #### the repaired defect, on the pre-fix definitions (`Proofs/LoaderKey.lean`: `childNBeforeFix`, `parentBeforeFix`) -/

/-- BEFORE THE FIX the cut-out key was right, and nothing faulted, exactly in the length-stable class: when lower-casing
    keeps the UTF-8 length of every letter of the authority, the namespace and the name -/
theorem C12_key_derived_lenstable_before_fix (ns name auth : List Char) (t' : TN)
    (hs : LenStable (auth ++ ns ++ stripColonsL name)) :
    let t := (TN.mk' ns name auth).mapKey.1
    t.childBeforeFix ≠ .fault ∧ t.parentBeforeFix ≠ .fault ∧
    ((t.childBeforeFix = .ok t' ∨ t.parentBeforeFix = .ok t') → t'.mapKey.2 = t'.freshKey) := by
  have ht : (TN.mk' ns name auth).mapKey.1 =
      { ns := ns, auth := auth, name := stripColonsL name, canonical := (TN.mk' ns name auth).freshKey, parts := none } := by
    simp [TN.mapKey, TN.mk']
  simp only
  rw [ht]
  generalize hT : (TN.mk ns auth (stripColonsL name) (TN.mk' ns name auth).freshKey none) = T
  have hkey : T.canonical = T.freshKey := by subst hT; rfl
  have hs : LenStable (T.auth ++ T.ns ++ T.name) := by subst hT; exact hs
  obtain ⟨c1, c2⟩ := childBeforeFix_spec T (Or.inr hkey) hs
  obtain ⟨p1, p2⟩ := parentBeforeFix_spec T (Or.inr hkey) hs
  exact ⟨c1, p1, fun h => t'.mapKey_snd (h.elim (c2 t') (p2 t'))⟩

-- with ASCII names the cached key was cut correctly
def keyedChild : TN :=
  { ns := "type".toList, auth := rtChars, name := "Cd::e".toList, parts := none,
    canonical := enc (runtimeAuthority ++ "/type/cd::e").toList }
example : ((TN.mk' "type".toList "Ab::Cd::e".toList rtChars).mapKey.1).childBeforeFix = .ok keyedChild ∧
    keyedChild.mapKey.2 = keyedChild.freshKey := by decide +kernel

/-- ONE NAME, TWO KEYS before the fix: the Kelvin sign (3 bytes) lower-cases to `k` (1 byte); after `MapKey()` the child of
    `Kx::Foo` carried the cached key `…/type/o` while a fresh `Foo` has `…/type/foo`; the parent `Kx` carried `…/type/kx::` -/
theorem C12_key_derived_wrong_before_fix :
    ((TN.mk' "type".toList "\u212ax::Foo".toList rtChars).mapKey.1).childBeforeFix =
      .ok { ns := "type".toList, auth := rtChars, name := "Foo".toList, parts := none,
            canonical := enc (runtimeAuthority ++ "/type/o").toList } ∧
    (TN.mk' "type".toList "Foo".toList rtChars).freshKey = enc (runtimeAuthority ++ "/type/foo").toList ∧
    ((TN.mk' "type".toList "\u212ax::Foo".toList rtChars).mapKey.1).parentBeforeFix =
      .ok { ns := "type".toList, auth := rtChars, name := "\u212ax".toList, parts := none,
            canonical := enc (runtimeAuthority ++ "/type/kx::").toList } := by decide +kernel

/-- … and with such a letter in the AUTHORITY the slice expression was out of range: `Child()` panicked -/
theorem C12_key_derived_fault_before_fix :
    ((TN.mk' "type".toList "A::B".toList "http://\u212a.example".toList).mapKey.1).childBeforeFix = .fault ∧
    ((TN.mk' "type".toList "A::B".toList "http://\u212a.example".toList).mapKey.1).child =
      .ok (TN.mk' "type".toList "B".toList "http://\u212a.example".toList) := by decide +kernel

/-! ### the global level (`Model/LoaderStatic.lean`): declared types, `ResolveResolvables`, the static loader as a root

The static loader is a `basicLoader` without parent: in the model a root like any other, so every theorem above holds of
it (it is node 0 of the `(stw)` lines of the harness, which run the REAL `loader.StaticLoader`).  What the global level adds
is the process-wide list of declared types (`SysQ.queue`) and `ResolveResolvables(c)`, which defines all of them in
`c.Loader()` — in the static loader during `InitializeRuntime`, in the environment loader or a fork afterwards. -/

/-- misses are not sticky, one level up: after a failed lookup through `l`, a definition in ANY loader of its chain — the
    static loader at the top included — makes the name resolve through `l`, to that value ("as long as no ancestor gains a
    binding" is the only way a resolution changes) -/
theorem C12_define_ancestor_after_miss (s : Sys) (l a : Nat) (n : Name) (v : V) (ha : n.auth = runtimeAuthority)
    (hmem : a ∈ chain s.ps l) (hlen : a < s.es.length) (h : resolve s l (canon n) = none) :
    (run s [.load l n, .define a n v]).2 = [.notfound, .ok] ∧
    resolve (run s [.load l n, .define a n v]).1 l (canon n) = some v ∧
    (step (run s [.load l n, .define a n v]).1 (.load l n)).2 = .found v := by
  obtain ⟨h1, h2⟩ := load_then_define s l a n v hmem hlen h
  exact ⟨h1, h2, by rw [C12_load _ l n ha, h2]; rfl⟩

/-- `ResolveResolvables` is the sequence of definitions of the declared types, in order of declaration, in the loader of
    the context; the first one that is rejected ends it with that reported error -/
theorem C12_rr_loop (tss : List (Option TypeSet)) (dps : List (Option Mods)) (s : Sys) (l : Nat) (n : Name) (v : V)
    (r : List (Name × V)) :
    rrLoop tss dps s l [] = (s, .ok) ∧
    rrLoop tss dps s l ((n, v) :: r) =
      if (stepX tss dps s (.define l n v)).2 = .ok then rrLoop tss dps (stepX tss dps s (.define l n v)).1 l r
      else stepX tss dps s (.define l n v) := ⟨rfl, rrLoop_cons tss dps s l n v r⟩

/-- when it returns normally every declared type is bound in that loader to the value declared -/
theorem C12_rr_ok (tss : List (Option TypeSet)) (dps : List (Option Mods)) (q : SysQ) (l : Nat)
    (ht : tsOf tss l = none) (hl : l < q.sys.es.length) (h : (stepQ tss dps q (.rr l)).2 = .ok) :
    ∀ nv ∈ q.queue, bound (stepQ tss dps q (.rr l)).1.sys l (canon nv.1) = some nv.2 :=
  rrLoop_ok_bound tss dps q.sys l q.queue ht hl h

/-- declaring changes no loader; resolving leaves no declaration behind — accepted or not -/
theorem C12_rr_queue (tss : List (Option TypeSet)) (dps : List (Option Mods)) (q : SysQ) (l : Nat) (n : Name) (v : V) :
    (stepQ tss dps q (.reg n v)).1.sys = q.sys ∧ (stepQ tss dps q (.reg n v)).1.queue = q.queue ++ [(n, v)] ∧
    (stepQ tss dps q (.rr l)).1.queue = [] := ⟨rfl, rfl, rfl⟩

/-- write-once holds at the global level: no declaration, resolution or operation changes or removes a binding -/
theorem C12_rr_writeonce (tss : List (Option TypeSet)) (dps : List (Option Mods)) (q : SysQ) (op : OpQ) (l : Nat) (k : Key)
    (v : V) (h : bound q.sys l k = some v) : bound (stepQ tss dps q op).1.sys l k = some v :=
  (stepQ_grows tss dps q op).keeps l k v h

theorem C12_rr_writeonce_run (tss : List (Option TypeSet)) (dps : List (Option Mods)) (q : SysQ) (ops : List OpQ) (l : Nat)
    (k : Key) (v : V) (h : bound q.sys l k = some v) : bound (runQ tss dps q ops).1.sys l k = some v :=
  (runQ_grows tss dps q ops).keeps l k v h

/-- on a hierarchy of plain loaders the operations are the ones of `LoaderSeq` -/
theorem C12_rr_plain (tss : List (Option TypeSet)) (dps : List (Option Mods)) (q : SysQ) (o : Op)
    (ht : tsOf tss o.loader = none) (hd : ∀ a ∈ chain q.sys.ps o.loader, dps.getD a none = none) :
    (stepQ tss dps q (.op o)).1.sys = (step q.sys o).1 ∧ (stepQ tss dps q (.op o)).2 = (step q.sys o).2 ∧
    (stepQ tss dps q (.op o)).1.queue = q.queue := by
  simp only [stepQ, stepX_plain tss dps q.sys o ht hd, and_self]

/-! #### non-vacuity: static loader 0 ← 1 ← 2 -/

def nc : Name := ⟨runtimeAuthority, "type", "c"⟩
def stPs : List (Option Nat) := [none, some 0, some 1]
def q0 : SysQ := { sys := Sys.init stPs, queue := [] }
section
variable {a a' b c : Name} (h : SampleNames a a' b)
  (hc : c.auth = runtimeAuthority ∧ canon c ≠ canon a ∧ canon c ≠ canon b)
include h hc
attribute [local simp] stPs resolve bound run_cons run_nil step load define setEntry lk put Sys.init chain chainAux
  loadEntryC Sys.ents Sys.setEnts q0 runQ_cons runQ_nil stepQ stepX stepT tsOf rrLoop discC ownAdded sortKeys
  insertKey V.isType

theorem static_outcomes :
    (resolve (Sys.init stPs) 2 (canon a) = none ∧ 0 ∈ chain (Sys.init stPs).ps 2 ∧
      (run (Sys.init stPs) [.load 2 a, .define 0 a' (.ty 1), .load 2 a, .get 2 a]).2 =
        [.notfound, .ok, .found (.ty 1), .entry (some none)]) ∧
    ((runQ [] [] q0 [.reg a (.al "a" 1), .reg b (.al "b" 2), .rr 0, .op (.load 2 b), .op (.discover 2 fun _ => true)]).2 =
      [.ok, .ok, .ok, .found (.al "b" 2), .keys [canon a, canon b]] ∧ tsOf [] 0 = none) ∧
    (runQ [] [] q0 [.op (.define 1 a (.ty 1)), .reg b (.al "b" 1), .reg a' (.al "A" 2), .reg c (.al "c" 3), .rr 1,
      .op (.load 1 b), .op (.load 1 c), .rr 1, .op (.load 1 c)]).2 =
    [.ok, .ok, .ok, .ok, .reported "PCORE_ATTEMPT_TO_REDEFINE_TYPE", .found (.al "b" 1), .notfound, .ok, .notfound] := by
  obtain ⟨ha, hA, hb, e, ne, ne', hle⟩ := h
  obtain ⟨hc, ca, cb⟩ := hc
  have ac := ca.symm
  have bc := cb.symm
  simp [*]

end

theorem static_nc : nc.auth = runtimeAuthority ∧ canon nc ≠ canon na ∧ canon nc ≠ canon nb :=
  ⟨rfl, mt (canon_eq_iff _ _ _ _).mp (by decide +kernel), mt (canon_eq_iff _ _ _ _).mp (by decide +kernel)⟩

-- C12_define_ancestor_after_miss: the miss through 2, then the definition at the static level
example : resolve (Sys.init stPs) 2 (canon na) = none ∧ 0 ∈ chain (Sys.init stPs).ps 2 ∧
    (run (Sys.init stPs) [.load 2 na, .define 0 nA (.ty 1), .load 2 na, .get 2 na]).2 =
      [.notfound, .ok, .found (.ty 1), .entry (some none)] :=
  (static_outcomes sampleNames static_nc).1
-- C12_rr_ok / C12_rr_queue: "during init": two declarations resolved into the static loader, seen from below
example : (runQ [] [] q0 [.reg na (.al "a" 1), .reg nb (.al "b" 2), .rr 0, .op (.load 2 nb), .op (.discover 2 fun _ => true)]).2 =
    [.ok, .ok, .ok, .found (.al "b" 2), .keys [canon na, canon nb]] ∧ tsOf [] 0 = none :=
  (static_outcomes sampleNames static_nc).2.1
/-- a rejected declaration ends `ResolveResolvables`: the declarations behind it are lost — not defined, not queued any more -/
theorem C12_rr_drops_rest :
    (runQ [] [] q0 [.op (.define 1 na (.ty 1)), .reg nb (.al "b" 1), .reg nA (.al "A" 2), .reg nc (.al "c" 3), .rr 1,
      .op (.load 1 nb), .op (.load 1 nc), .rr 1, .op (.load 1 nc)]).2 =
    [.ok, .ok, .ok, .ok, .reported "PCORE_ATTEMPT_TO_REDEFINE_TYPE", .found (.al "b" 1), .notfound, .ok, .notfound] :=
  (static_outcomes sampleNames static_nc).2.2

/-! ### type sets as providers of names (`px.AddTypes` of a TypeSet: `addTypeSet`, `addMembers` in `Model/LoaderStatic.lean`)

"A TypeSet bound at `A` answers `A::B`" — because adding it binds its members, under their qualified names, in the loader
it is added through, wherever nothing resolved before.  The same abstract specification (`bound` / `resolve`) describes
the outcome: no new notion of lookup is needed. -/

/-- REFINEMENT: on a hierarchy of plain loaders `resolveTypeSet` is, member by member in declaration order: a member whose
    qualified name resolves through the loader is skipped (whatever it resolves to), any other is defined in the loader —
    said with the specification `resolve`, not with the code's `LoadEntry` -/
theorem C12_addts_refines (dps : List (Option Mods)) (s : Sys) (l : Nat) (ts m : String) (k : Nat) (r : List (String × Nat))
    (hd : ∀ a ∈ chain s.ps l, dps.getD a none = none) :
    addMembers dps s l ts [] = (s, .ok) ∧
    addMembers dps s l ts ((m, k) :: r) =
      if (resolve s l (canon (memberName ts m))).isSome then addMembers dps s l ts r
      else if (define s l (memberName ts m) (memberVal ts m k)).2 = .ok then
        addMembers dps (define s l (memberName ts m) (memberVal ts m k)).1 l ts r
      else define s l (memberName ts m) (memberVal ts m k) := ⟨rfl, addMembers_cons_plain dps s l ts m k r hd⟩

/-- after a type set was added through `l` EVERY member resolves through `l`: to what its qualified name resolved to
    before, otherwise to the member; no member is rejected; no other name changes its resolution -/
theorem C12_addts_members (dps : List (Option Mods)) (s : Sys) (l : Nat) (ts : String) (ms : List (String × Nat))
    (hd : ∀ a ∈ chain s.ps l, dps.getD a none = none) (hshape : l ∉ ancestors s.ps l) (hl : l < s.es.length)
    (hnd : (ms.map fun m => canon (memberName ts m.1)).Nodup) :
    (addMembers dps s l ts ms).2 = .ok ∧
    (∀ m ∈ ms, resolve (addMembers dps s l ts ms).1 l (canon (memberName ts m.1)) =
      some ((resolve s l (canon (memberName ts m.1))).getD (memberVal ts m.1 m.2))) ∧
    ∀ k', k' ∉ ms.map (fun m => canon (memberName ts m.1)) → resolve (addMembers dps s l ts ms).1 l k' = resolve s l k' :=
  addMembers_spec dps s l ts ms hd hl hnd

/-- MISSES ARE NOT STICKY for type sets: whatever lookups failed before (cached misses anywhere along the chain), once a
    type set none of whose names resolved is added through `l`, the set and every member resolve through `l` -/
theorem C12_addts_after_miss (dps : List (Option Mods)) (s : Sys) (l : Nat) (ts : String) (ver : Nat)
    (ms : List (String × Nat)) (hd : ∀ a ∈ chain s.ps l, dps.getD a none = none) (hshape : l ∉ ancestors s.ps l)
    (hl : l < s.es.length) (hnd : (ms.map fun m => canon (memberName ts m.1)).Nodup)
    (hts : canon ⟨runtimeAuthority, "type", ts⟩ ∉ ms.map (fun m => canon (memberName ts m.1)))
    (hmiss : resolve s l (canon ⟨runtimeAuthority, "type", ts⟩) = none)
    (hmissm : ∀ m ∈ ms, resolve s l (canon (memberName ts m.1)) = none) :
    (addTypeSet dps s l ts ver ms).2 = .ok ∧
    resolve (addTypeSet dps s l ts ver ms).1 l (canon ⟨runtimeAuthority, "type", ts⟩) = some (.tset ts ver) ∧
    ∀ m ∈ ms, resolve (addTypeSet dps s l ts ver ms).1 l (canon (memberName ts m.1)) = some (memberVal ts m.1 m.2) := by
  obtain ⟨h1, h5, h4⟩ := addMembers_spec dps s l ts ms hd hl hnd
  have hdef := resolve_define_new (addMembers dps s l ts ms).1 l ⟨runtimeAuthority, "type", ts⟩ (.tset ts ver)
    (by rw [(addMembers_grows dps s l ts ms).length]; exact hl) (by rw [h4 _ hts]; exact hmiss)
  rw [addTypeSet_eq, if_pos h1]
  refine ⟨hdef.1, hdef.2, ?_⟩
  intro m hm
  have hne : canon (memberName ts m.1) ≠ canon ⟨runtimeAuthority, "type", ts⟩ := by
    intro e; apply hts; rw [← e]; exact List.mem_map_of_mem (f := fun m => canon (memberName ts m.1)) hm
  rw [resolve_define_other _ l _ _ l _ hne, h5 m hm, hmissm m hm]; rfl

/-! #### non-vacuity: the history of the seeded change C12-s6 (`@tsadd`): misses through the child and
    the root, then the type set added through the child -/

def zooMs : List (String × Nat) := [("Car", 1), ("Plane", 2)]
def nZoo : Name := ⟨runtimeAuthority, "type", "Zoo"⟩
def nZooCar : Name := ⟨runtimeAuthority, "type", "zoo::CAR"⟩
def zooMissed : Sys := (run (Sys.init [none, some 0]) [.load 1 nZooCar, .load 0 nZooCar, .load 1 nZoo]).1

def zooMissedOf (zc z : Name) : Sys := (run (Sys.init [none, some 0]) [.load 1 zc, .load 0 zc, .load 1 z]).1

/-- what the histories with the type set `ts` (members `m1`, `m2`; later `m3`) depend on: `zc` has the key of the member
    `ts::m1`, `z` the key of the type set, the other keys are distinct, and `z`, `zc`, `ts::m2` is their order -/
def ZooNames (zc z : Name) (ts m1 m2 m3 : String) : Prop :=
  zc.auth = runtimeAuthority ∧ z.auth = runtimeAuthority ∧
  canon (memberName ts m1) = canon zc ∧ canon ⟨runtimeAuthority, "type", ts⟩ = canon z ∧
  canon z ≠ canon zc ∧ canon z ≠ canon (memberName ts m2) ∧ canon z ≠ canon (memberName ts m3) ∧
  canon zc ≠ canon (memberName ts m2) ∧ canon zc ≠ canon (memberName ts m3) ∧
  canon (memberName ts m2) ≠ canon (memberName ts m3) ∧
  keyLe (canon z) (canon (memberName ts m2)) = true ∧ keyLe (canon zc) (canon z) = false ∧
  keyLe (canon zc) (canon (memberName ts m2)) = true

theorem zooNames : ZooNames nZooCar nZoo "Zoo" "Car" "Plane" "Truck" :=
  ⟨rfl, rfl, (canon_eq_iff _ _ _ _).mpr (by decide +kernel), rfl,
    mt (canon_eq_iff _ _ _ _).mp (by decide +kernel), mt (canon_eq_iff _ _ _ _).mp (by decide +kernel),
    mt (canon_eq_iff _ _ _ _).mp (by decide +kernel), mt (canon_eq_iff _ _ _ _).mp (by decide +kernel),
    mt (canon_eq_iff _ _ _ _).mp (by decide +kernel), mt (canon_eq_iff _ _ _ _).mp (by decide +kernel),
    (keyLe_canon _ _ _ _).trans (by decide +kernel), (keyLe_canon _ _ _ _).trans (by decide +kernel),
    (keyLe_canon _ _ _ _).trans (by decide +kernel)⟩

section
variable {zc z : Name} {ts m1 m2 m3 : String} (h : ZooNames zc z ts m1 m2 m3)
include h
attribute [local simp] zooMissedOf run_cons run_nil step load setEntry lk put Sys.init chain chainAux loadEntryC
  Sys.ents Sys.setEnts ancestors resolve bound runQ_cons runQ_nil stepQ stepX stepT tsOf addTypeSet addMembers
  loadEntryD define discC ownAdded sortKeys insertKey V.isType

theorem zoo_outcomes :
    ((∀ a ∈ chain (zooMissedOf zc z).ps 1, ([] : List (Option Mods)).getD a none = none) ∧
      1 ∉ ancestors (zooMissedOf zc z).ps 1 ∧ 1 < (zooMissedOf zc z).es.length ∧
      ([(m1, 1), (m2, 2)].map fun m => canon (memberName ts m.1)).Nodup ∧
      canon z ∉ [(m1, 1), (m2, 2)].map (fun m => canon (memberName ts m.1)) ∧ resolve (zooMissedOf zc z) 1 (canon z) = none ∧
      (∀ m ∈ [(m1, 1), (m2, 2)], resolve (zooMissedOf zc z) 1 (canon (memberName ts m.1)) = none) ∧
      lk (canon zc) ((zooMissedOf zc z).ents 1) = some none ∧ lk (canon zc) ((zooMissedOf zc z).ents 0) = some none) ∧
    (runQ [] [] { sys := zooMissedOf zc z, queue := [] }
        [.addts 1 ts 0 [(m1, 1), (m2, 2)], .op (.load 1 zc), .op (.load 1 z), .op (.load 0 zc),
         .op (.discover 1 fun _ => true)]).2 =
      [.ok, .found (memberVal ts m1 1), .found (.tset ts 0), .notfound,
       .keys [canon z, canon zc, canon (memberName ts m2)]] ∧
    (runQ [] [] { sys := Sys.init [none, some 0], queue := [] }
        [.op (.define 0 zc (.ty 9)), .addts 1 ts 0 [(m1, 1), (m2, 2)], .op (.load 1 zc),
         .op (.load 1 (memberName ts m2)), .addts 1 ts 0 [(m1, 5)], .addts 1 ts 1 [(m3, 3)],
         .op (.load 1 (memberName ts m3)), .op (.load 1 z)]).2 =
      [.ok, .ok, .found (.ty 9), .found (memberVal ts m2 2), .ok, .reported "PCORE_ATTEMPT_TO_REDEFINE_TYPE",
       .found (memberVal ts m3 3), .found (.tset ts 0)] := by
  obtain ⟨hc, hz, e1, e2, n1, n2, n3, n4, n5, n6, l1, l2, l3⟩ := h
  have n1' := n1.symm
  have n2' := n2.symm
  have n3' := n3.symm
  have n4' := n4.symm
  have n5' := n5.symm
  have n6' := n6.symm
  have a2 : (memberName ts m2).auth = runtimeAuthority := rfl
  have a3 : (memberName ts m3).auth = runtimeAuthority := rfl
  simp [*]

end

example : (∀ a ∈ chain zooMissed.ps 1, ([] : List (Option Mods)).getD a none = none) ∧ 1 ∉ ancestors zooMissed.ps 1 ∧
    1 < zooMissed.es.length ∧ (zooMs.map fun m => canon (memberName "Zoo" m.1)).Nodup ∧
    canon nZoo ∉ zooMs.map (fun m => canon (memberName "Zoo" m.1)) ∧ resolve zooMissed 1 (canon nZoo) = none ∧
    (∀ m ∈ zooMs, resolve zooMissed 1 (canon (memberName "Zoo" m.1)) = none) ∧
    lk (canon nZooCar) (zooMissed.ents 1) = some none ∧ lk (canon nZooCar) (zooMissed.ents 0) = some none :=
  (zoo_outcomes zooNames).1
example : (runQ [] [] { sys := zooMissed, queue := [] }
      [.addts 1 "Zoo" 0 zooMs, .op (.load 1 nZooCar), .op (.load 1 nZoo), .op (.load 0 nZooCar), .op (.discover 1 fun _ => true)]).2 =
    [.ok, .found (.al "Zoo::Car" 1), .found (.tset "Zoo" 0), .notfound,
     .keys [canon nZoo, canon nZooCar, canon (memberName "Zoo" "Plane")]] := (zoo_outcomes zooNames).2.1
/-- a member whose qualified name ALREADY resolves — here to another value, bound in the parent — is skipped silently (no
    reported redefinition); an equal type set (same name and version, other members) is an equal re-definition; another
    version is rejected after its new member was bound -/
theorem C12_addts_known_member_kept :
    (runQ [] [] { sys := Sys.init [none, some 0], queue := [] }
      [.op (.define 0 nZooCar (.ty 9)), .addts 1 "Zoo" 0 zooMs, .op (.load 1 nZooCar),
       .op (.load 1 (memberName "Zoo" "Plane")), .addts 1 "Zoo" 0 [("Car", 5)], .addts 1 "Zoo" 1 [("Truck", 3)],
       .op (.load 1 (memberName "Zoo" "Truck")), .op (.load 1 nZoo)]).2 =
    [.ok, .ok, .found (.ty 9), .found (.al "Zoo::Plane" 2), .ok, .reported "PCORE_ATTEMPT_TO_REDEFINE_TYPE",
     .found (.al "Zoo::Truck" 3), .found (.tset "Zoo" 0)] := (zoo_outcomes zooNames).2.2

/-! ### the defects that were repaired, as witnesses on the pre-fix definitions -/

/-- `basicLoader.SetEntry` before the fix "SetEntry of a non-Type value over a bound Type failed a type assertion":
    `nv.(px.Type)` was asserted whenever the OLD value is a type -/
def setEntryBeforeFix (es : Ents) (k : Key) (nv : Option V) : Option (Ents × SetRes) :=
  match lk k es, nv with
  | some (some ov), some v =>
    if ov = v then some (es, .kept)
    else if ov.isType then (if v.isType then some (es, .redefineType) else none)    -- none = fault (type assertion)
    else some (es, .redefine)
  | _, _ => some (setEntry es k nv)

theorem C12_assertion_fault_before_fix :
    setEntryBeforeFix [("k", some (.ty 1))] "k" (some (.str 1)) = none ∧
    (setEntry [("k", some (.ty 1))] "k" (some (.str 1))).2 = .redefine := by decide +kernel

/-- `Discover` before the fix "Discover returned cached-miss placeholders …": every map key took part -/
def discCBeforeFix (es : List Ents) (p : Key → Bool) : List Nat → List Key
  | [] => []
  | l :: anc =>
    let found := discCBeforeFix es p anc
    let added := (es.getD l []).filterMap fun (k, _) => if !hasC es anc k && p k then some k else none   -- `!l.parent.HasEntry(tn)`
    if added.isEmpty then found else sortKeys (found ++ added)

/-- a miss was discovered as a name, and a name bound below an ancestor's placeholder was answered twice -/
theorem C12_discover_placeholder_before_fix :
    discCBeforeFix (run (Sys.init [none]) [.load 0 na]).1.es (fun _ => true) [0] = [canon na] ∧
    discCBeforeFix (run (Sys.init [none, some 0]) [.load 0 na, .define 1 na (.ty 1)]).1.es (fun _ => true) [1, 0]
      = [canon na, canon na] ∧
    discC (run (Sys.init [none, some 0]) [.load 0 na, .define 1 na (.ty 1)]).1.es (fun _ => true) [1, 0] = [canon na] := by
  decide +kernel

end
end

end Pcore.LoaderSeq

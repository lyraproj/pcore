import Pcore.Proofs.FormatDirective
import Pcore.Proofs.FormatPlain
import Pcore.Proofs.FormatCtor
import Pcore.Proofs.FormatFloat
import Pcore.Generated.FormatLetters
import Pcore.Proofs.FormatKeyLat
import Pcore.Generated.FormatLettersX
import Pcore.Proofs.FormatLat
import Pcore.Proofs.FormatMergeRefine
import Pcore.Proofs.FormatSpan
import Pcore.Proofs.FormatXPP
/-!
# C20 — String formatting is total and faithful to the format directive

Property (properties.jsonl): for every value (strings of arbitrary content included) and every syntactically valid
format directive, formatting terminates and either succeeds or raises the reported unsupported-format error exactly
when the format character is outside the documented set for that value's type.  Numeric directives agree with the
reference rendering (radix, alternate prefixes, sign, zero and space padding, width, precision) and radix renderings
convert back to the same integer; text is at least as wide as requested with padding on the correct side, and
container formats apply element formats, separators and delimiters recursively.

The model is `Pcore/Model/Format.lean` (the code after the `fix:` commits 4967a97 … 25b91c3).  A *directive* is a
text `d` that `parseFormat` accepts (`Directive d f`); `printfView f` is that directive as printf reads it (flags,
width, precision, letter — the container delimiter flags skipped).  All theorems quantify over ALL integers (so over
all of Int64), all strings, all directives; `decide` is used only on the regenerated table and in witnesses/examples.

Full statement / proved / missing
* `C20_letters`        — the table regenerated from the ToString switches satisfies `LettersOK`: per kind, the letters
                         whose arm formats = the literal handed to UnsupportedFormat = the letters the model formats;
                         letters handed over to the Float/Integer method are formatted there (`decide` on the table).
                         `C20_case_table`: Go's Unicode case table as regenerated is well formed (`CaseTableOK`).
* `C20_directive_go`   — every directive `parseFormat` accepts is a directive Go's fmt parses to the same verb, width,
                         precision and flags once the delimiter flags are filtered out, numbers ≤ fmt's limit; and so
                         are the format strings the float path derives from it with `unParse` (`WithoutWidth`,
                         `ReplaceFormatChar`): `GoOK` = every format string handed to fmt is a directive fmt understands
                         (`C20_unparse_go`: what `unParse` writes is read back by fmt as the same letter, width, precision).
* `C20_total`          — total by construction, and no Go fault/`%!` marker is reachable: the result is `text` or
                         `reported`, for EVERY directive `parseFormat` accepts (it rejects numbers beyond fmt's limit:
                         fixed finding C20-fmt-number-limit); for per-type format maps of any depth `C20_total_map`.
* `C20_reported`       — a scalar raises only the unsupported-format error, or the documented failure of `%s` on a
                         Binary that is not UTF-8.
* `C20_unsupported_iff`— scalars: reported unsupported ⇔ letter ∉ documented set of the value's kind, the documented
                         set being the regenerated literal (`documentedIn formatLetters`).  Containers:
                         `C20_unsupported_array/hash` (the container's own letter is checked first; with a supported
                         letter the result is the composition of the element results, `C20_container_*`);
                         `C20_unsupported_iff_directive`: the same for a single directive.
* `C20_int_ref_partial`— letters d x X o: the rendering equals the independently written printf reference `cRef` for
                         ALL integers, flag sets, widths and precisions outside two classes in which Go's fmt departs
                         from the reference.  Full statement `C20_int_ref_full` is FALSE: `C20_int_ref_fails_zero`
                         (`%#x` of 0 is `0x0`; known finding C20-go-fmt-zero), `C20_int_ref_fails_alt_zeropad`
                         (`%#07x` of 256 is `0x0000100`; known finding C20-go-fmt-alt-zeropad).
* `C20_radix_back`     — letters d x X o b B: `readRadix` of the rendering is the integer, for ALL integers and
                         directives (the two classes above included), except 0 with precision 0 for d x X o.
* `C20_bin_ref`        — letters b B (pcore's own code): the rendering equals the same reference `cRef` for ALL integers,
                         flags, widths and precisions, no excluded class (0 with precision 0 prints the digit 0).
* `C20_ctor_back`      — the round trip through pcore's own Integer constructor `new(Integer, text, radix)`
                         (`newInteger`: signature pattern + integerFromString + strconv.ParseInt, modelled and compared,
                         op `back`): for d o b B with any flags/precision and x X with `#`, no width, every Int64.
                         The full statement `C20_ctor_back_full` is FALSE: `C20_ctor_back_fails` (known finding
                         C20-integer-ctor-hex: `%x` renders `ff`, which the signature rejects without `0x`).
* `C20_width`          — scalars: at least `w` runes wide (letters whose digits come from fmt's float code excluded).
* `C20_pad_side_text`, `C20_pad_side_pbB`, `C20_pad_side_int` — blanks on the left unless `-`; zeros only from fmt's
                         integer code (between sign/prefix and digits, by `C20_int_ref_partial`) and the b/B precision.
* `C20_container_rec`  — for values of any depth: the model of ToString2 = the directly written recursive reference
                         renderer `refVal`, under any per-type map with non-alt container formats (hash format ≠ a).
* `C20_container_alt`  — alt-mode (`#`) and mixed layouts too: the model of ToString2 with its Indentation objects = the
                         directly written pretty-printer `refPP` (level / inherited-indent / nested as parameters, line
                         breaks decided from the previous element), values of any depth; `C20_alt_line_break`.
* `C20_container_array`, `C20_container_hash` — non-alt: left delimiter ++ intercalate (separator ++ " ") (element
                         renderings) ++ right delimiter; elements that are containers fall under the same theorems.
* `C20_float_pad`, `C20_float_restore`, `C20_float_sign_invariant`, `C20_float_width` — the float path AROUND the digits,
                         for every FloatIO (whatever digit strings fmt returns): padNumber's placement of blanks and
                         zeros, the restored fraction keeps the printed text and does not depend on the sign, the width
                         is reached by every letter (assuming only that fmt pads its own output: `IOWidth`).
* PER-TYPE MAPS, 16 keys (`new(String, v, {Type => format, …})`: `mergeFormats(DefaultFormats, user map)`): `C20_map_most_specific`
  (the format applied to a value is the entry of the MOST SPECIFIC key type that accepts it), `C20_map_exact_key` (the entry for the
  exact type of a value is the one applied), `C20_map_merge_refines` (an entry whose key the defaults map too refines the default),
  `C20_map_keys_are_lattice` (the table `Key.sub` is the assignability of the lattice model on the default types).
* EVERY VALUE KIND (`Model/FormatX.lean`: SemVer, SemVerRange, URI, Timespan, Timestamp, Sensitive, Type values, type aliases, object types, object instances
  beside the ten kinds above; format maps over ANY system of key types `KeySys κ`), section "the extended model":
  `C20_x_letters` (the regenerated table of all 20 kinds: handled = documented = what the model formats, ApplyStringFlags called
  exactly where the model applies the string flags), `C20_x_total` / `C20_x_total_map` (text or reported, no Go fault, any key
  system), `C20_x_reported` (a leaf raises only unsupported-format, or the `%s` failure of a Binary), `C20_x_unsupported_iff` (reported unsupported ⇔ letter outside the regenerated documented set, every kind that is not
  a container), `C20_x_unsupported_typ/array/hash/obj`, `C20_x_flags_table` (the table's ApplyStringFlags letters are the model's), `C20_x_refines` / `C20_x_refines_directive` (on the ten kinds of Format.lean under the 16 default keys
  the extended model IS `fmtVal`: every theorem above is a theorem about the extended model on that fragment),
  `C20_x_array_rec` / `C20_x_hash_rec` (structural recursion: what ToString2 writes is arrayAssemble / hashAssemble of the element
  renderings under the element context, alt or not, any key system), `C20_x_array` / `C20_x_hash` / `C20_x_obj` (non-alt: delimiters
  around the separator-joined element renderings; an object instance is its type name and its init hash between `(` and `)`;
  `C20_x_obj_anon`: an instance of an anonymous type is written as the Hash of its init hash),
  `C20_x_array_pp` / `C20_x_hash_pp` / `C20_x_obj_pp` (alt mode too: at nesting level L the text is the directly written pretty-printer
  `ppArray` / `ppHash` / `ppObj` of the element renderings — line break and 2·L blanks when the context indents, one entry per line
  at level L+1, the closing delimiter on its own line), `C20_x_container_alt` (END TO END: for values of any depth, every kind, any key
  system, any mixture of alt and non-alt formats — the hash-as-array form, the parameter lists of Types and the init hashes of
  object types included, no hypothesis — the model of ToString with its Indentation objects IS the directly written
  pretty-printer `refPPX`), `C20_x_typ` (a Type is its name and its parameters formatted as an Array under
  the same map), `C20_x_width` (EVERY kind but the four whose ToString never looks at the width: the boundary of the
  finding is exact), `C20_x_width_partial` (width reached
  wherever the code applies the string flags: SemVer, URI, SemVerRange — every letter, after fix 5c2f826 — and Type).  The full width
  statement `C20_x_width_full` is FALSE: `C20_x_width_fails` (known finding C20-width-ignored, narrowed: the ToString of Timespan,
  Timestamp and Sensitive never looks at the format; a type alias ignores the width too), `C20_x_alias`, `C20_x_otype_named` /
  `C20_x_otype_anon` / `C20_x_otype_expanded` / `C20_x_unsupported_otype` (aliases and object types used as values, the property
  `expanded` included).
* PER-TYPE MAPS OVER ANY KEY TYPES (`Model/FormatMergeG.lean`: mergeFormats over a key order `KeyOrd` = IsAssignable / Equals / typeRank /
  String(); `Model/FormatLat.lean`: keys = arbitrary types of the lattice model, acceptance = `Lat.asg key (Lat.ptype v)`):
  `C20_map_most_specific_any` (the lookup law for ANY key system whose assignability is a partial order ON THE KEYS OF THE MAP — what the
  law really rests on; `KeysLawful` also asks that no two keys print alike, which the proof does not use; for parameterised keys this is the general lattice's business,
  C02 / C03), `C20_map_most_specific_default_types` / `C20_map_exact_key_any_kind` (the 22 default types of all kinds: the table is
  an instance, hypotheses by `decide`), `C20_map_most_specific_lattice` (keys = lattice types: the hypotheses are ONE boolean check
  `lawfulb` evaluated on the keys of the map), witnessed on `{Scalar, Integer, Integer[0, 9]}`;
  `C20_map_table_is_instance` (the 16-key model of `new(String, v, map)` above — `contextMap`, `mergeMaps`, `sortEntries` over the
  table `Key.sub` — IS the general rule instantiated with the default types: entry by entry at every nesting level, hence the same text).
* THE FORMAT STRINGS OF A TIMESPAN (`Timespan.Format`, `Model/FormatSpan.lean`: `%D %H %M %S %L %N`, the flags `-` `_` `0`, a width, `%%`;
  op `span`): `C20_span_total` (for EVERY format string and every Timespan: a text or the reported bad-format error, no Go fault and no
  fmt marker — the code after the repairs 03fcfad and 5257aa1: every width the parser lets through is within fmt's limit,
  `spanParse_ok`; `C20_span_no_fault` is the same as `C20_span_total_full`, `C20_span_total_partial` the form under the side condition
  `SegsOK`), `C20_span_zero_width_before_fix` / `C20_span_width_limit_before_fix` (the two repaired defects, witnessed on the
  model of the code before the repairs, `SpanCode.before`: `%D %-0N` divided by zero because `utils.Int64Pow(10, 0)` was 0;
  `%20000000D` showed fmt's `%!(NOVERB)`), `C20_span_width` (a `0`- or blank-padded D H M S
  segment is at least as wide as requested), `C20_span_sum` (the segments of `%D-%H:%M:%S.%N` add up to the value),
  `C20_span_literal` (a format without `%` is rendered verbatim).
* missing: the digits of `%e %f %g %a` (fmt/strconv float formatting is a parameter `FloatIO`; only the dispatch,
  the format string handed over, floatGFormat's fraction restoration and padNumber are modelled and compared);
  NaN/±Inf (not instances of Float in pcore: no Float format entry applies to them).
-/
namespace Pcore.Format
open Pcore.Generated

/-- a FloatIO for examples (the theorems hold for every FloatIO) -/
def io0 : FloatIO := ⟨fun _ _ => [], fun _ => 0, fun _ => 0⟩

/-- `x` is `f` of the string literal `s` when it is `f` of the characters of `s`.  The examples with a long expected text compare with
    the characters: the kernel unfolds `"…".toList` in time quadratic in the length of the literal, whereas a literal against
    `String.ofList` of its characters (found by unification) is checked at once. -/
theorem eq_lit {α} {x : α} (f : Str → α) (l : Str) (h : x = f l) : x = f (String.ofList l).toList := by
  rw [String.toList_ofList]; exact h

/-! ## the regenerated table -/

theorem C20_letters : LettersOK formatLetters := lettersOKb_sound formatLetters (by decide +kernel)

theorem documented_eq_accepts (k : Kind) (c : Char) : documentedIn formatLetters k c = accepts k c :=
  documentedIn_eq_accepts formatLetters C20_letters k c

/-- Go's case table, regenerated from $GOROOT/src/unicode/tables.go: every row recognised, ranges sorted and disjoint
    (so the model's search finds what unicode.ToUpper/ToLower's binary search finds) -/
theorem C20_case_table : CaseTableOK caseRanges := caseRanges_tableOK

example : "ǆemal ΣΑΣ".toList.map goUpper = "Ǆemal ΣΑΣ".toList.map goUpper ∧ "Ǆ".toList.map goLower = "ǆ".toList ∧
    capitalizeSegment "ǆ ΣΑΣ".toList = "Ǆ σασ".toList ∧ "ß".toList.map goUpper = "ß".toList := by decide +kernel

/-! ## the grammar -/

theorem C20_directive_go (d : Str) (f : Fmt) (h : Directive d f) : GoOK f :=
  parseFormat_goOK d none none f h

instance (d : Str) (f : Fmt) : Decidable (Directive d f) := by unfold Directive; infer_instance

/-- what `unParse` writes (for `WithoutWidth` / `ReplaceFormatChar`) is read by fmt as the same letter, width and
    precision — for every well-formed Format record -/
theorem C20_unparse_go (f : Fmt) (h : FmtWF f) :
    ∃ g, goParse ((unParse f).filter (fun c => !isDelim c)) = some g ∧ g.verb = f.letter ∧ g.wid = f.width ∧
      g.prec = f.prec := goParse_unParse f h

example : unParse (parsed "%#- [12.3g") = "% -[#12.3g".toList ∧ unParse (withoutWidth (parsed "%#-<12.3g")) = "%<.3g".toList ∧
    goFormat (withoutWidth (parsed "%#-<12.3g")) = "%.3g".toList := by decide +kernel

example : Directive "%-#08.3x".toList
    { alt := true, left := true, zeroPad := true, letter := 'x', plus := none, prec := some 3, width := some 8,
      ldelim := none, sep := none, sep2 := none, orig := "%-#08.3x".toList } := by decide +kernel

/-- repeated flags and two delimiters are rejected, in the code's order -/
example : newFormat "%--d".toList = .error .repeatedFlag ∧ newFormat "%[{a".toList = .error .invalidDelimiter ∧
    newFormat "%5.d".toList = .error .invalidSpec ∧ newFormat "%\td".toList = .error .invalidSpec := by decide +kernel

/-! ## totality -/

/-- formatting under a per-type format map of any depth never reaches a Go fault / `%!` marker -/
theorem C20_total_map (io : FloatIO) (m : FMap) (v : Val) (h : AllGoOK m) :
    (∃ s, format io m v = .text s) ∨ (∃ c, format io m v = .reported c) :=
  Res.text_or_reported (noFault_val io v m Ind.default h)

theorem C20_total (io : FloatIO) (d : Str) (f : Fmt) (v : Val) (h : Directive d f) :
    (∃ s, formatDirective io d v = .text s) ∨ (∃ c, formatDirective io d v = .reported c) := by
  rw [formatDirective_eq_fmtVal io f v d h]
  exact C20_total_map io _ v (allGoOK_single f (C20_directive_go d f h) .any)

/-- a width or precision beyond what fmt accepts is not a directive (fixed finding C20-fmt-number-limit: such a
    directive used to pass the pattern and fmt answered `%!(NOVERB)`) -/
example : newFormat "%10000010d".toList = .error .invalidSpec ∧ newFormat "%.1000001s".toList = .error .invalidSpec ∧
    (newFormat "%1000000d".toList).toOption.isSome = true := by decide +kernel

example : formatDirective io0 "%<5d".toList (.int 5) = .text "    5".toList := by decide +kernel
example : formatDirective io0 "%d".toList (.array [.int 1]) = .reported .unsupported := by decide +kernel

/-! ## unsupported-format ⇔ letter outside the documented set -/

theorem C20_reported (io : FloatIO) (m : FMap) (ind : Ind) (v : Val) (hv : v.isContainer = false) (c : Code)
    (h : fmtVal io m ind v = .reported c) :
    c = .unsupported ∨ (c = .failure ∧ (getFormat m v.kind).f.letter = 's' ∧ ∃ bs, v = .binary bs none) := by
  rcases fmtVal_reported_scalar io m ind v hv c h with h' | h'
  · exact Or.inl h'.1
  · exact Or.inr h'

/-- scalars, with the documented set taken from the regenerated table -/
theorem C20_unsupported_iff (io : FloatIO) (m : FMap) (ind : Ind) (v : Val) (hv : v.isContainer = false) :
    fmtVal io m ind v = .reported .unsupported ↔
      documentedIn formatLetters v.kind (getFormat m v.kind).f.letter = false := by
  rw [documented_eq_accepts]
  exact fmtVal_unsupported_iff io m ind v hv

theorem C20_unsupported_iff_directive (io : FloatIO) (d : Str) (f : Fmt) (v : Val) (h : newFormat d = .ok f)
    (hv : v.isContainer = false) :
    formatDirective io d v = .reported .unsupported ↔ documentedIn formatLetters v.kind f.letter = false := by
  rw [formatDirective_eq_fmtVal io f v d h, C20_unsupported_iff io _ Ind.default v hv, getFormat_single]
  rfl

theorem C20_unsupported_array (io : FloatIO) (m : FMap) (ind : Ind) (vs : List Val)
    (hl : documentedIn formatLetters .arr (getFormat m .arr).f.letter = false) :
    fmtVal io m ind (.array vs) = .reported .unsupported := by
  rw [documented_eq_accepts, accepts_arr] at hl
  exact fmtVal_array_unsupported io m ind vs hl

theorem C20_unsupported_hash (io : FloatIO) (m : FMap) (ind : Ind) (es : List Entry)
    (hl : documentedIn formatLetters .hash (getFormat m .hash).f.letter = false) :
    fmtVal io m ind (.hash es) = .reported .unsupported := by
  rw [documented_eq_accepts, accepts_hash, Bool.or_eq_false_iff, decide_eq_false_iff_not] at hl
  exact fmtVal_hash_unsupported io m ind es hl.2 hl.1

example : formatDirective io0 "%a".toList (.int 5) = .reported .unsupported ∧
    documentedIn formatLetters .int 'a' = false ∧ documentedIn formatLetters .int 'x' = true ∧
    documentedIn formatLetters .undef 'Z' = true := by decide +kernel

/-! ## numeric directives agree with the reference -/

/-- **letters d x X o = the printf reference**, for all integers and all directives outside the two classes where
    Go's fmt departs from it -/
theorem C20_int_ref_partial (io : FloatIO) (d : Str) (f : Fmt) (i : Int) (g : GoSpec) (h : Directive d f)
    (hl : isIntLetter f.letter = true) (hg : printfView f = some g)
    (h1 : ¬ zeroClass g i) (h2 : ¬ altZeroPad g) :
    formatDirective io d (.int i) = .text (cRef g i) := by
  obtain ⟨g', b, u, hg', _, hvb, hfd⟩ := formatDirective_dxXo io d f i h hl
  rw [hg] at hg'; cases hg'
  rw [hfd, goInteger_eq_cRef g i b u hvb h1 h2]

/-- the full statement: no exclusions -/
def C20_int_ref_full : Prop := ∀ (io : FloatIO) (d : Str) (f : Fmt) (i : Int) (g : GoSpec), Directive d f →
  isIntLetter f.letter = true → printfView f = some g → formatDirective io d (.int i) = .text (cRef g i)

/-- known finding C20-go-fmt-zero: `%#x` of 0 is "0x0", the reference gives "0" -/
theorem C20_int_ref_fails_zero : ¬ C20_int_ref_full := by
  intro h
  have := h io0 "%#x".toList (parsed "%#x") 0 ⟨true, false, false, false, false, none, none, 'x'⟩
    (by decide +kernel) (by decide +kernel) (by decide +kernel)
  revert this; decide +kernel

/-- known finding C20-go-fmt-alt-zeropad: `%#07x` of 256 is "0x0000100", the reference gives "0x00100" -/
theorem C20_int_ref_fails_alt_zeropad :
    ∃ (d : Str) (f : Fmt) (i : Int) (g : GoSpec), Directive d f ∧ isIntLetter f.letter = true ∧ printfView f = some g ∧
      ¬ zeroClass g i ∧ formatDirective io0 d (.int i) ≠ .text (cRef g i) :=
  ⟨"%#07x".toList, parsed "%#07x", 256, ⟨true, true, false, false, false, some 7, none, 'x'⟩,
    by decide +kernel, by decide +kernel, by decide +kernel, by decide +kernel, by decide +kernel⟩

/-- non-vacuity: hypotheses of `C20_int_ref_partial` are met by a directive with flags, width and precision, and the
    reference is the expected text -/
example : formatDirective io0 "%+08.3X".toList (.int 255) = .text "    +0FF".toList ∧
    cRef ⟨false, true, true, false, false, some 8, some 3, 'X'⟩ 255 = "    +0FF".toList := by decide +kernel
example : formatDirective io0 "%#-8o|".toList (.int 8) = .reported .invalidSpec := by decide +kernel
example : formatDirective io0 "% 06d".toList (.int (-42)) = .text "-00042".toList ∧
    ¬ zeroClass ⟨false, true, false, false, true, some 6, none, 'd'⟩ (-42) ∧
    ¬ altZeroPad ⟨false, true, false, false, true, some 6, none, 'd'⟩ := by decide +kernel

/-- **letters b B = the printf reference** (pcore's own code): for ALL integers, flag sets, widths and precisions —
    no excluded class; the one point left out is 0 with precision 0, where the branch prints the digit 0 (as Ruby) -/
theorem C20_bin_ref (io : FloatIO) (d : Str) (f : Fmt) (i : Int) (h : Directive d f)
    (hb : f.letter = 'b' ∨ f.letter = 'B') (hne : ¬ (i = 0 ∧ f.prec = some 0)) :
    formatDirective io d (.int i) = .text (cRef (pbbSpec f) i) := by
  obtain ⟨hplus, hfd⟩ := formatDirective_bB io d f i h hb
  rw [hfd, intPbB_eq_cRef f i hb hplus hne]

example : formatDirective io0 "%+#012b".toList (.int 5) = .text "+0b000000101".toList ∧
    formatDirective io0 "%-+8.4B|".toList (.int 5) = .reported .invalidSpec ∧
    formatDirective io0 "% -8.4B".toList (.int 5) = .text " 0101   ".toList ∧
    formatDirective io0 "%b".toList (.int (-9223372036854775808)) =
      .text ('-' :: '1' :: List.replicate 63 '0') := by decide +kernel

/-! ## radix renderings convert back -/

/-- **radix renderings read back** — for ALL integers and ALL directives with a letter of d x X o b B, the two
    fmt-divergence classes included; the only exception is the empty rendering of 0 with precision 0 (d x X o) -/
theorem C20_radix_back (io : FloatIO) (d : Str) (f : Fmt) (i : Int) (h : Directive d f)
    (hl : isRadixLetter f.letter = true) (hne : ¬ (i = 0 ∧ f.prec = some 0 ∧ isIntLetter f.letter = true)) :
    ∃ s, formatDirective io d (.int i) = .text s ∧ readRadix f.letter s = some i := by
  obtain ⟨plus, space, k, hfd⟩ := formatDirective_radix io d f i h hl hne
  refine ⟨_, hfd, ?_⟩
  rw [readRadix_field f.letter _ _ _ _ _ _ _ _ i.natAbs (radixPfx_ok f i), int_of_natAbs]

example : readRadix 'x' "  -0x00ff ".toList = some (-255) ∧ readRadix 'b' "0b-101".toList = none ∧
    formatDirective io0 "%#12.6b".toList (.int (-5)) = .text "   -0b000101".toList ∧
    readRadix 'b' "   -0b000101".toList = some (-5) := by decide +kernel
/-- the excluded case is real: `%.0d` of 0 is empty -/
example : formatDirective io0 "%.0d".toList (.int 0) = .text [] ∧ readRadix 'd' [] = none := by decide +kernel

/-! ### … and through pcore's own Integer constructor `new(Integer, text, radix)` -/

/-- the full statement: every unpadded radix rendering of an Int64 is read back by `new(Integer, text, radix)` with
    the radix of the letter -/
def C20_ctor_back_full : Prop := ∀ (io : FloatIO) (d : Str) (f : Fmt) (i : Int), Directive d f →
  isRadixLetter f.letter = true → f.width = none → f.plus ≠ some ' ' → -(2^63 : Int) ≤ i → i < 2^63 →
  ¬ (i = 0 ∧ f.prec = some 0 ∧ isIntLetter f.letter = true) →
  ∃ s, formatDirective io d (.int i) = .text s ∧ newInteger s (letterRadix f.letter) = .int i

/-- known finding C20-integer-ctor-hex: `%x` of 255 renders "ff", which the constructor's signature rejects (it admits
    hexadecimal digits only after `0x`, as Puppet's does) -/
theorem C20_ctor_back_fails : ¬ C20_ctor_back_full := by
  intro h
  obtain ⟨s, hs, hn⟩ := h io0 "%x".toList (parsed "%x") 255 (by decide +kernel) (by decide +kernel) (by decide +kernel)
    (by decide +kernel) (by decide +kernel) (by decide +kernel) (by decide +kernel)
  have h1 : formatDirective io0 "%x".toList (.int 255) = .text "ff".toList := by decide +kernel
  rw [h1] at hs; cases hs
  revert hn; decide +kernel

/-- **radix renderings read back through pcore's own Integer constructor**: letters d o b B with any flags and
    precision, and x X with `#`; no width (blanks before the sign or after the digits are not part of what the
    constructor reads); every Int64; the empty rendering of 0 with precision 0 excepted -/
theorem C20_ctor_back (io : FloatIO) (d : Str) (f : Fmt) (i : Int) (h : Directive d f)
    (hl : isRadixLetter f.letter = true) (hx : f.letter = 'x' ∨ f.letter = 'X' → f.alt = true) (hw : f.width = none)
    (h1 : -(2^63 : Int) ≤ i) (h2 : i < 2^63) (hne : ¬ (i = 0 ∧ f.prec = some 0 ∧ isIntLetter f.letter = true)) :
    ∃ s, formatDirective io d (.int i) = .text s ∧ newInteger s (letterRadix f.letter) = .int i := by
  obtain ⟨plus, space, k, hfd⟩ := formatDirective_radix io d f i h hl hne
  refine ⟨_, hfd, ?_⟩
  -- the constructor wants `0x` in front of hexadecimal digits and takes `0b`; other radices have no prefix: `radixPfx_ctorOK`
  rw [hw, letterRadix_eq, newInteger_field _ _ _ _ _ _ _ _ i.natAbs radixOf_bounds.1 radixOf_bounds.2 (radixPfx_ctorOK f i hx)
    (int_range i h1 h2), int_of_natAbs]

example : formatDirective io0 "%+#.6x".toList (.int (-255)) = .text "-0x0000ff".toList ∧
    newInteger "-0x0000ff".toList 16 = .int (-255) ∧ newInteger " 0b101".toList 2 = .int 5 := by decide +kernel

example : newInteger "0b101".toList 2 = .int 5 ∧ newInteger "008".toList 10 = .int 8 ∧ newInteger "-0xff".toList 16 = .int (-255) ∧
    newInteger "- 5".toList 10 = .int (-5) ∧ newInteger "0xff".toList 10 = .reported .notInteger ∧
    newInteger "ff".toList 16 = .reported .illegalArguments ∧ newInteger "-0377".toList 8 = .int (-255) ∧
    newInteger "101".toList 2 = .int 5 ∧ newInteger "-9223372036854775808".toList 10 = .int (-9223372036854775808) ∧
    newInteger "9223372036854775808".toList 10 = .reported .notInteger := by decide +kernel

/-! ## width and padding side -/

/-- **width** (scalars; in runes = characters of the model's text) -/
theorem C20_width (io : FloatIO) (d : Str) (f : Fmt) (v : Val) (w : Nat) (s : Str) (h : Directive d f)
    (hv : v.isContainer = false) (hw : f.width = some w)
    (hfl : isFloatLetter f.letter = false ∨ v.kind = .str ∨ v.kind = .bin ∨ v.kind = .dflt ∨ v.kind = .undef ∨ v.kind = .regexp)
    (hs : formatDirective io d v = .text s) : w ≤ s.length := by
  rw [formatDirective_eq_fmtVal io f v d h] at hs
  exact fmtVal_width io _ Ind.default v f (congrArg FTree.f (getFormat_single f v.kind)) hv w hw (C20_directive_go d f h) hfl s hs

example : formatDirective io0 "%6s".toList (.str "日本".toList) = .text "    日本".toList ∧
    formatDirective io0 "%-7p".toList .undef = .text "undef  ".toList ∧
    formatDirective io0 "%8.3s".toList (.regexp "a/b".toList) = .text "     /a\\".toList := by decide +kernel

/-- **padding side, every text path** (`ApplyStringFlags`: strings, booleans, default, undef, regexp, binary, `c`/`s`
    of integers): blanks only — never zeros — on the left unless `-` -/
theorem C20_pad_side_text (f : Fmt) (s : Str) (q : Bool) :
    applyStringFlags f s q =
      if f.left then strCore f s q ++ spaces (f.width.getD 0 - (strCore f s q).length)
      else spaces (f.width.getD 0 - (strCore f s q).length) ++ strCore f s q := applyStringFlags_pad f s q

/-- **padding side, `p b B` of integers** (the `0` flag not in effect; with it the zeros stand between sign/prefix
    and digits: `C20_bin_ref`) -/
theorem C20_pad_side_pbB (f : Fmt) (i : Int) (hz : pbbZeroFlag f = false) :
    intPbB f i =
      if f.left then intPbB { f with width := none } i ++ spaces (f.width.getD 0 - (intPbB { f with width := none } i).length)
      else spaces (f.width.getD 0 - (intPbB { f with width := none } i).length) ++ intPbB { f with width := none } i :=
  intPbB_pad f i hz

/-- **padding side, `d x X o`**: unless the `0` flag is in effect (no `-`, no precision) the rendering is the one
    without a width with blanks on the left, or on the right with `-`; with the `0` flag in effect the zeros stand
    between sign/prefix and digits (`cRef`, by `C20_int_ref_partial`) -/
theorem C20_pad_side_int (g : GoSpec) (base : Nat) (upper : Bool) (i : Int)
    (hz : ¬ (g.zero = true ∧ g.minus = false ∧ g.prec = none)) :
    goInteger g base upper i =
      if g.minus then goInteger { g with wid := none } base upper i ++
          spaces (g.wid.getD 0 - (goInteger { g with wid := none } base upper i).length)
      else spaces (g.wid.getD 0 - (goInteger { g with wid := none } base upper i).length) ++
          goInteger { g with wid := none } base upper i := goInteger_pad g base upper i hz

example : formatDirective io0 "%-05s".toList (.str "ab".toList) = .text "ab   ".toList ∧
    formatDirective io0 "%05s".toList (.str "ab".toList) = .text "   ab".toList ∧
    formatDirective io0 "%-6b".toList (.int 5) = .text "101   ".toList ∧
    formatDirective io0 "%-06d".toList (.int 5) = .text "5     ".toList := by decide +kernel

/-! ## the float path, around the digits (for every FloatIO: whatever digit strings fmt returns) -/

/-- **padding of a float rendering** (`padNumber`; the defects fixed by 25b91c3): the text is never cut; blanks to the
    left, or to the right with `-`; with the `0` flag and no `-`, zeros between the sign character and the digits —
    never before the sign, never to the right -/
theorem C20_float_pad (f : Fmt) (s : Str) :
    padNumber f s =
      if f.left then s ++ spaces (f.width.getD 0 - s.length)
      else if f.zeroPad then (splitNumSign s).1 ++ zeros (f.width.getD 0 - s.length) ++ (splitNumSign s).2
      else spaces (f.width.getD 0 - s.length) ++ s := by
  have hs := splitNumSign_append s
  have hl : (splitNumSign s).1.length + (splitNumSign s).2.length = s.length := by rw [← List.length_append, hs]
  rw [padNumber_cLayout, cLayout_field, field_pad, field, goPad_none, List.append_nil, List.length_nil, Nat.add_zero, hl]
  cases f.left <;> cases f.zeroPad <;>
    simp only [Bool.not_true, Bool.not_false, Bool.and_self, Bool.and_false, Bool.false_and, Bool.false_eq_true, if_true,
      if_false, zeros, List.replicate_zero, List.append_nil, hs]
  -- the zeros reach the width: no blank is left
  rw [List.length_append, List.length_append, List.length_replicate, Nat.sub_eq_zero_of_le (by omega)]
  rfl

/-- **the restored fraction keeps what fmt printed**: `floatGFormat` only appends `.` and `0`s, and the result has a
    decimal point -/
theorem C20_float_restore (f : Fmt) (str : Str) :
    ∃ suffix, gRestored f str = str ++ suffix ∧ (∀ c ∈ suffix, c = '.' ∨ c = '0') ∧ (gRestored f str).contains '.' = true :=
  gRestored_prefix f str

/-- **… independently of the sign** (the defect fixed by 457acd0): for a sign character `c` and an unsigned text, the
    restored text of `c :: str` is `c` and the restored text of `str`, and the decision to force scientific notation is
    the same -/
theorem C20_float_sign_invariant (f : Fmt) (c : Char) (str : Str) (hc : isSignChar c = true)
    (hs : ∀ x, str.head? = some x → isSignChar x = false) :
    gRestored f (c :: str) = c :: gRestored f str ∧ gForced f (c :: str) = gForced f str :=
  ⟨gRestored_sign f c str hc hs, gForced_sign f c str hc hs⟩

/-- **width, every letter of a Float** — assuming only that fmt pads its own output to the width it is given
    (`IOWidth`): the three ways out of `floatGFormat` (scientific text, forced scientific notation, restored fraction),
    `%e %E %f`, the integer letters, `p` and `s` all reach the width -/
theorem C20_float_width (io : FloatIO) (hio : IOWidth io) (d : Str) (f : Fmt) (bits w : Nat) (s : Str)
    (h : Directive d f) (hw : f.width = some w) (hs : formatDirective io d (.float bits) = .text s) : w ≤ s.length := by
  rw [formatDirective_eq_fmtVal io f _ d h] at hs
  have hg := getFormat_single f .float
  simp only [fmtVal, hg, FTree.f] at hs
  exact fmtFloat_width_all io hio f (parseFormat_wf d none none f h)
    (C20_directive_go d f h) bits w s hw hs

/-- non-vacuity: an io that answers like fmt for `%g` of -1.5 and `%.0g` of 255; the sign is not counted, the width is
    reached on the scientific path, zeros follow the sign -/
def ioDemo : FloatIO :=
  ⟨fun fm _ => if fm = "%g".toList then "-1.5".toList else if fm = "%.0g".toList then "3e+02".toList else [], fun _ => 0, fun _ => 0⟩
example : fmtFloat ioDemo (parsed "%010g") 0 = .text "-001.50000".toList ∧
    fmtFloat ioDemo (parsed "%12.0g") 0 = .text "       3e+02".toList ∧
    fmtFloat ioDemo (parsed "%-9g") 0 = .text "-1.50000 ".toList := by decide +kernel

/-! ## containers -/

/-- **container law, arrays** (non-alt mode) -/
theorem C20_container_array (io : FloatIO) (m : FMap) (ind : Ind) (vs : List Val) (texts : List Str)
    (hl : isArrayLetter (getFormat m .arr).f.letter = true) (halt : (getFormat m .arr).f.alt = false)
    (hind : ind.indenting = false)
    (hc : ChildrenText io m (cfOf (getFormat m .arr)) (arrayChildInd (getFormat m .arr).f ind) vs texts) :
    fmtVal io m ind (.array vs) =
      .text ((delimPair (getFormat m .arr).f.ldelim '[').1 ++
        ((getFormat m .arr).f.sep.getD [','] ++ [' ']).intercalate texts ++ (delimPair (getFormat m .arr).f.ldelim '[').2) :=
  fmtVal_array io m ind vs texts hl halt hind hc

/-- **container law, hashes** (non-alt mode, letters h s p) -/
theorem C20_container_hash (io : FloatIO) (m : FMap) (ind : Ind) (es : List Entry) (texts : List (Str × Str))
    (hl : isHashLetter (getFormat m .hash).f.letter = true) (halt : (getFormat m .hash).f.alt = false)
    (hind : ind.indenting = false)
    (hc : EntriesText io m (cfOf (getFormat m .hash)) (hashChildInd (getFormat m .hash).f ind) es texts) :
    fmtVal io m ind (.hash es) =
      .text ((delimPair (getFormat m .hash).f.ldelim '{').1 ++
        ((getFormat m .hash).f.sep.getD [','] ++ [' ']).intercalate
          (texts.map (fun p => p.1 ++ (getFormat m .hash).f.sep2.getD " => ".toList ++ p.2)) ++
        (delimPair (getFormat m .hash).f.ldelim '{').2) :=
  fmtVal_hash io m ind es texts hl halt hind hc

/-- **containers, recursively**: for values of ANY depth and any per-type format map whose container formats are
    non-alt (and whose Hash format is not `a`), the rendering computed by the model of `ToString2` (with its
    indentation bookkeeping, first/subsequent element states and container-format switching) IS the reference rendering
    `refVal`: delimiter ++ intercalate (separator ++ " ") (element renderings) ++ delimiter, a container element under the
    same map, any other element under the container formats — recursively -/
theorem C20_container_rec (io : FloatIO) (m : FMap) (v : Val) (h : PlainContainers m) :
    format io m v = refVal io m v := fmtVal_ref io v m Ind.default rfl h

/-- **alt-mode (`#`) and non-alt containers, recursively**: for values of ANY depth under any per-type format map (any
    mixture of alt and non-alt container formats, widths that trigger the size break; Hash format other than `a`), the
    rendering computed by the model of `ToString2` — Indentation objects with Indenting/Increase/Subsequent/IsFirst/
    Breaks, the first-element state of the element loop — IS the directly written pretty-printer `refPP`: nesting
    level, "the enclosing format indents" and "not the first on its level" as plain parameters, line breaks decided
    by looking at the previous element (`ppGlue`), hashes one entry per line -/
theorem C20_container_alt (io : FloatIO) (m : FMap) (v : Val) (h : (getFormat m .hash).f.letter ≠ 'a') :
    format io m v = refPP io m 0 false false v := fmtVal_pp io v m 0 false false h

/-- **the line-break law** of alt mode: an indenting container nested at a level > 0, not first on its level, is a line
    break, 2·level blanks, and then exactly its text as the first thing on the level -/
theorem C20_alt_line_break (io : FloatIO) (m : FMap) (L : Nat) (inh : Bool) (vs : List Val) (hL : 0 < L)
    (hind : ((getFormat m .arr).f.alt || inh) = true) :
    refPP io m L inh true (.array vs) = (refPP io m L inh false (.array vs)).bind (fun s => .text (newLine L ++ s)) :=
  refPP_lead io m L inh (.array vs) hL rfl hind

/-- non-vacuity: alt arrays and hashes nested four deep -/
example : format io0 [(.arr, .mk { simpleFmt 'a' with alt := true, width := some 3 } none),
      (.hash, .mk { simpleFmt 'h' with alt := true } none)]
    (.array [.int 1, .int 22, .array [.int 3, .hash [.mk (.str ['k']) (.array [.int 4])]], .int 5]) =
    .text "[1, 22,\n  [3,\n    {\n      'k' => [4]\n    }],\n  5]".toList := eq_lit Res.text _ (by decide +kernel)

/-- non-vacuity of `C20_container_rec`: the default formats, three levels deep -/
example : PlainContainers [] ∧
    refVal io0 [] (.array [.int 1, .array [.str ['a'], .hash [.mk (.int 2) (.array [])]]]) =
      .text "[1, ['a', {2 => []}]]".toList :=
  ⟨by decide +kernel, eq_lit Res.text _ (by decide +kernel)⟩

/-- non-vacuity: nested containers, an element format from a per-type map, a changed separator and delimiter
    (the nested hash falls to the default format `%s` and keeps its own delimiters) -/
example : format io0 [(.arr, .mk { simpleFmt 'a' with ldelim := some '<', sep := some [';'] }
      (some [(.int, .mk (simpleFmt 'x') none)]))]
    (.array [.int 255, .array [.int 16, .str ['a']], .hash [.mk (.str ['k']) (.int 1)]]) =
    .text "<ff; <10; a>; {'k' => 1}>".toList := eq_lit Res.text _ (by decide +kernel)
example : ChildrenText io0 [(.any, .mk (simpleFmt 'a') none)] defaultCF (arrayChildInd (simpleFmt 'a') Ind.default)
    [.int 1, .array [.int 2]] ["1".toList, "[2]".toList] := by
  simp only [ChildrenText]; decide +kernel

/-! ### per-type format MAPS given by the user (`new(String, v, {Type => format, …})`): `newFormatContext3` →
    `mergeFormats(DefaultFormats, NewFormatMap(h))`, types/format.go after fix 77ca16d

The merged map is a list that `px.GetFormat` searches for the FIRST entry whose key type accepts the value.  Proved, for every
user map (any number of entries, any nesting — the theorems are about `sortEntries` / `mergedEntries`, which `mergeMaps`
applies at every level):

* `C20_map_most_specific` — the format applied to a value is the entry of the MOST SPECIFIC key type that accepts it (whatever
  other entries the map holds, in whatever order the user wrote them);
* `C20_map_exact_key` — in particular the user's entry for the exact type of a scalar / Array / Hash is the one applied;
* `C20_map_merge_refines` — an entry whose key the defaults map too refines the default: the user's directive, and — where the
  user gives no `string_formats` — the default's container formats (element formats are INHERITED, not replaced);
* `C20_map_keys_are_lattice` — the relation the merge orders and rejects by is the assignability of the lattice model (C01–C04)
  on the default types.

These were FALSE of the original code: its `sort.Slice` comparison (assignability, then rank, then name) is not transitive
(Integer < Scalar < Array < Integer), so `{Scalar => '%s', Float => '%-5e'}` formatted a Float with the Scalar entry and an entry
for an unrelated type changed which format applied — found by the direct predicates `exact-key-ignored` /
`irrelevant-entry-matters` on the implementation, repaired in /repo (77ca16d), witnesses in corpus/C20. -/

/-- the most specific accepting key wins: `m` = the merged entries before the sort (pairwise different keys), `K` the least key of
    `m` (by assignability) among those that accept the kind -/
theorem C20_map_most_specific (m : List (Key × FTree)) (hn : (m.map (·.1)).Nodup) (K : Key) (t : FTree) (k : Kind)
    (hm : (K, t) ∈ m) (hacc : K.accepts k = true)
    (hleast : ∀ e ∈ m, e.1.accepts k = true → Key.sub e.1 K = true) :
    getFormat (sortEntries m) k = t :=
  getFormat_sortEntries_least m hn K t k hm hacc hleast

/-- … instantiated on what `mergeFormats` builds from the defaults `lo` and the user's map `hi`: no hypothesis on the maps -/
theorem C20_map_exact_key (mt : FTree → FTree → FTree) (lo hi : List (Key × FTree)) (k : Kind) (t : FTree)
    (hm : (k.key, t) ∈ mergedEntries mt lo hi) :
    getFormat (sortEntries (mergedEntries mt lo hi)) k = t :=
  getFormat_sortEntries_least _ (mergedEntries_keys_nodup mt lo hi) k.key t k hm (Kind.key_accepts k)
    (fun e _ h => Key.accepts_sub_exact e.1 k h)

/-- a user entry for a key the defaults map too (and that no other user key accepts) REFINES the default entry: the entry of
    the merged map is `merge(default, user)` — the user's letter; with no `string_formats` of the user's, the default's
    container formats -/
theorem C20_map_merge_refines (fuel : Nat) (lo hi : List (Key × FTree)) (K : Key) (l h : FTree)
    (hl : lookupKey lo K = some l) (hh : lookupKey hi K = some h)
    (hno : ∀ K' ∈ hi.map (·.1), K' ≠ K → Key.sub K' K = false) :
    (K, mergeTree (fuel + 1) l h) ∈ sortEntries (mergedEntries (mergeTree (fuel + 1)) lo hi) ∧
    (mergeTree (fuel + 1) l h).f.letter = h.f.letter ∧
    (mergeTree (fuel + 1) l h).cf = mergeMaps fuel l.cf h.cf ∧
    (∀ x xs n, fuel = n + 1 → l.cf = some (x :: xs) → h.cf = none → (mergeTree (fuel + 1) l h).cf = some (x :: xs)) := by
  refine ⟨(sortEntries_mem _ _).2 (mergedEntries_both _ lo hi K l h hl hh hno), mergeTree_letter _ l h, mergeTree_cf fuel l h, ?_⟩
  intro x xs n hf hlc hhc
  rw [mergeTree_cf, hf, hlc, hhc, mergeMaps_nil_right]

/-- the relation on key types is the lattice's assignability on the default types (every matcher, both settings of the rule) -/
theorem C20_map_keys_are_lattice (cfg : Pcore.Lat.Cfg) (sfh : Bool) (a b : Key) :
    Key.sub a b = Pcore.Lat.asg cfg sfh a.toTy b.toTy := Key.sub_eq_asg cfg sfh a b

/-- non-vacuity and the witnesses of the repaired defect: `{Scalar => '% s', Float => '%-5d'}` — the Float entry is the one
    applied to a Float, the Scalar entry to a String; an Integer under `{Float, Scalar, Integer}` gets the Integer entry with and
    without the unrelated Float entry -/
example : (getFormat (contextMap [(.scalar, .mk (simpleFmt 's') none), (.float, .mk (simpleFmt 'd') none)]) .float).f.letter = 'd' ∧
    (getFormat (contextMap [(.scalar, .mk (simpleFmt 's') none), (.float, .mk (simpleFmt 'd') none)]) .str).f.letter = 's' := by
  decide +kernel
example : (getFormat (contextMap [(.float, .mk (simpleFmt 'e') none), (.scalar, .mk (simpleFmt 's') none), (.int, .mk (simpleFmt 'x') none)]) .int).f.letter = 'x' ∧
    (getFormat (contextMap [(.scalar, .mk (simpleFmt 's') none), (.int, .mk (simpleFmt 'x') none)]) .int).f.letter = 'x' := by
  decide +kernel
/-- non-vacuity of `C20_map_merge_refines`: the user's `Array => '%a'` with `string_formats {Integer => '%x'}` keeps the default
    element formats beside its own: strings stay quoted (`%p`), integers are hexadecimal -/
example : format io0 (contextMap [(.arr, .mk (simpleFmt 'a') (some [(.int, .mk (simpleFmt 'x') none)]))])
    (.array [.str ['a'], .int 255]) = .text "['a', ff]".toList := by decide +kernel

/-! ## the extended model: every value kind with a ToString of its own, format maps over any system of key types
    (`Pcore/Model/FormatX.lean`; op `fmtx`) -/

/-- the regenerated table over all 20 kinds: per kind, the letters whose arm formats = the literal handed to UnsupportedFormat =
    the letters the model formats; ApplyStringFlags is called exactly under the letters where the model applies the string flags -/
theorem C20_x_letters : XLettersOK formatLettersX := lettersOKXb_sound formatLettersX (by decide +kernel)

theorem documentedX_eq_acceptsX (k : XKind) (c : Char) : documentedInX formatLettersX k c = acceptsX k c :=
  documentedInX_eq_acceptsX formatLettersX C20_x_letters k c

/-- **totality, every kind, any key system**: formatting under a format map of any depth never reaches a Go fault / `%!` marker -/
theorem C20_x_total_map {κ : Type} (ks : KeySys κ) (io : FloatIO) (m : GMap κ) (v : XVal) (h : AllGoOKG m) :
    (∃ s, formatX ks io m v = .text s) ∨ (∃ c, formatX ks io m v = .reported c) :=
  Res.text_or_reported (noFaultX ks io v m Ind.default h)

theorem C20_x_total (io : FloatIO) (d : Str) (f : Fmt) (v : XVal) (h : Directive d f) :
    (∃ s, formatDirectiveX io d v = .text s) ∨ (∃ c, formatDirectiveX io d v = .reported c) := by
  rw [formatDirectiveX_eq_fmtX io f v d h]
  exact C20_x_total_map kindKeys io _ v (allGoOKG_single f (C20_directive_go d f h) _)

example : formatDirectiveX io0 "%p".toList (.semver "1.2.3-rc1".toList) = .text "SemVer('1.2.3-rc1')".toList ∧
    formatDirectiveX io0 "%#-9s|".toList (.uri "a:b".toList) = .reported .invalidSpec ∧
    formatDirectiveX io0 "%#-9s".toList (.uri "a:b".toList) = .text "'a:b'    ".toList ∧
    formatDirectiveX io0 "%#s".toList (.semverRange "1.x".toList ">=1.0.0 <2.0.0".toList) = .text ">=1.0.0 <2.0.0".toList ∧
    formatDirectiveX io0 "%d".toList (.tspan 90061500000000) = .text "1-01:01:01.5".toList ∧
    formatDirectiveX io0 "%x".toList (.sensitive (.int 5)) = .text "Sensitive [value redacted]".toList ∧
    formatDirectiveX io0 "%d".toList (.semver "1.0.0".toList) = .reported .unsupported :=
  ⟨eq_lit Res.text _ (by decide +kernel), by decide +kernel, eq_lit Res.text _ (by decide +kernel), eq_lit Res.text _ (by decide +kernel),
    eq_lit Res.text _ (by decide +kernel), eq_lit Res.text _ (by decide +kernel), by decide +kernel⟩

/-- a value that is not a container (and not a Type with parameters) raises only the unsupported-format error, or the
    documented failure of `%s` on a Binary that is not UTF-8 -/
theorem C20_x_reported {κ : Type} (ks : KeySys κ) (io : FloatIO) (m : GMap κ) (ind : Ind) (v : XVal) (hv : v.isLeaf = true)
    (c : Code) (h : fmtX ks io m ind v = .reported c) :
    c = .unsupported ∨ (c = .failure ∧ (getG ks m v).f.letter = 's' ∧ ∃ bs, v = .binary bs none) := by
  rcases fmtX_reported_leaf ks io m ind v hv c h with h' | h'
  · exact Or.inl h'.1
  · exact Or.inr h'

/-- **unsupported-format ⇔ letter outside the documented set**, every kind, the set taken from the regenerated table -/
theorem C20_x_unsupported_iff {κ : Type} (ks : KeySys κ) (io : FloatIO) (m : GMap κ) (ind : Ind) (v : XVal)
    (hv : v.isLeaf = true) :
    fmtX ks io m ind v = .reported .unsupported ↔
      documentedInX formatLettersX v.kind (getG ks m v).f.letter = false := by
  rw [documentedX_eq_acceptsX]
  exact fmtX_unsupported_iff ks io m ind v hv

/-- a Type with parameters: its own letter is checked first -/
theorem C20_x_unsupported_typ {κ : Type} (ks : KeySys κ) (io : FloatIO) (m : GMap κ) (ind : Ind) (name : Str) (ps : List XVal)
    (hl : documentedInX formatLettersX .typ (getG ks m (.typ name ps)).f.letter = false) :
    fmtX ks io m ind (.typ name ps) = .reported .unsupported := by
  rw [documentedX_eq_acceptsX] at hl
  have hl' := (acceptsX_typ _).symm.trans hl
  cases ps <;> simp only [fmtX, hl', Bool.not_false, if_true]

theorem C20_x_unsupported_array {κ : Type} (ks : KeySys κ) (io : FloatIO) (m : GMap κ) (ind : Ind) (vs : List XVal)
    (hl : documentedInX formatLettersX .arr (getG ks m (.array vs)).f.letter = false) :
    fmtX ks io m ind (.array vs) = .reported .unsupported := by
  rw [documentedX_eq_acceptsX, acceptsX_arr] at hl
  simp only [fmtX, hl, Bool.not_false, if_true]

theorem C20_x_unsupported_hash {κ : Type} (ks : KeySys κ) (io : FloatIO) (m : GMap κ) (ind : Ind) (es : List XEntry)
    (hl : documentedInX formatLettersX .hash (getG ks m (.hash es)).f.letter = false) :
    fmtX ks io m ind (.hash es) = .reported .unsupported := by
  rw [documentedX_eq_acceptsX, acceptsX_hash, Bool.or_eq_false_iff, decide_eq_false_iff_not] at hl
  simp only [fmtX, hl.1, hl.2, if_false, Bool.not_false, if_true]

theorem C20_x_unsupported_obj {κ : Type} (ks : KeySys κ) (io : FloatIO) (m : GMap κ) (ind : Ind) (name : Str) (es : List XEntry)
    (hn : name ≠ []) (hl : documentedInX formatLettersX .obj (getG ks m (.obj name es)).f.letter = false) :
    fmtX ks io m ind (.obj name es) = .reported .unsupported := by
  rw [documentedX_eq_acceptsX, acceptsX_obj, Bool.or_eq_false_iff, decide_eq_false_iff_not] at hl
  have hne : name.isEmpty = false := List.isEmpty_eq_false_iff.2 hn
  simp only [fmtX, hne, hl.1, hl.2, Bool.false_eq_true, if_false, Bool.not_false, if_true, Res.bind]

example : documentedInX formatLettersX .semver 'p' = true ∧ documentedInX formatLettersX .semver 'd' = false ∧
    documentedInX formatLettersX .tspan 'Z' = true ∧ documentedInX formatLettersX .typ 'a' = false ∧
    documentedInX formatLettersX .obj 'h' = true ∧
    formatDirectiveX io0 "%a".toList (.typ "Integer".toList [.int 0, .int 9]) = .reported .unsupported ∧
    formatX kindKeys io0 [(.base .obj, .mk (simpleFmt 'd') none)] (.obj "A".toList []) = .reported .unsupported := by decide +kernel

/-- **the extended model refines the model of Format.lean**: on values of the ten kinds under the same map keyed by the 16
    default types, both compute the same result — every theorem about `format` / `fmtVal` above holds of the extended model -/
theorem C20_x_refines (io : FloatIO) (m : FMap) (m' : GMap XKey) (v : Val) (h : MapRel m m') :
    formatX kindKeys io m' v.x = format io m v := fmtX_embed io v m m' Ind.default h

theorem C20_x_refines_directive (io : FloatIO) (d : Str) (v : Val) : formatDirectiveX io d v.x = formatDirective io d v := by
  unfold formatDirectiveX formatDirective
  cases newFormat d with
  | error c => rfl
  | ok f => exact C20_x_refines io _ _ v (MapRel.cons .any _ _ [] [] (TreeRel.leaf f) MapRel.nil)

/-- non-vacuity: a map with nested container formats is related to its re-keyed copy -/
example : MapRel [(.arr, .mk (simpleFmt 'a') (some [(.int, .mk (simpleFmt 'x') none)]))]
    [(.base .arr, .mk (simpleFmt 'a') (some [(.base .int, .mk (simpleFmt 'x') none)]))] :=
  MapRel.cons _ _ _ _ _ (TreeRel.node _ _ _ (MapRel.cons _ _ _ _ _ (TreeRel.leaf _) MapRel.nil)) MapRel.nil

/-- the string flags: according to the regenerated table the code calls ApplyStringFlags under exactly the letters where the model does -/
theorem C20_x_flags_table (k : XKind) (c : Char) (h : documentedInX formatLettersX k c = true) :
    flaggedInX formatLettersX k c = honoursFlags k c := by
  rw [documentedX_eq_acceptsX] at h
  exact flaggedInX_eq_honours formatLettersX C20_x_letters k c h

/-- **width, the kinds of the extended model** — SemVer, URI, SemVerRange (all their letters: fix 5c2f826 routed `%p` of SemVer / URI
    and both letters of SemVerRange through ApplyStringFlags) and Type values: the text is at least as wide as requested -/
theorem C20_x_width_partial (io : FloatIO) (d : Str) (f : Fmt) (v : XVal) (w : Nat) (s : Str) (h : Directive d f)
    (hk : v.kind = .semver ∨ v.kind = .uri ∨ v.kind = .semverRange ∨ v.kind = .typ ∨ v.kind = .otype)
    (hw : f.width = some w) (hs : formatDirectiveX io d v = .text s) : w ≤ s.length := by
  rw [formatDirectiveX_eq_fmtX io f v d h] at hs
  exact fmtX_width_flagged kindKeys io _ Ind.default v w hk (by rw [getG_single]; exact hw) s hs

example : formatDirectiveX io0 "%-12s".toList (.semver "1.0.0".toList) = .text "1.0.0       ".toList ∧
    formatDirectiveX io0 "%20p".toList (.semver "1.0.0".toList) = .text "     SemVer('1.0.0')".toList ∧
    formatDirectiveX io0 "%-8s".toList (.semverRange "1.x".toList ">=1.0.0 <2.0.0".toList) = .text "1.x     ".toList ∧
    formatDirectiveX io0 "%.5p".toList (.uri "a:b".toList) = .text "URI('".toList ∧
    honoursFlags .semver 'p' = true ∧ honoursFlags .semverRange 's' = true ∧
    formatDirectiveX io0 "%16p".toList (.typ "Integer".toList [.int 0, .int 9]) = .text "   Integer[0, 9]".toList := by decide +kernel

/-- **width, every kind but four** — for EVERY value that is not a container and whose kind is not one of the four whose ToString never
    looks at the width (Timespan, Timestamp, Sensitive, type alias: known finding C20-width-ignored), the text is at least as wide as
    requested (for Integer / Float / Boolean the letters whose digits come from fmt's float code excepted, as in `C20_width` /
    `C20_float_width`): the boundary of the finding is exact -/
theorem C20_x_width (io : FloatIO) (d : Str) (f : Fmt) (v : XVal) (w : Nat) (s : Str) (h : Directive d f)
    (hv : v.isContainer = false)
    (hk : v.kind ≠ .tspan ∧ v.kind ≠ .tstamp ∧ v.kind ≠ .sensitive ∧ v.kind ≠ .talias)
    (hfl : isFloatLetter f.letter = false ∨ (v.kind ≠ .int ∧ v.kind ≠ .float ∧ v.kind ≠ .bool))
    (hw : f.width = some w) (hs : formatDirectiveX io d v = .text s) : w ≤ s.length := by
  rw [formatDirectiveX_eq_fmtX io f v d h] at hs
  exact fmtX_width kindKeys io _ Ind.default v f (congrArg GTree.f (getG_single f v)) hv hk w hw (C20_directive_go d f h) hfl s hs

example : formatDirectiveX io0 "%-9x".toList (.int 255) = .text "ff       ".toList ∧
    formatDirectiveX io0 "%12p".toList (.otype "My::T".toList []) = .text "       My::T".toList ∧
    formatDirectiveX io0 "%7p".toList (.regexp "a".toList) = .text "    /a/".toList := by decide +kernel

/-- the full statement: every value that is not a container is rendered at least as wide as requested (the float-digit
    letters excepted as in `C20_width`) -/
def C20_x_width_full : Prop := ∀ (io : FloatIO) (d : Str) (f : Fmt) (v : XVal) (w : Nat) (s : Str), Directive d f →
  v.isContainer = false → f.width = some w → isFloatLetter f.letter = false → formatDirectiveX io d v = .text s → w ≤ s.length

/-- known finding C20-width-ignored (narrowed by fix 5c2f826 to the three kinds whose ToString never looks at the format: Timespan,
    Timestamp, Sensitive): `%30s` of the Timespan 0 is `0-00:00:00.0`, 12 wide -/
theorem C20_x_width_fails : ¬ C20_x_width_full := by
  intro h
  have := h io0 "%30s".toList (parsed "%30s") (.tspan 0) 30 "0-00:00:00.0".toList
    (by decide +kernel) (by decide +kernel) (by decide +kernel) (by decide +kernel) (by decide +kernel)
  revert this; decide +kernel

example : formatDirectiveX io0 "%30s".toList (.tstamp "2017-07-14T02:40:00.000000000 UTC".toList) =
      .text "2017-07-14T02:40:00.000000000 UTC".toList ∧
    formatDirectiveX io0 "%40p".toList (.sensitive (.int 1)) = .text "Sensitive [value redacted]".toList ∧
    honoursFlags .tspan 's' = false ∧ honoursFlags .tstamp 's' = false ∧ honoursFlags .sensitive 'p' = false :=
  ⟨eq_lit Res.text _ (by decide +kernel), eq_lit Res.text _ (by decide +kernel), by decide +kernel⟩

/-- **structural recursion, arrays** (alt or not, any key system): what `Array.ToString2` writes is `arrayAssemble` — the
    delimiters, separators, line breaks and indentation — of the renderings of the elements under the element context (a
    container element under the same map, any other element under the container formats) -/
theorem C20_x_array_rec {κ : Type} (ks : KeySys κ) (io : FloatIO) (m : GMap κ) (ind : Ind) (vs : List XVal) (texts : List Str)
    (hl : isArrayLetter (getG ks m (.array vs)).f.letter = true)
    (hc : ChildrenTextX ks io m (cfOfG ks (getG ks m (.array vs))) (arrayChildInd (getG ks m (.array vs)).f ind) vs texts) :
    fmtX ks io m ind (.array vs) = .text (arrayAssemble (getG ks m (.array vs)).f ind (partsOf vs texts)) :=
  fmtX_array_assemble ks io m ind vs texts hl hc

/-- **structural recursion, hashes** (letters h s p) -/
theorem C20_x_hash_rec {κ : Type} (ks : KeySys κ) (io : FloatIO) (m : GMap κ) (ind : Ind) (es : List XEntry)
    (texts : List (Str × Str)) (hl : isHashLetter (getG ks m (.hash es)).f.letter = true)
    (hc : EntriesTextX ks io m (cfOfG ks (getG ks m (.hash es))) (hashChildInd (getG ks m (.hash es)).f ind) es texts) :
    fmtX ks io m ind (.hash es) = .text (hashAssemble (getG ks m (.hash es)).f ind texts) :=
  fmtX_hash_assemble ks io m ind es texts hl hc

/-- **container law, arrays** (non-alt), every element kind, any key system -/
theorem C20_x_array {κ : Type} (ks : KeySys κ) (io : FloatIO) (m : GMap κ) (ind : Ind) (vs : List XVal) (texts : List Str)
    (hl : isArrayLetter (getG ks m (.array vs)).f.letter = true) (halt : (getG ks m (.array vs)).f.alt = false)
    (hind : ind.indenting = false)
    (hc : ChildrenTextX ks io m (cfOfG ks (getG ks m (.array vs))) (arrayChildInd (getG ks m (.array vs)).f ind) vs texts) :
    fmtX ks io m ind (.array vs) =
      .text ((delimPair (getG ks m (.array vs)).f.ldelim '[').1 ++
        ((getG ks m (.array vs)).f.sep.getD [','] ++ [' ']).intercalate texts ++ (delimPair (getG ks m (.array vs)).f.ldelim '[').2) := by
  rw [fmtX_array_assemble ks io m ind vs texts hl hc, arrayAssemble_nonalt _ _ _ halt hind,
    partsOf_texts ks io m _ _ vs texts hc]

/-- **container law, hashes** (non-alt, letters h s p) -/
theorem C20_x_hash {κ : Type} (ks : KeySys κ) (io : FloatIO) (m : GMap κ) (ind : Ind) (es : List XEntry) (texts : List (Str × Str))
    (hl : isHashLetter (getG ks m (.hash es)).f.letter = true) (halt : (getG ks m (.hash es)).f.alt = false)
    (hind : ind.indenting = false)
    (hc : EntriesTextX ks io m (cfOfG ks (getG ks m (.hash es))) (hashChildInd (getG ks m (.hash es)).f ind) es texts) :
    fmtX ks io m ind (.hash es) =
      .text ((delimPair (getG ks m (.hash es)).f.ldelim '{').1 ++
        ((getG ks m (.hash es)).f.sep.getD [','] ++ [' ']).intercalate
          (texts.map (fun p => p.1 ++ (getG ks m (.hash es)).f.sep2.getD " => ".toList ++ p.2)) ++
        (delimPair (getG ks m (.hash es)).f.ldelim '{').2) := by
  rw [fmtX_hash_assemble ks io m ind es texts hl hc, hashAssemble_nonalt _ _ _ halt hind]

/-- **object instances** (non-alt, letters h s p): the type name, then the init hash between `(` and `)` — whatever delimiter
    the format gives — its entries formatted as those of a hash -/
theorem C20_x_obj {κ : Type} (ks : KeySys κ) (io : FloatIO) (m : GMap κ) (ind : Ind) (name : Str) (es : List XEntry)
    (texts : List (Str × Str)) (hn : name ≠ [])
    (hl : isHashLetter (getG ks m (.obj name es)).f.letter = true) (halt : (getG ks m (.obj name es)).f.alt = false)
    (hind : ind.indenting = false)
    (hc : EntriesTextX ks io m (cfOfG ks (getG ks m (.obj name es))) (hashChildInd (getG ks m (.obj name es)).f ind) es texts) :
    fmtX ks io m ind (.obj name es) =
      .text (name ++ (['('] ++
        ((getG ks m (.obj name es)).f.sep.getD [','] ++ [' ']).intercalate
          (texts.map (fun p => p.1 ++ (getG ks m (.obj name es)).f.sep2.getD " => ".toList ++ p.2)) ++ [')'])) := by
  rw [fmtX_obj_assemble ks io m ind name es texts hn hl hc, hashAssembleD_paren_nonalt _ _ _ halt,
    show ind.breaks = false by simp [Ind.breaks, hind]]
  rfl

/-- an instance of an ANONYMOUS object type ("can't be written in constructor call form") is written as the Hash of its init hash,
    after the line break of the context — so in an indenting context it breaks the line twice -/
theorem C20_x_obj_anon {κ : Type} (ks : KeySys κ) (io : FloatIO) (m : GMap κ) (ind : Ind) (es : List XEntry) :
    fmtX ks io m ind (.obj [] es) =
      (fmtX ks io m ind (.hash es)).bind fun s => .text ((if ind.breaks then '\n' :: ind.padding else []) ++ s) := by
  simp only [fmtX, List.isEmpty_nil, if_true, List.append_nil]

example : formatX kindKeys io0 [(.base .any, .mk { simpleFmt 'p' with alt := true } none)]
    (.array [.int 1, .obj [] [.mk (.str ['a']) (.int 1)]]) = .text "[1,\n  \n  {\n    'a' => 1\n  }]".toList :=
  eq_lit Res.text _ (by decide +kernel)

/-- **Type values**: the name, then the parameters formatted as an Array under the SAME map (and `ctx.Subsequent()`); `#s` quotes
    and the string flags apply to the whole text -/
theorem C20_x_typ {κ : Type} (ks : KeySys κ) (io : FloatIO) (m : GMap κ) (ind : Ind) (name : Str) (p : XVal) (ps : List XVal)
    (hl : isTypeLetter (getG ks m (.typ name (p :: ps))).f.letter = true) :
    fmtX ks io m ind (.typ name (p :: ps)) =
      typeFinish (getG ks m (.typ name (p :: ps))).f name (fmtX ks io m ind.ctxSubsequent (.array (p :: ps))) := by
  simp only [fmtX, hl, Bool.not_true, Bool.false_eq_true, if_false]

/-- **type aliases as values**: the name, whatever the letter and the flags (`TypeAliasType.ToString` has no switch on the letter) — except
    under `%#b`, which formats ` = ` and the resolved type under the same context -/
theorem C20_x_alias {κ : Type} (ks : KeySys κ) (io : FloatIO) (m : GMap κ) (ind : Ind) (name : Str) (r : XVal)
    (hn : name ≠ "UnresolvedAlias".toList)
    (hb : ¬ ((getG ks m (.talias name r)).f.alt = true ∧ (getG ks m (.talias name r)).f.letter = 'b')) :
    fmtX ks io m ind (.talias name r) = .text name := by
  simp only [fmtX, hn, if_false]
  split
  · rfl
  · rename_i h
    exfalso
    apply hb
    simpa using h

/-- **object types as values**: a named one is its name, an anonymous one `Object[{key => value, …}]` of its init hash — the values one
    level in (under the same map when containers, else under the container formats), the members of `attributes` / `functions` two
    levels in under the same map; `#s` quotes and the string flags apply to the whole text; any letter but s p is unsupported -/
theorem C20_x_otype_named {κ : Type} (ks : KeySys κ) (io : FloatIO) (m : GMap κ) (ind : Ind) (name : Str) (ih : List OEntry)
    (hn : name ≠ []) (hl : isTypeLetter (getG ks m (.otype name ih)).f.letter = true) :
    fmtX ks io m ind (.otype name ih) = typeFinish (getG ks m (.otype name ih)).f [] (.text name) := by
  have : name.isEmpty = false := List.isEmpty_eq_false_iff.2 hn
  simp only [fmtX, hl, this, Bool.not_true, Bool.not_false, Bool.false_eq_true, if_false, if_true]

theorem C20_x_otype_anon {κ : Type} (ks : KeySys κ) (io : FloatIO) (m : GMap κ) (ind : Ind) (ih : List OEntry)
    (hl : isTypeLetter (getG ks m (.otype [] ih)).f.letter = true) :
    fmtX ks io m ind (.otype [] ih) =
      typeFinish (getG ks m (.otype [] ih)).f []
        ((otypeEntries ks io m (cfOfG ks (getG ks m (.otype [] ih))) (getG ks m (.otype [] ih)).f
            (ind.increase (getG ks m (.otype [] ih)).f.alt)
            ((ind.increase (getG ks m (.otype [] ih)).f.alt).increase (getG ks m (.otype [] ih)).f.alt) true ih).bind fun s =>
          .text ("Object[{".toList ++ s ++ (if (getG ks m (.otype [] ih)).f.alt then '\n' :: ind.padding else []) ++ "}]".toList)) := by
  simp only [fmtX, hl, Bool.not_true, Bool.false_eq_true, if_false, List.isEmpty_nil, Bool.not_true]

/-- **the property `expanded`** (what `String()` of an object type and `px.ToString2(v, types.Expanded)` use): an object type — named or
    not, the default Object excepted — is written as `Object[{…}]` of its init hash (which then holds its name), the property switched
    off inside ("Avoid nested expansions"); and it is a container there (`XVal.isContainer`: formatted under the map of its parent) -/
theorem C20_x_otype_expanded {κ : Type} (ks : KeySys κ) (io : FloatIO) (m : GMap κ) (ind : Ind) (ih : List OEntry)
    (hl : isTypeLetter (getG ks m (.otypeX false ih)).f.letter = true) :
    fmtX ks io m ind (.otypeX false ih) =
      typeFinish (getG ks m (.otypeX false ih)).f []
        ((otypeEntries ks io m (cfOfG ks (getG ks m (.otypeX false ih))) (getG ks m (.otypeX false ih)).f
            (ind.increase (getG ks m (.otypeX false ih)).f.alt)
            ((ind.increase (getG ks m (.otypeX false ih)).f.alt).increase (getG ks m (.otypeX false ih)).f.alt) true ih).bind fun s =>
          .text ("Object[{".toList ++ s ++ (if (getG ks m (.otypeX false ih)).f.alt then '\n' :: ind.padding else []) ++ "}]".toList)) := by
  simp only [fmtX, hl, Bool.not_true, Bool.false_eq_true, if_false]

example : formatX kindKeys io0 [] (.array [.int 1, .otypeX false [.plain "name".toList (.str "My::T".toList),
      .members "attributes".toList [.mk (.str ['a']) (.typ "Any".toList [])]], .otypeX true []]) =
    .text "[1, Object[{name => 'My::T', attributes => {'a' => Any}}], Object]".toList ∧
    (XVal.otypeX false []).isContainer = true ∧ (XVal.otype "My::T".toList []).isContainer = false :=
  ⟨eq_lit Res.text _ (by decide +kernel), by decide +kernel⟩

theorem C20_x_unsupported_otype {κ : Type} (ks : KeySys κ) (io : FloatIO) (m : GMap κ) (ind : Ind) (name : Str) (ih : List OEntry)
    (hl : documentedInX formatLettersX .otype (getG ks m (.otype name ih)).f.letter = false) :
    fmtX ks io m ind (.otype name ih) = .reported .unsupported := by
  rw [documentedX_eq_acceptsX] at hl
  simp only [fmtX, (acceptsX_otype _).symm.trans hl, Bool.not_false, if_true]

example : formatX kindKeys io0 [(.base .typ, .mk (parsed "%#p") none)] (.otype [] [.members "attributes".toList [.mk (.str ['a']) (.typ "Integer".toList []),
      .mk (.str ['b']) (.hash [.mk (.str "type".toList) (.typ "String".toList []), .mk (.str "value".toList) (.str ['x'])])],
      .plain "equality".toList (.array [.str ['a']])]) =
    .text "Object[{\n  attributes => {\n    'a' => Integer,\n    'b' => {'type' => String, 'value' => 'x'}\n  },\n  equality => ['a']\n}]".toList ∧
    formatDirectiveX io0 "%12p".toList (.otype "My::T".toList []) = .text "       My::T".toList ∧
    formatDirectiveX io0 "%d".toList (.otype "My::T".toList []) = .reported .unsupported ∧
    formatDirectiveX io0 "%30d".toList (.talias "Data".toList (.typ "Variant".toList [])) = .text "Data".toList ∧
    formatDirectiveX io0 "%#b".toList (.talias "Data".toList (.typ "Variant".toList [])) = .reported .unsupported :=
  ⟨eq_lit Res.text _ (by decide +kernel), by decide +kernel⟩

/-- non-vacuity: every kind inside containers under the default formats; an object with a nested object and a Struct type in
    alt mode; a map that formats the parameters of a Type with `<` `>` and `;` -/
example : formatX kindKeys io0 [] (.array [.semver "1.0.0".toList, .tspan 1500000000, .typ "Integer".toList [.int 0, .int 9],
      .obj "My::Pair".toList [.mk (.str ['a']) (.int 1), .mk (.str ['b']) (.obj "My::Unit".toList [])], .sensitive .undef]) =
    .text "[SemVer('1.0.0'), 0-00:00:01.5, Integer[0, 9], My::Pair('a' => 1, 'b' => My::Unit()), Sensitive [value redacted]]".toList :=
  eq_lit Res.text _ (by decide +kernel)
example : formatDirectiveX io0 "%#p".toList (.typ "Struct".toList [.hash [.mk (.str ['a']) (.typ "Integer".toList [])]]) =
    .text "Struct[\n  {\n    'a' => Integer\n  }]".toList := eq_lit Res.text _ (by decide +kernel)
example : formatX kindKeys io0 [(.base .arr, .mk { simpleFmt 'a' with ldelim := some '<', sep := some [';'] } none)]
    (.typ "Integer".toList [.int 0, .int 9]) = .text "Integer<0; 9>".toList := by decide +kernel
example : ChildrenTextX kindKeys io0 [] (defaultCFG .base) (arrayChildInd (simpleFmt 's') Ind.default)
    [.uri "a:b".toList, .array [.int 2]] ["URI('a:b')".toList, "[2]".toList] := by
  simp only [ChildrenTextX]; decide +kernel

/-! ### alt mode (`#`), one level at a time, every kind of element, any key system -/

/-- **arrays at nesting level `L`, alt or not**: the pretty-printer `ppArray` of the element renderings (elements at level `L + 1`,
    never the first thing on their level) -/
theorem C20_x_array_pp {κ : Type} (ks : KeySys κ) (io : FloatIO) (m : GMap κ) (L : Nat) (inh nested : Bool) (vs : List XVal)
    (texts : List Str) (hl : isArrayLetter (getG ks m (.array vs)).f.letter = true)
    (hc : ChildrenTextX ks io m (cfOfG ks (getG ks m (.array vs))) ⟨false, (getG ks m (.array vs)).f.alt, L + 1⟩ vs texts) :
    fmtX ks io m ⟨!nested, inh, L⟩ (.array vs) = .text (ppArray (getG ks m (.array vs)).f L inh nested (partsOf vs texts)) := by
  rw [fmtX_array_assemble ks io m _ vs texts hl (by rw [arrayChildInd_eq]; exact hc), arrayAssemble_pp]

/-- **hashes at nesting level `L`, alt or not** (letters h s p): keys and values at level `L + 1`, each the first thing after its
    indentation -/
theorem C20_x_hash_pp {κ : Type} (ks : KeySys κ) (io : FloatIO) (m : GMap κ) (L : Nat) (inh nested : Bool) (es : List XEntry)
    (texts : List (Str × Str)) (hl : isHashLetter (getG ks m (.hash es)).f.letter = true)
    (hc : EntriesTextX ks io m (cfOfG ks (getG ks m (.hash es))) ⟨true, (getG ks m (.hash es)).f.alt, L + 1⟩ es texts) :
    fmtX ks io m ⟨!nested, inh, L⟩ (.hash es) = .text (ppHash (getG ks m (.hash es)).f L inh nested texts) := by
  rw [fmtX_hash_assemble ks io m _ es texts hl (by rw [hashChildInd_eq]; exact hc), hashAssemble_pp]

/-- **object instances at nesting level `L`, alt or not** (`%#p`: letters h s p): a line break and 2·L blanks when the CONTEXT
    indents and the object is not the first thing on its level, the type name, `(`, in alt mode one `key => value` per line at level
    `L + 1` and the closing `)` on its own line at level `L` -/
theorem C20_x_obj_pp {κ : Type} (ks : KeySys κ) (io : FloatIO) (m : GMap κ) (L : Nat) (inh nested : Bool) (name : Str)
    (es : List XEntry) (texts : List (Str × Str)) (hn : name ≠ []) (hl : isHashLetter (getG ks m (.obj name es)).f.letter = true)
    (hc : EntriesTextX ks io m (cfOfG ks (getG ks m (.obj name es))) ⟨true, (getG ks m (.obj name es)).f.alt, L + 1⟩ es texts) :
    fmtX ks io m ⟨!nested, inh, L⟩ (.obj name es) = .text (ppObj (getG ks m (.obj name es)).f L inh nested name texts) := by
  rw [fmtX_obj_assemble ks io m _ name es texts hn hl (by rw [hashChildInd_eq]; exact hc), hashAssembleD_paren_pp]
  simp only [ppObj, Ind.breaks, Ind.padding, newLine, Bool.not_not]

/-- non-vacuity: `%#p` of an object whose attribute holds an array of an object and an integer -/
example : formatX kindKeys io0 [(.base .obj, .mk { simpleFmt 'p' with alt := true } none), (.base .arr, .mk { simpleFmt 'a' with alt := true } none)]
    (.obj "My::Pair".toList [.mk (.str ['a']) (.int 1), .mk (.str ['b']) (.array [.obj "My::One".toList [.mk (.str ['v']) (.int 2)], .int 3])]) =
    .text "My::Pair(\n  'a' => 1,\n  'b' => [\n    My::One(\n      'v' => 2\n    ),\n    3]\n)".toList :=
  eq_lit Res.text _ (by decide +kernel)
example : ppObj { simpleFmt 'p' with alt := true } 1 true true "T".toList [("'k'".toList, "1".toList)] =
    "\n  T(\n    'k' => 1\n  )".toList := by decide +kernel

/-- **the extended model is a pretty-printer, end to end**: for values of ANY depth and kind under ANY per-type format map over any key
    system (any mixture of alt and non-alt formats; the `%a` form of hashes and object instances, the parameter lists of Types, the
    init hashes of anonymous object types included — no hypothesis), the rendering computed by the model of `ToString` — Indentation
    objects with Indenting / Increase / Subsequent / IsFirst / Breaks, `formatContext.Subsequent`, the first-element state of the
    element loop — IS the directly written pretty-printer `refPPX`: nesting level, "the enclosing format indents" and "not the first
    thing on its level" as plain parameters, the layouts `ppArray` / `ppHash` / `ppObj` -/
theorem C20_x_container_alt {κ : Type} (ks : KeySys κ) (io : FloatIO) (m : GMap κ) (v : XVal) :
    formatX ks io m v = refPPX ks io m 0 false false v := fmtX_pp ks io v m 0 false false

/-- non-vacuity: the pretty-printer on a Type whose parameter list is an alt Array nested in an alt Array, and on a hash formatted
    with `a` inside an alt array -/
example : refPPX kindKeys io0 [(.base .arr, .mk { simpleFmt 'a' with alt := true } none)] 0 false false
      (.array [.int 1, .array [.typ "Integer".toList [.int 0, .int 9], .int 2]]) =
    .text "[1,\n  [Integer[0, 9], 2]]".toList ∧
    refPPX kindKeys io0 [(.base .arr, .mk { simpleFmt 'a' with alt := true } none), (.base .hash, .mk (simpleFmt 'a') none)] 0 false false
      (.array [.int 1, .hash [.mk (.str ['k']) (.int 2)]]) = .text "[1,\n  [\n    ['k', 2]]]".toList :=
  ⟨eq_lit Res.text _ (by decide +kernel), eq_lit Res.text _ (by decide +kernel)⟩

/-! ## per-type format maps over ANY system of key types (`Model/FormatMergeG.lean`, `Model/FormatLat.lean`; ops `fmtx (mmap ..)`, `fmtt`)

`mergeFormats` orders the merged map by "more acceptors first, then rank, then name".  That the first accepting entry is then the
entry of the MOST SPECIFIC accepting key rests on exactly this: on the keys of the map, `IsAssignable` is reflexive, transitive and
antisymmetric.  (`KeysLawful` asks in addition that no two keys print alike: that is what makes the comparison total, so that Go's sort and
the model's insertion sort answer the same list — an argument for the model, Model/Format.lean at `entryLess`; no proof here uses it.)
For the parameterless default types this is a finite table (`decide`);
for parameterised key types it is the general lattice's business (reflexivity C02, transitivity C03 — which has known exceptions, so
the hypothesis is about the keys of the map, not about all types). -/

/-- **the lookup law, any key system**: in a merged map whose keys are pairwise different and `KeysLawful`, the format applied to a
    value is the entry of the most specific key that accepts it -/
theorem C20_map_most_specific_any {κ : Type} (ks : KeySys κ) (ko : KeyOrd κ) (m : GMap κ) (hk : KeysLawful ko (m.map (·.1)))
    (hn : (m.map (·.1)).Nodup) (K : κ) (t : GTree κ) (v : XVal) (hm : (K, t) ∈ m) (hacc : ks.acc K v = true)
    (hleast : ∀ e ∈ m, ks.acc e.1 v = true → ko.sub e.1 K = true) :
    getG ks (sortEntriesG ko m) v = t :=
  getG_sortEntriesG_least ks ko m hk hn K t v hm hacc hleast

/-- … the 22 parameterless default types of all kinds are an instance: the hypotheses on the key order hold by `decide` on the table -/
theorem C20_map_most_specific_default_types (m : GMap XKey) (hn : (m.map (·.1)).Nodup) (K : XKey) (t : GTree XKey) (v : XVal)
    (hm : (K, t) ∈ m) (hacc : K.accepts v.kind = true) (hleast : ∀ e ∈ m, e.1.accepts v.kind = true → XKey.sub e.1 K = true) :
    getG kindKeys (sortEntriesG xkeyOrd m) v = t :=
  C20_map_most_specific_any kindKeys xkeyOrd m (xkeyOrd_lawful _) hn K t v hm hacc hleast

/-- … on what `mergeFormats` builds from the defaults `lo` and the user's map `hi`: the entry for the exact type of a value of ANY
    kind is the one applied; no hypothesis on the maps -/
theorem C20_map_exact_key_any_kind (mt : GTree XKey → GTree XKey → GTree XKey) (lo hi : GMap XKey) (v : XVal) (t : GTree XKey)
    (hm : (v.kind.key, t) ∈ mergedEntriesG xkeyOrd mt lo hi) :
    getG kindKeys (sortEntriesG xkeyOrd (mergedEntriesG xkeyOrd mt lo hi)) v = t :=
  C20_map_most_specific_default_types _ (mergedEntriesG_keys_nodup xkeyOrd xkeyOrd_eqv mt lo hi) v.kind.key t v hm
    (XKind.key_accepts v.kind) (fun e _ h => XKey.accepts_sub_exact e.1 v.kind h)

/-- non-vacuity: `{Scalar => '%s', SemVer => '%p', Timespan => …}` — a SemVer gets the SemVer entry although Scalar accepts it too,
    with the defaults merged in -/
example : (getG kindKeys (contextMapG xkeyOrd .base [(.base .scalar, .mk (simpleFmt 's') none), (.semver, .mk (simpleFmt 'p') none)])
      (.semver "1.0.0".toList)).f.letter = 'p' ∧
    (getG kindKeys (contextMapG xkeyOrd .base [(.base .scalar, .mk (simpleFmt 's') none), (.semver, .mk (simpleFmt 'p') none)])
      (.tspan 5)).f.letter = 's' ∧
    formatX kindKeys io0 (contextMapG xkeyOrd .base [(.base .arr, .mk (simpleFmt 'a') (some [(.semver, .mk (simpleFmt 's') none)]))])
      (.array [.semver "1.0.0".toList, .str ['a']]) = .text "[1.0.0, 'a']".toList := by decide +kernel

/-- **keys = arbitrary types of the lattice model** (`Integer[0, 9]`, `Array[String]`, `Variant[…]` …): acceptance is
    `Lat.asg key (Lat.ptype v)`, the order of the merged map is by `Lat.asg` between the keys; the hypotheses of the lookup law are
    one boolean check on the keys of the map, evaluated with the lattice model -/
theorem C20_map_most_specific_lattice (cfg : Pcore.Lat.Cfg) (sfh : Bool) (m : GMap LKey)
    (hchk : lawfulb (latOrd cfg sfh) (m.map (·.1)) = true) (K : LKey) (t : GTree LKey) (v : XVal) (hm : (K, t) ∈ m)
    (hacc : (latKeys cfg sfh).acc K v = true)
    (hleast : ∀ e ∈ m, (latKeys cfg sfh).acc e.1 v = true → (latOrd cfg sfh).sub e.1 K = true) :
    getG (latKeys cfg sfh) (sortEntriesG (latOrd cfg sfh) m) v = t :=
  C20_map_most_specific_any (latKeys cfg sfh) (latOrd cfg sfh) m (lawfulb_sound _ _ hchk) (lawfulb_nodup _ _ hchk) K t v hm hacc hleast

def kScalar : LKey := ⟨.scalar, "Scalar"⟩
def kInteger : LKey := ⟨.int Pcore.Lat.Rng.all, "Integer"⟩
def kInt09 : LKey := ⟨.int ⟨0, 9⟩, "Integer[0, 9]"⟩
def exLatMap : GMap LKey :=
  [(kScalar, .mk (simpleFmt 's') none), (kInteger, .mk (simpleFmt 'x') none), (kInt09, .mk (simpleFmt 'd') none)]

theorem exLatMap_lawful (cfg : Pcore.Lat.Cfg) : lawfulb (latOrd cfg true) (exLatMap.map (·.1)) = true := by
  simp [lawfulb, noPairb, exLatMap, kScalar, kInteger, kInt09, latOrd, asg_int_int, asg_int_scalar, asg_scalar_int, asg_scalar_scalar,
    Pcore.Lat.Rng.sub, Pcore.Lat.Rng.all, Pcore.Lat.I64.min, Pcore.Lat.I64.max]

example (cfg : Pcore.Lat.Cfg) : lawfulb (latOrd cfg true) (exLatMap.map (·.1)) = true := exLatMap_lawful cfg

/-- non-vacuity of `C20_map_most_specific_lattice`: the map `{Scalar => '%s', Integer => '%x', Integer[0, 9] => '%d'}` passes the
    check; 5 is formatted by the entry of `Integer[0, 9]`, 50 by that of `Integer`, in whatever order the user wrote the entries -/
example (cfg : Pcore.Lat.Cfg) :
    (getG (latKeys cfg true) (sortEntriesG (latOrd cfg true) exLatMap) (.int 5)).f.letter = 'd' ∧
    (getG (latKeys cfg true) (sortEntriesG (latOrd cfg true) exLatMap) (.int 50)).f.letter = 'x' := by
  have hchk := exLatMap_lawful cfg
  -- which of the three keys accept an integer, and which of them the others
  have hacc : ∀ (k : LKey) (r : Pcore.Lat.Rng) (i : Int), k.ty = .int r →
      (latKeys cfg true).acc k (.int i) = r.sub ⟨i, i⟩ := by
    intro k r i hk
    simp [latKeys, XVal.toLat, Pcore.Lat.ptype, hk, asg_int_int]
  constructor
  · rw [C20_map_most_specific_lattice cfg true exLatMap hchk kInt09 (.mk (simpleFmt 'd') none) (.int 5) (by simp [exLatMap])]
    · rfl
    · rw [hacc kInt09 ⟨0, 9⟩ 5 rfl]; decide
    · intro e he _
      simp only [exLatMap, List.mem_cons, List.mem_nil_iff, or_false] at he
      rcases he with rfl | rfl | rfl <;>
        simp [latOrd, kScalar, kInteger, kInt09, asg_int_int, asg_scalar_int, Pcore.Lat.Rng.sub, Pcore.Lat.Rng.all, Pcore.Lat.I64.min,
          Pcore.Lat.I64.max]
  · rw [C20_map_most_specific_lattice cfg true exLatMap hchk kInteger (.mk (simpleFmt 'x') none) (.int 50) (by simp [exLatMap])]
    · rfl
    · rw [hacc kInteger Pcore.Lat.Rng.all 50 rfl]; decide
    · intro e he hacce
      simp only [exLatMap, List.mem_cons, List.mem_nil_iff, or_false] at he
      rcases he with rfl | rfl | rfl
      · simp [latOrd, kScalar, kInteger, asg_scalar_int]
      · simp [latOrd, kInteger, asg_int_int, Pcore.Lat.Rng.sub]
      · rw [hacc kInt09 ⟨0, 9⟩ 50 rfl] at hacce
        exact absurd hacce (by decide)

/-- **the 16-key table is an instance of the general rule**: for a user map keyed by the 16 default types, the merged map that the
    model of `Format.lean` builds (`contextMap`: `mergeMaps` / `sortEntries` over the table `Key.sub`) and the one the general
    definitions build (`contextMapG` with the key order `xkeyOrd`) are the same entry by entry at every nesting level — and so is
    the text of `new(String, v, map)` -/
theorem C20_map_table_is_instance (io : FloatIO) (user : FMap) (user' : GMap XKey) (v : Val) (h : MapEq user user') :
    formatX kindKeys io (contextMapG xkeyOrd .base user') v.x = format io (contextMap user) v :=
  C20_x_refines io _ _ v (contextMap_eq h).toRel

example : MapEq [(.arr, .mk (simpleFmt 'a') (some [(.int, .mk (simpleFmt 'x') none)])), (.scalar, .mk (simpleFmt 's') none)]
    [(.base .arr, .mk (simpleFmt 'a') (some [(.base .int, .mk (simpleFmt 'x') none)])), (.base .scalar, .mk (simpleFmt 's') none)] :=
  MapEq.cons _ _ _ _ _ (TreeEq.node _ _ _ (MapEq.cons _ _ _ _ _ (TreeEq.leaf _) MapEq.nil))
    (MapEq.cons _ _ _ _ _ (TreeEq.leaf _) MapEq.nil)

/-! ## the format strings of a Timespan: `Timespan.Format(format)` (`Pcore/Model/FormatSpan.lean`; op `span`) -/

/-- formatting a Timespan never faults -/
def C20_span_total_full : Prop := ∀ (fm : Str) (ns : Int), spanFormat fm ns ≠ .fault

/-- **totality**, every format string, every Timespan (the code after the repairs 03fcfad and 5257aa1): the result is a text or the
    reported bad-format error — no Go runtime fault, no fmt error marker -/
theorem C20_span_total (fm : Str) (ns : Int) : (∃ s, spanFormat fm ns = .text s) ∨ spanFormat fm ns = .badSpec := by
  unfold spanFormat spanFormatC
  cases hp : spanParseC .now fm with
  | none => exact Or.inr rfl
  | some segs => exact Or.inl (spanFormat2_total segs (spanParse_ok fm segs hp) ns)

theorem C20_span_no_fault : C20_span_total_full := by
  intro fm ns h
  rcases C20_span_total fm ns with ⟨s, hs⟩ | hs <;> rw [hs] at h <;> cases h

/-- the conditional form: under the side condition `SegsOK` on the parsed segments — which `spanParse_ok` establishes for every
    format -/
theorem C20_span_total_partial (fm : Str) (ns : Int) (_h : ∀ segs, spanParse fm = some segs → SegsOK segs) :
    (∃ s, spanFormat fm ns = .text s) ∨ spanFormat fm ns = .badSpec := C20_span_total fm ns

example : spanFormat "%D-%H:%M:%S.%-N".toList 90061500000000 = .text "1-01:01:01.5".toList ∧
    spanFormat "%H:%M".toList 90061500000000 = .text "25:01".toList ∧
    spanFormat "%_5H|%-H|%05H".toList 90061500000000 = .text "   25|25|00025".toList ∧
    spanFormat "%S.%L".toList 50000000 = .text "00.50 ".toList ∧
    spanFormat "%D-%H:%M:%S.%-N".toList (-90061500000000) = .text "-1-01:01:01.5".toList ∧
    spanFormat "%-_H".toList 0 = .badSpec ∧ spanFormat "100%% %S".toList 1500000000 = .text "100% 01".toList := by decide +kernel

/-- the repaired code on the inputs of the two defects: width 0 shows the value modulo 1, a width above 10^6 is a bad format specifier -/
example : spanFormat "%D %-0N".toList 50000000 = .text "0 0".toList ∧ spanFormat "%S.%_0N".toList 1500000000 = .text "01.0".toList ∧
    spanFormat "%20000000D".toList 0 = .badSpec ∧ spanFormat "%S %-20000000N".toList 50000000 = .badSpec ∧
    spanParse "%1000000D".toList = some [.val ⟨.day, some '0', some 1000000, true⟩] := by decide +kernel

/-- fixed finding C20-span-nano-width-zero (03fcfad), witnessed on the model of the code before the repair: `Timespan(50ms).Format("%D %-0N")`
    was a Go runtime fault (integer divide by zero: `utils.Int64Pow(10, 0)` answered 0) -/
theorem C20_span_zero_width_before_fix : spanFormatC .before "%D %-0N".toList 50000000 = .fault ∧
    spanFormatC ⟨true, false⟩ "%D %-0N".toList 50000000 = .text "0 0".toList := by decide +kernel

/-- fixed finding C20-span-width-limit (5257aa1), witnessed on the model of the code before the repair: a width beyond fmt's limit
    reached fmt and showed as `%!(NOVERB)` -/
theorem C20_span_width_limit_before_fix : spanFormatC .before "%20000000D".toList 0 = .fault ∧
    spanFormatC ⟨false, true⟩ "%20000000D".toList 0 = .badSpec := by decide +kernel

/-- **width**: a `0`- or blank-padded day / hour / minute / second segment is at least as wide as requested -/
theorem C20_span_width (c : Char) (hc : c = '0' ∨ c = ' ') (w : Nat) (h1 : 1 ≤ w) (h2 : w ≤ 1000000) (n : Int) (s : Str)
    (h : fmtD (valueFmt (some c) w) n = some s) : w ≤ s.length := valueFmt_width c hc w h1 h2 n s h

/-- **the segments add up**: days, hours of the day, minutes of the hour, seconds of the minute and the nanoseconds of the second —
    what `%D-%H:%M:%S.%N` shows — are a decomposition of the (non-negative) number of nanoseconds -/
theorem C20_span_sum (ns : Int) (h : 0 ≤ ns) :
    ns.tdiv nsPerDay * nsPerDay + (ns.tdiv nsPerHour).tmod 24 * nsPerHour + (ns.tdiv nsPerMin).tmod 60 * nsPerMin +
      (ns.tdiv nsPerSec).tmod 60 * nsPerSec + ns.tmod nsPerSec = ns := span_sum ns h

example : spanParse "%D-%H:%M:%S.%N".toList = some [.val ⟨.day, some '0', none, true⟩, .lit ['-'], .val ⟨.hour, some '0', none, false⟩,
    .lit [':'], .val ⟨.minute, some '0', none, false⟩, .lit [':'], .val ⟨.second, some '0', none, false⟩, .lit ['.'],
    .val ⟨.nano, some '0', none, false⟩] ∧
    segValue .now ⟨.day, some '0', none, true⟩ 90061500000000 = some 1 ∧ segValue .now ⟨.hour, some '0', none, false⟩ 90061500000000 = some 1 ∧
    segValue .now ⟨.nano, some '0', none, false⟩ 90061500000000 = some 500000000 := by decide +kernel

/-- **literal text is rendered verbatim**: a format without `%` is its own rendering, for every non-negative Timespan -/
theorem C20_span_literal (fm : Str) (hfm : ∀ c ∈ fm, c ≠ '%') (ns : Int) (h : 0 ≤ ns) : spanFormat fm ns = .text fm := by
  have hlt : ¬ ns < 0 := by omega
  unfold spanFormat spanFormatC
  rw [show spanParseC .now fm = _ from spanParse_literal fm hfm]
  cases fm with
  | nil => simp [spanFormat2, segsText, hlt]
  | cons c cs => simp [spanFormat2, segsText, segText, hlt]

example : spanFormat "no directive".toList 5 = .text "no directive".toList := by decide +kernel

end Pcore.Format

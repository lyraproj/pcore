import Pcore.Proofs.FilesSound
import Pcore.Proofs.FilesOnce
import Pcore.Proofs.FilesPath
import Pcore.Proofs.FilesAbsent
import Pcore.Proofs.FilesFlat
import Pcore.Proofs.FilesKinds
import Pcore.Proofs.FilesDeep
import Pcore.Proofs.FilesAncestor
import Pcore.Proofs.FilesTypeset
import Pcore.Proofs.FilesTermMain
import Pcore.Proofs.FilesTypesetChild
import Pcore.Proofs.FilesFuelMono
import Pcore.Proofs.FilesTypesetDep
import Pcore.Proofs.FilesInitDep
/-!
# C15 — File-based loading maps names to definition files faithfully

Property (properties.jsonl): for every module directory layout and every requested name, a type is found if and only if a
definition file exists at the path derived from the name (module prefix, types directory, lower-cased name segments, .pp
extension), the loaded definition carries the requested name, lookups ignore letter case, and each file is parsed at most
once.  A name without a file stays absent without side effects, and a malformed or misnamed file surfaces as a reported
error that names that file and the line.

All theorems are about the executable model `Pcore.Model.Files` (the code as it is now, after fixes 80f753b, 51b01c7,
8bf8d8e, 9d272bd); the model is tied to the code by the correspondence run (`./check C15`).  They quantify over every tree (a list
of (path, body) in any walk order), every module list, every context loader, every lookup sequence and every fuel.

Full statement / proved / missing
* `C15_path_name` (proved, full) — name → path → name: the file at `EffectivePath(n)` is indexed (by `TypedNames`) under
  exactly the key of `n`, for every smart path and every name except the two reserved names of a module
  (`<mod>::init`, `<mod>::init_typeset`; `C15_reserved_names` shows the exclusion is real — by design).
  `C15_index_iff` restates it on the index `find` consults.
* `C15_once` (proved, full) — for ANY tree, module list, context loader, fuel and lookup sequence, no path is read twice
  (`C15_once_from`: from any state that satisfies the invariant).
  `C15_once_needs_guard`: with the code before fix 51b01c7 (`guardInit := false`) the module's `init_typeset.pp` is read
  again and again until the fuel (the Go stack) is exhausted and the answer is `diverges`.
* `C15_name` (`C15_name_fresh`: from the empty caches), `C15_found_sound` (proved, full: the "only if" half of found ⇔ file, and the name clause) — whenever a lookup
  answers `found d`, `d` carries the requested name up to letter case and is justified: it is a core type, or some file of
  the tree that sits where the index points for that name (or for the enclosing type set) defines it.
* `C15_absent` (proved, FULL: every context loader, name, state and fuel) — when no loader has an origin for the name or
  any of its prefixes (and its first segment's module has no `init_typeset`), the lookup never answers `found`, reads
  nothing and changes the caches by nil placeholders only.
* `C15_found_iff_global`, `C15_absent_global`, `C15_error_global` (proved; PARTIAL with respect to `C15_found_iff_full` /
  `C15_error_full`) — the "if" half, absence and error location for the global loader used as the
  context's loader, for a name the cache does not hold yet whose first origin is not a type set.
* `C15_found_iff_module`, `C15_found_iff_dependency`, `C15_module_outcome`, `C15_dependency_outcome` (proved; partial) —
  the same for a module-relative name `Mod::X` through the module's loader and through the dependency loader, when the
  global loader has no file for `Mod::X` nor for `Mod`: the whole parent-first route (global miss, parent type-set search,
  placeholder, module index, definition into the context's loader, the dependency loader answering what `SetEntry`
  returns — fix 80f753b) is evaluated symbolically; found ⇔ the module's file defines the name, errors name that file,
  the file is the only read.
  `C15_absent_module`: no file anywhere on the route ⇒ `notfound`, no read, placeholders only.
* `C15_error_no_binding` (proved, full: every loader, context loader, state and fuel) — `instantiate` of a defective file
  (misnamed, malformed, no definition, unreadable) panics with the error that names the file and leaves the state changed
  by the read and the placeholder of the REQUESTED name only: no loader gets a definition, in particular not for the name
  a misnamed file declares.  `C15_error_state_global`: the same for a whole lookup through the global loader.
  `C15_absent_stays_absent` (proved, full): a name whose key has no source (no core type, no file where the index points
  for it, no member of a type set that sits at its own place) is never answered `found`, at any position of any lookup
  sequence — whatever was looked up, found or reported before.
* `C15_unqualified_not_routed` (proved, full) — `dependencyLoader.find` routes by first segment only when the name is
  QUALIFIED: for an unqualified name it is exactly the loop over the members (the global loader first in the flat
  topology).  `C15_found_iff_flat_unqualified`, `C15_flat_unqualified_outcome` (proved): hence, in the flat topology, a
  one-segment name through the dependency loader is answered exactly as the global loader's first origin dictates — also
  when a module of that name exists (without `init_typeset`), in either letter case; the modules read nothing.
* `C15_ctor_agrees_isGlobal`, `C15_toplevel_outcome`, `C15_found_iff_toplevel`, `C15_absent_toplevel` (proved) — the three
  kinds of loader `newFileBasedLoader` distinguishes (module name ``, pseudo name `environment`, ordinary name): smart
  paths are module-name relative exactly for non-global loaders (`C15_ctor_paths`: the constructor as a function over lists of
  path types builds exactly these); for a top-level loader of any kind as the context's
  loader and any name (any depth) `find` lets through (`Routed`), the first origin in the loader's own index decides.
  `C15_has_iff_load_toplevel` (proved) — `HasEntry` ⇔ the lookup does not answer `notfound`, for such loaders and names;
  `C15_has_load_disagree`, `C15_has_load_disagree_reserved` — `C15_has_load_agree_full` is false in general (`HasEntry`
  consults the index only, `find` filters first).
  `C15_case_irrelevant_toplevel` (proved) — "lookups ignore letter case" for this class: two spellings of one name
  get the same outcome and the same read (first origin not a bare expression).  Elsewhere letter case is covered by the
  name clause of `C15_name` and by examples.  NOTE: "a file at the derived path" is read through the index everywhere (a
  file matches when its LOWER-CASED relative path is the derived one: `Thing.pp` answers `Thing`).
* `C15_find_miss`, `C15_absent_global_deep` (proved) — the complete miss of a file loader for a name of ANY depth (every
  proper prefix cached or without origin): nothing answered, state untouched, fuel `3 * length`; `notfound` + one
  placeholder through the global loader.  `C15_module_outcome_deep`, `C15_found_iff_module_deep`,
  `C15_dependency_outcome_deep`, `C15_found_iff_dependency_deep` (proved) — the "if" half and error location for names of
  three and more segments through a module's loader / the dependency loader.  `C15_ancestor_loaded`, `C15_ancestor_error`
  (proved, global loader) — a name whose PARENT has a plain file: the parent is loaded on the way and the child stays
  absent; a defective parent file is the error of the child's lookup.
* `C15_typeset_toplevel`, `C15_init_typeset_toplevel`, `C15_member_via_parent_search`, `C15_member_cached` (proved, for a
  TOP-LEVEL loader as the context's loader: the global loader, a module's loader in the flat topology) — type sets with
  any number of members at any depth: loading one (index route and the module's `init_typeset` route) finds it, reads its
  file only, defines every member (kind by position) and leaves exactly `typesetState`; a member requested first is found
  through the parent search; members afterwards are answered from the cache.
* `C15_typeset_module`, `C15_init_typeset_module`, `C15_member_cached_module` (proved) — the same for a module's loader in
  the DEFAULT topology (child of the global loader, the context's loader): each lookup asks the global loader first, so a
  member costs a placeholder there, one in the module loader and the definition over the latter (`typesetState2`).
* `C15_typeset_dependency`, `C15_member_cached_dependency` (proved) — a qualified type set `Mod::…` through the DEPENDENCY
  loader: three placeholders per member (global, module, dependency loader) and the definitions in the dependency loader
  (`typesetState3`).
* `C15_ancestor_loaded_module`, `C15_ancestor_error_module` (proved) — `Mod::A::B` requested where only `Mod::A` has a file,
  through the module's loader below the global loader: `Mod::A` is loaded on the way, `Mod::A::B` stays absent; a defective
  `Mod::A` file is the error of the lookup of `Mod::A::B`.
* `C15_init_typeset_dependency` (proved) — a module's own unqualified name through the dependency loader, for any list of
  distinct ordinary modules: the loop over all members, `init_typeset.pp` the only read, exact state.
* `C15_terminates`, `C15_terminates_seq` (proved, full: any tree, modules, context loader, topology, state, names) —
  termination of the model: with `guardInit` and fuel `(W+1) * (|mods| + T + 3(|name| + W) + 14)` no lookup answers
  `diverges` (`W` = instantiable (loader, key) pairs without an entry, `T` = largest type set), and no lookup removes an
  entry.  `C15_fuel_irrelevant`, `C15_fuel_irrelevant_seq` (proved, full) — a lookup that does not run out of fuel
  answers the same (outcome and state) with any larger fuel; `C15_answer_determined` — hence with the guard every fuel
  from `seqBound` on gives the same outcomes and state.
* `C15_dependency_miss_not_final`, `C15_dependency_miss_again` (proved; fix 9d272bd of /repo) — a miss recorded by the
  dependency loader is not final: a definition made meanwhile through the module's DefiningLoader is found, stored over
  the miss and answered; with nothing new `find` misses again and the state is untouched.
* missing: several existing ancestors at once, ancestors through the dependency loader, a module called `environment`
  among the members of that loop; it is false as
  stated for layouts that define one name twice (`C15_duplicate_redefine`, `C15_found_iff_fails`, known finding
  C15-duplicate-redefine) and the
  error of a misnamed file carries no line (`C15_misnamed_no_line`, known finding C15-misnamed-no-line).  The OS (Walk
  order, permissions, symlinks), the parser and type resolution are parameters (DESIGN.md §5).
-/
namespace Pcore.Files

/-! ## name ↔ path -/

theorem C15_path_name (sp : SmartPath) (n : Name) (p : Path) (hn : n ≠ [])
    (h : effectivePath sp n = .path p) (hr : ¬ Reserved sp n) :
    ∀ k, k ∈ fileKeys sp p ↔ k = keyOf n := by
  intro k
  rw [fileKeys_effectivePath sp n p hn h hr]
  simp

/-- on the index: a file of the tree sits at the effective path of `n` exactly when `find` gets it as an origin of `n` -/
theorem C15_index_iff (cfg : Cfg) (l : Lid) (n : Name) (p : Path) (hn : n ≠ [])
    (h : effectivePath (spOf l) n = .path p) (hr : ¬ Reserved (spOf l) n) :
    p ∈ idx cfg l (keyOf n) ↔ ∃ b, (p, b) ∈ cfg.tree := by
  rw [mem_idx_iff, fileKeys_effectivePath (spOf l) n p hn h hr]
  exact and_iff_left (List.mem_singleton.mpr rfl)

/-- non-vacuity: a nested, module-relative name in mixed case -/
example : effectivePath (spOf (.m "mymod")) ["MyMod", "Sub", "DEEP"] = .path ["modules", "mymod", "types", "sub", "deep.pp"] ∧
    ¬ Reserved (spOf (.m "mymod")) ["MyMod", "Sub", "DEEP"] := by
  refine ⟨by decide +kernel, ?_⟩
  rintro ⟨_, m, s, h, _⟩
  have : (keyOf ["MyMod", "Sub", "DEEP"]).length = 2 := by rw [h]; rfl
  exact absurd this (by decide +kernel)

/-- the exclusion is real (by design): `Mymod::Init_typeset` derives the path of the module's `init_typeset.pp`, which is
    indexed under the bare name `init_typeset` and stands for the module's own name -/
theorem C15_reserved_names :
    effectivePath (spOf (.m "mymod")) ["Mymod", "Init_typeset"] = .path ["modules", "mymod", "types", "init_typeset.pp"] ∧
    fileKeys (spOf (.m "mymod")) ["modules", "mymod", "types", "init_typeset.pp"] = [["init_typeset"]] := by
  decide +kernel

/-! ## each file is parsed at most once -/

theorem C15_once (cfg : Cfg) (hg : cfg.guardInit = true) (fuel : Nat) (names : List Name) (p : Path) :
    readCount (runLoads fuel cfg {} names).2 p ≤ 1 :=
  (once_runLoads hg fuel names {} once_init).1 p

/-- the same from any state the loaders can have reached -/
theorem C15_once_from (cfg : Cfg) (hg : cfg.guardInit = true) (fuel : Nat) (names : List Name) (s : St)
    (hs : InvOnce cfg s) (p : Path) : readCount (runLoads fuel cfg s names).2 p ≤ 1 :=
  (once_runLoads hg fuel names s hs).1 p

def tsCfg : Cfg :=
  { mods := ["mymod"], via := .d,
    tree := [(["modules", "mymod", "types", "init_typeset.pp"], .typ .typeset ["Mymod"] ["Ta", "Tb"]),
             (["modules", "mymod", "types", "thing.pp"], .typ .alias ["Mymod", "Thing"] [])] }

/-- non-vacuity: a sequence that reads both files (a type set, its members, a plain file, twice each) -/
example : (runLoads 60 tsCfg {} [["Mymod", "Ta"], ["mymod"], ["Mymod", "Thing"], ["MYMOD", "THING"], ["Mymod", "Tb"]]).1 =
    [.found ⟨.alias, ["Mymod", "Ta"]⟩, .found ⟨.typeset, ["Mymod"]⟩, .found ⟨.alias, ["Mymod", "Thing"]⟩,
     .found ⟨.alias, ["Mymod", "Thing"]⟩, .found ⟨.object, ["Mymod", "Tb"]⟩] ∧
    (runLoads 60 tsCfg {} [["Mymod", "Ta"], ["mymod"], ["Mymod", "Thing"], ["MYMOD", "THING"], ["Mymod", "Tb"]]).2.reads =
    [["modules", "mymod", "types", "init_typeset.pp"], ["modules", "mymod", "types", "thing.pp"]] := by
  decide +kernel

/-- fixed defect (51b01c7): without the placeholder guard on the `init_typeset` route the lookup of a module's type set
    re-reads the file until the fuel runs out — the stack overflow of the original code -/
theorem C15_once_needs_guard :
    (loadS 100 { tsCfg with guardInit := false } {} ["Mymod"]).1 = .failed .diverges ∧
    readCount (loadS 100 { tsCfg with guardInit := false } {} ["Mymod"]).2
      ["modules", "mymod", "types", "init_typeset.pp"] > 1 := by
  decide +kernel

/-! ## found ⇒ a file at the derived place defines it, under the requested name -/

theorem C15_found_sound (cfg : Cfg) (fuel : Nat) (s : St) (hs : Inv cfg s) (name : Name) (d : Def)
    (h : (loadS fuel cfg s name).1 = .found d) :
    keyOf d.name = keyOf name ∧ Justified cfg d ∧ Inv cfg (loadS fuel cfg s name).2 :=
  let r := sound_loadS fuel cfg s name hs
  ⟨(r.2 d h).1, (r.2 d h).2, r.1⟩

/-- over a whole lookup sequence from the empty caches: the i-th answer, when it is `found d`, carries the i-th requested
    name up to letter case and is justified by a file of the tree -/
theorem C15_name (cfg : Cfg) (fuel : Nat) (names : List Name) :
    ∀ (s : St), Inv cfg s → ∀ (i : Nat) (d : Def), (runLoads fuel cfg s names).1[i]? = some (Outcome.found d) →
      ∃ name, names[i]? = some name ∧ keyOf d.name = keyOf name ∧ Justified cfg d := by
  induction names with
  | nil => intro s _ i d h; simp [runLoads] at h
  | cons n ns ih =>
    intro s hs i d h
    simp only [runLoads] at h
    cases i with
    | zero =>
      simp only [List.getElem?_cons_zero, Option.some.injEq] at h
      exact ⟨n, rfl, (C15_found_sound cfg fuel s hs n d h).1, (C15_found_sound cfg fuel s hs n d h).2.1⟩
    | succ j =>
      simp only [List.getElem?_cons_succ] at h
      exact ih _ (sound_loadS fuel cfg s n hs).1 j d h

theorem C15_name_fresh (cfg : Cfg) (fuel : Nat) (names : List Name) (i : Nat) (d : Def)
    (h : (runLoads fuel cfg {} names).1[i]? = some (Outcome.found d)) :
    ∃ name, names[i]? = some name ∧ keyOf d.name = keyOf name ∧ Justified cfg d :=
  C15_name cfg fuel names {} (inv_init cfg) i d h

/-- non-vacuity: a lookup in another letter case is found and carries the name as defined -/
example : (loadS 60 tsCfg {} ["MYMOD", "thing"]).1 = .found ⟨.alias, ["Mymod", "Thing"]⟩ := by decide +kernel

/-! ## the global loader as the context's loader: found ⇔ file, absent (partial); the full statement about errors -/

/-- full statement (not proved in general; false for layouts with two definitions of one name, see below): through any
    context loader a name the caches do not hold is found iff the first file the index offers for it — or the type set
    of an enclosing name — defines it -/
def C15_found_iff_full : Prop :=
  ∀ (cfg : Cfg) (name : Name) (fuel : Nat), fuel ≥ 5000 → sysLoad name = none →
    ((∃ d, (loadS fuel cfg {} name).1 = .found d) ↔
      ∃ d, keyOf d.name = keyOf name ∧ d.kind ≠ .core ∧ Justified cfg d)

theorem C15_found_iff_global (cfg : Cfg) (hv : cfg.via = .g) (name : Name) (s : St) (n : Nat)
    (hsys : sysLoad name = none) (hget : s.get .g (keyOf name) = none)
    (habs : idx cfg .g (keyOf name) = [] → qualified name = false) (hnt : NotTypeset cfg name) :
    (∃ d, (loadS (n+7) cfg s name).1 = .found d) ↔
      ∃ p ps, idx cfg .g (keyOf name) = p :: ps ∧
        ((∃ k nm ts, bodyAt cfg.tree p = some (.typ k nm ts) ∧ keyOf nm = keyOf name) ∨ bodyAt cfg.tree p = some .bare) := by
  rw [(toplevel_outcome hv (Or.inl rfl) s n hsys hget (routed_g name) habs hnt).1]
  exact plainOutcomeAt_found cfg .g name

/-- FULL, for every context loader, name, state and fuel: when no loader has an origin for the name or for any of its
    prefixes (and the module named by its first segment has no `init_typeset`; no prefix is a core type) and no cache holds
    a definition for them, the lookup never answers `found` (it answers `notfound`, or reports the invalid characters of
    the name), reads nothing, and changes the caches by nil placeholders only -/
theorem C15_absent (cfg : Cfg) (name : Name) (hne : name ≠ []) (fuel : Nat) (s : St)
    (ha : AbsentRoute cfg name) (h0 : NoDef name s) :
    (∀ d, (loadS fuel cfg s name).1 ≠ .found d) ∧ (loadS fuel cfg s name).2.reads = s.reads ∧
      Frame s (loadS fuel cfg s name).2 :=
  absent_loadS ha h0 hne fuel

def absCfg : Cfg :=
  { mods := ["mymod", "other"], via := .d, tree := [(["env", "types", "thing.pp"], .typ .alias ["Thing"] [])] }

/-- non-vacuity: a nested absent name below a module, through the dependency loader, next to a file that does exist -/
example : AbsentRoute absCfg ["Other", "Sub", "Nope"] ∧ NoDef ["Other", "Sub", "Nope"] ({} : St) ∧
    loadS 40 absCfg {} ["Other", "Sub", "Nope"] =
      (.notfound, (({} : St).put .g ["other", "sub", "nope"] none |>.put (.m "other") ["other", "sub", "nope"] none
        |>.put .d ["other", "sub", "nope"] none)) := by
  -- the route is finite: what the global loader, the dependency loader and the static loader hold for it is evaluated,
  -- together with the lookup
  refine And.imp (fun h : (∀ nm ∈ routeOf ["Other", "Sub", "Nope"],
      idx absCfg .g (keyOf nm) = [] ∧ idx absCfg .d (keyOf nm) = [] ∧ sysLoad nm = none) ∧
      ∀ f ∈ absCfg.tree, f.1.head? ≠ some "modules" => ?_) (And.imp (fun _ : True => fun l nm d _ h => by cases h) id)
    (by decide +kernel)
  obtain ⟨hroute, hmods⟩ := h
  refine ⟨fun l nm hr => ?_, fun mod _ => idx_module_nil hmods mod _, fun nm hr => (hroute nm (mem_routeOf hr)).2.2⟩
  cases l with
  | m mod => exact idx_module_nil hmods mod _
  | g => exact (hroute nm (mem_routeOf hr)).1
  | d => exact (hroute nm (mem_routeOf hr)).2.1

/-- no file: the answer is `notfound`, nothing is read, and the only change is a placeholder for that name -/
theorem C15_absent_global (cfg : Cfg) (hv : cfg.via = .g) (name : Name) (s : St) (n : Nat)
    (hsys : sysLoad name = none) (hget : s.get .g (keyOf name) = none)
    (hq : qualified name = false) (hi : idx cfg .g (keyOf name) = []) :
    loadS (n+7) cfg s name = (.notfound, s.put .g (keyOf name) none) ∧
    (loadS (n+7) cfg s name).2.reads = s.reads := by
  have hnt : NotTypeset cfg name := by
    intro p ps nm ts h; rw [hi] at h; cases h
  have h := toplevel_outcome hv (Or.inl rfl) s n hsys hget (routed_g name) (fun _ => hq) hnt
  have h1 : (loadS (n+7) cfg s name).1 = .notfound := by rw [h.1]; exact (plainOutcomeAt_notfound cfg .g name).mpr hi
  have h2 := h.2.2 hi
  refine ⟨Prod.ext h1 h2, ?_⟩
  rw [h.2.1, hi]; simp

/-- full statement: a defective file is reported with its path and — when the defect has a place in the file — the line.
    False for misnamed files (`C15_misnamed_no_line`). -/
def C15_error_full : Prop :=
  ∀ (cfg : Cfg) (name : Name) (fuel : Nat) (p : Path) (ps : List Path) (k : Kind) (nm : Name) (ts : List String),
    cfg.via = .g → fuel ≥ 7 → sysLoad name = none → idx cfg .g (keyOf name) = p :: ps →
    bodyAt cfg.tree p = some (.typ k nm ts) → keyOf nm ≠ keyOf name →
    ∃ code line, line ≥ 1 ∧ (loadS fuel cfg {} name).1 = .failed (.reported code (some p) line)

def gCfg : Cfg :=
  { mods := [], via := .g,
    tree := [(["env", "types", "Thing.pp"], .typ .object ["Thing"] []),
             (["env", "types", "bad.pp"], .malformed 3),
             (["env", "types", "ns", "deep.pp"], .typ .alias ["Ns", "Other"] []),
             (["env", "types", "stray.txt"], .typ .alias ["Stray"] [])] }

/-- non-vacuity of the hypotheses and of each conclusion, on one tree: found (file-name case irrelevant), absent (a stray
    extension is no file), syntax error with its line, misnamed -/
example : idx gCfg .g (keyOf ["THING"]) = [["env", "types", "Thing.pp"]] ∧ sysLoad ["THING"] = none ∧
    (loadS 7 gCfg {} ["THING"]).1 = .found ⟨.object, ["Thing"]⟩ ∧
    idx gCfg .g (keyOf ["Stray"]) = [] ∧ loadS 7 gCfg {} ["Stray"] = (.notfound, ({} : St).put .g ["stray"] none) ∧
    (loadS 7 gCfg {} ["Bad"]).1 = .failed (.reported "PARSE_ERROR" (some ["env", "types", "bad.pp"]) 3) ∧
    (loadS 7 gCfg {} ["Ns", "Deep"]).1 = .failed (.reported "PCORE_WRONG_DEFINITION" (some ["env", "types", "ns", "deep.pp"]) 0) := by
  decide +kernel

/-- the hypothesis `NotTypeset` of `C15_found_iff_global` holds of that tree and name -/
example : NotTypeset gCfg ["THING"] := by
  intro p ps nm ts h
  have hc : idx gCfg .g (keyOf ["THING"]) = [["env", "types", "Thing.pp"]] ∧
      bodyAt gCfg.tree ["env", "types", "Thing.pp"] = some (.typ .object ["Thing"] []) := by decide +kernel
  rw [hc.1] at h
  cases h
  rw [hc.2]
  intro h'
  cases h'

/-- HOW "a definition file exists at the path derived from the name" IS READ by every theorem of this
    file: through the INDEX (`idx`: the files whose lower-cased relative path yields the key), not through `effectivePath`.
    The two agree for lower-case file names (`C15_index_iff`); a file whose NAME has capitals is found although no file sits
    at the derived (lower-cased) path — the oracle of the harness reads the property the same way ("lookups ignore letter
    case" applied to the file name too), and on a case-sensitive file system the implementation behaves like this -/
example : effectivePath (spOf .g) ["THING"] = .path ["env", "types", "thing.pp"] ∧
    bodyAt gCfg.tree ["env", "types", "thing.pp"] = none ∧
    idx gCfg .g (keyOf ["THING"]) = [["env", "types", "Thing.pp"]] ∧
    (loadS 7 gCfg {} ["THING"]).1 = .found ⟨.object, ["Thing"]⟩ := by decide +kernel

/-! ## a module-relative name through the module loader and through the dependency loader (partial) -/

/-- with any `_outcome` theorem below: found ⇔ the first origin defines the name -/
theorem found_iff_of_outcome {fuel : Nat} {cfg : Cfg} {s : St} {l : Lid} {name : Name} {p : Path} {ps : List Path}
    (h : (loadS fuel cfg s name).1 = plainOutcomeAt cfg l name) (hi : idx cfg l (keyOf name) = p :: ps) :
    (∃ d, (loadS fuel cfg s name).1 = .found d) ↔
      ((∃ k nm ts, bodyAt cfg.tree p = some (.typ k nm ts) ∧ keyOf nm = keyOf name) ∨ bodyAt cfg.tree p = some .bare) := by
  rw [h, plainOutcomeAt_found]
  constructor
  · rintro ⟨p', ps', h', hb⟩
    rw [hi] at h'; cases h'; exact hb
  · intro hb; exact ⟨p, ps, hi, hb⟩

/-- the outcome (found / wrong definition / parse error with its line / no definition / unreadable) is decided by the
    first origin of the key in the module's index, and that file is the only one read -/
theorem C15_module_outcome (cfg : Cfg) (mod : String) (hv : cfg.via = .m mod) (hflat : cfg.flat = false)
    (hm : isGlobalMod mod = false)
    (a b : String) (s : St) (n : Nat)
    (hparts : partsOf [a, b] = some [mod, lowerS b]) (hsys : sysLoad [a, b] = none)
    (hg1 : s.get .g (keyOf [a, b]) = none) (hg2 : s.get .g (keyOf [a]) = none)
    (hm1 : s.get (.m mod) (keyOf [a, b]) = none)
    (hi1 : idx cfg .g (keyOf [a, b]) = []) (hi2 : idx cfg .g (keyOf [a]) = [])
    (p : Path) (ps : List Path) (hi : idx cfg (.m mod) (keyOf [a, b]) = p :: ps)
    (hnt : ∀ nm ts, bodyAt cfg.tree p ≠ some (.typ .typeset nm ts)) :
    (loadS (n+9) cfg s [a, b]).1 = plainOutcomeAt cfg (.m mod) [a, b] ∧
    (loadS (n+9) cfg s [a, b]).2.reads = s.reads ++ [p] :=
  module_deep cfg mod hv hflat [a, b] (by simp) s (n+1) (by simp) hsys
    (quietAnc_pair hg1 (Or.inl rfl) (Or.inl rfl) (Or.inr hi2)) hi1 hm1 (routed_m rfl hparts rfl) p ps hi hnt

theorem C15_found_iff_module (cfg : Cfg) (mod : String) (hv : cfg.via = .m mod) (hflat : cfg.flat = false)
    (hm : isGlobalMod mod = false)
    (a b : String) (s : St) (n : Nat)
    (hparts : partsOf [a, b] = some [mod, lowerS b]) (hsys : sysLoad [a, b] = none)
    (hg1 : s.get .g (keyOf [a, b]) = none) (hg2 : s.get .g (keyOf [a]) = none)
    (hm1 : s.get (.m mod) (keyOf [a, b]) = none)
    (hi1 : idx cfg .g (keyOf [a, b]) = []) (hi2 : idx cfg .g (keyOf [a]) = [])
    (p : Path) (ps : List Path) (hi : idx cfg (.m mod) (keyOf [a, b]) = p :: ps)
    (hnt : ∀ nm ts, bodyAt cfg.tree p ≠ some (.typ .typeset nm ts)) :
    (∃ d, (loadS (n+9) cfg s [a, b]).1 = .found d) ↔
      ((∃ k nm ts, bodyAt cfg.tree p = some (.typ k nm ts) ∧ keyOf nm = keyOf [a, b]) ∨ bodyAt cfg.tree p = some .bare) :=
  found_iff_of_outcome (C15_module_outcome cfg mod hv hflat hm a b s n hparts hsys hg1 hg2 hm1 hi1 hi2 p ps hi hnt).1 hi

theorem C15_dependency_outcome (cfg : Cfg) (mod : String) (hv : cfg.via = .d) (hflat : cfg.flat = false)
    (hmods : cfg.mods.contains mod = true)
    (hm : isGlobalMod mod = false) (a b : String) (s : St) (n : Nat)
    (hparts : partsOf [a, b] = some [mod, lowerS b]) (hsys : sysLoad [a, b] = none)
    (hd1 : s.get .d (keyOf [a, b]) = none)
    (hg1 : s.get .g (keyOf [a, b]) = none) (hg2 : s.get .g (keyOf [a]) = none)
    (hm1 : s.get (.m mod) (keyOf [a, b]) = none)
    (hi1 : idx cfg .g (keyOf [a, b]) = []) (hi2 : idx cfg .g (keyOf [a]) = [])
    (p : Path) (ps : List Path) (hi : idx cfg (.m mod) (keyOf [a, b]) = p :: ps)
    (hnt : ∀ nm ts, bodyAt cfg.tree p ≠ some (.typ .typeset nm ts)) :
    (loadS (n+11) cfg s [a, b]).1 = plainOutcomeAt cfg (.m mod) [a, b] ∧
    (loadS (n+11) cfg s [a, b]).2.reads = s.reads ++ [p] :=
  dependency_plain cfg mod hv hflat hmods hm a b s n hparts hsys hd1 hg1 hg2 hm1 hi1 hi2 p ps hi hnt

/-- through the dependency loader the first lookup already finds the type (fixed defect 80f753b: it used to answer the
    module loader's nil placeholder) -/
theorem C15_found_iff_dependency (cfg : Cfg) (mod : String) (hv : cfg.via = .d) (hflat : cfg.flat = false)
    (hmods : cfg.mods.contains mod = true)
    (hm : isGlobalMod mod = false) (a b : String) (s : St) (n : Nat)
    (hparts : partsOf [a, b] = some [mod, lowerS b]) (hsys : sysLoad [a, b] = none)
    (hd1 : s.get .d (keyOf [a, b]) = none)
    (hg1 : s.get .g (keyOf [a, b]) = none) (hg2 : s.get .g (keyOf [a]) = none)
    (hm1 : s.get (.m mod) (keyOf [a, b]) = none)
    (hi1 : idx cfg .g (keyOf [a, b]) = []) (hi2 : idx cfg .g (keyOf [a]) = [])
    (p : Path) (ps : List Path) (hi : idx cfg (.m mod) (keyOf [a, b]) = p :: ps)
    (hnt : ∀ nm ts, bodyAt cfg.tree p ≠ some (.typ .typeset nm ts)) :
    (∃ d, (loadS (n+11) cfg s [a, b]).1 = .found d) ↔
      ((∃ k nm ts, bodyAt cfg.tree p = some (.typ k nm ts) ∧ keyOf nm = keyOf [a, b]) ∨ bodyAt cfg.tree p = some .bare) :=
  found_iff_of_outcome (C15_dependency_outcome cfg mod hv hflat hmods hm a b s n hparts hsys hd1 hg1 hg2 hm1 hi1 hi2 p ps hi hnt).1 hi

/-- a module-relative name with no file anywhere on its route (global loader: `Mod::X`, `Mod`; module: `Mod::X`,
    `init_typeset`): `notfound`, nothing is read, and the only change is a placeholder for that name in the two loaders
    that were asked -/
theorem C15_absent_module (cfg : Cfg) (mod : String) (hv : cfg.via = .m mod) (hflat : cfg.flat = false)
    (hm : isGlobalMod mod = false)
    (a b : String) (s : St) (n : Nat)
    (hparts : partsOf [a, b] = some [mod, lowerS b]) (hparts1 : partsOf [a] = some [mod])
    (hsys : sysLoad [a, b] = none)
    (hg1 : s.get .g (keyOf [a, b]) = none) (hg2 : s.get .g (keyOf [a]) = none)
    (hm1 : s.get (.m mod) (keyOf [a, b]) = none) (hm2 : s.get (.m mod) (keyOf [a]) = none)
    (hi1 : idx cfg .g (keyOf [a, b]) = []) (hi2 : idx cfg .g (keyOf [a]) = [])
    (hi3 : idx cfg (.m mod) (keyOf [a, b]) = []) (hi4 : idx cfg (.m mod) ["init_typeset"] = []) :
    loadS (n+9) cfg s [a, b] = (.notfound, (s.put .g (keyOf [a, b]) none).put (.m mod) (keyOf [a, b]) none) ∧
    (loadS (n+9) cfg s [a, b]).2.reads = s.reads := by
  have h : loadS (n+9) cfg s [a, b] = (.notfound, (s.put .g (keyOf [a, b]) none).put (.m mod) (keyOf [a, b]) none) := by
    -- the module loader's parent search asks for `Mod`, an unqualified name, which only the `init_typeset` route could serve
    have hb : Below cfg (.m mod) [a, b] s (s.put .g (keyOf [a, b]) none) _ :=
      .child_miss hflat (by simp) hsys (quietAnc_pair hg1 (Or.inl rfl) (Or.inl rfl) (Or.inr hi2)) hi1
    have hget := hb.own
    have hfind : find (n+7) cfg (.m mod) [a, b] (s.put .g (keyOf [a, b]) none) = .ok none (s.put .g (keyOf [a, b]) none) := by
      rw [find_no_origin (routed_m rfl hparts rfl) hi3 rfl, parentSearch_ne _ _ _ _ _ (by simp)]
      simp only [bind, getSt, List.dropLast, hget, hm2, hm1, find_unqualified_none hm hparts1 (fun _ => hi4), parentSearch_nil,
        pure]
    exact hb.loadS_miss hv (n := n+7) (by simp) hm1 hfind ((hget _).trans hm1)
  exact ⟨h, by rw [h]; rfl⟩

def modCfg (via : Lid) : Cfg :=
  { mods := ["other", "mymod"], via := via,
    tree := [(["modules", "mymod", "types", "Thing.pp"], .typ .alias ["Mymod", "Thing"] []),
             (["modules", "mymod", "types", "bad.pp"], .malformed 2),
             (["modules", "other", "types", "thing.pp"], .bare)] }

/-- non-vacuity: the hypotheses hold from the empty caches and the conclusions are the interesting ones (found in another
    letter case, a syntax error with its line, a bare expression taking the requested name) -/
example : partsOf ["MYMOD", "thing"] = some ["mymod", lowerS "thing"] ∧ sysLoad ["MYMOD", "thing"] = none ∧
    idx (modCfg (.m "mymod")) .g (keyOf ["MYMOD", "thing"]) = [] ∧ idx (modCfg (.m "mymod")) .g (keyOf ["MYMOD"]) = [] ∧
    idx (modCfg (.m "mymod")) (.m "mymod") (keyOf ["MYMOD", "thing"]) = [["modules", "mymod", "types", "Thing.pp"]] ∧
    (loadS 9 (modCfg (.m "mymod")) {} ["MYMOD", "thing"]).1 = .found ⟨.alias, ["Mymod", "Thing"]⟩ ∧
    (loadS 11 (modCfg .d) {} ["MYMOD", "thing"]).1 = .found ⟨.alias, ["Mymod", "Thing"]⟩ ∧
    (loadS 11 (modCfg .d) {} ["Mymod", "Bad"]).1 =
      .failed (.reported "PARSE_ERROR" (some ["modules", "mymod", "types", "bad.pp"]) 2) ∧
    (loadS 11 (modCfg .d) {} ["other", "THING"]).1 = .found ⟨.alias, ["other", "THING"]⟩ ∧
    partsOf ["Mymod"] = some ["mymod"] ∧ idx (modCfg (.m "mymod")) (.m "mymod") ["init_typeset"] = [] ∧
    idx (modCfg (.m "mymod")) (.m "mymod") (keyOf ["Mymod", "Nope"]) = [] ∧
    (loadS 9 (modCfg (.m "mymod")) {} ["Mymod", "Nope"]).1 = .notfound := by
  decide +kernel

/-! ## the dependency loader never routes an unqualified name by its first segment -/

theorem C15_unqualified_not_routed (n : Nat) (cfg : Cfg) (name : Name) (hq : qualified name = false) :
    dFind (n+1) cfg name = dMembers n cfg name :=
  dFind_unqualified n cfg name hq

/-- flat topology (the global loader is the first member of the dependency loader): a one-segment name is answered as the
    global loader's first origin dictates, whatever the modules are called — a module of the same name only matters when
    it has an `init_typeset` — and that origin is the only file read -/
theorem C15_flat_unqualified_outcome (cfg : Cfg) (hv : cfg.via = .d) (hflat : cfg.flat = true) (a x : String) (s : St)
    (n : Nat) (hparts : partsOf [a] = some [x]) (hsys : sysLoad [a] = none)
    (hd : s.get .d (keyOf [a]) = none) (hg : s.get .g (keyOf [a]) = none)
    (hmd : ∀ m d, s.get (.m m) (keyOf [a]) ≠ some (some d))
    (hmods : ∀ m ∈ cfg.mods, isGlobalMod m = false ∧ (m = x → idx cfg (.m m) ["init_typeset"] = []))
    (hnt : ∀ p ps nm ts, idx cfg .g (keyOf [a]) = p :: ps → bodyAt cfg.tree p ≠ some (.typ .typeset nm ts)) :
    (loadS (n + cfg.mods.length + 10) cfg s [a]).1 = plainOutcomeAt cfg .g [a] ∧
    (loadS (n + cfg.mods.length + 10) cfg s [a]).2.reads = s.reads ++ (idx cfg .g (keyOf [a])).head?.toList :=
  flat_unqualified cfg hv hflat a x s n hparts hsys hd hg hmd hmods hnt

theorem C15_found_iff_flat_unqualified (cfg : Cfg) (hv : cfg.via = .d) (hflat : cfg.flat = true) (a x : String) (s : St)
    (n : Nat) (hparts : partsOf [a] = some [x]) (hsys : sysLoad [a] = none)
    (hd : s.get .d (keyOf [a]) = none) (hg : s.get .g (keyOf [a]) = none)
    (hmd : ∀ m d, s.get (.m m) (keyOf [a]) ≠ some (some d))
    (hmods : ∀ m ∈ cfg.mods, isGlobalMod m = false ∧ (m = x → idx cfg (.m m) ["init_typeset"] = []))
    (hnt : ∀ p ps nm ts, idx cfg .g (keyOf [a]) = p :: ps → bodyAt cfg.tree p ≠ some (.typ .typeset nm ts)) :
    (∃ d, (loadS (n + cfg.mods.length + 10) cfg s [a]).1 = .found d) ↔
      ∃ p ps, idx cfg .g (keyOf [a]) = p :: ps ∧
        ((∃ k nm ts, bodyAt cfg.tree p = some (.typ k nm ts) ∧ keyOf nm = keyOf [a]) ∨ bodyAt cfg.tree p = some .bare) := by
  rw [(C15_flat_unqualified_outcome cfg hv hflat a x s n hparts hsys hd hg hmd hmods hnt).1, plainOutcomeAt_found]

def flatCfg : Cfg :=
  { mods := ["other", "billing"], via := .d, flat := true,
    tree := [(["env", "types", "billing.pp"], .typ .alias ["Billing"] []),
             (["modules", "billing", "types", "invoice.pp"], .typ .object ["Billing", "Invoice"] [])] }

/-- non-vacuity: a global type named like a module (which has no `init_typeset`), looked up in both letter cases, and the
    module's own qualified type next to it -/
example : partsOf ["BILLING"] = some ["billing"] ∧ sysLoad ["BILLING"] = none ∧
    idx flatCfg .g (keyOf ["BILLING"]) = [["env", "types", "billing.pp"]] ∧
    idx flatCfg (.m "billing") ["init_typeset"] = [] ∧
    (runLoads 14 flatCfg {} [["BILLING"], ["billing"], ["Billing", "Invoice"], ["Other"]]).1 =
      [.found ⟨.alias, ["Billing"]⟩, .found ⟨.alias, ["Billing"]⟩, .found ⟨.object, ["Billing", "Invoice"]⟩, .notfound] ∧
    (runLoads 14 flatCfg {} [["BILLING"], ["billing"], ["Billing", "Invoice"], ["Other"]]).2.reads =
      [["env", "types", "billing.pp"], ["modules", "billing", "types", "invoice.pp"]] := by
  decide +kernel

/-! ## error lookups name the file and bind nothing; a name without a source stays absent whatever happened before -/

theorem C15_error_no_binding (cfg : Cfg) (n : Nat) (l : Lid) (name : Name) (p : Path) (ps : List Path) (s : St) (b : Body)
    (hb : bodyAt cfg.tree p = some b) (hd : Defective b name) (hget : s.get l (keyOf name) = none) :
    instantiate (n+2) cfg l name (p :: ps) s = .fail (defectErr p b) ((s.put l (keyOf name) none).addRead p) ∧
    (∀ l' k' d, ((s.put l (keyOf name) none).addRead p).get l' k' = some (some d) → s.get l' k' = some (some d)) := by
  exact ⟨instantiate_defective cfg n l name p ps s b hb hd hget, fun l' k' d =>
    get_put_cases (fun r => r = some (some d) → s.get l' k' = some (some d)) (fun _ _ => nofun) (fun _ h => h)⟩

/-- a whole lookup through the global loader that meets a defective first origin: the error, and the exact state left —
    the placeholder of the requested name and the read, nothing else -/
theorem C15_error_state_global (cfg : Cfg) (hv : cfg.via = .g) (name : Name) (s : St) (n : Nat) (p : Path) (ps : List Path)
    (b : Body) (hsys : sysLoad name = none) (hget : s.get .g (keyOf name) = none)
    (hi : idx cfg .g (keyOf name) = p :: ps) (hb : bodyAt cfg.tree p = some b) (hd : Defective b name) :
    loadS (n+7) cfg s name = (.failed (defectErr p b), (s.put .g (keyOf name) none).addRead p) := by
  refine loadS_failed ?_
  rw [(Below.top (s := s) (Or.inl rfl) hsys).via hv]
  exact (Below.top (Or.inl rfl) hsys).defective (n := n+1) (Nat.zero_le _) (routed_g name) hget hi hb hd

/-- malformed / misnamed / empty / unreadable first origin: the error names that file (and the line of a syntax error),
    the file is read once, the name keeps a placeholder -/
theorem C15_error_global (cfg : Cfg) (hv : cfg.via = .g) (name : Name) (s : St) (n : Nat) (p : Path) (ps : List Path)
    (hsys : sysLoad name = none) (hget : s.get .g (keyOf name) = none) (hi : idx cfg .g (keyOf name) = p :: ps) :
    (∀ ln, bodyAt cfg.tree p = some (.malformed ln) →
      (loadS (n+7) cfg s name).1 = .failed (.reported "PARSE_ERROR" (some p) ln)) ∧
    (∀ k nm ts, bodyAt cfg.tree p = some (.typ k nm ts) → keyOf nm ≠ keyOf name →
      (loadS (n+7) cfg s name).1 = .failed (.reported "PCORE_WRONG_DEFINITION" (some p) 0)) ∧
    (bodyAt cfg.tree p = some .nodef →
      (loadS (n+7) cfg s name).1 = .failed (.reported "PCORE_NO_DEFINITION" (some p) 0)) ∧
    (bodyAt cfg.tree p = some .unreadable →
      (loadS (n+7) cfg s name).1 = .failed (.reported "PCORE_UNABLE_TO_READ_FILE" (some p) 0)) := by
  have h := fun b hb hd => congrArg Prod.fst (C15_error_state_global cfg hv name s n p ps b hsys hget hi hb hd)
  exact ⟨fun ln hb => h _ hb trivial, fun k nm ts hb hk => h _ hb hk, fun hb => h _ hb trivial, fun hb => h _ hb trivial⟩

/-- the key has no source: no core type, no file where the index points for it, no type set (at its own place) listing it -/
def NoSource (cfg : Cfg) (k : Key) : Prop :=
  (∀ e ∈ staticTypes, e.1 ≠ k) ∧ (∀ p, ¬ At cfg p k) ∧
  (∀ p nm ts t, bodyAt cfg.tree p = some (.typ .typeset nm ts) → t ∈ ts → keyOf (nm ++ [t]) = k → ¬ At cfg p (keyOf nm))

theorem C15_absent_stays_absent (cfg : Cfg) (fuel : Nat) (names : List Name) (i : Nat) (name : Name)
    (hno : NoSource cfg (keyOf name)) (hn : names[i]? = some name) (d : Def) :
    (runLoads fuel cfg {} names).1[i]? ≠ some (Outcome.found d) := by
  intro h
  obtain ⟨name', hn', hk, hj⟩ := C15_name_fresh cfg fuel names i d h
  rw [hn] at hn'
  cases hn'
  obtain ⟨hstatic, hat, hts⟩ := hno
  cases hj with
  | inl hs =>
    obtain ⟨e, he, hed⟩ := hs
    apply hstatic e he
    rw [← staticTypes_key e he, hed, hk]
  | inr hf =>
    obtain ⟨p, b, hb, hcase⟩ := hf
    cases hcase with
    | inl h1 =>
      obtain ⟨ts, _, hat1⟩ := h1
      rw [hk] at hat1
      exact hat p hat1
    | inr h2 =>
      cases h2 with
      | inl h3 =>
        obtain ⟨nm, ts, t, j, hb', ht, hd, hat3⟩ := h3
        rw [hb'] at hb
        refine hts p nm ts t hb ht ?_ hat3
        rw [← hk, hd]
      | inr h4 =>
        obtain ⟨_, _, hat4⟩ := h4
        rw [hk] at hat4
        exact hat p hat4

def wrongCfg : Cfg :=
  { mods := [], via := .g,
    tree := [(["env", "types", "real.pp"], .typ .object ["Real"] []),
             (["env", "types", "wrong.pp"], .typ .alias ["Other"] []),
             (["env", "types", "wrong2.pp"], .typ .alias ["Real"] [])] }

/-- non-vacuity: `Other` (declared by the misnamed `wrong.pp`, no file of its own) has no source and stays absent after
    the error; `Real` (declared by the misnamed `wrong2.pp` too) is answered from `real.pp` in both orders, and the error
    of the misnamed file stays the same -/
example : Defective (.typ .alias ["Other"] []) ["Wrong"] ∧
    (runLoads 9 wrongCfg {} [["Other"], ["Wrong"], ["Other"], ["Wrong2"], ["Real"]]).1 =
      [.notfound, .failed (.reported "PCORE_WRONG_DEFINITION" (some ["env", "types", "wrong.pp"]) 0), .notfound,
       .failed (.reported "PCORE_WRONG_DEFINITION" (some ["env", "types", "wrong2.pp"]) 0), .found ⟨.object, ["Real"]⟩] ∧
    (runLoads 9 wrongCfg {} [["Real"], ["Wrong2"], ["Real"]]).1 =
      [.found ⟨.object, ["Real"]⟩, .failed (.reported "PCORE_WRONG_DEFINITION" (some ["env", "types", "wrong2.pp"]) 0),
       .found ⟨.object, ["Real"]⟩] ∧
    (runLoads 9 wrongCfg {} [["Wrong2"], ["Real"]]).2.reads = [["env", "types", "wrong2.pp"], ["env", "types", "real.pp"]] := by
  refine ⟨?_, by decide +kernel⟩
  show keyOf ["Other"] ≠ keyOf ["Wrong"]
  decide +kernel

/-- the hypothesis `NoSource` of `C15_absent_stays_absent` is satisfiable: `Other` has no source in `wrongCfg` (no core type; no loader — global, dependency, a module of ANY
    name — indexes a file under `other`; no file of the tree holds a type set) -/
example : NoSource wrongCfg (keyOf ["Other"]) := by
  obtain ⟨hst, hg, hd⟩ : (∀ e ∈ staticTypes, e.1 ≠ keyOf ["Other"]) ∧ idx wrongCfg .g (keyOf ["Other"]) = [] ∧
      idx wrongCfg .d (keyOf ["Other"]) = [] := by decide +kernel
  refine ⟨hst, ?_, ?_⟩
  · rintro p ⟨l, h⟩
    cases l with
    | m mod =>
      have hm : ∀ k, idx wrongCfg (.m mod) k = [] := idx_module_nil (by decide +kernel) mod
      rcases h with h | ⟨_, _, _, _, h⟩ <;> rw [hm] at h <;> cases h
    | g =>
      rcases h with h | ⟨_, hl, _⟩
      · rw [hg] at h; cases h
      · cases hl
    | d =>
      rcases h with h | ⟨_, hl, _⟩
      · rw [hd] at h; cases h
      · cases hl
  · intro p nm ts t hb
    have hm := mem_of_bodyAt hb
    simp only [wrongCfg, List.mem_cons, List.not_mem_nil, or_false] at hm
    rcases hm with h | h | h <;> cases h

/-! ## the three kinds of loader the constructor distinguishes; `HasEntry` against `LoadEntry` -/

/-- `newFileBasedLoader` and `isGlobal()` agree: a loader's smart paths are module-name relative exactly when the loader
    is not global — for the module name ``, for the pseudo name `environment` and for every other name (seeded change
    C15-s8 made the constructor treat `environment` as an ordinary name) -/
theorem C15_ctor_agrees_isGlobal (l : Lid) : (spOf l).moduleNameRelative = !isGlobalMod l.moduleName := by
  cases l <;> first | rfl | decide

/-- the constructor as a function (`Model/FilesCtor.lean`, op `ctor`): for ANY root, module name and list of path types,
    every smart path it builds carries the flag `!isGlobal(moduleName)` (and the loader's name and root) — one per path
    type; it refuses (PCORE_ILLEGAL_ARGUMENT) exactly the lists that hold a path type without a factory; and the smart path
    `find` / `HasEntry` / `Discover` of the model consult (`spOf`) IS the one it builds for the data-type path -/
theorem C15_ctor_paths (root : Path) (mod : String) (pts : List String) :
    ((∃ sps, newLoaderPaths root mod pts = .ok sps) ↔ ∀ pt ∈ pts, pt = "puppetDataType") ∧
    (∀ sps, newLoaderPaths root mod pts = .ok sps →
      sps.length = pts.length ∧
      ∀ sp ∈ sps, sp.moduleNameRelative = !isGlobalMod mod ∧ sp.moduleName = mod ∧ sp.root = root) ∧
    (∀ l : Lid, newLoaderPaths (spOf l).root l.moduleName ["puppetDataType"] = .ok [spOf l]) :=
  ⟨newLoaderPaths_ok_iff root mod pts, newLoaderPaths_flag root mod pts, spOf_is_ctor⟩

/-- non-vacuity: the registered path type is accepted for each kind of name, `plan` is refused -/
example : (∃ sps, newLoaderPaths ["r"] "environment" ["puppetDataType", "puppetDataType"] = .ok sps) ∧
    newLoaderPaths ["r"] "mymod" ["puppetDataType", "plan"] = .error illegalArgument := by
  exact ⟨⟨_, rfl⟩, rfl⟩

/-- a TOP-LEVEL file loader of any kind as the context's loader (the global loader; a module's loader in the flat
    topology, whatever its name): for every name `find` lets through to the index, the first origin of the key in the
    loader's OWN index decides the outcome, and that file is the only one read -/
theorem C15_toplevel_outcome (cfg : Cfg) (l : Lid) (hv : cfg.via = l)
    (hl : l = .g ∨ (∃ mod, l = .m mod) ∧ cfg.flat = true) (name : Name) (s : St) (n : Nat)
    (hsys : sysLoad name = none) (hget : s.get l (keyOf name) = none) (hroute : Routed l name)
    (p : Path) (ps : List Path) (hi : idx cfg l (keyOf name) = p :: ps)
    (hnt : ∀ nm ts, bodyAt cfg.tree p ≠ some (.typ .typeset nm ts)) :
    (loadS (n+7) cfg s name).1 = plainOutcomeAt cfg l name ∧ (loadS (n+7) cfg s name).2.reads = s.reads ++ [p] :=
  toplevel_plain cfg l hv hl name s n hsys hget hroute p ps hi hnt

theorem C15_found_iff_toplevel (cfg : Cfg) (l : Lid) (hv : cfg.via = l)
    (hl : l = .g ∨ (∃ mod, l = .m mod) ∧ cfg.flat = true) (name : Name) (s : St) (n : Nat)
    (hsys : sysLoad name = none) (hget : s.get l (keyOf name) = none) (hroute : Routed l name)
    (p : Path) (ps : List Path) (hi : idx cfg l (keyOf name) = p :: ps)
    (hnt : ∀ nm ts, bodyAt cfg.tree p ≠ some (.typ .typeset nm ts)) :
    (∃ d, (loadS (n+7) cfg s name).1 = .found d) ↔
      ((∃ k nm ts, bodyAt cfg.tree p = some (.typ k nm ts) ∧ keyOf nm = keyOf name) ∨ bodyAt cfg.tree p = some .bare) :=
  found_iff_of_outcome (C15_toplevel_outcome cfg l hv hl name s n hsys hget hroute p ps hi hnt).1 hi

/-- an unqualified name without an origin in the loader's own index: `notfound`, nothing read, one placeholder -/
theorem C15_absent_toplevel (cfg : Cfg) (l : Lid) (hv : cfg.via = l)
    (hl : l = .g ∨ (∃ mod, l = .m mod) ∧ cfg.flat = true) (name : Name) (s : St) (n : Nat)
    (hsys : sysLoad name = none) (hget : s.get l (keyOf name) = none) (hroute : Routed l name)
    (hq : qualified name = false) (hi : idx cfg l (keyOf name) = []) :
    loadS (n+7) cfg s name = (.notfound, s.put l (keyOf name) none) :=
  toplevel_absent cfg l hv hl name s n hsys hget hroute hq hi

def kindCfg (via : Lid) : Cfg :=
  { mods := ["mymod", "environment"], via := via, flat := true,
    tree := [(["env", "types", "environment", "thing.pp"], .typ .object ["Environment", "Thing"] []),
             (["env", "types", "thing.pp"], .typ .alias ["Thing"] []),
             (["modules", "environment", "types", "environment", "thing.pp"], .typ .object ["Environment", "Thing"] []),
             (["modules", "environment", "types", "mymod", "thing.pp"], .typ .alias ["Mymod", "Thing"] []),
             (["modules", "environment", "types", "thing.pp"], .typ .alias ["Thing"] []),
             (["modules", "mymod", "types", "mymod", "thing.pp"], .typ .object ["Mymod", "Mymod", "Thing"] []),
             (["modules", "mymod", "types", "thing.pp"], .typ .alias ["Mymod", "Thing"] [])] }

/-- non-vacuity, the three kinds side by side with files at BOTH candidate locations of a name (`types/thing.pp` and
    `types/<loader name>/thing.pp`): the global loader and the `environment` loader key them `thing` and
    `environment::thing` (not module-name relative), the ordinary module `mymod::thing` and `mymod::mymod::thing`; the
    hypotheses of `C15_toplevel_outcome` hold (`Routed`) and each lookup reads the file its own kind of path derives -/
example :
    Routed (.m "environment") ["Thing"] ∧ Routed (.m "environment") ["Environment", "Thing"] ∧
    Routed (.m "mymod") ["Mymod", "Thing"] ∧ Routed .g ["Environment", "Thing"] ∧
    idx (kindCfg .g) (.m "environment") (keyOf ["Thing"]) = [["modules", "environment", "types", "thing.pp"]] ∧
    idx (kindCfg .g) (.m "environment") (keyOf ["Environment", "Thing"]) =
      [["modules", "environment", "types", "environment", "thing.pp"]] ∧
    idx (kindCfg .g) (.m "mymod") (keyOf ["Mymod", "Thing"]) = [["modules", "mymod", "types", "thing.pp"]] ∧
    idx (kindCfg .g) (.m "mymod") (keyOf ["Mymod", "Mymod", "Thing"]) = [["modules", "mymod", "types", "mymod", "thing.pp"]] ∧
    idx (kindCfg .g) .g (keyOf ["Environment", "Thing"]) = [["env", "types", "environment", "thing.pp"]] ∧
    (runLoads 7 (kindCfg (.m "environment")) {} [["Thing"], ["Environment", "Thing"], ["Mymod", "Thing"]]).1 =
      [.found ⟨.alias, ["Thing"]⟩, .found ⟨.object, ["Environment", "Thing"]⟩, .notfound] ∧
    (runLoads 7 (kindCfg (.m "environment")) {} [["Thing"], ["Environment", "Thing"], ["Mymod", "Thing"]]).2.reads =
      [["modules", "environment", "types", "thing.pp"], ["modules", "environment", "types", "environment", "thing.pp"]] ∧
    (runLoads 7 (kindCfg (.m "mymod")) {} [["Thing"], ["Mymod", "Thing"], ["Mymod", "Mymod", "Thing"]]).1 =
      [.notfound, .found ⟨.alias, ["Mymod", "Thing"]⟩, .found ⟨.object, ["Mymod", "Mymod", "Thing"]⟩] ∧
    (runLoads 7 (kindCfg .g) {} [["Thing"], ["Environment", "Thing"]]).2.reads =
      [["env", "types", "thing.pp"], ["env", "types", "environment", "thing.pp"]] := by
  exact ⟨Or.inr ⟨rfl, rfl⟩, And.imp
    (fun h : partsOf ["Environment", "Thing"] = some ["environment", "thing"] => routed_m rfl h rfl) (And.imp
    (fun h : partsOf ["Mymod", "Thing"] = some ["mymod", "thing"] => routed_m rfl h rfl) (And.imp
    (fun _ : True => routed_g _) id)) (by decide +kernel)⟩

/-- `HasEntry` and `LoadEntry` of a top-level file loader agree on every name `find` lets through to the index (not cached
    yet, first origin not a type set, and — when there is no origin — unqualified, so that no parent search starts):
    `HasEntry` answers true exactly when the lookup does not answer `notfound` (it finds the type or reports the file) -/
theorem C15_has_iff_load_toplevel (cfg : Cfg) (l : Lid) (hv : cfg.via = l)
    (hl : l = .g ∨ (∃ mod, l = .m mod) ∧ cfg.flat = true) (name : Name) (s : St) (n : Nat)
    (hsys : sysLoad name = none) (hget : s.get l (keyOf name) = none) (hroute : Routed l name)
    (habs : idx cfg l (keyOf name) = [] → qualified name = false)
    (hnt : ∀ p ps nm ts, idx cfg l (keyOf name) = p :: ps → bodyAt cfg.tree p ≠ some (.typ .typeset nm ts)) :
    hasEntry cfg s l (keyOf name) = true ↔ (loadS (n+7) cfg s name).1 ≠ .notfound := by
  rw [hasEntry_file cfg s l (TopLevel.ne_d hl), (toplevel_outcome hv hl s n hsys hget hroute habs hnt).1,
    sysLoad_none_static name hsys]
  refine Iff.trans ⟨?_, fun h => Or.inr (Or.inl h)⟩ (not_congr (plainOutcomeAt_notfound cfg l name)).symm
  rintro (h | h | ⟨⟨mod, hm⟩, hf, _⟩)
  · cases h
  · exact h
  · rcases hl with h | ⟨_, h⟩
    · rw [h] at hm; cases hm
    · rw [h] at hf; cases hf

/-- full statement (false, see `C15_has_load_disagree`): `HasEntry` of a file loader answers true exactly for the names a
    lookup through it does not answer `notfound` -/
def C15_has_load_agree_full : Prop :=
  ∀ (cfg : Cfg) (name : Name) (fuel : Nat), fuel ≥ 7 → cfg.via ≠ .d → sysLoad name = none →
    (hasEntry cfg {} cfg.via (keyOf name) = true ↔ (loadS fuel cfg {} name).1 ≠ .notfound)

/-- `HasEntry` looks at the index only, `find` filters first.  Two witnesses: (1) a loader called `environment` indexes
    `types/mymod/thing.pp` as `mymod::thing` (not module-name relative) but `find` refuses every qualified name that does
    not start with `environment`; (2) the reserved file `init_typeset.pp` of an ordinary module is indexed under the bare
    key `init_typeset`, which `find` refuses as an unqualified name other than the module's.  (The property speaks about
    lookups only; both sides agree — correspondence ops `has`.) -/
theorem C15_has_load_disagree : ¬ C15_has_load_agree_full := by
  intro h
  have hc : (kindCfg (.m "environment")).via ≠ .d ∧ sysLoad ["Mymod", "Thing"] = none ∧
      hasEntry (kindCfg (.m "environment")) {} (kindCfg (.m "environment")).via (keyOf ["Mymod", "Thing"]) = true ∧
      (loadS 7 (kindCfg (.m "environment")) {} ["Mymod", "Thing"]).1 = .notfound := by decide +kernel
  exact (h (kindCfg (.m "environment")) ["Mymod", "Thing"] 7 (Nat.le_refl _) hc.1 hc.2.1).mp hc.2.2.1 hc.2.2.2

theorem C15_has_load_disagree_reserved :
    hasEntry tsCfg {} (.m "mymod") (keyOf ["Init_typeset"]) = true ∧
    (loadS 40 { tsCfg with via := .m "mymod" } {} ["Init_typeset"]).1 = .notfound := by
  decide +kernel

/-- both sides of `C15_has_iff_load_toplevel` on concrete inputs (its hypotheses are those of
    `C15_toplevel_outcome`, shown above): `HasEntry` true / the lookup finds; `HasEntry` false / `notfound`; `HasEntry` true /
    the lookup REPORTS (a malformed file: "does not answer notfound" is not "finds") -/
example : hasEntry (kindCfg (.m "environment")) {} (.m "environment") (keyOf ["Thing"]) = true ∧
    (loadS 7 (kindCfg (.m "environment")) {} ["Thing"]).1 ≠ .notfound ∧
    hasEntry (kindCfg (.m "environment")) {} (.m "environment") (keyOf ["Nope"]) = false ∧
    (loadS 7 (kindCfg (.m "environment")) {} ["Nope"]).1 = .notfound ∧
    hasEntry gCfg {} .g (keyOf ["Bad"]) = true ∧
    (loadS 7 gCfg {} ["Bad"]).1 = .failed (.reported "PARSE_ERROR" (some ["env", "types", "bad.pp"]) 3) := by decide +kernel

/-- "lookups ignore letter case" as a THEOREM for the class of `C15_toplevel_outcome` (elsewhere it is only
    the name clause of `C15_name` plus examples): two spellings of one name (same key) are answered alike — same outcome, same
    file read — through a top-level loader of any kind, when the first origin is not a bare expression (a bare expression
    takes the name AS SPELLED by the caller: `plainOutcomeAt`).  The hypotheses are asked of one spelling only; they depend on
    the key alone. -/
theorem C15_case_irrelevant_toplevel (cfg : Cfg) (l : Lid) (hv : cfg.via = l)
    (hl : l = .g ∨ (∃ mod, l = .m mod) ∧ cfg.flat = true) (name name' : Name) (hk : keyOf name' = keyOf name)
    (s : St) (n : Nat)
    (hsys : sysLoad name = none) (hget : s.get l (keyOf name) = none) (hroute : Routed l name)
    (p : Path) (ps : List Path) (hi : idx cfg l (keyOf name) = p :: ps)
    (hnt : ∀ nm ts, bodyAt cfg.tree p ≠ some (.typ .typeset nm ts)) (hnb : bodyAt cfg.tree p ≠ some .bare) :
    (loadS (n+7) cfg s name').1 = (loadS (n+7) cfg s name).1 ∧
    (loadS (n+7) cfg s name').2.reads = (loadS (n+7) cfg s name).2.reads := by
  have hsys' : sysLoad name' = none := (sysLoad_congr hk).trans hsys
  have hroute' : Routed l name' := hroute.congr hk
  have h1 := toplevel_plain cfg l hv hl name s n hsys hget hroute p ps hi hnt
  have h2 := toplevel_plain cfg l hv hl name' s n hsys' (hk ▸ hget) hroute' p ps (hk ▸ hi) hnt
  refine ⟨?_, by rw [h1.2, h2.2]⟩
  rw [h1.1, h2.1]
  unfold plainOutcomeAt
  rw [hk, hi]
  simp only []
  cases hb : bodyAt cfg.tree p with
  | none => rfl
  | some b =>
    cases b with
    | bare => exact absurd hb hnb
    | _ => rfl

/-- non-vacuity: two spellings with one key below the `environment` loader (hypotheses: the `kindCfg` example above); the first
    origin is an alias definition, no bare expression; both are answered with the name as DEFINED -/
example : keyOf ["THING"] = keyOf ["Thing"] ∧
    bodyAt (kindCfg (.m "environment")).tree ["modules", "environment", "types", "thing.pp"] = some (.typ .alias ["Thing"] []) ∧
    (loadS 7 (kindCfg (.m "environment")) {} ["THING"]).1 = .found ⟨.alias, ["Thing"]⟩ ∧
    (loadS 7 (kindCfg (.m "environment")) {} ["Thing"]).1 = .found ⟨.alias, ["Thing"]⟩ := by decide +kernel

/-- … and the exclusion is real: a bare expression is answered under the caller's spelling (`modCfg`: `other/types/thing.pp`) -/
example : (loadS 11 (modCfg .d) {} ["other", "THING"]).1 = .found ⟨.alias, ["other", "THING"]⟩ ∧
    (loadS 11 (modCfg .d) {} ["Other", "Thing"]).1 = .found ⟨.alias, ["Other", "Thing"]⟩ := by decide +kernel

/-! ## names of any depth; names whose ancestors exist -/

/-- the complete miss of one file loader, for a name of ANY depth: no origin for the name, every proper prefix cached (it
    is skipped) or without origin (`QuietAnc`) — `find` answers nothing and leaves the state untouched, given fuel
    `3 * length` (the nested recursion `find → findTail → parentSearch → find` unwound by induction on the length) -/
theorem C15_find_miss (cfg : Cfg) (l : Lid) (s : St) (name : Name) (hne : name ≠ []) (hq : QuietAnc cfg l s name)
    (hi : idx cfg l (keyOf name) = []) (fuel : Nat) (hf : 3 * name.length ≤ fuel) :
    find fuel cfg l name s = .ok none s :=
  find_miss cfg l s name hne hq hi fuel hf

/-- absence through the global loader for a name of any depth: `notfound`, nothing read, exactly one placeholder -/
theorem C15_absent_global_deep (cfg : Cfg) (hv : cfg.via = .g) (name : Name) (hne : name ≠ []) (s : St) (m : Nat)
    (hfuel : 3 * name.length ≤ m) (hsys : sysLoad name = none)
    (hq : QuietAnc cfg .g s name) (hi : idx cfg .g (keyOf name) = []) :
    loadS (m+2) cfg s name = (.notfound, s.put .g (keyOf name) none) :=
  loadS_notfound (by rw [hv, loadEntry_file (by nofun)]; exact fbLoadEntry_g_miss cfg s name hne hsys hq hi m hfuel)

/-- a name of ANY depth (two, three and more segments) through a module's loader — an ordinary module or one called
    `environment` — in the children-of-global topology: when the global loader misses completely, the first origin of the
    key in the module's index decides (found / the error naming that file and line), and that file is the only one read -/
theorem C15_module_outcome_deep (cfg : Cfg) (mod : String) (hv : cfg.via = .m mod) (hflat : cfg.flat = false)
    (name : Name) (hne : name ≠ []) (s : St) (m : Nat) (hfuel : 3 * name.length ≤ m + 5)
    (hsys : sysLoad name = none)
    (hqg : QuietAnc cfg .g s name) (hig : idx cfg .g (keyOf name) = [])
    (hm1 : s.get (.m mod) (keyOf name) = none) (hroute : Routed (.m mod) name)
    (p : Path) (ps : List Path) (hi : idx cfg (.m mod) (keyOf name) = p :: ps)
    (hnt : ∀ nm ts, bodyAt cfg.tree p ≠ some (.typ .typeset nm ts)) :
    (loadS (m+8) cfg s name).1 = plainOutcomeAt cfg (.m mod) name ∧
    (loadS (m+8) cfg s name).2.reads = s.reads ++ [p] :=
  module_deep cfg mod hv hflat name hne s m hfuel hsys hqg hig hm1 hroute p ps hi hnt

theorem C15_found_iff_module_deep (cfg : Cfg) (mod : String) (hv : cfg.via = .m mod) (hflat : cfg.flat = false)
    (name : Name) (hne : name ≠ []) (s : St) (m : Nat) (hfuel : 3 * name.length ≤ m + 5)
    (hsys : sysLoad name = none)
    (hqg : QuietAnc cfg .g s name) (hig : idx cfg .g (keyOf name) = [])
    (hm1 : s.get (.m mod) (keyOf name) = none) (hroute : Routed (.m mod) name)
    (p : Path) (ps : List Path) (hi : idx cfg (.m mod) (keyOf name) = p :: ps)
    (hnt : ∀ nm ts, bodyAt cfg.tree p ≠ some (.typ .typeset nm ts)) :
    (∃ d, (loadS (m+8) cfg s name).1 = .found d) ↔
      ((∃ k nm ts, bodyAt cfg.tree p = some (.typ k nm ts) ∧ keyOf nm = keyOf name) ∨ bodyAt cfg.tree p = some .bare) :=
  found_iff_of_outcome (C15_module_outcome_deep cfg mod hv hflat name hne s m hfuel hsys hqg hig hm1 hroute p ps hi hnt).1 hi

/-- the same through the dependency loader (a qualified name is routed to the module its first segment names) -/
theorem C15_dependency_outcome_deep (cfg : Cfg) (mod : String) (hv : cfg.via = .d) (hflat : cfg.flat = false)
    (hmods : cfg.mods.contains mod = true)
    (name : Name) (hne : name ≠ []) (hqual : qualified name = true) (s : St) (m : Nat) (hfuel : 3 * name.length ≤ m + 5)
    (hparts : ∃ ps, partsOf name = some ps ∧ ps.head? = some mod)
    (hsys : sysLoad name = none) (hd1 : s.get .d (keyOf name) = none)
    (hqg : QuietAnc cfg .g s name) (hig : idx cfg .g (keyOf name) = [])
    (hm1 : s.get (.m mod) (keyOf name) = none)
    (p : Path) (ps : List Path) (hi : idx cfg (.m mod) (keyOf name) = p :: ps)
    (hnt : ∀ nm ts, bodyAt cfg.tree p ≠ some (.typ .typeset nm ts)) :
    (loadS (m+10) cfg s name).1 = plainOutcomeAt cfg (.m mod) name ∧
    (loadS (m+10) cfg s name).2.reads = s.reads ++ [p] :=
  dependency_deep cfg mod hv hflat hmods name hne hqual s m hfuel hparts hsys hd1 hqg hig hm1 p ps hi hnt

theorem C15_found_iff_dependency_deep (cfg : Cfg) (mod : String) (hv : cfg.via = .d) (hflat : cfg.flat = false)
    (hmods : cfg.mods.contains mod = true)
    (name : Name) (hne : name ≠ []) (hqual : qualified name = true) (s : St) (m : Nat) (hfuel : 3 * name.length ≤ m + 5)
    (hparts : ∃ ps, partsOf name = some ps ∧ ps.head? = some mod)
    (hsys : sysLoad name = none) (hd1 : s.get .d (keyOf name) = none)
    (hqg : QuietAnc cfg .g s name) (hig : idx cfg .g (keyOf name) = [])
    (hm1 : s.get (.m mod) (keyOf name) = none)
    (p : Path) (ps : List Path) (hi : idx cfg (.m mod) (keyOf name) = p :: ps)
    (hnt : ∀ nm ts, bodyAt cfg.tree p ≠ some (.typ .typeset nm ts)) :
    (∃ d, (loadS (m+10) cfg s name).1 = .found d) ↔
      ((∃ k nm ts, bodyAt cfg.tree p = some (.typ k nm ts) ∧ keyOf nm = keyOf name) ∨ bodyAt cfg.tree p = some .bare) :=
  found_iff_of_outcome (C15_dependency_outcome_deep cfg mod hv hflat hmods name hne hqual s m hfuel hparts hsys hd1 hqg hig hm1 p ps hi hnt).1 hi

def deepCfg (via : Lid) : Cfg :=
  { mods := ["other", "mymod"], via := via,
    tree := [(["env", "types", "ns", "a.pp"], .typ .alias ["Ns", "A"] []),
             (["env", "types", "ns", "bad.pp"], .malformed 4),
             (["modules", "mymod", "types", "sub", "deep", "Leaf.pp"], .typ .object ["Mymod", "Sub", "Deep", "Leaf"] []),
             (["modules", "mymod", "types", "sub", "deep", "bad.pp"], .malformed 3)] }

/-- non-vacuity: a four-segment name in another letter case — the hypotheses hold from the empty caches (the global loader
    is quiet for it: `quietAnc_of_check`), it is found through the module loader and through the dependency loader; its
    malformed sibling is reported with file and line -/
example : QuietAnc (deepCfg .d) .g {} ["MYMOD", "sub", "Deep", "LEAF"] ∧
    idx (deepCfg .d) .g (keyOf ["MYMOD", "sub", "Deep", "LEAF"]) = [] ∧
    Routed (.m "mymod") ["MYMOD", "sub", "Deep", "LEAF"] ∧
    idx (deepCfg .d) (.m "mymod") (keyOf ["MYMOD", "sub", "Deep", "LEAF"]) =
      [["modules", "mymod", "types", "sub", "deep", "Leaf.pp"]] ∧
    (loadS 15 (deepCfg (.m "mymod")) {} ["MYMOD", "sub", "Deep", "LEAF"]).1 = .found ⟨.object, ["Mymod", "Sub", "Deep", "Leaf"]⟩ ∧
    (loadS 17 (deepCfg .d) {} ["MYMOD", "sub", "Deep", "LEAF"]).1 = .found ⟨.object, ["Mymod", "Sub", "Deep", "Leaf"]⟩ ∧
    (loadS 17 (deepCfg .d) {} ["Mymod", "Sub", "Deep", "Bad"]).1 =
      .failed (.reported "PARSE_ERROR" (some ["modules", "mymod", "types", "sub", "deep", "bad.pp"]) 3) := by
  -- every conjunct that is not decidable is traded for its Boolean check (`True` where a term proves it): one kernel
  -- evaluation then covers the whole statement and shares the index computations
  exact And.imp quietAnc_of_check (And.imp id (And.imp
    (fun h : partsOf ["MYMOD", "sub", "Deep", "LEAF"] = some ["mymod", "sub", "deep", "leaf"] => routed_m rfl h rfl) id)) (by decide +kernel)

/-- a name whose PARENT has a file (a plain definition, no type set): the parent type-set search loads the parent on the
    way — its file is the only read, it is defined — and the child, having no file, is `notfound` with a placeholder -/
theorem C15_ancestor_loaded (cfg : Cfg) (hv : cfg.via = .g) (name : Name) (hqual : qualified name = true) (s : St)
    (m : Nat) (hfuel : 3 * name.length ≤ m + 8)
    (hsys : sysLoad name = none) (hfresh : s.get .g (keyOf name) = none) (hi : idx cfg .g (keyOf name) = [])
    (hqa : QuietAnc cfg .g s name.dropLast)
    (p : Path) (ps : List Path) (hip : idx cfg .g (keyOf name.dropLast) = p :: ps)
    (b : Body) (d : Def) (hb : bodyAt cfg.tree p = some b) (hd : definedBy b name.dropLast = some d)
    (hk : d.kind ≠ .typeset) :
    loadS (m+11) cfg s name =
      (.notfound, ((((s.put .g (keyOf name.dropLast) none).addRead p).put .g (keyOf name.dropLast) (some d)).put .g
        (keyOf name) none)) := by
  exact ancestor_good (Below.top (Or.inl rfl) hsys) hv (Nat.zero_le _) (by omega) hqual (routed_g _) (routed_g _) (Or.inl rfl)
    hfresh hi hqa hip hb hd hk

/-- error location when the PARENT's file is defective: the lookup of the (absent) child reports the error naming the
    parent's file — and the line of a syntax error —, binds nothing and reads that file only -/
theorem C15_ancestor_error (cfg : Cfg) (hv : cfg.via = .g) (name : Name) (hqual : qualified name = true) (s : St)
    (m : Nat)
    (hsys : sysLoad name = none) (hfresh : s.get .g (keyOf name) = none) (hi : idx cfg .g (keyOf name) = [])
    (hpfresh : s.get .g (keyOf name.dropLast) = none)
    (p : Path) (ps : List Path) (hip : idx cfg .g (keyOf name.dropLast) = p :: ps)
    (b : Body) (hb : bodyAt cfg.tree p = some b) (hd : Defective b name.dropLast) :
    loadS (m+11) cfg s name = (.failed (defectErr p b), (s.put .g (keyOf name.dropLast) none).addRead p) := by
  exact ancestor_defective (m := m+2) (Below.top (Or.inl rfl) hsys) hv (Nat.zero_le _) hqual (routed_g _) (routed_g _) hfresh hi
    hpfresh hip hb hd

/-- non-vacuity, both directions: `Ns::A::B` (absent; parent `Ns::A` has a file) loads the parent and stays absent, the
    second lookup is answered from the placeholder; `Ns::Bad::X` reports the parent's syntax error with its line; vice
    versa `Mymod::Sub` (only deeper files exist) is absent and reads nothing -/
example : QuietAnc (deepCfg .g) .g {} ["Ns", "A"] ∧ definedBy (.typ .alias ["Ns", "A"] []) ["Ns", "A"] = some ⟨.alias, ["Ns", "A"]⟩ ∧
    (runLoads 14 (deepCfg .g) {} [["Ns", "A", "B"], ["Ns", "A", "B"], ["Ns", "A"]]).1 =
      [.notfound, .notfound, .found ⟨.alias, ["Ns", "A"]⟩] ∧
    (runLoads 14 (deepCfg .g) {} [["Ns", "A", "B"], ["Ns", "A", "B"], ["Ns", "A"]]).2.reads = [["env", "types", "ns", "a.pp"]] ∧
    (loadS 14 (deepCfg .g) {} ["Ns", "Bad", "X"]).1 = .failed (.reported "PARSE_ERROR" (some ["env", "types", "ns", "bad.pp"]) 4) ∧
    (loadS 17 (deepCfg .d) {} ["Mymod", "Sub"]).1 = .notfound ∧ (loadS 17 (deepCfg .d) {} ["Mymod", "Sub"]).2.reads = [] := by
  exact And.imp quietAnc_of_check id (by decide +kernel)

/-! ## type sets: loading one, member resolution, the parent search that finds one, `init_typeset` -/

/-- the lookup of a type set through a TOP-LEVEL loader that is the context's loader (the global loader; a module's loader
    in the flat topology), for any number of members and any depth of name: found; the file is the only read; on the way
    every member is looked up through the defining loader (a complete miss: one placeholder) and defined over it with the
    kind its position dictates; finally the type set is defined over the placeholder of the requested name
    (`typesetState`).  `MemHyp`: members are no core types, have no files of their own, are addressable; the proper
    prefixes of the type set's name are cached or without origin. -/
theorem C15_typeset_toplevel (cfg : Cfg) (l : Lid) (hv : cfg.via = l) (hl : TopLevel cfg l) (name nm : Name)
    (ts : List String) (p : Path) (ps : List Path) (s : St) (k : Nat)
    (hk : 3 * (nm.length + 1) + ts.length ≤ k)
    (hsys : sysLoad name = none) (hroute : Routed l name) (hi : idx cfg l (keyOf name) = p :: ps)
    (hb : bodyAt cfg.tree p = some (.typ .typeset nm ts)) (hkey : keyOf nm = keyOf name)
    (hget : s.get l (keyOf name) = none)
    (hh : MemHyp cfg l nm ((s.put l (keyOf name) none).addRead p) ts)
    (hfresh : ∀ t ∈ ts, s.get l (keyOf (nm ++ [t])) = none) :
    loadS (k+10) cfg s name = (.found ⟨.typeset, nm⟩, typesetState l name nm ts p s) ∧
    (typesetState l name nm ts p s).reads = s.reads ++ [p] ∧
    ∀ j t, ts[j]? = some t →
      (typesetState l name nm ts p s).get l (keyOf (nm ++ [t])) = some (some ⟨kindAt j, nm ++ [t]⟩) :=
  ⟨(Below.top hl hsys).loadS_found hv (Nat.zero_le (k+8)) hget (by
      rw [find_origin hroute hi]
      exact instantiate_typeset cfg l hv hl name nm ts p ps s k hk hb hkey hget hh hfresh),
    typesetState_reads l name nm ts p s,
    fun j t ht => typesetState_member l name nm ts p s hkey hh.nodup j t ht⟩

/-- the module's own name through its (top-level) loader: `init_typeset.pp` is the file, the same resolution -/
theorem C15_init_typeset_toplevel (cfg : Cfg) (mod : String) (hv : cfg.via = .m mod) (hflat : cfg.flat = true)
    (hguard : cfg.guardInit = true) (hm : isGlobalMod mod = false) (a : String) (nm : Name)
    (ts : List String) (o : Path) (os : List Path) (s : St) (k : Nat)
    (hk : 3 * (nm.length + 1) + ts.length ≤ k)
    (hsys : sysLoad [a] = none) (hparts : partsOf [a] = some [mod]) (hi : idx cfg (.m mod) ["init_typeset"] = o :: os)
    (hb : bodyAt cfg.tree o = some (.typ .typeset nm ts)) (hkey : keyOf nm = keyOf [a])
    (hget : s.get (.m mod) (keyOf [a]) = none)
    (hh : MemHyp cfg (.m mod) nm ((s.put (.m mod) (keyOf [a]) none).addRead o) ts)
    (hfresh : ∀ t ∈ ts, s.get (.m mod) (keyOf (nm ++ [t])) = none) :
    loadS (k+9) cfg s [a] = (.found ⟨.typeset, nm⟩, typesetState (.m mod) [a] nm ts o s) := by
  have hl : TopLevel cfg (.m mod) := Or.inr ⟨⟨mod, rfl⟩, hflat⟩
  refine (Below.top hl hsys).loadS_found hv (Nat.zero_le (k+7)) hget ?_
  rw [find_init hguard hm hparts hi, bind_ok (instantiate_typeset cfg (.m mod) hv hl [a] nm ts o os s k hk hb hkey hget hh hfresh)]
  rfl

/-- the parent search that FINDS a type set: a member is requested before its type set — there is no file for the member,
    the type-set file of the parent name is loaded, the member is thereby defined and answered at once (kind by position,
    name as the type set spells it); the type-set file is the only read -/
theorem C15_member_via_parent_search (cfg : Cfg) (l : Lid) (hv : cfg.via = l) (hl : TopLevel cfg l) (child nm : Name)
    (ts : List String) (p : Path) (ps : List Path) (s : St) (k : Nat)
    (hk : 3 * (nm.length + 1) + ts.length ≤ k)
    (hqual : qualified child = true)
    (hsys : sysLoad child = none) (hroute : Routed l child) (hic : idx cfg l (keyOf child) = [])
    (hgetc : s.get l (keyOf child) = none)
    (hroutep : Routed l child.dropLast) (hi : idx cfg l (keyOf child.dropLast) = p :: ps)
    (hb : bodyAt cfg.tree p = some (.typ .typeset nm ts)) (hkey : keyOf nm = keyOf child.dropLast)
    (hget : s.get l (keyOf child.dropLast) = none)
    (hh : MemHyp cfg l nm ((s.put l (keyOf child.dropLast) none).addRead p) ts)
    (hfresh : ∀ t ∈ ts, s.get l (keyOf (nm ++ [t])) = none)
    (j : Nat) (t : String) (ht : ts[j]? = some t) (hmem : keyOf (nm ++ [t]) = keyOf child) :
    loadS (k+13) cfg s child = (.found ⟨kindAt j, nm ++ [t]⟩, typesetState l child.dropLast nm ts p s) := by
  have hmemget := hmem ▸ typesetState_member l child.dropLast nm ts p s hkey hh.nodup j t ht
  refine (Below.top hl hsys).loadS_found hv (Nat.zero_le (k+11)) hgetc ?_
  rw [find_no_origin hroute hic hqual, parentSearch_ne _ _ _ _ _ (dropLast_ne_nil hqual)]
  simp only [bind, getSt, hget, find_origin hroutep hi,
    instantiate_typeset cfg l hv hl child.dropLast nm ts p ps s k hk hb hkey hget hh hfresh]
  show (match (typesetState l child.dropLast nm ts p s).get l (keyOf child) with
    | some te => pure (some te)
    | none => parentSearch (k+8) cfg l child child.dropLast.dropLast) _ = _
  rw [hmemget]
  rfl

/-- member resolution afterwards: a name the loader holds a definition for is answered from the cache — nothing is read,
    nothing changes (with `C15_typeset_toplevel`: every member of a loaded type set) -/
theorem C15_member_cached (cfg : Cfg) (l : Lid) (hv : cfg.via = l) (hl : TopLevel cfg l) (name : Name) (s : St) (d : Def)
    (n : Nat) (hsys : sysLoad name = none) (hget : s.get l (keyOf name) = some (some d)) :
    loadS (n+2) cfg s name = (.found d, s) :=
  (Below.top hl hsys).loadS_cached hv (Nat.zero_le n) hget

def setCfg (via : Lid) : Cfg :=
  { mods := ["mymod", "other"], via := via, flat := true,
    tree := [(["env", "types", "geo", "shapes.pp"], .typ .typeset ["Geo", "Shapes"] ["Circle", "Square", "Tri"]),
             (["modules", "mymod", "types", "init_typeset.pp"], .typ .typeset ["Mymod"] ["Ta", "Tb"]),
             (["modules", "other", "types", "sub", "set.pp"], .typ .typeset ["Other", "Sub", "Set"] ["Leaf"])] }

/-- non-vacuity: the hypotheses hold from the empty caches (`memHyp_of_check`) for a two-segment type set of three members
    below the global loader, for a module's `init_typeset` and for a three-segment type set below a module; a member asked
    first is found through the parent search (kind by position: the second member is an object), the type set and the
    other members afterwards come from the cache; each file is read once -/
example :
    MemHyp (setCfg .g) .g ["Geo", "Shapes"]
      ((({} : St).put .g (keyOf ["GEO", "shapes"]) none).addRead ["env", "types", "geo", "shapes.pp"]) ["Circle", "Square", "Tri"] ∧
    Routed .g ["GEO", "shapes"] ∧ Routed .g ["Geo", "Shapes", "Square"] ∧
    (runLoads 25 (setCfg .g) {} [["Geo", "Shapes", "SQUARE"], ["GEO", "shapes"], ["Geo", "Shapes", "Tri"], ["Geo", "Shapes", "Nope"]]).1 =
      [.found ⟨.object, ["Geo", "Shapes", "Square"]⟩, .found ⟨.typeset, ["Geo", "Shapes"]⟩,
       .found ⟨.alias, ["Geo", "Shapes", "Tri"]⟩, .notfound] ∧
    (runLoads 25 (setCfg .g) {} [["Geo", "Shapes", "SQUARE"], ["GEO", "shapes"], ["Geo", "Shapes", "Tri"], ["Geo", "Shapes", "Nope"]]).2.reads =
      [["env", "types", "geo", "shapes.pp"]] ∧
    MemHyp (setCfg (.m "mymod")) (.m "mymod") ["Mymod"]
      ((({} : St).put (.m "mymod") (keyOf ["MYMOD"]) none).addRead ["modules", "mymod", "types", "init_typeset.pp"]) ["Ta", "Tb"] ∧
    MemHyp (setCfg (.m "other")) (.m "other") ["Other", "Sub", "Set"]
      ((({} : St).put (.m "other") (keyOf ["Other", "Sub", "Set"]) none).addRead ["modules", "other", "types", "sub", "set.pp"]) ["Leaf"] ∧
    (runLoads 25 (setCfg (.m "mymod")) {} [["MYMOD"], ["Mymod", "Tb"], ["Mymod", "Nope"]]).1 =
      [.found ⟨.typeset, ["Mymod"]⟩, .found ⟨.object, ["Mymod", "Tb"]⟩, .notfound] ∧
    (runLoads 25 (setCfg (.m "other")) {} [["Other", "Sub", "Set", "Leaf"], ["Other", "Sub", "Set"]]).1 =
      [.found ⟨.alias, ["Other", "Sub", "Set", "Leaf"]⟩, .found ⟨.typeset, ["Other", "Sub", "Set"]⟩] ∧
    (runLoads 25 (setCfg (.m "other")) {} [["Other", "Sub", "Set", "Leaf"], ["Other", "Sub", "Set"]]).2.reads =
      [["modules", "other", "types", "sub", "set.pp"]] := by
  exact And.imp memHyp_of_check (And.imp (fun _ : True => routed_g _) (And.imp
    (fun _ : True => routed_g _) (And.imp id (And.imp id (And.imp memHyp_of_check (And.imp memHyp_of_check id))))))
    (by decide +kernel)

/-! ## type sets through a module's loader in the default topology (child of the global loader) -/

/-- a type set `Mod::…` (index route) through the module's loader below the global loader: the global loader is asked
    first and misses completely (one placeholder), the module's file is the only read, every member costs a placeholder in
    the global loader, one in the module loader and the definition over the latter (kind by position) — exact state
    `typesetState2` -/
theorem C15_typeset_module (cfg : Cfg) (mod : String) (hv : cfg.via = .m mod) (hflat : cfg.flat = false)
    (name nm : Name) (hne : name ≠ []) (ts : List String) (p : Path) (ps : List Path) (s : St) (k : Nat)
    (hk : 3 * (nm.length + 1) + ts.length ≤ k)
    (hsys : sysLoad name = none) (hroute : Routed (.m mod) name)
    (hqg : QuietAnc cfg .g s name) (hig : idx cfg .g (keyOf name) = [])
    (hi : idx cfg (.m mod) (keyOf name) = p :: ps)
    (hb : bodyAt cfg.tree p = some (.typ .typeset nm ts)) (hkey : keyOf nm = keyOf name)
    (hget : s.get (.m mod) (keyOf name) = none)
    (hhg : MemHyp cfg .g nm (((s.put .g (keyOf name) none).put (.m mod) (keyOf name) none).addRead p) ts)
    (hhm : MemHyp cfg (.m mod) nm (((s.put .g (keyOf name) none).put (.m mod) (keyOf name) none).addRead p) ts)
    (hfreshg : ∀ t ∈ ts, s.get .g (keyOf (nm ++ [t])) = none)
    (hfreshm : ∀ t ∈ ts, s.get (.m mod) (keyOf (nm ++ [t])) = none) :
    loadS (k+11) cfg s name =
      (.found ⟨.typeset, nm⟩, typesetState2 mod name nm ts p (s.put .g (keyOf name) none)) ∧
    (typesetState2 mod name nm ts p (s.put .g (keyOf name) none)).reads = s.reads ++ [p] ∧
    ∀ j t, ts[j]? = some t →
      (typesetState2 mod name nm ts p (s.put .g (keyOf name) none)).get (.m mod) (keyOf (nm ++ [t])) =
        some (some ⟨kindAt j, nm ++ [t]⟩) ∧
      (typesetState2 mod name nm ts p (s.put .g (keyOf name) none)).get .g (keyOf (nm ++ [t])) = some none :=
  ⟨(Below.child_miss hflat hne hsys hqg hig).loadS_found hv (n := k+9)
      (by rw [← length_eq_of_keyOf_eq hkey]; omega) hget (by
        rw [find_origin hroute hi]
        exact instantiate_typeset_child_from cfg mod hv hflat name nm ts p ps s k hk hb hkey hget hhg hhm hfreshg hfreshm),
    by rw [typesetState2_reads]; rfl,
    fun j t ht => typesetState2_member mod name nm ts p _ hkey hhm.nodup j t ht⟩

/-- the module's own name through its loader below the global loader: `init_typeset.pp`, the same resolution -/
theorem C15_init_typeset_module (cfg : Cfg) (mod : String) (hv : cfg.via = .m mod) (hflat : cfg.flat = false)
    (hguard : cfg.guardInit = true) (hm : isGlobalMod mod = false) (a : String) (nm : Name)
    (ts : List String) (o : Path) (os : List Path) (s : St) (k : Nat)
    (hk : 3 * (nm.length + 1) + ts.length ≤ k)
    (hsys : sysLoad [a] = none) (hparts : partsOf [a] = some [mod])
    (hgetg : s.get .g (keyOf [a]) = none) (hig : idx cfg .g (keyOf [a]) = [])
    (hi : idx cfg (.m mod) ["init_typeset"] = o :: os)
    (hb : bodyAt cfg.tree o = some (.typ .typeset nm ts)) (hkey : keyOf nm = keyOf [a])
    (hget : s.get (.m mod) (keyOf [a]) = none)
    (hhg : MemHyp cfg .g nm (((s.put .g (keyOf [a]) none).put (.m mod) (keyOf [a]) none).addRead o) ts)
    (hhm : MemHyp cfg (.m mod) nm (((s.put .g (keyOf [a]) none).put (.m mod) (keyOf [a]) none).addRead o) ts)
    (hfreshg : ∀ t ∈ ts, s.get .g (keyOf (nm ++ [t])) = none)
    (hfreshm : ∀ t ∈ ts, s.get (.m mod) (keyOf (nm ++ [t])) = none) :
    loadS (k+10) cfg s [a] =
      (.found ⟨.typeset, nm⟩, typesetState2 mod [a] nm ts o (s.put .g (keyOf [a]) none)) := by
  refine (Below.child_absent hflat hsys rfl hig hgetg).loadS_found hv (n := k+8) (by omega) hget ?_
  rw [find_init hguard hm hparts hi, bind_ok (instantiate_typeset_child_from cfg mod hv hflat [a] nm ts o os s k hk hb hkey hget
    hhg hhm hfreshg hfreshm)]
  rfl

/-- member resolution afterwards, default topology: answered from the module loader's cache (the global loader above it
    holds the member's placeholder), nothing read, nothing changed -/
theorem C15_member_cached_module (cfg : Cfg) (mod : String) (hv : cfg.via = .m mod) (hflat : cfg.flat = false)
    (name : Name) (s : St) (d : Def) (n : Nat) (hsys : sysLoad name = none) (hg : s.get .g (keyOf name) = some none)
    (hget : s.get (.m mod) (keyOf name) = some (some d)) :
    loadS (n+3) cfg s name = (.found d, s) :=
  (Below.child_cached hflat hsys hg).loadS_cached hv (n := n+1) (by omega) hget

def setCfg2 (via : Lid) : Cfg :=
  { mods := ["mymod", "other"], via := via,
    tree := [(["modules", "mymod", "types", "init_typeset.pp"], .typ .typeset ["Mymod"] ["Ta", "Tb"]),
             (["modules", "other", "types", "sub", "set.pp"], .typ .typeset ["Other", "Sub", "Set"] ["Leaf", "Twig"])] }

/-- non-vacuity, default topology: the hypotheses hold from the empty caches for a module's `init_typeset` and for a
    three-segment type set; the type set is found, its members afterwards come from the cache, one read each -/
example :
    MemHyp (setCfg2 (.m "mymod")) .g ["Mymod"]
      (((({} : St).put .g (keyOf ["MYMOD"]) none).put (.m "mymod") (keyOf ["MYMOD"]) none).addRead
        ["modules", "mymod", "types", "init_typeset.pp"]) ["Ta", "Tb"] ∧
    MemHyp (setCfg2 (.m "mymod")) (.m "mymod") ["Mymod"]
      (((({} : St).put .g (keyOf ["MYMOD"]) none).put (.m "mymod") (keyOf ["MYMOD"]) none).addRead
        ["modules", "mymod", "types", "init_typeset.pp"]) ["Ta", "Tb"] ∧
    (runLoads 25 (setCfg2 (.m "mymod")) {} [["MYMOD"], ["Mymod", "Tb"], ["Mymod", "Nope"]]).1 =
      [.found ⟨.typeset, ["Mymod"]⟩, .found ⟨.object, ["Mymod", "Tb"]⟩, .notfound] ∧
    (runLoads 25 (setCfg2 (.m "mymod")) {} [["MYMOD"], ["Mymod", "Tb"], ["Mymod", "Nope"]]).2.reads =
      [["modules", "mymod", "types", "init_typeset.pp"]] ∧
    QuietAnc (setCfg2 (.m "other")) .g {} ["Other", "Sub", "Set"] ∧ Routed (.m "other") ["Other", "Sub", "Set"] ∧
    MemHyp (setCfg2 (.m "other")) .g ["Other", "Sub", "Set"]
      (((({} : St).put .g (keyOf ["Other", "Sub", "Set"]) none).put (.m "other") (keyOf ["Other", "Sub", "Set"]) none).addRead
        ["modules", "other", "types", "sub", "set.pp"]) ["Leaf", "Twig"] ∧
    MemHyp (setCfg2 (.m "other")) (.m "other") ["Other", "Sub", "Set"]
      (((({} : St).put .g (keyOf ["Other", "Sub", "Set"]) none).put (.m "other") (keyOf ["Other", "Sub", "Set"]) none).addRead
        ["modules", "other", "types", "sub", "set.pp"]) ["Leaf", "Twig"] ∧
    (runLoads 25 (setCfg2 (.m "other")) {} [["Other", "Sub", "Set"], ["Other", "Sub", "Set", "Twig"]]).1 =
      [.found ⟨.typeset, ["Other", "Sub", "Set"]⟩, .found ⟨.object, ["Other", "Sub", "Set", "Twig"]⟩] := by
  exact And.imp memHyp_of_check (And.imp memHyp_of_check (And.imp id (And.imp id (And.imp quietAnc_of_check (And.imp
    (fun h : partsOf ["Other", "Sub", "Set"] = some ["other", "sub", "set"] => routed_m rfl h rfl)
    (And.imp memHyp_of_check (And.imp memHyp_of_check id))))))) (by decide +kernel)

/-! ## type sets through the dependency loader (the default context loader) -/

/-- a type set `Mod::…` through the DEPENDENCY loader (module loaders below the global loader): the name is routed to the
    module its first segment names; the global loader misses completely, the module's file is the only read; every member
    costs a placeholder in the global loader, one in the module loader, one in the dependency loader and the definition
    over the latter (kind by position); the type set is defined in the dependency loader and answered through what
    `SetEntry` returns (fix 80f753b) — exact state `typesetState3` -/
theorem C15_typeset_dependency (cfg : Cfg) (mod : String) (hv : cfg.via = .d) (hflat : cfg.flat = false)
    (hmods : cfg.mods.contains mod = true) (hmne : mod ≠ "")
    (name nm : Name) (hne : name ≠ []) (hqual : qualified name = true) (ts : List String) (p : Path) (ps : List Path)
    (s : St) (k : Nat) (hk : 3 * (nm.length + 1) + ts.length ≤ k)
    (hparts : ∃ ps, partsOf name = some ps ∧ ps.head? = some mod)
    (hsys : sysLoad name = none) (hd : s.get .d (keyOf name) = none)
    (hqg : QuietAnc cfg .g s name) (hig : idx cfg .g (keyOf name) = [])
    (hi : idx cfg (.m mod) (keyOf name) = p :: ps)
    (hb : bodyAt cfg.tree p = some (.typ .typeset nm ts)) (hkey : keyOf nm = keyOf name)
    (hget : s.get (.m mod) (keyOf name) = none)
    (hhg : MemHyp cfg .g nm (((s.put .g (keyOf name) none).put (.m mod) (keyOf name) none).addRead p) ts)
    (hhm : MemHyp cfg (.m mod) nm (((s.put .g (keyOf name) none).put (.m mod) (keyOf name) none).addRead p) ts)
    (hfreshg : ∀ t ∈ ts, s.get .g (keyOf (nm ++ [t])) = none)
    (hfreshm : ∀ t ∈ ts, s.get (.m mod) (keyOf (nm ++ [t])) = none)
    (hfreshd : ∀ t ∈ ts, s.get .d (keyOf (nm ++ [t])) = none) :
    loadS (k+15) cfg s name =
      (.found ⟨.typeset, nm⟩, typesetState3 mod name nm ts p (s.put .g (keyOf name) none)) ∧
    (typesetState3 mod name nm ts p (s.put .g (keyOf name) none)).reads = s.reads ++ [p] ∧
    ∀ j t, ts[j]? = some t →
      (typesetState3 mod name nm ts p (s.put .g (keyOf name) none)).get .d (keyOf (nm ++ [t])) =
        some (some ⟨kindAt j, nm ++ [t]⟩) :=
  ⟨typeset_dep cfg mod hv hflat hmods hmne name nm hne hqual ts p ps s k hk hparts hsys hd hqg hig hi hb hkey hget hhg hhm
      hfreshg hfreshm hfreshd,
    by rw [typesetState3_reads]; rfl,
    fun j t ht => typesetState3_member mod name nm ts p _ hkey hhm.nodup j t ht⟩

/-- member resolution afterwards through the dependency loader: from its own cache, nothing read, nothing changed -/
theorem C15_member_cached_dependency (cfg : Cfg) (hv : cfg.via = .d) (name : Name) (s : St) (d : Def) (n : Nat)
    (hget : s.get .d (keyOf name) = some (some d)) : loadS (n+2) cfg s name = (.found d, s) :=
  loadS_found (by rw [hv, loadEntry_d, dLoadEntry_cached hget])

/-- non-vacuity: the three-segment type set of `setCfg2` through the dependency loader, from the empty caches -/
example :
    QuietAnc (setCfg2 .d) .g {} ["Other", "Sub", "Set"] ∧
    MemHyp (setCfg2 .d) .g ["Other", "Sub", "Set"]
      (((({} : St).put .g (keyOf ["Other", "Sub", "Set"]) none).put (.m "other") (keyOf ["Other", "Sub", "Set"]) none).addRead
        ["modules", "other", "types", "sub", "set.pp"]) ["Leaf", "Twig"] ∧
    MemHyp (setCfg2 .d) (.m "other") ["Other", "Sub", "Set"]
      (((({} : St).put .g (keyOf ["Other", "Sub", "Set"]) none).put (.m "other") (keyOf ["Other", "Sub", "Set"]) none).addRead
        ["modules", "other", "types", "sub", "set.pp"]) ["Leaf", "Twig"] ∧
    (runLoads 30 (setCfg2 .d) {} [["OTHER", "sub", "SET"], ["Other", "Sub", "Set", "Twig"], ["Other", "Sub", "Set", "Nope"]]).1 =
      [.found ⟨.typeset, ["Other", "Sub", "Set"]⟩, .found ⟨.object, ["Other", "Sub", "Set", "Twig"]⟩, .notfound] ∧
    (runLoads 30 (setCfg2 .d) {} [["OTHER", "sub", "SET"], ["Other", "Sub", "Set", "Twig"], ["Other", "Sub", "Set", "Nope"]]).2.reads =
      [["modules", "other", "types", "sub", "set.pp"]] := by
  exact And.imp quietAnc_of_check (And.imp memHyp_of_check (And.imp memHyp_of_check id)) (by decide +kernel)

/-! ## `Mod::A::B` requested where only `Mod::A` has a file (module loader, default topology) -/

/-- `Mod::A::B` has no file, `Mod::A` has a plain one below the module: the global loader misses completely (one
    placeholder), the module loader's parent search loads `Mod::A` — its file is the only read, it is defined — and
    `Mod::A::B` is `notfound` with a placeholder in each loader.  (Vice versa — `Mod::A` requested, only `Mod::A::B` has
    a file — nothing below the name is consulted: `C15_absent`, `C15_find_miss`.) -/
theorem C15_ancestor_loaded_module (cfg : Cfg) (mod : String) (hv : cfg.via = .m mod) (hflat : cfg.flat = false)
    (name : Name) (hqual : qualified name = true) (s : St) (m : Nat) (hfuel : 3 * name.length ≤ m + 8)
    (hsys : sysLoad name = none)
    (hqg : QuietAnc cfg .g s name) (hig : idx cfg .g (keyOf name) = [])
    (hroute : Routed (.m mod) name) (hroutep : Routed (.m mod) name.dropLast)
    (hvalid : (partsOf name).isSome)
    (hfresh : s.get (.m mod) (keyOf name) = none) (hi : idx cfg (.m mod) (keyOf name) = [])
    (hqa : QuietAnc cfg (.m mod) s name.dropLast)
    (p : Path) (ps : List Path) (hip : idx cfg (.m mod) (keyOf name.dropLast) = p :: ps)
    (b : Body) (d : Def) (hb : bodyAt cfg.tree p = some b) (hd : definedBy b name.dropLast = some d)
    (hk : d.kind ≠ .typeset) :
    loadS (m+13) cfg s name =
      (.notfound, (((((s.put .g (keyOf name) none).put (.m mod) (keyOf name.dropLast) none).addRead p).put (.m mod)
        (keyOf name.dropLast) (some d)).put (.m mod) (keyOf name) none)) :=
  ancestor_module_good cfg mod hv hflat name hqual s m hfuel hsys hqg hig hroute hroutep hvalid hfresh hi hqa p ps hip b d
    hb hd hk

/-- a defective `Mod::A` file is the error of the lookup of `Mod::A::B`, naming that file (and the line of a syntax
    error); nothing is bound -/
theorem C15_ancestor_error_module (cfg : Cfg) (mod : String) (hv : cfg.via = .m mod) (hflat : cfg.flat = false)
    (name : Name) (hqual : qualified name = true) (s : St) (m : Nat) (hfuel : 3 * name.length ≤ m + 8)
    (hsys : sysLoad name = none)
    (hqg : QuietAnc cfg .g s name) (hig : idx cfg .g (keyOf name) = [])
    (hroute : Routed (.m mod) name) (hroutep : Routed (.m mod) name.dropLast)
    (hfresh : s.get (.m mod) (keyOf name) = none) (hi : idx cfg (.m mod) (keyOf name) = [])
    (hpfresh : s.get (.m mod) (keyOf name.dropLast) = none)
    (p : Path) (ps : List Path) (hip : idx cfg (.m mod) (keyOf name.dropLast) = p :: ps)
    (b : Body) (hb : bodyAt cfg.tree p = some b) (hd : Defective b name.dropLast) :
    loadS (m+13) cfg s name =
      (.failed (defectErr p b), ((s.put .g (keyOf name) none).put (.m mod) (keyOf name.dropLast) none).addRead p) :=
  ancestor_module_defective cfg mod hv hflat name hqual s m hfuel hsys hqg hig hroute hroutep hfresh hi hpfresh p ps hip b
    hb hd

def ancCfg : Cfg :=
  { mods := ["mymod"], via := .m "mymod",
    tree := [(["modules", "mymod", "types", "a.pp"], .typ .object ["Mymod", "A"] []),
             (["modules", "mymod", "types", "bad.pp"], .malformed 2),
             (["modules", "mymod", "types", "c", "d.pp"], .typ .alias ["Mymod", "C", "D"] [])] }

/-- non-vacuity: `Mymod::A::B` loads `Mymod::A` on the way and stays absent; `Mymod::Bad::X` reports the parse error of
    `bad.pp` with its line; vice versa `Mymod::C` (only `Mymod::C::D` has a file) is absent and reads nothing -/
example : QuietAnc ancCfg .g {} ["Mymod", "A", "B"] ∧ QuietAnc ancCfg (.m "mymod") {} ["Mymod", "A"] ∧
    Routed (.m "mymod") ["Mymod", "A", "B"] ∧ Routed (.m "mymod") ["Mymod", "A"] ∧
    (runLoads 20 ancCfg {} [["Mymod", "A", "B"], ["Mymod", "A"], ["Mymod", "A", "B"]]).1 =
      [.notfound, .found ⟨.object, ["Mymod", "A"]⟩, .notfound] ∧
    (runLoads 20 ancCfg {} [["Mymod", "A", "B"], ["Mymod", "A"], ["Mymod", "A", "B"]]).2.reads =
      [["modules", "mymod", "types", "a.pp"]] ∧
    (loadS 20 ancCfg {} ["Mymod", "Bad", "X"]).1 =
      .failed (.reported "PARSE_ERROR" (some ["modules", "mymod", "types", "bad.pp"]) 2) ∧
    (loadS 20 ancCfg {} ["Mymod", "C"]).1 = .notfound ∧ (loadS 20 ancCfg {} ["Mymod", "C"]).2.reads = [] := by
  exact And.imp quietAnc_of_check (And.imp quietAnc_of_check (And.imp
    (fun h : partsOf ["Mymod", "A", "B"] = some ["mymod", "a", "b"] => routed_m rfl h rfl) (And.imp
    (fun h : partsOf ["Mymod", "A"] = some ["mymod", "a"] => routed_m rfl h rfl) id))) (by decide +kernel)

/-! ## a module's own name through the dependency loader: `init_typeset.pp` -/

/-- the lookup `Mod` (unqualified) through the DEPENDENCY loader in the default topology, for any list of distinct,
    ordinary modules: the name is not routed but offered to every module loader in turn — each asks the global loader
    first (a complete miss and a placeholder the first time, the placeholder afterwards); a module of another name refuses
    it (a placeholder); the module of that name reads `init_typeset.pp` — the only read — and resolves the type set into
    the dependency loader (three placeholders and a definition per member), answering its own placeholder, so the loop
    goes on over the remaining modules and ends with the entry the dependency loader holds by then: found, with the exact
    state `skipMods after (typesetState3 … (skipMods before …))` -/
theorem C15_init_typeset_dependency (cfg : Cfg) (mod a : String) (hv : cfg.via = .d) (hflat : cfg.flat = false)
    (hguard : cfg.guardInit = true) (before after : List String) (hmodsEq : cfg.mods = before ++ mod :: after)
    (hnd : cfg.mods.Nodup) (hoth : ∀ m ∈ before ++ after, isGlobalMod m = false) (hmg : isGlobalMod mod = false)
    (hparts : partsOf [a] = some [mod]) (hsys : sysLoad [a] = none)
    (nm : Name) (ts : List String) (o : Path) (os : List Path) (s : St) (k : Nat)
    (hk : 3 * (nm.length + 1) + ts.length ≤ k)
    (hi : idx cfg (.m mod) ["init_typeset"] = o :: os)
    (hb : bodyAt cfg.tree o = some (.typ .typeset nm ts)) (hkey : keyOf nm = [mod])
    (hd : s.get .d [mod] = none) (hgs : s.get .g [mod] = none) (hig : idx cfg .g [mod] = [])
    (hfm : ∀ m ∈ cfg.mods, s.get (.m m) [mod] = none)
    (hhg : MemHyp cfg .g nm (((skipMods [mod] before (s.put .g [mod] none)).put (.m mod) [mod] none).addRead o) ts)
    (hhm : MemHyp cfg (.m mod) nm (((skipMods [mod] before (s.put .g [mod] none)).put (.m mod) [mod] none).addRead o) ts)
    (hfreshg : ∀ t ∈ ts, s.get .g (keyOf (nm ++ [t])) = none)
    (hfreshm : ∀ t ∈ ts, s.get (.m mod) (keyOf (nm ++ [t])) = none)
    (hfreshd : ∀ t ∈ ts, s.get .d (keyOf (nm ++ [t])) = none) :
    loadS (k + cfg.mods.length + 16) cfg s [a] =
      (.found ⟨.typeset, nm⟩,
        skipMods [mod] after (typesetState3 mod [a] nm ts o (skipMods [mod] before (s.put .g [mod] none)))) ∧
    (skipMods [mod] after (typesetState3 mod [a] nm ts o (skipMods [mod] before (s.put .g [mod] none)))).reads =
      s.reads ++ [o] :=
  ⟨init_typeset_dep cfg mod a hv hflat hguard before after hmodsEq hnd hoth hmg hparts hsys nm ts o os s k hk hi hb hkey hd hgs
      hig hfm hhg hhm hfreshg hfreshm hfreshd,
    by rw [skipMods_reads, typesetState3_reads, skipMods_reads]; rfl⟩

def initCfg : Cfg :=
  { mods := ["other", "mymod", "m3"], via := .d,
    tree := [(["modules", "mymod", "types", "init_typeset.pp"], .typ .typeset ["Mymod"] ["Ta", "Tb"])] }

/-- non-vacuity: three modules, the one in the middle has the `init_typeset`; hypotheses from the empty caches -/
example :
    MemHyp initCfg .g ["Mymod"]
      (((skipMods ["mymod"] ["other"] (({} : St).put .g ["mymod"] none)).put (.m "mymod") ["mymod"] none).addRead
        ["modules", "mymod", "types", "init_typeset.pp"]) ["Ta", "Tb"] ∧
    MemHyp initCfg (.m "mymod") ["Mymod"]
      (((skipMods ["mymod"] ["other"] (({} : St).put .g ["mymod"] none)).put (.m "mymod") ["mymod"] none).addRead
        ["modules", "mymod", "types", "init_typeset.pp"]) ["Ta", "Tb"] ∧
    partsOf ["MYMOD"] = some ["mymod"] ∧
    (runLoads 40 initCfg {} [["MYMOD"], ["Mymod", "Tb"], ["Mymod"]]).1 =
      [.found ⟨.typeset, ["Mymod"]⟩, .found ⟨.object, ["Mymod", "Tb"]⟩, .found ⟨.typeset, ["Mymod"]⟩] ∧
    (runLoads 40 initCfg {} [["MYMOD"], ["Mymod", "Tb"], ["Mymod"]]).2.reads =
      [["modules", "mymod", "types", "init_typeset.pp"]] := by
  exact And.imp memHyp_of_check (And.imp memHyp_of_check id) (by decide +kernel)

/-! ## termination of the model -/

/-- with the placeholder guard (fix 51b01c7) no lookup diverges: for ANY tree, module list, context loader, topology, state
    and name, fuel `fuelBound cfg s name` = `(W + 1) * (|mods| + T + 3 * (|name| + W) + 14)` suffices, where `W` =
    `pot cfg s` is the number of instantiable (loader, key) pairs the state holds nothing for and `T` the largest number of
    members of a type-set file; moreover a lookup never removes an entry.  (`instantiate` installs the placeholder before
    the recursion re-enters, so `W` drops at every instantiation; `C15_once_needs_guard`: without the guard the answer IS
    `diverges`.) -/
theorem C15_terminates (cfg : Cfg) (hg : cfg.guardInit = true) (s : St) (name : Name) (fuel : Nat)
    (hf : fuelBound cfg s name ≤ fuel) :
    (loadS fuel cfg s name).1 ≠ .failed .diverges ∧ Mono s (loadS fuel cfg s name).2 :=
  load_terminates cfg hg s name _ _ fuel (Nat.le_refl _) (Nat.le_refl _) hf

/-- a whole lookup sequence: one bound (longest name, initial potential) for every lookup of it -/
theorem C15_terminates_seq (cfg : Cfg) (hg : cfg.guardInit = true) (names : List Name) (s : St) (fuel : Nat)
    (hf : seqBound cfg s names ≤ fuel) : ∀ o ∈ (runLoads fuel cfg s names).1, o ≠ .failed .diverges :=
  runLoads_terminates cfg hg _ _ fuel hf names s (Nat.le_refl _) (Nat.le_refl _)

/-- non-vacuity: the bound is a small number for a concrete tree (far below the driver's fuel 5000), and with that fuel
    the type-set sequence of `C15_once` is answered -/
example : fuelBound tsCfg {} ["Mymod", "Ta"] = 228 ∧ tsCfg.guardInit = true ∧
    seqBound tsCfg {} [["Mymod", "Ta"], ["mymod"], ["Mymod", "Thing"]] = 228 ∧
    (runLoads 228 tsCfg {} [["Mymod", "Ta"], ["mymod"], ["Mymod", "Thing"]]).1 =
      [.found ⟨.alias, ["Mymod", "Ta"]⟩, .found ⟨.typeset, ["Mymod"]⟩, .found ⟨.alias, ["Mymod", "Thing"]⟩] := by
  decide +kernel

/-! ## the fuel is immaterial -/

/-- a lookup that does not run out of fuel answers the same — outcome AND state — with any larger fuel (for any tree,
    modules, context loader, state, name; also without the guard).  Hence every theorem above that names a fuel (`n+7`,
    `m+8`, `k+10`, …) holds for every larger fuel as well. -/
theorem C15_fuel_irrelevant (cfg : Cfg) (s : St) (name : Name) (n m : Nat) (hnm : n ≤ m)
    (h : (loadS n cfg s name).1 ≠ .failed .diverges) : loadS m cfg s name = loadS n cfg s name :=
  loadS_fuel_mono cfg s name n m hnm h

theorem C15_fuel_irrelevant_seq (cfg : Cfg) (n m : Nat) (hnm : n ≤ m) (names : List Name) (s : St)
    (h : ∀ o ∈ (runLoads n cfg s names).1, o ≠ .failed .diverges) : runLoads m cfg s names = runLoads n cfg s names :=
  runLoads_fuel_mono cfg n m hnm names s h

/-- with the guard the answer of a lookup sequence is DETERMINED: every fuel from `seqBound` on gives the same outcomes
    and the same state (termination + fuel irrelevance) — in particular the driver's `max 5000 (seqBound …)` -/
theorem C15_answer_determined (cfg : Cfg) (hg : cfg.guardInit = true) (names : List Name) (s : St) (fuel : Nat)
    (hf : seqBound cfg s names ≤ fuel) :
    runLoads fuel cfg s names = runLoads (seqBound cfg s names) cfg s names :=
  runLoads_fuel_mono cfg _ fuel hf names s
    (runLoads_terminates cfg hg _ _ _ (Nat.le_refl _) names s (Nat.le_refl _) (Nat.le_refl _))

/-- non-vacuity: fuel 14 is enough for this sequence (no `diverges`), so fuel 5000 gives the very same result -/
example : (∀ o ∈ (runLoads 14 flatCfg {} [["BILLING"], ["Billing", "Invoice"], ["Other"]]).1, o ≠ .failed .diverges) ∧
    runLoads 5000 flatCfg {} [["BILLING"], ["Billing", "Invoice"], ["Other"]] =
      runLoads 14 flatCfg {} [["BILLING"], ["Billing", "Invoice"], ["Other"]] := by
  have h : ∀ o ∈ (runLoads 14 flatCfg {} [["BILLING"], ["Billing", "Invoice"], ["Other"]]).1, o ≠ .failed .diverges := by
    decide +kernel
  exact ⟨h, C15_fuel_irrelevant_seq flatCfg 14 5000 (by decide +kernel) _ _ h⟩

/-! ## a miss recorded by the dependency loader is not final (fix 9d272bd) -/

/-- the dependency loader holds a recorded miss for `Mod::X`; meanwhile `Mod::X` has been defined through the module's
    DefiningLoader (no file: `px.AddTypes`): the lookup runs `find` again, finds the module's definition, stores it over
    the miss and answers it — 'found iff a file / definition exists NOW' -/
theorem C15_dependency_miss_not_final (cfg : Cfg) (mod : String) (hv : cfg.via = .d) (hflat : cfg.flat = false)
    (hmods : cfg.mods.contains mod = true) (name : Name) (hqual : qualified name = true)
    (hparts : ∃ ps, partsOf name = some ps ∧ ps.head? = some mod) (hsys : sysLoad name = none)
    (s : St) (d : Def) (n : Nat)
    (hd : s.get .d (keyOf name) = some none) (hg : s.get .g (keyOf name) = some none)
    (hm : s.get (.m mod) (keyOf name) = some (some d)) :
    loadS (n+5) cfg s name = (.found d, s.put .d (keyOf name) (some d)) := by
  refine loadS_found ?_
  rw [hv, loadEntry_d, dLoadEntry_retry (by rw [hd]; nofun)
    (dFind_routed hmods hqual hparts _ ▸ (Below.child_cached hflat hsys hg).cached (n := n+1) (by omega) hm), hd]
  simp only [dStore, bind, setEntry, hd, pure]

/-- … and when the module still has nothing, `find` misses again: `notfound`, the state is untouched (the miss is recorded
    only once); a cached VALUE is final (`C15_member_cached_dependency`) -/
theorem C15_dependency_miss_again (cfg : Cfg) (mod : String) (hv : cfg.via = .d) (hflat : cfg.flat = false)
    (hmods : cfg.mods.contains mod = true) (name : Name) (hqual : qualified name = true)
    (hparts : ∃ ps, partsOf name = some ps ∧ ps.head? = some mod) (hsys : sysLoad name = none)
    (s : St) (n : Nat)
    (hd : s.get .d (keyOf name) = some none) (hg : s.get .g (keyOf name) = some none)
    (hm : s.get (.m mod) (keyOf name) = some none) :
    loadS (n+5) cfg s name = (.notfound, s) := by
  refine loadS_notfound ?_
  rw [hv, loadEntry_d, dLoadEntry_retry (by rw [hd]; nofun)
    (dFind_routed hmods hqual hparts _ ▸ (Below.child_cached hflat hsys hg).cached (n := n+1) (by omega) hm), hd]
  rfl

/-- non-vacuity, the whole story from the empty caches (no file at all): miss, miss again (same state), definition through
    the module's loader, found in either letter case, found from the cache -/
example :
    let s1 := (loadS 20 absCfg {} ["Other", "Late"]).2
    let s2 := (defineS s1 (.m "other") ["Other", "Late"]).2
    (loadS 20 absCfg {} ["Other", "Late"]).1 = .notfound ∧
    s1.get .d (keyOf ["Other", "Late"]) = some none ∧ s1.get .g (keyOf ["Other", "Late"]) = some none ∧
    s1.get (.m "other") (keyOf ["Other", "Late"]) = some none ∧
    loadS 20 absCfg s1 ["Other", "Late"] = (.notfound, s1) ∧
    defineS s1 (.m "other") ["Other", "Late"] = (none, s1.put (.m "other") (keyOf ["Other", "Late"]) (some ⟨.alias, ["Other", "Late"]⟩)) ∧
    s2.get (.m "other") (keyOf ["Other", "Late"]) = some (some ⟨.alias, ["Other", "Late"]⟩) ∧
    (runLoads 20 absCfg s2 [["OTHER", "late"], ["Other", "Late"]]).1 =
      [.found ⟨.alias, ["Other", "Late"]⟩, .found ⟨.alias, ["Other", "Late"]⟩] := by
  decide +kernel

/-! ## negation witnesses for the known findings -/

/-- known finding C15-misnamed-no-line: the error for a misnamed file names the file but no line (`C15_error_full` asks
    for one) -/
theorem C15_misnamed_no_line : ¬ C15_error_full := by
  intro h
  have hc : sysLoad ["Ns", "Deep"] = none ∧ idx gCfg .g (keyOf ["Ns", "Deep"]) = [["env", "types", "ns", "deep.pp"]] ∧
      bodyAt gCfg.tree ["env", "types", "ns", "deep.pp"] = some (.typ .alias ["Ns", "Other"] []) ∧
      keyOf ["Ns", "Other"] ≠ keyOf ["Ns", "Deep"] ∧
      (loadS 7 gCfg {} ["Ns", "Deep"]).1 =
        .failed (.reported "PCORE_WRONG_DEFINITION" (some ["env", "types", "ns", "deep.pp"]) 0) := by decide +kernel
  obtain ⟨code, line, hl, he⟩ := h gCfg ["Ns", "Deep"] 7 ["env", "types", "ns", "deep.pp"] [] .alias ["Ns", "Other"] []
    rfl (Nat.le_refl _) hc.1 hc.2.1 hc.2.2.1 hc.2.2.2.1
  rw [hc.2.2.2.2] at he
  injection he with he
  injection he with _ _ h3
  omega

def dupCfg : Cfg :=
  { mods := ["mymod"], via := .d,
    tree := [(["env", "types", "mymod", "thing.pp"], .typ .object ["Mymod", "Thing"] []),
             (["modules", "mymod", "types", "thing.pp"], .typ .alias ["Mymod", "Thing"] [])] }

/-- known finding C15-duplicate-redefine: a name with a file below the global loader and a file below the module, loaded
    through the dependency loader, is answered by a redefinition error the first time (both files are read) and found
    afterwards — although a justified definition exists -/
theorem C15_duplicate_redefine :
    (runLoads 40 dupCfg {} [["Mymod", "Thing"], ["Mymod", "Thing"]]).1 =
      [.failed (.reported "PCORE_ATTEMPT_TO_REDEFINE_TYPE" none 0), .found ⟨.object, ["Mymod", "Thing"]⟩] ∧
    (runLoads 40 dupCfg {} [["Mymod", "Thing"], ["Mymod", "Thing"]]).2.reads =
      [["env", "types", "mymod", "thing.pp"], ["modules", "mymod", "types", "thing.pp"]] := by
  decide +kernel

/-- the full "found ⇔ a justified definition exists" is false as stated: for the layout of `C15_duplicate_redefine` the
    first lookup reports a redefinition although a file at the derived path defines the name -/
theorem C15_found_iff_fails : ¬ C15_found_iff_full := by
  intro h
  -- the first lookup of `C15_duplicate_redefine`; the fuel is immaterial
  have h40 : (loadS 40 dupCfg {} ["Mymod", "Thing"]).1 = .failed (.reported "PCORE_ATTEMPT_TO_REDEFINE_TYPE" none 0) :=
    (List.cons.inj (runLoads_cons_fst .. ▸ C15_duplicate_redefine.1)).1
  have h5000 := congrArg Prod.fst (C15_fuel_irrelevant dupCfg {} ["Mymod", "Thing"] 40 5000 (by decide) (by rw [h40]; decide))
  have hc : sysLoad ["Mymod", "Thing"] = none ∧ Kind.object ≠ .core ∧
      bodyAt dupCfg.tree ["env", "types", "mymod", "thing.pp"] = some (.typ .object ["Mymod", "Thing"] []) ∧
      idx dupCfg .g (keyOf ["Mymod", "Thing"]) = [["env", "types", "mymod", "thing.pp"]] := by decide +kernel
  obtain ⟨d, hd⟩ := (h dupCfg ["Mymod", "Thing"] 5000 (Nat.le_refl _) hc.1).mpr
    ⟨⟨.object, ["Mymod", "Thing"]⟩, rfl, hc.2.1,
      Or.inr ⟨["env", "types", "mymod", "thing.pp"], .typ .object ["Mymod", "Thing"] [], hc.2.2.1,
        Or.inl ⟨[], rfl, .g, Or.inl (by rw [hc.2.2.2]; exact List.mem_singleton.mpr rfl)⟩⟩⟩
  rw [h5000, h40] at hd
  cases hd

end Pcore.Files

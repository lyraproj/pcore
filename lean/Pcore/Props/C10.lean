import Pcore.Proofs.SerMemo
import Pcore.Proofs.SerPlain
import Pcore.Proofs.SerB64
import Pcore.Proofs.SerShared
import Pcore.Proofs.SerArms
import Pcore.Proofs.SpanCodec
import Pcore.Generated.SerArms
/-!
# C10 — Rich-data serialization round-trips under every option and consumer capability

Property (properties.jsonl): for every rich-data value and every combination of serializer options
{rich_data, local_reference, dedup_level 0..2} and consumer capabilities {binary, complex keys, string de-dup
threshold}, deserializing the emitted event stream yields a value equal to the original (Sensitive by wrapped
content).  The stream is well formed: every back-reference points to an earlier position that held an equal value,
hashes receive alternating keys and values, and only plain Data is emitted for capabilities the consumer lacks.
(Reading for rich_data=false: the stream laws hold for every value; the round trip is claimed for Data values.)

The option matrix is a QUANTIFIER here: `∀ (o : Opts) (cp : Caps)` — `cp.thr` is any natural number, `o.dedup` any
natural number (the op syntax uses 0..2).  Model: `Pcore/Model/Ser.lean` (serializer.go, basiccollector.go,
deserializer.go as they are now).

Full statement / proved / missing
* `C10_positions`        — PROVED, every value: whenever the serializer's `refIndex` equals the number of positions the
                           collector holds, it does so again after any `toData` call whose event the collector accepted
                           (the key invariant: both advance by `Ev.npos`).
* `C10_hash_alternation` — PROVED, every value: every hash of the stream has an even number of children (key, value, …).
* `C10_caps`             — PROVED, every value: no Binary is handed to a consumer without binary support; a consumer
                           without complex-key support receives only plain strings as hash keys (not even references).
                           "Only Data is emitted" is true by construction of the model (`Ev.add` carries `Sc` only; the
                           harness checks on the implementation that `Add` never receives anything else: `rich-leak`).
* `C10_refs_wellformed`  — PROVED, every value with coherent sharing: resolving the references of the emitted stream
                           (`expand`: a reference must name an EARLIER, COMPLETED position) succeeds and gives exactly
                           the stream the serializer emits with local_reference=false — i.e. every reference stands for
                           a position that held the value it replaces.
* `C10_roundtrip_partial` — (full statement: `C10_roundtrip_full`, refuted by `C10_reserved_key_collision`) PROVED for DAGs (shared arrays, hashes, strings, Sensitive, Binary, leaves, types — anonymous
                           and named ones the loader knows —, object instances; non-string keys; hashes as keys) under
                           two hypotheses:
                             `Shared`  equal identities carry equal values (what "the same object twice" means),
                             `Frag`    no user hash that the deserializer re-interprets (all keys strings, one of them
                                       `__ptype`): known finding C10-reserved-ptype-key, negation `C10_reserved_key_collision`;
                                       object instances are of the catalogue's types and their attribute names are
                                       not the reserved keys; a Timespan payload is the text of some duration; and
                                       with rich_data=false the value is Data (Binary included when the consumer takes
                                       Binary as it is).  Nothing else is excluded: see "What `Frag` excludes" below.
                           Leaf codecs INSIDE the model: Binary = base64, proved to invert (`unb64_b64`); Timespan =
                           the default format `%D-%H:%M:%S.%-N` as timespantype.go prints and parses it, proved to
                           invert for every number of nanoseconds (`C10_span_codec`); Regexp = the identity on the
                           pattern source (that is what the code does; only "the source compiles" is outside).
* read with care:         the stream laws hold "for every value" of the MODEL's value type, including the matrix cells
                           the model does not render faithfully (`V.disp` of a float / container used as a non-string key
                           with rich_data=false and no complex keys is the placeholder "?float"/"?array"/"?hash"; `V.dispOk`
                           is false there and those cells run on the implementation only): there the laws are true of the
                           model but say nothing about the code.  `r.abs = v.abs` compares content only — that a shared
                           object comes back shared is not claimed.  For SemVer/SemVerRange/Timestamp/URI/type text the
                           round trip is built into `decodeLeaf` (the decoder returns the payload): a restatement for
                           those leaves; Binary and Timespan are real codecs.
* `C10_arms_ok`          — obligation over the table regenerated from serializer.go (second tie): the emit discipline the
                           model executes is the code's; `C10_impl_*` are the theorems instantiated on that table.
* missing: that the deserializer REGISTERS type definitions that arrive in the stream (`newTypes`, `AddTypes`; the
  definitions themselves are modelled, as instances of Pcore::ObjectType, and covered by `C10_roundtrip_partial`);
  objects with defaulted / typed attributes beyond "the init hash comes back" (C17); RuntimeValue;
  the real leaf codecs of SemVer, SemVerRange, Timestamp, URI and type text: such a leaf is an abstract payload
  `enc` and decoding a `__pvalue` string of a known type name returns it — exercised on the implementation by the direct
  predicate only; `String()` of floats/containers used as non-string keys with rich_data=false and no complex-key
  support (those matrix cells run on the implementation only).
-/
namespace Pcore.Ser

/-- "the same object used twice": there is an assignment of a reference-free event to every identity (strings: by
    content) with which every node of `v` agrees -/
def Shared (c : Cfg) (v : V) : Prop := ∃ F : Key → Ev, FStr F ∧ Coh c F v

/-- `Shared` is implied by the decidable check the driver runs on every op value (every node agrees with the first
    node of its identity) -/
theorem C10_shared_of_check (c : Cfg) (v : V) (h : sharedB c v = true) : Shared c v :=
  ⟨Fof (keysOf c v), fun _ => rfl, cohB_sound c _ v h⟩

/-! ### stream laws — every value, every option, every capability -/

/-- the position invariant: serializer's refIndex = number of positions the collector has, maintained by every
    `toData` call (so also at every intermediate point of a `Convert`) -/
theorem C10_positions (c : Cfg) (level : Nat) (v : V) (st : St) (vals : List Slot) (d : V) (vals' : List Slot)
    (h0 : st.ref = vals.length) (hc : collect (toData c level v st).1 vals = .ok (d, vals')) :
    (toData c level v st).2.ref = vals'.length := by
  have h1 := (toData_good c false false (by simp) (by simp) level v st).2
  have h2 := collect_len _ _ _ _ hc
  omega

theorem C10_hash_alternation (o : Opts) (cp : Caps) (v : V) : (serialize o cp v).wf false false = true :=
  (toData_good (mkCfg o cp) false false (by simp) (by simp) 1 v St.init).1

/-- `wf sk nb`: with `sk` every hash key is a plain string event, with `nb` no Binary event occurs -/
theorem C10_caps (o : Opts) (cp : Caps) (v : V) : (serialize o cp v).wf (!cp.cplx) (!cp.bin) = true :=
  (toData_good (mkCfg o cp) (!cp.cplx) (!cp.bin)
    (fun h => mkCfg_keys o cp (by simpa using h)) (fun h => by simpa [mkCfg] using h) 1 v St.init).1


/-- every back-reference names an earlier completed position holding the value it stands for: resolving them gives the
    reference-free stream -/
theorem C10_refs_wellformed (o : Opts) (cp : Caps) (v : V) (hS : Shared (mkCfg o cp) v) :
    ∃ env, expand (serialize o cp v) [] = some (serialize { o with localRef := false } cp v, env) := by
  obtain ⟨F, hF, hC⟩ := hS
  obtain ⟨env, he, _⟩ := toData_step (mkCfg o cp) F hF 1 v St.init [] (Inv.init F) hC
  exact ⟨env, by rw [serialize_noref]; exact he⟩

/-- deserializing the emitted stream yields the original value (identities aside; Sensitive by content) -/
theorem C10_roundtrip_partial (o : Opts) (cp : Caps) (v : V) (hS : Shared (mkCfg o cp) v) (hf : Frag (mkCfg o cp) v) :
    ∃ r, deserialize (serialize o cp v) = .ok r ∧ r.abs = v.abs := by
  obtain ⟨F, hF, hC⟩ := hS
  -- the reference-free stream reads back, identity-free, as the original
  obtain ⟨d0, hd1, hd2, _, _⟩ := plain_trip (mkCfg o cp) unb64_b64 v hf
  -- the collector, run against the writer, builds that Data …
  obtain ⟨_, d, vals', hc, hd, _⟩ := toData_sim (mkCfg o cp) hF 1 (Sim.init F) hC hd1
  -- … with consistent identities, so the memo is transparent
  obtain ⟨_, hcons, _⟩ := collect_cons _ [] d vals' hc CInv.init
  obtain ⟨r, ds', hr, hra, _⟩ := convert_cnv (Gof vals') d DS.init v.abs hcons (MInv.init _) (by rw [hd]; exact hd2)
  refine ⟨r, ?_, hra⟩
  have hc' : collect (serialize o cp v) [] = .ok (d, vals') := hc
  simp only [deserialize, hc', hr]

/-! ### leaf codecs inside the model -/

/-- the Timespan codec (default format) inverts: parsing what `format` prints gives the duration back, for every number
    of nanoseconds, negative ones and fractions with leading zeroes included -/
theorem C10_span_codec (ns : Int) : parseSpan (printSpan ns) = some ns := span_codec ns

/-- so every Timespan has a payload that meets the round-trip theorem's hypothesis -/
theorem C10_span_canonical (ns : Int) : canonLeaf .ts (printSpan ns) = true := by
  simp [canonLeaf, canonSpan, span_codec]

example : (printSpan (-50000000) == "-0-00:00:00.05") = true ∧ (printSpan 90500000000 == "0-00:01:30.5") = true ∧
    parseSpan "1-1:2:3.4" = some 90123400000000 := by decide +kernel

/-! ### non-vacuity: the hypotheses are satisfiable by a non-trivial DAG, for every option and capability -/

def longStr : String := "a string long enough to be de-duplicated"

/-- a hash with non-string keys (one of them an array) holding a Sensitive Binary; used twice; next to a shared long
    string, a shared Regexp leaf, a Timespan (content identity) and `default` -/
def sampleHash : V :=
  .hash 2 [(.int 1, .str longStr), (.arr 3 [.int 1, .str "k"], .sens 4 (.bin 5 [1, 2, 3])), (.str "s", .dflt)]
def sampleDag : V :=
  .arr 1 [sampleHash, sampleHash, .str longStr, .leaf 6 .rx "a.*b" "/a.*b/", .leaf 6 .rx "a.*b" "/a.*b/",
    .leaf 7 .ts "0-00:01:30.5" "90", .leaf 8 .ts "0-00:01:30.5" "90", .hash 9 [(sampleHash, .str longStr)]]

theorem sampleDag_shared : ∀ rich bin cplx, sharedB (mkCfg ⟨rich, true, 2⟩ ⟨bin, cplx, 0⟩) sampleDag = true := by
  decide +kernel
theorem sampleDag_noRes : sampleDag.noRes = true := by decide +kernel
example : ∀ rich bin cplx, sharedB (mkCfg ⟨rich, true, 2⟩ ⟨bin, cplx, 0⟩) sampleDag = true := sampleDag_shared
example : sampleDag.noRes = true := sampleDag_noRes
/-- the stream for the default options has back-references to the hash, the string, the leaf and the Timespan -/
example : serialize ⟨true, true, 2⟩ ⟨true, true, 0⟩ (.arr 1 [sampleHash, sampleHash, .str longStr]) =
    .arr [.hsh [.add (.int 1), .add (.str longStr),
                .arr [.add (.int 1), .add (.str "k")],
                .hsh [.add (.str "__ptype"), .add (.str "Sensitive"), .add (.str "__pvalue"), .add (.bin [1, 2, 3])],
                .add (.str "s"), .hsh [.ref 8, .add (.str "Default")]],
          .ref 1, .ref 3] := Ev.beq_eq _ _ (by decide +kernel)
/-- the theorems apply to it: for every threshold, with rich data -/
example (cp : Caps) (dedup : Nat) (lref : Bool) (h : sharedB (mkCfg ⟨true, lref, dedup⟩ cp) sampleDag = true) :
    ∃ r, deserialize (serialize ⟨true, lref, dedup⟩ cp sampleDag) = .ok r ∧ r.abs = sampleDag.abs :=
  C10_roundtrip_partial _ _ _ (C10_shared_of_check _ _ h) ⟨sampleDag_noRes, fun h => by simp [mkCfg] at h⟩
/-- … and a Data value with rich_data=false, shared array and string -/
def sampleData : V := .arr 1 [.arr 2 [.str longStr, .flt 4609434218613702656], .arr 2 [.str longStr, .flt 4609434218613702656],
  .hash 3 [(.str "k", .str longStr), (.str "__pvalue", .undef)]]
example : ∃ r, deserialize (serialize ⟨false, true, 2⟩ ⟨false, false, 20⟩ sampleData) = .ok r ∧ r.abs = sampleData.abs :=
  C10_roundtrip_partial _ _ _ (C10_shared_of_check _ _ (by decide +kernel)) ⟨by decide +kernel, fun _ => by decide +kernel⟩
/-- … and object instances (shared, nested, holding a Sensitive) with named and anonymous types -/
def samplePair : V := .obj 2 "Verif::Pair" "Verif::Pair('a' => 1, 'b' => …)" [("a", .int 1), ("b", .sens 3 (.str longStr))]
def sampleObjs : V :=
  .arr 1 [samplePair, samplePair, .obj 4 "Verif::Box" "Verif::Box(…)" [("v", samplePair)], .str "Verif::Pair",
    .leaf 5 .td "Verif::Pair" "Verif::Pair", .leaf 6 .ty "Integer[1, 2]" "Integer[1, 2]", .obj 7 "Verif::Unit" "Verif::Unit()" []]
example : ∃ r, deserialize (serialize ⟨true, true, 2⟩ ⟨false, false, 0⟩ sampleObjs) = .ok r ∧ r.abs = sampleObjs.abs :=
  C10_roundtrip_partial _ _ _ (C10_shared_of_check _ _ (by decide +kernel)) ⟨by decide +kernel, fun h => by simp [mkCfg] at h⟩

/-- the references of the sample resolve to the stream emitted with local_reference=false, whatever the consumer -/
example (cp : Caps) (h : sharedB (mkCfg ⟨true, true, 2⟩ cp) sampleDag = true) :
    ∃ env, expand (serialize ⟨true, true, 2⟩ cp sampleDag) [] = some (serialize ⟨true, false, 2⟩ cp sampleDag, env) :=
  C10_refs_wellformed _ _ _ (C10_shared_of_check _ _ h)
example : (serialize ⟨true, true, 2⟩ ⟨false, false, 0⟩ sampleDag).wf true true = true := C10_caps _ ⟨false, false, 0⟩ _

/-- the position invariant is not vacuous: the collector accepts the stream of the sample -/
example : ∃ d vals', collect (serialize ⟨true, true, 2⟩ ⟨false, false, 0⟩ sampleDag) [] = .ok (d, vals') ∧
    vals'.length = (serialize ⟨true, true, 2⟩ ⟨false, false, 0⟩ sampleDag).npos := by
  obtain ⟨r, hr, _⟩ := C10_roundtrip_partial ⟨true, true, 2⟩ ⟨false, false, 0⟩ sampleDag
    (C10_shared_of_check _ _ (sampleDag_shared true false false)) ⟨sampleDag_noRes, fun h => by simp [mkCfg] at h⟩
  obtain ⟨d, vals', hc⟩ := collect_of_deserialize hr
  exact ⟨d, vals', hc, by simpa using collect_len _ _ _ _ hc⟩

/-! ### the laws are discriminating, the hypotheses needed -/

/-- the capability laws are not trivially true: handed to a consumer WITH binary and complex-key support the same value
    produces a Binary event and a non-string key, which `wf true true` rejects -/
example : (serialize ⟨true, true, 2⟩ ⟨true, true, 0⟩ sampleDag).wf true true = false ∧
    (serialize ⟨true, true, 2⟩ ⟨true, false, 0⟩ sampleDag).wf false true = false ∧
    (serialize ⟨true, true, 2⟩ ⟨false, true, 0⟩ sampleDag).wf true false = false := by decide +kernel

/-- `expand` (what a back-reference means) is discriminating: a forward reference, a reference to the enclosing, still
    open container and a dangling one are all rejected; a backward one is replaced by what stood there -/
example : expand (.arr [.ref 1, .add (.int 1)]) [] = none ∧ expand (.arr [.ref 0]) [] = none ∧
    expand (.arr [.add (.int 1), .ref 2]) [] = none := ⟨rfl, rfl, rfl⟩
example : (expand (.arr [.arr [.add (.int 1)], .ref 1]) []).map (·.1) =
    some (.arr [.arr [.add (.int 1)], .arr [.add (.int 1)]]) := rfl

/-- … and `C10_refs_wellformed` is about streams that do contain references: with and without local_reference the
    streams of the sample differ -/
example : (serialize ⟨true, true, 2⟩ ⟨false, false, 0⟩ sampleDag).beq (serialize ⟨true, false, 2⟩ ⟨false, false, 0⟩ sampleDag) = false := by
  decide +kernel

/-- the hypothesis `Shared` is needed: one identity carrying two different contents (not a value the op syntax can
    write: one Go object has one content) fails the check, and its second occurrence comes back as the first -/
def incoherent : V := .arr 1 [.arr 2 [.int 1], .arr 2 [.int 2]]
example : sharedB (mkCfg ⟨true, true, 2⟩ ⟨true, true, 0⟩) incoherent = false ∧ incoherent.noRes = true := by decide
example : ∃ r, deserialize (serialize ⟨true, true, 2⟩ ⟨true, true, 0⟩ incoherent) = .ok r ∧ r.abs ≠ incoherent.abs :=
  ⟨.arr 0 [.arr 1 [.int 1], .arr 1 [.int 1]], rfl, by simp [V.abs, absList, incoherent]⟩

/-! ### What `Frag` excludes, exactly

`Frag c v` = `v.noRes ∧ (c.rich = false → v.isData c.bin)`.  `noRes` fails only for
(a) a user hash whose keys are all strings and include `__ptype` — the known finding; `C10_reserved_key_collision`
    shows the exclusion is needed, for rich_data=true and false alike;
(b) an object instance whose type is not in the catalogue or that has an attribute named `__ptype` / `__pvalue`
    (the second cannot be declared in pcore; the first is the model's catalogue);
(c) a Timespan payload that is not the default-format text of a duration (not a value at all: `C10_span_canonical`).
`isData` is the property's own reading for rich_data=false (a Regexp deliberately becomes a String there).  What lies
outside the theorem for other reasons is outside the MODEL's value type: RuntimeValue, types without a string form other than object types, cyclic values. -/

/-- the full statement (no exclusion of reserved keys) — false, see `C10_reserved_key_collision` -/
def C10_roundtrip_full : Prop :=
  ∀ (o : Opts) (cp : Caps) (v : V), Shared (mkCfg o cp) v → (o.rich = false → v.isData cp.bin = true) →
    ∃ r, deserialize (serialize o cp v) = .ok r ∧ r.abs = v.abs


/-! ### known finding C10-reserved-ptype-key: the excluded case is real -/

/-- the user hash `{'__ptype' => 'Default'}` -/
def reservedWitness : V := .hash 1 [(.str "__ptype", .str "Default")]

def reservedF (c : Cfg) : Key → Ev
  | .str s => .add (.str s)
  | _ => plain c reservedWitness

/-- … is emitted verbatim and comes back as the value `default` -/
theorem C10_reserved_key_collision : ¬ C10_roundtrip_full := by
  intro h
  have hS : Shared (mkCfg ⟨true, true, 2⟩ ⟨true, true, 0⟩) reservedWitness :=
    ⟨reservedF (mkCfg ⟨true, true, 2⟩ ⟨true, true, 0⟩), fun _ => rfl,
      by simp [Coh, CohPairs, reservedWitness, reservedF]⟩
  obtain ⟨r, hr, ha⟩ := h ⟨true, true, 2⟩ ⟨true, true, 0⟩ reservedWitness hS (by simp)
  have hd : deserialize (serialize ⟨true, true, 2⟩ ⟨true, true, 0⟩ reservedWitness) = .ok .dflt := by rfl
  rw [hd] at hr
  cases hr
  simp [V.abs, reservedWitness] at ha

/-- the same with rich_data=false (the value is Data): the hypothesis `noRes` cannot be dropped there either -/
example : reservedWitness.isData false = true ∧
    deserialize (serialize ⟨false, false, 0⟩ ⟨false, false, 0⟩ reservedWitness) = .ok .dflt := ⟨rfl, rfl⟩

/-! ### second tie: the emit discipline regenerated from serializer.go (fact family `serarms`)

`Generated.serArms` is rewritten from the Go source on every run: the statement lists of `addData`/`addArray`/`addHash`,
the shape of `process`, consumer calls and `refIndex` writes anywhere else, and the arms of `toData`'s type switch.
The driver executes `toDataE (emitOf Generated.serArms)`.  `SerArmsOK` says: every consumer position is paired with
exactly one `refIndex++` made before the consumer call, `AddRef` with none, `process` records after the emitter and
only when a position was consumed, nothing else touches the consumer or the counter, the arms are the transcribed
ones.  The theorems hold for ANY table satisfying it; dropping an increment (or recording early) breaks `C10_arms_ok`. -/

/-- obligation over the regenerated table -/
theorem C10_arms_ok : SerArmsOK Generated.serArms = true := by decide +kernel

theorem C10_table (a : SerArms) (h : SerArmsOK a = true) (c : Cfg) (level : Nat) (v : V) (st : St) :
    toDataE (emitOf a) c level v st = toData c level v st := by
  rw [emitOf_ok a h]; exact toDataE_std c level v st

/-- instantiated on the code as it is now -/
theorem C10_impl_positions (c : Cfg) (level : Nat) (v : V) (st : St) (vals : List Slot) (d : V) (vals' : List Slot)
    (h0 : st.ref = vals.length)
    (hc : collect (toDataE (emitOf Generated.serArms) c level v st).1 vals = .ok (d, vals')) :
    (toDataE (emitOf Generated.serArms) c level v st).2.ref = vals'.length := by
  rw [C10_table _ C10_arms_ok] at hc ⊢; exact C10_positions c level v st vals d vals' h0 hc

theorem C10_impl_caps (o : Opts) (cp : Caps) (v : V) :
    (serializeE (emitOf Generated.serArms) o cp v).wf (!cp.cplx) (!cp.bin) = true := by
  rw [serializeE_ok _ C10_arms_ok]; exact C10_caps o cp v

theorem C10_impl_refs_wellformed (o : Opts) (cp : Caps) (v : V) (hS : Shared (mkCfg o cp) v) :
    ∃ env, expand (serializeE (emitOf Generated.serArms) o cp v) [] =
      some (serializeE (emitOf Generated.serArms) { o with localRef := false } cp v, env) := by
  rw [serializeE_ok _ C10_arms_ok, serializeE_ok _ C10_arms_ok]; exact C10_refs_wellformed o cp v hS

theorem C10_impl_roundtrip (o : Opts) (cp : Caps) (v : V) (hS : Shared (mkCfg o cp) v) (hf : Frag (mkCfg o cp) v) :
    ∃ r, deserialize (serializeE (emitOf Generated.serArms) o cp v) = .ok r ∧ r.abs = v.abs := by
  rw [serializeE_ok _ C10_arms_ok]; exact C10_roundtrip_partial o cp v hS hf

/-! #### the side condition is not idle: tables that violate it break the stream laws (constructive witnesses)

`['AQID', bin, bin]` where `bin` is one Binary object holding 01 02 03, rich_data=false, no binary support, threshold 0. -/

def danglingWitness : V := .arr 1 [.str "AQID", .bin 2 [1, 2, 3], .bin 2 [1, 2, 3]]

/-- the code before the fix "serializer recorded a position for a value whose emitter produced only a back-reference":
    `process` = recordBefore.  The Binary is emitted as its base64 text through `toData(level, string)`; that string was
    seen before, so the emitter produces only `AddRef(1)` and no position — but the Binary was recorded at the position
    the NEXT value takes: the second `bin` is `AddRef(2)` although only positions 0 and 1 exist. -/
def tblBefore : SerArms := { Generated.serArms with process := .recordBefore }
example : SerArmsOK tblBefore = false := by decide
example : serializeE (emitOf tblBefore) ⟨false, true, 1⟩ ⟨false, true, 0⟩ danglingWitness =
    .arr [.add (.str "AQID"), .ref 1, .ref 2] := by rfl
example : expand (serializeE (emitOf tblBefore) ⟨false, true, 1⟩ ⟨false, true, 0⟩ danglingWitness) [] = none := by rfl
example : ∃ e, collect (serializeE (emitOf tblBefore) ⟨false, true, 1⟩ ⟨false, true, 0⟩ danglingWitness) [] = .error e :=
  ⟨.badRef, by rfl⟩
/-- after the fix: both occurrences refer to position 1 -/
example : serializeE (emitOf Generated.serArms) ⟨false, true, 1⟩ ⟨false, true, 0⟩ danglingWitness =
    .arr [.add (.str "AQID"), .ref 1, .ref 1] := by rfl

/-- Appendix E mutant "addData: do not increment refIndex": the reference to the shared array names the wrong position -/
def tblNoIncr : SerArms := { Generated.serArms with addData := [.consume "Add"] }
example : SerArmsOK tblNoIncr = false := by decide
example : serializeE (emitOf tblNoIncr) ⟨true, true, 2⟩ ⟨true, true, 0⟩ (.arr 1 [.int 7, .arr 2 [.int 1], .arr 2 [.int 1]]) =
    .arr [.add (.int 7), .arr [.add (.int 1)], .ref 1] := by rfl
example : expand (serializeE (emitOf tblNoIncr) ⟨true, true, 2⟩ ⟨true, true, 0⟩ (.arr 1 [.int 7, .arr 2 [.int 1], .arr 2 [.int 1]])) [] =
    some (.arr [.add (.int 7), .arr [.add (.int 1)], .add (.int 7)], [some (.arr [.add (.int 7), .arr [.add (.int 1)], .add (.int 7)]),
      some (.add (.int 7)), some (.arr [.add (.int 1)]), some (.add (.int 1))]) := by rfl

/-- … and an increment placed AFTER the consumer call of a container (children see the stale counter) -/
def tblLate : SerArms := { Generated.serArms with addArray := [.consume "AddArray", .incr] }
example : SerArmsOK tblLate = false := by decide
example : expand (serializeE (emitOf tblLate) ⟨true, true, 2⟩ ⟨true, true, 0⟩
    (.arr 1 [.arr 2 [.int 1], .arr 2 [.int 1]])) [] = none := by rfl

end Pcore.Ser

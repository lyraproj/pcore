import Pcore.Proofs.JsonRead
import Pcore.Proofs.JsonPB
import Pcore.Proofs.JsonSer
import Pcore.Generated.JsonTable
import Pcore.Generated.PbArms
import Pcore.Props.C10
/-!
# C11 — JSON and protobuf transports carry Data exactly

Property (properties.jsonl): streaming any serializer output as JSON always produces syntactically valid
JSON, and reading it back delivers the same events (nesting, scalar kinds, back-reference indices); the
protobuf encoding of any Data value or event stream decodes to an equal value.

Full statement / proved / missing
* `C11_table_ok`   — the statement lists regenerated from `jsonstreamer.go` satisfy `TblOK` (by `decide` over the
                     regenerated table: this is the obligation a code change breaks).
* `C11_write`      — for ANY table satisfying `TblOK`, what the streamer state machine writes for an event tree
                     equals the table-independent reference printer `ref1`.
* `C11_valid`      — the written token sequence is in the JSON grammar `JVal`, for every well-formed event tree
                     (hashes get alternating string keys and values — what the serializer emits for a consumer
                     without complex-key support).
* `C11_read_write` — `read (write t e) = some e`: same nesting, same scalar kinds (a float stays a float token, an
                     integer an integer token), same reference indices — for trees that do not use the reserved
                     key `__pref` first in a hash; `C11_pref_collision` shows the excluded case is real
                     (known finding C11-reserved-pref-key).
* `C11_pb_arms_ok` — the arm table regenerated from `proto/convert.go` satisfies `PBArmsOK` (by `decide`).
* `C11_pb_value`, `C11_pb_stream`, `C11_pb_events` — protobuf round trips for ANY arm table satisfying `PBArmsOK`;
                     `C11_impl_pb` instantiates them on the regenerated table.
* `C11_serializer_output_valid` — the property's first sentence with its own quantifier: for EVERY value, option
                     combination and string threshold, what the C10 serializer model emits for the JSON streamer's capabilities
                     (no binary, no complex keys), streamed through the table-driven writer, is in the grammar `JVal`; the
                     hypothesis `WF` of `C11_valid` is discharged by C10's stream law `C10_caps` (through `C11_wf_of_serializer_stream`).
                     Reading back needs `NoPref` and is NOT claimed for every serializer output (the known finding).
* read with care: the protobuf model is the in-memory `datapb` tree (a copy of the value with one constructor per
                     kind), not the wire encoding; `C11_pb_value` therefore says "both type switches have an arm for every
                     Data kind and recurse" — close to a restatement, its content is the regenerated arm table.
* missing: bytes ↔ tokens (encoding/json tokenizer, string escaping, number text) — trusted, exercised by the
  correspondence run which re-tokenizes the emitted bytes (DESIGN.md §5).
-/
namespace Pcore.Json
open Pcore.Generated

/-- obligation over the regenerated table -/
theorem C11_table_ok : TblOK jsonTbl := tblOKb_sound jsonTbl (by decide)

theorem C11_write (t : Tbl) (h : TblOK t) (e : Ev) : write t e = ref1 e := by
  simp [write, wEv_ref t h, h.init, sepOf]

theorem C11_valid (t : Tbl) (h : TblOK t) (e : Ev) (hw : WF e = true) : JVal (write t e) := by
  rw [C11_write t h]; exact valid_ev e hw

theorem C11_read_write (t : Tbl) (h : TblOK t) (e : Ev) (hw : WF e = true) (hp : NoPref e = true) :
    read (write t e) = some e := by
  rw [C11_write t h]; exact read_ref1 e hw hp

/-- instantiated on the code as it is now -/
theorem C11_impl_valid (e : Ev) (hw : WF e = true) : JVal (write jsonTbl e) := C11_valid _ C11_table_ok e hw
theorem C11_impl_read_write (e : Ev) (hw : WF e = true) (hp : NoPref e = true) :
    read (write jsonTbl e) = some e := C11_read_write _ C11_table_ok e hw hp

/-- non-vacuity: a nested tree with a hash at a non-first array position meets the hypotheses -/
def sampleEv : Ev :=
  .arr [.sc (.int 1), .hsh [.sc (.str "a"), .sc (.flt 4607182418800017408), .sc (.str "b"), .arr []], .ref 1, .hsh []]
example : WF sampleEv = true ∧ NoPref sampleEv = true := by decide
example : read (write jsonTbl sampleEv) = some sampleEv := C11_impl_read_write _ (by decide) (by decide)

/-- the excluded case is real: a user hash whose first key is `__pref` comes back as a reference
    (known finding C11-reserved-pref-key) -/
theorem C11_pref_collision :
    ∃ e, WF e = true ∧ read (write jsonTbl e) ≠ some e :=
  ⟨.hsh [.sc (.str "__pref"), .sc (.int 1)], by decide, by
    have h : read (write jsonTbl (.hsh [.sc (.str "__pref"), .sc (.int 1)])) = some (.ref 1) := by rfl
    rw [h]; intro h'; cases h'⟩

/-- the FULL statement of the read-back law (no exclusion of the reserved key): `C11_read_write` is the partial theorem
    (hypothesis `NoPref`), although its name does not end in `_partial` -/
def C11_read_write_full : Prop := ∀ e : Ev, WF e = true → read (write jsonTbl e) = some e

/-- … refuted (known finding C11-reserved-pref-key) -/
theorem C11_read_write_full_fails : ¬ C11_read_write_full := by
  intro h
  obtain ⟨e, hw, hne⟩ := C11_pref_collision
  exact hne (h e hw)

/-- the table before the fix "JSON streamer lost the array state after a nested hash at a non-first position":
    the side condition is refuted and the model reproduces the invalid output `[1,{"a":1},2:3]` -/
def tblBefore : Tbl := { jsonTbl with arms := [
    (some .firstInArray, [.doer, .set .afterElement]), (some .firstInObject, [.doer, .set .afterKey]),
    (some .afterKey, [.write ':', .doer, .set .afterValue]), (some .afterValue, [.write ',', .doer, .set .afterKey]),
    (none, [.write ',', .doer])] }
example : tblOKb tblBefore = false := by decide
example : write tblBefore (.arr [.sc (.int 1), .hsh [.sc (.str "a"), .sc (.int 1)], .sc (.int 2), .sc (.int 3)]) =
    [.lb, .sc (.int 1), .comma, .lc, .sc (.str "a"), .colon, .sc (.int 1), .rc, .comma, .sc (.int 2), .colon,
     .sc (.int 3), .rb] := by decide

/-- the hypothesis `WF` is needed: a hash with a non-string key / an odd number of children is written as something the
    reader rejects -/
example : write jsonTbl (.hsh [.sc (.int 1), .sc (.int 2)]) = [.lc, .sc (.int 1), .colon, .sc (.int 2), .rc] ∧
    read (write jsonTbl (.hsh [.sc (.int 1), .sc (.int 2)])) = none ∧
    read (write jsonTbl (.hsh [.sc (.str "a")])) = none := ⟨by decide, by rfl, by rfl⟩

/-- … and is not in the grammar: `JVal` does reject something -/
example : ¬ JVal (write jsonTbl (.hsh [.sc (.int 1), .sc (.int 2)])) := by
  have hw : write jsonTbl (.hsh [.sc (.int 1), .sc (.int 2)]) = [.lc, .sc (.int 1), .colon, .sc (.int 2), .rc] := by decide
  rw [hw]
  intro h
  generalize hl : [Tok.lc, .sc (.int 1), .colon, .sc (.int 2), .rc] = l at h
  cases h with
  | sc s => simp at hl
  | arr0 => simp at hl
  | arr _ => simp at hl
  | obj0 => simp at hl
  | obj hm =>
    rename_i ts
    have h1 : [Tok.sc (.int 1), .colon, .sc (.int 2)] ++ [Tok.rc] = ts ++ [Tok.rc] := by simpa using hl
    have h2 := List.append_inj_left' h1 rfl
    subst h2
    generalize hl2 : [Tok.sc (.int 1), .colon, .sc (.int 2)] = m at hm
    cases hm <;> simp at hl2

/-! ### "any serializer output" — the hypothesis `WF` of `C11_valid` is what the serializer model of C10
    emits for the JSON streamer's capabilities (CanDoBinary = false, CanDoComplexKeys = false) -/

theorem C11_wf_of_serializer_stream (e : Pcore.Ser.Ev) (h : e.wf true true = true) : WF (ofSer e) = true := wf_ofSer e h

/-- the property's first sentence with its own quantifier: streaming ANY serializer output (any value, any options, any
    string threshold) through the JSON streamer writes syntactically valid JSON -/
theorem C11_serializer_output_valid (o : Pcore.Ser.Opts) (thr : Nat) (v : Pcore.Ser.V) :
    JVal (write jsonTbl (ofSer (Pcore.Ser.serialize o ⟨false, false, thr⟩ v))) :=
  C11_impl_valid _ (C11_wf_of_serializer_stream _ (Pcore.Ser.C10_caps o ⟨false, false, thr⟩ v))

/-- non-vacuity / what it says: a value with a Sensitive Binary under a non-string key, used twice -/
def serSample : Pcore.Ser.V :=
  .arr 1 [.hash 2 [(.int 1, .sens 3 (.bin 4 [1, 2, 3]))], .hash 2 [(.int 1, .sens 3 (.bin 4 [1, 2, 3]))]]
example : write jsonTbl (ofSer (Pcore.Ser.serialize ⟨true, true, 2⟩ ⟨false, false, 20⟩ serSample)) =
    [.lb, .lc, .sc (.str "__ptype"), .colon, .sc (.str "Hash"), .comma, .sc (.str "__pvalue"), .colon,
       .lb, .sc (.int 1), .comma,
         .lc, .sc (.str "__ptype"), .colon, .sc (.str "Sensitive"), .comma, .sc (.str "__pvalue"), .colon,
           .lc, .sc (.str "__ptype"), .colon, .sc (.str "Binary"), .comma, .sc (.str "__pvalue"), .colon, .sc (.str "AQID"), .rc,
         .rc,
       .rb, .rc, .comma,
     .lc, .sc (.str "__pref"), .colon, .sc (.int 1), .rc, .rb] := by decide +kernel

/-! ### protobuf — for any arm table satisfying `PBArmsOK` (`Proofs/JsonPB.lean`) -/

theorem C11_pb_arms_ok : PBArmsOK pbArms = true := by decide

/-- `FromPBData(ToPBData(v)) = v` for every Data value, for ANY arm table satisfying `PBArmsOK`
    (Binary is not Data; on the current tree `FromPBData` has no Binary arm) -/
theorem C11_pb_value (a : PBArms) (ha : PBArmsOK a = true) (v : DVal) (h : NoBin v = true) :
    fromPB a (toPB a v) = v := pb_value a ha v h

theorem C11_pb_stream (a : PBArms) (ha : PBArmsOK a = true) (p : PB) : protoConsume (consumePB a p) = some p :=
  pb_stream a ha p

/-- value → protobuf → event stream → protobuf consumer → value -/
theorem C11_pb_events (a : PBArms) (ha : PBArmsOK a = true) (v : DVal) (h : NoBin v = true) :
    (protoConsume (consumePB a (toPB a v))).map (fromPB a) = some v := by
  simp [C11_pb_stream a ha, C11_pb_value a ha v h]

/-- instantiated on the arm table regenerated from proto/convert.go -/
theorem C11_impl_pb (v : DVal) (h : NoBin v = true) :
    fromPB pbArms (toPB pbArms v) = v ∧ (protoConsume (consumePB pbArms (toPB pbArms v))).map (fromPB pbArms) = some v :=
  ⟨C11_pb_value _ C11_pb_arms_ok v h, C11_pb_events _ C11_pb_arms_ok v h⟩

example : NoBin (.hsh [(.str "a", .arr [.int 1, .flt 0, .undef])]) = true := by decide

/-! ### protobuf: the hypotheses are needed, the side condition is not idle -/

/-- the hypothesis `NoBin` is needed on the current tree: `FromPBData` has no Binary arm -/
example : (match fromPB pbArms (toPB pbArms (.bin [1, 2, 3])) with | .undef => true | _ => false) = true := by rfl

/-- an arm table that lacks the Float arm of `FromPBData` is refuted by the side condition, and the model driven by it
    loses the float -/
def pbArmsNoFlt : PBArms := { pbArms with fromPB := [.bool, .int, .str, .undef, .arr, .hsh] }
example : PBArmsOK pbArmsNoFlt = false := by decide
example : (match fromPB pbArmsNoFlt (toPB pbArmsNoFlt (.arr [.flt 0])) with | .arr [.undef] => true | _ => false) = true := by rfl
/-- … and the protobuf theorems say something about a concrete value: nested, float, int, undef, non-string key -/
def pbSample : DVal := .hsh [(.str "a", .arr [.int 1, .flt 4607182418800017408, .undef]), (.int 2, .hsh [])]
example : NoBin pbSample = true := by decide
example : (match toPB pbArms pbSample with
    | .hsh [(.str "a", .arr [.int 1, .flt 4607182418800017408, .undef]), (.int 2, .hsh [])] => true | _ => false) = true := by rfl

end Pcore.Json

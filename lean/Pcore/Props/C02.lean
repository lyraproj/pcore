import Pcore.Proofs.LatDenMain
/-!
# C02 — Instance-of follows the set denotation of every type constructor

Property (properties.jsonl): a value is reported to be an instance of a type exactly when it belongs to the set the Puppet
type system defines for that type: numeric ranges are inclusive, sizes count elements (characters for strings), Enum and
Pattern test the string content (ignoring case only when asked to), Variant is union, Optional adds undef and NotUndef
removes it, Array/Hash/Tuple/Struct constrain every element, key, position, required member and the size, Collection
constrains size only, and Type[T] contains exactly the types assignable to T.  Quantifier: all types in the reference
fragment (everything except Callable, Runtime, Iterator, Like, Init, TypeReference and Iterable's inferred-element rule), all values.

Full statement / proved / missing
* `C02_inst_iff_den` — FULL statement on the modelled constructor set: for every matcher `rxMatch`, every `lower`, every type
  term `t` that is well-formed (`Ty.WF`: Struct member names pairwise different, values of a case-insensitive Enum stored
  lower-cased — what the constructors establish) and in the reference fragment (`Ty.Ref`: no Iterable where the denotation
  descends) and every value whose hashes hold a string key at most once (`Val.OK`), the code-shaped `inst t v` (mirror of the
  ~35 `IsInstance` methods) is true exactly when `Den t v`, the independent set-style definition in
  `Pcore/Model/LatticeDen.lean`.  Proved by structural induction on the type (unbounded: any nesting depth, any sizes).
* `C02_struct_counting` — the interesting case in isolation: the matched-count test of `StructType.IsInstance` is the
  denotation of Struct.
* corollaries read off the property text (`C02_int_inclusive`, `C02_string_counts_characters`, `C02_enum_never_admits_unlisted`,
  `C02_pattern_empty_string`, `C02_optional`, `C02_notundef`, `C02_type_exact`).
* missing: SemVer, SemVerRange, URI, TypeSet, Like/Init/TypeReference (not in the model; the first three are leaf types whose
  IsInstance delegates to library code); user-defined recursive aliases; Iterable (excluded by the property); Timestamp VALUES (the type
  `Ty.tstamp` has its `Den` clause, but no value holding a Timestamp meets `Val.OK`).  Callable, Runtime and Iterator types have no
  instance in the value language (`C02_iterator_empty`).  Floats: NaN is outside the model (`Fl` is the exact dyadic order).  These are covered by harness-side tests only.
-/
namespace Pcore.Lat

theorem C02_inst_iff_den (cfg : Cfg) (sfh : Bool) (t : Ty) (v : Val)
    (ht : Ty.WF cfg t) (hf : Ty.Ref t) (hv : Val.OK v) :
    inst cfg sfh t v = true ↔ Den cfg sfh t v :=
  inst_iff_den cfg sfh t v ht hf hv

/-- the Struct case by itself: matched-count = hash length ⇔ every present key is declared with a conforming value and every
    required member is present -/
theorem C02_struct_counting (cfg : Cfg) (sfh : Bool) (ms : List Member) (es : List (Val × Val))
    (hn : KeysNodup es) (hnd : (ms.map (·.1)).Nodup) :
    instStruct cfg sfh ms es = some es.length ↔
      (∀ e ∈ es, ∃ m, ∃ (_ : m ∈ ms), e.1 = .str m.1 ∧ inst cfg sfh m.2.2 e.2 = true) ∧
      (∀ m ∈ ms, m.2.1 = false → ∃ e ∈ es, e.1 = .str m.1) :=
  instStruct_den cfg sfh ms es hn hnd

/-! ### what the property text lists, read off the theorem -/
theorem C02_int_inclusive (cfg : Cfg) (sfh : Bool) (lo hi i : Int) :
    inst cfg sfh (.int ⟨lo, hi⟩) (.int i) = true ↔ lo ≤ i ∧ i ≤ hi := by
  unfold inst; simp [Rng.contains]

theorem C02_string_counts_characters (cfg : Cfg) (sfh : Bool) (r : Rng) (s : String) :
    inst cfg sfh (.strSz r) (.str s) = true ↔ r.lo ≤ (s.length : Int) ∧ (s.length : Int) ≤ r.hi := by
  unfold inst; simp [Rng.contains]

theorem C02_enum_never_admits_unlisted (cfg : Cfg) (sfh : Bool) (vs : List String) (s : String) (hne : vs ≠ []) :
    inst cfg sfh (.enum vs false) (.str s) = true ↔ s ∈ vs := by
  unfold inst; simp [enumInst, List.isEmpty_iff, hne]

theorem C02_pattern_empty_string (cfg : Cfg) (sfh : Bool) (r : String) (h : cfg.rxMatch r "" = true) :
    inst cfg sfh (.pattern [r]) (.str "") = true := by
  unfold inst; simp [rxAny, h]

theorem C02_optional (cfg : Cfg) (sfh : Bool) (t : Ty) (v : Val) :
    inst cfg sfh (.optional t) v = true ↔ v = .undef ∨ inst cfg sfh t v = true :=
  inst_optional_iff cfg sfh t v

theorem C02_notundef (cfg : Cfg) (sfh : Bool) (t : Ty) (v : Val) :
    inst cfg sfh (.notUndef t) v = true ↔ v ≠ .undef ∧ inst cfg sfh t v = true :=
  inst_notUndef_iff cfg sfh t v

theorem C02_type_exact (cfg : Cfg) (sfh : Bool) (t u : Ty) :
    inst cfg sfh (.typ t) (.typ u) = true ↔ asg cfg sfh t u = true := by
  unfold inst; simp

/-! ### non-vacuity: the hypotheses are met by a nested, non-trivial case on which `inst` answers true -/
def sampleTy : Ty :=
  .struct [("a", false, .array (.int ⟨0, 9⟩) ⟨1, 2⟩), ("b", true, .optional (.enum ["x", "y"] true))]
def sampleVal : Val := .hash [(.str "a", .array [.int 3, .int 9])]

example (cfg : Cfg) (hl : cfg.lower "x" = "x" ∧ cfg.lower "y" = "y") : Ty.WF cfg sampleTy := by
  unfold sampleTy
  unfold Ty.WF
  refine ⟨by decide, ?_⟩
  intro m hm
  simp at hm
  rcases hm with rfl | rfl
  · unfold Ty.WF; unfold Ty.WF; trivial
  · unfold Ty.WF; unfold Ty.WF; intro _ x hx; simp at hx; rcases hx with rfl | rfl <;> simp [hl]

example : Ty.Ref sampleTy := by
  unfold sampleTy
  unfold Ty.Ref
  intro m hm
  simp at hm
  rcases hm with rfl | rfl
  · unfold Ty.Ref; unfold Ty.Ref; trivial
  · unfold Ty.Ref; unfold Ty.Ref; trivial

example : Val.OK sampleVal := by
  unfold sampleVal
  refine Val.OK.hash _ ?_ ?_ ?_
  · intro n; simp [List.countP_cons, keyIs, keyIsStr]; split <;> omega
  · intro e he; simp at he; subst he; exact Val.OK.str _
  · intro e he; simp at he; subst he
    exact Val.OK.array _ (by intro x hx; simp at hx; rcases hx with rfl | rfl <;> exact Val.OK.int _)

example (cfg : Cfg) (sfh : Bool) : inst cfg sfh sampleTy sampleVal = true := by
  unfold sampleTy sampleVal
  unfold inst
  unfold instStruct; unfold hashGetW; simp [keyIsStr]
  unfold inst; simp [Rng.contains, Ty.isAny]
  unfold instAll; unfold inst; simp [Rng.contains]
  unfold instAll; unfold inst; simp [Rng.contains]
  unfold instAll
  unfold instStruct; unfold hashGetW; simp [keyIsStr]
  unfold hashGetW; simp
  unfold instStruct; simp

/-- Iterator[T]: no value of the value language is an iterator — `inst` and `Den` agree on "never" -/
theorem C02_iterator_empty (cfg : Cfg) (sfh : Bool) (t : Ty) (v : Val) :
    inst cfg sfh (.iterator t) v = false ∧ ¬ Den cfg sfh (.iterator t) v := by
  constructor
  · unfold inst; rfl
  · unfold Den; exact id

end Pcore.Lat

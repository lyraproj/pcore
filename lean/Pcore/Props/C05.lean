import Pcore.Proofs.C05Samples
import Pcore.Proofs.FloatLex
/-!
# C05 — Printing and parsing are inverse for types and literal values

Property (properties.jsonl): for every type T, parsing the text that T prints succeeds and yields a type equal to T, and
printing that result gives the same text again; for every literal value (undef, default, booleans, integers, floats,
strings of arbitrary content, regexps, arrays, hashes, types, object instances; not Sensitive) parsing its
program-format text yields a value equal to the original.  Exception: a String type constrained to one exact value
prints as plain String.

Layers (DESIGN §4 C05): (1) characters — quoting ∘ unquoting, decimal rendering ∘ reading; (2) tokens; (3) grammar;
(4) resolution.

Full statement / proved / missing
* layer 1, strings   — `C05_string`: for EVERY string (quotes, backslashes, `$`, control characters, NUL, non-ASCII,
                       U+FFFD …) and every continuation, the lexer reads the literal `PuppetQuote` writes back as exactly
                       that string.  Full strength.
* layer 1, regexps   — `C05_regexp`: the same for `RegexpQuote`, for every source a regexp literal can denote (`rxRep`).
                       Full statement `C05_regexp_full` is FALSE of the code: `C05_regexp_escaped_slash_fails`,
                       `C05_regexp_raw_newline_fails` (known findings C05-regexp-escaped-slash,
                       C05-regexp-raw-newline-nul-fffd: the printed literal denotes an equivalent, not an equal, regexp).
* layer 1, integers  — `C05_int`: `ParseInt(FormatInt(i), 0, 64) = i` for every Int64, including ±2^63 boundaries.
* floats             — decimal conversion is a parameter (`Env.pf` reader, `Env.ff` formatter); proved: every text of the
                       shapes `%g` produces lexes as one float token (`C05_float_text_lexes`), hence a float leaf needs
                       only `env.pf text = some bits` (`C05_float_leaf`).  The driver uses an exact decimal → binary64
                       reader that agrees with `strconv.ParseFloat` on every float the harness generated.
* layers 2–3, values — `C05_value_roundtrip`: for EVERY literal value built from undef, default, booleans, Int64
                       integers, strings of arbitrary content, representable regexps, floats (under the `FloatIO`
                       hypothesis carried by `Lit`), arrays and hashes of any size and nesting, parsing the
                       program-format text gives exactly that value back — through the real lexer model and the
                       recursive descent parser model, with the fuel `parseFile` supplies.  The same theorem covers the
                       WRITTEN form of object instances, `Name('attr' => v, …)` (`Val.obj`, `ObjectToString`: any
                       type name `Seg::Seg…` other than `Deferred`, any literal values incl. nested object literals and
                       type expressions as attribute values, `Name()` for an empty init hash): the text parses to exactly
                       the constructor call `new Name {…}` (`Expr.call`) that `types.ResolveDeferred` hands to `px.New`.
* values holding types — `C05_typed_value_roundtrip`: for every value built from the kinds above AND types of the fragment
                       (`TVal`: a type as an element, as a hash key, as a hash value, at any depth of nesting), the
                       program-format text parses and `types.ResolveDeferred` (`resolveV`: every DeferredType of the parse
                       result is resolved through the positional creators) gives exactly that value back.
                       Missing from the value statement: what `px.New` makes of a parsed constructor call (attribute
                       defaults, `makeValueHash`: the business of the Object model, C17) and the positional constructor-call forms
                       (`Binary('AQ==')`, `SemVer('1.0.0')`) — object instances are checked end to end on the
                       implementation (direct predicate `rt-val` with objects, Parameter, TypedName, Binary, SemVer, URI).
* layers 2–4, types  — `C05_type_roundtrip_partial`: for every type `t` of the modelled fragment in the normal form the
                       creators produce (`WFTy`): parsing the text `t` prints and resolving it through the positional
                       creators yields exactly `t` (hence a type equal to `t` that prints the same text again).
                       Fragment: the parameterless core types, Integer[…], Float[lo, hi] (under the float parameter
                       `FloatIO`, see below; `default` bounds, one-argument form), String[…] (size constrained; the exact-value
                       form directly inside Optional/NotUndef), Boolean[b], Enum[…] (incl. the case-insensitivity flag),
                       Regexp[/…/], Pattern[…], Optional NotUndef Type Sensitive Iterable Iterator, Variant[…],
                       Array[…], Hash[…], Collection[…], Tuple[…] (with and without a size), Struct[{…}] (every key form:
                       `'n'`, `Optional['n']`, `NotUndef['n']`, chosen by `StructType.Parameters` from the optionality of
                       the key and from whether the value type accepts `undef` — `Ty.acceptsUndef` —; any member name,
                       duplicate names, the empty Struct), Runtime['rt', 'name', Regexp[/…/]] (every form that prints
                       the creator accepts; a pattern without a name since /repo f14f4ca:
                       `C05_runtime_pattern_without_name_repaired`),
                       TypeReference['…'] (every string), Callable[p…, lo, hi, block] and
                       Callable[[p…, lo, hi, block], ret] in every shape that prints invertibly (`CallableShape`: see
                       below) — arbitrarily nested, all Int64 bounds, all string contents.
                       The full statement `C05_type_roundtrip_full` (over the whole `Ty`) is false: at the property's
                       stated exception (`C05_exact_string_prints_plain`), and at a known finding of the code
                       (degenerate Callables — witnesses below).  Every other
                       condition of `WFTy` only says "in the normal form the creators produce" (Int64 bounds with
                       lo ≤ hi, a Variant does not have exactly one member, …).
                       Float bounds: decimal float conversion is NOT modelled; the theorem assumes of it exactly `FloatIO`
                       per printed bound `b`: the text the formatter oracle gives (`env.ff b` = `floatGFormat "%g"`)
                       lexes as one float token and the reader oracle (`env.pf` = `strconv.ParseFloat`) maps it back to
                       `b`.  The lexing half is a THEOREM for every shape `floatGFormat` produces (`C05_float_text_lexes`:
                       `[-]D+.D+`, `[-]D+.D+e±D+`, `[-]D+e±D+`), so what is really assumed is `env.pf (env.ff b) = some b`
                       and that `env.ff b` has such a shape (`C05_float_leaf`); the driver's reader is the exact
                       `parseFloat`, its formatter is the implementation's own text (op-line oracle).
                       Callable: the creator `newCallableType3` + `tupleFromArgs(true, …)` and `CallableType.Parameters`
                       are modelled in full, degenerate forms included.  `CallableShape` carves out exactly the shapes that
                       print invertibly; outside it the statement is FALSE of the code (known finding C05-callable-block;
                       witnesses `C05_callable_unit_dropped`, `C05_callable_leading_tuple`).  Since /repo 3d635fb
                       `CallableType.Equals` is structural (before, any two Callables were equal and the "equal type"
                       clause was vacuous for them): the theorem's structural equality is what the implementation
                       observes since then, and outside `CallableShape` the re-parsed type is genuinely unequal there too.
                       Modelled and compared on every run but outside the theorem's quantifier: unknown type names (they
                       resolve to a TypeReference) and the second spellings of core names — both resolve to types that are
                       inside it.
                       Missing (no theorem and no model; direct predicate on the implementation only): Init[…], Like,
                       Object, TypeSet, aliases, loadable names and the leaf types with parameters (known findings
                       C05-leaf-type-params, -lazy-type, -nominal-type).
-/
namespace Pcore.Syntax

/-- **strings of arbitrary content** -/
theorem C05_string (il : Char → Bool) (s : Str) (rest : List Sym) :
    nextToken il (syms (puppetQuote s) ++ rest) = .tok ⟨.string, s⟩ rest false :=
  nextToken_puppetQuote il s rest

/-- non-vacuity / the hostile cases: quote, backslash before the closing quote, control character, `$`, U+FFFD, NUL -/
example : puppetQuote ['\'', '\\'] = ['\'', '\\', '\'', '\\', '\\', '\''] := by decide
example : puppetQuote ['a', '\n', '$', '"', '\\'] = ['"', 'a', '\\', 'n', '\\', '$', '\\', '"', '\\', '\\', '"'] := by
  decide
example : nextToken (fun _ => false) (syms (puppetQuote ['\'', '\\']) ++ [.chr ',']) =
    .tok ⟨.string, ['\'', '\\']⟩ [.chr ','] false := C05_string _ _ _

/-- the full-strength statement for regexps (false of the code, see below) -/
def C05_regexp_full : Prop :=
  ∀ (il : Char → Bool) (s : Str) (rest : List Sym),
    nextToken il (syms (regexpQuote s) ++ rest) = .tok ⟨.regexp, s⟩ rest false

/-- **regexps**, for every source a literal can denote -/
theorem C05_regexp (il : Char → Bool) (s : Str) (rest : List Sym) (h : rxRep false s = true) :
    nextToken il (syms (regexpQuote s) ++ rest) = .tok ⟨.regexp, s⟩ rest false :=
  nextToken_regexpQuote il s rest h

/-- non-vacuity: `\d+\\\.` and `a/b` are representable -/
example : rxRep false ['\\', 'd', '+', '\\', '\\', '\\', '.'] = true := by decide
example : rxRep false ['a', '/', 'b'] = true := by decide

/-- known finding C05-regexp-escaped-slash: the source `a\/b` comes back as `a/b` -/
theorem C05_regexp_escaped_slash_fails : ¬ C05_regexp_full := by
  intro h
  have h1 := h (fun _ => false) ['a', '\\', '/', 'b'] []
  have h2 : nextToken (fun _ => false) (syms (regexpQuote ['a', '\\', '/', 'b']) ++ []) =
      .tok ⟨.regexp, ['a', '/', 'b']⟩ [] false := by decide
  rw [h2] at h1
  exact absurd h1 (by decide)

/-- known finding C05-regexp-raw-newline-nul-fffd: a raw newline comes back as the two characters `\n` -/
theorem C05_regexp_raw_newline_fails : ¬ C05_regexp_full := by
  intro h
  have h1 := h (fun _ => false) ['\n'] []
  have h2 : nextToken (fun _ => false) (syms (regexpQuote ['\n']) ++ []) = .tok ⟨.regexp, ['\\', 'n']⟩ [] false := by
    decide
  rw [h2] at h1
  exact absurd h1 (by decide)

/-- **integers**: every Int64 -/
theorem C05_int (i : Int) (hlo : -(int64Bound : Int) ≤ i) (hhi : i < (int64Bound : Int)) :
    parseInt (intText i) = some i :=
  parseInt_intText i hlo hhi

example : parseInt (intText (-9223372036854775808)) = some (-9223372036854775808) := C05_int _ (by decide) (by decide)
example : parseInt (intText 9223372036854775807) = some 9223372036854775807 := C05_int _ (by decide) (by decide)

/-- **literal values**: `parse (printVal v) = v` for every literal value of the modelled kinds.  `Lit env v` says: integers
    are Int64; each regexp source is representable and compiles (`env.rxOK`); each float leaf `(bits, text)` satisfies the
    float parameter (`text` lexes as one float token and `env.pf text = bits`).  Strings are unconstrained. -/
theorem C05_value_roundtrip (env : Env) (v : Val) (hv : Lit env v) :
    parse env (syms (printVal v)) = .value (exprOf v) :=
  value_rt env v hv


/-- non-vacuity: a nested value with hostile strings, boundary integers, a regexp, an empty array and an empty hash -/
def sampleVal : Val :=
  .hash [(.str ['\'', '\\'], .arr [.int (-9223372036854775808), .undef, .arr [], .hash []]),
         (.regexp ['\\', 'd', '+', '/'], .str ['a', '\n', '$', runeError]), (.int 9223372036854775807, .bool true), (.dflt, .bool false)]
theorem sampleVal_lit : Lit envEx sampleVal := by
  simp only [sampleVal, Lit, LitE, LitL, envEx]
  decide
example : Lit envEx sampleVal := sampleVal_lit
example : parse envEx (syms (printVal sampleVal)) = .value (exprOf sampleVal) :=
  C05_value_roundtrip envEx sampleVal sampleVal_lit

/-- non-vacuity for object literals (`sampleObj`, `sampleObj_lit` in Proofs/C05Samples.lean): a qualified type name, a type
    expression and a nested object literal as attribute values parse to the constructor call `new My::Lim {…}` -/
example : parse envEx (syms (printVal sampleObj)) =
    .value (.call (some "new".toList) [.str "My::Lim".toList, .hash [(.str "name".toList, .str ['i', 't', '\'', 's']),
      (.str "type".toList, .dtype "Optional".toList (some [.dtype "String".toList (some [.int 1])])),
      (.str "value".toList, .arr [.int 1, .call (some "new".toList) [.str "Pt".toList]])]]) :=
  C05_value_roundtrip envEx sampleObj sampleObj_lit
example : printVal sampleObj =
    "My::Lim('name' => 'it\\'s', 'type' => Optional[String[1]], 'value' => [1, Pt()])".toList :=
  eq_toList rfl (by decide +kernel)

/-- **the lexing half of the float parameter is a theorem** for every text of the shapes `floatGFormat` produces —
    `[-]D+.D+`, `[-]D+.D+e±D+`, `[-]D+e±D+` —: followed by a continuation the printer produces it is read back as ONE float
    token with exactly that text, provided the letter oracle does not take `,` `]` `}` `)` or a blank for a letter (the
    exponent path asks `unicode.IsLetter` about the character after the digits).  What remains assumed of decimal float
    conversion (`FloatIO`, `Lit (.float b t)`) is only `env.pf t = some b`: the reader maps the formatter's text back to
    the same bits. -/
theorem C05_float_text_lexes (il : Char → Bool) (hil : StopNotLetter il) (neg : Bool) (c : Char) (t : FTail)
    (hc : isDigit c = true) (ht : t.OK) (k : List Sym) (hk : stopOK k = true) :
    nextToken il (syms ((if neg then ['-'] else []) ++ c :: t.text) ++ k) =
      .tok ⟨.float, (if neg then ['-'] else []) ++ c :: t.text⟩ k false := by
  cases neg with
  | true => simpa using nextToken_float_neg il hil c t hc ht k hk
  | false => simpa using nextToken_float_pos il hil c t hc ht k hk

/-- hence a float leaf is well-formed as soon as its text has such a shape and the reader maps it to its bits -/
theorem C05_float_leaf (env : Env) (hil : StopNotLetter env.isLetter) (b : Nat) (neg : Bool) (c : Char) (t : FTail)
    (hc : isDigit c = true) (ht : t.OK) (hpf : env.pf ((if neg then ['-'] else []) ++ c :: t.text) = some b) :
    Lit env (.float b ((if neg then ['-'] else []) ++ c :: t.text)) :=
  ⟨fun k hk => C05_float_text_lexes env.isLetter hil neg c t hc ht k hk, hpf⟩

/-- non-vacuity: the oracle of the examples satisfies the side condition; `1.2345678925e+08`, `5e-324`, `-0.00000`,
    `1e+21` have the shapes (texts the implementation prints for 123456789.25, the smallest subnormal, -0.0, 1e21) and, with
    the exact reader, are float leaves -/
def envP : Env := { isLetter := fun c => isUpper c || isLower c, rxOK := fun _ => true, pf := parseFloat }
example : StopNotLetter envP.isLetter := by simp only [StopNotLetter, envP]; decide
example : Lit envP (.float 4728057454363934720 "1.2345678925e+08".toList) :=
  C05_float_leaf envP (by simp only [StopNotLetter, envP]; decide) _ false '1'
    (.fracExp [] '2' "345678925".toList '+' '0' ['8']) (by decide) (by simp only [FTail.OK]; decide +kernel)
    (by simp only [envP]; decide +kernel)
example : Lit envP (.float 1 "5e-324".toList) :=
  C05_float_leaf envP (by simp only [StopNotLetter, envP]; decide) _ false '5' (.exp [] '-' '3' ['2', '4']) (by decide)
    (by simp only [FTail.OK]; decide +kernel) (by simp only [envP]; decide +kernel)
example : Lit envP (.float 9223372036854775808 "-0.00000".toList) :=
  C05_float_leaf envP (by simp only [StopNotLetter, envP]; decide) _ true '0' (.frac [] '0' "0000".toList) (by decide)
    (by simp only [FTail.OK]; decide +kernel) (by simp only [envP]; decide +kernel)
example : Lit envP (.float 4921056587992461136 "1e+21".toList) :=
  C05_float_leaf envP (by simp only [StopNotLetter, envP]; decide) _ false '1' (.exp [] '+' '2' ['1']) (by decide)
    (by simp only [FTail.OK]; decide +kernel) (by simp only [envP]; decide +kernel)

/-- non-vacuity of the float parameter: for `D+.D+` texts the lexing half is a theorem; the conversion half is whatever
    `env.pf` is (the driver uses the exact reader `parseFloat`, e.g. `parseFloat "1.5" = 0x3FF8000000000000`) -/
example (env : Env) (h : env.pf ['1', '.', '5'] = some 4609434218613702656) :
    Lit env (.arr [.float 4609434218613702656 ['1', '.', '5']]) := by
  simp only [Lit, LitL, and_true]
  exact ⟨fun k hk => nextToken_simple_float env.isLetter '1' [] '5' [] k (by decide) (by simp) (by decide) (by simp) hk, h⟩

/-- **values holding types**: `resolveDeferred (parse (print v)) = v`.  `WFV env v`: as `Lit` for the scalar leaves (a float
    leaf carries the formatter oracle's text), `WFTy` for every held type. -/
theorem C05_typed_value_roundtrip (env : Env) (v : TVal) (h : WFV env v) : parseTVal env (syms (printTVal v)) = some v :=
  typed_value_rt env v h

/-- non-vacuity of the typed-value theorem: types as array elements, as hash keys and values, nested containers, next to
    scalar leaves with hostile strings -/
def sampleTVal : TVal :=
  .hash [(.ty (.int 1 2), .arr [.ty (.struct [(['a'], true, tyAny)]), .str ['\'', '\\'], .ty (.callable (some ([tyString], none)) none none)]),
         (.str ['k'], .hash [(.ty (.wrap .optional (.strVal ['x'])), .ty (.typeRef ['M', 'y', ':', ':', 'T']))]),
         (.arr [.ty tyString, .int 5], .undef)]
theorem sampleTVal_wf : WFV envEx sampleTVal := by
  simp only [sampleTVal, WFV, WFVs, WFVEs, WFTy, WFTys, WFMs, WFOpt, CallableShape, sizeOK, inI64, i64min, i64max, tyAny,
    tyString, envEx]
  decide +kernel
example : WFV envEx sampleTVal := sampleTVal_wf
example : parseTVal envEx (syms (printTVal sampleTVal)) = some sampleTVal :=
  C05_typed_value_roundtrip envEx sampleTVal sampleTVal_wf
example : printTVal sampleTVal =
    "{Integer[1, 2] => [Struct[{'a' => Any}], '\\'\\\\', Callable[String]], 'k' => {Optional['x'] => TypeReference['My::T']}, [String, 5] => undef}".toList :=
  eq_toList_of_ofList (by decide +kernel)

/-- the full-strength statement over the modelled type terms (false: see `C05_exact_string_prints_plain`) -/
def C05_type_roundtrip_full : Prop :=
  ∀ (env : Env) (t : Ty), parseType env (syms (printTy t)) = some t

/-- **types**: `resolve (parse (print t)) = t` on the fragment.  `WFTy env t`: bounds are Int64 with lo ≤ hi, Float bounds
    satisfy `FloatIO` and min ≤ max, names are
    core type names, regexp sources are representable and compile, a case-insensitive Enum holds values that `strings.ToLower`
    (`lowerStr`: Go's simple case mapping over the regenerated `unicode.CaseRanges` table) leaves unchanged, a Variant does not have exactly one member (`Variant[T]` *is* `T`), and an exact-value String occurs only
    directly inside Optional / NotUndef (elsewhere it prints as plain String — the property's stated exception); a Struct
    member has a non-empty name (its key may or may not be optional, its value type may or may not accept `undef`: all
    four combinations are normal forms, see `C05_struct_key_forms`). -/
theorem C05_type_roundtrip_partial (env : Env) (t : Ty) (h : WFTy env t) :
    parseType env (syms (printTy t)) = some t :=
  type_rt env t h

/-- consequence in the property's own words: the re-parsed type prints the same text again -/
theorem C05_type_reprint (env : Env) (t : Ty) (h : WFTy env t) :
    ∃ t', parseType env (syms (printTy t)) = some t' ∧ printTy t' = printTy t :=
  ⟨t, type_rt env t h, rfl⟩

/-- non-vacuity: a nested type with every kind of parameter -/
def sampleTy : Ty :=
  .hash (.wrap .optional (.strVal ['i', 't', '\'', 's']))
    (.variant [.array (.int (-9223372036854775808) 5) 1 9223372036854775807, .enum [['a'], ['b', '\\']] true,
               .pattern [['\\', 'd', '+'], []], .wrap .type_ (.strSz 0 10), .array tyUnit 0 0, .named "Data".toList,
               .tuple [.bool (some true), .regexp ['a', '/', 'b']] (some (1, 9223372036854775807)), .tuple [tyString] none])
    2 2
theorem sampleTy_wf : WFTy envEx sampleTy := by
  simp only [sampleTy, WFTy, WFTys, inI64, i64min, i64max, tyUnit, tyString, envEx]
  decide +kernel
example : WFTy envEx sampleTy := sampleTy_wf
example : parseType envEx (syms (printTy sampleTy)) = some sampleTy :=
  C05_type_roundtrip_partial envEx sampleTy sampleTy_wf

/-- non-vacuity of the float parameter on types (`envF`, `sampleFloats`, `sampleFloats_wf` in Proofs/C05Samples.lean): with
    the exact reader `parseFloat` and a formatter that answers what the implementation prints for 1.5 and 2500.0 -/
example : ∀ t ∈ sampleFloats, parseType envF (syms (printTy t)) = some t :=
  fun t ht => C05_type_roundtrip_partial envF t (sampleFloats_wf t ht)
example : printTy (.float 4609434218613702656 "1.50000".toList 4657715973212602368 "2500.00".toList) =
    "Float[1.50000, 2500.00]".toList := eq_toList rfl (by decide +kernel)

/-- non-vacuity: Runtime in each of its printable forms, TypeReference (also the default's own string, and a string that
    needs quoting), inside Tuple and Struct -/
def sampleNominal : Ty :=
  .tuple [.runtime "ruby".toList [] none, .runtime "ruby".toList ['n'] none, .runtime "go".toList [] none,
          .runtime ['r'] ['n'] (some ['a', '/', 'b']), .runtime ['r'] ['n'] (some []), .runtime [] [] none,
          .runtime [] ['x'] none, .runtime [] ['x'] (some ['a']), .runtime ['r'] [] (some ['a']), .runtime [] [] (some []),
          .typeRef ['M', 'y', ':', ':', 'T'], .typeRef unresolvedRef, .typeRef ['\'', '\\'], .typeRef [],
          .struct [(['c'], false, .callable none none none)]] none
theorem sampleNominal_wf : WFTy envEx sampleNominal := by
  simp only [sampleNominal, WFTy, WFTys, WFMs, envEx]
  decide
example : WFTy envEx sampleNominal := sampleNominal_wf
example : parseType envEx (syms (printTy sampleNominal)) = some sampleNominal :=
  C05_type_roundtrip_partial envEx sampleNominal sampleNominal_wf

/-- non-vacuity: Callables in every invertible shape (`sampleCallables`, `sampleCallables_wf` in Proofs/C05Samples.lean) -/
example : ∀ t ∈ sampleCallables, parseType envEx (syms (printTy t)) = some t :=
  fun t ht => C05_type_roundtrip_partial envEx t (sampleCallables_wf t ht)
example : sampleCallables.map printTy =
    ["Callable[0, 0]", "Callable[1, 2]", "Callable[0, default, Callable]", "Callable[String, Integer[0, 5]]",
     "Callable[String, 1, default, Optional[Callable]]", "Callable[[], Undef]", "Callable[Callable[String]]",
     "Callable[[Tuple[String], Callable, Callable[0, 0]], Integer[0, 1]]",
     "Struct[{'f' => Callable[[Struct[{'a' => Any}], 0, 1], Any]}]", "Array[Callable[Callable, String], 0, 3]"].map
      String.toList :=
  eq_map_toList (ls' := [_, _, _, _, _, _, _, _, _, _]) rfl (by decide +kernel)

/-- outside `CallableShape` the round trip fails (known finding C05-callable-block): a `Unit` parameter is not printed, so
    the text is that of the Callable without it … -/
theorem C05_callable_unit_dropped :
    parseType envEx (syms (printTy (.callable (some ([tyString, tyUnit], none)) none none))) =
      some (.callable (some ([tyString], none)) none none) := by
  have e : printTy (.callable (some ([tyString, tyUnit], none)) none none) =
      printTy (.callable (some ([tyString], none)) none none) := by
    -- the `Unit` member is skipped by `tyExprsNU`
    have h : tyString.isUnit = false ∧ tyUnit.isUnit = true := by decide +kernel
    simp [printTy, tyExpr, tyExprsNU, h]
  rw [e]
  exact C05_type_roundtrip_partial envEx _ (by
    simp only [WFTy, WFTys, WFOpt, CallableShape, sizeOK, tyString, envEx]; decide +kernel)
/-- … and a leading Tuple parameter is read back as the whole parameter Tuple, the second parameter as the block:
    `Callable[Tuple[String], Callable]` resolves to the Callable that prints `Callable[String, Callable]` -/
theorem C05_callable_leading_tuple :
    parseType envEx (syms (printTy (.callable (some ([.tuple [tyString] none, .callable none none none], none)) none none))) =
      some (.callable (some ([tyString], none)) none (some (.callable none none none))) := by
  have hts : WFTys envEx [.tuple [tyString] none, .callable none none none] := by
    simp only [WFTys, WFTy, tyString, envEx]; decide +kernel
  have hexpr : tyExpr (.callable (some ([.tuple [tyString] none, .callable none none none], none)) none none) =
      tname .callable (tyExprs [.tuple [tyString] none, .callable none none none]) := by
    simp [tyExpr, tyExprsNU, tyExprs, tyExprOpt, callableVal, tupleSizeVals, Ty.isUnit]
  have hlit := lit_tname envEx (k := .callable) (litL_tyExprs envEx _ hts)
  unfold parseType printTy
  rw [hexpr, C05_value_roundtrip envEx _ hlit]
  simp only [resolve_tname, tyExprs_isEmpty, resolveArgs_tyExprs envEx _ hts]
  simp [createK, callableCreate, callableTupleForm, argTy]

/-- finding C05-runtime-pattern-without-name (repaired by /repo f14f4ca).  Before the fix
    `RuntimeType.Parameters` left an empty name out even when a pattern followed, so `Runtime['r', '', Regexp[/a/]]` printed
    the parameter list (runtime, pattern) — which the positional creator refuses, then as now: -/
theorem C05_runtime_pattern_without_name_before_fix (rt src : Str) :
    runtimeCreate [.str rt, .ty (.regexp src)] = none := by
  simp [runtimeCreate]
/-- … after the fix the empty name is printed when a pattern follows, and the former witness round-trips (it is inside
    `WFTy`, which does not ask for a name) -/
theorem C05_runtime_pattern_without_name_repaired :
    printTy (.runtime ['r'] [] (some ['a'])) = "Runtime['r', '', Regexp[/a/]]".toList ∧
    parseType envEx (syms (printTy (.runtime ['r'] [] (some ['a'])))) = some (.runtime ['r'] [] (some ['a'])) :=
  ⟨eq_toList rfl (by decide +kernel), C05_type_roundtrip_partial envEx _ (by simp only [WFTy, envEx]; decide)⟩

/-- a case-insensitive Enum with non-ASCII values: `strings.ToLower` is Go's simple case mapping (regenerated table), e.g.
    `É` ↦ `é`; values that are their own lower case are in normal form and round-trip -/
example : lowerStr ['É', 'c', 'K'] = ['é', 'c', 'k'] := by decide +kernel
theorem sampleEnum_wf : WFTy envEx (.enum [['é', 'c'], ['ß']] true) := by
  simp only [WFTy]
  decide +kernel
example : WFTy envEx (.enum [['é', 'c'], ['ß']] true) := sampleEnum_wf
example : parseType envEx (syms (printTy (.enum [['é', 'c'], ['ß']] true))) = some (.enum [['é', 'c'], ['ß']] true) :=
  C05_type_roundtrip_partial envEx _ sampleEnum_wf

/-- the four key forms of a Struct member: optional key + value accepting `undef` and required key + value refusing it
    print the bare name; the other two need `Optional['n']` / `NotUndef['n']` -/
def sampleStruct : Ty :=
  .struct [(['a'], true, .wrap .optional (.int 0 1)), (['b'], true, .int 0 1), (['c'], false, tyAny), (['d'], false, .int 0 1)]
theorem C05_struct_key_forms :
    printTy sampleStruct =
      "Struct[{'a' => Optional[Integer[0, 1]], Optional['b'] => Integer[0, 1], NotUndef['c'] => Any, 'd' => Integer[0, 1]}]".toList :=
  eq_toList rfl (by decide +kernel)
example : parseType envEx (syms (printTy sampleStruct)) = some sampleStruct :=
  C05_type_roundtrip_partial envEx sampleStruct (by
    simp only [sampleStruct, WFTy, WFMs, inI64, i64min, i64max, tyAny, envEx]; decide)

/-- non-vacuity, nested both ways: a Struct inside Array / Variant / Optional, and Hash, NotUndef, Variant, Enum (and an
    empty Struct, a duplicate name, a name that needs quoting) inside a Struct -/
def sampleStruct2 : Ty :=
  .array (.variant [.wrap .optional sampleStruct,
    .struct [(['i', 't', '\'', 's', ' ', '\\'], false, .hash tyString (.struct [(['k'], true, .struct [])]) 0 5),
             (['k'], true, .wrap .notUndef (.strVal ['v'])), (['k'], false, .variant [.named "Undef".toList, .enum [['x']] false])]])
    1 3
theorem sampleStruct2_wf : WFTy envEx sampleStruct2 := by
  simp only [sampleStruct2, sampleStruct, WFTy, WFTys, WFMs, inI64, i64min, i64max, tyAny, tyString, envEx]
  decide +kernel
example : WFTy envEx sampleStruct2 := sampleStruct2_wf
example : parseType envEx (syms (printTy sampleStruct2)) = some sampleStruct2 :=
  C05_type_roundtrip_partial envEx sampleStruct2 sampleStruct2_wf

/-- the stated exception is real: `String['x']` prints as `String`, which resolves to the unconstrained String -/
theorem C05_exact_string_prints_plain : ¬ C05_type_roundtrip_full := by
  intro h
  have h1 := h envEx (.strVal ['x'])
  have e0 : tyExpr (.strVal ['x']) = tyExpr tyString := by
    unfold tyString
    rw [tyExpr, tyExpr]
    rfl
  have e : printTy (.strVal ['x']) = printTy tyString := by
    unfold printTy; rw [e0]
  have hwf : WFTy envEx tyString := by
    simp only [tyString, WFTy]; decide +kernel
  rw [e, C05_type_roundtrip_partial envEx tyString hwf] at h1
  simp [tyString] at h1

end Pcore.Syntax

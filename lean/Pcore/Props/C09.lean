import Pcore.Proofs.StringHash
import Pcore.Proofs.StringHashFacts
import Pcore.Proofs.HashPool
import Pcore.Proofs.HashFacts
import Pcore.Proofs.ArrayImpl
import Pcore.Generated.StringHashFacts
import Pcore.Generated.HashOps
/-!
# C09 — Ordered collections behave as their abstract models

Property (properties.jsonl): for every sequence of operations, an Array behaves as an immutable sequence and a
Hash as an immutable insertion-ordered map keyed by value equality: merging replaces existing keys in place
and appends new ones, deletion removes exactly the given keys, lookups find exactly the present keys, and no
hash ever holds two equal keys.  The mutable string-keyed hash used for type members behaves as an
insertion-ordered map in which deletion keeps every other entry reachable and all mutation is rejected once
frozen.

Models: `Pcore.Model.StringHash` + `StringHashFacts` (hash/stringhash.go), `Pcore.Model.HashImpl` + `HashPool` +
`HashFacts` (types/hashtype.go), `Pcore.Model.ArrayImpl` (types/arraytype.go); specification: `Pcore.Model.OMap`
+ `Pcore.Model.CollSpec`.

Two ties to the code.  (1) Correspondence: whole histories are executed on the real code and on the model.
(2) Regenerated facts: `Pcore.Generated.StringHashFacts.shFacts` and `Pcore.Generated.HashOps.hashFacts` are
rewritten from the Go sources on every run; the models the theorems are about are *driven by these tables*
(`stepSHT facts`, `stepHImplT facts`: position of the frozen test, Delete's re-numbering, order of the miss path,
the loop of `mergeEntries`, the index reset of `PutAll`, …) and every theorem below is proved for ANY table
satisfying the decidable side conditions `ShOK` / `HashOK`; `C09_sh_table_ok` / `C09_hash_table_ok` discharge
them on the regenerated tables by evaluation in the kernel (`decide +kernel`) — these are the obligations a code change breaks.

Full statement / proved / missing
* the specification is an insertion-ordered map with unique keys: `C09_spec_*`, among them `C09_spec_includes_iff` /
  `C09_spec_get_isSome_iff` (lookups find exactly the present keys), `C09_spec_keys_deleteAll`, `C09_spec_get_ofList` — proved.
* StringHash, for ANY table with `ShOK` and ANY operation sequence (induction over the list):
  `C09_sh_inv` (index = positions, keys unique — the `Delete` re-numbering is the crux), `C09_sh_index_iff`
  (`index k = some i ↔ entries[i].key = k`), `C09_sh_refine` (every result, the iteration order and the freeze
  flag after every step equal the specification's), `C09_sh_no_fault`, `C09_sh_delete_keeps_reachable` + `C09_sh_delete_removes`,
  `C09_sh_frozen` + `C09_sh_frozen_rejected`, `C09_sh_equals` + `C09_sh_equals_ext` (Equals = equal lookups,
  order ignored); `C09_sh_impl_*` instantiate them on the code as it is now —
  proved, full strength.
* Hash, for ANY table with `HashOK` and ANY history over a pool of hashes (literal, put, merge, delete,
  deleteAll, get, includes, view, and the in-place `MutableHashValue.Put`/`PutAll`):
  full statement `C09_hash_refine_full` / `C09_hash_nodup_full` (every literal included).  Proved:
  `C09_hash_inv`, `C09_hash_refine_partial` and `C09_hash_no_fault` under `LitOK` = "no literal of the history
  repeats a key"; `C09_hash_index_iff`; `C09_mutable_putAll`.  The excluded case is real:
  `C09_hash_literal_dup_keys` / `C09_hash_refine_full_fails` (known finding C09-literal-dup-keys:
  `WrapHash`/`BuildHash`/the parser keep both entries of `{a=>1,a=>2}`).  What IS guaranteed for ANY entry list,
  repeated keys included (the model of the finding): `C09_hash_dup_index` (the index answers the LAST position),
  `C09_hash_dup_get` / `C09_hash_dup_includes` (lookups answer exactly what the specification's literal
  answers: the later value), `C09_hash_dup_views` (Keys/Values/Len/At show every entry), `C09_hash_dup_delete`
  (Delete removes only the last of the equal keys).
* Array, for ANY history over a pool of arrays: `C09_arr_refine` (the loops of the implementation model — `px.Reject`,
  the index loop of `AddAll`, the `exists` map of `Unique`, the stepping loop of `EachSlice`, `Slice` bounds — answer what
  the sequence specification answers), `C09_arr_immutable` (no array of the pool ever changes); what the specification
  is: `C09_arr_spec_unique` + `C09_arr_spec_unique_first`, `C09_arr_spec_chunks` + `C09_arr_spec_chunks_at` (the two
  sequence specifications determined exactly), `C09_arr_spec_slice`, `C09_arr_sort`, `C09_arr_flatten` — proved.
* read with care: `C09_sh_views`,
  `C09_hash_views`, `C09_hash_dup_views` are `rfl`; `C09_arr_immutable` holds by construction of the pool machine (C08 is the
  property about shared storage); `Hash.Slice` with bad bounds is `badBounds`, not `fault`, in model and specification.
* missing: value equality itself (`px.ToKey` respects `Equals`: property C07 — here `key` is an abstract
  function into a type with decidable equality); that operations do not share backing storage (C08);
  `Array.Slice` beyond the length but within the capacity (Go allows it; outside the property).
-/
namespace Pcore.Coll
open OMap Pcore.Generated

/-! ## The specification is an insertion-ordered map with unique keys -/
section spec
variable {α β κ : Type} [DecidableEq κ] (key : α → κ)

theorem C09_spec_get_put (m : List (α × β)) (e : α × β) (k : κ) :
    OMap.get key (put key m e) k = if key e.1 = k then some e.2 else OMap.get key m k := get_put key m e k

/-- `put` replaces in place (the key list is unchanged) or appends at the end -/
theorem C09_spec_keys_put (m : List (α × β)) (e : α × β) :
    keys key (put key m e) = if key e.1 ∈ keys key m then keys key m else keys key m ++ [key e.1] :=
  keys_put key m e

theorem C09_spec_get_delete (m : List (α × β)) (k k' : κ) :
    OMap.get key (delete key m k) k' = if k' = k then none else OMap.get key m k' := get_delete key m k k'

/-- `delete` removes exactly the key and keeps the order of the others -/
theorem C09_spec_keys_delete (m : List (α × β)) (k : κ) :
    keys key (delete key m k) = (keys key m).filter (fun x => !decide (x = k)) :=
  keys_filter key m fun x => !decide (x = k)

theorem C09_spec_nodup_put {m : List (α × β)} (hn : (keys key m).Nodup) (e : α × β) :
    (keys key (put key m e)).Nodup := nodup_put hn e

theorem C09_spec_nodup_delete {m : List (α × β)} (hn : (keys key m).Nodup) (k : κ) :
    (keys key (delete key m k)).Nodup := nodup_of_sublist List.filter_sublist hn

theorem C09_spec_nodup_merge {a : List (α × β)} (hn : (keys key a).Nodup) (b : List (α × β)) :
    (keys key (merge key a b)).Nodup := nodup_merge hn b

/-- a literal never holds two equal keys in the specification -/
theorem C09_spec_nodup_ofList (l : List (α × β)) : (keys key (ofList key l)).Nodup :=
  nodup_merge (a := []) (by simp [keys]) l

/-- lookups find exactly the present keys -/
theorem C09_spec_includes_iff (m : List (α × β)) (k : κ) :
    OMap.includes key m k = true ↔ k ∈ keys key m := includes_iff key m k

theorem C09_spec_get_isSome_iff (m : List (α × β)) (k : κ) :
    (OMap.get key m k).isSome = true ↔ k ∈ keys key m := by
  rw [← includes_iff, OMap.get, Option.isSome_map]; rfl

/-- `deleteAll` removes exactly the given keys and keeps the order of the others -/
theorem C09_spec_keys_deleteAll (m : List (α × β)) (ks : List κ) :
    keys key (deleteAll key m ks) = (keys key m).filter (fun x => !ks.contains x) :=
  keys_filter key m fun x => !ks.contains x

/-- what the specification's literal answers for ANY entry list: the value of the LAST entry with the key -/
theorem C09_spec_get_ofList (l : List (α × β)) (k : κ) :
    OMap.get key (ofList key l) k = (getLast key l k).map (·.2) := by
  rw [OMap.get, getEntry_ofList]

example : OMap.includes id [(1, 10), (2, 20)] 2 = true ∧ OMap.includes id [(1, 10), (2, 20)] 3 = false ∧
    deleteAll id [(1, 10), (2, 20), (3, 30)] [3, 1, 7] = [(2, 20)] ∧
    merge id [(1, 10), (2, 20)] [(2, 21), (3, 30), (1, 11)] = [(1, 11), (2, 21), (3, 30)] := by decide

end spec

/-- obligation over the regenerated table (hash/stringhash.go) -/
theorem C09_sh_table_ok : ShOK shFacts = true := by decide +kernel

section sh
variable {β : Type} (f : ShFacts) (hok : ShOK f = true)
include hok

/-- the invariant holds after ANY operation sequence -/
theorem C09_sh_inv (h : SH β) (hi : SInv h) (ops : List (SOp β)) : SInv (runSHT f h ops).2 := by
  rw [runSHT_eq hok]; exact (sh_simulation h hi ops).1

/-- every observation of every step equals the specification's, for ANY operation sequence -/
theorem C09_sh_refine (h : SH β) (hi : SInv h) (ops : List (SOp β)) :
    (runSHT f h ops).1 = (runSpec h.abs ops).1 ∧ (runSHT f h ops).2.abs = (runSpec h.abs ops).2 := by
  rw [runSHT_eq hok]; exact (sh_simulation h hi ops).2

/-- a step from a state with the invariant does not end in a Go runtime fault (index out of range); with `C09_sh_inv`:
    no step of any history does -/
theorem C09_sh_no_fault (h : SH β) (hi : SInv h) (op : SOp β) : (stepSHT f h op).2 ≠ .fault := by
  -- the step answers what the specification answers, and that is never a fault
  rw [stepSHT_eq hok, hi.step_out]
  exact stepSpec_ne_fault _ _

/-- deletion keeps every other entry reachable, with its value -/
theorem C09_sh_delete_keeps_reachable {h : SH β} (hi : SInv h) (k k' : String) (hne : k' ≠ k) :
    (stepSHT f h (.delete k)).1.get k' = h.get k' := by
  rw [stepSHT_eq hok]
  cases hf : h.frozen with
  | true => rw [stepSH, SH.delete_frozen hf]
  | false => exact (hi.get_delete hf k k').trans (if_neg hne)

/-- deletion removes exactly the given key (with `C09_sh_delete_keeps_reachable`: and nothing else) -/
theorem C09_sh_delete_removes {h : SH β} (hi : SInv h) (hf : h.frozen = false) (k : String) :
    (stepSHT f h (.delete k)).1.get k = .none ∧ (stepSHT f h (.delete k)).1.includes k = false := by
  rw [stepSHT_eq hok]
  refine ⟨(hi.get_delete hf k k).trans (if_pos rfl), ?_⟩
  show (h.delete k).1.includes k = false
  rw [(hi.delete k).1.includes, hi.delete_entries hf, OMap.includes, getEntry_delete, if_pos rfl]; rfl

/-- once frozen, no operation on that hash changes it (`copy`/`merge` build a new hash) -/
theorem C09_sh_frozen (h : SH β) (hf : h.frozen = true) (op : SOp β)
    (hop : ∀ o, op ≠ .merge o) (hc : op ≠ .copy) : (stepSHT f h op).1 = h := by
  rw [stepSHT_eq hok]
  cases op with
  | put k v => exact congrArg Prod.fst (SH.put_frozen hf k v)
  | delete k => exact congrArg Prod.fst (SH.delete_frozen hf k)
  | get k => rfl
  | includes k => rfl
  | cia k v => exact SH.computeIfAbsent_frozen hf k v
  | copy => exact absurd rfl hc
  | merge o => exact absurd rfl (hop o)
  | putAll o =>
    cases o with
    | nil => rfl
    | cons e es => exact congrArg Prod.fst (SH.putAll_cons_frozen hf e es)
  | freeze => exact SH.freeze_frozen hf

/-- once frozen, every mutating operation is rejected — unless it would not have changed anything even on an
    unfrozen hash (`ComputeIfAbsent` of a present key, `PutAll` of nothing) -/
theorem C09_sh_frozen_rejected (h : SH β) (hi : SInv h) (hf : h.frozen = true) (op : SOp β) (hm : op.mutates = true) :
    (stepSHT f h op).2 = .rejected ∨ (stepSpec ⟨h.entries, false⟩ op).1.m = h.entries := by
  rw [stepSHT_eq hok]
  cases op with
  | put k v => exact .inl (congrArg Prod.snd (SH.put_frozen hf k v))
  | delete k => exact .inl (congrArg Prod.snd (SH.delete_frozen hf k))
  | cia k v =>
    cases hg : OMap.get id h.entries k with
    | some o => right; simp [stepSpec, hg]
    | none =>
      left
      rw [hi.step_out]
      simp [stepSpec, SH.abs, hg, hf]
  | putAll o =>
    cases o with
    | nil => right; rfl
    | cons e es => exact .inl (congrArg Prod.snd (SH.putAll_cons_frozen hf e es))
  | get k | includes k | copy | merge o | freeze => cases hm

end sh

section shNoTable
variable {β : Type}

/-- the invariant in the form of DESIGN.md: `index k = some i ↔ entries[i].key = k` -/
theorem C09_sh_index_iff {h : SH β} (hi : SInv h) (k : String) (i : Nat) :
    GoMap.get h.index k = some i ↔ (h.entries[i]?).map (·.1) = some k := by
  rw [hi.2, idx_iff hi.1]; rfl

/-- `Keys`, `Values`, `Len` are projections of the iteration order that `C09_sh_refine` determines -/
theorem C09_sh_views (h : SH β) :
    h.keys = h.pairs.map (·.1) ∧ h.values = h.pairs.map (·.2) ∧ h.len = h.pairs.length := sh_views h

/-- `Equals` never faults and compares the two hashes entry by entry through the other's index … -/
theorem C09_sh_equals [DecidableEq β] {h o : SH β} (ho : SInv o) :
    h.equals o = some (equalsSpec h.entries o.entries) := ho.equals

/-- … which for maps is extensional equality of all lookups: the insertion order is ignored -/
theorem C09_sh_equals_ext [DecidableEq β] {h o : SH β} (hh : SInv h) (ho : SInv o) :
    h.equals o = some true ↔ ∀ k, h.get k = o.get k := by
  simp only [ho.equals, Option.some.injEq, equalsSpec_iff hh.1 ho.1, hh.get, ho.get, optOut_inj]

/-- instantiated on the code as it is now, from the empty hash -/
theorem C09_sh_impl_inv (ops : List (SOp β)) : SInv (runSHT shFacts (SH.new : SH β) ops).2 :=
  C09_sh_inv shFacts C09_sh_table_ok _ SInv_new ops

theorem C09_sh_impl_refine (ops : List (SOp β)) :
    (runSHT shFacts (SH.new : SH β) ops).1 = (runSpec ⟨[], false⟩ ops).1 :=
  (C09_sh_refine shFacts C09_sh_table_ok _ SInv_new ops).1

/-! non-vacuity: the fixed defect's history (put a, b, c; delete a; get c) and a frozen hash -/
def shWitness : List (SOp Nat) := [.put "a" 1, .put "b" 2, .put "c" 3, .delete "a", .get "c", .get "a", .includes "b"]
example : (runSHT shFacts SH.new shWitness).1.map (·.1) = [.none, .none, .none, .val 1, .val 3, .none, .unit] := by
  rw [runSHT_eq C09_sh_table_ok]; decide
example : (runSHT shFacts SH.new shWitness).2.entries = [("b", 2), ("c", 3)] ∧
    (runSHT shFacts SH.new shWitness).2.index = [("b", 0), ("c", 1)] := by
  rw [runSHT_eq C09_sh_table_ok]; decide
def shFrozen : SH Nat := (runSHT shFacts SH.new [.put "a" 1, .freeze]).2
example : SInv shFrozen ∧ shFrozen.frozen = true ∧ (SOp.put "b" 2 : SOp Nat).mutates = true :=
  ⟨C09_sh_impl_inv _, by rw [shFrozen, runSHT_eq C09_sh_table_ok]; rfl, rfl⟩
example : (stepSHT shFacts shFrozen (.put "b" 2)).2 = .rejected ∧ (stepSHT shFacts shFrozen (.delete "a")).2 = .rejected ∧
    (stepSHT shFacts shFrozen (.cia "a" 5)).2 = .val 1 := by
  simp only [shFrozen, runSHT_eq C09_sh_table_ok, stepSHT_eq C09_sh_table_ok]; decide

/-! the tables of the code before its fixes / of mutants are refuted by the side condition, and the fact-driven
    model reproduces the wrong behaviour -/
/-- the table before c7ffca4 "stringHash.Delete renumbered every later entry to the same index" -/
def shFactsBefore : ShFacts := { shFacts with renum := .pMinus1Above }
example : ShOK shFactsBefore = false := by simp [ShOK, shFactsBefore]
example : ((runSHT shFactsBefore SH.new
    [.put "a" 1, .put "b" 2, .put "c" 3, .put "d" 4, .delete "b", .get "d"]).1.map (·.1)).getLast? = some (.val 1) := by
  decide      -- `d` answers `a`'s value
/-- `Put` without its frozen test -/
def shFactsNoGuard : ShFacts :=
  { shFacts with methods := shFacts.methods.map fun m => if m.name = "Put" then { m with guard := .none } else m }
example : ShOK shFactsNoGuard = false := Bool.eq_false_iff.mpr fun h => absurd (ShOK.facts h).put (by decide)
example : (stepSHT shFactsNoGuard shFrozen (.put "b" 2)).1.entries = [("a", 1), ("b", 2)] := by decide
/-! further tables the side condition refutes: an unknown re-numbering loop, a Copy that shares, a Copy that answers a
    frozen hash, the miss path in the other order (each differs from the generated table in one scalar field, so `ShOK` fails
    at that conjunct whatever the methods are), `Keys` handing the entries to other code, a method `Clear` the model does not know -/
example : ShOK { shFacts with renum := .unknown "for k := range index { … }" } = false := by simp [ShOK]
example : ShOK { shFacts with copyFresh := false } = false := by simp [ShOK]
example : ShOK { shFacts with copyFrozen := some true } = false := by simp [ShOK]
example : ShOK { shFacts with putMiss := .appendThenIndexLen } = false := by simp [ShOK]
example : ShOK { shFacts with methods := ⟨"Keys", .none, [.other "other:escapes-entries"], [.entries], []⟩ :: shFacts.methods } = false := by
  decide
example : ShOK { shFacts with methods := ⟨"Clear", .none, [.entries, .index], [], []⟩ :: shFacts.methods } = false := by decide

end shNoTable

/-- hypotheses of `C09_sh_delete_keeps_reachable` / `C09_sh_delete_removes` on a reachable, unfrozen hash in which the
    deletion really shifts a position (`c`: index 2 → 1) -/
def shThree : SH Nat := (runSHT shFacts SH.new [.put "a" 1, .put "b" 2, .put "c" 3]).2
example : SInv shThree ∧ shThree.frozen = false ∧ "c" ≠ "a" :=
  ⟨C09_sh_impl_inv _, by rw [shThree, runSHT_eq C09_sh_table_ok]; rfl, by decide⟩
example : shThree.get "c" = .val 3 ∧ GoMap.get shThree.index "c" = some 2 ∧
    (stepSHT shFacts shThree (.delete "a")).1.get "c" = .val 3 ∧
    GoMap.get (stepSHT shFacts shThree (.delete "a")).1.index "c" = some 1 ∧
    (stepSHT shFacts shThree (.delete "a")).1.get "a" = .none := by
  simp only [shThree, runSHT_eq C09_sh_table_ok, stepSHT_eq C09_sh_table_ok]; decide
/-- `C09_sh_index_iff` on it -/
example : GoMap.get shThree.index "b" = some 1 ∧ (shThree.entries[1]?).map (·.1) = some "b" := by
  rw [shThree, runSHT_eq C09_sh_table_ok]; decide
/-- `C09_sh_equals` / `C09_sh_equals_ext`: two reachable hashes with different insertion order are `Equals`, and the
    theorem then gives equal lookups for EVERY key -/
def shAB : SH Nat := (runSHT shFacts SH.new [.put "a" 1, .put "b" 2]).2
def shBA : SH Nat := (runSHT shFacts SH.new [.put "b" 2, .put "a" 1]).2
example : SInv shAB ∧ SInv shBA ∧ shAB.pairs ≠ shBA.pairs ∧ shAB.equals shBA = some true ∧
    shAB.equals shThree = some false ∧ (∀ k, shAB.get k = shBA.get k) := by
  have heq : shAB.equals shBA = some true := by simp only [shAB, shBA, runSHT_eq C09_sh_table_ok]; decide
  refine ⟨C09_sh_impl_inv _, C09_sh_impl_inv _, ?_, heq, ?_, (C09_sh_equals_ext (C09_sh_impl_inv _) (C09_sh_impl_inv _)).1 heq⟩
  all_goals simp only [shAB, shBA, shThree, runSHT_eq C09_sh_table_ok]; decide

/-- obligation over the regenerated table (types/hashtype.go) -/
theorem C09_hash_table_ok : HashOK hashFacts = true := by decide +kernel

section hash
variable {α β κ : Type} [DecidableEq κ] (key : α → κ)

/-- FULL statements (every literal included) -/
def C09_hash_refine_full : Prop :=
  ∀ ops : List (HOp Nat Nat), (runHImplT hashFacts id ([] : List (Hash Nat Nat Nat)) ops).1 = (runHSpec id [] ops).1
def C09_hash_nodup_full : Prop :=
  ∀ ops : List (HOp Nat Nat), ∀ h ∈ (runHImplT hashFacts id ([] : List (Hash Nat Nat Nat)) ops).2, (keys id h.entries).Nodup

/-- known finding C09-literal-dup-keys: the literal `{1=>1, 1=>2}` holds two equal keys … -/
theorem C09_hash_literal_dup_keys : ¬ C09_hash_nodup_full := by
  intro h
  have := h [.lit [(1, 1), (1, 2)]] (Hash.wrap [(1, 1), (1, 2)]) (by simp [runHImplT, stepHImplT, stepHImpl])
  simp [Hash.wrap, keys] at this

/-- … and is observably not the ordered map `{1=>2}`: its iteration order shows both entries -/
theorem C09_hash_refine_full_fails : ¬ C09_hash_refine_full := by
  intro h
  have := h [.lit [(1, 1), (1, 2)], .view 0]
  revert this; decide

section withFacts
variable (f : HashFacts) (hok : HashOK f = true)
include hok

/-- every hash of the pool keeps the invariant (no two equal keys, cached index = index of the entries) through ANY
    history whose literals do not repeat a key -/
theorem C09_hash_inv (ops : List (HOp α β)) (hl : ∀ op ∈ ops, LitOK key op) (pool : List (Hash α β κ))
    (hp : PoolInv key pool) : PoolInv key (runHImplT f key pool ops).2 := by
  rw [runHImplT_eq hok]; exact (hash_simulation key ops hl pool hp).1

/-- every answer of every step (lookups, membership, iteration order) equals the specification's, and so does the
    content of every hash of the pool afterwards — for ANY history whose literals do not repeat a key -/
theorem C09_hash_refine_partial (ops : List (HOp α β)) (hl : ∀ op ∈ ops, LitOK key op) (pool : List (Hash α β κ))
    (hp : PoolInv key pool) :
    (runHImplT f key pool ops).1 = (runHSpec key (absPool pool) ops).1 ∧
      absPool (runHImplT f key pool ops).2 = (runHSpec key (absPool pool) ops).2 := by
  rw [runHImplT_eq hok]; exact (hash_simulation key ops hl pool hp).2

/-- no step of such a history ends in a Go runtime fault (slice bounds, index out of range) -/
theorem C09_hash_no_fault (ops : List (HOp α β)) (hl : ∀ op ∈ ops, LitOK key op) (pool : List (Hash α β κ))
    (hp : PoolInv key pool) : ∀ o ∈ (runHImplT f key pool ops).1, o ≠ .fault := by
  -- the specification machine has no such answer, and the answers are the specification's
  rw [runHImplT_eq hok, (hash_simulation key ops hl pool hp).2.1]
  exact runHSpec_ne_fault key ops _

/-- `MutableHashValue.PutAll`: never faults, the new content is the merge, the invariant is kept (index dropped) -/
theorem C09_mutable_putAll {h : Hash α β κ} (hi : HInv key h) {o : List (α × β)} (ho : (keys key o).Nodup) :
    ∃ n, h.putAllT f key o = some n ∧ n.entries = merge key h.entries o ∧ HInv key n := by
  rw [Hash.putAllT_eq hok]; exact hi.putAll ho

end withFacts

/-- `valueIndex()` answers exactly the positions: `index k = some i ↔ key entries[i] = k` -/
theorem C09_hash_index_iff {h : Hash α β κ} (hi : HInv key h) (k : κ) (i : Nat) :
    GoMap.get (h.valueIndex key).2 k = some i ↔ (h.entries[i]?).map (fun e => key e.1) = some k := by
  rw [hi.valueIndex.2.2, idx_iff hi.1]

omit [DecidableEq κ] in
/-- `Keys`, `Values`, `Len`, `At` are projections of the entries that `C09_hash_refine_partial` determines (`view`) -/
theorem C09_hash_views (h : Hash α β κ) (i : Nat) :
    h.keys = h.entries.map (·.1) ∧ h.values = h.entries.map (·.2) ∧ h.len = h.entries.length ∧
      h.atIdx i = h.entries[i]? := ⟨rfl, rfl, rfl, rfl⟩

/-! ### what is guaranteed for ANY entry list, repeated keys included (the model of C09-literal-dup-keys) -/

/-- the lazily built index answers the position of the LAST entry with the key -/
theorem C09_hash_dup_index (es : List (α × β)) (k : κ) :
    GoMap.get ((Hash.wrap es : Hash α β κ).valueIndex key).2 k = lidx key es k :=
  (Hash.cached_wrap key es).valueIndex.2.2 k

/-- `Get`/`Get2`/`Get4` never fault and answer exactly what the specification's literal answers (the later value) -/
theorem C09_hash_dup_get (es : List (α × β)) (k : κ) :
    ((Hash.wrap es : Hash α β κ).get key k).2 = some (OMap.get key (ofList key es) k) := by
  rw [Hash.get_eq (Hash.cached_wrap key es), OMap.get, getEntry_ofList]; rfl

/-- `IncludesKey` answers exactly what the specification's literal answers -/
theorem C09_hash_dup_includes (es : List (α × β)) (k : κ) :
    ((Hash.wrap es : Hash α β κ).includesKey key k).2 = OMap.includes key (ofList key es) k := by
  rw [Hash.includesKey_eq (Hash.cached_wrap key es), OMap.includes, getEntry_ofList]; rfl

omit [DecidableEq κ] in
/-- … but `Keys`/`Values`/`Len`/`At`/`Each` show every entry of the list, the repeated ones too -/
theorem C09_hash_dup_views (es : List (α × β)) (i : Nat) :
    (Hash.wrap es : Hash α β κ).keys = es.map (·.1) ∧ (Hash.wrap es : Hash α β κ).values = es.map (·.2) ∧
      (Hash.wrap es : Hash α β κ).len = es.length ∧ (Hash.wrap es : Hash α β κ).atIdx i = es[i]? := ⟨rfl, rfl, rfl, rfl⟩

/-- … and `Delete` removes only the LAST entry with the key (never faults) -/
theorem C09_hash_dup_delete (es : List (α × β)) (k : α) :
    ((Hash.wrap es : Hash α β κ).delete key k).2.map (·.entries) = some (match lidx key es (key k) with
      | some i => es.eraseIdx i
      | none => es) := by
  rw [Hash.delete_eq (Hash.cached_wrap key es)]
  simp only [Hash.wrap]
  cases lidx key es (key k) <;> rfl

example : ((Hash.wrap [(1, 10), (2, 20), (1, 30)] : Hash Nat Nat Nat).get id 1).2 = some (some 30) ∧
    (Hash.wrap [(1, 10), (2, 20), (1, 30)] : Hash Nat Nat Nat).keys = [1, 2, 1] ∧
    ((Hash.wrap [(1, 10), (2, 20), (1, 30)] : Hash Nat Nat Nat).delete id 1).2.map (·.entries) = some [(1, 10), (2, 20)] ∧
    ofList id [(1, 10), (2, 20), (1, 30)] = [(1, 30), (2, 20)] := by decide

/-! non-vacuity of `LitOK` / `PoolInv`: the history of the fixed defect "Hash.Delete … deleted only the last key" -/
def hashWitness : List (HOp Nat Nat) :=
  [.lit [(1, 10), (2, 20), (3, 30)], .delete 0 1, .view 1, .view 0, .deleteAll 0 [1, 2], .view 2, .put 0 (2, 21),
   .view 3, .merge 1 3, .view 4, .get 4 2, .includes 1 1]
example : (∀ op ∈ hashWitness, LitOK id op) ∧ PoolInv id ([] : List (Hash Nat Nat Nat)) :=
  ⟨by decide, by simp [PoolInv]⟩
example : (runHImplT hashFacts id ([] : List (Hash Nat Nat Nat)) hashWitness).1 =
    [.made, .made, .entries [(2, 20), (3, 30)], .entries [(1, 10), (2, 20), (3, 30)], .made, .entries [(3, 30)], .made,
     .entries [(1, 10), (2, 21), (3, 30)], .made, .entries [(2, 21), (3, 30), (1, 10)], .got (some 21), .has false] := by
  decide

/-! the tables of mutants are refuted by the side condition, and the fact-driven model reproduces the behaviour -/
/-- Appendix E mutant "`mergeEntries`: always append" -/
def hashFactsAppend : HashFacts := { hashFacts with mergeLoop := .alwaysAppend }
example : HashOK hashFactsAppend = false := by simp [HashOK, hashFactsAppend]
example : (runHImplT hashFactsAppend id ([] : List (Hash Nat Nat Nat)) [.lit [(1, 2)], .put 0 (1, 3), .view 1]).1 =
    [.made, .made, .entries [(1, 2), (1, 3)]] := by decide
/-- `PutAll` without `hv.index = nil`: the stale index makes the new key unreachable -/
def hashFactsStale : HashFacts := { hashFacts with putAllResetsIndex := false }
example : HashOK hashFactsStale = false := by simp [HashOK, hashFactsStale]
example : (runHImplT hashFactsStale id ([] : List (Hash Nat Nat Nat)) [.lit [], .mput 0 (1, 1), .mput 0 (2, 2), .get 0 2]).1 =
    [.made, .made, .made, .got none] := by decide
example : HashOK { hashFacts with literals := ("hashtype.go:Hash.Select", ["entries", "index"]) :: hashFacts.literals } = false := by
  decide
example : HashOK { hashFacts with fieldWrites := ("Hash.Delete", "entries", .unknown "hv.entries = …") :: hashFacts.fieldWrites } = false := by
  decide
example : HashOK { hashFacts with entryElementWrites := ["Hash.Sort: hv.entries[i] = hv.entries[j]"] } = false := by simp [HashOK]
example : HashOK { hashFacts with mergeCopiesReceiver := false } = false := by simp [HashOK]
example : HashOK { hashFacts with valueIndex := .unknown "…" } = false := by simp [HashOK]

/-! ### Hash: instances of the hypotheses of `C09_mutable_putAll` / `C09_hash_index_iff`, and a `LitOK`
    history through the operations `hashWitness` does not use (slice, select, reject, eachSlice, in-place Put/PutAll) -/
def hTwo : Hash Nat Nat Nat := Hash.wrap [(1, 10), (2, 20)]
example : HInv id hTwo ∧ (keys id [(2, 21), (3, 30)]).Nodup ∧
    (hTwo.putAllT hashFacts id [(2, 21), (3, 30)]).map (·.entries) = some [(1, 10), (2, 21), (3, 30)] ∧
    (hTwo.putAllT hashFacts id [(2, 21), (3, 30)]).map (·.index) = some none :=
  ⟨HInv.wrap (by decide), by decide, by decide, by decide⟩
example : GoMap.get (hTwo.valueIndex id).2 2 = some 1 ∧ (hTwo.entries[1]?).map (fun e => id e.1) = some 2 := by decide

def hashWitness2 : List (HOp Nat Nat) :=
  [.lit [(3, 30), (1, 10), (2, 20)], .slice 0 1 3, .view 1, .slice 0 2 5, .select 0 [1, 3], .view 2, .reject 0 [1, 3], .view 3,
   .eachSlice 0 2, .eachSlice 0 0, .lit [], .mput 4 (7, 70), .mputAll 4 0,
   .mput 4 (1, 11), .view 4, .get 4 7, .get 9 1]
example : ∀ op ∈ hashWitness2, LitOK id op := by decide
/-- note `.badBounds`: `Slice(2, 5)` of a 3-entry hash is a Go slice-bounds panic; the model (and the specification) answer
    `badBounds`, which `C09_hash_no_fault` does NOT count as a fault (caller error, outside the property) -/
example : (runHImplT hashFacts id ([] : List (Hash Nat Nat Nat)) hashWitness2).1 =
    [.made, .made, .entries [(1, 10), (2, 20)], .badBounds, .made, .entries [(3, 30), (1, 10)], .made, .entries [(2, 20)],
     .chunks [[(3, 30), (1, 10)], [(2, 20)]], .illegal, .made, .made, .made,
     .made, .entries [(7, 70), (3, 30), (1, 11), (2, 20)], .got (some 70), .badRef] := by
  decide
example : ((Hash.wrap [(3, 30), (1, 10), (2, 20)] : Hash Nat Nat Nat).sort (fun x y => decide (x ≤ y))).entries =
    [(1, 10), (2, 20), (3, 30)] := by
  simp [Hash.sort, Hash.wrap, List.mergeSort, List.MergeSort.Internal.splitInTwo]

end hash

/-! ## types.Array: an immutable sequence -/
section arr
variable {α κ : Type} [DecidableEq κ] (key : α → κ) (le : α → α → Bool)

/-- for ANY history over a pool of arrays (literal, add, addAll, delete, deleteAll, slice, unique, sort, eachSlice,
    at, len, find, view) the loops of the implementation model answer what the sequence specification answers and
    leave the same pool behind -/
theorem C09_arr_refine (pool : List (List α)) (ops : List (AOp α)) :
    runAImpl key le pool ops = runASpec key le pool ops := by
  induction ops generalizing pool with
  | nil => rfl
  | cons op ops ih => simp only [runAImpl, runASpec, stepAImpl_eq, ih]

/-- immutability: whatever the history, every array that was in the pool is still there, unchanged -/
theorem C09_arr_immutable (pool : List (List α)) (ops : List (AOp α)) (i : Nat) (hi : i < pool.length) :
    (runAImpl key le pool ops).2[i]? = pool[i]? := by
  rw [C09_arr_refine]
  obtain ⟨t, ht⟩ := runASpec_prefix key le pool ops
  rw [← ht, List.getElem?_append_left hi]

/-- what the specification's `unique` is: the first of every group of equal elements, in order -/
theorem C09_arr_spec_unique (a : List α) :
    ((ASpec.firsts key a).map key).Nodup ∧ (ASpec.firsts key a).Sublist a ∧
      ∀ e ∈ a, key e ∈ (ASpec.firsts key a).map key :=
  let ⟨h1, h2, h3, _⟩ := ASpec.firsts_spec key a; ⟨h1, h2, h3⟩

/-- `unique` keeps the FIRST of every group of equal elements (`C09_arr_spec_unique` alone would also allow a later one) -/
theorem C09_arr_spec_unique_first (a : List α) :
    ∀ e ∈ ASpec.firsts key a, a.find? (fun x => decide (key x = key e)) = some e :=
  (ASpec.firsts_spec key a).2.2.2

omit [DecidableEq κ] in
/-- what the specification's `eachSlice n` is: non-empty pieces of at most `n` elements whose concatenation is the array -/
theorem C09_arr_spec_chunks (n : Nat) (hn : 0 < n) (a : List α) :
    (ASpec.chunks n a).flatten = a ∧ ∀ c ∈ ASpec.chunks n a, 0 < c.length ∧ c.length ≤ n := ASpec.chunks_spec n hn a

omit [DecidableEq κ] in
/-- piece number `i` of `eachSlice n` is exactly the elements at positions `i*n … i*n+n-1` (every piece but the last is
    full; `C09_arr_spec_chunks` alone would also allow `[[1],[2],[3]]` for `n = 2`) -/
theorem C09_arr_spec_chunks_at (n : Nat) (hn : 0 < n) (a : List α) (i : Nat) :
    (ASpec.chunks n a)[i]? = if i * n < a.length then some ((a.drop (i * n)).take n) else none :=
  ASpec.chunks_at n hn a i

omit [DecidableEq κ] in
/-- what the specification's `slice i j` is: the elements at positions i … j-1 -/
theorem C09_arr_spec_slice (a : List α) (i j : Nat) (h : i ≤ j ∧ j ≤ a.length) :
    (ASpec.slice a i j).length = j - i ∧ ∀ n, n < j - i → (ASpec.slice a i j)[n]? = a[i + n]? := ASpec.slice_spec a i j h.2

omit [DecidableEq κ] in
/-- `Sort` with a total, transitive comparator: a sorted permutation -/
theorem C09_arr_sort (a : List α) (htot : ∀ x y, le x y || le y x) (htrans : ∀ x y z, le x y → le y z → le x z) :
    (Arr.sort le a).Perm a ∧ (Arr.sort le a).Pairwise (fun x y => le x y) :=
  ⟨List.mergeSort_perm a le, List.pairwise_mergeSort htrans htot a⟩

/-- `Flatten`: no array is left among the elements, and an array without nested arrays is unchanged -/
theorem C09_arr_flatten (vs : List AVal) :
    (∀ x ∈ AVal.flats vs, x.isArr = false) ∧ AVal.flats (AVal.flats vs) = AVal.flats vs :=
  ⟨AVal.flats_noArr vs, AVal.flats_of_noArr _ (AVal.flats_noArr vs)⟩

def arrWitness : List (AOp Nat) :=
  [.lit [3, 1, 3, 2], .add 0 1, .unique 1, .view 2, .delete 1 3, .view 3, .eachSlice 1 2, .slice 0 1 3,
   .view 4, .slice 0 3 9, .eachSlice 0 0, .at 0 (-1), .at 0 3, .addAll 2 4, .view 5, .deleteAll 5 4, .view 6, .view 0]
example : (runAImpl id (fun x y => decide (x ≤ y)) [] arrWitness).1 =
    [.made, .made, .made, .elems [3, 1, 2], .made, .elems [1, 2, 1],
     .chunks [[3, 1], [3, 2], [1]], .made, .elems [1, 3], .fault, .illegal, .got none, .got (some 2), .made,
     .elems [3, 1, 2, 1, 3], .made, .elems [2], .elems [3, 1, 3, 2]] := by decide
example : Arr.sort (fun x y => decide (x ≤ y)) [3, 1, 3, 2] = [1, 2, 3, 3] := by
  simp [Arr.sort, List.mergeSort, List.MergeSort.Internal.splitInTwo]
example : AVal.flats [.leaf "1", .arr [.leaf "2", .arr [.leaf "3"], .arr []], .leaf "4"] =
    [.leaf "1", .leaf "2", .leaf "3", .leaf "4"] := by simp [AVal.flats, AVal.flat]

example : ASpec.firsts (fun x : Nat × Nat => x.1) [(3, 0), (1, 1), (3, 2), (2, 3)] = [(3, 0), (1, 1), (2, 3)] := by
  simp [ASpec.firsts]
/-- the hypotheses of `C09_arr_sort` hold of the comparator of the examples -/
example : (∀ x y : Nat, (decide (x ≤ y) || decide (y ≤ x)) = true) ∧
    (∀ x y z : Nat, decide (x ≤ y) = true → decide (y ≤ z) = true → decide (x ≤ z) = true) :=
  ⟨fun x y => by simp; omega, fun x y z => by simp; omega⟩

end arr

end Pcore.Coll
